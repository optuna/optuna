-- generated by setup.sh: imports every module of the library
import OptunaVerif.Generated.Best
import OptunaVerif.Generated.BestMethods
import OptunaVerif.Generated.BruteForceMethods
import OptunaVerif.Generated.CacheMethods
import OptunaVerif.Generated.DirectionSites
import OptunaVerif.Generated.DistInt
import OptunaVerif.Generated.DistMethods
import OptunaVerif.Generated.EnqueueMethods
import OptunaVerif.Generated.GaMethods
import OptunaVerif.Generated.GridMethods
import OptunaVerif.Generated.GrpcMethods
import OptunaVerif.Generated.GrpcTables
import OptunaVerif.Generated.HeapMethods
import OptunaVerif.Generated.HsspMethods
import OptunaVerif.Generated.HvMethods
import OptunaVerif.Generated.HvShapes
import OptunaVerif.Generated.InMemoryMethods
import OptunaVerif.Generated.JournalFileMethods
import OptunaVerif.Generated.JournalFront
import OptunaVerif.Generated.JournalHandlers
import OptunaVerif.Generated.LockTable
import OptunaVerif.Generated.Nsga2Src
import OptunaVerif.Generated.ProjGen
import OptunaVerif.Generated.PrunersInt
import OptunaVerif.Generated.PrunersSkel
import OptunaVerif.Generated.RankMethods
import OptunaVerif.Generated.RdbCodec
import OptunaVerif.Generated.RdbSessions
import OptunaVerif.Generated.ReportMethods
import OptunaVerif.Generated.SearchSpaceCode
import OptunaVerif.Generated.SearchSpaceMethods
import OptunaVerif.Generated.StaleGen
import OptunaVerif.Generated.SuggestMethods
import OptunaVerif.Generated.TellGen
import OptunaVerif.Generated.TellMethods
import OptunaVerif.Generated.TpeInt
import OptunaVerif.Generated.TransformGen
import OptunaVerif.Generated.TrialIdSites
import OptunaVerif.Generated.TruncNormGen
import OptunaVerif.Generated.WilcoxonSkel
import OptunaVerif.Lemmas.Basic
import OptunaVerif.Lemmas.Best
import OptunaVerif.Lemmas.BestFront
import OptunaVerif.Lemmas.BestIR
import OptunaVerif.Lemmas.BestOrder
import OptunaVerif.Lemmas.BruteForce
import OptunaVerif.Lemmas.C05C07Bridge
import OptunaVerif.Lemmas.Cache
import OptunaVerif.Lemmas.CacheCalls
import OptunaVerif.Lemmas.CacheClient
import OptunaVerif.Lemmas.CacheIR
import OptunaVerif.Lemmas.CacheInv
import OptunaVerif.Lemmas.Conc
import OptunaVerif.Lemmas.Direction
import OptunaVerif.Lemmas.Dist
import OptunaVerif.Lemmas.DistIR
import OptunaVerif.Lemmas.FileIR
import OptunaVerif.Lemmas.FileIRAppend
import OptunaVerif.Lemmas.FileLock
import OptunaVerif.Lemmas.FileLockTimed
import OptunaVerif.Lemmas.FrontBridge
import OptunaVerif.Lemmas.Grid
import OptunaVerif.Lemmas.GrpcIR
import OptunaVerif.Lemmas.Heap
import OptunaVerif.Lemmas.Heartbeat
import OptunaVerif.Lemmas.HeartbeatInv
import OptunaVerif.Lemmas.Hssp
import OptunaVerif.Lemmas.HsspIR
import OptunaVerif.Lemmas.HsspReal
import OptunaVerif.Lemmas.HvExpected
import OptunaVerif.Lemmas.Hypervolume
import OptunaVerif.Lemmas.InMemoryCursor
import OptunaVerif.Lemmas.InMemoryFrames
import OptunaVerif.Lemmas.InMemoryIR
import OptunaVerif.Lemmas.InMemoryMaps
import OptunaVerif.Lemmas.InMemoryRefine
import OptunaVerif.Lemmas.InMemorySteps
import OptunaVerif.Lemmas.InMemorySteps2
import OptunaVerif.Lemmas.InMemorySteps3
import OptunaVerif.Lemmas.InMemorySteps4
import OptunaVerif.Lemmas.Journal
import OptunaVerif.Lemmas.JournalAppend
import OptunaVerif.Lemmas.JournalFile
import OptunaVerif.Lemmas.JournalIR
import OptunaVerif.Lemmas.JournalRedis
import OptunaVerif.Lemmas.JournalRefine
import OptunaVerif.Lemmas.Nsga2
import OptunaVerif.Lemmas.Nsga2Crowd
import OptunaVerif.Lemmas.Nsga2Mirror
import OptunaVerif.Lemmas.Nsga2Src
import OptunaVerif.Lemmas.OptimizeLoop
import OptunaVerif.Lemmas.Pool
import OptunaVerif.Lemmas.Proto
import OptunaVerif.Lemmas.ProtoOver
import OptunaVerif.Lemmas.ProtoRefine
import OptunaVerif.Lemmas.Pruners
import OptunaVerif.Lemmas.PrunersMirror
import OptunaVerif.Lemmas.Queue
import OptunaVerif.Lemmas.Rank
import OptunaVerif.Lemmas.RankBridge
import OptunaVerif.Lemmas.RankBridge2
import OptunaVerif.Lemmas.RankIR
import OptunaVerif.Lemmas.RdbAbs
import OptunaVerif.Lemmas.RdbBest
import OptunaVerif.Lemmas.RdbGetters
import OptunaVerif.Lemmas.RdbHbAbs
import OptunaVerif.Lemmas.RdbHbCall
import OptunaVerif.Lemmas.RdbHbCallback
import OptunaVerif.Lemmas.RdbHbEnv
import OptunaVerif.Lemmas.RdbHbEnvCalls
import OptunaVerif.Lemmas.RdbHbInv
import OptunaVerif.Lemmas.RdbHbQuery
import OptunaVerif.Lemmas.RdbHbRows
import OptunaVerif.Lemmas.RdbHbRun
import OptunaVerif.Lemmas.RdbHbStep
import OptunaVerif.Lemmas.RdbHbSweep
import OptunaVerif.Lemmas.RdbInv
import OptunaVerif.Lemmas.RdbMut1
import OptunaVerif.Lemmas.RdbMut2
import OptunaVerif.Lemmas.RdbMut3
import OptunaVerif.Lemmas.RdbMut4
import OptunaVerif.Lemmas.RdbMut5
import OptunaVerif.Lemmas.RdbMut6
import OptunaVerif.Lemmas.RdbRefine
import OptunaVerif.Lemmas.RdbTables
import OptunaVerif.Lemmas.RdbViews
import OptunaVerif.Lemmas.Repro
import OptunaVerif.Lemmas.ReproCopy
import OptunaVerif.Lemmas.SamplerIR
import OptunaVerif.Lemmas.SearchSpace
import OptunaVerif.Lemmas.SearchSpaceGroups
import OptunaVerif.Lemmas.SearchSpaceHist
import OptunaVerif.Lemmas.SimpAttr
import OptunaVerif.Lemmas.Skel
import OptunaVerif.Lemmas.SortBasic
import OptunaVerif.Lemmas.SpaceIR
import OptunaVerif.Lemmas.StepAnswer
import OptunaVerif.Lemmas.Storage
import OptunaVerif.Lemmas.SuggestIR
import OptunaVerif.Lemmas.Tell
import OptunaVerif.Lemmas.TellIR
import OptunaVerif.Lemmas.TpeSplit
import OptunaVerif.Lemmas.TransformIR
import OptunaVerif.Lemmas.TruncNorm
import OptunaVerif.Lemmas.TruncNormBisect
import OptunaVerif.Lemmas.TruncNormErf
import OptunaVerif.Lemmas.TruncNormGaussian
import OptunaVerif.Lemmas.TruncNormIntegral
import OptunaVerif.Lemmas.TruncNormMixture
import OptunaVerif.Lemmas.TruncNormTail
import OptunaVerif.Lemmas.Txn
import OptunaVerif.Lemmas.Wilcoxon
import OptunaVerif.Model.Basic
import OptunaVerif.Model.Best
import OptunaVerif.Model.BestIR
import OptunaVerif.Model.BruteForce
import OptunaVerif.Model.Cache
import OptunaVerif.Model.CacheIR
import OptunaVerif.Model.Conc
import OptunaVerif.Model.Direction
import OptunaVerif.Model.Dist
import OptunaVerif.Model.DistIR
import OptunaVerif.Model.EnqueueIR
import OptunaVerif.Model.FileIR
import OptunaVerif.Model.FileLock
import OptunaVerif.Model.GACache
import OptunaVerif.Model.GaIR
import OptunaVerif.Model.Grid
import OptunaVerif.Model.GrpcIR
import OptunaVerif.Model.Heap
import OptunaVerif.Model.Heartbeat
import OptunaVerif.Model.Hssp
import OptunaVerif.Model.HsspIR
import OptunaVerif.Model.HvIR
import OptunaVerif.Model.Hypervolume
import OptunaVerif.Model.InMemory
import OptunaVerif.Model.InMemoryCursor
import OptunaVerif.Model.InMemoryIR
import OptunaVerif.Model.Journal
import OptunaVerif.Model.JournalAppend
import OptunaVerif.Model.JournalFile
import OptunaVerif.Model.JournalFrontIR
import OptunaVerif.Model.JournalIR
import OptunaVerif.Model.JournalRedis
import OptunaVerif.Model.JournalRun
import OptunaVerif.Model.Nsga2
import OptunaVerif.Model.Pool
import OptunaVerif.Model.PoolRun
import OptunaVerif.Model.ProjIR
import OptunaVerif.Model.Proto
import OptunaVerif.Model.Pruners
import OptunaVerif.Model.Queue
import OptunaVerif.Model.QueueIR
import OptunaVerif.Model.Rank
import OptunaVerif.Model.RankIR
import OptunaVerif.Model.RdbHeartbeat
import OptunaVerif.Model.RdbLogic
import OptunaVerif.Model.ReportIR
import OptunaVerif.Model.Repro
import OptunaVerif.Model.SamplerIR
import OptunaVerif.Model.SearchSpace
import OptunaVerif.Model.Skel
import OptunaVerif.Model.SpaceIR
import OptunaVerif.Model.Storage
import OptunaVerif.Model.Suggest
import OptunaVerif.Model.SuggestApi
import OptunaVerif.Model.SuggestIR
import OptunaVerif.Model.Tell
import OptunaVerif.Model.TellIR
import OptunaVerif.Model.TpeSplit
import OptunaVerif.Model.TransformIR
import OptunaVerif.Model.TruncNormIR
import OptunaVerif.Model.TruncNormQ
import OptunaVerif.Model.Txn
import OptunaVerif.Model.Wilcoxon
import OptunaVerif.Props.C01
import OptunaVerif.Props.C01Frame
import OptunaVerif.Props.C01Grpc
import OptunaVerif.Props.C01GrpcCompose
import OptunaVerif.Props.C01GrpcGen
import OptunaVerif.Props.C01GrpcGenSpec
import OptunaVerif.Props.C01History
import OptunaVerif.Props.C01InMem
import OptunaVerif.Props.C01InMemGen
import OptunaVerif.Props.C01Rdb
import OptunaVerif.Props.C02
import OptunaVerif.Props.C02Gen
import OptunaVerif.Props.C02PoolRun
import OptunaVerif.Props.C02PoolRunGen
import OptunaVerif.Props.C02Shapes
import OptunaVerif.Props.C03
import OptunaVerif.Props.C03Cache
import OptunaVerif.Props.C03InMem
import OptunaVerif.Props.C03Journal
import OptunaVerif.Props.C04
import OptunaVerif.Props.C04EnqueueGen
import OptunaVerif.Props.C04Gen
import OptunaVerif.Props.C04Run
import OptunaVerif.Props.C05
import OptunaVerif.Props.C05C07Bridge
import OptunaVerif.Props.C05C07BridgeGen
import OptunaVerif.Props.C05Txn
import OptunaVerif.Props.C06
import OptunaVerif.Props.C06FrontGen
import OptunaVerif.Props.C06Gen
import OptunaVerif.Props.C06Redis
import OptunaVerif.Props.C06Run
import OptunaVerif.Props.C07
import OptunaVerif.Props.C07FileGen
import OptunaVerif.Props.C07Lock
import OptunaVerif.Props.C08
import OptunaVerif.Props.C08Gen
import OptunaVerif.Props.C09
import OptunaVerif.Props.C09Gen
import OptunaVerif.Props.C10
import OptunaVerif.Props.C10Compose
import OptunaVerif.Props.C10Gen
import OptunaVerif.Props.C10Nsga
import OptunaVerif.Props.C10ProjGen
import OptunaVerif.Props.C10SuggestGen
import OptunaVerif.Props.C11
import OptunaVerif.Props.C11DistFull
import OptunaVerif.Props.C11DistGen
import OptunaVerif.Props.C11Gen
import OptunaVerif.Props.C12
import OptunaVerif.Props.C12Gen
import OptunaVerif.Props.C12GenSpec
import OptunaVerif.Props.C13
import OptunaVerif.Props.C13Bridge
import OptunaVerif.Props.C13History
import OptunaVerif.Props.C13Nsga
import OptunaVerif.Props.C13Tpe
import OptunaVerif.Props.C13TpeGen
import OptunaVerif.Props.C14
import OptunaVerif.Props.C14Gen
import OptunaVerif.Props.C14GridResume
import OptunaVerif.Props.C15
import OptunaVerif.Props.C15Gen
import OptunaVerif.Props.C15GenSpec
import OptunaVerif.Props.C15Nsga
import OptunaVerif.Props.C16
import OptunaVerif.Props.C16Bracket
import OptunaVerif.Props.C16Gen
import OptunaVerif.Props.C16ReportGen
import OptunaVerif.Props.C16SkelGen
import OptunaVerif.Props.C16Wilcoxon
import OptunaVerif.Props.C16WilcoxonGen
import OptunaVerif.Props.C17
import OptunaVerif.Props.C17Gen
import OptunaVerif.Props.C18
import OptunaVerif.Props.C18Inst
import OptunaVerif.Props.C19
import OptunaVerif.Props.C19Rdb
import OptunaVerif.Props.C20
