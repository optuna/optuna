/-! Ordered insertion, once.  The models hold several copies of the insertion step of an insertion sort (`list.sort`, `argsort`,
`np.unique`), each a definition of its own over its own element type and test.  `IsInsertU ins lt e` says that `ins` has the
equations of such a step: before the first `y` with `lt x y`, dropped at a `y` with `e x y` (`np.unique`; `e` is `False` for a plain
sort: `IsInsert`).  For every copy the equations hold by `rfl`.  That membership is kept and that the list stays sorted is proved here
for any such `ins`, with the order hypotheses asked of the members of the list only (so that orders that are total only on part of
the type, as `<` on floats without NaN, are covered); a plain insertion is a permutation.  `IsSort srt ins`: `srt` inserts the
elements one by one, the last one first.  Core Lean only. -/
namespace OptunaVerif.SortBasic
open List

variable {α : Type}

structure IsInsertU (ins : α → List α → List α) (lt e : α → α → Prop) [DecidableRel lt] [DecidableRel e] : Prop where
  nil : ∀ x, ins x [] = [x]
  cons : ∀ x y t, ins x (y :: t) = if lt x y then x :: y :: t else if e x y then y :: t else y :: ins x t
  eq : ∀ x y, e x y → x = y

/-- `srt` is `fun l => l.foldr ins []`, or the same written as a recursion -/
structure IsSort (srt : List α → List α) (ins : α → List α → List α) : Prop where
  nil : srt [] = []
  cons : ∀ x t, srt (x :: t) = ins x (srt t)

namespace IsInsertU
variable {ins : α → List α → List α} {lt e : α → α → Prop} [DecidableRel lt] [DecidableRel e] (h : IsInsertU ins lt e)
include h

theorem mem {x q : α} {l : List α} : q ∈ ins x l ↔ q = x ∨ q ∈ l := by
  induction l with
  | nil => rw [h.nil]; simp
  | cons y t ih =>
    rw [h.cons]
    split
    · simp
    · split
      · rename_i hxy
        rw [h.eq x y hxy]; simp
      · rw [mem_cons, ih, mem_cons]; exact or_left_comm

theorem mem_sort {srt : List α → List α} (hsrt : IsSort srt ins) {q : α} {l : List α} : q ∈ srt l ↔ q ∈ l := by
  induction l with
  | nil => rw [hsrt.nil]
  | cons x t ih => rw [hsrt.cons, h.mem, ih, mem_cons]

variable {R : α → α → Prop} {M : α → Prop}
  (hc : ∀ x y, M x → M y → lt x y → R x y) (htr : ∀ x y z, M x → M y → M z → lt x y → R y z → R x z)
  (hn : ∀ x y, M x → M y → ¬ lt x y → ¬ e x y → R y x)
include hc htr hn

theorem pairwise {x : α} {l : List α} (hx : M x) (hl : ∀ y ∈ l, M y) (hs : l.Pairwise R) : (ins x l).Pairwise R := by
  induction l with
  | nil => rw [h.nil]; exact pairwise_singleton R x
  | cons y t ih =>
    have hs' := pairwise_cons.1 hs
    have hy := hl y mem_cons_self
    have ht : ∀ z ∈ t, M z := fun z hz => hl z (mem_cons_of_mem _ hz)
    rw [h.cons]
    split
    · rename_i hxy
      refine pairwise_cons.2 ⟨fun z hz => ?_, hs⟩
      rcases mem_cons.1 hz with rfl | hz
      · exact hc x z hx hy hxy
      · exact htr x y z hx hy (ht z hz) hxy (hs'.1 z hz)
    · rename_i hxy
      split
      · exact hs
      · rename_i hne
        refine pairwise_cons.2 ⟨fun z hz => ?_, ih ht hs'.2⟩
        rcases h.mem.1 hz with rfl | hz
        · exact hn z y hx hy hxy hne
        · exact hs'.1 z hz

theorem sort_pairwise {srt : List α → List α} (hsrt : IsSort srt ins) {l : List α} (hl : ∀ y ∈ l, M y) :
    (srt l).Pairwise R := by
  induction l with
  | nil => rw [hsrt.nil]; exact Pairwise.nil
  | cons x t ih =>
    have ht : ∀ z ∈ t, M z := fun z hz => hl z (mem_cons_of_mem _ hz)
    rw [hsrt.cons]
    exact h.pairwise hc htr hn (hl x mem_cons_self) (fun y hy => ht y ((h.mem_sort hsrt).1 hy)) (ih ht)

end IsInsertU

structure IsInsert (ins : α → List α → List α) (c : α → α → Prop) [DecidableRel c] : Prop where
  nil : ∀ x, ins x [] = [x]
  cons : ∀ x y t, ins x (y :: t) = if c x y then x :: y :: t else y :: ins x t

namespace IsInsert
variable {ins : α → List α → List α} {c : α → α → Prop} [DecidableRel c] (h : IsInsert ins c)
include h

theorem toU : IsInsertU ins c (fun _ _ => False) :=
  ⟨h.nil, fun x y t => by rw [h.cons, if_neg not_false], fun _ _ hf => hf.elim⟩

theorem perm (x : α) (l : List α) : (ins x l).Perm (x :: l) := by
  induction l with
  | nil => rw [h.nil]
  | cons y t ih =>
    rw [h.cons]
    split
    · exact Perm.refl _
    · exact (Perm.cons y ih).trans (Perm.swap x y t)

theorem sort_perm {srt : List α → List α} (hsrt : IsSort srt ins) (l : List α) : (srt l).Perm l := by
  induction l with
  | nil => rw [hsrt.nil]
  | cons x t ih => rw [hsrt.cons]; exact (h.perm x _).trans (Perm.cons x ih)

end IsInsert

end OptunaVerif.SortBasic
