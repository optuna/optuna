import OptunaVerif.Lemmas.RdbHbStep
/-! One storage call of `fail_stale_trials` on the relational model (`RdbHb.sweepStep`) is one step of the abstract
sweep (`Heartbeat.sweepStep`) on the abstraction, and keeps the invariant `RInv`; no exception leaves the sweep.  Each case
exhibits the move of `Heartbeat.SweepMove` it stands for (`sweep_of_move`); the abstract step function is not unfolded.

The compare-and-set to FAIL and `create_new_trial` of the retry go through the refinement of the storage contract
(`step_sim`, Lemmas/RdbRefine.lean): the first rewrites one listed trial, the second appends one.

Whatever the tables hold, a storage call of a sweep is a `Cfg.move` (`sweepStep_move`): which tables it can leave and
where the worker can be afterwards; that the call returns and which rows it touches (Lemmas/RdbHbRows, RdbHbCall) rest
on that and, for the two writes, on `step_wrote` and `inv_step` of Lemmas/RdbInv.  Core Lean only. -/
namespace OptunaVerif.RdbHb
open OptunaVerif.Storage OptunaVerif.Rdb
open OptunaVerif.Generated
open OptunaVerif.Heartbeat (HTrial)

/-- where a worker can be after its next storage call (an exception takes it to `idle`) -/
def Phase.next (b : Bool) : Phase → Phase → Prop
  | .idle, ph' => ph' = .idle ∨ ∃ ids, ph' = Phase.norm b (.failing ids [])
  | .dead, ph' => ph' = .dead
  | .failing [] won, ph' => ph' = Phase.norm b (.failing [] won)
  | .failing (_ :: todo) won, ph' =>
    ph' = .idle ∨ ∃ won', won'.length ≤ won.length + 1 ∧ ph' = Phase.norm b (.failing todo won')
  | .calling [], ph' => ph' = .idle
  | .calling (t :: todo), ph' => ph' = .idle ∨ ph' = Phase.norm b (.calling todo) ∨ ∃ tr, ph' = .enqueue t tr todo
  | .enqueue _ _ todo, ph' => ph' = .idle ∨ ph' = Phase.norm b (.calling todo)

theorem move_dead (c : Cfg) (w : Nat) (hw : c.workers[w]? = some .dead) : c.move c.hs.db w .dead none = c := by
  cases c
  simp only [Cfg.move] at hw ⊢
  rw [updAt_id_of_get _ _ _ hw]
  rfl

theorem sweepStep_absent (P : Params) (c : Cfg) (w : Nat) (hw : c.workers[w]? = none) : sweepStep P c w = c := by
  simp only [sweepStep, hw]

theorem sweepStep_read (P : Params) (c : Cfg) (w : Nat) (hw : c.workers[w]? = some .idle) (ids : List Nat)
    (hids : getStaleTrialIds c.hs c.now P.hbInterval P.gracePeriod P.sid = .ok ids) :
    sweepStep P c w = c.move c.hs.db w (Phase.norm P.hasCb (.failing ids [])) (some (.read w ids)) := by
  simp only [sweepStep, hw, hids]
  rfl

theorem sweepStep_move (P : Params) (c : Cfg) (w : Nat) (ph : Phase) (hw : c.workers[w]? = some ph) :
    ∃ db' ph' e, sweepStep P c w = c.move db' w ph' e ∧ Phase.next P.hasCb ph ph' ∧
      (db' = c.hs.db ∨
       (∃ t todo won, ph = .failing (t :: todo) won ∧ db' = (Rdb.step c.hs.db (.setTrialStateValues t StaleGen.failState none)).1) ∨
       ∃ t snap todo tmpl, ph = .enqueue t snap todo ∧ db' = (Rdb.step c.hs.db (.createTrial P.sid (some tmpl) false)).1) := by
  unfold sweepStep
  rw [hw]
  cases ph with
  | idle =>
    dsimp only
    split
    · exact ⟨_, _, _, move_eq_log' .., Or.inl rfl, Or.inl rfl⟩
    · exact ⟨_, _, _, move_eq_log' .., Or.inr ⟨_, rfl⟩, Or.inl rfl⟩
  | dead => exact ⟨_, _, _, (move_dead c w hw).symm, rfl, Or.inl rfl⟩
  | failing todo won =>
    cases todo with
    | nil => exact ⟨_, _, _, move_eq_set' .., rfl, Or.inl rfl⟩
    | cons t todo =>
      dsimp only
      -- the answers of the compare-and-set to FAIL: `True`, `False` (the call may have written in both), `UpdateFinishedTrialError`
      -- (raised, or the trial is counted as lost: `StaleGen.onUpdateFinished`), anything else (raised)
      split
      · rename_i db' heq
        exact ⟨_, _, _, move_eq_log .., Or.inr ⟨_, by split <;> simp, rfl⟩, Or.inr (Or.inl ⟨_, _, _, rfl, by rw [heq]⟩)⟩
      · rename_i db' heq
        exact ⟨_, _, _, move_eq_set .., Or.inr ⟨_, by split <;> simp, rfl⟩, Or.inr (Or.inl ⟨_, _, _, rfl, by rw [heq]⟩)⟩
      · split
        · exact ⟨_, _, _, move_eq_log' .., Or.inl rfl, Or.inl rfl⟩
        · exact ⟨_, _, _, move_eq_log' .., Or.inr ⟨_, by split <;> simp, rfl⟩, Or.inl rfl⟩
      · exact ⟨_, _, _, move_eq_log' .., Or.inl rfl, Or.inl rfl⟩
  | calling todo =>
    cases todo with
    | nil => exact ⟨_, _, _, move_eq_set' .., rfl, Or.inl rfl⟩
    | cons t todo =>
      dsimp only
      -- `get_trial` raised; else the callback, up to `add_trial`: it raised, gave the trial up, or wants it enqueued
      split
      · exact ⟨_, _, _, move_eq_log' .., Or.inl rfl, Or.inl rfl⟩
      · split
        · exact ⟨_, _, _, move_eq_log' .., Or.inl rfl, Or.inl rfl⟩
        · exact ⟨_, _, _, move_eq_log' .., Or.inr (Or.inl rfl), Or.inl rfl⟩
        · exact ⟨_, _, _, move_eq_log' .., Or.inr (Or.inr ⟨_, rfl⟩), Or.inl rfl⟩
  | enqueue t snap todo =>
    dsimp only
    -- the callback enqueues `tmpl` (`create_new_trial` answered a new id, or anything else: raised), or does not (raised)
    split
    · rename_i tmpl htm
      split
      · rename_i db' n heq
        exact ⟨_, _, _, move_eq_log .., Or.inr rfl, Or.inr (Or.inr ⟨_, _, _, tmpl, rfl, by rw [heq]⟩)⟩
      · exact ⟨_, _, _, move_eq_log' .., Or.inl rfl, Or.inl rfl⟩
    · exact ⟨_, _, _, move_eq_log' .., Or.inl rfl, Or.inl rfl⟩

/-- what `set_trial_state_values(t, FAIL, values=None)` does to the record -/
def failF (t : TrialS) : TrialS :=
  { t with state := .fail, values := (none : Option (List XVal)).or t.values,
           hasStart := t.hasStart || (TState.fail == TState.running),
           hasComplete := t.hasComplete || TState.fail.isFinished }

theorem recOf_failF (C : Codec) (t : TrialS) : recOf C (failF t) = { recOf C t with state := .fail } := rfl

theorem cas_finished (db : Rdb.State) (a : Spec) (h : Abs db a) (t : Nat) (hw : a.writable t = .error .updateFinished) :
    (Rdb.step db (.setTrialStateValues t .fail none)).2 = .out (.err .updateFinished) := by
  have hs := step_sim db a (.setTrialStateValues t .fail none) h trivial
  unfold StepOk at hs
  simp only [withRaised, Storage.step, hw] at hs
  exact allowed_plain _ _ hs.2 (by intro l; simp) (by intro l; simp)

theorem cas_unfinished (P : Params) (c : Cfg) (a : Spec) (h : Abs c.hs.db a) (hlive : (a.study? P.sid).isSome = true)
    (t : Nat) (tr : TrialS) (hw : a.writable t = .ok tr) :
    (Rdb.step c.hs.db (.setTrialStateValues t .fail none)).2 = .out (.bool true) ∧
    CallFacts P c (Rdb.step c.hs.db (.setTrialStateValues t .fail none)).1 a (a.updTrial t failF) := by
  obtain ⟨F, hal⟩ := call_facts P c a h hlive (.setTrialStateValues t .fail none) trivial (by intro s; simp)
  simp only [withRaised] at F hal
  rw [Wrote.step_eq (.state t .fail none tr hw rfl)] at F hal
  exact ⟨hal, F⟩

theorem retryTmpl_wf (C : Codec) (cb : CbCfg) (db : Rdb.State) (hinv : Inv0 db) (sid : Nat) (p : Nat × TrialS)
    (hp : p ∈ studyList db sid) (hw : WfSys C p.2.systemAttrs) (sid' : Nat) :
    WfOp (.createTrial sid' (some (retryTmpl C cb p.2)) false) := by
  obtain ⟨row, _, _, ep⟩ := (mem_studyList db sid p).mp hp
  have hd := rowView_distinct db hinv row
  have e2 : p.2 = db.rowView row := by rw [ep]
  refine ⟨?_, ?_, ?_, ?_, trivial⟩
  · simp only [retryTmpl, e2]; exact hd.1
  · simp only [retryTmpl, e2]; exact hd.2.1
  · exact (retrySys_wf C p.2 hw).keys
  · simp only [retryTmpl]
    split
    · rw [e2]; exact hd.2.2.2
    · exact List.Pairwise.nil

theorem retryTemplate_enqueue (P : Params) (hP : POk P) (c : Cfg) (h : RInv P c) (w t : Nat) (snap : TrialS) (todo : List Nat)
    (hw : c.workers[w]? = some (.enqueue t snap todo)) :
    retryTemplate P.codec P.cb snap = .enqueue (retryTmpl P.codec P.cb snap) := by
  obtain ⟨hmem, _, hex, _⟩ := h.phases w _ hw
  rw [retryTemplate_eq P.codec hP.lawful P.cb snap (h.wf (t, snap) hmem), hex]; rfl

theorem retry_create (P : Params) (hP : POk P) (c : Cfg) (h : RInv P c) (w t : Nat) (snap : TrialS) (todo : List Nat)
    (hw : c.workers[w]? = some (.enqueue t snap todo)) :
    ∃ a a', CallFacts P c (Rdb.step c.hs.db (.createTrial P.sid (some (retryTmpl P.codec P.cb snap)) false)).1 a a' ∧
      a'.trialsOf P.sid = a.trialsOf P.sid ++
        [(a.trials.length, mkTrial P.sid (studyList c.hs.db P.sid).length (some (retryTmpl P.codec P.cb snap)))] ∧
      sweepStep P c w =
        c.move (Rdb.step c.hs.db (.createTrial P.sid (some (retryTmpl P.codec P.cb snap)) false)).1 w
          (Phase.norm P.hasCb (.calling todo)) (some (.enqueued w t c.hs.db.nTrial (retryTmpl P.codec P.cb snap))) := by
  obtain ⟨hmem, _, _, _⟩ := h.phases w _ hw
  obtain ⟨a, ha, hlive⟩ := h.abs
  have hwf := h.wf (t, snap) hmem
  obtain ⟨st, hst⟩ := Option.isSome_iff_exists.mp hlive
  obtain ⟨a', F, hL', hres⟩ := create_append P c a ha st hst (some (retryTmpl P.codec P.cb snap)) false
    (retryTmpl_wf P.codec P.cb c.hs.db ha.inv.1 P.sid (t, snap) hmem hwf P.sid)
    (no_conflict c.hs.db a ha P.sid st hst (t, snap) hmem (retryTmpl P.codec P.cb snap) rfl)
  refine ⟨a, a', F, by rw [hL', studyList_abs c.hs.db a ha P.sid hlive], ?_⟩
  · simp only [sweepStep, hw, retryTemplate_enqueue P hP c h w t snap todo hw]
    rw [show Rdb.step c.hs.db (.createTrial P.sid (some (retryTmpl P.codec P.cb snap)) false) =
        ((Rdb.step c.hs.db (.createTrial P.sid (some (retryTmpl P.codec P.cb snap)) false)).1, .out (.newId c.hs.db.nTrial)) from
      Prod.ext rfl (by rw [hres, ha.nTrials])]
    rfl

theorem sweep_of_move {P : Params} {c : Cfg} {w : Nat} {ph ph' : Phase} {db' : Rdb.State} {e : Option Event} {tr' : List HTrial}
    (hw : c.workers[w]? = some ph) (hrel : sweepStep P c w = c.move db' w (Phase.norm P.hasCb ph') e)
    (hsim : absCfg P (c.move db' w (Phase.norm P.hasCb ph') e) =
        { trials := tr',
          workers := updAt (absCfg P c).workers w (fun _ => absPhase P.codec (studyList c.hs.db P.sid) (Phase.norm P.hasCb ph')),
          events := (e.bind (absEvent P.codec (studyList c.hs.db P.sid))).toList ++ (absCfg P c).events } ∧
      RInv P (c.move db' w (Phase.norm P.hasCb ph') e))
    (hm : Heartbeat.SweepMove (absParams P) w [] (absCfg P c).trials (absPhase P.codec (studyList c.hs.db P.sid) ph)
      (e.bind (absEvent P.codec (studyList c.hs.db P.sid))) tr' (absPhase P.codec (studyList c.hs.db P.sid) ph')) :
    absCfg P (sweepStep P c w) = Heartbeat.sweepStep (absParams P) (absCfg P c) w [] ∧ RInv P (sweepStep P c w) := by
  rw [hrel, Heartbeat.sweepStep_of_move (by rw [workers_abs_get, hw]; rfl) hm, ← absPhase_norm]
  exact hsim

theorem sweep_still (P : Params) (c : Cfg) (h : RInv P c) (w : Nat) (hw : c.workers[w]? = none ∨ c.workers[w]? = some .dead) :
    absCfg P (sweepStep P c w) = Heartbeat.sweepStep (absParams P) (absCfg P c) w [] ∧ RInv P (sweepStep P c w) := by
  have e1 : sweepStep P c w = c := by rcases hw with hw | hw <;> simp only [sweepStep, hw]
  rw [e1]
  -- the abstract worker is absent or dead as well: none of the moves applies
  rcases Heartbeat.sweepStep_cases (absParams P) (absCfg P c) w [] with e2 | ⟨ph, _, _, _, hwa, hm, _⟩
  · exact ⟨e2.symm, h⟩
  · rw [workers_abs_get] at hwa
    rcases hw with hw | hw <;> rw [hw] at hwa <;> cases hwa
    cases hm

/-- the stale read -/
theorem sweep_idle (P : Params) (hP : POk P) (c : Cfg) (h : RInv P c) (w : Nat) (hw : c.workers[w]? = some .idle) :
    absCfg P (sweepStep P c w) = Heartbeat.sweepStep (absParams P) (absCfg P c) w [] ∧ RInv P (sweepStep P c w) := by
  obtain ⟨ids, hst, hmem, hmap⟩ := stale_abs P hP c.hs h.inv.1 c.now
  refine sweep_of_move hw (sweepStep_read P c w hw ids hst) (move_same_sim P c h w _ (some (.read w ids))
    (PhaseOk.norm (ph := .failing ids []) ⟨hmem, by intro t ht; simp at ht⟩) (by intro ev hev; cases hev; exact ⟨hmem, rfl⟩)) ?_
  have := Heartbeat.SweepMove.read (P := absParams P) (w := w) (ord := []) (tr := (absCfg P c).trials)
  rw [Heartbeat.orderBy_nil] at this
  simp only [absPhase, absEvent, Option.bind_some, List.map_nil, hmap]
  exact this

theorem sweep_failing_nil (P : Params) (c : Cfg) (h : RInv P c) (w : Nat) (won : List Nat)
    (hw : c.workers[w]? = some (.failing [] won)) :
    absCfg P (sweepStep P c w) = Heartbeat.sweepStep (absParams P) (absCfg P c) w [] ∧ RInv P (sweepStep P c w) :=
  sweep_of_move hw (by simp only [sweepStep, hw]; rfl)
    (move_same_sim P c h w _ none (h.phases w _ hw).norm (by intro ev hev; cases hev)) (.failDone _)

theorem sweep_calling_nil (P : Params) (c : Cfg) (h : RInv P c) (w : Nat) (hw : c.workers[w]? = some (.calling [])) :
    absCfg P (sweepStep P c w) = Heartbeat.sweepStep (absParams P) (absCfg P c) w [] ∧ RInv P (sweepStep P c w) :=
  sweep_of_move (ph' := .calling []) hw (by simp only [sweepStep, hw]; rfl)
    (move_same_sim P c h w .idle none trivial (by intro ev hev; cases hev)) .callDone

/-- the compare-and-set: lost to somebody who was faster (`UpdateFinishedTrialError`, swallowed), or won -/
theorem sweep_failing_cons (P : Params) (c : Cfg) (h : RInv P c) (w t : Nat) (todo won : List Nat)
    (hw : c.workers[w]? = some (.failing (t :: todo) won)) :
    absCfg P (sweepStep P c w) = Heartbeat.sweepStep (absParams P) (absCfg P c) w [] ∧ RInv P (sweepStep P c w) := by
  have hph := h.phases w _ hw
  obtain ⟨a, ha, hlive⟩ := h.abs
  rcases listed_cases P c h a ha hlive t with hm | ⟨p, hp, rfl, hta, hcase⟩
  · exact absurd (hph.1 t (by simp)) hm
  rcases hcase with ⟨hfin, hwr⟩ | ⟨hfin', hwr⟩
  · have hres := cas_finished c.hs.db a ha p.1 hwr
    have hrel : sweepStep P c w = c.move c.hs.db w (Phase.norm P.hasCb (.failing todo won)) (some (.lost w p.1)) := by
      simp only [sweepStep, hw, StaleGen.failState]
      rw [show Rdb.step c.hs.db (.setTrialStateValues p.1 .fail none) =
        ((Rdb.step c.hs.db (.setTrialStateValues p.1 .fail none)).1, .out (.err .updateFinished)) from Prod.ext rfl hres]
      simp only [StaleGen.onUpdateFinished]
      rfl
    exact sweep_of_move hw hrel (move_same_sim P c h w _ (some (.lost w p.1))
      (PhaseOk.norm (ph := .failing todo won) ⟨fun x hx => hph.1 x (List.mem_cons_of_mem _ hx), hph.2⟩)
      (by intro ev hev; cases hev; exact ⟨by intro x hx; simp [Event.ids] at hx; rw [hx]; exact hph.1 p.1 (by simp), rfl⟩))
      (.lost _ _ _ _ hta hfin)
  · obtain ⟨hres, F⟩ := cas_unfinished P c a ha hlive p.1 p.2 hwr
    generalize hdb : (Rdb.step c.hs.db (.setTrialStateValues p.1 .fail none)).1 = db' at F
    have hrel : sweepStep P c w = c.move db' w (Phase.norm P.hasCb (.failing todo (won ++ [p.1]))) (some (.won w p.1)) := by
      simp only [sweepStep, hw, StaleGen.failState]
      rw [show Rdb.step c.hs.db (.setTrialStateValues p.1 .fail none) = (db', .out (.bool true)) from Prod.ext hdb hres]
      simp only [StaleGen.appendOnTrue, if_true]
      rfl
    have hL' := Storage.trialsOf_updTrial a p.1 P.sid failF (fun _ => rfl)
    obtain ⟨h1, h2⟩ := upd_sim P c h db' a _ F p hp failF hL' (Heartbeat.setState .fail) (fun _ => rfl) (fun hw => hw)
    -- the worker's old phase, read in the new listing
    have hold := h2.phases w _ hw
    have hwinner : FinishedIn (studyList db' P.sid) p.1 := by
      refine ⟨(p.1, failF p.2), ?_, rfl, rfl⟩
      rw [F.L', hL']
      exact List.mem_map.mpr ⟨p, by rw [← F.L]; exact hp, if_pos rfl⟩
    refine sweep_of_move hw hrel (move_sim P c db' a _ F _ h1 h2 w (Phase.norm P.hasCb (.failing todo (won ++ [p.1]))) (some (.won w p.1))
      (PhaseOk.norm (ph := .failing todo (won ++ [p.1])) ⟨fun x hx => hold.1 x (List.mem_cons_of_mem _ hx), fun x hx => by
        rcases List.mem_append.mp hx with hx | hx
        · exact hold.2 x hx
        · simp at hx; rw [hx]; exact hwinner⟩)
      (by intro ev hev; cases hev; exact ⟨by intro x hx; simp [Event.ids] at hx; rw [hx]; exact hold.1 p.1 (by simp), rfl⟩)) ?_
    have := Heartbeat.SweepMove.won (P := absParams P) (w := w) (ord := []) _ (todo.map (numOf (studyList c.hs.db P.sid)))
      (won.map (numOf (studyList c.hs.db P.sid))) _ hta (by rw [show (absTrial P.codec c.hs c.now p).core.state.isFinished = false from hfin']; simp)
    simp only [absPhase, List.map_append, List.map_cons, List.map_nil]
    exact this

/-- `get_trial` and the callback up to `add_trial` -/
theorem sweep_calling_cons (P : Params) (hP : POk P) (c : Cfg) (h : RInv P c) (w t : Nat) (todo : List Nat)
    (hw : c.workers[w]? = some (.calling (t :: todo))) :
    absCfg P (sweepStep P c w) = Heartbeat.sweepStep (absParams P) (absCfg P c) w [] ∧ RInv P (sweepStep P c w) := by
  have hph := h.phases w _ hw
  obtain ⟨p, hp, hpt, hpf⟩ := hph t (by simp)
  subst hpt
  have hget : getTrial c.hs.db p.1 = .ok (p.1, p.2) := getTrial_of_mem c.hs.db h.inv.1 P.sid p hp
  have hwf := h.wf p hp
  have hta := trials_abs_get P c h p hp
  have htodo : ∀ x ∈ todo, FinishedIn (studyList c.hs.db P.sid) x := fun x hx => hph x (List.mem_cons_of_mem _ hx)
  have hevok : ∀ b ev, some (Event.callback w p.1 b) = some ev →
      (∀ x ∈ ev.ids, x ∈ (studyList c.hs.db P.sid).map (·.1)) ∧ ev.isRaised = false := by
    intro b ev hev; cases hev
    exact ⟨by intro x hx; simp [Event.ids] at hx; rw [hx]; exact List.mem_map.mpr ⟨p, hp, rfl⟩, rfl⟩
  by_cases hex : Heartbeat.exceeds (P.cb.maxRetry.map Int.toNat) (recOf P.codec p.2) = true
  · have hrel : sweepStep P c w = c.move c.hs.db w (Phase.norm P.hasCb (.calling todo)) (some (.callback w p.1 false)) := by
      simp only [sweepStep, hw, hget, retryTemplate_eq P.codec hP.lawful P.cb p.2 hwf, hex, if_true]
      rfl
    exact sweep_of_move hw hrel (move_same_sim P c h w _ _ (PhaseOk.norm (ph := .calling todo) htodo) (hevok false))
      (.giveUp _ _ _ hta hex)
  · have hex' : Heartbeat.exceeds (P.cb.maxRetry.map Int.toNat) (recOf P.codec p.2) = false := by simpa using hex
    have hrel : sweepStep P c w = c.move c.hs.db w (.enqueue p.1 p.2 todo) (some (.callback w p.1 true)) := by
      simp only [sweepStep, hw, hget, retryTemplate_eq P.codec hP.lawful P.cb p.2 hwf, hex', Bool.false_eq_true, if_false]
      rfl
    exact sweep_of_move (ph' := .enqueue p.1 p.2 todo) hw hrel (move_same_sim P c h w _ _
      (show PhaseOk _ _ _ (.enqueue p.1 p.2 todo) from ⟨hp, hpf, hex', htodo⟩) (hevok true))
      (.retry _ _ _ hta hex)

/-- `create_new_trial` of the retry -/
theorem sweep_enqueue (P : Params) (hP : POk P) (c : Cfg) (h : RInv P c) (w t : Nat) (snap : TrialS) (todo : List Nat)
    (hw : c.workers[w]? = some (.enqueue t snap todo)) :
    absCfg P (sweepStep P c w) = Heartbeat.sweepStep (absParams P) (absCfg P c) w [] ∧ RInv P (sweepStep P c w) := by
  obtain ⟨hmem, _, _, _⟩ := h.phases w _ hw
  have hinv := h.inv
  have hwf := h.wf (t, snap) hmem
  obtain ⟨a, a', F, hL', hrel⟩ := retry_create P hP c h w t snap todo hw
  generalize (Rdb.step c.hs.db (.createTrial P.sid (some (retryTmpl P.codec P.cb snap)) false)).1 = db' at F hrel
  obtain ⟨h1, h2⟩ := append_sim P c h db' a a' F _ hL' (retrySys_wf P.codec snap hwf)
  have hold := h2.phases w _ hw
  refine sweep_of_move hw hrel (move_sim P c db' a a' F _ h1 h2 w (Phase.norm P.hasCb (.calling todo))
    (some (.enqueued w t c.hs.db.nTrial (retryTmpl P.codec P.cb snap))) (PhaseOk.norm (ph := .calling todo) hold.2.2.2)
    (by
      intro ev hev; cases hev
      refine ⟨?_, rfl⟩
      intro x hx
      simp only [Event.ids, List.mem_cons, List.not_mem_nil, or_false] at hx
      rcases hx with e | e
      · rw [e]; exact List.mem_map.mpr ⟨(t, snap), hold.1, rfl⟩
      · rw [e, F.L', hL', List.map_append, F.abs.nTrials]; exact List.mem_append_right _ (by simp))) ?_
  -- the abstract retry: the copy `retryOf number record`, at the next index
  have hnumber : snap.number = numOf (studyList c.hs.db P.sid) t := number_eq_numOf c.hs.db hinv P.sid (t, snap) hmem
  have hnumN : numOf (studyList c.hs.db P.sid) c.hs.db.nTrial = (absCfg P c).trials.length :=
    (numOf_eq_length _ _ (fun q hq => studyList_lt c.hs.db hinv.1 P.sid q.1 (List.mem_map.mpr ⟨q, hq, rfl⟩))).trans
      (List.length_map _).symm
  have := Heartbeat.SweepMove.enqueue (P := absParams P) (w := w) (ord := []) (tr := (absCfg P c).trials)
    (numOf (studyList c.hs.db P.sid) t) (recOf P.codec snap) (todo.map (numOf (studyList c.hs.db P.sid)))
  simp only [absPhase, absEvent, Option.bind_some, hnumN, recOf_retry P.codec hP.lawful P.cb snap hwf, hnumber]
  exact this

/-- The abstract step is taken with the stale ids in table order (`[]`). -/
theorem sweep_sim (P : Params) (hP : POk P) (c : Cfg) (h : RInv P c) (w : Nat) :
    absCfg P (sweepStep P c w) = Heartbeat.sweepStep (absParams P) (absCfg P c) w [] ∧ RInv P (sweepStep P c w) := by
  cases hw : c.workers[w]? with
  | none => exact sweep_still P c h w (Or.inl hw)
  | some ph =>
    cases ph with
    | idle => exact sweep_idle P hP c h w hw
    | dead => exact sweep_still P c h w (Or.inr hw)
    | failing todo won =>
      cases todo with
      | nil => exact sweep_failing_nil P c h w won hw
      | cons t todo => exact sweep_failing_cons P c h w t todo won hw
    | calling todo =>
      cases todo with
      | nil => exact sweep_calling_nil P c h w hw
      | cons t todo => exact sweep_calling_cons P hP c h w t todo hw
    | enqueue t snap todo => exact sweep_enqueue P hP c h w t snap todo hw

end OptunaVerif.RdbHb
