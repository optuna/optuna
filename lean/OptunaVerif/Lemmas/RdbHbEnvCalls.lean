import OptunaVerif.Lemmas.RdbHbStep
/-! Every `BaseStorage` call of the other actors (`ask` = create / claim, `tell` = finish, parameter and attribute
writes, `enqueue_trial`, calls on other studies, getters) as actions of the abstract model's environment.

The call is taken in the normal form of the storage contract (`Storage.step_wrote`).  An accepted writer
(`accepted_sim`, by cases on the call and on its `Storage.Wrote`) leaves the listing of the study alone, rewrites one writable trial
(`rewrite_sim`) or appends one; a getter or a refused call changes nothing, and then the abstract action the call stands
for, if any, is refused as well (`refused_acts`).  Core Lean only. -/
namespace OptunaVerif.RdbHb
open OptunaVerif.Storage OptunaVerif.Rdb
open OptunaVerif.Generated
open OptunaVerif.Heartbeat (HTrial)

/-- What the other actors are assumed not to do (verif/props/c19.py lists the first and the third among its assumptions):
delete a study; put a trial of the study back to WAITING; write one of the callback's two system attributes on a trial of the
study; add a trial to the study from a template that is not a plain queued trial (WAITING, no parameters, no reserved attribute);
a call without template (the fresh RUNNING trial of `ask`) is allowed. -/
def EnvOk (P : Params) (c : Cfg) : Op → Prop
  | .deleteStudy _ => False
  | .createTrial s (some t) _ => s = P.sid → t.state = .waiting ∧ t.params = [] ∧ ∀ p ∈ t.systemAttrs, reserved p.1 = false
  | .setTrialStateValues tid st _ => tid ∈ (studyList c.hs.db P.sid).map (·.1) → st ≠ .waiting
  | .setTrialSystemAttr tid k _ => tid ∈ (studyList c.hs.db P.sid).map (·.1) → reserved k = false
  | _ => True

/-- the abstract model's environment actions a storage call stands for -/
def callOps (P : Params) (c : Cfg) (op : Op) : List Heartbeat.EnvOp :=
  match op with
  | .createTrial s none _ => if s = P.sid then [.create] else []
  | .createTrial s (some t) _ => if s = P.sid then [.enqueue t.userAttrs t.systemAttrs] else []
  | .setTrialStateValues tid st _ =>
    if tid ∈ (studyList c.hs.db P.sid).map (·.1) then
      (if st = .running then [.claim (numOf (studyList c.hs.db P.sid) tid)] else [.finish (numOf (studyList c.hs.db P.sid) tid) st])
    else []
  | .setTrialParam tid k p _ =>
    if tid ∈ (studyList c.hs.db P.sid).map (·.1) ∧ (Rdb.step c.hs.db op).2 = .out .unit then
      [.setParam (numOf (studyList c.hs.db P.sid) tid) k (ptok p)] else []
  | .setTrialUserAttr tid k v =>
    if tid ∈ (studyList c.hs.db P.sid).map (·.1) then [.setUserAttr (numOf (studyList c.hs.db P.sid) tid) k v] else []
  | .setTrialSystemAttr tid k v =>
    if tid ∈ (studyList c.hs.db P.sid).map (·.1) then [.setSysAttr (numOf (studyList c.hs.db P.sid) tid) k v] else []
  | _ => []

def callActs (P : Params) (c : Cfg) (op : Op) : List Heartbeat.Act := (callOps P c op).map .env

theorem trialsOf_updStudy (a : Spec) (s : Nat) (f : StudyS → StudyS) (sid : Nat) : (a.updStudy s f).trialsOf sid = a.trialsOf sid :=
  trialsOf_of_trials a _ rfl sid

theorem writable_unlisted (a : Spec) (sid : Nat) (hl : (a.study? sid).isSome = true) (tid : Nat) (t0 : TrialS)
    (hn : tid ∉ (a.trialsOf sid).map (·.1)) (hw : a.writable tid = .ok t0) : t0.study ≠ sid := by
  intro e
  obtain ⟨h1, _⟩ := (writable_ok_iff a tid t0).mp hw
  exact hn (List.mem_map.mpr ⟨(tid, t0), (mem_trialsOf_live a sid hl tid t0).mpr ⟨h1, e⟩, rfl⟩)

theorem map_set_tok (l : AList Param) (k : String) (p : Param) :
    (l.set k p).map (fun q => (q.1, ptok q.2)) = AList.set (l.map (fun q => (q.1, ptok q.2))) k (ptok p) := by
  fun_induction AList.set l k p <;> simp_all [AList.set]

theorem step_call (P : Params) (c : Cfg) (op : Op) : step P c (.call op) = c.setDb (Rdb.step c.hs.db op).1 := rfl

/-- the contract rewrote the writable trial `tid` by `g`, which the abstraction sees as `G`, and `G` is what the
environment actions `acts` do to an unfinished trial in that state: they happen if the trial is listed -/
theorem rewrite_sim (P : Params) (c : Cfg) (h : RInv P c) (db' : Rdb.State) (a a' : Spec) (F : CallFacts P c db' a a')
    (tid : Nat) (t0 : TrialS) (hw : a.writable tid = .ok t0) {g : TrialS → TrialS}
    (hL : a'.trialsOf P.sid = (a.updTrial tid g).trialsOf P.sid) (hg : ∀ t, (g t).study = t.study) (G : HTrial → HTrial) (acts : Nat → List Heartbeat.EnvOp)
    (henv : tid ∈ (studyList c.hs.db P.sid).map (·.1) → ∀ tr n x, tr[n]? = some x → x.core.state = t0.state → x.core.state.isFinished = false →
      Heartbeat.run (absParams P) { absCfg P c with trials := tr } ((acts n).map .env) = { absCfg P c with trials := updAt tr n G })
    (hG : tid ∈ (studyList c.hs.db P.sid).map (·.1) → ∀ q, absTrial P.codec c.hs c.now (q.1, g q.2) = G (absTrial P.codec c.hs c.now q))
    (hwfs : tid ∈ (studyList c.hs.db P.sid).map (·.1) → WfSys P.codec t0.systemAttrs → WfSys P.codec (g t0).systemAttrs) :
    absCfg P (c.setDb db') =
      Heartbeat.run (absParams P) (absCfg P c)
        ((if tid ∈ (studyList c.hs.db P.sid).map (·.1) then acts (numOf (studyList c.hs.db P.sid) tid) else []).map .env) ∧
    RInv P (c.setDb db') := by
  rcases listed_cases P c h a F.abs F.live tid with hm | ⟨p, hp, hpt, hta, ⟨_, hw'⟩ | ⟨hfin, hw'⟩⟩
  · rw [if_neg hm]
    have hm' : tid ∉ (a.trialsOf P.sid).map (·.1) := by rw [← F.L]; exact hm
    exact frame_sim P c h _ a _ F
      (hL.trans ((Storage.trialsOf_updTrial a tid P.sid g hg).trans ((map_if_unlisted _ tid _ _ hm').trans (List.map_id' _))))
  · rw [hw] at hw'; cases hw'
  · rw [hw] at hw'; cases hw'
    subst hpt
    have hm : p.1 ∈ (studyList c.hs.db P.sid).map (·.1) := List.mem_map.mpr ⟨p, hp, rfl⟩
    obtain ⟨h1, h2⟩ := upd_sim P c h _ a _ F p hp g (hL.trans (Storage.trialsOf_updTrial a p.1 P.sid g hg)) G (hG hm) (hwfs hm)
    rw [if_pos hm]
    exact ⟨h1.trans (henv hm _ _ _ hta rfl hfin).symm, h2⟩

theorem recOf_fresh (C : Codec) (sid n : Nat) : recOf C (mkTrial sid n none) = Heartbeat.freshRec .running [] [] := by
  simp [recOf, mkTrial, Heartbeat.freshRec, AList.get?]

theorem get?_unreserved (sys : AList String) (hres : ∀ p ∈ sys, reserved p.1 = false) (k : String) (hk : reserved k = true) :
    sys.get? k = none :=
  AList.get?_none_of_not_mem _ _ (fun p hp e => by have := hres p hp; rw [e, hk] at this; cases this)

theorem recOf_enqueued (C : Codec) (sid n : Nat) (t : Template) (hst : t.state = .waiting) (hpar : t.params = [])
    (hres : ∀ p ∈ t.systemAttrs, reserved p.1 = false) :
    recOf C (mkTrial sid n (some t)) = Heartbeat.freshRec .waiting t.userAttrs t.systemAttrs := by
  have h3 : t.systemAttrs.filter (fun p => !reserved p.1) = t.systemAttrs := by
    rw [List.filter_eq_self]; intro p hp; simp [hres p hp]
  simp [recOf, mkTrial, Heartbeat.freshRec, hst, hpar, get?_unreserved _ hres _ reserved_retried,
    get?_unreserved _ hres _ reserved_history, h3]

theorem wfSys_unreserved (C : Codec) (sys : AList String) (hd : distinctKeys sys) (hres : ∀ p ∈ sys, reserved p.1 = false) :
    WfSys C sys :=
  ⟨hd, fun tok hg => (by rw [get?_unreserved _ hres _ reserved_retried] at hg; cases hg),
    fun tok hg => (by rw [get?_unreserved _ hres _ reserved_history] at hg; cases hg)⟩

theorem reserved_ne {k : String} (hk : reserved k = false) : StaleGen.retriedKey ≠ k ∧ StaleGen.historyKey ≠ k := by
  constructor
  · intro e; rw [← e, reserved_retried] at hk; exact Bool.noConfusion hk
  · intro e; rw [← e, reserved_history] at hk; exact Bool.noConfusion hk

/-- a write whose only guard is that the trial be unfinished, refused: the trial, if listed, is finished, and the
abstract write is refused as well -/
theorem refused_guarded (P : Params) (c : Cfg) (h : RInv P c) (a : Spec) (ha : Abs c.hs.db a) (hlive : (a.study? P.sid).isSome = true)
    (tid : Nat) (hacc : ∀ t0, a.writable tid ≠ .ok t0) (eop : Nat → Heartbeat.EnvOp)
    (henv : ∀ tr n x, tr[n]? = some x → x.core.state.isFinished = true → (Heartbeat.envStep tr (eop n)).1 = tr) :
    absCfg P c = Heartbeat.run (absParams P) (absCfg P c)
      ((if tid ∈ (studyList c.hs.db P.sid).map (·.1) then [eop (numOf (studyList c.hs.db P.sid) tid)] else []).map .env) := by
  rcases listed_cases P c h a ha hlive tid with hm | ⟨p, hp, hpt, hta, ⟨hfin, _⟩ | ⟨_, hw⟩⟩
  · rw [if_neg hm]; rfl
  · rw [if_pos (List.mem_map.mpr ⟨p, hp, hpt⟩), List.map, List.map, Heartbeat.run_env1, henv _ _ _ hta hfin]
  · exact absurd hw (hacc _)

theorem refused_acts (P : Params) (c : Cfg) (h : RInv P c) (a : Spec) (ha : Abs c.hs.db a) (hlive : (a.study? P.sid).isSome = true)
    (op : Op) (hok : EnvOk P c op) (b : Bool)
    (hno : (∃ e, (Storage.step a (withRaised op b)).2 = .err e) ∨ (Storage.step a (withRaised op b)).2 = .bool false ∨
      (withRaised op b).reads = true)
    (hal : Allowed (Rdb.step c.hs.db op).2 (Storage.step a (withRaised op b)).2) :
    absCfg P c = Heartbeat.run (absParams P) (absCfg P c) (callActs P c op) := by
  -- an accepted writer answers no error and is no getter: here it can only be a claim answered `False`
  have hacc : ∀ r, Wrote a (withRaised op b) r → r.2 = .bool false := by
    intro r hr
    rw [hr.step_eq] at hno
    generalize withRaised op b = op' at hr hno
    cases hr <;> simp [Op.reads] at hno ⊢
  cases op with
  | createTrial s tmpl ir =>
    by_cases hsid : s = P.sid
    · subst hsid
      -- in the live study `create_new_trial` cannot be refused: the environment's template has no parameter (`hok`) to conflict
      obtain ⟨st, hst⟩ := Option.isSome_iff_exists.mp hlive
      have hnc : (b && a.tmplConflict P.sid st tmpl) = false := by
        cases tmpl with
        | none => simp [Spec.tmplConflict]
        | some t => simp [Spec.tmplConflict, (hok rfl).2.1]
      exact nomatch hacc _ (.createTrial P.sid tmpl b st hst hnc)
    · cases tmpl <;> simp [callActs, callOps, hsid, Heartbeat.run]
  | setTrialParam tid name p ir =>
    rcases hno with ⟨e, he⟩ | he | he
    · rw [he] at hal
      have hres : (Rdb.step c.hs.db (.setTrialParam tid name p ir)).2 = .out (.err e) := hal
      simp [callActs, callOps, hres, Heartbeat.run]
    · rw [he] at hal
      have hres : (Rdb.step c.hs.db (.setTrialParam tid name p ir)).2 = .out (.bool false) := hal
      simp [callActs, callOps, hres, Heartbeat.run]
    · cases he
  | setTrialStateValues tid st vals =>
    by_cases hrun : st = .running
    · -- a claim is refused on a finished trial and on one that is not WAITING
      subst hrun
      rcases listed_cases P c h a ha hlive tid with hm | ⟨p, hp, hpt, hta, hcase⟩
      · simp [callActs, callOps, hm, Heartbeat.run]
      · have e1 : (absTrial P.codec c.hs c.now p).core.state = p.2.state := rfl
        simp only [callActs, callOps, if_pos (List.mem_map.mpr ⟨p, hp, hpt⟩), if_true, List.map, Heartbeat.run_env1, Heartbeat.envStep, hta, e1]
        rcases hcase with ⟨hfin, _⟩ | ⟨hfin, hw⟩
        · simp [hfin]
        · by_cases hwt : p.2.state = .waiting
          · exact nomatch hacc _ (.state tid .running vals p.2 hw (by simp [hwt]))
          · simp [hfin, hwt]
    · have := refused_guarded P c h a ha hlive tid
        (fun t0 hw => nomatch hacc _ (.state tid st vals t0 hw (by simp [hrun]))) (fun n => .finish n st)
        (fun tr n x hx hf => by simp only [Heartbeat.envStep, Heartbeat.guarded, hx, hf]; split <;> rfl)
      simpa [callActs, callOps, hrun] using this
  | setTrialUserAttr tid k v =>
    exact refused_guarded P c h a ha hlive tid (fun t0 hw => nomatch hacc _ (.userAttr tid k v t0 hw)) (fun n => .setUserAttr n k v)
      (fun tr n x hx hf => by simp [Heartbeat.envStep, Heartbeat.guarded, hx, hf])
  | setTrialSystemAttr tid k v =>
    exact refused_guarded P c h a ha hlive tid (fun t0 hw => nomatch hacc _ (.systemAttr tid k v t0 hw)) (fun n => .setSysAttr n k v)
      (fun tr n x hx hf => by simp [Heartbeat.envStep, Heartbeat.guarded, hx, hf])
  | _ => rfl

theorem accepted_sim (P : Params) (c : Cfg) (h : RInv P c) (op : Op) (hwf : WfOp op) (hok : EnvOk P c op) (b : Bool)
    (a : Spec) (r : Spec × Out) (hr : Storage.step a (withRaised op b) = r) (F : CallFacts P c (Rdb.step c.hs.db op).1 a r.1)
    (hal : Allowed (Rdb.step c.hs.db op).2 r.2) (hw : Wrote a (withRaised op b) r) :
    absCfg P (c.setDb (Rdb.step c.hs.db op).1) = Heartbeat.run (absParams P) (absCfg P c) (callActs P c op) ∧
    RInv P (c.setDb (Rdb.step c.hs.db op).1) := by
  cases op with
  | createStudy | setStudyUserAttr | setStudySystemAttr => cases hw; exact frame_sim P c h _ a _ F rfl
  | deleteStudy s => exact hok.elim
  | createTrial s tmpl ir =>
    cases hw with
    | createTrial _ _ _ st hs hnc =>
      by_cases hsid : s = P.sid
      · subst hsid
        have hL' := (trialsOf_appendTrial a (mkTrial P.sid (a.trialsOf P.sid).length tmpl) P.sid).trans
          (by rw [mkTrial_study, beq_self_eq_true, if_pos rfl])
        cases tmpl with
        | none =>
          obtain ⟨h1, h2⟩ := append_sim P c h _ a _ F _ hL' (wfSys_unreserved P.codec [] List.Pairwise.nil (fun p hp => by cases hp))
          exact ⟨by rw [h1, recOf_fresh]; simp [callActs, callOps, Heartbeat.run_env1, Heartbeat.envStep], h2⟩
        | some t =>
          obtain ⟨hwait, hpar, hres⟩ := hok rfl
          obtain ⟨h1, h2⟩ := append_sim P c h _ a _ F _ hL' (wfSys_unreserved P.codec t.systemAttrs hwf.2.2.1 hres)
          exact ⟨by rw [h1, recOf_enqueued P.codec _ _ t hwait hpar hres]; simp [callActs, callOps, Heartbeat.run_env1, Heartbeat.envStep], h2⟩
      · have := frame_sim P c h _ a _ F ((trialsOf_appendTrial a _ P.sid).trans (by simp [mkTrial_study, hsid]))
        cases tmpl <;> simpa [callActs, callOps, hsid, Heartbeat.run] using this
  | setTrialParam tid name p ir =>
    cases hw with
    | param _ _ _ _ t st hw =>
      have hres : (Rdb.step c.hs.db (.setTrialParam tid name p ir)).2 = .out .unit := hal
      have := rewrite_sim P c h _ a _ F tid t hw rfl (fun _ => rfl)
        (fun x => { x with core := { x.core with params := x.core.params.set name (ptok p) } }) (fun n => [.setParam n name (ptok p)])
        (fun _ _ n x hx _ hf => Heartbeat.run_guarded _ _ _ n _ x rfl hx hf)
        (fun _ x => by simp only [absTrial, recOf, map_set_tok]) (fun _ hw => hw)
      simp only [callActs, callOps, hres, and_true]
      exact this
  | setTrialStateValues tid st vals =>
    cases hw with
    | claimRefused _ _ t hw hnw =>
      obtain ⟨h1, h2⟩ := frame_sim P c h _ a _ F rfl
      exact ⟨h1.trans (refused_acts P c h a F.abs F.live _ hok b (by rw [hr]; exact .inr (.inl rfl)) (by rw [hr]; exact hal)), h2⟩
    | state _ _ _ t hw hacc =>
      refine rewrite_sim P c h _ a _ F tid t hw rfl (fun _ => rfl) (Heartbeat.setState st)
        (fun n => if st = .running then [.claim n] else [.finish n st]) ?_ (fun _ _ => rfl) (fun _ hw => hw)
      intro hm tr n x hx hs hf
      by_cases hrun : st = .running
      · -- the claim of `ask`: accepted, so the trial was WAITING
        subst hrun
        have hwt : x.core.state = .waiting := by rw [hs]; simpa using hacc
        simp [Heartbeat.run_env1, Heartbeat.envStep, hx, hwt, TState.isFinished]
      · -- the finish of `tell`
        have hfin : st.isFinished = true := by have := hok hm; cases st <;> simp_all [TState.isFinished]
        simp [hrun, Heartbeat.run_env1, Heartbeat.envStep, Heartbeat.guarded_unfinished _ _ _ x hx hf, hfin]
  | setTrialInter tid stp v =>
    cases hw with
    | inter _ _ _ t hw =>
      have := rewrite_sim P c h _ a _ F tid t hw rfl (fun _ => rfl) (fun x => x) (fun _ => [])
        (fun _ tr n x _ _ _ => by rw [updAt_id]; rfl) (fun _ _ => rfl) (fun _ hw => hw)
      simpa [callActs, callOps] using this
  | setTrialUserAttr tid k v =>
    cases hw with
    | userAttr _ _ _ t hw =>
      exact rewrite_sim P c h _ a _ F tid t hw rfl (fun _ => rfl)
        (fun x => { x with core := { x.core with userAttrs := x.core.userAttrs.set k v } }) (fun n => [.setUserAttr n k v])
        (fun _ _ n x hx _ hf => Heartbeat.run_guarded _ _ _ n _ x rfl hx hf)
        (fun _ _ => rfl) (fun _ hw => hw)
  | setTrialSystemAttr tid k v =>
    cases hw with
    | systemAttr _ _ _ t hw =>
      refine rewrite_sim P c h _ a _ F tid t hw rfl (fun _ => rfl)
        (fun x => { x with core := { x.core with otherSys := x.core.otherSys.set k v } }) (fun n => [.setSysAttr n k v])
        (fun _ _ n x hx _ hf => Heartbeat.run_guarded _ _ _ n _ x rfl hx hf)
        ?_ ?_
      · intro hm q
        obtain ⟨h1, h2⟩ := reserved_ne (hok hm)
        simp only [absTrial, recOf, AList.get?_set_other _ _ _ _ h1, AList.get?_set_other _ _ _ _ h2]
        rw [AList.filter_set _ _ _ (fun x => !reserved x)]
        simp [hok hm]
      · intro hm hw
        obtain ⟨h1, h2⟩ := reserved_ne (hok hm)
        refine ⟨distinct_set _ _ _ hw.keys, ?_, ?_⟩
        · intro tok; simp only; rw [AList.get?_set_other _ _ _ _ h1]; exact hw.failed tok
        · intro tok; simp only; rw [AList.get?_set_other _ _ _ _ h2]; exact hw.history tok
  | _ => cases hw

theorem call_sim (P : Params) (c : Cfg) (h : RInv P c) (op : Op) (hwf : WfOp op) (hok : EnvOk P c op) :
    absCfg P (step P c (.call op)) = Heartbeat.run (absParams P) (absCfg P c) (callActs P c op) ∧ RInv P (step P c (.call op)) := by
  obtain ⟨a, ha, hlive⟩ := h.abs
  obtain ⟨F, hal⟩ := call_facts P c a ha hlive op hwf (by rintro s rfl; exact hok)
  rw [step_call]
  generalize raisedValueError (Rdb.step c.hs.db op).2 = b at F hal
  rcases Storage.step_wrote a (withRaised op b) with hw | ⟨hsame, hno⟩
  · exact accepted_sim P c h op hwf hok b a _ rfl F hal hw
  · obtain ⟨h1, h2⟩ := frame_sim P c h _ a _ F (by rw [hsame])
    exact ⟨h1.trans (refused_acts P c h a ha hlive op hok b (hno.symm.imp_right .inr) hal), h2⟩

end OptunaVerif.RdbHb
