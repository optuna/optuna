import OptunaVerif.Lemmas.InMemorySteps2
/-! In-memory refinement, continued: `_update_cache` (`updateCache_ok`: it never faults and re-establishes the
best-trial cache), `create_new_trial`, and the write of `set_trial_state_values` (`stsv_write`; the method itself is
in `InMemorySteps4`). -/
namespace OptunaVerif.InMemory
open OptunaVerif.Storage

theorem getTrial_of (m : State) (hS : InvS m) (sid num tid : Nat) (si : StudyInfo) (t : TrialS)
    (hsi : m.studies.get? sid = some si) (ht : si.trials[num]? = some (tid, t)) :
    getTrial m tid = .ok { sid := sid, num := num, id := tid, t := t } :=
  (getTrial_ok_iff m tid _).2 ⟨(hS.tmap tid sid num).2 ⟨si, t, hsi, ht⟩, si, hsi, ht⟩

theorem goodVals_elim (vs : Option (List XVal)) (h : goodVals vs = true) : ∃ v, vs = some [v] ∧ v ≠ .nan := by
  unfold goodVals at h
  split at h
  · rename_i v; exact ⟨v, rfl, by simpa using h⟩
  · cases h

theorem value?_one (t : TrialS) (v : XVal) (h : t.values = some [v]) :
    value? t = .ok (some v) ∧ t.value0? = some v := by
  unfold value? TrialS.value0?; rw [h]; exact ⟨rfl, rfl⟩

theorem some_ne_some {j num : Nat} (h : j ≠ num) : some j ≠ some num := fun e => h (Option.some.inj e)

theorem dirs_single (d : Nat) (h : dirsOk [d] = true) : d = 1 ∨ d = 2 := by
  simp [dirsOk] at h; exact h

theorem inv_setBest (m1 : State) (hS : InvS m1) (sid tid : Nat) (si1 : StudyInfo)
    (hsi : m1.studies.get? sid = some si1) (hoth : OthersOk m1 sid)
    (hnew : CacheOk (m1.prevWaiting.get? sid) { si1 with bestTrialId := some tid } none) :
    InvS (setBest m1 sid tid) ∧ InvC (setBest m1 sid tid) ∧ (∀ s, Rel m1 s → Rel (setBest m1 sid tid) s) :=
  ⟨invS_upd (fun si => { si with bestTrialId := some tid }) hS hsi rfl rfl rfl,
    invC_of_here (hoth.upd rfl (fun _ _ => rfl)) (NMap.get?_upd_self hsi _) hnew,
    fun _ hR => rel_upd_same (fun si => { si with bestTrialId := some tid }) hS hR hsi rfl rfl⟩

theorem bestOk_of {si : StudyInfo} {b j : Nat} {t : TrialS} (hb : si.bestTrialId = some b)
    (hj : si.trials[j]? = some (b, t)) (hc : t.state = .complete)
    (hdom : ∀ d, si.directions = [d] → Dominates d si.trials none t) : BestOk si none := by
  refine ⟨fun h => ?_, fun b' hb' => ?_⟩
  · rw [hb] at h; cases h
  · rw [hb] at hb'; cases hb'; exact ⟨j, t, by simp, hj, hc, hdom⟩

theorem dominates_of {d : Nat} {l : List (Nat × TrialS)} {num : Nat} {p : Nat × TrialS} {t : TrialS} {v w : XVal}
    (hp : l[num]? = some p) (hw : p.2.value0? = some w) (hv : t.value0? = some v) (hnum : betterEq d v w = true)
    (hoth : ∀ (k : Nat) q w', k ≠ num → l[k]? = some q → q.2.state = .complete → q.2.value0? = some w' →
      betterEq d v w' = true) : Dominates d l none t := by
  refine ⟨v, hv, fun k q w' _ hq hqc hqw => ?_⟩
  by_cases hk : k = num
  · rw [hk, hp] at hq; cases hq
    rw [hw] at hqw; cases hqw
    exact hnum
  · exact hoth k q w' hk hq hqc hqw

theorem updateCache_ok (m1 : State) (hS : InvS m1) (sid num tid : Nat) (si1 : StudyInfo) (t : TrialS)
    (hsi : m1.studies.get? sid = some si1) (ht : si1.trials[num]? = some (tid, t))
    (hoth : OthersOk m1 sid) (hhere : CacheOk (m1.prevWaiting.get? sid) si1 (some num)) :
    ∃ m2, updateCache m1 tid sid = .ok m2 ∧ InvS m2 ∧ InvC m2 ∧ (∀ s, Rel m1 s → Rel m2 s) := by
  have hgt := getTrial_of m1 hS sid num tid si1 t hsi ht
  have same : BestOk si1 none → ∃ m2, (Except.ok m1 : Except Err State) = .ok m2 ∧ InvS m2 ∧ InvC m2 ∧
      (∀ s, Rel m1 s → Rel m2 s) := by
    intro hb
    exact ⟨m1, rfl, hS, invC_of_here hoth hsi ⟨hhere.cursor, hhere.good, hb⟩, fun _ h => h⟩
  have change : (∀ d, si1.directions = [d] → Dominates d si1.trials none t) → t.state = .complete →
      ∃ m2, (Except.ok (setBest m1 sid tid) : Except Err State) = .ok m2 ∧ InvS m2 ∧ InvC m2 ∧
      (∀ s, Rel m1 s → Rel m2 s) := by
    intro hdom hc
    obtain ⟨h1, h2, h3⟩ := inv_setBest m1 hS sid tid si1 hsi hoth
      ⟨hhere.cursor, hhere.good, bestOk_of (si := { si1 with bestTrialId := some tid }) rfl ht hc hdom⟩
    exact ⟨_, rfl, h1, h2, h3⟩
  unfold updateCache
  rw [hgt]; dsimp only
  by_cases hc : t.state = .complete
  · have hne : (t.state != .complete) = false := by rw [hc]; decide
    rw [hne]; simp only [Bool.false_eq_true, if_false]
    rw [hsi]; dsimp only
    cases hb : si1.bestTrialId with
    | none =>
      -- the only COMPLETE trial
      dsimp only
      refine change (fun d hd => ?_) hc
      obtain ⟨v, hv, hnan⟩ := goodVals_elim _ (hhere.good d hd num (tid, t) ht hc)
      exact dominates_of ht (value?_one t v hv).2 (value?_one t v hv).2 (betterEq_refl d v hnan)
        fun k q _ hk hq hqc _ => absurd hqc (hhere.best.none_ hb k q (some_ne_some hk) hq)
    | some b =>
      dsimp only
      obtain ⟨j, tb, hj, hjt, hbc, hdom⟩ := hhere.best.some_ b hb
      cases hd : si1.directions with
      | nil =>
        have := hS.dirs sid si1 hsi
        rw [hd] at this; simp [dirsOk] at this
      | cons d rest =>
        cases rest with
        | cons d2 rest2 =>
          dsimp only
          exact same (bestOk_of hb hjt hbc fun d' hd' => by rw [hd] at hd'; cases hd')
        | nil =>
          dsimp only
          rw [getTrial_of m1 hS sid j b si1 tb hsi hjt]; dsimp only
          obtain ⟨bv, hbv, hbnan⟩ := goodVals_elim _ (hhere.good d hd j (b, tb) hjt hbc)
          obtain ⟨nv, hnv, hnnan⟩ := goodVals_elim _ (hhere.good d hd num (tid, t) ht hc)
          rw [(value?_one tb bv hbv).1]; dsimp only
          rw [(value?_one t nv hnv).1]; dsimp only
          obtain ⟨v, hv, hall⟩ := hdom d hd
          rw [(value?_one tb bv hbv).2] at hv; cases hv
          have hd12 : d = 1 ∨ d = 2 := by
            have := hS.dirs sid si1 hsi
            rw [hd] at this; exact dirs_single d this
          -- the two outcomes, for either direction
          have stays : betterEq d bv nv = true → BestOk si1 none := fun hbn =>
            bestOk_of hb hjt hbc fun d' hd' => by
              rw [hd] at hd'; cases hd'
              exact dominates_of ht (value?_one t nv hnv).2 (value?_one tb bv hbv).2 hbn
                fun k q w hk => hall k q w (some_ne_some hk)
          have moves : betterEq d nv bv = true → ∀ d', si1.directions = [d'] → Dominates d' si1.trials none t := by
            intro hnb d' hd'
            rw [hd] at hd'; cases hd'
            refine dominates_of ht (value?_one t nv hnv).2 (value?_one t nv hnv).2 (betterEq_refl d nv hnnan)
              fun k q w hk hq hqc hqw => ?_
            have h1 := hall k q w (some_ne_some hk) hq hqc hqw
            unfold betterEq at h1 hnb ⊢
            split
            · rename_i hd1; simp only [hd1, if_true] at h1 hnb; exact xle_trans hnb h1
            · rename_i hd1; simp only [hd1] at h1 hnb; exact xle_trans h1 hnb
          rcases hd12 with hd1 | hd2
          · subst hd1
            have : ((1 : Nat) == 2) = false := by decide
            simp only [this, Bool.false_eq_true, if_false]
            cases hf : flt nv bv with
            | true =>
              simp only [if_true]
              refine change (moves ?_) hc
              simp only [betterEq, beq_self_eq_true, if_true]; exact flt_true _ _ hf
            | false =>
              simp only [Bool.false_eq_true, if_false]
              apply same; apply stays
              simp only [betterEq, beq_self_eq_true, if_true]; exact flt_false _ _ hnnan hbnan hf
          · subst hd2
            have h21 : ((2 : Nat) == 1) = false := by decide
            simp only [beq_self_eq_true, if_true]
            cases hf : flt bv nv with
            | true =>
              simp only [if_true]
              refine change (moves ?_) hc
              simp only [betterEq, h21, Bool.false_eq_true, if_false]; exact flt_true _ _ hf
            | false =>
              simp only [Bool.false_eq_true, if_false]
              apply same; apply stays
              simp only [betterEq, h21, Bool.false_eq_true, if_false]; exact flt_false _ _ hbnan hnnan hf
  · have hne : (t.state != .complete) = true := by simpa using hc
    rw [hne]; simp only [if_true]
    apply same
    exact bestOk_drop_ex si1 num hhere.best (by intro p hp; rw [ht] at hp; cases hp; exact hc)

theorem invS_appendTrial (m : State) (hS : InvS m) (sid : Nat) (si : StudyInfo) (hsi : m.studies.get? sid = some si)
    (t : TrialS) (hnumber : t.number = si.trials.length) (hstudy : t.study = sid) :
    InvS { m with
        nextTrialId := m.nextTrialId + 1,
        tidMap := m.tidMap.set m.nextTrialId (sid, si.trials.length),
        studies := m.studies.upd sid (fun x => { x with trials := x.trials ++ [(m.nextTrialId, t)] }) } := by
  refine hS.point (sid := sid) (new? := some { si with trials := si.trials ++ [(m.nextTrialId, t)] })
    (NMap.get?_upd_at hsi _) ?_ (Nat.le_refl _) (Nat.le_succ _) ?_ ?_ (fun _ _ _ => Iff.rfl) ?_ ?_
  · show ((NMap.upd m.studies sid _).map (·.1)).Pairwise (· < ·)
    rw [NMap.keys_upd]; exact hS.sKeys
  · rintro x ⟨⟩
    refine ⟨hS.sBound sid si hsi, hS.dirs sid si hsi, fun num tid t' ht' => ?_⟩
    rw [getElem?_snoc] at ht'
    split at ht'
    · next hn => cases ht'; exact ⟨hn ▸ hnumber, hstudy, Nat.lt_succ_self _⟩
    · obtain ⟨h1, h2, h3⟩ := hS.tfields sid si num tid t' hsi ht'
      exact ⟨h1, h2, Nat.lt_succ_of_lt h3⟩
  · intro name
    show m.nameToId.get? name = some sid ↔ _
    rw [hS.names, hsi]; simp
  · -- the new id is sent to the new position, an old id to its old one
    intro tid num
    show NMap.get? (NMap.set m.tidMap m.nextTrialId (sid, si.trials.length)) tid = some (sid, num) ↔ _
    rw [NMap.get?_set]
    simp only [Option.some.injEq, exists_and_left, exists_eq_left', getElem?_snoc]
    by_cases htid : tid = m.nextTrialId
    · subst htid
      simp only [if_true, Option.some.injEq, Prod.mk.injEq, true_and]
      refine ⟨fun e => ⟨t, by rw [if_pos e.symm]⟩, fun ⟨t', ht'⟩ => ?_⟩
      split at ht'
      · next hn => exact hn.symm
      · exact absurd (hS.tfields sid si num _ t' hsi ht').2.2 (Nat.lt_irrefl _)
    · rw [if_neg htid, hS.tmap, hsi]
      simp only [Option.some.injEq, exists_and_left, exists_eq_left']
      refine exists_congr fun t' => ?_
      split
      · next hn => subst hn; simp [Ne.symm htid]
      · exact Iff.rfl
  · intro tid k num hk
    show NMap.get? (NMap.set m.tidMap m.nextTrialId (sid, si.trials.length)) tid = some (k, num) ↔ _
    rw [NMap.get?_set]
    split
    · next htid =>
      subst htid
      simp only [Option.some.injEq, Prod.mk.injEq, Ne.symm hk, false_and, false_iff]
      intro h
      obtain ⟨x, t', hx, ht'⟩ := (hS.tmap _ k num).1 h
      exact Nat.lt_irrefl _ (hS.tfields k x num _ t' hx ht').2.2
    · exact Iff.rfl

theorem createTrial_ok (m : State) (s : Spec) (hI : Inv m) (hR : Rel m s) (sid : Nat) (si : StudyInfo)
    (hsi : m.studies.get? sid = some si) (tmpl : Option Template)
    (hgoodNew : ∀ d, si.directions = [d] → (mkTrial sid si.trials.length tmpl).state = .complete →
      goodVals (mkTrial sid si.trials.length tmpl).values = true) :
    ∃ m2, updateCache { m with
        nextTrialId := m.nextTrialId + 1,
        tidMap := m.tidMap.set m.nextTrialId (sid, si.trials.length),
        studies := m.studies.upd sid (fun x => { x with trials := x.trials ++ [(m.nextTrialId, mkTrial sid si.trials.length tmpl)] }) }
        m.nextTrialId sid = .ok m2 ∧ Inv m2 ∧
      Rel m2 { s with trials := s.trials ++ [mkTrial sid (s.trialsOf sid).length tmpl] } := by
  have hnumber := mkTrial_number sid si.trials.length tmpl
  have hstudy := mkTrial_study sid si.trials.length tmpl
  rw [hR.trialsOf sid si hsi]
  generalize mkTrial sid si.trials.length tmpl = t at hgoodNew hnumber hstudy ⊢
  have hget := NMap.get?_upd_at hsi (fun x => { x with trials := x.trials ++ [(m.nextTrialId, t)] })
  obtain ⟨c, hc, hle, _⟩ := (hI.2.cacheOk hsi).cursor
  obtain ⟨m2, hm2, hS2, hC2, hrel⟩ := updateCache_ok _ (invS_appendTrial m hI.1 sid si hsi t hnumber hstudy) sid
    si.trials.length m.nextTrialId { si with trials := si.trials ++ [(m.nextTrialId, t)] } t
    ((hget sid).trans (if_pos rfl)) List.getElem?_concat_length ((hI.2.othersOk sid).upd rfl fun _ _ => rfl)
    (by
      show CacheOk (m.prevWaiting.get? sid) _ _
      rw [hc]
      refine CacheOk.write (hc ▸ hI.2.cacheOk hsi) (fun j hj => by rw [getElem?_snoc, if_neg hj]) (by simp)
        (fun _ hq => absurd (getElem?_lt_length hq) (Nat.lt_irrefl _)) (Nat.le_refl c) ?_
      intro p hp
      rw [List.getElem?_concat_length] at hp
      cases hp
      exact ⟨fun _ => hle, hgoodNew⟩)
  refine ⟨m2, hm2, ⟨hS2, hC2⟩, hrel _ ⟨?_, ?_, fun k x hx => ?_, fun t' ht' => ?_⟩⟩
  · exact studies_upd_same (s := s) _ hI.1 hR hsi rfl
  · show (s.trials ++ [t]).length = m.nextTrialId + 1
    rw [List.length_append, hR.ntrials]; rfl
  · show ({ s with trials := s.trials ++ [t] } : Spec).trialsOf k = x.trials
    rw [trialsOf_appendTrial, hstudy, hR.ntrials]
    rcases NMap.point_cases hget hx with ⟨rfl, ⟨⟩⟩ | ⟨hk, hx'⟩
    · rw [beq_self_eq_true, if_pos rfl, hR.trialsOf k si hsi]
    · rw [if_neg (by simpa using Ne.symm hk), List.append_nil]
      exact hR.trialsOf k x hx'
  · show t'.study < s.studies.length
    simp only [List.mem_append, List.mem_singleton] at ht'
    rcases ht' with h | h
    · exact hR.bound t' h
    · rw [h, hstudy, hR.nstudies]; exact hI.1.sBound sid si hsi

theorem sim_createTrial (m : State) (s : Spec) (hI : Inv m) (hR : Rel m s) (sid : Nat) (tmpl : Option Template)
    (ir : Bool) (hL : Legal s (.createTrial sid tmpl ir) = true) : Sim m s (.createTrial sid tmpl ir) := by
  unfold Sim
  cases h : m.studies.get? sid with
  | none =>
    simp only [step, h, opFor, specStep, Storage.step, study?_none m s hI.1 hR sid h]
    exact ⟨hI, hR, accepts_refl _ _⟩
  | some si =>
    have hst := study?_some m s hI.1 hR sid si h
    have hgoodNew : ∀ d, si.directions = [d] → (mkTrial sid si.trials.length tmpl).state = .complete →
        goodVals (mkTrial sid si.trials.length tmpl).values = true := by
      intro d hd hc
      cases tmpl with
      | none => simp [mkTrial] at hc
      | some tm =>
        simp only [Legal, hst] at hL
        have hlen : si.pub.directions.length = 1 := by simp [StudyInfo.pub, hd]
        have hc' : tm.state = .complete := hc
        simp [hc', hlen] at hL
        exact hL
    obtain ⟨m2, hm2, hI2, hR2⟩ := createTrial_ok m s hI hR sid si h tmpl hgoodNew
    have hstep : step m (.createTrial sid tmpl ir) = (m2, .newId m.nextTrialId) := by
      simp only [step, h]; rw [hm2]
    rw [hstep]
    have hb : (Out.newId m.nextTrialId == Out.err Err.valueError) = false := by simp
    simp only [opFor, hb, specStep, Storage.step, hst, Bool.false_and, Bool.false_eq_true, if_false]
    refine ⟨hI2, hR2, ?_⟩
    rw [hR.ntrials]; exact accepts_refl _ _

/-- the new record written by `set_trial_state_values` -/
def stsvUpd (st : TState) (values : Option (List XVal)) (t : TrialS) : TrialS :=
  { t with state := st, values := values.or t.values, hasStart := t.hasStart || st == .running,
           hasComplete := t.hasComplete || st.isFinished }

/-- `_set_trial` of the record with the new state.  The caches of the study are right with the written position left
out, for any cursor entry `c'` below the old one that the new record respects: everything is in place for
`_update_cache` / the cursor repair. -/
theorem stsv_write (m : State) (s : Spec) (hI : Inv m) (hR : Rel m s) (tid : Nat) (f : Found)
    (hu : getUpdatable m tid = .ok f) (st : TState) (values : Option (List XVal)) (si : StudyInfo)
    (hsi : m.studies.get? f.sid = some si)
    (hgoodNew : ∀ d, si.directions = [d] → st = .complete → goodVals (values.or f.t.values) = true) :
    InvS (setTrial m f.sid f.num (f.id, stsvUpd st values f.t)) ∧
    Rel (setTrial m f.sid f.num (f.id, stsvUpd st values f.t)) (s.updTrial tid (stsvUpd st values)) ∧
    (setTrial m f.sid f.num (f.id, stsvUpd st values f.t)).studies.get? f.sid =
      some { si with trials := si.trials.set f.num (tid, stsvUpd st values f.t) } ∧
    (si.trials.set f.num (tid, stsvUpd st values f.t))[f.num]? = some (tid, stsvUpd st values f.t) ∧
    ∀ c c', m.prevWaiting.get? f.sid = some c → c' ≤ c → (st = .waiting → c' ≤ f.num) →
      CacheOk (some c') { si with trials := si.trials.set f.num (tid, stsvUpd st values f.t) } (some f.num) := by
  obtain ⟨hget, _, hnf⟩ := getUpdatable_ok m s hI.1 hR tid f hu
  obtain ⟨hid, ⟨si', hsi', ht⟩, _⟩ := getTrial_ok m s hI.1 hR tid f hget
  rw [hsi] at hsi'; cases hsi'
  have hrel := rel_setTrial m s hI.1 hR tid f hget (stsvUpd st values) (fun _ => rfl)
  rw [hid] at hrel ⊢
  have get_eq : (si.trials.set f.num (tid, stsvUpd st values f.t))[f.num]? = some (tid, stsvUpd st values f.t) := by
    rw [List.getElem?_set]; simp [getElem?_lt_length ht]
  refine ⟨invS_setTrial m hI.1 f.sid f.num tid si f.t _ hsi ht rfl rfl, hrel, NMap.get?_upd_self hsi _, get_eq, ?_⟩
  intro c c' hc hle hw
  refine CacheOk.write (hc ▸ hI.2.cacheOk hsi) (fun j hj => by rw [List.getElem?_set]; simp [Ne.symm hj])
    (by simp) ?_ hle ?_
  · intro p hp hpc
    rw [ht] at hp; cases hp
    rw [hpc] at hnf; cases hnf
  · intro p hp
    rw [get_eq] at hp; cases hp
    exact ⟨hw, hgoodNew⟩

end OptunaVerif.InMemory
