import OptunaVerif.Lemmas.RdbBest
/-! Refinement, part 3: the frame for calls that rewrite one trial, and the calls that write one dict field of a trial
(`set_trial_user_attr`, `set_trial_system_attr`, `set_trial_intermediate_value`).  Core Lean only. -/
namespace OptunaVerif.Rdb
open OptunaVerif.Storage

theorem frozenStudy_eq (s : State) (h : Inv0 s) (row : StudyRow) :
    (frozenStudy s row).2 = StudyS.mk row.name ((Tbl.ofOwner s.dirs row.id).map (fun x => x.val))
      (Tbl.kv id s.sUser row.id) (Tbl.kv id s.sSys row.id) [] := by
  simp only [frozenStudy, Tbl.toDict_ofOwner id s.sUser s.nSUser h.sUser, Tbl.toDict_ofOwner id s.sSys s.nSSys h.sSys]

/-- `{v.step: decode(v)}` from the raw key/value list -/
def decoded {κ β : Type} (l : List (κ × Option β)) : List (κ × β) := l.filterMap (fun p => p.2.map (fun v => (p.1, v)))

theorem interView_eq (s : State) (tid : Nat) : s.interView tid = decoded (Tbl.kv decI s.inters tid) := by
  unfold State.interView decoded Tbl.kv
  rw [List.filterMap_map]
  rfl

theorem decoded_kvSet {κ β : Type} [DecidableEq κ] (l : List (κ × Option β)) (k : κ) (v : β)
    (h : ∀ p ∈ l, p.2.isSome = true) : decoded (kvSet l k (some v)) = kvSet (decoded l) k v := by
  induction l with
  | nil => rfl
  | cons a t ih =>
    obtain ⟨k', o⟩ := a
    obtain ⟨w, hw⟩ := Option.isSome_iff_exists.mp (h (k', o) (by simp))
    simp only at hw
    subst hw
    have iht := ih (fun p hp => h p (List.mem_cons_of_mem _ hp))
    by_cases hk : k' = k
    · simp [kvSet, hk, decoded]
    · simp only [kvSet, hk, if_false, decoded, List.filterMap_cons, Option.map_some] at iht ⊢
      rw [iht]

theorem distinct_decoded {κ β : Type} (l : List (κ × Option β)) (h : distinctKeys l) : distinctKeys (decoded l) :=
  List.Pairwise.filterMap _ (fun a a' hne b hb b' hb' => by
    obtain ⟨_, _, rfl⟩ := Option.map_eq_some_iff.mp hb
    obtain ⟨_, _, rfl⟩ := Option.map_eq_some_iff.mp hb'
    exact hne) h

theorem kv_decI_some (s : State) (h : Inv0 s) (tid : Nat) : ∀ p ∈ Tbl.kv decI s.inters tid, p.2.isSome = true := by
  intro p hp
  obtain ⟨x, hx, e⟩ := List.mem_map.mp hp
  rw [← e]
  exact h.intersDec x ((Tbl.mem_ofOwner _ _ _).mp hx).1

theorem rowView_congr (s s' : State) (row : TrialRow)
    (h1 : Tbl.ofOwner s'.values row.id = Tbl.ofOwner s.values row.id)
    (h2 : Tbl.ofOwner s'.params row.id = Tbl.ofOwner s.params row.id)
    (h3 : Tbl.ofOwner s'.tUser row.id = Tbl.ofOwner s.tUser row.id)
    (h4 : Tbl.ofOwner s'.tSys row.id = Tbl.ofOwner s.tSys row.id)
    (h5 : Tbl.ofOwner s'.inters row.id = Tbl.ofOwner s.inters row.id) : s'.rowView row = s.rowView row := by
  simp only [State.rowView, State.valuesView, State.interView, Tbl.kv, h1, h2, h3, h4, h5]

theorem abs_updTrial (r r' : State) (a : Spec) (h : Abs r a) (hinv : Inv r') (tid : Nat) (f : TrialS → TrialS)
    (hf : ∀ t, (f t).study = t.study)
    (hsv : ∀ i, r'.studyView i = r.studyView i)
    (hn : r'.nStudy = r.nStudy ∧ r'.nTrial = r.nTrial)
    (hpd : ∀ sid name d1, PDist r sid name d1 → PDist r' sid name d1) (hpc : PC r')
    (htv : ∀ i, r'.trialView i = if i = tid then (r.trialView i).map f else r.trialView i)
    (hwf : ∀ t, a.trial? tid = some t → WfTrial (f t)) :
    Abs r' (a.updTrial tid f) := by
  have htr : ∀ i, (a.updTrial tid f).trial? i = if i = tid then (a.trial? i).map f else a.trial? i :=
    fun i => trial?_updTrial a tid i f hf
  have hall : ∀ i t, (a.updTrial tid f).trial? i = some t → WfTrial t := by
    intro i t hi
    rw [htr i] at hi
    split at hi
    · rename_i e
      subst e
      obtain ⟨t0, ht0, e⟩ := Option.map_eq_some_iff.mp hi
      exact e ▸ hwf t0 ht0
    · exact h.wfTrial i t hi
  refine ⟨hinv, hn.1 ▸ h.nStudies, ?_, fun sid => (h.study sid).trans (hsv sid).symm,
    fun i => by rw [htr i, htv i, h.trial i], ?_, fun sid st name d1 hs hp => hpd sid name d1 (h.pdist sid st name d1 hs hp),
    hpc, fun i t hi => (hall i t hi).1, fun i t l hi => (hall i t hi).2 l, h.dirsOk⟩
  · rw [updTrial_trials, updAt_length, hn.2]; exact h.nTrials
  · intro i t hi
    rw [updTrial_trials, updAt_getElem?] at hi
    split at hi
    · obtain ⟨t0, hg, e⟩ := Option.map_eq_some_iff.mp hi
      exact e ▸ (hf t0).symm ▸ h.bound i t0 hg
    · exact h.bound i t hi

theorem find?_map_id (l : List TrialRow) (g : TrialRow → TrialRow) (hg : ∀ r, (g r).id = r.id) (tid : Nat) :
    (l.map g).find? (fun r => r.id == tid) = (l.find? (fun r => r.id == tid)).map g := by
  rw [List.find?_map]
  congr 2
  funext r
  exact congrArg (· == tid) (hg r)

theorem trialView_of_map (r r' : State) (tid : Nat) (g : TrialRow → TrialRow) (f : TrialS → TrialS)
    (ht : r'.trials = r.trials.map g) (hgid : ∀ x, (g x).id = x.id)
    (hrow : ∀ row ∈ r.trials, r'.rowView (g row) = if row.id = tid then f (r.rowView row) else r.rowView row) (i : Nat) :
    r'.trialView i = if i = tid then (r.trialView i).map f else r.trialView i := by
  unfold State.trialView State.trialRow?
  rw [ht, find?_map_id _ _ hgid]
  cases hq : r.trials.find? (fun x => x.id == i) with
  | none => simp
  | some row =>
    have hid : row.id = i := by simpa using List.find?_some hq
    simp only [Option.map_some, hrow row (List.mem_of_find?_eq_some hq), hid]
    split <;> rfl

theorem trialView_of_rowView (r r' : State) (tid : Nat) (f : TrialS → TrialS) (ht : r'.trials = r.trials)
    (hrow : ∀ row, r'.rowView row = if row.id = tid then f (r.rowView row) else r.rowView row) (i : Nat) :
    r'.trialView i = if i = tid then (r.trialView i).map f else r.trialView i :=
  trialView_of_map r r' tid id f (by rw [ht, List.map_id]) (fun _ => rfl) (fun row _ => hrow row) i

theorem sim_setTrialAttr (sys : Bool) (r : State) (a : Spec) (h : Abs r a) (tid : Nat) (k v : String) :
    StepOk r a (if sys then .setTrialSystemAttr tid k v else .setTrialUserAttr tid k v) := by
  unfold StepOk
  -- the user and the system table are treated alike; the upsert facts of both are at hand
  have hkU := fun i => Tbl.kv_upsertConflict id r.tUser r.nTUser h.inv.1.tUser tid k v i
  have hkS := fun i => Tbl.kv_upsertConflict id r.tSys r.nTSys h.inv.1.tSys tid k v i
  have hI := fun htid => inv0_putTAttrs sys r h.inv.1 tid htid [(k, v)]
  cases sys
  all_goals
    simp only [Bool.false_eq_true, if_false, if_true, withRaised]
    simp only [step, Storage.step, nc, setTAttrNC]
    rcases updatable_abs r a h tid with ⟨row, h1, h2, h3⟩ | ⟨e, h1, h2⟩
    · simp only [h1, h3, commit, Bool.false_eq_true, if_false, if_true]
      refine ⟨?_, by simp [Allowed]⟩
      refine abs_updTrial r _ a h (by exact ⟨hI (mem_trialIds_of_updatable r h.inv.1 tid row h1), h.inv.2⟩) tid _ ?_
        (fun _ => rfl) ⟨rfl, rfl⟩ (fun _ _ _ hp => hp) h.pc ?_ (h.wfTrial tid)
      · intro _; rfl
      · refine trialView_of_rowView r _ tid _ (by rfl) ?_
        intro row'
        by_cases e : row'.id = tid <;>
          simp only [State.rowView, State.valuesView, State.interView, hkU, hkS, kvSet_string, id_eq, e, if_true, if_false]
    · simp only [h1, h2, commit]
      exact ⟨h, by simp [Allowed]⟩

theorem sim_setTrialInter (r : State) (a : Spec) (h : Abs r a) (tid : Nat) (stp : Int) (v : XVal) :
    StepOk r a (.setTrialInter tid stp v) := by
  unfold StepOk
  simp only [withRaised]
  simp only [step, Storage.step, nc, setInterNC, Tbl.upsert_eq r.inters r.nInter h.inv.1.inters]
  rcases updatable_abs r a h tid with ⟨row, h1, h2, h3⟩ | ⟨e, h1, h2⟩
  · simp only [h1, h3, commit]
    refine ⟨?_, by simp [Allowed]⟩
    refine abs_updTrial r _ a h
      (by exact ⟨inv0_putInters r h.inv.1 tid (mem_trialIds_of_updatable r h.inv.1 tid row h1) [(stp, v)], h.inv.2⟩) tid
      (fun t => { t with inter := setInter t.inter stp v }) (fun _ => rfl) (fun _ => rfl) ⟨rfl, rfl⟩
      (fun _ _ _ hp => hp) h.pc ?_ (h.wfTrial tid)
    · refine trialView_of_rowView r _ tid _ (by rfl) ?_
      intro row'
      by_cases e : row'.id = tid <;>
        simp only [State.rowView, State.valuesView, interView_eq, Tbl.kv_upsertConflict decI r.inters r.nInter h.inv.1.inters,
          e, if_true, if_false, decI_encI, decoded_kvSet _ _ _ (kv_decI_some r h.inv.1 tid), kvSet_int]
  · simp only [h1, h2, commit]
    exact ⟨h, by simp [Allowed]⟩

end OptunaVerif.Rdb
