import OptunaVerif.Model.Storage
import OptunaVerif.Lemmas.Basic
/-! The lemma layer of the storage contract model `Model/Storage.lean`.  The observations `study?`, `trial?`,
`writable`, `trialsOf` / `trialsFrom`, `nameTaken`, `findIdx`, `Dist.compat` by themselves, and after each kind of state
change.  Last, what ONE call does (`Wrote`, `step_wrote`: the one case analysis of `step`; `Effect` its view by shape of the state
change) and what is read off it for every call.  A statement about every call is proved from `step_wrote` /
`step_effect`, not by unfolding `step`. -/
namespace OptunaVerif.C01
open OptunaVerif.Storage

/-- the study whose record the call may change (`create_new_study`: the slot it fills; `set_trial_param`: the
study of the trial, whose fixed-distribution table `paramDist` grows) -/
def addrStudy (s : Spec) : Op → Option Nat
  | .createStudy .. => some s.studies.length
  | .deleteStudy sid | .setStudyUserAttr sid _ _ | .setStudySystemAttr sid _ _ => some sid
  | .setTrialParam tid _ _ _ => (s.trials[tid]?).map (·.study)
  | _ => none

/-- the trial whose record the call may change (`create_new_trial`: the slot it fills) -/
def addrTrial (s : Spec) : Op → Option Nat
  | .createTrial .. => some s.trials.length
  | .setTrialParam tid _ _ _ | .setTrialStateValues tid _ _ | .setTrialInter tid _ _
  | .setTrialUserAttr tid _ _ | .setTrialSystemAttr tid _ _ => some tid
  | _ => none

end OptunaVerif.C01

namespace OptunaVerif.Storage

def Op.reads : Op → Bool
  | .createStudy .. | .deleteStudy .. | .setStudyUserAttr .. | .setStudySystemAttr .. | .createTrial ..
  | .setTrialParam .. | .setTrialStateValues .. | .setTrialInter .. | .setTrialUserAttr .. | .setTrialSystemAttr .. => false
  | _ => true

theorem updTrial_trials (s : Spec) (tid : Nat) (f : TrialS → TrialS) :
    (s.updTrial tid f).trials = updAt s.trials tid f := rfl

theorem updStudy_trials (s : Spec) (sid : Nat) (f : StudyS → StudyS) :
    (s.updStudy sid f).trials = s.trials := rfl

theorem study?_eq (s : Spec) (sid : Nat) : s.study? sid = (s.studies[sid]?).join := rfl

/-- A deleted (or not yet created) slot: what `study?` says in terms of the raw list. -/
theorem study?_none_iff (s : Spec) (sid : Nat) :
    s.study? sid = none ↔ (s.studies[sid]? = none ∨ s.studies[sid]? = some none) := by
  unfold Spec.study?
  cases h : s.studies[sid]? with
  | none => simp
  | some o => cases o <;> simp


theorem study?_eq_some_iff (s : Spec) (sid : Nat) (st : StudyS) :
    s.study? sid = some st ↔ s.studies[sid]? = some (some st) := by
  unfold Spec.study?
  cases s.studies[sid]? with
  | none => simp
  | some o => cases o <;> simp

theorem nameTaken_iff (s : Spec) (name : String) :
    s.nameTaken name = true ↔ ∃ (i : Nat) (a : StudyS), s.study? i = some a ∧ a.name = name := by
  unfold Spec.nameTaken
  simp only [List.any_eq_true, study?_eq_some_iff]
  constructor
  · rintro ⟨o, ho, hn⟩
    cases o with
    | none => cases hn
    | some a =>
      obtain ⟨i, hi⟩ := List.getElem?_of_mem ho
      exact ⟨i, a, hi, by simpa using hn⟩
  · rintro ⟨i, a, hi, hn⟩
    exact ⟨some a, List.mem_of_getElem? hi, by simp [hn]⟩

theorem nameTaken_false_iff (s : Spec) (name : String) :
    s.nameTaken name = false ↔ ∀ (i : Nat) (a : StudyS), s.studies[i]? = some (some a) → a.name ≠ name := by
  rw [← Bool.not_eq_true, nameTaken_iff]
  simp only [study?_eq_some_iff]
  exact ⟨fun h i a hi hn => h ⟨i, a, hi, hn⟩, fun h ⟨i, a, hi, hn⟩ => h i a hi hn⟩

theorem trial?_some_iff (s : Spec) (tid : Nat) (t : TrialS) :
    s.trial? tid = some t ↔ s.trials[tid]? = some t ∧ (s.study? t.study).isSome = true := by
  unfold Spec.trial?
  cases h : s.trials[tid]? with
  | none => simp
  | some t' =>
    by_cases hl : (s.study? t'.study).isSome = true
    · simp only [hl, if_true, Option.some.injEq]
      constructor
      · intro e; subst e; exact ⟨rfl, hl⟩
      · intro e; exact e.1
    · simp only [hl]
      constructor
      · intro e; simp at e
      · intro e
        obtain ⟨e1, e2⟩ := e
        simp only [Option.some.injEq] at e1
        subst e1
        exact absurd e2 hl

theorem trial?_some {s : Spec} {tid : Nat} {t : TrialS} (h : s.trial? tid = some t) : s.trials[tid]? = some t :=
  ((trial?_some_iff s tid t).1 h).1

theorem writable_ok_iff (s : Spec) (tid : Nat) (t : TrialS) :
    s.writable tid = .ok t ↔ s.trial? tid = some t ∧ t.state.isFinished = false := by
  unfold Spec.writable
  cases h : s.trial? tid with
  | none => simp
  | some t' =>
    by_cases hf : t'.state.isFinished = true
    · simp only [hf, if_true]
      constructor
      · intro e; simp at e
      · intro e
        obtain ⟨e1, e2⟩ := e
        simp only [Option.some.injEq] at e1
        subst e1
        simp [hf] at e2
    · simp only [hf]
      constructor
      · intro e
        simp only [Bool.false_eq_true, if_false, Except.ok.injEq] at e
        subst e
        exact ⟨rfl, by simpa using hf⟩
      · intro e
        obtain ⟨e1, _⟩ := e
        simp only [Option.some.injEq] at e1
        subst e1
        simp


theorem updTrial_get_same (s : Spec) (tid : Nat) (f : TrialS → TrialS) (t0 : TrialS)
    (h : s.trials[tid]? = some t0) : (s.updTrial tid f).trials[tid]? = some (f t0) := by
  simp only [Spec.updTrial, updAt_getElem?, h, if_true, Option.map_some]

theorem updTrial_get_other (s : Spec) (tid tid' : Nat) (f : TrialS → TrialS) (hne : tid' ≠ tid) :
    (s.updTrial tid f).trials[tid']? = s.trials[tid']? := by
  simp only [Spec.updTrial, updAt_getElem?, hne, if_false]

theorem updTrial_const (s : Spec) (tid : Nat) (t : TrialS) (f : TrialS → TrialS) (h : s.trial? tid = some t) :
    s.updTrial tid (fun _ => f t) = s.updTrial tid f := by
  simp only [Spec.updTrial, updAt_const _ _ _ _ (trial?_some h)]

theorem updTrial_studies (s : Spec) (tid : Nat) (f : TrialS → TrialS) :
    (s.updTrial tid f).studies = s.studies := rfl

theorem updTrial_study? (s : Spec) (tid : Nat) (f : TrialS → TrialS) (sid : Nat) :
    (s.updTrial tid f).study? sid = s.study? sid := rfl

/-- What follows about membership, order, append and update is core's about `List.zipIdx` and `List.filter`. -/
theorem trialsFrom_eq (sid : Nat) (l : List TrialS) (i : Nat) :
    trialsFrom sid l i = ((l.zipIdx i).filter (·.1.study == sid)).map (fun p => (p.2, p.1)) := by
  induction l generalizing i with
  | nil => rfl
  | cons a r ih => rw [trialsFrom, ih, List.zipIdx_cons, List.filter_cons]; split <;> rfl

theorem mem_trialsFrom (sid : Nat) (l : List TrialS) (i tid : Nat) (t : TrialS) :
    (tid, t) ∈ trialsFrom sid l i ↔ ∃ k, tid = i + k ∧ l[k]? = some t ∧ t.study = sid := by
  simp only [trialsFrom_eq, List.mem_map, List.mem_filter, List.mem_zipIdx_iff_le_and_getElem?_sub, beq_iff_eq]
  constructor
  · rintro ⟨⟨_, j⟩, ⟨⟨h1, h2⟩, h3⟩, e⟩; cases e; exact ⟨j - i, by omega, h2, h3⟩
  · rintro ⟨k, rfl, h2, h3⟩
    exact ⟨(t, i + k), ⟨⟨Nat.le_add_right i k, by rwa [Nat.add_sub_cancel_left]⟩, h3⟩, rfl⟩

theorem mem_trialsOf (s : Spec) (sid tid : Nat) (t : TrialS) :
    (tid, t) ∈ s.trialsOf sid ↔ s.trials[tid]? = some t ∧ t.study = sid := by
  simp only [Spec.trialsOf, trialsFrom_eq, List.mem_map, List.mem_filter, List.mem_zipIdx_iff_getElem?, beq_iff_eq]
  exact ⟨fun ⟨p, h, e⟩ => by cases e; exact h, fun h => ⟨(t, tid), h, rfl⟩⟩

theorem trialsFrom_fst_ge (sid : Nat) (l : List TrialS) (i : Nat) : ∀ q ∈ trialsFrom sid l i, i ≤ q.1 := by
  rintro ⟨j, t⟩ hq
  obtain ⟨k, hk, -⟩ := (mem_trialsFrom sid l i j t).1 hq
  exact hk ▸ Nat.le_add_right i k

theorem trialsFrom_sorted (sid : Nat) (l : List TrialS) (i : Nat) :
    (trialsFrom sid l i).Pairwise (fun x y => x.1 < y.1) := by
  rw [trialsFrom_eq, List.pairwise_map]
  exact (zipIdx_pairwise l i).filter _

theorem trialsFrom_updAt (sid : Nat) (l : List TrialS) (j i : Nat) (f : TrialS → TrialS)
    (hf : ∀ t, (f t).study = t.study) :
    trialsFrom sid (updAt l j f) i =
      (trialsFrom sid l i).map (fun q => if q.1 = i + j then (q.1, f q.2) else q) := by
  -- the update does not change which entries belong to the study
  rw [trialsFrom_eq, trialsFrom_eq, zipIdx_updAt, List.filter_map, List.map_map, List.map_map]
  congr 1
  · funext p; simp only [Function.comp]; split <;> rfl
  · congr 1; funext p; simp only [Function.comp]; split <;> simp [hf]

theorem trialsOf_updTrial (s : Spec) (tid sid : Nat) (f : TrialS → TrialS) (hf : ∀ t, (f t).study = t.study) :
    (s.updTrial tid f).trialsOf sid =
      (s.trialsOf sid).map (fun q => if q.1 = tid then (q.1, f q.2) else q) := by
  unfold Spec.trialsOf
  rw [updTrial_trials, trialsFrom_updAt sid s.trials tid 0 f hf]
  simp

theorem study?_lt {s : Spec} {sid : Nat} (h : (s.study? sid).isSome = true) : sid < s.studies.length := by
  unfold Spec.study? at h
  cases hg : s.studies[sid]? with
  | none => simp [hg] at h
  | some o => exact getElem?_lt_length hg

theorem study?_updStudy (s : Spec) (sid0 sid : Nat) (f : StudyS → StudyS) :
    (s.updStudy sid0 f).study? sid = if sid = sid0 then (s.study? sid).map f else s.study? sid := by
  unfold Spec.updStudy Spec.study?
  simp only [updAt_getElem?]
  split
  · cases s.studies[sid]? with
    | none => rfl
    | some o => cases o <;> rfl
  · rfl

theorem updStudy_study? (s : Spec) (sid : Nat) (g : StudyS → StudyS) (st : StudyS) (h : s.study? sid = some st) :
    (s.updStudy sid g).study? sid = some (g st) := by
  rw [study?_updStudy, if_pos rfl, h]; rfl

theorem trialsFrom_nil (sid : Nat) (l : List TrialS) (i : Nat) (h : ∀ t ∈ l, t.study ≠ sid) :
    trialsFrom sid l i = [] := by
  rw [trialsFrom_eq, List.map_eq_nil_iff, List.filter_eq_nil_iff]
  exact fun p hp => by simpa using h p.1 ((List.mem_zipIdx hp).2.2 ▸ List.getElem_mem _)

theorem trial?_updTrial (a : Spec) (tid i : Nat) (f : TrialS → TrialS) (hf : ∀ t, (f t).study = t.study) :
    (a.updTrial tid f).trial? i = if i = tid then (a.trial? i).map f else a.trial? i := by
  unfold Spec.trial?
  rw [updTrial_trials, updAt_getElem?]
  by_cases hi : i = tid
  · simp only [hi, if_true]
    cases a.trials[tid]? with
    | none => rfl
    | some t =>
      simp only [Option.map_some, hf, updTrial_study?]
      split <;> rfl
  · simp only [hi, if_false]
    cases a.trials[i]? with
    | none => rfl
    | some t => rfl

theorem trial?_updStudy (a : Spec) (sid i : Nat) (f : StudyS → StudyS) :
    (a.updStudy sid f).trial? i = a.trial? i := by
  unfold Spec.trial?
  rw [updStudy_trials]
  cases a.trials[i]? with
  | none => rfl
  | some t =>
    simp only [study?_updStudy]
    by_cases h : t.study = sid
    · simp only [h, if_true, Option.isSome_map]
    · simp only [h, if_false]

theorem study?_append (a : Spec) (st : StudyS) (i : Nat) :
    ({ a with studies := a.studies ++ [some st] } : Spec).study? i =
      if i = a.studies.length then some st else a.study? i := by
  unfold Spec.study?
  simp only [getElem?_snoc]
  split <;> rfl

/-- creating a study does not revive or kill any trial, provided no trial points past the list -/
theorem trial?_appendStudy (a : Spec) (st : StudyS) (i : Nat)
    (hb : ∀ (j : Nat) (t : TrialS), a.trials[j]? = some t → t.study < a.studies.length) :
    ({ a with studies := a.studies ++ [some st] } : Spec).trial? i = a.trial? i := by
  unfold Spec.trial?
  simp only
  cases hg : a.trials[i]? with
  | none => rfl
  | some t =>
    have := hb i t hg
    simp only [study?_append, Nat.ne_of_lt this, if_false]

theorem study?_delete (a : Spec) (sid i : Nat) :
    ({ a with studies := updAt a.studies sid (fun _ => none) } : Spec).study? i =
      if i = sid then none else a.study? i := by
  simp only [Spec.study?, updAt_getElem?]
  split
  · cases a.studies[i]? <;> rfl
  · rfl

theorem trial?_delete (a : Spec) (sid i : Nat) :
    ({ a with studies := updAt a.studies sid (fun _ => none) } : Spec).trial? i =
      (a.trial? i).filter (fun t => !(t.study == sid)) := by
  unfold Spec.trial?
  simp only
  cases hg : a.trials[i]? with
  | none => rfl
  | some t =>
    simp only [study?_delete]
    by_cases h : t.study = sid
    · simp only [h, if_true, Option.isSome_none, Bool.false_eq_true, if_false]
      split <;> simp [Option.filter, h]
    · simp only [h, if_false]
      show (if (a.study? t.study).isSome = true then some t else none) = _
      split <;> simp [Option.filter, h]

theorem trial?_appendTrial (a : Spec) (t : TrialS) (i : Nat) (hlive : (a.study? t.study).isSome = true) :
    ({ a with trials := a.trials ++ [t] } : Spec).trial? i =
      if i = a.trials.length then some t else a.trial? i := by
  unfold Spec.trial?
  simp only [getElem?_snoc]
  by_cases hi : i = a.trials.length
  · simp only [hi, if_true]
    show (if (a.study? t.study).isSome = true then some t else none) = some t
    simp [hlive]
  · simp only [hi, if_false]
    rfl

theorem trial?_appendTrial_self (a : Spec) (t : TrialS) (hlive : (a.study? t.study).isSome = true) :
    ({ a with trials := a.trials ++ [t] } : Spec).trial? a.trials.length = some t := by
  rw [trial?_appendTrial _ _ _ hlive, if_pos rfl]

theorem updStudy_isSome (s : Spec) (sid sid' : Nat) (f : StudyS → StudyS) :
    ((s.updStudy sid f).study? sid').isSome = (s.study? sid').isSome := by
  rw [study?_updStudy]; split <;> simp

theorem findIdx_some {α : Type} (p : α → Bool) (l : List α) (k i : Nat) (h : findIdx p l k = some i) :
    ∃ j x, i = k + j ∧ l[j]? = some x ∧ p x = true := by
  induction l generalizing k with
  | nil => simp [findIdx] at h
  | cons y t ih =>
    simp only [findIdx] at h
    split at h
    · rename_i hp
      simp only [Option.some.injEq] at h
      exact ⟨0, y, by omega, by simp, hp⟩
    · obtain ⟨j, x, e, hg, hp⟩ := ih (k + 1) h
      exact ⟨j + 1, x, by omega, by simpa using hg, hp⟩

theorem findIdx_none {α : Type} (p : α → Bool) (l : List α) (k : Nat) (h : findIdx p l k = none) :
    ∀ x ∈ l, p x = false := by
  induction l generalizing k with
  | nil => intro x hx; simp at hx
  | cons y t ih =>
    simp only [findIdx] at h
    split at h
    · simp at h
    · rename_i hp
      intro x hx
      rcases List.mem_cons.mp hx with e | hx
      · subst e; simpa using hp
      · exact ih (k + 1) h x hx

theorem trialsFrom_append (sid : Nat) (l : List TrialS) (t : TrialS) (i : Nat) :
    trialsFrom sid (l ++ [t]) i =
      trialsFrom sid l i ++ (if t.study == sid then [(i + l.length, t)] else []) := by
  simp only [trialsFrom_eq, List.zipIdx_append, List.filter_append, List.map_append]
  congr 1
  simp [List.filter_cons]; split <;> rfl

theorem trialsOf_appendTrial (a : Spec) (t : TrialS) (sid : Nat) :
    ({ a with trials := a.trials ++ [t] } : Spec).trialsOf sid =
      a.trialsOf sid ++ (if t.study == sid then [(a.trials.length, t)] else []) := by
  unfold Spec.trialsOf
  simp only
  rw [trialsFrom_append]
  simp

theorem compat_refl (a : Dist) : a.compat a = true := by
  unfold Dist.compat; split <;> simp

theorem compat_symm (a b : Dist) (h : a.compat b = true) : b.compat a = true := by
  unfold Dist.compat at *
  simp only [Bool.and_eq_true, beq_iff_eq] at h ⊢
  obtain ⟨hk, h2⟩ := h
  refine ⟨hk.symm, ?_⟩
  rw [← hk]
  by_cases hc : a.kind = 2
  · simp only [hc, if_true, beq_iff_eq] at h2 ⊢; exact h2.symm
  · simp only [hc, if_false, beq_iff_eq] at h2 ⊢; exact h2.symm

theorem compat_trans (a b c : Dist) (h1 : a.compat b = true) (h2 : b.compat c = true) :
    a.compat c = true := by
  unfold Dist.compat at *
  simp only [Bool.and_eq_true, beq_iff_eq] at h1 h2 ⊢
  obtain ⟨hk1, h1'⟩ := h1
  obtain ⟨hk2, h2'⟩ := h2
  refine ⟨hk1.trans hk2, ?_⟩
  rw [← hk1] at h2'
  by_cases hc : a.kind = 2
  · simp only [hc, if_true, beq_iff_eq] at h1' h2' ⊢; exact h1'.trans h2'
  · simp only [hc, if_false, beq_iff_eq] at h1' h2' ⊢; exact h1'.trans h2'

/-- the candidates of `get_best_trial`: the listed trials that are COMPLETE, each with its first value -/
theorem mem_completeWithValue (l : List (Nat × TrialS)) (i : Nat) (t : TrialS) (v : XVal) :
    (i, t, v) ∈ completeWithValue l ↔ (i, t) ∈ l ∧ t.state = .complete ∧ t.value0? = some v := by
  unfold completeWithValue
  simp only [List.mem_filterMap]
  constructor
  · rintro ⟨p, hp, hq⟩
    split at hq
    · rename_i hc
      obtain ⟨w, hw, e⟩ := Option.map_eq_some_iff.mp hq
      cases e
      exact ⟨hp, by simpa using hc, hw⟩
    · cases hq
  · rintro ⟨hp, hc, hv⟩
    exact ⟨(i, t), hp, by simp [hc, hv]⟩

theorem betterEq_refl (d : Nat) (v : XVal) (h : v ≠ .nan) : betterEq d v v = true := by
  unfold betterEq; split <;> exact xle_refl v h

/-- what `get_best_trial` may answer: a candidate whose value no candidate's beats -/
theorem mem_bestSet_iff (d : Nat) (l : List (Nat × TrialS)) (b : Nat) (t : TrialS) :
    (b, t) ∈ bestSet d l ↔
      ∃ v, (b, t, v) ∈ completeWithValue l ∧ ∀ q ∈ completeWithValue l, betterEq d v q.2.2 = true := by
  unfold bestSet
  simp only [List.mem_map, List.mem_filter, List.all_eq_true]
  constructor
  · rintro ⟨⟨b', t', v⟩, ⟨hm, hall⟩, e⟩
    cases e
    exact ⟨v, hm, hall⟩
  · rintro ⟨v, hm, hall⟩
    exact ⟨(b, t, v), ⟨hm, hall⟩, rfl⟩

theorem bestSet_nil (d : Nat) (l : List (Nat × TrialS))
    (h : ∀ (j : Nat) p, l[j]? = some p → p.2.state ≠ .complete) : bestSet d l = [] := by
  refine List.eq_nil_iff_forall_not_mem.2 fun ⟨b, t⟩ hm => ?_
  obtain ⟨v, hv, _⟩ := (mem_bestSet_iff d l b t).1 hm
  obtain ⟨hm', hc, _⟩ := (mem_completeWithValue l b t v).1 hv
  obtain ⟨k, hk⟩ := List.getElem?_of_mem hm'
  exact h k (b, t) hk hc

/-- The state after one call: the same (every getter, every rejected call, a refused claim), or one study appended,
deleted or rewritten in place, or one trial appended or rewritten in place — `set_trial_param` rewrites the trial and its
study.  The in-place arms name the record the call addresses (`C01.addrStudy`, `C01.addrTrial`); a rewritten trial keeps its
state unless the call is `set_trial_state_values`. -/
inductive Effect (s : Spec) : Op → Spec → Prop where
  | none (op : Op) : Effect s op s
  | newStudy (name : String) (dirs : List Nat) (hfree : s.nameTaken name = false) :
      Effect s (.createStudy name dirs) { s with studies := s.studies ++ [some (StudyS.mk name dirs [] [] [])] }
  | delStudy (sid : Nat) (hlive : (s.study? sid).isSome) :
      Effect s (.deleteStudy sid) { s with studies := updAt s.studies sid (fun _ => none) }
  | updStudy (op : Op) (sid : Nat) (f : StudyS → StudyS) (haddr : C01.addrStudy s op = some sid)
      (hlive : (s.study? sid).isSome) (hf : ∀ st, (f st).name = st.name ∧ (f st).directions = st.directions) :
      Effect s op (s.updStudy sid f)
  | newTrial (sid : Nat) (tmpl : Option Template) (ir : Bool) (hlive : (s.study? sid).isSome) :
      Effect s (.createTrial sid tmpl ir) { s with trials := s.trials ++ [mkTrial sid (s.trialsOf sid).length tmpl] }
  | updTrial (op : Op) (tid : Nat) (f : TrialS → TrialS) (t0 : TrialS) (haddr : C01.addrTrial s op = some tid)
      (hw : s.writable tid = .ok t0) (hf : ∀ t, (f t).study = t.study ∧ (f t).number = t.number)
      (hst : (∀ t, (f t).state = t.state) ∨ ∃ st v, op = .setTrialStateValues tid st v ∧ ∀ t, (f t).state = st) :
      Effect s op (s.updTrial tid f)
  | setParam (tid : Nat) (name : String) (p : Param) (ir : Bool) (t0 : TrialS) (hw : s.writable tid = .ok t0) :
      Effect s (.setTrialParam tid name p ir)
        ((s.updTrial tid (fun t => { t with params := t.params.set name p })).updStudy t0.study
          (fun st => { st with paramDist := st.paramDist.set name p.dist }))

/-- What an accepted writing call does, writer by writer: the new state and the answer, with what the call has checked.
(`claimRefused`: `set_trial_state_values(.., RUNNING)` on a trial that is not WAITING writes nothing and answers `False`.) -/
inductive Wrote (a : Spec) : Op → Spec × Out → Prop
  | createStudy (name : String) (dirs : List Nat) (h : a.nameTaken name = false) :
    Wrote a (.createStudy name dirs)
      ({ a with studies := a.studies ++ [some (StudyS.mk name dirs [] [] [])] }, .newId a.studies.length)
  | deleteStudy (sid : Nat) (st : StudyS) (h : a.study? sid = some st) :
    Wrote a (.deleteStudy sid) ({ a with studies := updAt a.studies sid (fun _ => none) }, .unit)
  | studyUserAttr (sid : Nat) (k v : String) (st : StudyS) (h : a.study? sid = some st) :
    Wrote a (.setStudyUserAttr sid k v) (a.updStudy sid (fun st => { st with userAttrs := st.userAttrs.set k v }), .unit)
  | studySystemAttr (sid : Nat) (k v : String) (st : StudyS) (h : a.study? sid = some st) :
    Wrote a (.setStudySystemAttr sid k v)
      (a.updStudy sid (fun st => { st with systemAttrs := st.systemAttrs.set k v }), .unit)
  | createTrial (sid : Nat) (tmpl : Option Template) (ir : Bool) (st : StudyS) (h : a.study? sid = some st)
      (hnc : (ir && a.tmplConflict sid st tmpl) = false) :
    Wrote a (.createTrial sid tmpl ir)
      ({ a with trials := a.trials ++ [mkTrial sid (a.trialsOf sid).length tmpl] }, .newId a.trials.length)
  | param (tid : Nat) (name : String) (p : Param) (ir : Bool) (t : TrialS) (st : StudyS) (hw : a.writable tid = .ok t)
      (hs : a.study? t.study = some st) (h1 : st.fixedConflict name p.dist = false)
      (h2 : (a.templateConflict t.study name p.dist && ir) = false) :
    Wrote a (.setTrialParam tid name p ir)
      ((a.updTrial tid (fun t => { t with params := t.params.set name p })).updStudy t.study
        (fun st => { st with paramDist := st.paramDist.set name p.dist }), .unit)
  | claimRefused (tid : Nat) (vals : Option (List XVal)) (t : TrialS) (hw : a.writable tid = .ok t)
      (h : t.state ≠ .waiting) : Wrote a (.setTrialStateValues tid .running vals) (a, .bool false)
  | state (tid : Nat) (st : TState) (vals : Option (List XVal)) (t : TrialS) (hw : a.writable tid = .ok t)
      (h : (st == .running && t.state != .waiting) = false) :
    Wrote a (.setTrialStateValues tid st vals)
      (a.updTrial tid (fun t => { t with
          state := st,
          values := vals.or t.values,
          hasStart := t.hasStart || st == .running,
          hasComplete := t.hasComplete || st.isFinished }), .bool true)
  | inter (tid : Nat) (stp : Int) (v : XVal) (t : TrialS) (hw : a.writable tid = .ok t) :
    Wrote a (.setTrialInter tid stp v) (a.updTrial tid (fun t => { t with inter := setInter t.inter stp v }), .unit)
  | userAttr (tid : Nat) (k v : String) (t : TrialS) (hw : a.writable tid = .ok t) :
    Wrote a (.setTrialUserAttr tid k v) (a.updTrial tid (fun t => { t with userAttrs := t.userAttrs.set k v }), .unit)
  | systemAttr (tid : Nat) (k v : String) (t : TrialS) (hw : a.writable tid = .ok t) :
    Wrote a (.setTrialSystemAttr tid k v)
      (a.updTrial tid (fun t => { t with systemAttrs := t.systemAttrs.set k v }), .unit)

theorem step_wrote (a : Spec) (op : Op) :
    Wrote a op (step a op) ∨ ((step a op).1 = a ∧ (op.reads = true ∨ ∃ e, (step a op).2 = .err e)) := by
  cases op with
  | createStudy name dirs =>
    simp only [step]
    split
    · exact .inr ⟨rfl, .inr ⟨_, rfl⟩⟩
    · rename_i h; exact .inl (.createStudy name dirs (by simpa using h))
  | deleteStudy sid =>
    simp only [step]
    split
    · exact .inr ⟨rfl, .inr ⟨_, rfl⟩⟩
    · rename_i st h; exact .inl (.deleteStudy sid st h)
  | setStudyUserAttr sid k v =>
    simp only [step]
    split
    · exact .inr ⟨rfl, .inr ⟨_, rfl⟩⟩
    · rename_i st h; exact .inl (.studyUserAttr sid k v st h)
  | setStudySystemAttr sid k v =>
    simp only [step]
    split
    · exact .inr ⟨rfl, .inr ⟨_, rfl⟩⟩
    · rename_i st h; exact .inl (.studySystemAttr sid k v st h)
  | createTrial sid tmpl ir =>
    simp only [step]
    split
    · exact .inr ⟨rfl, .inr ⟨_, rfl⟩⟩
    · rename_i st h
      split
      · exact .inr ⟨rfl, .inr ⟨_, rfl⟩⟩
      · rename_i hc; exact .inl (.createTrial sid tmpl ir st h (by simpa using hc))
  | setTrialParam tid name p ir =>
    simp only [step]
    split
    · exact .inr ⟨rfl, .inr ⟨_, rfl⟩⟩
    · rename_i t hw
      split
      · exact .inr ⟨rfl, .inr ⟨_, rfl⟩⟩
      · rename_i st hs
        split
        · exact .inr ⟨rfl, .inr ⟨_, rfl⟩⟩
        · rename_i h1
          split
          · exact .inr ⟨rfl, .inr ⟨_, rfl⟩⟩
          · rename_i h2
            exact .inl (.param tid name p ir t st hw hs (by simpa using h1) (by simpa using h2))
  | setTrialStateValues tid st v =>
    simp only [step]
    split
    · exact .inr ⟨rfl, .inr ⟨_, rfl⟩⟩
    · rename_i t hw
      split
      · rename_i h
        simp only [Bool.and_eq_true, beq_iff_eq, bne_iff_ne] at h
        obtain ⟨rfl, h⟩ := h
        exact .inl (.claimRefused tid v t hw h)
      · rename_i h; exact .inl (.state tid st v t hw (by simpa using h))
  | setTrialInter tid stp x =>
    simp only [step]
    split
    · exact .inr ⟨rfl, .inr ⟨_, rfl⟩⟩
    · rename_i t hw; exact .inl (.inter tid stp x t hw)
  | setTrialUserAttr tid k v =>
    simp only [step]
    split
    · exact .inr ⟨rfl, .inr ⟨_, rfl⟩⟩
    · rename_i t hw; exact .inl (.userAttr tid k v t hw)
  | setTrialSystemAttr tid k v =>
    simp only [step]
    split
    · exact .inr ⟨rfl, .inr ⟨_, rfl⟩⟩
    · rename_i t hw; exact .inl (.systemAttr tid k v t hw)
  | _ =>
    -- the getters
    simp only [step]
    repeat' split
    all_goals exact .inr ⟨by first | rfl | trivial, .inl (by first | rfl | trivial)⟩

theorem wrote_of_eq {a s' : Spec} {op : Op} {o : Out} (h : step a op = (s', o)) (hr : op.reads = false)
    (ho : ∀ e, o ≠ .err e) : Wrote a op (s', o) := by
  rcases step_wrote a op with hw | ⟨_, hw | ⟨e, hw⟩⟩
  · rwa [h] at hw
  · rw [hr] at hw; cases hw
  · rw [h] at hw; exact absurd hw (ho e)

theorem wrote_of_out {a : Spec} {op : Op} {o : Out} (h : (step a op).2 = o) (hr : op.reads = false)
    (ho : ∀ e, o ≠ .err e) : ∃ s', (step a op).1 = s' ∧ Wrote a op (s', o) :=
  ⟨_, rfl, wrote_of_eq (Prod.ext rfl h) hr ho⟩

theorem Wrote.step_eq {a : Spec} {op : Op} {r : Spec × Out} (h : Wrote a op r) : step a op = r := by
  cases h <;> simp [step, *]

theorem Wrote.effect {a : Spec} {op : Op} {r : Spec × Out} (h : Wrote a op r) : Effect a op r.1 := by
  cases h with
  | createStudy name dirs h => exact .newStudy name dirs h
  | deleteStudy sid st h => exact .delStudy sid (by simp [h])
  | studyUserAttr sid k v st h | studySystemAttr sid k v st h =>
    exact .updStudy _ sid _ rfl (by simp [h]) (fun _ => ⟨rfl, rfl⟩)
  | createTrial sid tmpl ir st h => exact .newTrial sid tmpl ir (by simp [h])
  | param tid name p ir t st hw => exact .setParam tid name p ir t hw
  | claimRefused => exact .none _
  | state tid st vals t hw =>
    exact .updTrial _ tid _ t rfl hw (fun _ => ⟨rfl, rfl⟩) (.inr ⟨st, vals, rfl, fun _ => rfl⟩)
  | inter tid _ _ t hw | userAttr tid _ _ t hw | systemAttr tid _ _ t hw =>
    exact .updTrial _ tid _ t rfl hw (fun _ => ⟨rfl, rfl⟩) (.inl fun _ => rfl)

theorem step_effect (s : Spec) (op : Op) : Effect s op (step s op).1 := by
  rcases step_wrote s op with h | ⟨h, _⟩
  · exact h.effect
  · rw [h]; exact .none _

theorem mkTrial_study (sid n : Nat) (tmpl : Option Template) : (mkTrial sid n tmpl).study = sid := by
  cases tmpl <;> rfl

theorem mkTrial_number (sid n : Nat) (tmpl : Option Template) : (mkTrial sid n tmpl).number = n := by
  cases tmpl <;> rfl

theorem reads_addr {s : Spec} {op : Op} (h : op.reads = true) : C01.addrStudy s op = none ∧ C01.addrTrial s op = none := by
  cases op <;> first | exact ⟨rfl, rfl⟩ | exact Bool.noConfusion h

theorem step_reads (s : Spec) (op : Op) (h : op.reads = true) : (step s op).1 = s := by
  have ha := reads_addr (s := s) h
  have he := step_effect s op
  generalize (step s op).1 = s' at he ⊢
  cases he with
  | none => rfl
  | updStudy _ sid f haddr => rw [ha.1] at haddr; cases haddr
  | updTrial _ tid f t0 haddr => rw [ha.2] at haddr; cases haddr
  | _ => exact Bool.noConfusion h

theorem step_notWaiting (s : Spec) (op : Op) (tid : Nat) (t : TrialS) (hget : s.trials[tid]? = some t)
    (hnw : t.state ≠ .waiting) (hop : ∀ v, op ≠ .setTrialStateValues tid .waiting v) :
    ∃ t', (step s op).1.trials[tid]? = some t' ∧ t'.state ≠ .waiting := by
  have upd : ∀ (tid0 : Nat) (f : TrialS → TrialS), (tid = tid0 → (f t).state ≠ .waiting) →
      ∃ t', (updAt s.trials tid0 f)[tid]? = some t' ∧ t'.state ≠ .waiting := by
    intro tid0 f hf
    rw [updAt_getElem?, hget]
    split
    · exact ⟨f t, rfl, hf ‹_›⟩
    · exact ⟨t, rfl, hnw⟩
  have he := step_effect s op
  generalize (step s op).1 = s' at he ⊢
  cases he with
  | none | newStudy | delStudy | updStudy => exact ⟨t, hget, hnw⟩
  | newTrial => exact ⟨t, by show (s.trials ++ _)[tid]? = _; rw [List.getElem?_append_left (getElem?_lt_length hget)]; exact hget, hnw⟩
  | setParam tid0 name p ir t0 hw => exact upd tid0 _ (fun _ => hnw)
  | updTrial _ tid0 f t0 haddr hw hf hst =>
    refine upd tid0 f fun e => ?_
    rcases hst with hst | ⟨st, v, rfl, hst⟩
    · rw [hst]; exact hnw
    · rw [hst]; intro hw'; subst hw'; exact hop v (by rw [e])

inductive TrialsChange (s s' : Spec) : Prop where
  | same (h : s'.trials = s.trials)
  | append (t : TrialS) (h : s'.trials = s.trials ++ [t])
      (hnum : t.number = (s.trialsOf t.study).length) (hlive : (s.study? t.study).isSome)
  | upd (tid : Nat) (f : TrialS → TrialS) (t0 : TrialS) (h : s'.trials = updAt s.trials tid f)
      (hw : s.writable tid = .ok t0) (hf : ∀ t, (f t).study = t.study ∧ (f t).number = t.number)

theorem Effect.trials {s s' : Spec} {op : Op} (h : Effect s op s') : TrialsChange s s' := by
  cases h with
  | newTrial sid tmpl ir hlive =>
    exact .append _ rfl (by rw [mkTrial_number, mkTrial_study]) (by rw [mkTrial_study]; exact hlive)
  | updTrial op tid f t0 _ hw hf => exact .upd tid f t0 rfl hw hf
  | setParam tid name p ir t0 hw => exact .upd tid _ t0 rfl hw (fun _ => ⟨rfl, rfl⟩)
  | _ => exact .same rfl

theorem step_trials (s : Spec) (op : Op) : TrialsChange s (step s op).1 := (step_effect s op).trials

inductive StudiesChange (s s' : Spec) : Prop where
  | same (h : s'.studies = s.studies)
  | append (st : StudyS) (h : s'.studies = s.studies ++ [some st]) (hfree : s.nameTaken st.name = false)
  | delete (sid : Nat) (h : s'.studies = updAt s.studies sid (fun _ => none))
      (hlive : (s.study? sid).isSome)
  | upd (sid : Nat) (f : StudyS → StudyS) (h : s'.studies = updAt s.studies sid (fun o => o.map f))
      (hf : ∀ st, (f st).name = st.name ∧ (f st).directions = st.directions)

theorem Effect.studies {s s' : Spec} {op : Op} (h : Effect s op s') : StudiesChange s s' := by
  cases h with
  | newStudy name dirs hfree => exact .append _ rfl hfree
  | delStudy sid hlive => exact .delete sid rfl hlive
  | updStudy op sid f _ _ hf => exact .upd sid f rfl hf
  | setParam tid name p ir t0 hw => exact .upd t0.study _ rfl (fun _ => ⟨rfl, rfl⟩)
  | _ => exact .same rfl

theorem step_studies (s : Spec) (op : Op) : StudiesChange s (step s op).1 := (step_effect s op).studies

theorem step_study_live (s : Spec) (op : Op) (sid : Nat) (h : op ≠ .deleteStudy sid)
    (hl : (s.study? sid).isSome = true) : ((step s op).1.study? sid).isSome = true := by
  have he := step_effect s op
  generalize (step s op).1 = s' at he ⊢
  cases he with
  | none | newTrial | updTrial => exact hl
  | newStudy name dirs _ => rw [study?_append, if_neg (Nat.ne_of_lt (study?_lt hl))]; exact hl
  | delStudy sid0 _ => rw [study?_delete, if_neg (fun e => h (by rw [e]))]; exact hl
  | updStudy _ sid0 f => rw [updStudy_isSome]; exact hl
  | setParam tid name p ir t0 hw => rw [updStudy_isSome]; exact hl

/-! ## the listing functions (`trialsOf`, the list of live studies) reconstructed from the pointwise observations `study?`, `trial?`
(the contract-model side of the RDB refinement) -/

theorem trialsOf_eq_of_pointwise (a : Spec) (sid : Nat) (hlive : (a.study? sid).isSome = true)
    (L : List (Nat × TrialS)) (hs : L.Pairwise (fun x y => x.1 < y.1))
    (hm : ∀ i t, (i, t) ∈ L ↔ (a.trial? i = some t ∧ t.study = sid)) : a.trialsOf sid = L := by
  apply sorted_ext _ _ (trialsFrom_sorted sid a.trials 0) hs
  rintro ⟨i, t⟩
  rw [hm i t, trial?_some_iff]
  refine (mem_trialsOf a sid i t).trans ?_
  exact ⟨fun ⟨hg, hs⟩ => ⟨⟨hg, hs ▸ hlive⟩, hs⟩, fun ⟨⟨hg, _⟩, hs⟩ => ⟨hg, hs⟩⟩

def liveStudies (a : Spec) : List (Nat × StudyS) :=
  a.studies.zipIdx.filterMap (fun p => p.1.map (fun st => (p.2, st)))

theorem mem_liveStudies (a : Spec) (i : Nat) (st : StudyS) :
    (i, st) ∈ liveStudies a ↔ a.study? i = some st := by
  unfold liveStudies
  simp only [List.mem_filterMap, Option.map_eq_some_iff, Prod.mk.injEq, study?_eq_some_iff]
  constructor
  · rintro ⟨⟨o, j⟩, hp, st', rfl, rfl, rfl⟩
    exact List.mem_zipIdx_iff_getElem?.mp hp
  · intro h
    exact ⟨(some st, i), List.mem_zipIdx_iff_getElem?.mpr h, st, rfl, rfl, rfl⟩

theorem liveStudies_sorted (a : Spec) : (liveStudies a).Pairwise (fun x y => x.1 < y.1) := by
  refine (zipIdx_pairwise a.studies 0).filterMap _ fun p q hpq x hx y hy => ?_
  obtain ⟨_, _, rfl⟩ := Option.map_eq_some_iff.mp hx
  obtain ⟨_, _, rfl⟩ := Option.map_eq_some_iff.mp hy
  exact hpq

theorem mem_trialsOf_live (a : Spec) (sid : Nat) (hl : (a.study? sid).isSome = true) (tid : Nat) (t : TrialS) :
    (tid, t) ∈ a.trialsOf sid ↔ a.trial? tid = some t ∧ t.study = sid := by
  rw [mem_trialsOf, trial?_some_iff]
  exact ⟨fun ⟨h1, h2⟩ => ⟨⟨h1, by rw [h2]; exact hl⟩, h2⟩, fun ⟨⟨h1, _⟩, h2⟩ => ⟨h1, h2⟩⟩

/-! ## the listing of a study reads `trials` alone -/

theorem trialsOf_of_trials (a a' : Spec) (h : a'.trials = a.trials) (sid : Nat) : a'.trialsOf sid = a.trialsOf sid := by
  unfold Spec.trialsOf; rw [h]

theorem trialsOf_of_updAt (a a' : Spec) (tid : Nat) (f : TrialS → TrialS) (hf : ∀ t, (f t).study = t.study)
    (h : a'.trials = updAt a.trials tid f) (sid : Nat) :
    a'.trialsOf sid = (a.trialsOf sid).map (fun p => if p.1 = tid then (p.1, f p.2) else p) :=
  (trialsOf_of_trials (a.updTrial tid f) a' (h.trans (updTrial_trials a tid f).symm) sid).trans
    (trialsOf_updTrial a tid sid f hf)

end OptunaVerif.Storage
