import Lean.Meta.Tactic.Simp.RegisterCommand
/-! Simp sets of the interpreters. Each holds the equations of one interpreter, per statement or expression constructor
(written out in `Lemmas/<X>IR.lean`, or the definition's own, tagged from there), and of those primitives of its machines
that lemmas about shared segments rewrite with; the `Props/*Gen` proofs over these interpreters execute a generated
body with `simp [<set>, hypotheses]`.  Here and there an interpreter function is still named beside the set (`block` in
`Props/C11DistGen.lean`, `C10SuggestGen.lean`, `C01InMemGen.lean`; `forLoop` in `C11DistGen.lean`, `C08Gen.lean`), and an
interpreter that has no set here is unfolded by name (`Props/C09Gen.lean`).  A machine table is never named in a `simp`
call (simp would rewrite in every arm of it): where a body runs on primitives that are not in the set, the body and the table are opened
together by one `dsimp only` before the case split (`Props/C08Gen.lean`; `open_body` of `Lemmas/TellIR.lean`, which
for that reason has no set here). -/

/-- `Model/CacheIR.lean`: `exec`, `evalCond`, `forLoop`, `block`, and those primitives of `cachedM` that segment lemmas rewrite with -/
register_simp_attr cache_ir
/-- `Model/SuggestIR.lean` -/
register_simp_attr suggest_ir
/-- `Model/DistIR.lean` -/
register_simp_attr dist_ir
/-- `Model/GrpcIR.lean` -/
register_simp_attr grpc_ir
/-- `Model/JournalIR.lean` -/
register_simp_attr journal_ir
/-- `Model/InMemoryIR.lean` -/
register_simp_attr inmem_ir
/-- `Model/Skel.lean`: `execWith`, `evalE`, the loop iterators -/
register_simp_attr skel_ir
/-- `Model/SamplerIR.lean`: `exec`, `block`, and the primitives of the `_TreeNode`, brute-force and grid vocabularies -/
register_simp_attr sampler_ir
