import OptunaVerif.Generated.JournalFileMethods
import OptunaVerif.Lemmas.JournalAppend
/-!
Lemmas for the translator tie of `JournalFileBackend.append_logs` (`Props/C07FileGen.lean`): the step
interpreter of `Model/FileIR.lean` applied to `Generated/JournalFileMethods.appendLogsSteps` is the hand
model's appender (`Model/JournalAppend.lean`): same bytes, same effects in the same order, the same acts,
after every prefix of the steps.  Re-checked against the regenerated data on every run.
-/
namespace OptunaVerif.FileIR
open OptunaVerif.JournalFile OptunaVerif.JournalAppend OptunaVerif.Generated.JournalFileMethods

theorem scanBackFrom_append (g : List Nat) (b : Nat) : ∀ (k : Nat), k ≤ g.length → scanBackFrom (g ++ [b]) k = scanBackFrom g k := by
  intro k
  induction k with
  | zero => intro _; rfl
  | succ k ih =>
    intro hk
    have hlt : k < g.length := hk
    simp only [scanBackFrom, List.getElem?_append_left hlt, ih (Nat.le_of_lt hlt)]

theorem tail_length_le (f : List Nat) : (JournalAppend.tail f).length ≤ f.length := by
  have := congrArg List.length (file_eq f)
  simp only [List.length_append] at this
  omega

theorem scanBack_eq (f : List Nat) :
    scanBackFrom f f.length = f.length - (JournalAppend.tail f).length := by
  induction hf : f.length generalizing f with
  | zero =>
    have : f = [] := List.eq_nil_of_length_eq_zero hf
    subst this
    simp [scanBackFrom]
  | succ n ih =>
    rcases List.eq_nil_or_concat f with h | ⟨g, b, h⟩
    · subst h; simp at hf
    · rw [List.concat_eq_append] at h
      subst h
      have hg : g.length = n := by simpa using hf
      subst hg
      simp only [scanBackFrom]
      have hb : (g ++ [b])[g.length]? = some b := by simp
      rw [hb]
      by_cases hbn : b = nl
      · subst hbn
        simp [(tail_snoc_nl g).2]
      · have : ¬ (some b = some nl) := by simpa using hbn
        rw [if_neg this, scanBackFrom_append g b g.length (Nat.le_refl _), ih g rfl, (tail_snoc_ne g b hbn).2]
        have := tail_length_le g
        simp only [List.length_append, List.length_cons, List.length_nil]
        omega

theorem repair_take (f : List Nat) : f.take (scanBackFrom f f.length) = repair f := by
  rw [scanBack_eq f]; rfl

/-- the one branch of `append_logs` that depends on the data, decided once: after the scan the truncation leaves the
repaired file, and it is performed (and logged) exactly when there is a torn tail.  The left side is what unfolding the
step `truncateIfShort` leaves of a state written out field by field: `simp` rewrites with this in the symbolic
executions below, which therefore need no case distinction. -/
theorem truncate_eq (f : List Nat) (l : Bool) (b : Option (List Nat)) (h : Option Handle) (sz p : Option Nat) (e : List Eff)
    (o : Bool) :
    (if scanBackFrom f f.length = f.length then
        ({ file := f, locked := l, buffer := b, h := h, size := sz, pos := p, effs := e, ok := o } : AState)
      else { file := f.take (scanBackFrom f f.length), locked := l, buffer := b, h := h, size := sz, pos := p,
             effs := .truncateTo (scanBackFrom f f.length) :: e, ok := o }) =
      { file := repair f, locked := l, buffer := b, h := h, size := sz, pos := p,
        effs := (if JournalAppend.tail f = [] then [] else [.truncateTo (repair f).length]) ++ e, ok := o } := by
  have hs := scanBack_eq f
  have hle := tail_length_le f
  by_cases ht : JournalAppend.tail f = []
  · have hn : scanBackFrom f f.length = f.length := by rw [hs, ht]; rfl
    simp [hn, ht, ← repair_take]
  · have hn : scanBackFrom f f.length ≠ f.length := by have := List.length_pos_iff.2 ht; omega
    have hl : (repair f).length = scanBackFrom f f.length := by rw [← repair_take, List.length_take]; omega
    simp [hn, ht, repair_take, hl]

theorem append_file_eq (f r : List Nat) :
    (aRun r appendLogsSteps (aInit f)).file = repair f ++ (r ++ [nl]) ∧
    (aRun r appendLogsSteps (aInit f)).ok = true ∧ (aRun r appendLogsSteps (aInit f)).locked = false ∧
    (aRun r appendLogsSteps (aInit f)).h = none := by
  simp [aRun, appendLogsSteps, aStep, aInit, deliver, truncate_eq]

theorem append_effects_eq (f r : List Nat) :
    (aRun r appendLogsSteps (aInit f)).effs.reverse = modelEffects f r := by
  simp [aRun, appendLogsSteps, aStep, aInit, deliver, truncate_eq, modelEffects, apply_ite List.reverse]

/-- every state a run passes through, each with the hand-model acts of the steps executed so far -/
def trace (w : Nat) (r : List Nat) : List AStep → AState → List Act → List (AState × List Act)
  | [], s, acts => [(s, acts)]
  | st :: rest, s, acts => (s, acts) :: trace w r rest (aStep r s st) (acts ++ actsOfStep w r s (aStep r s st) st)

theorem take_mem_trace (w : Nat) (r : List Nat) (steps : List AStep) : ∀ (k : Nat) (s : AState) (acts : List Act),
    (aRun r (steps.take k) s, acts ++ actsOfRun w r (steps.take k) s) ∈ trace w r steps s acts := by
  induction steps with
  | nil => intro k s acts; simp [trace, aRun, actsOfRun]
  | cons st rest ih =>
    intro k s acts
    cases k with
    | zero => simp [trace, aRun, actsOfRun]
    | succ k =>
      have := ih k (aStep r s st) (acts ++ actsOfStep w r s (aStep r s st) st)
      rw [List.append_assoc] at this
      exact List.mem_cons_of_mem _ this

/-- the five moments of an `append_logs(r)` on the file `f`, as (file, lock flag, acts of the hand model so far):
nothing done; lock taken; tail repaired; record written; lock released -/
def Phase (w : Nat) (f r : List Nat) (file : List Nat) (locked : Bool) (acts : List Act) : Prop :=
  (file = f ∧ locked = false ∧ acts = []) ∨
  (file = f ∧ locked = true ∧ acts = [.acquire w r]) ∨
  (file = repair f ∧ locked = true ∧ acts = [.acquire w r, .repair w]) ∨
  (file = repair f ++ (r ++ [nl]) ∧ locked = true ∧
    acts = [.acquire w r, .repair w] ++ List.replicate (r.length + 1) (.writeByte w)) ∨
  (file = repair f ++ (r ++ [nl]) ∧ locked = false ∧
    acts = [.acquire w r, .repair w] ++ List.replicate (r.length + 1) (.writeByte w) ++ [.release w])

/-- Every statement about a writer that dies after some step reads off this. -/
theorem append_prefix_phases (w k : Nat) (f r : List Nat) :
    Phase w f r (aRun r (appendLogsSteps.take k) (aInit f)).file (aRun r (appendLogsSteps.take k) (aInit f)).locked
      (actsOfRun w r (appendLogsSteps.take k) (aInit f)) := by
  -- one symbolic execution of the fourteen steps
  have key : ∀ p ∈ trace w r appendLogsSteps (aInit f) [], Phase w f r p.1.file p.1.locked p.2 := by
    simp [Phase, trace, appendLogsSteps, actsOfStep, aStep, aInit, deliver, truncate_eq]
  exact key _ (take_mem_trace w r appendLogsSteps k (aInit f) [])

theorem append_acts_eq (w : Nat) (f r : List Nat) :
    actsOfRun w r appendLogsSteps (aInit f) =
      [.acquire w r, .repair w] ++ List.replicate (r.length + 1) (.writeByte w) ++ [.release w] := by
  simp [actsOfRun, actsOfStep, appendLogsSteps, aStep, aInit, deliver, truncate_eq]

theorem run_writeBytes (a : List (List Nat)) (w : Nat) : ∀ (bs : List Nat) (f : List Nat) (ws : List Worker) (wk : Worker), bs ≠ [] →
    ws[w]? = some wk → wk.dead = false → wk.stage = some (.writing bs) →
    JournalAppend.run { file := f, lock := some w, ws := ws, acked := a } (List.replicate bs.length (.writeByte w)) =
      { file := f ++ bs, lock := some w, ws := setW ws w { wk with stage := some .written }, acked := a } := by
  intro bs
  induction bs with
  | nil => intro _ _ _ h; exact absurd rfl h
  | cons b rest ih =>
    intro f ws wk _ hw hd hs
    have h1 : JournalAppend.step { file := f, lock := some w, ws := ws, acked := a } (.writeByte w) =
        { file := f ++ [b], lock := some w,
          ws := setW ws w { wk with stage := some (if rest.isEmpty then .written else .writing rest) }, acked := a } := by
      simp [JournalAppend.step, hw, hd, hs]
    simp only [List.length_cons, List.replicate_succ, JournalAppend.run, List.foldl_cons, h1]
    cases rest with
    | nil => rfl
    | cons c rest =>
      have := ih (f ++ [b]) (setW ws w { wk with stage := some (.writing (c :: rest)) })
        { wk with stage := some (.writing (c :: rest)) } (by simp) (setW_self ws w wk _ hw) hd rfl
      refine this.trans ?_
      rw [setW_setW, List.append_assoc]; rfl

section Hand
variable (f : List Nat) (a : List (List Nat)) (ws : List Worker) (w : Nat) (wk : Worker) (r : List Nat)
  (hw : ws[w]? = some wk) (hd : wk.dead = false) (hs : wk.stage = none) (hr : r.contains nl = false)
include hw hd

include hs hr in
theorem hand_acquire :
    JournalAppend.step { file := f, lock := none, ws := ws, acked := a } (.acquire w r) =
      { file := f, lock := some w, ws := setW ws w { wk with stage := some .locked, record := r }, acked := a } := by
  have hr' : nl ∉ r := by simpa using hr
  simp [JournalAppend.step, hw, hd, hs, hr']

include hs hr in
theorem hand_acquire_repair :
    JournalAppend.run { file := f, lock := none, ws := ws, acked := a } [.acquire w r, .repair w] =
      { file := repair f, lock := some w,
        ws := setW ws w { wk with stage := some (.writing (r ++ [nl])), record := r }, acked := a } := by
  simp only [JournalAppend.run, List.foldl_cons, List.foldl_nil, hand_acquire f a ws w wk r hw hd hs hr]
  simp [JournalAppend.step, setW_self ws w wk _ hw, hd, setW_setW]

include hs hr in
theorem hand_append_written :
    JournalAppend.run { file := f, lock := none, ws := ws, acked := a }
        ([.acquire w r, .repair w] ++ List.replicate (r.length + 1) (.writeByte w)) =
      { file := repair f ++ (r ++ [nl]), lock := some w, ws := setW ws w { wk with stage := some .written, record := r }, acked := a } := by
  have := run_writeBytes a w (r ++ [nl]) (repair f) (setW ws w { wk with stage := some (.writing (r ++ [nl])), record := r })
    { wk with stage := some (.writing (r ++ [nl])), record := r } (by simp) (setW_self ws w wk _ hw) hd rfl
  rw [List.length_append, List.length_singleton] at this
  rw [JournalAppend.run_append, hand_acquire_repair f a ws w wk r hw hd hs hr, this, setW_setW]

include hs hr in
theorem hand_append :
    JournalAppend.run { file := f, lock := none, ws := ws, acked := a }
        ([.acquire w r, .repair w] ++ List.replicate (r.length + 1) (.writeByte w) ++ [.release w]) =
      { file := repair f ++ (r ++ [nl]), lock := none, ws := setW ws w { wk with stage := none, record := r }, acked := a ++ [r] } := by
  rw [JournalAppend.run_append, hand_append_written f a ws w wk r hw hd hs hr]
  simp [JournalAppend.run, JournalAppend.step, setW_self ws w wk _ hw, hd, setW_setW]

include hs hr in
/-- **death after any step**: after the first `k` steps of the generated `append_logs` the file and the
lock are those of the hand model after the acts these steps stand for -/
theorem append_prefix_sim (k : Nat) :
    (JournalAppend.run { file := f, lock := none, ws := ws, acked := a }
        (actsOfRun w r (appendLogsSteps.take k) (aInit f))).file = (aRun r (appendLogsSteps.take k) (aInit f)).file ∧
    ((JournalAppend.run { file := f, lock := none, ws := ws, acked := a }
        (actsOfRun w r (appendLogsSteps.take k) (aInit f))).lock = some w ↔ (aRun r (appendLogsSteps.take k) (aInit f)).locked = true) := by
  rcases append_prefix_phases w k f r with ⟨h1, h2, h3⟩ | ⟨h1, h2, h3⟩ | ⟨h1, h2, h3⟩ | ⟨h1, h2, h3⟩ | ⟨h1, h2, h3⟩ <;>
    rw [h1, h2, h3]
  · simp [JournalAppend.run]
  · simp [JournalAppend.run, hand_acquire f a ws w wk r hw hd hs hr]
  · simp [hand_acquire_repair f a ws w wk r hw hd hs hr]
  · rw [hand_append_written f a ws w wk r hw hd hs hr]; simp
  · rw [hand_append f a ws w wk r hw hd hs hr]; simp

end Hand

theorem append_prefix_file (k : Nat) (f r : List Nat) :
    (aRun r (appendLogsSteps.take k) (aInit f)).file = f ∨
    (aRun r (appendLogsSteps.take k) (aInit f)).file = repair f ∨
    (aRun r (appendLogsSteps.take k) (aInit f)).file = repair f ++ (r ++ [nl]) := by
  rcases append_prefix_phases 0 k f r with h | h | h | h | h
  · exact .inl h.1
  · exact .inl h.1
  · exact .inr (.inl h.1)
  · exact .inr (.inr h.1)
  · exact .inr (.inr h.1)

/-- the steps of the tail repair: everything up to and including the end of the `rb+` block -/
def notCloseRW : AStep → Bool
  | .closeRW => false
  | _ => true

def upToCloseRW (steps : List AStep) : List AStep := steps.takeWhile notCloseRW ++ [.closeRW]

theorem repair_block_eq (f r : List Nat) :
    (aRun r (upToCloseRW appendLogsSteps) (aInit f)).file = repair f ∧
    (aRun r (upToCloseRW appendLogsSteps) (aInit f)).ok = true ∧
    (aRun r (upToCloseRW appendLogsSteps) (aInit f)).h = none := by
  simp [upToCloseRW, notCloseRW, appendLogsSteps, List.takeWhile, aRun, aStep, aInit, deliver, truncate_eq]

end OptunaVerif.FileIR
