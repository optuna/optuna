import OptunaVerif.Lemmas.Nsga2
import Mathlib.Tactic.Linarith
import Mathlib.Algebra.Order.Field.Rat
/-! Lemmas about `_calc_crowding_distance` at the exact instance `xnum`: the contributions of a sorted column without NaN
are finite non-negative or `+inf`, and negating a column reverses them; the invariant of the per-objective loop (`Inv`: a
permutation of the population, all distances good); the final sort by `(-distance, number)`; one round as a function of
the sorted column (`stepCol`), so that the strict extreme of an objective gets `+inf` (`crowdStep_min`, and
`crowdStep_max` as its mirror image). -/
namespace OptunaVerif.Nsga2
open List

@[simp] theorem xneg_xneg (a : XVal) : xneg (xneg a) = a := by cases a <;> simp [xneg]

theorem xadd_comm (a b : XVal) : xadd a b = xadd b a := by
  cases a <;> cases b <;> simp [xadd, add_comm]

theorem xeq_comm (a b : XVal) : xeq a b = xeq b a := by
  cases a <;> cases b <;> simp [xeq, eq_comm]

theorem xeq_xneg (a b : XVal) : xeq (xneg a) (xneg b) = xeq a b := by
  cases a <;> cases b <;> simp [xeq, xneg]

theorem xlt_xneg (a b : XVal) : xlt (xneg a) (xneg b) = xlt b a := by
  cases a <;> cases b <;> simp [xlt, xneg]

theorem xsub_xneg (a b : XVal) : xsub (xneg a) (xneg b) = xsub b a := by
  unfold xsub
  rw [xneg_xneg, xadd_comm]

def NotNaN (a : XVal) : Prop := a ≠ .nan

theorem notNaN_xneg {a : XVal} (h : NotNaN a) : NotNaN (xneg a) := by
  cases a <;> simp_all [NotNaN, xneg]

theorem xlt_asymm (a b : XVal) (h : xlt a b = true) : xlt b a = false := by
  cases a <;> cases b <;> simp_all [xlt]
  exact le_of_lt h

theorem xlt_negtrans (a b c : XVal) (ha : NotNaN a) (hb : NotNaN b) (hc : NotNaN c)
    (h1 : xlt b a = false) (h2 : xlt c b = false) : xlt c a = false := by
  cases a <;> cases b <;> cases c <;> simp_all [xlt, NotNaN]
  exact le_trans h1 h2

theorem xlt_ne {a b : XVal} (h : xlt a b = true) : xeq a b = false := by
  cases a <;> cases b <;> simp_all [xlt, xeq]
  exact ne_of_lt h

theorem xlt_irrefl (a : XVal) : xlt a a = false := by cases a <;> simp [xlt]

theorem xeq_iff {a b : XVal} (ha : NotNaN a) : xeq a b = true ↔ a = b := by
  cases a <;> cases b <;> simp_all [xeq, NotNaN]

theorem xlt_total {a b : XVal} (ha : NotNaN a) (hb : NotNaN b) (h1 : xlt a b = false) (h2 : xlt b a = false) :
    a = b := by
  cases a <;> cases b <;> simp_all [xlt, NotNaN]
  exact le_antisymm h2 h1

theorem strict_of_sorted_nodup {β : Type} (l : List β) (key : β → XVal) (hn : ∀ z ∈ l, NotNaN (key z))
    (hs : l.Pairwise (fun a b => xlt (key b) (key a) = false)) (hnd : (l.map key).Nodup) :
    l.Pairwise (fun a b => xlt (key a) (key b) = true) := by
  induction l with
  | nil => simp
  | cons a t ih =>
    rw [pairwise_cons] at hs ⊢
    simp only [map_cons, nodup_cons] at hnd
    refine ⟨?_, ih (fun z hz => hn z (by simp [hz])) hs.2 hnd.2⟩
    intro b hb
    by_contra hc
    have hc' : xlt (key a) (key b) = false := by simpa using hc
    have := xlt_total (hn a (by simp)) (hn b (by simp [hb])) hc' (hs.1 b hb)
    exact hnd.1 (this ▸ mem_map.2 ⟨b, hb, rfl⟩)

theorem eq_of_strict_perm {β : Type} (l1 l2 : List β) (key : β → XVal)
    (h1 : l1.Pairwise (fun a b => xlt (key a) (key b) = true))
    (h2 : l2.Pairwise (fun a b => xlt (key a) (key b) = true)) (hp : l1.Perm l2) : l1 = l2 := by
  apply hp.eq_of_pairwise _ h1 h2
  intro a b _ _ hab hba
  have := xlt_asymm _ _ hab
  rw [this] at hba
  exact absurd hba (by simp)

/-- a crowding distance (or one contribution to it) -/
def Good : XVal → Prop
  | .pinf => True
  | .fin q => 0 ≤ q
  | _ => False

theorem Good.notNaN {a : XVal} (h : Good a) : NotNaN a := by
  cases a <;> simp_all [Good, NotNaN]

theorem good_zero : Good (.fin 0) := by simp [Good]

theorem good_xadd {a b : XVal} (ha : Good a) (hb : Good b) : Good (xadd a b) := by
  cases a <;> cases b <;> simp_all [Good, xadd]
  exact add_nonneg ha hb

theorem xadd_pinf_left {b : XVal} (hb : Good b) : xadd .pinf b = .pinf := by
  cases b <;> simp_all [Good, xadd]

theorem xadd_pinf_right {a : XVal} (ha : Good a) : xadd a .pinf = .pinf := by
  cases a <;> simp_all [Good, xadd]

theorem xadd_zero_left (a : XVal) : xadd (.fin 0) a = a := by
  cases a <;> simp [xadd]

/-- the gap between an earlier and a later entry of a sorted column -/
def gapOf (a c : XVal) : XVal := if xeq a c then .fin 0 else xsub c a

theorem good_gapOf_fin (a c : Rat) (h : a ≤ c) : Good (gapOf (.fin a) (.fin c)) := by
  unfold gapOf
  by_cases hac : a = c
  · simp [xeq, hac, Good]
  · simp [xeq, hac, xsub, xadd, xneg, Good]
    linarith

theorem good_gapOf {a c : XVal} (ha : NotNaN a) (hc : NotNaN c) (h : xlt c a = false) : Good (gapOf a c) := by
  cases a <;> cases c <;> simp_all [NotNaN, xlt]
  case fin.fin a c => exact good_gapOf_fin a c h
  all_goals simp [gapOf, xeq, xsub, xadd, xneg, Good]

theorem gapOf_xneg (a c : XVal) : gapOf (xneg c) (xneg a) = gapOf a c := by
  unfold gapOf
  rw [xeq_xneg, xsub_xneg, xeq_comm]

def PosFin : XVal → Prop
  | .fin q => 0 < q
  | _ => False

theorem good_xdiv {g w : XVal} (hg : Good g) (hw : PosFin w) : Good (xdiv g w) := by
  cases g <;> cases w <;> simp_all [Good, PosFin, xdiv]
  · rename_i a b
    have hb : b ≠ 0 := ne_of_gt hw
    simp only [hb, if_false]
    exact div_nonneg hg (le_of_lt hw)

theorem xdiv_pinf {w : XVal} (hw : PosFin w) : xdiv .pinf w = .pinf := by
  cases w <;> simp_all [PosFin, xdiv]

theorem gaps_eq (vs : List XVal) : gaps xnum vs = zipWith gapOf vs (vs.drop 2) := rfl

theorem zipWith_drop_reverse {γ δ : Type} (f : γ → γ → δ) (l : List γ) (k : Nat) :
    zipWith f l.reverse (l.reverse.drop k) = (zipWith (fun a c => f c a) l (l.drop k)).reverse := by
  apply List.ext_getElem
  · simp
  · intro i h1 h2
    simp only [length_zipWith, length_reverse, length_drop] at h1 h2
    simp only [getElem_zipWith, getElem_reverse, getElem_drop, length_zipWith, length_drop]
    congr 1 <;> congr 1 <;> omega

theorem gaps_mirror (vs : List XVal) : gaps xnum ((vs.map xneg).reverse) = (gaps xnum vs).reverse := by
  simp only [gaps_eq, zipWith_drop_reverse, ← map_drop, zipWith_map, gapOf_xneg]

theorem xeq_xneg_left (a b : XVal) : xeq (xneg a) b = xeq a (xneg b) := by
  have := xeq_xneg a (xneg b)
  rwa [xneg_xneg] at this

theorem firstNe_map_xneg (bad dflt : XVal) (l : List XVal) :
    firstNe xnum bad dflt (l.map xneg) = xneg (firstNe xnum (xneg bad) (xneg dflt) l) := by
  unfold firstNe
  rw [find?_map]
  have : ((fun x => !xnum.eq x bad) ∘ xneg) = (fun x => !xnum.eq x (xneg bad)) := by
    funext x
    simp [xnum, xeq_xneg_left]
  rw [this]
  cases (find? (fun x => !xnum.eq x (xneg bad)) l) <;> simp

theorem widthOf_mirror (vs : List XVal) : widthOf xnum ((vs.map xneg).reverse) = widthOf xnum vs := by
  unfold widthOf
  have h1 : firstNe xnum xnum.ninf xnum.pinf ((vs.map xneg).reverse) = xneg (firstNe xnum xnum.pinf xnum.ninf vs.reverse) := by
    rw [← map_reverse, firstNe_map_xneg]; rfl
  have h2 : firstNe xnum xnum.pinf xnum.ninf ((vs.map xneg).reverse).reverse = xneg (firstNe xnum xnum.ninf xnum.pinf vs) := by
    rw [reverse_reverse, firstNe_map_xneg]; rfl
  simp only [h1, h2]
  have : xnum.sub (xneg (firstNe xnum xnum.ninf xnum.pinf vs)) (xneg (firstNe xnum xnum.pinf xnum.ninf vs.reverse)) =
      xnum.sub (firstNe xnum xnum.pinf xnum.ninf vs.reverse) (firstNe xnum xnum.ninf xnum.pinf vs) := xsub_xneg _ _
  simp only [this]

/-- holds of every column: ties, infinities, NaN included -/
theorem contribs_mirror (col : List XVal) :
    contribs xnum ((col.map xneg).reverse) = (contribs xnum col).reverse := by
  unfold contribs
  have hvs : xnum.ninf :: ((col.map xneg).reverse ++ [xnum.pinf]) = ((xnum.ninf :: (col ++ [xnum.pinf])).map xneg).reverse := by
    simp [xnum, xneg]
  simp only [hvs, gaps_mirror, widthOf_mirror, map_reverse]

def Asc (l : List XVal) : Prop := l.Pairwise (fun a b => xlt b a = false)

theorem good_gaps (vs : List XVal) (hn : ∀ v ∈ vs, NotNaN v) (hs : Asc vs) : ∀ g ∈ gaps xnum vs, Good g := by
  intro g hg
  rw [gaps_eq] at hg
  obtain ⟨j, hj, rfl⟩ := getElem_of_mem hg
  simp only [length_zipWith, length_drop] at hj
  simp only [getElem_zipWith, getElem_drop]
  apply good_gapOf (hn _ (getElem_mem _)) (hn _ (getElem_mem _))
  exact (pairwise_iff_getElem.1 hs) j (2 + j) (by omega) (by omega) (by omega)

theorem firstNe_spec (bad dflt : XVal) (vs : List XVal) :
    firstNe xnum bad dflt vs = dflt ∨ (firstNe xnum bad dflt vs ∈ vs ∧ xeq (firstNe xnum bad dflt vs) bad = false) := by
  unfold firstNe
  cases h : find? (fun x => !xnum.eq x bad) vs with
  | none => left; rfl
  | some x =>
    right
    have h1 := find?_some h
    have h2 := mem_of_find?_eq_some h
    simp only [Option.getD_some]
    refine ⟨h2, ?_⟩
    simpa [xnum] using h1

theorem posFin_widthOf (vs : List XVal) (hn : ∀ v ∈ vs, NotNaN v) : PosFin (widthOf xnum vs) := by
  unfold widthOf
  have hmin := firstNe_spec xnum.ninf xnum.pinf vs
  have hmax := firstNe_spec xnum.pinf xnum.ninf vs.reverse
  generalize firstNe xnum xnum.ninf xnum.pinf vs = vmin at hmin
  generalize firstNe xnum xnum.pinf xnum.ninf vs.reverse = vmax at hmax
  have h1 : NotNaN vmin ∧ vmin ≠ .ninf := by
    rcases hmin with h | ⟨h, h'⟩
    · subst h; simp [xnum, NotNaN]
    · refine ⟨hn _ h, ?_⟩
      intro he; subst he; simp [xnum, xeq] at h'
  have h2 : NotNaN vmax ∧ vmax ≠ .pinf := by
    rcases hmax with h | ⟨h, h'⟩
    · subst h; simp [xnum, NotNaN]
    · refine ⟨hn _ (mem_reverse.1 h), ?_⟩
      intro he; subst he; simp [xnum, xeq] at h'
  obtain ⟨a1, a2⟩ := h1
  obtain ⟨b1, b2⟩ := h2
  clear hn hmin hmax
  cases vmin <;> cases vmax <;> simp_all [NotNaN, xnum, xsub, xadd, xneg, XVal.le]
  case fin.fin a b =>
    by_cases hle : b ≤ a
    · simp [hle, PosFin]
    · simp [hle, PosFin]; linarith
  all_goals simp [PosFin]

theorem notNaN_sentinels (col : List XVal) (hn : ∀ v ∈ col, NotNaN v) : ∀ v ∈ XVal.ninf :: (col ++ [XVal.pinf]), NotNaN v := by
  intro v hv
  simp only [mem_cons, mem_append, not_mem_nil, or_false] at hv
  rcases hv with rfl | hv | rfl
  · simp [NotNaN]
  · exact hn v hv
  · simp [NotNaN]

theorem asc_sentinels (col : List XVal) (hn : ∀ v ∈ col, NotNaN v) (hs : Asc col) : Asc (XVal.ninf :: (col ++ [XVal.pinf])) := by
  unfold Asc
  rw [pairwise_cons, pairwise_append]
  refine ⟨?_, hs, by simp, ?_⟩
  · intro b hb
    cases b <;> simp [xlt]
  · intro a ha b hb
    simp only [mem_singleton] at hb
    subst hb
    have := hn a ha
    cases a <;> simp_all [xlt, NotNaN]

theorem good_contribs (col : List XVal) (hn : ∀ v ∈ col, NotNaN v) (hs : Asc col) :
    ∀ c ∈ contribs xnum col, Good c := by
  intro c hc
  unfold contribs at hc
  simp only [mem_map] at hc
  obtain ⟨g, hg, rfl⟩ := hc
  exact good_xdiv (good_gaps _ (notNaN_sentinels col hn) (asc_sentinels col hn hs) g hg) (posFin_widthOf _ (notNaN_sentinels col hn))

theorem contribs_length (col : List XVal) : (contribs xnum col).length = col.length := by
  unfold contribs gaps
  simp
  omega

/-- the gap below a value that is not the smallest possible one is infinite -/
theorem gapOf_ninf {a c : XVal} (hc : NotNaN c) (hlt : xlt a c = true) : gapOf .ninf c = .pinf := by
  cases c <;> cases a <;> simp_all [gapOf, xeq, xsub, xadd, xneg, NotNaN, xlt]

theorem contribs_head (a : XVal) (t : List XVal) (ht : t ≠ []) (hn : ∀ v ∈ a :: t, NotNaN v) (hlt : ∀ v ∈ t, xlt a v = true) :
    (contribs xnum (a :: t))[0]? = some .pinf ∧ ∃ b, (a :: t).getLast? = some b ∧ xeq a b = false := by
  obtain ⟨c1, t, rfl⟩ := exists_cons_of_ne_nil ht
  refine ⟨?_, (c1 :: t).getLast (by simp), by simp [getLast?_eq_some_getLast], xlt_ne (hlt _ (getLast_mem _))⟩
  unfold contribs
  have hw := posFin_widthOf _ (notNaN_sentinels (a :: c1 :: t) hn)
  simp only [gaps_eq, cons_append, drop_succ_cons, drop_zero, zipWith_cons_cons, map_cons, getElem?_cons_zero]
  rw [show gapOf xnum.ninf c1 = .pinf from gapOf_ninf (hn c1 (by simp)) (hlt c1 (by simp))]
  exact congrArg some (xdiv_pinf hw)

def GoodD (d : Dists XVal) : Prop := ∀ n, Good (lookupD xnum n d)

theorem goodD_nil : GoodD [] := by intro n; simp [lookupD, xnum, Good]

theorem goodD_addDist {d : Dists XVal} (hd : GoodD d) (m : Nat) {e : XVal} (he : Good e) : GoodD (addDist xnum m e d) := by
  intro n
  rw [lookupD_addDist]
  split
  · exact good_xadd (hd n) he
  · exact hd n

theorem foldl_addDist_good (ups : List (Nat × XVal)) (d : Dists XVal) (hd : GoodD d) (hu : ∀ p ∈ ups, Good p.2) :
    GoodD (ups.foldl (fun acc p => addDist xnum p.1 p.2 acc) d) :=
  List.foldlRecOn (motive := GoodD) ups _ hd fun _ h p hp => goodD_addDist h p.1 (hu p hp)

theorem foldl_addDist_stable (ups : List (Nat × XVal)) (d : Dists XVal) (hu : ∀ p ∈ ups, Good p.2)
    (n : Nat) (h : lookupD xnum n d = .pinf) :
    lookupD xnum n (ups.foldl (fun acc p => addDist xnum p.1 p.2 acc) d) = .pinf :=
  List.foldlRecOn (motive := fun d => lookupD xnum n d = .pinf) ups _ h fun d h p hp => by
    rw [lookupD_addDist]
    split
    · rw [h]; exact xadd_pinf_left (hu p hp)
    · exact h

/-- good up to the `+inf` update, `+inf` from there on -/
theorem foldl_addDist_hit (ups : List (Nat × XVal)) (d : Dists XVal) (hd : GoodD d) (hu : ∀ p ∈ ups, Good p.2)
    (n : Nat) (h : (n, XVal.pinf) ∈ ups) :
    lookupD xnum n (ups.foldl (fun acc p => addDist xnum p.1 p.2 acc) d) = .pinf := by
  obtain ⟨s, t, rfl⟩ := append_of_mem h
  rw [foldl_append, foldl_cons]
  apply foldl_addDist_stable t _ (fun q hq => hu q (by simp [hq]))
  rw [lookupD_addDist, if_pos rfl]
  exact xadd_pinf_right (foldl_addDist_good s d hd (fun q hq => hu q (by simp [hq])) n)

section Extreme
variable {β : Type} {R : β → β → Prop} {l : List β} {x : β}

theorem head_of_pairwise (hs : l.Pairwise R) (hx : x ∈ l) (hmin : ∀ y ∈ l, y ≠ x → ¬ R y x) : ∃ t, l = x :: t := by
  cases l with
  | nil => simp at hx
  | cons a t =>
    by_cases ha : a = x
    · exact ⟨t, by rw [ha]⟩
    · have hxt : x ∈ t := (mem_cons.1 hx).resolve_left (Ne.symm ha)
      exact absurd ((pairwise_cons.1 hs).1 x hxt) (hmin a (by simp) ha)

theorem last_of_pairwise (hs : l.Pairwise R) (hx : x ∈ l) (hmax : ∀ y ∈ l, y ≠ x → ¬ R x y) : ∃ t, l = t ++ [x] := by
  obtain ⟨t, ht⟩ := head_of_pairwise (l := l.reverse) (R := fun a b => R b a) (pairwise_reverse.2 hs)
    (mem_reverse.2 hx) (fun y hy => hmax y (mem_reverse.1 hy))
  exact ⟨t.reverse, by rw [← reverse_reverse l, ht, reverse_cons]⟩

end Extreme

/-- no objective value of the population is NaN (`Study.tell` and `FrozenTrial._validate` let no NaN into a COMPLETE trial) -/
def NoNaNPop (pop : List (Ind XVal)) : Prop := ∀ x ∈ pop, ∀ i, NotNaN (x.val xnum i)

abbrev CSt := List (Ind XVal) × Dists XVal

def Inv (pop : List (Ind XVal)) (st : CSt) : Prop := st.1.Perm pop ∧ GoodD st.2

theorem sorted_pop (l : List (Ind XVal)) (i : Nat) (hn : ∀ x ∈ l, NotNaN (x.val xnum i)) :
    (sortByKey xlt (fun x => x.val xnum i) l).Pairwise (KeyLe xlt (fun x => x.val xnum i)) :=
  sortByKey_sorted xlt (fun x => x.val xnum i) NotNaN (fun a b _ _ h => xlt_asymm a b h)
    (fun a b c ha hb hc h1 h2 => xlt_negtrans a b c ha hb hc h1 h2) l hn

theorem sorted_col (l : List (Ind XVal)) (i : Nat) (hn : ∀ x ∈ l, NotNaN (x.val xnum i)) :
    (∀ v ∈ (sortByKey xlt (fun x => x.val xnum i) l).map (fun x => x.val xnum i), NotNaN v) ∧
      Asc ((sortByKey xlt (fun x => x.val xnum i) l).map (fun x => x.val xnum i)) := by
  constructor
  · intro v hv
    obtain ⟨x, hx, rfl⟩ := mem_map.1 hv
    exact hn x ((sortByKey_perm _ _ l).subset hx)
  · exact pairwise_map.2 (sorted_pop l i hn)

@[simp] theorem xnum_eq' : xnum.eq = xeq := rfl
@[simp] theorem xnum_lt' : xnum.lt = xlt := rfl
@[simp] theorem xnum_neg : xnum.neg = xneg := rfl
@[simp] theorem xnum_lt : xnum.lt = xlt := rfl
@[simp] theorem xnum_eq : xnum.eq = xeq := rfl

/-- the distances after one round, given the sorted column of the objective and the trial numbers in that order -/
def stepCol (col : List XVal) (nums : List Nat) (d : Dists XVal) : Dists XVal :=
  match col.head?, col.getLast? with
  | some a, some b => if xeq a b then d else accumulate xnum nums (contribs xnum col) d
  | _, _ => d

theorem crowdStep_eq (i : Nat) (st : CSt) :
    crowdStep xnum st i = (sortByKey xlt (fun z => z.val xnum i) st.1,
      stepCol ((sortByKey xlt (fun z => z.val xnum i) st.1).map (fun z => z.val xnum i))
        ((sortByKey xlt (fun z => z.val xnum i) st.1).map (·.number)) st.2) := by
  unfold crowdStep stepCol
  simp only [xnum_lt, xnum_eq]
  cases ((sortByKey xlt (fun z => z.val xnum i) st.1).map (fun z => z.val xnum i)).head? <;>
    cases ((sortByKey xlt (fun z => z.val xnum i) st.1).map (fun z => z.val xnum i)).getLast? <;> try rfl
  dsimp only
  split <;> simp_all

theorem stepCol_shape (col : List XVal) (nums : List Nat) (d : Dists XVal) (hn : ∀ v ∈ col, NotNaN v) (hs : Asc col) :
    stepCol col nums d = d ∨
      ∃ ups : List (Nat × XVal), stepCol col nums d = ups.foldl (fun acc p => addDist xnum p.1 p.2 acc) d ∧ ∀ p ∈ ups, Good p.2 := by
  unfold stepCol
  split
  · split
    · exact Or.inl rfl
    · exact Or.inr ⟨_, rfl, fun p hp => good_contribs _ hn hs p.2 (of_mem_zip hp).2⟩
  · exact Or.inl rfl

theorem crowdStep_inv (pop : List (Ind XVal)) (hnn : NoNaNPop pop) (st : CSt) (i : Nat) (h : Inv pop st) :
    Inv pop (crowdStep xnum st i) := by
  have hsc := sorted_col st.1 i fun x hx => hnn x (h.1.subset hx) i
  rw [crowdStep_eq]
  refine ⟨(sortByKey_perm _ _ _).trans h.1, ?_⟩
  rcases stepCol_shape _ _ st.2 hsc.1 hsc.2 with h2 | ⟨ups, h2, hg⟩
  · rw [h2]; exact h.2
  · rw [h2]; exact foldl_addDist_good ups _ h.2 hg

theorem crowdStep_stable (pop : List (Ind XVal)) (hnn : NoNaNPop pop) (st : CSt) (i : Nat) (h : Inv pop st)
    (n : Nat) (hp : lookupD xnum n st.2 = .pinf) : lookupD xnum n (crowdStep xnum st i).2 = .pinf := by
  have hsc := sorted_col st.1 i fun x hx => hnn x (h.1.subset hx) i
  rw [crowdStep_eq]
  rcases stepCol_shape _ _ st.2 hsc.1 hsc.2 with h2 | ⟨ups, h2, hg⟩
  · rw [h2]; exact hp
  · rw [h2]; exact foldl_addDist_stable ups _ hg n hp

theorem fold_inv (pop : List (Ind XVal)) (hnn : NoNaNPop pop) (is : List Nat) (st : CSt) (h : Inv pop st) :
    Inv pop (is.foldl (crowdStep xnum) st) :=
  List.foldlRecOn (motive := Inv pop) is _ h fun st h i _ => crowdStep_inv pop hnn st i h

theorem fold_stable (pop : List (Ind XVal)) (hnn : NoNaNPop pop) (is : List Nat) (st : CSt) (h : Inv pop st)
    (n : Nat) (hp : lookupD xnum n st.2 = .pinf) : lookupD xnum n (is.foldl (crowdStep xnum) st).2 = .pinf :=
  (List.foldlRecOn (motive := fun st => Inv pop st ∧ lookupD xnum n st.2 = .pinf) is _ ⟨h, hp⟩
    fun st h i _ => ⟨crowdStep_inv pop hnn st i h.1, crowdStep_stable pop hnn st i h.1 n h.2⟩).2

/-- the invariant up to that round, `+inf` from there on -/
theorem fold_hit (pop : List (Ind XVal)) (hnn : NoNaNPop pop) (is : List Nat) (st : CSt) (h : Inv pop st)
    (n i : Nat) (hi : i ∈ is)
    (hstep : ∀ st', Inv pop st' → lookupD xnum n (crowdStep xnum st' i).2 = .pinf) :
    lookupD xnum n (is.foldl (crowdStep xnum) st).2 = .pinf := by
  obtain ⟨s, t, rfl⟩ := append_of_mem hi
  rw [foldl_append, foldl_cons]
  have hs := fold_inv pop hnn s st h
  exact fold_stable pop hnn t _ (crowdStep_inv pop hnn _ i hs) n (hstep _ hs)

theorem inv_init (pop : List (Ind XVal)) : Inv pop (pop, []) := ⟨Perm.refl _, goodD_nil⟩

theorem nodup_of_numbers {pop : List (Ind XVal)} (h : (pop.map (·.number)).Nodup) : pop.Nodup :=
  Nodup.of_map _ h

theorem ne_number_of_ne {pop : List (Ind XVal)} (h : (pop.map (·.number)).Nodup) {x y : Ind XVal}
    (hx : x ∈ pop) (hy : y ∈ pop) (hne : y ≠ x) : y.number ≠ x.number := by
  intro he
  exact hne (inj_on_of_nodup_map h hy hx he)

theorem xeq_eq_decide {a : XVal} (ha : NotNaN a) (b : XVal) : xeq a b = decide (a = b) := by
  by_cases h : a = b
  · simp [h, (xeq_iff (h ▸ ha)).2 rfl]
  · have : xeq a b = false := by
      by_contra hc
      exact h ((xeq_iff ha).1 (by simpa using hc))
    simp [h, this]

theorem ltKey_iff {p q : XVal × Nat} (hp : NotNaN p.1) :
    ltKey xnum p q = true ↔ xlt p.1 q.1 = true ∨ (p.1 = q.1 ∧ p.2 < q.2) := by
  unfold ltKey
  simp only [xnum_eq', xnum_lt', xeq_eq_decide hp]
  by_cases he : p.1 = q.1
  · simp [he, xlt_irrefl]
  · simp [he]

theorem ltKey_asymm (p q : XVal × Nat) (hp : NotNaN p.1) (hq : NotNaN q.1) (h : ltKey xnum p q = true) :
    ltKey xnum q p = false := by
  rw [Bool.eq_false_iff, Ne, ltKey_iff hq]
  rcases (ltKey_iff hp).1 h with h | ⟨h, h'⟩
  · rintro (h2 | ⟨h2, -⟩)
    · rw [xlt_asymm _ _ h] at h2; cases h2
    · rw [h2, xlt_irrefl] at h; cases h
  · rintro (h2 | ⟨-, h2⟩)
    · rw [h, xlt_irrefl] at h2; cases h2
    · omega

theorem ltKey_false_iff {p q : XVal × Nat} (hp : NotNaN p.1) :
    ltKey xnum p q = false ↔ xlt p.1 q.1 = false ∧ (p.1 = q.1 → q.2 ≤ p.2) := by
  rw [Bool.eq_false_iff, Ne, ltKey_iff hp, not_or, Bool.not_eq_true, not_and, Nat.not_lt]

theorem ltKey_negtrans (a b c : XVal × Nat) (ha : NotNaN a.1) (hb : NotNaN b.1) (hc : NotNaN c.1)
    (h1 : ltKey xnum b a = false) (h2 : ltKey xnum c b = false) : ltKey xnum c a = false := by
  rw [ltKey_false_iff hb] at h1
  rw [ltKey_false_iff hc] at h2 ⊢
  refine ⟨xlt_negtrans _ _ _ ha hb hc h1.1 h2.1, fun hca => ?_⟩
  -- `b` lies between two equal first components, so it has the same one
  have hba : b.1 = a.1 := xlt_total hb ha h1.1 (hca ▸ h2.1)
  have := h1.2 hba
  have := h2.2 (hca.trans hba.symm)
  omega

/-- the order on trial numbers that the sort realises -/
def BeforeN (d : Dists XVal) (n m : Nat) : Prop :=
  xlt (lookupD xnum n d) (lookupD xnum m d) = false ∧ (lookupD xnum n d = lookupD xnum m d → n ≤ m)

def Before (d : Dists XVal) (a b : Ind XVal) : Prop := BeforeN d a.number b.number

/-- so with distinct numbers the sorted front is determined by the set of its members -/
theorem beforeN_antisymm (d : Dists XVal) (hd : GoodD d) {n m : Nat} (h1 : BeforeN d n m) (h2 : BeforeN d m n) : n = m := by
  have he := xlt_total (hd n).notNaN (hd m).notNaN h1.1 h2.1
  have := h1.2 he
  have := h2.2 he.symm
  omega

theorem before_of_ltKey (d : Dists XVal) (hd : GoodD d) (a b : Ind XVal)
    (h : ltKey xnum (xneg (lookupD xnum b.number d), b.number) (xneg (lookupD xnum a.number d), a.number) = false) :
    Before d a b := by
  rw [ltKey_false_iff (p := (xneg (lookupD xnum b.number d), b.number)) (notNaN_xneg (hd b.number).notNaN), xlt_xneg] at h
  exact ⟨h.1, fun he => h.2 (by simp only [he])⟩

theorem crowdingSort_desc (pop : List (Ind XVal)) (hnn : NoNaNPop pop) :
    (crowdingSort xnum pop).Perm pop ∧
    (∀ n, Good (lookupD xnum n (calcCrowding xnum pop).2)) ∧
    (crowdingSort xnum pop).Pairwise (Before (calcCrowding xnum pop).2) := by
  have hinv : Inv pop (calcCrowding xnum pop) := by
    unfold calcCrowding
    cases pop with
    | nil => exact inv_init []
    | cons p0 t => exact fold_inv (p0 :: t) hnn _ _ (inv_init _)
  refine ⟨crowdingSort_perm xnum pop, hinv.2, ?_⟩
  unfold crowdingSort
  simp only [xnum_neg]
  have hs := sortByKey_sorted (ltKey xnum)
    (fun x : Ind XVal => (xneg (lookupD xnum x.number (calcCrowding xnum pop).2), x.number)) (fun p => NotNaN p.1)
    (fun a b ha hb h => ltKey_asymm a b ha hb h) (fun a b c ha hb hc h1 h2 => ltKey_negtrans a b c ha hb hc h1 h2)
    (calcCrowding xnum pop).1 (fun y _ => notNaN_xneg (hinv.2 y.number).notNaN)
  exact hs.imp (fun {a b} h => before_of_ltKey _ hinv.2 a b h)

theorem reverse_zip {γ δ : Type} (l : List γ) (l' : List δ) (h : l.length = l'.length) :
    (l.zip l').reverse = l.reverse.zip l'.reverse := by
  simpa [zip] using reverse_zipWith (f := Prod.mk) h

theorem stepCol_congr (col : List XVal) (nums : List Nat) (dA dB : Dists XVal) (hd : ∀ n, lookupD xnum n dB = lookupD xnum n dA)
    (hlen : nums.length = col.length) (hnd : nums.Nodup) (n : Nat) :
    lookupD xnum n (stepCol col nums dB) = lookupD xnum n (stepCol col nums dA) := by
  unfold stepCol
  split
  · split
    · exact hd n
    · exact foldl_addDist_perm _ _ (Perm.refl _) (by rw [map_fst_zip (by rw [contribs_length]; omega)]; exact hnd) dB dA hd n
  · exact hd n

theorem stepCol_mirror (col : List XVal) (nums : List Nat) (dA dB : Dists XVal) (hd : ∀ n, lookupD xnum n dB = lookupD xnum n dA)
    (hlen : nums.length = col.length) (hnd : nums.Nodup) (n : Nat) :
    lookupD xnum n (stepCol ((col.map xneg).reverse) nums.reverse dB) = lookupD xnum n (stepCol col nums dA) := by
  rw [← stepCol_congr col nums dA dB hd hlen hnd]
  unfold stepCol
  rw [head?_reverse, getLast?_reverse, getLast?_map, head?_map, contribs_mirror]
  cases col.head? <;> cases col.getLast? <;> try rfl
  rename_i a b
  simp only [Option.map_some, xeq_xneg, xeq_comm b a]
  split
  · rfl
  · unfold accumulate
    rw [← reverse_zip _ _ (by rw [contribs_length]; omega)]
    exact foldl_addDist_perm _ _ (reverse_perm _)
      (by rw [map_reverse, map_fst_zip (by rw [contribs_length]; omega)]; exact nodup_reverse.2 hnd) dB dB (fun _ => rfl) n

theorem asc_mirror {col : List XVal} (hs : Asc col) : Asc ((col.map xneg).reverse) := by
  unfold Asc at hs ⊢
  rw [pairwise_reverse, pairwise_map]
  exact hs.imp fun h => by rw [xlt_xneg]; exact h

theorem stepCol_head (a : XVal) (t : List XVal) (n : Nat) (ns : List Nat) (d : Dists XVal) (ht : t ≠ [])
    (hn : ∀ v ∈ a :: t, NotNaN v) (hs : Asc (a :: t)) (hlt : ∀ v ∈ t, xlt a v = true) (hd : GoodD d) :
    lookupD xnum n (stepCol (a :: t) (n :: ns) d) = .pinf := by
  obtain ⟨hc, b, hb, hne⟩ := contribs_head a t ht hn hlt
  unfold stepCol
  rw [head?_cons, hb]
  simp only [hne, Bool.false_eq_true, if_false]
  apply foldl_addDist_hit _ _ hd (fun p hp => good_contribs _ hn hs p.2 (of_mem_zip hp).2)
  obtain ⟨c, cs, hcs⟩ : ∃ c cs, contribs xnum (a :: t) = c :: cs := by
    cases h : contribs xnum (a :: t) with
    | nil => rw [h] at hc; simp at hc
    | cons c cs => exact ⟨c, cs, rfl⟩
  rw [hcs] at hc ⊢
  simp only [getElem?_cons_zero, Option.some.injEq] at hc
  rw [hc]; exact mem_cons_self

/-- the mirror image of `stepCol_head`: the round on the negated column in reverse order -/
theorem stepCol_last (t : List XVal) (b : XVal) (ns : List Nat) (n : Nat) (d : Dists XVal) (ht : t ≠ [])
    (hn : ∀ v ∈ t ++ [b], NotNaN v) (hs : Asc (t ++ [b])) (hlt : ∀ v ∈ t, xlt v b = true) (hd : GoodD d)
    (hlen : ns.length = t.length) (hnd : (ns ++ [n]).Nodup) :
    lookupD xnum n (stepCol (t ++ [b]) (ns ++ [n]) d) = .pinf := by
  rw [← stepCol_mirror (t ++ [b]) (ns ++ [n]) d d (fun _ => rfl) (by simp [hlen]) hnd]
  have hcol : ((t ++ [b]).map xneg).reverse = xneg b :: (t.map xneg).reverse := by simp
  have hs' := asc_mirror hs
  rw [hcol] at hs' ⊢
  rw [reverse_append, reverse_singleton, singleton_append]
  exact stepCol_head _ _ _ _ d (by simpa using ht)
    (fun v hv => by rw [← hcol] at hv; obtain ⟨w, hw, rfl⟩ := mem_map.1 (mem_reverse.1 hv); exact notNaN_xneg (hn w hw))
    hs' (fun v hv => by obtain ⟨w, hw, rfl⟩ := mem_map.1 (mem_reverse.1 hv); rw [xlt_xneg]; exact hlt w hw) hd

theorem crowdStep_min (pop : List (Ind XVal)) (hnn : NoNaNPop pop) (hnum : (pop.map (·.number)).Nodup)
    (x : Ind XVal) (hx : x ∈ pop) (i : Nat) (h2 : 2 ≤ pop.length)
    (hmin : ∀ y ∈ pop, y.number ≠ x.number → xlt (x.val xnum i) (y.val xnum i) = true)
    (st : CSt) (h : Inv pop st) : lookupD xnum x.number (crowdStep xnum st i).2 = .pinf := by
  have hperm := (sortByKey_perm xlt (fun z : Ind XVal => z.val xnum i) st.1).trans h.1
  have hsc := sorted_col st.1 i (fun z hz => hnn z (h.1.subset hz) i)
  obtain ⟨t, ht⟩ := head_of_pairwise (sorted_pop st.1 i (fun z hz => hnn z (h.1.subset hz) i))
    (hperm.symm.subset hx) (fun y hy hne hord => by
      have := hmin y (hperm.subset hy) (ne_number_of_ne hnum hx (hperm.subset hy) hne)
      rw [KeyLe, this] at hord; cases hord)
  rw [crowdStep_eq i st]
  rw [ht] at hperm hsc ⊢
  have hnd := (nodup_cons.1 (hperm.nodup_iff.2 (nodup_of_numbers hnum))).1
  exact stepCol_head _ _ _ _ _ (by rintro h0; have := hperm.length_eq; simp [map_eq_nil_iff.1 h0] at this; omega)
    hsc.1 hsc.2 (fun v hv => by
      obtain ⟨y, hy, rfl⟩ := mem_map.1 hv
      have hy' := hperm.subset (mem_cons_of_mem _ hy)
      exact hmin y hy' (ne_number_of_ne hnum hx hy' fun he => hnd (he ▸ hy))) h.2

theorem crowdStep_max (pop : List (Ind XVal)) (hnn : NoNaNPop pop) (hnum : (pop.map (·.number)).Nodup)
    (x : Ind XVal) (hx : x ∈ pop) (i : Nat) (h2 : 2 ≤ pop.length)
    (hmax : ∀ y ∈ pop, y.number ≠ x.number → xlt (y.val xnum i) (x.val xnum i) = true)
    (st : CSt) (h : Inv pop st) : lookupD xnum x.number (crowdStep xnum st i).2 = .pinf := by
  have hperm := (sortByKey_perm xlt (fun z : Ind XVal => z.val xnum i) st.1).trans h.1
  have hsc := sorted_col st.1 i (fun z hz => hnn z (h.1.subset hz) i)
  obtain ⟨t, ht⟩ := last_of_pairwise (sorted_pop st.1 i (fun z hz => hnn z (h.1.subset hz) i))
    (hperm.symm.subset hx) (fun y hy hne hord => by
      have := hmax y (hperm.subset hy) (ne_number_of_ne hnum hx (hperm.subset hy) hne)
      rw [KeyLe, this] at hord; cases hord)
  rw [crowdStep_eq i st]
  rw [ht] at hperm hsc ⊢
  have hnd : x ∉ t := fun hxt => (nodup_append.1 (hperm.nodup_iff.2 (nodup_of_numbers hnum))).2.2 x hxt x (by simp) rfl
  simp only [map_append, map_cons, map_nil] at hsc ⊢
  exact stepCol_last _ _ _ _ _ (by rintro h0; have := hperm.length_eq; simp [map_eq_nil_iff.1 h0] at this; omega)
    hsc.1 hsc.2 (fun v hv => by
      obtain ⟨y, hy, rfl⟩ := mem_map.1 hv
      have hy' := hperm.subset (mem_append_left _ hy)
      exact hmax y hy' (ne_number_of_ne hnum hx hy' fun he => hnd (he ▸ hy))) h.2 (by simp)
    (by have := (hperm.map (·.number)).nodup_iff.2 hnum; simpa using this)

end OptunaVerif.Nsga2
