import OptunaVerif.Generated.InMemoryMethods
import OptunaVerif.Lemmas.SimpAttr
import OptunaVerif.Lemmas.InMemoryMaps
/-! The interpreter of `Model/InMemoryIR.lean` as a simp set (`inmem_ir`: one equation per statement constructor, the
expression evaluators and `doAct` by their defining equations), and what a call of each GENERATED helper of
`InMemoryStorage` does, in terms of the helper functions of the hand model (`InMemory.getTrial`, `setTrial`,
`updateCache`, …), for every frame.  The `call_*` lemmas join the simp set as they are proved, so a body that calls a
helper is executed without entering it again.  A change of a helper in the source changes the generated data and the
lemma about that helper no longer checks.  Last, the two statements every trial setter starts with
(`interp_updatable`: they are `InMemory.getUpdatable`; `exec_check_get`: a `_check_trial_id` before them is redundant). -/
namespace OptunaVerif.InMemoryIR
open OptunaVerif.Storage OptunaVerif.InMemory
open OptunaVerif.Generated.InMemoryMethods

/-! ### the interpreter as a simp set

`exec` on `skip`, `seq`, `ite`, `raise`, `ret`, `act` (`exec.eq_1` … `exec.eq_6`).  Its equations for `call` and
`forStudyTrials` (`exec.eq_7`, `exec.eq_8`) stay out of the set: a call of a generated helper is rewritten by the lemma
about that helper (`call_*` below), and `exec.eq_7` enters a callee once, in the proof of that lemma. -/

attribute [inmem_ir] exec.eq_1 exec.eq_2 exec.eq_3 exec.eq_4 exec.eq_5 exec.eq_6

attribute [inmem_ir] interp block doAct evalCond evalRet evalNum Env.entry Env.frame finish bindArgs bindRes
  studyOf setM updStudy ok bad raiseE R.ofOpt opSid? opTid? opName? opDirs? opAttr? opTmpl? opParamName? opParam?
  opState? opValues? opInter? opNumber? opStates? outFor

/-- run the interpreter: its equations (`inmem_ir`), the given bodies and hypotheses, then the default simp set -/
macro "ir_simp" "[" ts:Lean.Parser.Tactic.simpLemma,* "]" : tactic =>
  `(tactic| simp [inmem_ir, $ts,*])

set_option hygiene false in
/-- split a frame into its slots -/
macro "env_cases" e:ident : tactic =>
  `(tactic| obtain ⟨m, sid, tid, num, name, trial, bestTrial, study, trials, best, dirs, dir, ps, bv, nv, val⟩ := $e)

theorem exec_call_of {op : Op} {h : Stmt} {args : List (Slot × Arg)} {env : Env} (res : Res) (callee : Env)
    (hb : bindArgs env args (Env.frame env.m) = some callee) :
    exec op (.call h args res) env =
      match (exec op h callee).2 with
      | .raised x => (setM env (exec op h callee).1.m, .raised x)
      | .bad => (setM env (exec op h callee).1.m, .bad)
      | .ret v => bindRes (setM env (exec op h callee).1.m) res v
      | .next => bindRes (setM env (exec op h callee).1.m) res .none := by
  simp only [exec.eq_7, hb]
  generalize exec op h callee = x
  obtain ⟨c, fl⟩ := x
  cases fl <;> rfl

/-- `self._check_study_id(study_id)` -/
@[inmem_ir] theorem call_checkStudyId (op : Op) (env : Env) :
    exec op (.call checkStudyIdPrivM [(.sid, .sidV)] .drop) env =
      match env.sid with
      | none => (env, .bad)
      | some s => if (env.m.studies.get? s).isSome then (env, .next) else (env, .raised .keyError) := by
  env_cases env
  rw [exec.eq_7]
  cases sid with
  | none => rfl
  | some s => cases h2 : (m.studies.get? s).isSome <;> ir_simp [checkStudyIdPrivM, h2]

/-- `self._check_trial_id(trial_id)` -/
@[inmem_ir] theorem call_checkTrialId (op : Op) (env : Env) :
    exec op (.call checkTrialIdPrivM [(.tid, .tidV)] .drop) env =
      match env.tid with
      | none => (env, .bad)
      | some t => if (env.m.tidMap.get? t).isSome then (env, .next) else (env, .raised .keyError) := by
  env_cases env
  rw [exec.eq_7]
  cases tid with
  | none => rfl
  | some t => cases h2 : (m.tidMap.get? t).isSome <;> ir_simp [checkTrialIdPrivM, h2]

theorem exec_getTrialPriv (op : Op) (c : Env) :
    (exec op getTrialPrivM c).1.m = c.m ∧
    (exec op getTrialPrivM c).2 = match c.tid with
      | none => Flow.bad
      | some t => match InMemory.getTrial c.m t with
        | .error e => .raised e
        | .ok f => .ret (.trial (f.id, f.t)) := by
  env_cases c
  cases tid with
  | none => ir_simp [getTrialPrivM]
  | some t => fun_cases InMemory.getTrial m t <;> simp_all [inmem_ir, getTrialPrivM, InMemory.getTrial]

/-- `trial = self._get_trial(trial_id)` -/
@[inmem_ir] theorem call_getTrialPriv_trial (op : Op) (env : Env) :
    exec op (.call getTrialPrivM [(.tid, .tidV)] .trial) env =
      match env.tid with
      | none => (env, .bad)
      | some t => match InMemory.getTrial env.m t with
        | .ok f => ({ env with trial := some (f.id, f.t) }, .next)
        | .error e => (env, .raised e) := by
  env_cases env
  cases tid with
  | none => rfl
  | some t =>
    refine (exec_call_of _ _ rfl).trans ?_
    simp only [exec_getTrialPriv, Env.frame]
    cases InMemory.getTrial m t <;> rfl

/-- `best_trial = self._get_trial(best_trial_id)` -/
@[inmem_ir] theorem call_getTrialPriv_best (op : Op) (env : Env) :
    exec op (.call getTrialPrivM [(.tid, .bestId)] .bestTrial) env =
      match env.best with
      | some (some b) => match InMemory.getTrial env.m b with
        | .ok f => ({ env with bestTrial := some (f.id, f.t) }, .next)
        | .error e => (env, .raised e)
      | _ => (env, .bad) := by
  env_cases env
  cases best with
  | none => rfl
  | some ob =>
    cases ob with
    | none => rfl
    | some b =>
      refine (exec_call_of _ _ rfl).trans ?_
      simp only [exec_getTrialPriv, Env.frame]
      cases InMemory.getTrial m b <;> rfl

/-- `return self._get_trial(trial_id)` -/
@[inmem_ir] theorem call_getTrialPriv_val (op : Op) (env : Env) :
    exec op (.call getTrialPrivM [(.tid, .tidV)] .val) env =
      match env.tid with
      | none => (env, .bad)
      | some t => match InMemory.getTrial env.m t with
        | .ok f => ({ env with val := some (.trial (f.id, f.t)) }, .next)
        | .error e => (env, .raised e) := by
  env_cases env
  cases tid with
  | none => rfl
  | some t =>
    refine (exec_call_of _ _ rfl).trans ?_
    simp only [exec_getTrialPriv, Env.frame]
    cases InMemory.getTrial m t <;> rfl

theorem exec_getTrialM (op : Op) (c : Env) :
    (exec op getTrialM c).1.m = c.m ∧
    (exec op getTrialM c).2 = match c.tid with
      | none => Flow.bad
      | some t => match InMemory.getTrial c.m t with
        | .ok f => .ret (.trial (f.id, f.t))
        | .error e => .raised e := by
  env_cases c
  cases tid with
  | none => ir_simp [getTrialM]
  | some t => cases h : InMemory.getTrial m t <;> ir_simp [getTrialM, h]

/-- `trial = self.get_trial(trial_id)` (inside `check_trial_is_updatable`) -/
@[inmem_ir] theorem call_getTrial_trial (op : Op) (env : Env) :
    exec op (.call getTrialM [(.tid, .tidV)] .trial) env =
      match env.tid with
      | none => (env, .bad)
      | some t => match InMemory.getTrial env.m t with
        | .ok f => ({ env with trial := some (f.id, f.t) }, .next)
        | .error e => (env, .raised e) := by
  env_cases env
  cases tid with
  | none => rfl
  | some t =>
    refine (exec_call_of _ _ rfl).trans ?_
    simp only [exec_getTrialM, Env.frame]
    cases InMemory.getTrial m t <;> rfl

/-- `return self.get_trial(best_trial_id)` -/
@[inmem_ir] theorem call_getTrial_best_val (op : Op) (env : Env) :
    exec op (.call getTrialM [(.tid, .bestId)] .val) env =
      match env.best with
      | some (some b) => match InMemory.getTrial env.m b with
        | .ok f => ({ env with val := some (.trial (f.id, f.t)) }, .next)
        | .error e => (env, .raised e)
      | _ => (env, .bad) := by
  env_cases env
  cases best with
  | none => rfl
  | some ob =>
    cases ob with
    | none => rfl
    | some b =>
      refine (exec_call_of _ _ rfl).trans ?_
      simp only [exec_getTrialM, Env.frame]
      cases InMemory.getTrial m b <;> rfl

/-- `self.check_trial_is_updatable(trial_id, trial.state)` -/
@[inmem_ir] theorem call_checkUpdatable (op : Op) (env : Env) :
    exec op (.call checkTrialIsUpdatableM [(.tid, .tidV), (.passedState, .trialState)] .drop) env =
      match env.tid, env.trial with
      | some t, some p =>
        if p.2.state.isFinished then
          match InMemory.getTrial env.m t with
          | .ok _ => (env, .raised .updateFinished)
          | .error e => (env, .raised e)
        else (env, .next)
      | _, _ => (env, .bad) := by
  env_cases env
  rw [exec.eq_7]
  cases tid with
  | none => rfl
  | some t =>
    cases trial with
    | none => rfl
    | some p =>
      cases hf : p.2.state.isFinished with
      | false => ir_simp [checkTrialIsUpdatableM, hf]
      | true => cases h : InMemory.getTrial m t <;> ir_simp [checkTrialIsUpdatableM, hf, h]

/-- `self._set_trial(trial_id, trial)` -/
@[inmem_ir] theorem call_setTrialPriv (op : Op) (env : Env) :
    exec op (.call setTrialPrivM [(.tid, .tidV), (.trial, .trial)] .drop) env =
      match env.tid, env.trial with
      | some t, some p =>
        match env.m.tidMap.get? t with
        | none => (env, .raised .keyError)
        | some (s, n) => (setM env (setTrial env.m s n p), .next)
      | _, _ => (env, .bad) := by
  env_cases env
  rw [exec.eq_7]
  cases tid with
  | none => rfl
  | some t =>
    cases trial with
    | none => rfl
    | some p =>
      cases h1 : m.tidMap.get? t with
      | none => ir_simp [setTrialPrivM, h1]
      | some sn =>
        obtain ⟨s, n⟩ := sn
        ir_simp [setTrialPrivM, setTrial, h1]

/-- `_directions = self.get_study_directions(study_id)` -/
@[inmem_ir] theorem call_getStudyDirections (op : Op) (env : Env) :
    exec op (.call getStudyDirectionsM [(.sid, .sidV)] .dirs) env =
      match env.sid with
      | none => (env, .bad)
      | some s => match env.m.studies.get? s with
        | none => (env, .raised .keyError)
        | some si => ({ env with dirs := some si.directions }, .next) := by
  env_cases env
  rw [exec.eq_7]
  cases sid with
  | none => rfl
  | some s => cases h : m.studies.get? s <;> ir_simp [getStudyDirectionsM, h]

@[inmem_ir] theorem call_updateCache (op : Op) (env : Env) :
    exec op (.call updateCachePrivM [(.tid, .tidV), (.sid, .sidV)] .drop) env =
      match env.tid, env.sid with
      | some t, some s => match updateCache env.m t s with
        | .ok m' => (setM env m', .next)
        | .error e => (env, .raised e)
      | _, _ => (env, .bad) := by
  env_cases env
  rw [exec.eq_7]
  cases tid with
  | none => rfl
  | some t =>
    cases sid with
    | none => rfl
    | some s =>
      -- the generated body and the hand model take the same decisions, branch by branch of the hand model
      fun_cases updateCache m t s <;> simp_all [inmem_ir, updateCachePrivM, updateCache, cmpVal, beq_false_of_ne]

/-- the loop variable after a `for` over `l` (unchanged when `l` is empty) -/
def lastOr : List Tr → Option Tr → Option Tr
  | [], d => d
  | p :: r, _ => lastOr r (some p)

/-- `for trial in …: del self._trial_id_to_study_id_and_number[trial._trial_id]` -/
theorem loop_tidMapDel (op : Op) (l : List Tr) (env : Env) :
    loop (fun e => exec op (.act (.tidMapDel .trialId)) e) l env =
      ({ env with m := { env.m with tidMap := l.foldl (fun mp p => mp.erase p.1) env.m.tidMap },
                  trial := lastOr l env.trial }, .next) := by
  induction l generalizing env with
  | nil => rfl
  | cons p r ih =>
    have h1 : exec op (.act (.tidMapDel .trialId)) { env with trial := some p } =
        ({ env with trial := some p, m := { env.m with tidMap := env.m.tidMap.erase p.1 } }, .next) := by
      simp [inmem_ir]
    rw [loop]
    simp only [h1]
    rw [ih]
    rfl

/-- the body of the WAITING scan of `get_all_trials` -/
def waitingBody : Stmt :=
  .ite (.trialStateIs .waiting) (.seq (.ite .trialsEmpty (.act (.prevWaitingSet .trialNumber)) .skip) (.act .trialsAppend)) .skip

def isWaiting (p : Tr) : Bool := p.2.state == .waiting

theorem loop_waiting (op : Op) (s : Nat) (l : List Tr) (env : Env) (acc : List Tr)
    (hs : env.sid = some s) (ha : env.trials = some acc) :
    loop (fun e => exec op waitingBody e) l env =
      ({ env with
          m := { env.m with prevWaiting :=
            if acc.isEmpty then (match l.filter isWaiting with
              | [] => env.m.prevWaiting
              | p :: _ => env.m.prevWaiting.set s p.2.number) else env.m.prevWaiting },
          trials := some (acc ++ l.filter isWaiting),
          trial := lastOr l env.trial }, .next) := by
  induction l generalizing env acc with
  | nil =>
    env_cases env
    simp only at hs ha
    subst hs ha
    cases acc <;> simp [loop, lastOr]
  | cons p r ih =>
    cases hw : (p.2.state == TState.waiting) with
    | false =>
      have h1 : exec op waitingBody { env with trial := some p } = ({ env with trial := some p }, .next) := by
        simp [inmem_ir, waitingBody, hw]
      rw [loop]
      simp only [h1]
      rw [ih { env with trial := some p } acc hs ha]
      simp [List.filter, isWaiting, hw, lastOr]
    | true =>
      cases acc with
      | nil =>
        have h1 : exec op waitingBody { env with trial := some p } =
            ({ env with trial := some p, trials := some [p],
                        m := { env.m with prevWaiting := env.m.prevWaiting.set s p.2.number } }, .next) := by
          simp [inmem_ir, waitingBody, hw, hs, ha]
        rw [loop]
        simp only [h1]
        rw [ih { env with trial := some p, trials := some [p], m := { env.m with prevWaiting := env.m.prevWaiting.set s p.2.number } } [p] hs rfl]
        simp [List.filter, isWaiting, hw, lastOr]
      | cons a acc' =>
        have h1 : exec op waitingBody { env with trial := some p } =
            ({ env with trial := some p, trials := some (a :: acc' ++ [p]) }, .next) := by
          simp [inmem_ir, waitingBody, hw, hs, ha]
        rw [loop]
        simp only [h1]
        rw [ih { env with trial := some p, trials := some (a :: acc' ++ [p]) } (a :: acc' ++ [p]) hs rfl]
        simp [List.filter, isWaiting, hw, lastOr]


/-- the deletion loop of `delete_study` -/
@[inmem_ir] theorem exec_forTidMapDel (op : Op) (env : Env) :
    exec op (.forStudyTrials false (.act (.tidMapDel .trialId))) env =
      match env.sid with
      | none => (env, .bad)
      | some s => match env.m.studies.get? s with
        | none => (env, .raised .keyError)
        | some si =>
          ({ env with m := { env.m with tidMap := si.trials.foldl (fun mp p => mp.erase p.1) env.m.tidMap },
                      trial := lastOr si.trials env.trial }, .next) := by
  rw [exec.eq_8]
  cases h : env.sid with
  | none => simp [studyOf, h]
  | some s =>
    cases h2 : env.m.studies.get? s with
    | none => simp [studyOf, h, h2]
    | some si => simp [studyOf, h, h2, loop_tidMapDel]

/-- the WAITING scan of `get_all_trials` -/
theorem exec_forWaiting (op : Op) (s : Nat) (acc : List Tr) (env : Env) (hs : env.sid = some s) (ha : env.trials = some acc) :
    exec op (.forStudyTrials true
        (.ite (.trialStateIs .waiting) (.seq (.ite .trialsEmpty (.act (.prevWaitingSet .trialNumber)) .skip) (.act .trialsAppend)) .skip)) env =
      match env.m.studies.get? s with
      | none => (env, .raised .keyError)
      | some si =>
        let l := si.trials.drop ((env.m.prevWaiting.get? s).getD 0)
        ({ env with
            m := { env.m with prevWaiting :=
              if acc.isEmpty then (match l.filter isWaiting with
                | [] => env.m.prevWaiting
                | p :: _ => env.m.prevWaiting.set s p.2.number) else env.m.prevWaiting },
            trials := some (acc ++ l.filter isWaiting),
            trial := lastOr l env.trial }, .next) := by
  rw [exec.eq_8]
  cases h2 : env.m.studies.get? s with
  | none => simp [studyOf, hs, h2]
  | some si =>
    have := loop_waiting op s (si.trials.drop ((env.m.prevWaiting.get? s).getD 0)) env acc hs ha
    simp only [waitingBody] at this
    simp [studyOf, hs, h2, this]
    all_goals (cases acc <;> rfl)

theorem finish_eq (op : Op) (x : Env × Flow) :
    finish op x = match x.2 with
      | .raised e => (x.1.m, .err e)
      | .ret v => (x.1.m, outFor op v)
      | .next => (x.1.m, outFor op .none)
      | .bad => (x.1.m, unrepresentable) := by
  obtain ⟨e, fl⟩ := x
  cases fl <;> rfl

theorem filter_const_true {α : Type} (l : List α) : l.filter (fun _ => true) = l := by
  induction l with
  | nil => rfl
  | cons a t ih => simp [List.filter, ih]

theorem isWaiting_eq : isWaiting = fun p => p.2.state == TState.waiting := rfl

def frameSid (m : State) (s : Nat) : Env := { Env.frame m with sid := some s }

theorem exec_getAllTrials (op : Op) (m : State) (s : Nat) (states : Option (List TState)) (ho : opStates? op = some states) :
    (exec op getAllTrialsM (frameSid m s)).1.m =
      (match m.studies.get? s with
        | none => m
        | some si => (allTrials m s si states).1) ∧
    (exec op getAllTrialsM (frameSid m s)).2 =
      (match m.studies.get? s with
        | none => .raised .keyError
        | some si => .ret (.trials (allTrials m s si states).2)) := by
  unfold frameSid
  cases op <;> simp only [opStates?] at ho <;> (try cases ho)
  all_goals
    cases h : m.studies.get? s with
    | none => ir_simp [getAllTrialsM, h]
    | some si =>
      cases hw : (states == some [TState.waiting]) with
      | false =>
        cases states with
        | none => ir_simp [getAllTrialsM, allTrials, stateIn, h, filter_const_true]
        | some l => ir_simp [getAllTrialsM, allTrials, h, hw]
      | true =>
        have hst : states = some [TState.waiting] := by simpa using hw
        subst hst
        ir_simp [getAllTrialsM, allTrials, h, exec_forWaiting _ s [], isWaiting_eq]
        generalize hfound : List.filter (fun p : Tr => p.snd.state == TState.waiting)
          (List.drop ((m.prevWaiting.get? s).getD 0) si.trials) = found
        cases found <;> simp


/-- `self.get_all_trials(study_id, deepcopy=False, states=state)` inside `get_n_trials` -/
theorem call_getAllTrials_val (op : Op) (env : Env) (s : Nat) (states : Option (List TState))
    (ho : opStates? op = some states) (hs : env.sid = some s) :
    exec op (.call getAllTrialsM [(.sid, .sidV)] .val) env =
      match env.m.studies.get? s with
      | none => (env, .raised .keyError)
      | some si => ({ env with m := (allTrials env.m s si states).1, val := some (.trials (allTrials env.m s si states).2) }, .next) := by
  obtain ⟨h1, h2⟩ := exec_getAllTrials op env.m s states ho
  have hb : bindArgs env [(.sid, .sidV)] (Env.frame env.m) = some (frameSid env.m s) := by
    simp [bindArgs, hs, frameSid]
  simp only [exec.eq_7, hb]
  generalize exec op getAllTrialsM (frameSid env.m s) = x at h1 h2 ⊢
  obtain ⟨c, fl⟩ := x
  simp only at h1 h2
  subst h2
  cases h : env.m.studies.get? s <;> simp [h] at h1 <;> simp [bindRes, setM, ok, h1]

theorem getUpdatable_tidMap {m : State} {tid : Nat} {f : Found} (h : getUpdatable m tid = .ok f) :
    m.tidMap.get? tid = some (f.sid, f.num) :=
  ((getTrial_ok_iff m tid f).1 ((getUpdatable_ok_iff m tid f).1 h).1).1

/-- `trial = self._get_trial(trial_id)`, then `self.check_trial_is_updatable(trial_id, trial.state)`: together
`InMemory.getUpdatable`; what follows runs with the trial bound -/
theorem finish_exec_updatable (op : Op) (env : Env) (t : Nat) (rest : Stmt) (ht : env.tid = some t) :
    finish op (exec op (.seq (.call getTrialPrivM [(.tid, .tidV)] .trial)
        (.seq (.call checkTrialIsUpdatableM [(.tid, .tidV), (.passedState, .trialState)] .drop) rest)) env) =
      match getUpdatable env.m t with
      | .error e => (env.m, .err e)
      | .ok f => finish op (exec op rest { env with trial := some (f.id, f.t) }) := by
  env_cases env
  simp only at ht
  subst ht
  unfold getUpdatable
  cases h : InMemory.getTrial m t with
  | error e => ir_simp [h]
  | ok f => cases hf : f.t.state.isFinished <;> ir_simp [h, hf]

theorem interp_updatable (op : Op) (m : State) (t : Nat) (r : Stmt) (rs : List Stmt) (ht : opTid? op = some t) :
    interp (block (.call getTrialPrivM [(.tid, .tidV)] .trial ::
        .call checkTrialIsUpdatableM [(.tid, .tidV), (.passedState, .trialState)] .drop :: r :: rs)) m op =
      match getUpdatable m t with
      | .error e => (m, .err e)
      | .ok f => finish op (exec op (block (r :: rs)) { Env.entry m op with trial := some (f.id, f.t) }) :=
  finish_exec_updatable op (Env.entry m op) t _ ht

/-- `self._check_trial_id(trial_id)` before `self._get_trial(trial_id)` adds nothing: `_get_trial` makes the same check -/
theorem exec_check_get (op : Op) (env : Env) (r : Stmt) (rs : List Stmt) :
    exec op (block (.call checkTrialIdPrivM [(.tid, .tidV)] .drop ::
        .call getTrialPrivM [(.tid, .tidV)] .trial :: r :: rs)) env =
      exec op (block (.call getTrialPrivM [(.tid, .tidV)] .trial :: r :: rs)) env := by
  env_cases env
  cases tid with
  | none => ir_simp []
  | some t =>
    cases h : m.tidMap.get? t with
    | none => ir_simp [h, InMemory.getTrial]
    | some p => ir_simp [h]

/-! ### conditional assignments

`if c: x = e` is the one assignment `x = (e if c else x)`, which is how the hand model writes it: a body that contains
one runs on, with the test open, instead of once per outcome of the test. -/

/-- `if values is not None: trial.values = values` -/
@[inmem_ir high] theorem exec_ifValues (op : Op) (env : Env) :
    exec op (.ite .valuesGiven (.act .trialSetValues) .skip) env =
      match opValues? op, env.trial with
      | some vs, some t => ok { env with trial := some (t.1, { t.2 with values := vs.or t.2.values }) }
      | some vs, none => if vs.isSome then bad env else ok env
      | none, _ => bad env := by
  env_cases env
  simp only [exec.eq_1, exec.eq_3, exec.eq_6, evalCond, doAct]
  cases opValues? op with
  | none => rfl
  | some vs => cases vs <;> cases trial <;> rfl

/-- `if state == TrialState.RUNNING: trial.datetime_start = datetime.now()` -/
@[inmem_ir high] theorem exec_ifRunning (op : Op) (env : Env) :
    exec op (.ite (.argStateIs .running) (.act .trialSetStart) .skip) env =
      match opState? op, env.trial with
      | some st, some t => ok { env with trial := some (t.1, { t.2 with hasStart := t.2.hasStart || st == .running }) }
      | some st, none => if st == .running then bad env else ok env
      | none, _ => bad env := by
  env_cases env
  cases h : opState? op with
  | none => simp [exec.eq_3, evalCond, h, bad]
  | some st =>
    cases hs : (st == TState.running) <;> cases trial <;>
      simp [exec.eq_1, exec.eq_3, exec.eq_6, evalCond, doAct, h, hs, ok, bad]

theorem isFinished_running : TState.running.isFinished = false := rfl
theorem isFinished_complete : TState.complete.isFinished = true := rfl
theorem isFinished_pruned : TState.pruned.isFinished = true := rfl
theorem isFinished_fail : TState.fail.isFinished = true := rfl
theorem isFinished_waiting : TState.waiting.isFinished = false := rfl

end OptunaVerif.InMemoryIR
