import OptunaVerif.Lemmas.TruncNormGaussian
/-!
# C18 — the error function and the identity `_ndtr(a) = 0.5 + 0.5 * erf(a / 2**0.5)` for the genuine standard normal

The Mathlib of this toolchain (Lean 4.33) has no `erf`; it is defined here by its integral, `erf x = 2/√π ∫₀ˣ exp(-t²) dt`, `erfc = 1 - erf`.
`gaussCdf_eq_erf` is the change of variables `t = √2 s` in `gaussCdf a = 1/2 + ∫₀ᵃ exp(-t²/2)/√(2π) dt`.  Together with
oddness this is what the hypothesis bundle `ErfLike` of `Lemmas/TruncNorm.lean` asks for (`Props/C18Inst.lean`).
-/
namespace OptunaVerif.TruncNorm

/-- `math.erf` / `_erf.erf` in the real-number model -/
noncomputable def erfR (x : ℝ) : ℝ := 2 / Real.sqrt Real.pi * ∫ t in (0 : ℝ)..x, Real.exp (-(t ^ 2))

/-- `math.erfc` -/
noncomputable def erfcR (x : ℝ) : ℝ := 1 - erfR x

theorem erfR_zero : erfR 0 = 0 := by simp [erfR]

theorem erfR_neg (x : ℝ) : erfR (-x) = -erfR x := by
  unfold erfR
  rw [integral_zero_neg_of_even (f := fun t => Real.exp (-(t ^ 2))) fun t => by rw [neg_sq]]; ring

theorem sqrt_two_pi_eq : Real.sqrt (2 * Real.pi) = Real.sqrt 2 * Real.sqrt Real.pi :=
  Real.sqrt_mul (by norm_num) Real.pi

theorem gaussCdf_eq_erf (a : ℝ) : gaussCdf a = 1 / 2 + 1 / 2 * erfR (a / Real.sqrt 2) := by
  have h2 : Real.sqrt 2 ≠ 0 := sqrt_two_pos.ne'
  have hpi : Real.sqrt Real.pi ≠ 0 := (Real.sqrt_pos.mpr Real.pi_pos).ne'
  have e : ∀ t : ℝ, gaussPdf t = (Real.sqrt (2 * Real.pi))⁻¹ * (fun s : ℝ => Real.exp (-(s ^ 2))) (t / Real.sqrt 2) := by
    intro t
    rw [gaussPdf_eq]
    have : (t / Real.sqrt 2) ^ 2 = 1 / 2 * t ^ 2 := by
      rw [div_pow, Real.sq_sqrt (by norm_num : (0 : ℝ) ≤ 2)]; ring
    simp only [this]
    rw [div_eq_inv_mul]
    congr 2; ring
  unfold gaussCdf erfR
  simp_rw [e]
  have hcv := intervalIntegral.integral_comp_div (a := 0) (b := a) (fun s : ℝ => Real.exp (-(s ^ 2))) h2
  simp only [zero_div, smul_eq_mul] at hcv
  rw [intervalIntegral.integral_const_mul, hcv, sqrt_two_pi_eq]
  field_simp

theorem erfR_eq_gaussCdf (x : ℝ) : erfR x = 2 * gaussCdf (x * Real.sqrt 2) - 1 := by
  have h2 : Real.sqrt 2 ≠ 0 := sqrt_two_pos.ne'
  rw [gaussCdf_eq_erf, mul_div_cancel_right₀ _ h2]; ring

theorem erfR_range (x : ℝ) : -1 < erfR x ∧ erfR x < 1 ∧ 0 < erfcR x ∧ erfcR x < 2 := by
  have h1 := gaussCdf_pos (x * Real.sqrt 2)
  have h2 := gaussCdf_lt_one (x * Real.sqrt 2)
  unfold erfcR
  rw [erfR_eq_gaussCdf]
  refine ⟨by linarith, by linarith, by linarith, by linarith⟩

theorem erfR_strictMono : StrictMono erfR := by
  intro x y hxy
  rw [erfR_eq_gaussCdf, erfR_eq_gaussCdf]
  have := gaussCdf_strictMono (mul_lt_mul_of_pos_right hxy sqrt_two_pos)
  linarith

theorem gaussCdf_lipschitz (x y : ℝ) : |gaussCdf x - gaussCdf y| ≤ |x - y| := by
  have := Convex.norm_image_sub_le_of_norm_deriv_le (f := gaussCdf) (s := Set.univ) (C := 1)
    (fun z _ => (gaussCdf_hasDerivAt z).differentiableAt)
    (fun z _ => by
      rw [(gaussCdf_hasDerivAt z).deriv, Real.norm_eq_abs, abs_of_pos (gaussPdf_pos z)]; exact gaussPdf_le_one z)
    convex_univ (Set.mem_univ y) (Set.mem_univ x)
  simpa [Real.norm_eq_abs] using this

end OptunaVerif.TruncNorm
