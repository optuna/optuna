import OptunaVerif.Model.Txn
/-!
Lemmas about `Model/Txn.lean`: where the durable state can be after every prefix of a call.
-/
namespace OptunaVerif.Txn

variable {σ ω : Type}

theorem run_append (ap : σ → ω → σ) (db : Db σ) (a b : List (Step ω)) :
    run ap db (a ++ b) = run ap (run ap db a) b := by
  simp [run, List.foldl_append]

theorem mem_durs_self (ap : σ → ω → σ) (db : Db σ) (steps : List (Step ω)) :
    db.durable ∈ durs ap db steps := by
  cases steps <;> simp [durs]

theorem mem_durs_append (ap : σ → ω → σ) (db : Db σ) (a b : List (Step ω)) (x : σ) :
    x ∈ durs ap db (a ++ b) ↔ x ∈ durs ap db a ∨ x ∈ durs ap (run ap db a) b := by
  induction a generalizing db with
  | nil =>
    simp only [List.nil_append, durs, run, List.foldl_nil, List.mem_singleton]
    constructor
    · intro h; exact Or.inr h
    · intro h
      rcases h with h | h
      · rw [h]; exact mem_durs_self ap db b
      · exact h
  | cons s r ih =>
    simp only [List.cons_append, durs, List.mem_cons, run, List.foldl_cons]
    rw [ih]
    simp only [run, or_assoc]

theorem crash_mem_durs (ap : σ → ω → σ) (db : Db σ) (steps : List (Step ω)) (k : Nat) :
    (run ap db (steps.take k)).durable ∈ durs ap db steps := by
  induction steps generalizing db k with
  | nil => simp [run, durs]
  | cons s r ih =>
    cases k with
    | zero => simp [run, durs]
    | succ k =>
      simp only [List.take_succ_cons, run, List.foldl_cons, durs]
      exact List.mem_cons_of_mem _ (ih _ k)

theorem durs_is_crash (ap : σ → ω → σ) (db : Db σ) (steps : List (Step ω)) (x : σ)
    (h : x ∈ durs ap db steps) : ∃ k, k ≤ steps.length ∧ x = (run ap db (steps.take k)).durable := by
  induction steps generalizing db with
  | nil =>
    simp only [durs, List.mem_singleton] at h
    exact ⟨0, Nat.le_refl _, by simp [run, h]⟩
  | cons s r ih =>
    simp only [durs, List.mem_cons] at h
    rcases h with h | h
    · exact ⟨0, Nat.zero_le _, by simp [run, h]⟩
    · obtain ⟨k, hk, hx⟩ := ih _ h
      exact ⟨k + 1, by simp only [List.length_cons]; omega, by simpa [run] using hx⟩

theorem writesOf_nil_of_nowrite (body : List (Step ω)) (h : body.any Step.isWrite = false) :
    writesOf body = [] := by
  induction body with
  | nil => rfl
  | cons s r ih =>
    simp only [List.any_cons, Bool.or_eq_false_iff] at h
    cases s with
    | write w => simp [Step.isWrite] at h
    | begin => simpa [writesOf] using ih h.2
    | flush => simpa [writesOf] using ih h.2
    | commit => simpa [writesOf] using ih h.2
    | rollback => simpa [writesOf] using ih h.2

theorem plain_body (ap : σ → ω → σ) (d x : σ) (body : List (Step ω)) (h : body.all Step.isPlain = true) :
    run ap { durable := d, work := some x } body = { durable := d, work := some ((writesOf body).foldl ap x) } ∧
      ∀ y ∈ durs ap { durable := d, work := some x } body, y = d := by
  induction body generalizing x with
  | nil => simp [run, durs, writesOf]
  | cons s r ih =>
    simp only [List.all_cons, Bool.and_eq_true] at h
    obtain ⟨hs, hr⟩ := h
    -- a plain request keeps the transaction open and makes nothing durable
    obtain ⟨x', he, hw⟩ : ∃ x', exec1 ap { durable := d, work := some x } s = { durable := d, work := some x' } ∧
        (writesOf (s :: r)).foldl ap x = (writesOf r).foldl ap x' := by
      cases s <;> simp [Step.isPlain] at hs <;> exact ⟨_, rfl, rfl⟩
    obtain ⟨h1, h2⟩ := ih x' hr
    refine ⟨by simpa [run, he, hw] using h1, ?_⟩
    intro y hy
    simp only [durs, List.mem_cons, he] at hy
    rcases hy with hy | hy
    · exact hy
    · exact h2 y hy

theorem nowrite_body (ap : σ → ω → σ) (db : Db σ) (body : List (Step ω)) (h : body.any Step.isWrite = false)
    (hw : db.work = none ∨ db.work = some db.durable) :
    (run ap db body).durable = db.durable ∧
      ((run ap db body).work = none ∨ (run ap db body).work = some db.durable) ∧
      ∀ y ∈ durs ap db body, y = db.durable := by
  induction body generalizing db with
  | nil => simp [run, durs, hw]
  | cons s r ih =>
    simp only [List.any_cons, Bool.or_eq_false_iff] at h
    have key : (exec1 ap db s).durable = db.durable ∧
        ((exec1 ap db s).work = none ∨ (exec1 ap db s).work = some db.durable) := by
      cases s with
      | write w => simp [Step.isWrite] at h
      | begin =>
        rcases hw with hw | hw <;> simp [exec1, hw]
      | flush => exact ⟨rfl, hw⟩
      | commit =>
        rcases hw with hw | hw <;> simp [exec1, hw]
      | rollback => simp [exec1]
    obtain ⟨k1, k2⟩ := key
    obtain ⟨a1, a2, a3⟩ := ih (exec1 ap db s) h.2 (by rw [k1]; exact k2)
    refine ⟨?_, ?_, ?_⟩
    · simpa [run, k1] using a1
    · simpa [run, k1] using a2
    · intro y hy
      simp only [durs, List.mem_cons] at hy
      rcases hy with hy | hy
      · exact hy
      · rw [← k1]; exact a3 y hy

theorem after_of_not_effective (ap : σ → ω → σ) (i : Inst ω) (d : σ) (h : i.effective = false) :
    i.after ap d = d := by
  unfold Inst.after
  split
  · rename_i hc
    simp only [Inst.effective, hc, Bool.true_and] at h
    rw [writesOf_nil_of_nowrite i.body h]
    rfl
  · rfl

theorem inst_run (ap : σ → ω → σ) (d : σ) (i : Inst ω) (h : i.safe = true) :
    run ap { durable := d, work := none } i.steps = { durable := i.after ap d, work := none } ∧
      ∀ y ∈ durs ap { durable := d, work := none } i.steps, y = d ∨ y = i.after ap d := by
  have hsteps : i.steps = [Step.begin] ++ (i.body ++ [if i.committed then .commit else .rollback]) := rfl
  have hbegin : run ap { durable := d, work := none } [Step.begin] = ({ durable := d, work := some d } : Db σ) := by
    simp [run, exec1]
  have hdb : ∀ y ∈ durs ap ({ durable := d, work := none } : Db σ) [Step.begin], y = d := by
    intro y hy
    simp only [durs, exec1, List.mem_cons, or_self, List.not_mem_nil, or_false] at hy
    exact hy
  -- the body: nothing becomes durable, and a commit after it would make durable exactly its writes
  obtain ⟨w, hrun, hd, hget⟩ : ∃ w, run ap { durable := d, work := some d } i.body = { durable := d, work := w } ∧
      (∀ y ∈ durs ap { durable := d, work := some d } i.body, y = d) ∧
      w.getD d = (writesOf i.body).foldl ap d := by
    cases hw : i.hasWrite with
    | false =>
      obtain ⟨a1, a2, a3⟩ := nowrite_body ap { durable := d, work := some d } i.body hw (Or.inr rfl)
      refine ⟨(run ap { durable := d, work := some d } i.body).work, ?_, a3, ?_⟩
      · exact (show ∀ x : Db σ, x.durable = d → x = ⟨d, x.work⟩ from fun x e => by cases x; cases e; rfl) _ a1
      · rw [writesOf_nil_of_nowrite i.body hw]
        rcases a2 with a2 | a2 <;> simp [a2]
    | true =>
      have hp : i.body.all Step.isPlain = true := by simpa [Inst.safe, Inst.plain, hw] using h
      obtain ⟨b1, b2⟩ := plain_body ap d d i.body hp
      exact ⟨_, b1, b2, rfl⟩
  rw [hsteps]
  refine ⟨?_, ?_⟩
  · rw [run_append, hbegin, run_append, hrun]
    cases hc : i.committed <;> simp [run, exec1, Inst.after, hc, hget]
  · intro y hy
    rw [mem_durs_append, hbegin, mem_durs_append, hrun] at hy
    rcases hy with hy | hy | hy
    · exact Or.inl (hdb y hy)
    · exact Or.inl (hd y hy)
    · cases hc : i.committed <;>
        simp only [hc, if_true, Bool.false_eq_true, if_false, durs, exec1, List.mem_cons, List.not_mem_nil, or_false, hget] at hy <;>
        rcases hy with hy | hy
      · exact Or.inl hy
      · exact Or.inl hy
      · exact Or.inl hy
      · right; rw [hy]; simp [Inst.after, hc]

theorem mem_boundaries_self (ap : σ → ω → σ) (d : σ) (is : List (Inst ω)) : d ∈ boundaries ap d is := by
  cases is <;> simp [boundaries]

theorem trace_run (ap : σ → ω → σ) (d : σ) (is : List (Inst ω)) (h : ∀ i ∈ is, i.safe = true) :
    run ap { durable := d, work := none } (trace is) = { durable := finalState ap d is, work := none } ∧
      ∀ y ∈ durs ap { durable := d, work := none } (trace is), y ∈ boundaries ap d is := by
  induction is generalizing d with
  | nil => simp [trace, run, durs, finalState, boundaries]
  | cons i r ih =>
    have hi := h i (by simp)
    obtain ⟨a1, a2⟩ := inst_run ap d i hi
    obtain ⟨b1, b2⟩ := ih (i.after ap d) (fun j hj => h j (by simp [hj]))
    have htr : trace (i :: r) = i.steps ++ trace r := by simp [trace]
    rw [htr]
    refine ⟨?_, ?_⟩
    · rw [run_append, a1, b1]; rfl
    · intro y hy
      rw [mem_durs_append, a1] at hy
      simp only [boundaries, List.mem_cons]
      rcases hy with hy | hy
      · rcases a2 y hy with e | e
        · exact Or.inl e
        · right; rw [e]; exact mem_boundaries_self ap _ r
      · exact Or.inr (b2 y hy)

theorem boundaries_noeff (ap : σ → ω → σ) (d : σ) (is : List (Inst ω)) (h : ∀ i ∈ is, i.effective = false) :
    finalState ap d is = d ∧ ∀ y ∈ boundaries ap d is, y = d := by
  induction is generalizing d with
  | nil => simp [finalState, boundaries]
  | cons i r ih =>
    have hi := after_of_not_effective ap i d (h i (by simp))
    obtain ⟨a1, a2⟩ := ih d (fun j hj => h j (by simp [hj]))
    refine ⟨?_, ?_⟩
    · simp only [finalState, List.foldl_cons, hi]; exact a1
    · intro y hy
      simp only [boundaries, List.mem_cons, hi] at hy
      rcases hy with hy | hy
      · exact hy
      · exact a2 y hy

theorem boundaries_one (ap : σ → ω → σ) (d : σ) (is : List (Inst ω))
    (h : (is.filter Inst.effective).length ≤ 1) :
    ∀ y ∈ boundaries ap d is, y = d ∨ y = finalState ap d is := by
  induction is generalizing d with
  | nil => intro y hy; simp only [boundaries, List.mem_singleton] at hy; exact Or.inl hy
  | cons i r ih =>
    intro y hy
    simp only [boundaries, List.mem_cons] at hy
    cases he : i.effective with
    | true =>
      have hr : ∀ j ∈ r, j.effective = false := by
        simp only [List.filter_cons, he, if_true, List.length_cons] at h
        have h0 : (r.filter Inst.effective).length = 0 := by omega
        have hnil : r.filter Inst.effective = [] := List.length_eq_zero_iff.1 h0
        intro j hj
        have := (List.filter_eq_nil_iff.1 hnil) j hj
        simpa using this
      obtain ⟨a1, a2⟩ := boundaries_noeff ap (i.after ap d) r hr
      have hfin : finalState ap d (i :: r) = i.after ap d := by
        simp only [finalState, List.foldl_cons]; exact a1
      rcases hy with hy | hy
      · exact Or.inl hy
      · right; rw [hfin]; exact a2 y hy
    | false =>
      have hi := after_of_not_effective ap i d he
      have hfin : finalState ap d (i :: r) = finalState ap d r := by
        simp only [finalState, List.foldl_cons, hi]
      have h' : (r.filter Inst.effective).length ≤ 1 := by
        simpa [List.filter_cons, he] using h
      rcases hy with hy | hy
      · exact Or.inl hy
      · rw [hi] at hy
        rw [hfin]
        exact ih d h' y hy

theorem mem_writeIdx (bs : List Block) (j : Nat) :
    j ∈ writeIdx bs ↔ ∃ b, bs[j]? = some b ∧ b.hasWrites = true := by
  simp only [writeIdx, List.mem_filter, List.mem_range]
  constructor
  · rintro ⟨hj, hb⟩
    cases hg : bs[j]? with
    | none => simp [hg] at hb
    | some b => exact ⟨b, rfl, by simpa [hg] using hb⟩
  · rintro ⟨b, hb, hw⟩
    obtain ⟨hlt, _⟩ := List.getElem?_eq_some_iff.1 hb
    exact ⟨hlt, by simp [hb, hw]⟩

theorem eq_of_length_le_one {α : Type} (l : List α) (h : l.length ≤ 1) (a b : α) (ha : a ∈ l) (hb : b ∈ l) : a = b := by
  match l, h with
  | [], _ => simp at ha
  | [x], _ =>
    simp only [List.mem_singleton] at ha hb
    rw [ha, hb]
  | _ :: _ :: _, h => simp at h

theorem safe_of_instOk (bs : List Block) (i : Inst ω) (hok : instOk bs i = true)
    (hpl : ∀ b ∈ bs, b.hasWrites = true → b.plain = true) : i.safe = true := by
  cases hw : i.hasWrite with
  | false => simp [Inst.safe, hw]
  | true =>
    unfold instOk at hok
    cases hg : bs[i.blk]? with
    | none => simp [hg] at hok
    | some b =>
      simp only [hg, hw, Bool.not_true, Bool.or_false, Bool.and_eq_true, Bool.or_eq_true, Bool.not_eq_true'] at hok
      rcases hok.2 with k2 | k2
      · rw [hpl b (List.mem_of_getElem? hg) hok.1] at k2; simp at k2
      · exact k2

theorem conforms_oneTxn (bs : List Block) (is : List (Inst ω)) (hs : oneTxnShape bs = true)
    (hc : conforms bs is = true) :
    (∀ i ∈ is, i.safe = true) ∧ (is.filter Inst.effective).length ≤ 1 := by
  simp only [oneTxnShape, Bool.and_eq_true, List.all_eq_true, decide_eq_true_eq] at hs
  obtain ⟨hall, hone⟩ := hs
  simp only [conforms, Bool.and_eq_true, List.all_eq_true] at hc
  obtain ⟨hinst, hmult⟩ := hc
  have hwr : ∀ b ∈ bs, b.hasWrites = true → b.plain = true ∧ b.rep ≠ .perItem := by
    intro b hb hw
    simpa [hw] using hall b hb
  -- an execution with a write sits on a block with a write site
  have hblk : ∀ i ∈ is, i.hasWrite = true → i.blk ∈ writeIdx bs := by
    intro i hi hw
    have hok := hinst i hi
    unfold instOk at hok
    cases hg : bs[i.blk]? with
    | none => simp [hg] at hok
    | some b =>
      simp only [hg, hw, Bool.not_true, Bool.or_false, Bool.and_eq_true] at hok
      exact (mem_writeIdx bs i.blk).2 ⟨b, hg, hok.1⟩
  refine ⟨fun i hi => safe_of_instOk bs i (hinst i hi) (fun b hb hw => (hwr b hb hw).1), ?_⟩
  · -- all effective instances sit on the one write block
    cases hwi : writeIdx bs with
    | nil =>
      have : is.filter Inst.effective = [] := by
        rw [List.filter_eq_nil_iff]
        intro i hi he
        simp only [Inst.effective, Bool.and_eq_true] at he
        have := hblk i hi he.2
        rw [hwi] at this
        simp at this
      rw [this]; simp
    | cons j rest =>
      have hjmem : j ∈ writeIdx bs := by rw [hwi]; simp
      obtain ⟨bj, hbj, hbjw⟩ := (mem_writeIdx bs j).1 hjmem
      have hjlt : j < bs.length := (List.getElem?_eq_some_iff.1 hbj).1
      have hrep : bj.rep ≠ .perItem := (hwr bj (List.mem_of_getElem? hbj) hbjw).2
      have hm := hmult j (List.mem_range.2 hjlt)
      simp only [hbj, Bool.or_eq_true, beq_iff_eq, decide_eq_true_eq] at hm
      have hcount : committedOf is j ≤ 1 := by
        rcases hm with hm | hm
        · exact absurd hm hrep
        · exact hm
      have hsub : (is.filter Inst.effective).length ≤ committedOf is j := by
        unfold committedOf
        rw [← List.countP_eq_length_filter, ← List.countP_eq_length_filter]
        apply List.countP_mono_left
        intro i hi he
        simp only [Inst.effective, Bool.and_eq_true] at he
        have : i.blk = j := eq_of_length_le_one (writeIdx bs) hone _ _ (hblk i hi he.2) hjmem
        simp [this, he.1]
      omega

end OptunaVerif.Txn
