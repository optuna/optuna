import OptunaVerif.Model.Direction
import Mathlib.Tactic.Linarith
import Mathlib.Data.Rat.Floor
import Mathlib.Data.List.Sort
/-! Helper lemmas for C13: negation against min/max, stable sorting, linear-interpolation percentile,
signed ranks and the differences they are taken of. -/
namespace OptunaVerif.Direction

@[simp] theorem negV_negV (v : V) : negV (negV v) = v := by
  cases v <;> simp [negV]

@[simp] theorem negL_negL (l : List Rat) : negL (negL l) = l := by
  simp [negL, List.map_map]

@[simp] theorem negL_length (l : List Rat) : (negL l).length = l.length := by simp [negL]

@[simp] theorem negVL_negVL (l : List V) : negVL (negVL l) = l := by
  simp [negVL, List.map_map, Function.comp_def]

theorem rmin_eq_min (a b : Rat) : rmin a b = min a b := (min_def a b).symm

theorem rmax_eq_max (a b : Rat) : rmax a b = max a b := (max_def a b).symm

theorem rmax_eq_neg_rmin (a b : Rat) : rmax a b = -rmin (-a) (-b) := by
  rw [rmax_eq_max, rmin_eq_min]
  rcases le_total a b with h | h
  · rw [max_eq_right h, min_eq_right (neg_le_neg h), neg_neg]
  · rw [max_eq_left h, min_eq_left (neg_le_neg h), neg_neg]

theorem maxL_eq_neg_minL (l : List Rat) : maxL l = (minL (negL l)).map (fun x => -x) := by
  induction l with
  | nil => simp [maxL, minL, negL]
  | cons x t ih =>
    simp only [maxL, negL, List.map_cons, minL] at *
    rw [ih]
    cases h : minL (List.map (fun x => -x) t) with
    | none => simp
    | some m => simp [rmax_eq_neg_rmin]

theorem finite_negVL (l : List V) : finite (negVL l) = negL (finite l) := by
  induction l with
  | nil => rfl
  | cons v t ih => cases v <;> simpa [negVL, negV, finite, negL] using ih

theorem nanmax_eq (l : List V) : nanmax l = negV (nanmin (negVL l)) := by
  unfold nanmax nanmin
  rw [finite_negVL, maxL_eq_neg_minL]
  cases minL (negL (finite l)) <;> simp [negV]

theorem nanmin_eq (l : List V) : nanmin l = negV (nanmax (negVL l)) := by
  rw [nanmax_eq, negVL_negVL, negV_negV]

section sort
variable {α : Type}

theorem insertBy_eq_orderedInsert (le : α → α → Bool) (x : α) (l : List α) :
    insertBy le x l = l.orderedInsert (fun a b => le a b = true) x := by
  induction l with
  | nil => rfl
  | cons y t ih => simp only [insertBy, List.orderedInsert_cons, ih]

/-- This file imports Mathlib; the copies of the insertion sort that live in core-only files get membership, sortedness and
permutation from `Lemmas/SortBasic`. -/
theorem sortBy_eq_insertionSort (le : α → α → Bool) (l : List α) :
    sortBy le l = l.insertionSort (fun a b => le a b = true) := by
  induction l with
  | nil => rfl
  | cons x t ih => rw [sortBy, ih, insertBy_eq_orderedInsert, List.insertionSort_cons]

theorem sortBy_perm (le : α → α → Bool) (l : List α) : (sortBy le l).Perm l :=
  sortBy_eq_insertionSort le l ▸ List.perm_insertionSort _ l

@[simp] theorem sortBy_length (le : α → α → Bool) (l : List α) : (sortBy le l).length = l.length :=
  (sortBy_perm le l).length_eq

theorem sortBy_pairwise (le : α → α → Bool)
    (htrans : ∀ a b c, le a b = true → le b c = true → le a c = true)
    (htotal : ∀ a b, le a b = true ∨ le b a = true) (l : List α) :
    (sortBy le l).Pairwise (fun a b => le a b = true) :=
  have : Std.Total (fun a b => le a b = true) := ⟨htotal⟩
  have : IsTrans α (fun a b => le a b = true) := ⟨htrans⟩
  sortBy_eq_insertionSort le l ▸ List.pairwise_insertionSort _ l

theorem sortBy_map_of_le {β : Type} (le : α → α → Bool) (le' : β → β → Bool) (f : α → β) (l : List α)
    (h : ∀ a ∈ l, ∀ b ∈ l, le' (f a) (f b) = le a b) : sortBy le' (l.map f) = (sortBy le l).map f := by
  rw [sortBy_eq_insertionSort, sortBy_eq_insertionSort]
  exact (List.map_insertionSort _ _ f l (fun a ha b hb => by rw [h a ha b hb])).symm

theorem sortBy_map {β : Type} (le : β → β → Bool) (f : α → β) (l : List α) :
    sortBy le (l.map f) = (sortBy (fun a b => le (f a) (f b)) l).map f :=
  sortBy_map_of_le _ le f l (fun _ _ _ _ => rfl)

end sort

theorem leR_trans (a b c : Rat) : leR a b = true → leR b c = true → leR a c = true := by
  simp only [leR, decide_eq_true_eq]; exact le_trans

theorem leR_total (a b : Rat) : leR a b = true ∨ leR b a = true := by
  simp only [leR, decide_eq_true_eq]; exact le_total a b

theorem sortR_pairwise (l : List Rat) : (sortR l).Pairwise (· ≤ ·) := by
  have := sortBy_pairwise leR leR_trans leR_total l
  simp only [leR, decide_eq_true_eq] at this
  exact this

@[simp] theorem sortR_length (l : List Rat) : (sortR l).length = l.length := sortBy_length _ _

theorem sortR_negL (l : List Rat) : sortR (negL l) = negL (sortR l).reverse := by
  apply List.Perm.eq_of_pairwise (le := (· ≤ ·))
  · intro a b _ _ h1 h2; exact le_antisymm h1 h2
  · exact sortR_pairwise _
  · -- reverse of ascending, negated, is ascending
    unfold negL
    rw [List.pairwise_map, List.pairwise_reverse]
    exact (sortR_pairwise l).imp (fun {a b} h => by linarith)
  · unfold negL
    exact (sortBy_perm _ _).trans (((List.reverse_perm _).trans (sortBy_perm _ l)).map _).symm

theorem getD_negL_reverse (s : List Rat) (i : Nat) (hi : i < s.length) :
    (negL s.reverse).getD i 0 = -(s.getD (s.length - 1 - i) 0) := by
  unfold negL
  have h2 : s.length - 1 - i < s.length := by omega
  rw [List.getD_eq_getElem?_getD, List.getD_eq_getElem?_getD, List.getElem?_map,
    List.getElem?_reverse hi, List.getElem?_eq_getElem h2]
  simp

theorem floor_toNat_eq (h : Rat) (k : Nat) (h1 : (k : Rat) ≤ h) (h2 : h < (k : Rat) + 1) :
    h.floor.toNat = k := by
  have hk : ⌊h⌋ = (k : Int) := Int.floor_eq_iff.mpr ⟨by exact_mod_cast h1, by exact_mod_cast h2⟩
  show ⌊h⌋.toNat = k
  rw [hk]; rfl

/-- numpy's interpolation at the virtual index `h`; `percLin s q` is this at `h = q / 100 * (n - 1)`, and the mirror law is
a law about `h` (`lerpAt_mirror`), into which `q` enters only through `h ↦ (n - 1) - h` -/
def lerpAt (s : List Rat) (h : Rat) : Rat :=
  s.getD h.floor.toNat 0 +
    (s.getD (min (h.floor.toNat + 1) (s.length - 1)) 0 - s.getD h.floor.toNat 0) * (h - (h.floor.toNat : Rat))

theorem percLin_eq_lerpAt (s : List Rat) (q : Rat) : percLin s q = lerpAt s (q / 100 * ((s.length : Rat) - 1)) := rfl

/-- At the right end of the interval (`h = k + 1`, where numpy's `⌊h⌋` is already `k + 1` and `γ = 0`) the formula gives the
same value. -/
theorem lerpAt_eq (s : List Rat) (h : Rat) (k : Nat) (hk : k + 1 < s.length) (h1 : (k : Rat) ≤ h) (h2 : h ≤ (k : Rat) + 1) :
    lerpAt s h = s.getD k 0 + (s.getD (k + 1) 0 - s.getD k 0) * (h - (k : Rat)) := by
  unfold lerpAt
  rcases h2.lt_or_eq with h2 | rfl
  · rw [floor_toNat_eq h k h1 h2, Nat.min_eq_left (show k + 1 ≤ s.length - 1 by omega)]
  · have hc : ((k + 1 : Nat) : Rat) = (k : Rat) + 1 := by push_cast; rfl
    rw [floor_toNat_eq _ (k + 1) hc.le (by rw [hc]; linarith), hc]
    ring

theorem exists_knot (m : Nat) (h : Rat) (h0 : 0 ≤ h) (hm : h ≤ (m : Rat) + 1) :
    ∃ k j : Nat, k + j = m ∧ (k : Rat) ≤ h ∧ h ≤ (k : Rat) + 1 := by
  induction m with
  | zero => exact ⟨0, 0, rfl, by simpa using h0, by simpa using hm⟩
  | succ m ih =>
    rcases le_total h ((m : Rat) + 1) with hle | hge
    · obtain ⟨k, j, hkj, hk⟩ := ih hle
      exact ⟨k, j + 1, by omega, hk⟩
    · exact ⟨m + 1, 0, rfl, by push_cast; exact hge, by push_cast at hm ⊢; exact hm⟩

/-- Mirror law of the interpolant: if `h` lies between positions `k` and `k + 1` of the negated reversed list,
`(n - 1) - h` lies between the mirrored positions `j` and `j + 1` of `s` (`k + j + 2 = n`), and the two interpolants agree
up to sign. -/
theorem lerpAt_mirror (s : List Rat) (h : Rat) (h0 : 0 ≤ h) (hn : h ≤ (s.length : Rat) - 1) :
    lerpAt s ((s.length : Rat) - 1 - h) = -lerpAt (negL s.reverse) h := by
  match s with
  | [] => simp at hn; linarith
  | [x] =>
    obtain rfl : h = 0 := le_antisymm (by simpa using hn) h0
    have h0' : (Rat.floor 0).toNat = 0 := rfl
    simp [lerpAt, negL, h0']
  | x :: y :: t =>
    generalize hs' : x :: y :: t = s at hn ⊢
    have hlen : s.length = t.length + 2 := by rw [← hs']; rfl
    have hL : (s.length : Rat) - 1 = (t.length : Rat) + 1 := by rw [hlen]; push_cast; ring
    obtain ⟨k, j, hkj, hk1, hk2⟩ := exists_knot t.length h h0 (hL ▸ hn)
    have hT : (t.length : Rat) = (k : Rat) + (j : Rat) := by rw [← hkj]; push_cast; ring
    rw [lerpAt_eq s _ j (by omega) (by linarith) (by linarith),
      lerpAt_eq (negL s.reverse) h k (by simp; omega) hk1 hk2,
      getD_negL_reverse s k (by omega), getD_negL_reverse s (k + 1) (by omega),
      show s.length - 1 - k = j + 1 by omega, show s.length - 1 - (k + 1) = j by omega, hL, hT]
    ring

/-- the virtual index of `100 - q` is the mirror image `(n - 1) - h` of that of `q` -/
theorem percLin_mirror (s : List Rat) (q : Rat) (hs : s ≠ []) (hq0 : 0 ≤ q) (hq1 : q ≤ 100) :
    percLin s (100 - q) = -percLin (negL s.reverse) q := by
  have hm : (0 : Rat) ≤ (s.length : Rat) - 1 := by
    have : (1 : Rat) ≤ (s.length : Rat) := by exact_mod_cast List.length_pos_iff.mpr hs
    linarith
  rw [percLin_eq_lerpAt, percLin_eq_lerpAt, negL_length, List.length_reverse,
    show (100 - q) / 100 * ((s.length : Rat) - 1) = (s.length : Rat) - 1 - q / 100 * ((s.length : Rat) - 1) by ring]
  exact lerpAt_mirror s _ (mul_nonneg (div_nonneg hq0 (by norm_num)) hm)
    (mul_le_of_le_one_left hm ((div_le_one (by norm_num)).mpr hq1))

@[simp] theorem absR_neg (x : Rat) : absR (-x) = absR x := by
  unfold absR
  split_ifs <;> linarith

theorem countP_negL (p : Rat → Bool) (l : List Rat) : countP p (negL l) = countP (fun y => p (-y)) l := by
  induction l with
  | nil => rfl
  | cons x t ih => simp only [negL, List.map_cons, countP] at *; rw [ih]

@[simp] theorem midrank_neg (d : List Rat) (x : Rat) : midrank (negL d) (-x) = midrank d x := by
  unfold midrank
  simp [countP_negL]

theorem sumBy_negL (f : Rat → Rat) (l : List Rat) : sumBy f (negL l) = sumBy (fun y => f (-y)) l := by
  induction l with
  | nil => rfl
  | cons x t ih => simp only [negL, List.map_cons, sumBy] at *; rw [ih]

theorem sumBy_congr (f g : Rat → Rat) (l : List Rat) (h : ∀ x, f x = g x) : sumBy f l = sumBy g l := by
  induction l with
  | nil => rfl
  | cons x t ih => simp [sumBy, h, ih]

theorem rPlus_negL (d : List Rat) : rPlus (negL d) = rMinus d := by
  unfold rPlus rMinus
  rw [sumBy_negL]
  apply sumBy_congr
  intro x
  simp only [midrank_neg, neg_pos, neg_eq_zero]

theorem rMinus_negL (d : List Rat) : rMinus (negL d) = rPlus d := by
  have := rPlus_negL (negL d)
  rw [negL_negL] at this
  exact this.symm

theorem sumL_negL (l : List Rat) : sumL (negL l) = -sumL l := by
  induction l with
  | nil => simp [sumL, sumBy, negL]
  | cons x t ih =>
    simp only [sumL, negL, List.map_cons, sumBy] at *
    rw [ih]; ring

theorem mean_negL (l : List Rat) : mean (negL l) = -mean l := by
  unfold mean
  rw [sumL_negL, negL_length]; ring

theorem lookupStep_neg (s : Int) (best : List (Int × Rat)) :
    lookupStep s (best.map (fun p => (p.1, -p.2))) = (lookupStep s best).map (fun x => -x) := by
  induction best with
  | nil => rfl
  | cons p t ih =>
    simp only [List.map_cons, lookupStep]
    split <;> simp [ih]

theorem diffs_neg (cur best : List (Int × Rat)) :
    diffs (cur.map (fun p => (p.1, -p.2))) (best.map (fun p => (p.1, -p.2))) = negL (diffs cur best) := by
  unfold diffs negL
  rw [List.filterMap_map, List.map_filterMap]
  congr 1
  funext p
  simp only [Function.comp, lookupStep_neg]
  cases lookupStep p.1 best with
  | none => rfl
  | some b => simp only [Option.map_some]; congr 1; ring

theorem map_snd_neg (l : List (Int × Rat)) : (l.map (fun p => (p.1, -p.2))).map (·.2) = negL (l.map (·.2)) := by
  simp [negL, List.map_map, Function.comp_def]

end OptunaVerif.Direction
