import OptunaVerif.Lemmas.InMemorySteps
/-! In-memory refinement, continued: the WAITING cursor, `create_new_study`, `delete_study`. -/
namespace OptunaVerif.InMemory
open OptunaVerif.Storage

theorem stateIn_waiting (st : TState) : stateIn (some [.waiting]) st = (st == .waiting) := by
  cases st <;> rfl

theorem allTrials_spec (m : State) (hI : Inv m) (sid : Nat) (si : StudyInfo)
    (hsi : m.studies.get? sid = some si) (states : Option (List TState)) :
    Inv (allTrials m sid si states).1 ∧ (∀ s, Rel m s → Rel (allTrials m sid si states).1 s) ∧
    (allTrials m sid si states).2 = si.trials.filter (fun p => stateIn states p.2.state) := by
  unfold allTrials
  split
  · rename_i hst
    have hst' : states = some [.waiting] := by simpa using hst
    subst hst'
    obtain ⟨c, hc, _, hall⟩ := hI.2.pw sid si hsi
    have hfound : (si.trials.drop ((m.prevWaiting.get? sid).getD 0)).filter (fun p => p.2.state == .waiting) =
        si.trials.filter (fun p => p.2.state == .waiting) := by
      rw [hc]
      apply filter_drop_of_prefix_false
      intro j a hj ha
      have := hall j a hj ha
      simpa using this
    dsimp only
    rw [hfound]
    have hC := hI.2.cacheOk hsi
    refine ⟨⟨invS_prevWaiting m _ hI.1, invC_of_here ((hI.2.othersOk sid).frame (fun _ _ => rfl) ?_) hsi
      ⟨?_, hC.good, hC.best⟩⟩, fun s hR => rel_prevWaiting m s _ hR, ?_⟩
    · intro k hk
      show NMap.get? (NMap.set m.prevWaiting sid _) k = _
      rw [NMap.get?_set, if_neg hk]
    · -- the new cursor: the first WAITING trial, or the end of the list
      show ∃ c', NMap.get? (NMap.set m.prevWaiting sid _) sid = some c' ∧ _
      rw [NMap.get?_set, if_pos rfl]
      cases hf : si.trials.filter (fun p => p.2.state == .waiting) with
      | nil =>
        refine ⟨_, rfl, Nat.le_refl _, ?_⟩
        intro j p hj hp
        rw [List.filter_eq_nil_iff] at hf
        have := hf p (List.mem_of_getElem? hp)
        simpa using this
      | cons q rest =>
        obtain ⟨i, hi, hbefore⟩ := filter_head_index _ _ _ _ hf
        have hnum := (hI.1.tfields sid si i q.1 q.2 hsi hi).1
        have hlt : i < si.trials.length := (List.getElem?_eq_some_iff.1 hi).1
        refine ⟨_, rfl, by simp only; omega, ?_⟩
        intro j p hj hp
        have := hbefore j p (by simp only at hj; omega) hp
        simpa using this
    · apply List.filter_congr
      intro p _
      rw [stateIn_waiting]
  · exact ⟨hI, fun s hR => hR, rfl⟩

theorem get?_next_none (m : State) (hS : InvS m) : m.studies.get? m.nextStudyId = none := by
  cases h : m.studies.get? m.nextStudyId with
  | none => rfl
  | some si => exact absurd (hS.sBound _ si h) (Nat.lt_irrefl _)

/-- a rejected `create_new_study` has used up a study id -/
theorem createStudy_dup (m : State) (s : Spec) (hI : Inv m) (hR : Rel m s) :
    Inv { m with nextStudyId := m.nextStudyId + 1 } ∧ Rel { m with nextStudyId := m.nextStudyId + 1 } (burn s) := by
  refine ⟨⟨⟨hI.1.sKeys, fun sid si h => Nat.lt_succ_of_lt (hI.1.sBound sid si h), hI.1.names, hI.1.tmap,
    hI.1.tfields, hI.1.dirs⟩, ⟨hI.2.pw, hI.2.good, hI.2.best⟩⟩, ?_⟩
  constructor
  · show s.studies ++ [none] = absStudies { m with nextStudyId := m.nextStudyId + 1 }
    unfold absStudies
    show _ = (List.range (m.nextStudyId + 1)).map (fun i => (m.studies.get? i).map StudyInfo.pub)
    rw [List.range_succ, List.map_append, hR.studies]
    simp [absStudies, get?_next_none m hI.1]
  · exact hR.ntrials
  · exact hR.trialsOf
  · intro t ht
    show t.study < (s.studies ++ [none]).length
    have := hR.bound t ht
    simp; omega

theorem createStudy_fresh (m : State) (s : Spec) (hI : Inv m) (hR : Rel m s) (name : String) (dirs : List Nat)
    (hfree : m.nameToId.get? name = none) (hd : dirsOk dirs = true) :
    Inv { m with nextStudyId := m.nextStudyId + 1,
                 studies := m.studies.set m.nextStudyId (newStudy name dirs),
                 nameToId := m.nameToId.set name m.nextStudyId,
                 prevWaiting := m.prevWaiting.set m.nextStudyId 0 } ∧
    Rel { m with nextStudyId := m.nextStudyId + 1,
                 studies := m.studies.set m.nextStudyId (newStudy name dirs),
                 nameToId := m.nameToId.set name m.nextStudyId,
                 prevWaiting := m.prevWaiting.set m.nextStudyId 0 }
      { s with studies := s.studies ++ [some (StudyS.mk name dirs [] [] [])] } := by
  have hnone := get?_next_none m hI.1
  have hget : ∀ k, NMap.get? (NMap.set m.studies m.nextStudyId (newStudy name dirs)) k =
      if k = m.nextStudyId then some (newStudy name dirs) else m.studies.get? k := fun k => NMap.get?_set _ _ _ _
  refine ⟨⟨hI.1.point hget ?_ (Nat.le_succ _) (Nat.le_refl _) ?_ ?_ ?_ ?_ fun _ _ _ _ => Iff.rfl, ?_⟩, ?_⟩
  · show ((NMap.set m.studies m.nextStudyId (newStudy name dirs)).map (·.1)).Pairwise (· < ·)
    rw [NMap.set_of_get?_none _ _ _ hnone, List.map_append, List.pairwise_append]
    refine ⟨hI.1.sKeys, by simp, ?_⟩
    intro a ha b hb
    simp only [List.map_cons, List.map_nil, List.mem_singleton] at hb
    subst hb
    obtain ⟨p, hp, e⟩ := List.mem_map.1 ha
    obtain ⟨v, hv⟩ := NMap.get?_of_mem_key m.studies p hp
    rw [← e]; exact hI.1.sBound p.1 v hv
  · rintro x ⟨⟩
    exact ⟨Nat.lt_succ_self _, hd, fun num tid t ht => by simp [newStudy] at ht⟩
  · intro nm
    show AList.get? (AList.set m.nameToId name m.nextStudyId) nm = some m.nextStudyId ↔ _
    rw [alist_get?_set]
    split
    · next e => simp [e, newStudy]
    · next hne => rw [hI.1.names, hnone]; simp [newStudy, Ne.symm hne]
  · intro nm k hk
    show AList.get? (AList.set m.nameToId name m.nextStudyId) nm = some k ↔ _
    rw [alist_get?_set]
    split
    · next e => rw [e, hfree]; simp [Ne.symm hk]
    · exact Iff.rfl
  · intro tid num
    show m.tidMap.get? tid = some (m.nextStudyId, num) ↔ _
    rw [hI.1.tmap, hnone]; simp [newStudy]
  · refine invC_of_here ((hI.2.othersOk m.nextStudyId).frame (fun k hk => (hget k).trans (if_neg hk))
      fun k hk => (NMap.get?_set _ _ _ _).trans (if_neg hk)) ((hget _).trans (if_pos rfl)) ?_
    show CacheOk (NMap.get? (NMap.set m.prevWaiting m.nextStudyId 0) m.nextStudyId) _ none
    rw [NMap.get?_set, if_pos rfl]
    exact ⟨⟨0, rfl, Nat.zero_le _, fun j p hj => by omega⟩, fun _ _ j p hp => by simp [newStudy] at hp,
      fun _ j p _ hp => by simp [newStudy] at hp, fun b hb => by simp [newStudy] at hb⟩
  · refine ⟨studies_eq_abs ?_ fun i _ => ?_, hR.ntrials, fun k x hx => ?_, fun t ht => ?_⟩
    · show (s.studies ++ [_]).length = m.nextStudyId + 1
      rw [List.length_append, hR.nstudies]; rfl
    · show _ = (NMap.get? (NMap.set m.studies m.nextStudyId (newStudy name dirs)) i).map StudyInfo.pub
      rw [study?_append, hget, hR.nstudies, study?_eq_get? m s hI.1 hR]
      split <;> rfl
    · show s.trialsOf k = x.trials
      rcases NMap.point_cases hget hx with ⟨rfl, ⟨⟩⟩ | ⟨_, hx'⟩
      · -- no trial belongs to a study that does not exist yet
        refine trialsFrom_nil _ _ _ fun t ht e => ?_
        have := hR.bound t ht
        rw [hR.nstudies] at this
        omega
      · exact hR.trialsOf k x hx'
    · show t.study < (s.studies ++ [some (StudyS.mk name dirs [] [] [])]).length
      have := hR.bound t ht
      simp; omega

theorem sim_createStudy (m : State) (s : Spec) (hI : Inv m) (hR : Rel m s) (name : String) (dirs : List Nat)
    (hL : Legal s (.createStudy name dirs) = true) : Sim m s (.createStudy name dirs) := by
  unfold Sim
  have hnt := nameTaken_eq_get? m s hI.1 hR name
  cases hg : m.nameToId.get? name with
  | some sid =>
    rw [hg] at hnt
    simp only [step, hg, Option.isSome_some, if_true, opFor, specStep, hnt]
    obtain ⟨h1, h2⟩ := createStudy_dup m s hI hR
    exact ⟨h1, h2, accepts_refl _ _⟩
  | none =>
    rw [hg] at hnt
    simp only [Option.isSome_none] at hnt
    simp only [step, hg, Option.isSome_none, Bool.false_eq_true, if_false, opFor, specStep, Storage.step, hnt]
    obtain ⟨h1, h2⟩ := createStudy_fresh m s hI hR name dirs hg hL
    refine ⟨h1, h2, ?_⟩
    rw [hR.studies, absStudies_length]
    exact accepts_refl _ _

theorem deleteStudy_ok (m : State) (s : Spec) (hI : Inv m) (hR : Rel m s) (sid : Nat) (si : StudyInfo)
    (hsi : m.studies.get? sid = some si) :
    Inv { m with tidMap := si.trials.foldl (fun mp p => mp.erase p.1) m.tidMap,
                 nameToId := eraseKey m.nameToId si.name,
                 studies := m.studies.erase sid,
                 prevWaiting := m.prevWaiting.erase sid } ∧
    Rel { m with tidMap := si.trials.foldl (fun mp p => mp.erase p.1) m.tidMap,
                 nameToId := eraseKey m.nameToId si.name,
                 studies := m.studies.erase sid,
                 prevWaiting := m.prevWaiting.erase sid }
      { s with studies := updAt s.studies sid (fun _ => none) } := by
  have hget : ∀ k, NMap.get? (NMap.erase m.studies sid) k = if k = sid then none else m.studies.get? k :=
    fun k => NMap.get?_erase _ _ _
  have ids : ∀ tid, (∃ p ∈ si.trials, p.1 = tid) ↔ ∃ num, m.tidMap.get? tid = some (sid, num) := by
    intro tid
    constructor
    · rintro ⟨p, hp, rfl⟩
      obtain ⟨j, hj⟩ := List.getElem?_of_mem hp
      exact ⟨j, (hI.1.tmap p.1 sid j).2 ⟨si, p.2, hsi, hj⟩⟩
    · rintro ⟨num, h⟩
      obtain ⟨x, t, hx, ht⟩ := (hI.1.tmap tid sid num).1 h
      rw [hsi] at hx; cases hx
      exact ⟨_, List.mem_of_getElem? ht, rfl⟩
  have tids : ∀ tid k num, NMap.get? (si.trials.foldl (fun mp p => mp.erase p.1) m.tidMap) tid = some (k, num) ↔
      k ≠ sid ∧ m.tidMap.get? tid = some (k, num) := by
    intro tid k num
    by_cases hin : ∃ p ∈ si.trials, p.1 = tid
    · rw [get?_foldl_erase_of_mem _ _ _ hin]
      obtain ⟨j, hj⟩ := (ids tid).1 hin
      rw [hj]
      refine ⟨fun h => ?_, fun ⟨hk, e⟩ => ?_⟩
      · cases h
      · cases e; exact absurd rfl hk
    · rw [get?_foldl_erase_of_not_mem _ _ _ (fun p hp e => hin ⟨p, hp, e⟩)]
      refine ⟨fun h => ⟨?_, h⟩, And.right⟩
      rintro rfl
      exact hin ((ids tid).2 ⟨num, h⟩)
  refine ⟨⟨hI.1.point hget ?_ (Nat.le_refl _) (Nat.le_refl _) (fun _ h => nomatch h) ?_ ?_ ?_ ?_, ?_⟩, ?_⟩
  · exact List.Pairwise.sublist (List.Sublist.map _ List.filter_sublist) hI.1.sKeys
  · intro name
    show AList.get? (eraseKey m.nameToId si.name) name = some sid ↔ _
    rw [get?_eraseKey]
    split
    · simp
    · next hne => rw [hI.1.names, hsi]; simp [Ne.symm hne]
  · intro name k hk
    show AList.get? (eraseKey m.nameToId si.name) name = some k ↔ _
    rw [get?_eraseKey]
    split
    · next e => rw [e, (hI.1.names si.name sid).2 ⟨si, hsi, rfl⟩]; simp [Ne.symm hk]
    · exact Iff.rfl
  · intro tid num; simp [tids]
  · intro tid k num hk; simp [tids, hk]
  · apply invC_of_cacheOk
    intro k x hx
    rcases NMap.point_cases hget hx with ⟨_, ⟨⟩⟩ | ⟨hk, hx'⟩
    show CacheOk (NMap.get? (NMap.erase m.prevWaiting sid) k) x none
    rw [NMap.get?_erase, if_neg hk]; exact hI.2.cacheOk hx'
  · refine ⟨studies_eq_abs ?_ fun i _ => ?_, hR.ntrials, fun k x hx => ?_, fun t ht => ?_⟩
    · show (updAt s.studies sid _).length = _
      rw [updAt_length]; exact hR.nstudies
    · show _ = (NMap.get? (NMap.erase m.studies sid) i).map StudyInfo.pub
      rw [study?_delete, hget, study?_eq_get? m s hI.1 hR]
      split <;> rfl
    · rcases NMap.point_cases hget hx with ⟨_, ⟨⟩⟩ | ⟨_, hx'⟩
      exact hR.trialsOf k x hx'
    · show t.study < (updAt s.studies sid (fun _ => none)).length
      rw [updAt_length]; exact hR.bound t ht

theorem sim_deleteStudy (m : State) (s : Spec) (hI : Inv m) (hR : Rel m s) (sid : Nat) :
    Sim m s (.deleteStudy sid) := by
  unfold Sim
  simp only [step, specStep, opFor, Storage.step, study?_eq_get? m s hI.1 hR]
  cases h : m.studies.get? sid with
  | none => simp [accepts_refl, hI, hR]
  | some si =>
    simp only [Option.map_some]
    obtain ⟨h1, h2⟩ := deleteStudy_ok m s hI hR sid si h
    exact ⟨h1, h2, accepts_refl _ _⟩

end OptunaVerif.InMemory
