import OptunaVerif.Lemmas.RdbMut3
/-! Refinement, part 6: `set_trial_param` — the compatibility check against an arbitrary earlier row
of the study (looseness U1 of the contract).  Core Lean only. -/
namespace OptunaVerif.Rdb
open OptunaVerif.Storage

theorem prevDist_cases (s : State) (sid : Nat) (name : String) :
    (s.prevDist sid name = none ∧ ∀ x, ¬ s.paramRowOf sid name x) ∨
    ∃ x, s.paramRowOf sid name x ∧ s.prevDist sid name = some x.val.dist := by
  unfold State.prevDist
  cases hf : s.params.find? (fun p => decide (p.key = name) && s.trialStudy? p.owner == some sid) with
  | none =>
    refine .inl ⟨rfl, fun x ⟨hm, hk, hs⟩ => ?_⟩
    simpa [hk, hs] using List.find?_eq_none.mp hf x hm
  | some x =>
    have hp := List.find?_some hf
    simp only [Bool.and_eq_true, decide_eq_true_eq, beq_iff_eq] at hp
    exact .inr ⟨x, ⟨List.mem_of_find?_eq_some hf, hp.1, hp.2⟩, rfl⟩

theorem checkCompat_cases (s : State) (sid : Nat) (name : String) (d : Dist) :
    (checkCompat s sid name d = .ok () ∧ (PC s → ∀ x, s.paramRowOf sid name x → x.val.dist.compat d = true)) ∨
    (checkCompat s sid name d = .error (.api .valueError) ∧
      ∃ x, s.paramRowOf sid name x ∧ x.val.dist.compat d = false) := by
  unfold checkCompat
  rcases prevDist_cases s sid name with ⟨hn, hno⟩ | ⟨x0, hx0, hs⟩
  · rw [hn]; exact .inl ⟨rfl, fun _ x hx => absurd hx (hno x)⟩
  · rw [hs]
    cases hc : x0.val.dist.compat d with
    | true => exact .inl ⟨by simp [hc], fun hpc x hx => Storage.compat_trans _ _ _ (hpc sid name x x0 hx hx0) hc⟩
    | false => exact .inr ⟨by simp [hc], x0, hx0, hc⟩

theorem param_step (s : State) (tid : Nat) (row : TrialRow) (hrow : s.trialRow? tid = some row)
    (name : String) (p : Param) (hpc : PC s)
    (hall : ∀ x, s.paramRowOf row.study name x → x.val.dist.compat p.dist = true) :
    let s' : State := { s with params := (Tbl.upsertConflict s.params s.nParam tid name p).1,
                               nParam := (Tbl.upsertConflict s.params s.nParam tid name p).2 }
    PC s' ∧ (∀ sid nm d1, PDist s sid nm d1 → PDist s' sid nm d1) ∧ PDist s' row.study name p.dist := by
  intro s'
  have hts : s.trialStudy? tid = some row.study := by rw [trialStudy?_eq, hrow]; rfl
  have hcases : ∀ sid nm x, s'.paramRowOf sid nm x →
      (x.val = p ∧ nm = name ∧ sid = row.study) ∨ s.paramRowOf sid nm x := by
    rintro sid nm x ⟨hm, hk, hs⟩
    rcases Tbl.mem_upsertConflict s.params s.nParam tid name p x hm with ⟨ho, hk2, hv⟩ | ⟨hm0, _⟩
    · left
      have hs' : s.trialStudy? x.owner = some sid := hs
      rw [ho, hts] at hs'
      exact ⟨hv, hk.symm.trans hk2, by simpa using hs'.symm⟩
    · exact .inr ⟨hm0, hk, hs⟩
  refine ⟨?_, ?_, ?_⟩
  · intro sid nm x y hx hy
    rcases hcases sid nm x hx with ⟨ex, en, es⟩ | hx0 <;> rcases hcases sid nm y hy with ⟨ey, en', es'⟩ | hy0
    · rw [ex, ey]; exact Storage.compat_refl _
    · subst en es; rw [ex]; exact Storage.compat_symm _ _ (hall y hy0)
    · subst en' es'; rw [ey]; exact hall x hx0
    · exact hpc sid nm x y hx0 hy0
  · rintro sid nm d1 ⟨x0, ⟨hm0, hk0, hs0⟩, hc0⟩
    by_cases hov : x0.owner = tid ∧ x0.key = name
    · -- the witness row is the one overwritten: the written row takes its place
      obtain ⟨xn, hxn, ho, hk, hv⟩ := Tbl.upsertConflict_has s.params s.nParam tid name p
      have hsid : sid = row.study := by
        rw [hov.1, hts] at hs0; simpa using hs0.symm
      have hnm : nm = name := hk0.symm.trans hov.2
      refine ⟨xn, ⟨hxn, hk.trans hnm.symm, ?_⟩, ?_⟩
      · show s.trialStudy? xn.owner = some sid
        rw [ho, hts, hsid]
      · rw [hv]
        have h1 := hall x0 ⟨hm0, hnm ▸ hk0, hsid ▸ hs0⟩
        exact Storage.compat_trans _ _ _ (Storage.compat_symm _ _ h1) hc0
    · exact ⟨x0, ⟨Tbl.upsertConflict_keeps s.params s.nParam tid name p x0 hm0 hov, hk0, hs0⟩, hc0⟩
  · obtain ⟨xn, hxn, ho, hk, hv⟩ := Tbl.upsertConflict_has s.params s.nParam tid name p
    refine ⟨xn, ⟨hxn, hk, ?_⟩, by rw [hv]; exact Storage.compat_refl _⟩
    show s.trialStudy? xn.owner = some row.study
    rw [ho, hts]

theorem templateConflict_of_row (r : State) (a : Spec) (h : Abs r a) (sid : Nat) (name : String) (d : Dist)
    (hlive : (a.study? sid).isSome = true) (x : KRow String Param) (hx : r.paramRowOf sid name x)
    (hc : x.val.dist.compat d = false) : a.templateConflict sid name d = true := by
  obtain ⟨hm, hk, hs⟩ := hx
  rw [trialStudy?_eq] at hs
  cases hq : r.trialRow? x.owner with
  | none => simp [hq] at hs
  | some row0 =>
    simp only [hq, Option.map_some, Option.some.injEq] at hs
    obtain ⟨hm0, hid0⟩ := trialRow?_some r x.owner row0 hq
    unfold Spec.templateConflict
    rw [abs_trialsOf r a h sid hlive]
    simp only [List.any_eq_true, List.mem_map, List.mem_filter, beq_iff_eq]
    refine ⟨(row0.id, r.rowView row0), ⟨row0, ⟨hm0, hs⟩, rfl⟩, ?_⟩
    have hget : (r.rowView row0).params.get? name = some x.val := by
      simp only [State.rowView, get?_kv, hid0]
      rw [find?_of_unique _ r.params (Tbl.atKey_unique r.params r.nParam h.inv.1.params x.owner name) x hm (by simp [hk])]
      rfl
    simp [hget, hc]

theorem abs_setParamDist (r : State) (a : Spec) (h : Abs r a) (sid : Nat) (name : String) (d : Dist)
    (hp : PDist r sid name d) :
    Abs r (a.updStudy sid (fun st => { st with paramDist := st.paramDist.set name d })) := by
  refine abs_updStudy r r a h h.inv sid _ id (fun _ => rfl) (fun _ => rfl) (fun _ => rfl) (fun _ _ _ => Iff.rfl) ⟨rfl, rfl⟩
    (fun i => by split <;> simp) ?_
  intro st nm d1 hs hpd
  by_cases hn : nm = name
  · subst hn
    rw [AList.get?_set_same] at hpd
    simp only [Option.some.injEq] at hpd
    subst hpd
    exact hp
  · rw [AList.get?_set_other _ _ _ _ hn] at hpd
    exact h.pdist sid st nm d1 hs hpd

theorem sim_setTrialParam (r : State) (a : Spec) (h : Abs r a) (tid : Nat) (name : String) (p : Param) (ir : Bool) :
    StepOk r a (.setTrialParam tid name p ir) := by
  unfold StepOk
  simp only [withRaised]
  simp only [step, nc]
  rcases updatable_abs r a h tid with ⟨row, h1, h2, h3⟩ | ⟨e, h1, h2⟩
  · rw [setParamNC_eq r h.inv.1.params tid name p row h1]
    have hlive := abs_row_study_live r a h row (trialRow?_some r tid row h2).1
    obtain ⟨st, hst⟩ := Option.isSome_iff_exists.mp hlive
    have hstudy : (r.rowView row).study = row.study := rfl
    rcases checkCompat_cases r row.study name p.dist with ⟨hcc, hall⟩ | ⟨hcc, x, hx, hc0⟩
    rotate_left
    · -- rejected: the contract rejects too (fixed conflict, or template conflict with the hint set)
      have htc := templateConflict_of_row r a h row.study name p.dist hlive x hx hc0
      simp only [hcc, commit, raisedValueError, Storage.step, h3, hstudy, hst, htc, Bool.and_true, beq_self_eq_true]
      split
      · exact ⟨h, by simp [Allowed]⟩
      · simp only [if_true]; exact ⟨h, by simp [Allowed]⟩
    · simp only [hcc, commit, raisedValueError]
      have hnr : (Res.out Out.unit == Res.out (Out.err Err.valueError)) = false := by decide
      simp only [hnr, Storage.step, h3, hstudy, hst, Bool.and_false]
      obtain ⟨hpc', hpd', hnew⟩ := param_step r tid row h2 name p h.pc (hall h.pc)
      have hfix : st.fixedConflict name p.dist = false := by
        unfold StudyS.fixedConflict
        cases hg : st.paramDist.get? name with
        | none => rfl
        | some d1 =>
          obtain ⟨x0, hx0, hc0⟩ := h.pdist row.study st name d1 hst hg
          have : d1.compat p.dist = true :=
            Storage.compat_trans _ _ _ (Storage.compat_symm _ _ hc0) (hall h.pc x0 hx0)
          simp [this]
      simp only [hfix, Bool.false_eq_true, if_false]
      refine ⟨?_, by simp [Allowed]⟩
      apply abs_setParamDist _ _ ?_ row.study name p.dist hnew
      refine abs_updTrial r _ a h
        (by exact ⟨inv0_putParams r h.inv.1 tid (mem_trialIds_of_updatable r h.inv.1 tid row h1) [(name, p)], h.inv.2⟩)
        tid (fun t => { t with params := t.params.set name p }) (fun _ => rfl)
        (fun _ => rfl) ⟨rfl, rfl⟩ hpd' hpc' ?_ (h.wfTrial tid)
      · refine trialView_of_rowView r _ tid _ (by rfl) ?_
        intro row'
        by_cases e : row'.id = tid <;>
          simp only [State.rowView, State.valuesView, State.interView, Tbl.kv_upsertConflict id r.params r.nParam h.inv.1.params,
            kvSet_string, id_eq, e, if_true, if_false]
  · have : setParamNC r tid name p = .error (.api e) := by
      unfold setParamNC; rw [h1]
    simp only [this, commit, Storage.step, h2]
    exact ⟨h, by simp [Allowed]⟩

end OptunaVerif.Rdb
