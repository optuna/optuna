import OptunaVerif.Lemmas.JournalAppend
import OptunaVerif.Props.C07
/-!
Lemmas for `Props/C05C07Bridge.lean`: the reader's view (`Line`s) of a byte file, and its agreement with Python's line iteration
(`splitLens`) and with seeking to a record offset.
-/
namespace OptunaVerif.Bridge
open OptunaVerif.JournalFile OptunaVerif.JournalAppend

/-- the reader's view of one complete record `r` (stored as `r ++ [nl]`): `valid` = "`json.loads` of the line succeeds" -/
def recLine (valid : List Nat → Bool) (r : List Nat) : Line := ⟨r.length + 1, true, valid r⟩

/-- the reader's view of the bytes after the last newline (an unterminated last line, if any) -/
def tailLines (valid : List Nat → Bool) (t : List Nat) : List Line := if t = [] then [] else [⟨t.length, false, valid t⟩]

/-- what `for line in f` shows the reader of a byte file: the complete lines, then possibly one unterminated line -/
def linesOf (valid : List Nat → Bool) (f : List Nat) : List Line :=
  (records f).map (recLine valid) ++ tailLines valid (tail f)

/-- `read_logs` on the BYTES of a file: after `seek(off)` the reader iterates over the lines of `f[off:]` -/
def readBytes (valid : List Nat → Bool) (f : List Nat) (size : Nat) (cache : Cache) (from_ : Nat) : Res :=
  readLogs size cache from_ (fun off => linesOf valid (f.drop off))

theorem splitLens_splitRec (f cur : List Nat) :
    splitLens f cur.length =
      (splitRec f cur).1.map (fun r => (r.length + 1, true)) ++
        (if (splitRec f cur).2 = [] then [] else [((splitRec f cur).2.length, false)]) := by
  induction f generalizing cur with
  | nil =>
    cases cur with
    | nil => simp [splitLens, splitRec]
    | cons a t => simp [splitLens, splitRec]
  | cons b r ih =>
    by_cases hb : b = nl
    · have := ih []
      simp only [List.length_nil] at this
      simp [splitLens, splitRec, hb, this]
    · have := ih (cur ++ [b])
      simp only [List.length_append, List.length_cons, List.length_nil] at this
      simp [splitLens, splitRec, hb, this]

theorem linesOf_eq_splitLens (valid : List Nat → Bool) (f : List Nat) :
    (linesOf valid f).map (fun l => (l.len, l.terminated)) = splitLens f 0 := by
  have := splitLens_splitRec f []
  simp only [List.length_nil] at this
  rw [this]
  unfold linesOf records tail tailLines recLine
  by_cases h : (splitRec f []).2 = [] <;> simp [h, Function.comp]

theorem enc_length (rs : List (List Nat)) : (enc rs).length = (rs.map (fun r => r.length + 1)).sum := by
  induction rs with
  | nil => rfl
  | cons r rs ih =>
    simp only [enc] at ih
    simp [enc, List.flatMap_cons, ih]
    omega

theorem enc_take_drop (rs : List (List Nat)) (k : Nat) : enc rs = enc (rs.take k) ++ enc (rs.drop k) := by
  calc enc rs = enc (rs.take k ++ rs.drop k) := by rw [List.take_append_drop]
    _ = enc (rs.take k) ++ enc (rs.drop k) := by unfold enc; rw [List.flatMap_append]

theorem offsetOf_linesOf (valid : List Nat → Bool) (f : List Nat) (k : Nat) (hk : k ≤ (records f).length) :
    offsetOf (linesOf valid f) k = (enc ((records f).take k)).length := by
  unfold offsetOf linesOf
  rw [List.take_append_of_le_length (by simpa using hk), ← List.map_take, List.map_map, enc_length]
  rfl

theorem linesOf_seek (valid : List Nat → Bool) (f : List Nat) (k : Nat) (hk : k ≤ (records f).length) :
    linesOf valid (f.drop (offsetOf (linesOf valid f) k)) = (linesOf valid f).drop k := by
  rw [offsetOf_linesOf valid f k hk]
  have hf : enc ((records f).take k) ++ (enc ((records f).drop k) ++ tail f) = f := by
    rw [← List.append_assoc, ← enc_take_drop, file_eq]
  have hd : f.drop (enc ((records f).take k)).length = enc ((records f).drop k) ++ tail f := by
    have := List.drop_left (l₁ := enc ((records f).take k)) (l₂ := enc ((records f).drop k) ++ tail f)
    rwa [hf] at this
  obtain ⟨h1, h2⟩ := (split_iff (enc ((records f).drop k) ++ tail f) _ _).2
    ⟨rfl, fun r hr => records_noNl f r (List.mem_of_mem_drop hr), tail_noNl f⟩
  unfold linesOf
  rw [hd, h1, h2, List.drop_append_of_le_length (by simpa using hk), List.map_drop]

theorem linesOf_total (valid : List Nat → Bool) (f : List Nat) :
    ((linesOf valid f).map (·.len)).sum = f.length := by
  have hf := congrArg List.length (file_eq f)
  simp only [List.length_append, enc_length] at hf
  have hc : ((fun (x : Line) => x.len) ∘ recLine valid) = fun r => r.length + 1 := rfl
  unfold linesOf tailLines
  by_cases ht : tail f = []
  · simp [ht, hc] at hf ⊢; omega
  · simp [ht, hc] at hf ⊢; omega

theorem linesOf_length_ge (valid : List Nat → Bool) (f : List Nat) : (records f).length ≤ (linesOf valid f).length := by
  unfold linesOf; simp

theorem linesOf_get_record (valid : List Nat → Bool) (f : List Nat) (j : Nat) (hj : j < (records f).length) :
    (linesOf valid f)[j]? = some (recLine valid ((records f)[j])) := by
  unfold linesOf
  rw [List.getElem?_append_left (by simpa using hj)]
  simp [List.getElem?_eq_getElem hj]

theorem linesOf_get_tail (valid : List Nat → Bool) (f : List Nat) (j : Nat) (ln : Line) (hj : (records f).length ≤ j)
    (h : (linesOf valid f)[j]? = some ln) : ln.terminated = false := by
  unfold linesOf tailLines at h
  rw [List.getElem?_append_right (by simpa using hj)] at h
  by_cases ht : tail f = []
  · simp [ht] at h
  · simp only [ht, if_false] at h
    cases hi : j - ((records f).map (recLine valid)).length with
    | zero => rw [hi] at h; simp at h; rw [← h]
    | succ i => rw [hi] at h; simp at h

theorem linesOf_wf (valid : List Nat → Bool) (f : List Nat) (hrec : ∀ r ∈ records f, valid r = true) :
    C07.WF (linesOf valid f) := by
  refine ⟨?_, ?_⟩
  · intro i ln hget hterm
    by_cases hi : i < (records f).length
    · rw [linesOf_get_record valid _ i hi] at hget
      cases hget
      exact hrec _ (List.getElem_mem hi)
    · rw [linesOf_get_tail valid _ i ln (Nat.le_of_not_lt hi) hget] at hterm
      cases hterm
  · intro i ln hget hlt
    by_cases hi : i < (records f).length
    · rw [linesOf_get_record valid _ i hi] at hget
      cases hget; rfl
    · exfalso
      -- at or after the records there is at most one line
      have hlen : (linesOf valid f).length ≤ (records f).length + 1 := by
        unfold linesOf tailLines; split <;> simp
      omega

end OptunaVerif.Bridge
