import OptunaVerif.Lemmas.RdbHbAbs
import OptunaVerif.Lemmas.RdbHbQuery
import OptunaVerif.Lemmas.RdbInv
import OptunaVerif.Lemmas.Heartbeat
/-! The invariant of the relational heartbeat model under which it refines the abstract sweep model, and the
facts about the stale query / the listing of the study that the step-by-step simulation uses.  Core Lean only. -/
namespace OptunaVerif.RdbHb
open OptunaVerif.Storage OptunaVerif.Rdb
open OptunaVerif.Generated
open OptunaVerif.Heartbeat (HTrial)

/-- what is assumed of the storage's parameters: the JSON codec round-trips the two payloads, and the
constructor accepted `heartbeat_interval` / `grace_period` -/
structure POk (P : Params) : Prop where
  lawful : P.codec.Lawful
  interval : StaleGen.heartbeatIntervalRejected (some P.hbInterval) = false
  grace : StaleGen.gracePeriodRejected P.gracePeriod = false

theorem POk.gpos {P : Params} (h : POk P) : 0 < StaleGen.effectiveGrace P.hbInterval P.gracePeriod :=
  effectiveGrace_pos _ _ h.interval h.grace

def FinishedIn (L : List (Nat × TrialS)) (t : Nat) : Prop := ∃ p ∈ L, p.1 = t ∧ p.2.state.isFinished = true

/-- what a worker's position in the sweep presupposes of the study's trials -/
def PhaseOk (C : Codec) (m : Option Nat) (L : List (Nat × TrialS)) : Phase → Prop
  | .idle => True
  | .dead => True
  | .failing todo won => (∀ t ∈ todo, t ∈ L.map (·.1)) ∧ (∀ t ∈ won, FinishedIn L t)
  | .calling todo => ∀ t ∈ todo, FinishedIn L t
  | .enqueue t snap todo =>
    (t, snap) ∈ L ∧ snap.state.isFinished = true ∧ Heartbeat.exceeds m (recOf C snap) = false ∧ ∀ t ∈ todo, FinishedIn L t

def Event.isRaised : Event → Bool
  | .raised _ _ => true
  | _ => false

structure RInv (P : Params) (c : Cfg) : Prop where
  abs : ∃ a, Abs c.hs.db a ∧ (a.study? P.sid).isSome = true
  stamped : Stamped c.hs
  past : ∀ p ∈ c.hs.stamps, p.2 ≤ c.now
  /-- holds because nobody but the callback writes the two reserved system attributes (`EnvOk`) -/
  wf : ∀ p ∈ studyList c.hs.db P.sid, WfSys P.codec p.2.systemAttrs
  phases : ∀ (w : Nat) (ph : Phase), c.workers[w]? = some ph →
    PhaseOk P.codec (P.cb.maxRetry.map Int.toNat) (studyList c.hs.db P.sid) ph
  evIn : ∀ e ∈ c.events, ∀ t ∈ e.ids, t ∈ (studyList c.hs.db P.sid).map (·.1)
  noRaise : ∀ e ∈ c.events, e.isRaised = false

theorem RInv.inv {P : Params} {c : Cfg} (h : RInv P c) : Inv c.hs.db := by
  obtain ⟨a, ha, _⟩ := h.abs; exact ha.inv

theorem FinishedIn.mem {L : List (Nat × TrialS)} {t : Nat} (h : FinishedIn L t) : t ∈ L.map (·.1) := by
  obtain ⟨p, hp, e, _⟩ := h
  exact List.mem_map.mpr ⟨p, hp, e⟩

theorem Phase.ids_mem {C : Codec} {m : Option Nat} {L : List (Nat × TrialS)} {ph : Phase} (h : PhaseOk C m L ph) :
    ∀ t ∈ ph.ids, t ∈ L.map (·.1) := by
  intro t ht
  cases ph with
  | idle => simp [Phase.ids] at ht
  | dead => simp [Phase.ids] at ht
  | failing todo won =>
    simp only [Phase.ids, List.mem_append] at ht
    rcases ht with ht | ht
    · exact h.1 t ht
    · exact (h.2 t ht).mem
  | calling todo => exact (h t ht).mem
  | enqueue t' snap todo =>
    simp only [Phase.ids, List.mem_cons] at ht
    rcases ht with ht | ht
    · subst ht; exact List.mem_map.mpr ⟨_, h.1, rfl⟩
    · exact (h.2.2.2 t ht).mem

structure Evolves (L L' : List (Nat × TrialS)) : Prop where
  ids : ∀ t ∈ L.map (·.1), t ∈ L'.map (·.1)
  frozen : ∀ p ∈ L, p.2.state.isFinished = true → p ∈ L'

theorem Evolves.refl (L : List (Nat × TrialS)) : Evolves L L := ⟨fun _ h => h, fun _ h _ => h⟩

theorem FinishedIn.evolve {L L' : List (Nat × TrialS)} (he : Evolves L L') {t : Nat} (h : FinishedIn L t) : FinishedIn L' t := by
  obtain ⟨p, hp, e, hf⟩ := h
  exact ⟨p, he.frozen p hp hf, e, hf⟩

theorem PhaseOk.evolve {C : Codec} {m : Option Nat} {L L' : List (Nat × TrialS)} (he : Evolves L L') {ph : Phase}
    (h : PhaseOk C m L ph) : PhaseOk C m L' ph := by
  cases ph with
  | idle => trivial
  | dead => trivial
  | failing todo won => exact ⟨fun t ht => he.ids t (h.1 t ht), fun t ht => (h.2 t ht).evolve he⟩
  | calling todo => exact fun t ht => (h t ht).evolve he
  | enqueue t snap todo => exact ⟨he.frozen _ h.1 h.2.1, h.2.1, h.2.2.1, fun t ht => (h.2.2.2 t ht).evolve he⟩

theorem mem_studyList (db : Rdb.State) (sid : Nat) (p : Nat × TrialS) :
    p ∈ studyList db sid ↔ ∃ row ∈ db.trials, row.study = sid ∧ p = (row.id, db.rowView row) := by
  unfold studyList
  simp only [List.mem_map, List.mem_filter, beq_iff_eq]
  constructor
  · rintro ⟨row, ⟨hr, hs⟩, e⟩; exact ⟨row, hr, hs, e.symm⟩
  · rintro ⟨row, hr, hs, e⟩; exact ⟨row, ⟨hr, hs⟩, e.symm⟩

theorem studyList_lt (db : Rdb.State) (h : Inv0 db) (sid : Nat) (t : Nat) (ht : t ∈ (studyList db sid).map (·.1)) : t < db.nTrial := by
  obtain ⟨p, hp, e⟩ := List.mem_map.mp ht
  obtain ⟨row, hr, _, ep⟩ := (mem_studyList db sid p).mp hp
  rw [← e, ep]
  exact h.trialsBelow row hr

theorem number_eq_numOf (db : Rdb.State) (h : Inv db) (sid : Nat) (p : Nat × TrialS) (hp : p ∈ studyList db sid) :
    p.2.number = numOf (studyList db sid) p.1 := by
  -- both are the place `i` of the trial in the listing of its study: the listing ascends in id, and the numbers of a study's
  -- rows, in table order, are `0, 1, …` (`h.2`)
  obtain ⟨i, hi⟩ := List.getElem?_of_mem hp
  rw [numOf_of_getElem? _ (studyList_sorted db h.1 sid) i p hi]
  unfold studyList at hi
  rw [List.getElem?_map] at hi
  cases hrow : (db.trials.filter (fun x => x.study == sid))[i]? with
  | none => simp [hrow] at hi
  | some row =>
    simp only [hrow, Option.map_some, Option.some.injEq] at hi
    have hn := h.2 sid
    have : ((db.trials.filter (fun x => x.study == sid)).map (·.number))[i]? = some row.number := by
      rw [List.getElem?_map, hrow]; rfl
    rw [hn] at this
    have hlt : i < (db.trials.filter (fun x => x.study == sid)).length := getElem?_lt_length hrow
    rw [List.getElem?_range hlt] at this
    simp only [Option.some.injEq] at this
    rw [← hi]
    simp only [State.rowView]
    exact this.symm

theorem getTrial_of_mem (db : Rdb.State) (h : Inv0 db) (sid : Nat) (p : Nat × TrialS) (hp : p ∈ studyList db sid) :
    getTrial db p.1 = .ok (p.1, p.2) := by
  obtain ⟨row, hr, _, ep⟩ := (mem_studyList db sid p).mp hp
  rw [getTrial_eq db h, ep]
  simp only
  rw [trialRow?_of_mem db h row hr]

theorem param_row (db : Rdb.State) (hinv : Inv0 db) (sid : Nat) (p : Nat × TrialS) (hp : p ∈ studyList db sid)
    (k : String) (q : Param) (hq : (k, q) ∈ p.2.params) : ∃ x, db.paramRowOf sid k x ∧ x.val = q := by
  obtain ⟨row, hr, hst, ep⟩ := (mem_studyList db sid p).mp hp
  rw [ep] at hq
  simp only [State.rowView, Tbl.kv, List.mem_map, Prod.mk.injEq] at hq
  obtain ⟨x, hx, ek, ev⟩ := hq
  rw [Tbl.mem_ofOwner] at hx
  refine ⟨x, ⟨hx.1, ek, ?_⟩, ev⟩
  rw [trialStudy?_eq, hx.2, trialRow?_of_mem db hinv row hr]
  simp [hst]

theorem no_conflict (db : Rdb.State) (a : Spec) (h : Abs db a) (sid : Nat) (st : StudyS) (hs : a.study? sid = some st)
    (p : Nat × TrialS) (hp : p ∈ studyList db sid) (tmpl : Template) (hpar : tmpl.params = p.2.params) :
    a.tmplConflict sid st (some tmpl) = false := by
  have hlive : (a.study? sid).isSome = true := by rw [hs]; rfl
  unfold Spec.tmplConflict
  rw [List.any_eq_false]
  intro kq hkq
  obtain ⟨k, q⟩ := kq
  rw [hpar] at hkq
  obtain ⟨x, hx, exv⟩ := param_row db h.inv.1 sid p hp k q hkq
  simp only [Bool.or_eq_true, not_or]
  constructor
  · -- what `set_trial_param` fixed for the name
    unfold StudyS.fixedConflict
    cases hg : st.paramDist.get? k with
    | none => simp
    | some d0 =>
      obtain ⟨z, hz, hzc⟩ := h.pdist sid st k d0 hs hg
      have hzx := h.pc sid k z x hz hx
      rw [exv] at hzx
      have := Storage.compat_trans _ _ _ (Storage.compat_symm _ _ hzc) hzx
      simp [this]
  · -- what the other trials of the study carry
    unfold Spec.templateConflict
    simp only [Bool.not_eq_true]
    rw [List.any_eq_false]
    intro p' hp'
    rw [← studyList_abs db a h sid hlive] at hp'
    cases hg : p'.2.params.get? k with
    | none => simp
    | some q' =>
      obtain ⟨y, hy, eyv⟩ := param_row db h.inv.1 sid p' hp' k q' (AList.mem_of_get? hg)
      have := h.pc sid k y x hy hx
      rw [eyv, exv] at this
      simp [this]

theorem ageOf_eq_of_beats (hs hs' : HState) (now : Int) (tid : Nat) (hb : hs'.db.beats = hs.db.beats) (hst : hs'.stamps = hs.stamps) :
    ageOf hs' now tid = ageOf hs now tid := by
  unfold ageOf heartbeatsOf
  rw [hb, hst]

theorem ageOf_none (hs : HState) (now : Int) (tid : Nat) (h : ∀ b ∈ hs.db.beats, b.owner ≠ tid) : ageOf hs now tid = none := by
  unfold ageOf heartbeatsOf
  have : Tbl.ofOwner hs.db.beats tid = [] := by
    unfold Tbl.ofOwner
    rw [List.filter_eq_nil_iff]
    intro b hb
    simpa using h b hb
  rw [this]
  rfl

theorem ageOf_next (hs : HState) (h : Inv0 hs.db) (now : Int) : ageOf hs now hs.db.nTrial = none := by
  apply ageOf_none
  intro b hb e
  have := h.beatsFk b hb
  rw [e] at this
  obtain ⟨row, hr, er⟩ := List.mem_map.mp this
  have := h.trialsBelow row hr
  omega

theorem isStale_abs (P : Params) (hP : POk P) (hs : HState) (now : Int) (row : TrialRow) :
    (absTrial P.codec hs now (row.id, hs.db.rowView row)).isStale (absParams P).grace =
      (row.state == .running && staleRow hs now (StaleGen.effectiveGrace P.hbInterval P.gracePeriod) row) := by
  have hg := hP.gpos
  unfold HTrial.isStale absTrial ageOf absParams recOf staleRow
  simp only [State.rowView]
  congr 1
  match heartbeatsOf hs row.id with
  | [] => rfl
  | [ts] =>
    simp only
    congr 1
    apply propext
    omega
  | _ :: _ :: _ => rfl

theorem staleFrom_map (g : Nat) (L M : List (Nat × TrialS)) (h : Nat × TrialS → HTrial) (i : Nat)
    (hidx : ∀ j p, M[j]? = some p → numOf L p.1 = i + j) :
    Heartbeat.staleFrom g (M.map h) i = (M.filter (fun p => (h p).isStale g)).map (fun p => numOf L p.1) := by
  -- both sides filter `M.zipIdx i` by the staleness of the entry; the index paired with an entry is its `numOf` (`hidx`)
  rw [Heartbeat.staleFrom_eq, List.zipIdx_map, List.filter_map, List.map_map]
  conv => rhs; rw [← List.zipIdx_map_fst i M, List.filter_map, List.map_map]
  refine List.map_congr_left fun q hq => ?_
  obtain ⟨hi, hlt, e⟩ := List.mem_zipIdx (List.mem_filter.1 hq).1
  have := hidx (q.2 - i) q.1 (by rw [List.getElem?_eq_getElem (by omega)]; simp [e])
  simp only [Function.comp, Prod.map, id]; omega

theorem stale_abs (P : Params) (hP : POk P) (hs : HState) (hinv : Inv0 hs.db) (now : Int) :
    ∃ ids, getStaleTrialIds hs now P.hbInterval P.gracePeriod P.sid = .ok ids ∧
      (∀ t ∈ ids, t ∈ (studyList hs.db P.sid).map (·.1)) ∧
      ids.map (numOf (studyList hs.db P.sid)) =
        Heartbeat.staleIds (absParams P).grace (absTrialsL P.codec hs now (studyList hs.db P.sid)) := by
  refine ⟨_, getStaleTrialIds_eq hs hinv now _ _ _, ?_, ?_⟩
  · intro t ht
    obtain ⟨row, hrow, e⟩ := List.mem_map.mp ht
    have hc := (List.mem_filter.mp hrow).1
    rw [mem_staleCandidates] at hc
    refine List.mem_map.mpr ⟨(row.id, hs.db.rowView row), ?_, e⟩
    exact (mem_studyList _ _ _).mpr ⟨row, hc.1, hc.2.2, rfl⟩
  -- both sides are one pass over `db.trials` in table order; an abstract position is the `numOf` of the id, the listing
  -- ascending in id
  · unfold Heartbeat.staleIds absTrialsL
    rw [staleFrom_map _ (studyList hs.db P.sid) (studyList hs.db P.sid) _ 0
      (fun j p hj => by rw [numOf_of_getElem? _ (studyList_sorted hs.db hinv P.sid) j p hj]; omega)]
    unfold studyList staleCandidates
    rw [List.filter_filter, List.filter_map, List.map_map, List.map_map]
    rw [List.filter_filter]
    -- "of the study, then `isStale`" (RUNNING and old) against the SQL filter (RUNNING, of the study), then the loop's age test
    have hf : ∀ row : TrialRow,
        ((((fun p => (absTrial P.codec hs now p).isStale (absParams P).grace) ∘ (fun x => (x.id, hs.db.rowView x))) row) && (row.study == P.sid))
        = ((staleRow hs now (StaleGen.effectiveGrace P.hbInterval P.gracePeriod) row) && (StaleGen.queryFilter row.state row.study P.sid)) := by
      intro row
      simp only [Function.comp, isStale_abs P hP, StaleGen.queryFilter]
      rw [Bool.and_comm (row.state == .running), Bool.and_assoc]
    rw [List.filter_congr (fun row _ => hf row)]
    apply List.map_congr_left
    intro row _
    rfl

end OptunaVerif.RdbHb
