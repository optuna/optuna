import OptunaVerif.Model.SamplerIR
import OptunaVerif.Lemmas.SimpAttr
/-!
# The equations of the sampler interpreter

The equations of `exec` and `block` for the statement forms the generated methods use (a sequence and an `if` keep
what has not been reached yet as program text: `execThen`, `execIte`), and — by their own defining equations — the
primitives of the three vocabularies (`_TreeNode`, `BruteForceSampler`, `GridSampler`), all under
`sampler_ir`.  The method wrappers (`interpExpand`, `interpPopulate`, …) and the generated bodies are not in the
set: a proof names the ones it runs.
-/
namespace OptunaVerif.SamplerIR
open OptunaVerif.BruteForce

section
variable {C A L R E V : Type} (sem : Sem C A L R E V)

@[sampler_ir] theorem block_one (s : Stmt C A L R) : block [s] = s := rfl
@[sampler_ir] theorem block_cons (s t : Stmt C A L R) (rest : List (Stmt C A L R)) :
    block (s :: t :: rest) = .seq s (block (t :: rest)) := rfl

@[sampler_ir] theorem exec_skip (env : E) : exec sem .skip env = (env, .next) := rfl

/-- `b` after the result of `a`.  `b` stays a program until that result is known to have ended normally, so that a
simplifier never runs it on a state that is not there yet. -/
def execThen (r : E × Flow V) (b : Stmt C A L R) : E × Flow V := andThen r (fun e => exec sem b e)

@[sampler_ir] theorem exec_seq (a b : Stmt C A L R) (env : E) :
    exec sem (.seq a b) env = execThen sem (exec sem a env) b := rfl
@[sampler_ir] theorem execThen_next (env : E) (b : Stmt C A L R) :
    execThen sem (env, .next) b = exec sem b env := rfl
@[sampler_ir] theorem execThen_cont (env : E) (b : Stmt C A L R) :
    execThen sem (env, (.cont : Flow V)) b = (env, .cont) := rfl
@[sampler_ir] theorem execThen_ret (env : E) (v : V) (b : Stmt C A L R) :
    execThen sem (env, .ret v) b = (env, .ret v) := rfl
@[sampler_ir] theorem execThen_raised (env : E) (x : Err) (b : Stmt C A L R) :
    execThen sem (env, (.raised x : Flow V)) b = (env, .raised x) := rfl

/-- an `if` on its evaluated test; the branches stay programs, and only the one taken is run -/
def execIte (v : Except Err Bool) (t e : Stmt C A L R) (env : E) : E × Flow V :=
  match v with
  | .error x => (env, .raised x)
  | .ok true => exec sem t env
  | .ok false => exec sem e env

@[sampler_ir] theorem exec_ite (c : C) (t e : Stmt C A L R) (env : E) :
    exec sem (.ite c t e) env = execIte sem (sem.cond env c) t e env := rfl
@[sampler_ir] theorem execIte_true (t e : Stmt C A L R) (env : E) :
    execIte sem (.ok true) t e env = exec sem t env := rfl
@[sampler_ir] theorem execIte_false (t e : Stmt C A L R) (env : E) :
    execIte sem (.ok false) t e env = exec sem e env := rfl
@[sampler_ir] theorem execIte_error (x : Err) (t e : Stmt C A L R) (env : E) :
    execIte sem (.error x) t e env = (env, (.raised x : Flow V)) := rfl

@[sampler_ir] theorem exec_assert (c : C) (env : E) :
    exec sem (.assert c) env =
      match sem.cond env c with
      | .error x => (env, .raised x)
      | .ok true => (env, .next)
      | .ok false => (env, .raised .assertion) := rfl
@[sampler_ir] theorem exec_act (a : A) (env : E) :
    exec sem (.act a) env =
      match sem.act env a with
      | .error x => (env, .raised x)
      | .ok env' => (env', .next) := rfl
@[sampler_ir] theorem exec_loop (l : L) (body : Stmt C A L R) (env : E) :
    exec sem (.loop l body) env =
      match sem.iter env l with
      | .error x => (env, .raised x)
      | .ok bs => loopAux (fun e => exec sem body e) bs env := rfl
@[sampler_ir] theorem exec_ret (r : R) (env : E) :
    exec sem (.ret r) env =
      match sem.retv env r with
      | .error x => (env, .raised x)
      | .ok v => (env, .ret v) := rfl
@[sampler_ir] theorem exec_raise (x : Err) (env : E) : exec sem (.raise x) env = (env, .raised x) := rfl
@[sampler_ir] theorem exec_cont (env : E) : exec sem .cont env = (env, .cont) := rfl

end

@[sampler_ir] theorem loopAux_nil {E V : Type} (f : E → E × Flow V) (env : E) : loopAux f [] env = (env, .next) := rfl

theorem loopAux_cons_next {E V : Type} (f : E → E × Flow V) (b : E → E) (rest : List (E → E)) (env env' : E)
    (h : f (b env) = (env', .next)) : loopAux f (b :: rest) env = loopAux f rest env' := by
  simp [loopAux, h]

theorem loopAux_cons_cont {E V : Type} (f : E → E × Flow V) (b : E → E) (rest : List (E → E)) (env env' : E)
    (h : f (b env) = (env', .cont)) : loopAux f (b :: rest) env = loopAux f rest env' := by
  simp [loopAux, h]

theorem loopAux_cons_raised {E V : Type} (f : E → E × Flow V) (b : E → E) (rest : List (E → E)) (env env' : E)
    (e : Err) (h : f (b env) = (env', .raised e)) : loopAux f (b :: rest) env = (env', .raised e) := by
  simp [loopAux, h]

theorem loopAux_cons_ret {E V : Type} (f : E → E × Flow V) (b : E → E) (rest : List (E → E)) (env env' : E)
    (v : V) (h : f (b env) = (env', .ret v)) : loopAux f (b :: rest) env = (env', .ret v) := by
  simp [loopAux, h]

@[sampler_ir] theorem kidsOf_unexp (r : Bool) : Tree.kidsOf (.unexp r) = none := rfl
@[sampler_ir] theorem kidsOf_exp (n : Option String) (ks : List Val) (ch : Val → Tree) (r : Bool) :
    Tree.kidsOf (.exp n ks ch r) = some (ks, ch) := rfl
@[sampler_ir] theorem nameOf_unexp (r : Bool) : Tree.nameOf (.unexp r) = none := rfl
@[sampler_ir] theorem isRunning_unexp (r : Bool) : (Tree.unexp r).isRunning = r := rfl

@[sampler_ir] theorem toOpt_liftErr {α : Type} (e : Err) (x : Option α) : toOpt (liftErr e x) = x := by
  cases x <;> rfl

attribute [sampler_ir] andThen liftErr toOpt
  evalBExpT evalTCond evalNExpr evalNameArg evalSpaceArg doTAct iterT retT
  TEnv.ofTree TEnv.self TEnv.setSelf TEnv.withCounts
  finishNode finishPath finishNat finishChoice
  evalBExpB evalBCond evalTrialsSrc evalParamsSrc doBAct iterB retB BEnv.init treeCalls
  finishTree finishVal finishStop
  evalGCond evalSetSrc doGAct iterG retG GEnv.ofIn GIn.init
  finishBool finishIds finishWrites finishStopG

end OptunaVerif.SamplerIR
