import OptunaVerif.Lemmas.RdbGetters
import OptunaVerif.Lemmas.Best
/-! `get_trial_id_from_study_id_trial_number` and `get_best_trial` of the relational model against the
contract model (refinement, part 2).  Core Lean only. -/
namespace OptunaVerif.Rdb
open OptunaVerif.Storage

theorem numbers_distinct (q : List TrialRow) (h : q.map (·.number) = List.range q.length) (n : Nat) :
    q.Pairwise (fun x y => ¬((x.number == n) = true ∧ (y.number == n) = true)) := by
  have := List.nodup_range (n := q.length)
  rw [← h, List.Nodup, List.pairwise_map] at this
  exact this.imp fun hne ⟨hx, hy⟩ => hne ((beq_iff_eq.mp hx).trans (beq_iff_eq.mp hy).symm)

theorem find?_number (q : List TrialRow) (h : q.map (·.number) = List.range q.length) (n : Nat) :
    q.find? (fun x => x.number == n) = q[n]? := by
  have hnum : ∀ i (hi : i < q.length), q[i].number = i := by
    intro i hi
    have := congrArg (·[i]?) h
    simpa [hi] using this
  by_cases hn : n < q.length
  · rw [find?_of_unique _ q (numbers_distinct q h n) q[n] (List.getElem_mem hn) (by simp [hnum n hn]),
      List.getElem?_eq_getElem hn]
  · rw [List.getElem?_eq_none (by omega), List.find?_eq_none]
    intro x hx
    obtain ⟨i, hi, rfl⟩ := List.getElem_of_mem hx
    simp only [hnum i hi, beq_iff_eq]
    omega

theorem sim_getTrialIdFromNumber (r : State) (a : Spec) (h : Abs r a) (sid number : Nat) :
    Allowed (step r (.getTrialIdFromNumber sid number)).2 (Storage.step a (.getTrialIdFromNumber sid number)).2 := by
  have hsplit : r.trials.filter (fun x => x.number == number && x.study == sid) =
      (r.trials.filter (fun x => x.study == sid)).filter (fun x => x.number == number) := by
    rw [List.filter_filter]
  have hnum := h.inv.2 sid
  simp only [step, Storage.step, ro, commit, hsplit,
    oneOrNone_filter _ _ (numbers_distinct _ hnum number), find?_number _ hnum number]
  cases hs : a.study? sid with
  | none =>
    simp [abs_no_rows_of_dead r a h sid hs, Allowed]
  | some st =>
    simp only [abs_trialsOf r a h sid (by simp [hs]), List.getElem?_map]
    cases (r.trials.filter (fun x => x.study == sid))[number]? with
    | none => simp [Allowed]
    | some row => simp [Allowed]

theorem atKey_zero (s : State) (h : Inv0 s) (tid : Nat) :
    Tbl.atKey s.values tid 0 = (Tbl.ofOwner s.values tid).take 1 := by
  have hk := h.objectives tid
  have e : Tbl.atKey s.values tid 0 = (Tbl.ofOwner s.values tid).filter (fun x => decide (x.key = 0)) := by
    unfold Tbl.atKey Tbl.ofOwner
    rw [List.filter_filter]
    apply List.filter_congr
    intro x _
    exact Bool.and_comm _ _
  rw [e]
  generalize Tbl.ofOwner s.values tid = rows at hk
  cases rows with
  | nil => rfl
  | cons x rest =>
    rw [List.range_eq_range'] at hk
    simp only [List.map_cons, List.length_cons, List.range'_succ, List.cons.injEq] at hk
    obtain ⟨h1, h2⟩ := hk
    have : rest.filter (fun x => decide (x.key = 0)) = [] := by
      rw [List.filter_eq_nil_iff]
      intro y hy
      have : y.key ∈ List.range' (0 + 1) rest.length := by rw [← h2]; exact List.mem_map.mpr ⟨y, hy, rfl⟩
      rw [List.mem_range'_1] at this
      simp; omega
    simp [h1, this]

theorem candidates_row (s : State) (h : Inv0 s) (row : TrialRow) :
    (Tbl.atKey s.values row.id 0).map (fun v => (row.id, v.val)) =
      ((s.rowView row).value0?.map (fun v => (row.id, encV v))).toList := by
  rw [atKey_zero s h]
  unfold TrialS.value0? State.rowView State.valuesView
  simp only
  cases hrows : Tbl.ofOwner s.values row.id with
  | nil => rfl
  | cons x rest =>
    obtain ⟨v, e⟩ := h.valuesEnc x (by
      have : x ∈ Tbl.ofOwner s.values row.id := by rw [hrows]; simp
      exact ((Tbl.mem_ofOwner _ _ _).mp this).1)
    simp [e, decV_encV]

theorem bestCandidates_eq (s : State) (h : Inv0 s) (sid : Nat) :
    bestCandidates s sid 0 =
      (completeWithValue ((s.trials.filter (fun x => x.study == sid)).map (fun x => (x.id, s.rowView x)))).map
        (fun q => (q.1, encV q.2.2)) := by
  unfold bestCandidates completeWithValue
  generalize s.trials = l
  induction l with
  | nil => rfl
  | cons x t ih =>
    have hst : (s.rowView x).state = x.state := rfl
    by_cases hs : x.study = sid <;> by_cases hc : x.state = .complete <;>
      cases hv : (s.rowView x).value0? <;>
      simp [hs, hc, hst, hv, candidates_row s h x, ih]

theorem toBestVal_enc (e : Best.EVal) : toBestVal (encV e.toX) = Best.encode e := by
  cases e <;> simp [toBestVal, encV, Best.EVal.toX, Best.encode,
    Generated.RdbCodec.TrialValueModel.value_to_stored_repr, Generated.RdbCodec.pyFloatEq]

theorem ofX_toX (v : XVal) (hv : v ≠ .nan) : ∃ e : Best.EVal, e.toX = v := by
  cases v with
  | nan => exact absurd rfl hv
  | ninf => exact ⟨.ninf, rfl⟩
  | pinf => exact ⟨.pinf, rfl⟩
  | fin q => exact ⟨.fin q, rfl⟩

theorem decode_list {α : Type} (C : List (α × XVal)) (h : ∀ c ∈ C, c.2 ≠ .nan) :
    ∃ D : List (α × Best.EVal), C = D.map (fun x => (x.1, x.2.toX)) := by
  induction C with
  | nil => exact ⟨[], rfl⟩
  | cons c t ih =>
    obtain ⟨D, hD⟩ := ih (fun x hx => h x (List.mem_cons_of_mem _ hx))
    obtain ⟨e, he⟩ := ofX_toX c.2 (h c (by simp))
    exact ⟨(c.1, e) :: D, by simp only [List.map_cons, ← hD, he]⟩

theorem sim_getBestTrial (r : State) (a : Spec) (h : Abs r a) (sid : Nat) :
    Allowed (step r (.getBestTrial sid)).2 (Storage.step a (.getBestTrial sid)).2 := by
  simp only [step, Storage.step, getBestTrial, getDirections]
  rcases findStudy_abs r a h sid with ⟨srow, st, h1, h2, h3, h4⟩ | ⟨h1, h2, _⟩
  rotate_left
  · simp [h1, h2, commit, Allowed]
  have hsid := (studyRow?_some r sid srow h2).2
  have hdirs : (Tbl.ofOwner r.dirs sid).map (·.val) = st.directions := by
    have := (frozen_fields r srow st h4).2.1
    rw [hsid] at this; exact this
  obtain ⟨hne, hcodes⟩ := h.dirsOk sid st h3
  simp only [h1, h3, hdirs]
  cases hd : st.directions with
  | nil => exact absurd hd hne
  | cons d rest =>
    cases rest with
    | cons d2 rest2 => simp [commit, Allowed]
    | nil =>
      simp only [List.length_cons, List.length_nil, Nat.lt_irrefl, if_false,
        Nat.zero_add, gt_iff_lt]
      have hd12 : d = 1 ∨ d = 2 := hcodes d (by rw [hd]; simp)
      have huse : Best.rdbUseMax (dirOfCode d) = (d == 2) := by
        rw [Best.rdbUseMax_eq]; unfold dirOfCode
        rcases hd12 with e | e <;> subst e <;> rfl
      have hlive : (a.study? sid).isSome = true := by simp [h3]
      have hL := abs_trialsOf r a h sid hlive
      have hC : bestCandidates r sid Generated.Best.rdbObjectiveIndex =
          (completeWithValue (a.trialsOf sid)).map (fun q => (q.1, encV q.2.2)) := by
        rw [hL]; exact bestCandidates_eq r h.inv.1 sid
      have hcw : ∀ q ∈ completeWithValue (a.trialsOf sid), (q.1, q.2.1) ∈ a.trialsOf sid ∧ q.2.2 ≠ .nan := by
        rintro ⟨i, t, v⟩ hq
        obtain ⟨hp, _, hv⟩ := (mem_completeWithValue _ i t v).mp hq
        refine ⟨hp, ?_⟩
        obtain ⟨hg, hs⟩ := (mem_trialsOf a sid i t).mp hp
        have ht : a.trial? i = some t := (trial?_some_iff a i t).mpr ⟨hg, hs ▸ hlive⟩
        unfold TrialS.value0? at hv
        split at hv
        · rename_i w ts hvv
          cases hv
          exact h.nonan i t (v :: ts) ht hvv v (by simp)
        · cases hv
      obtain ⟨E, hE⟩ := decode_list ((completeWithValue (a.trialsOf sid)).map (fun q => ((q.1, q.2.1), q.2.2))) (by
        intro c hc
        obtain ⟨q, hq, e⟩ := List.mem_map.mp hc
        rw [← e]; exact (hcw q hq).2)
      have hcwE : completeWithValue (a.trialsOf sid) = E.map (fun x => (x.1.1, x.1.2, x.2.toX)) := by
        have h1 : ((completeWithValue (a.trialsOf sid)).map (fun q => ((q.1, q.2.1), q.2.2))).map
            (fun c : (Nat × TrialS) × XVal => (c.1.1, c.1.2, c.2)) = completeWithValue (a.trialsOf sid) := by
          rw [List.map_map]
          exact (List.map_congr_left (fun q _ => rfl)).trans (List.map_id _)
        rw [← h1, hE, List.map_map]
        rfl
      unfold findBestTrialId
      rw [hC, hcwE, List.map_map,
        show (fun q : Nat × TrialS × XVal => (q.1, encV q.2.2)) ∘ (fun x : (Nat × TrialS) × Best.EVal => (x.1.1, x.1.2, x.2.toX)) =
          fun x => (x.1.1, encV x.2.toX) from rfl,
        Best.firstBest_map (fun x : (Nat × TrialS) × Best.EVal => (x.1.1, encV x.2.toX))
          (fun y cur => if (d == 2) then cur.2.lt y.2 else y.2.lt cur.2) _
          (by intro y c; simp only [toBestVal_enc, Best.sqlBefore_encode, huse])]
      have hpick : Best.firstBest (fun (y cur : (Nat × TrialS) × Best.EVal) => if (d == 2) then cur.2.lt y.2 else y.2.lt cur.2) E =
          Best.pyPick (d == 2) (fun x => x.2) E := rfl
      rw [hpick]
      cases hp : Best.pyPick (d == 2) (fun x => x.2) E with
      | none =>
        rw [Best.pyPick_none] at hp
        simp [bestSet, hcwE, hp, commit, Allowed]
      | some best =>
        obtain ⟨hbm, hball⟩ := Best.pyPick_some _ _ _ _ hp
        have hq : (best.1.1, best.1.2, best.2.toX) ∈ completeWithValue (a.trialsOf sid) := by
          rw [hcwE]; exact List.mem_map.mpr ⟨best, hbm, rfl⟩
        obtain ⟨hlist, _⟩ := hcw _ hq
        rw [hL] at hlist
        obtain ⟨row, hrow, ep⟩ := List.mem_map.mp hlist
        simp only [Prod.mk.injEq] at ep
        simp only [Option.map_some, getTrial_eq r h.inv.1, ← ep.1,
          trialRow?_of_mem r h.inv.1 row (List.mem_filter.mp hrow).1]
        have hopt : ∀ q ∈ completeWithValue (a.trialsOf sid), Storage.betterEq d best.2.toX q.2.2 = true := by
          intro q hq'
          rw [hcwE] at hq'
          obtain ⟨z, hz, ez⟩ := List.mem_map.mp hq'
          have hb := hball z hz
          rw [← ez]
          rcases hd12 with e | e <;> subst e <;>
            simpa [Storage.betterEq, Best.betterEq, Best.EVal.le] using hb
        have hin : (row.id, r.rowView row) ∈ bestSet d (a.trialsOf sid) :=
          (mem_bestSet_iff d _ _ _).2 ⟨best.2.toX, by rw [ep.1, ep.2]; exact hq, hopt⟩
        cases hbs : bestSet d (a.trialsOf sid) with
        | nil => rw [hbs] at hin; simp at hin
        | cons x t =>
          simp only [commit, Allowed]
          exact ⟨(row.id, r.rowView row), by rw [← hbs]; exact hin, rfl⟩

end OptunaVerif.Rdb
