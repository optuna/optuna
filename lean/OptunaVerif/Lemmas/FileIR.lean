import OptunaVerif.Generated.JournalFileMethods
import OptunaVerif.Lemmas.FileIRAppend
import OptunaVerif.Lemmas.FileLockTimed
/-!
Lemmas for the translator tie of `optuna/storages/journal/_file.py` (`Props/C07FileGen.lean`): the
interpreters of `Model/FileIR.lean` applied to `Generated/JournalFileMethods.lean` are the hand models - here the
reader (`read_eq`) and the two lock classes (`gstepW_eq`, `grun_eq`, `toSt_grun`); the appender is in
`Lemmas/FileIRAppend.lean`.  Everything here is re-checked against the regenerated data on every run.
-/
namespace OptunaVerif.FileIR
open OptunaVerif.JournalFile OptunaVerif.FileLock OptunaVerif.Generated.JournalFileMethods

theorem read_loop_eq (from_ : Nat) : ∀ (lines : List Line) (n : Nat) (s : RIter),
    interpLoop readLogsProg.body from_ lines n s = readLoop from_ lines n s.remaining s.pending s.cache s.acc := by
  intro lines
  induction lines with
  | nil => intro n s; simp [interpLoop, readLoop]
  | cons ln rest ih =>
    intro n s
    obtain ⟨rem, pend, cache, acc, bl⟩ := s
    obtain ⟨len, term, valid⟩ := ln
    simp only [readLogsProg] at ih
    simp only [interpLoop, readLoop, iterate, readLogsProg, execRs, execR, evalRCond]
    by_cases h1 : rem - (len : Int) < 0
    · simp [h1]
    · cases pend with
      | true => simp [h1]
      | false =>
        cases hn1 : cache.get? (n + 1) with
        | some o1 =>
          cases term <;> by_cases hb : n < from_ <;> cases valid <;>
            simp [h1, hn1, hb, ih]
        | none =>
          cases hn0 : cache.get? n with
          | none => simp [h1, hn1, hn0]
          | some o0 =>
            cases term <;> by_cases hb : n < from_ <;> cases valid <;>
              simp [h1, hn1, hn0, hb, ih]

theorem read_eq (size : Nat) (cache : Cache) (from_ : Nat) (linesFrom : Nat → List Line) :
    interpRead readLogsProg size cache from_ linesFrom = JournalFile.readLogs size cache from_ linesFrom := by
  have hl := read_loop_eq from_
  simp only [readLogsProg] at hl
  unfold interpRead JournalFile.readLogs
  cases h : cache.get? from_ with
  | none => simp [readLogsProg, execP, h, hl]
  | some off => simp [readLogsProg, execP, h, hl]

def shFree (t : Nat) : Shared := { lock := none, now := t, tmps := [] }
def shHeld (t : Nat) : Shared := { lock := some (9, 5), now := t, tmps := [] }
def shTmp (t : Nat) : Shared := { lock := none, now := t, tmps := [{ by_ := 0, serial := 1, owner := 9 }] }

/-- only `kind` and whether there is a grace period matter for the control -/
def fakeCfg (kind : Kind) (hasGrace : Bool) : Cfg := { kind := kind, grace := if hasGrace then some 0 else none }

/-- a canonical way to drive one worker (number 0) of the interpreter to the control state of a program
point: the shared states it meets at its successive calls -/
def pathTo (kind : Kind) (hasGrace : Bool) : PC → List Shared
  | .idle => []
  | .create => [shFree 0]
  | .closing => [shFree 0, shFree 0]
  | .crit => match kind with
    | .symlink => [shFree 0, shFree 0]
    | .openExcl => [shFree 0, shFree 0, shFree 0]
  | .relRename => match kind with
    | .symlink => [shFree 0, shFree 0, shFree 0]
    | .openExcl => [shFree 0, shFree 0, shFree 0, shFree 0]
  | .relUnlink => match kind with
    | .symlink => [shFree 0, shFree 0, shFree 0, shHeld 0]
    | .openExcl => [shFree 0, shFree 0, shFree 0, shFree 0, shHeld 0]
  | .stat => [shFree 0, shHeld 0]
  | .resetTimer => [shFree 0, shHeld 0, shHeld 0]
  | .check => [shFree 0, shHeld 0, shHeld 0, shHeld 0]
  | .sleep => if hasGrace then [shFree 0, shHeld 0, shHeld 0, shHeld 0, shHeld 0] else [shFree 0, shHeld 0]
  | .tkRename => [shFree 0, shHeld 0, shHeld 0, shHeld 0, shHeld 9]
  | .tkUnlink => [shFree 0, shHeld 0, shHeld 0, shHeld 0, shHeld 9, shHeld 9]
  | .tkRestart => [shFree 0, shHeld 0, shHeld 0, shHeld 0, shHeld 9, shHeld 9, shTmp 9]

def walk (p : LockProg) (cfg : Cfg) (wk : GWorker) : List Shared → GWorker
  | [] => wk
  | sh :: rest => walk p cfg (gstepW p cfg sh 0 wk).2.1 rest

/-- the control of the generated program at a program point of the hand model -/
def ctlOf (p : LockProg) (kind : Kind) (hasGrace : Bool) (pc : PC) : Ctl :=
  (walk p (fakeCfg kind hasGrace) (gFresh p (fakeCfg kind hasGrace)) (pathTo kind hasGrace pc)).ctl

def embed (p : LockProg) (cfg : Cfg) (wk : Worker) : GWorker :=
  { ctl := ctlOf p cfg.kind cfg.grace.isSome wk.pc, dead := wk.dead, mtime := wk.mtime, last := wk.last, nren := wk.nren,
    failed := wk.failed, cur := none }

/-- program points that exist for a configuration: `closing` only for the open lock, the takeover
points only with a grace period -/
def pcOk (cfg : Cfg) (pc : PC) : Bool :=
  (pc != .closing || cfg.kind == .openExcl) && (cfg.grace.isSome || tkFree pc)

/-! The two generated classes are one program (`lockOf_eq`), differing in the calls that create the lock file and in
the call that samples its mtime.  The control at a program point, written out: the statements of that program still to
run.  `ctlOf` (the interpreter driven along `pathTo`) arrives at exactly these. -/

def createCalls : Kind → List OsCall
  | .symlink => [.symlink]
  | .openExcl => [.openExcl, .close]

def sampleCall : Kind → OsCall
  | .symlink => .lstat
  | .openExcl => .stat

def expired : LStmt := .ifExpired [.tryRelease [.resetSleep, .readTimer]]

/-- what `acquire` does when the lock file exists already -/
def onExists (kind : Kind) : List LStmt :=
  [.ifGrace [.trySample (sampleCall kind), .ifChanged [.readTimer], expired], .sleep, .growSleep, .continue_]

def loopBody (kind : Kind) : List LStmt := [.tryCreate (createCalls kind) (onExists kind)]

def lockProg (kind : Kind) : LockProg where
  acquire := [.initTimer, .whileTrue (loopBody kind)]
  release := [.uniqueName, .tryOs [.rename, .unlink]]

theorem lockOf_eq (kind : Kind) : lockOf kind = lockProg kind := by cases kind <;> rfl

/-- the `while True:` of `acquire` and what follows the call of `acquire` in `get_lock_file` -/
def loopCtl (kind : Kind) : Ctl := [.stmt (.whileTrue (loopBody kind)), .endAcquire, .crit, .callRelease, .round]

def sleepCtl (kind : Kind) : Ctl := .stmt .sleep :: .stmt .growSleep :: .stmt .continue_ :: loopCtl kind

def ctlAt (kind : Kind) : PC → Ctl
  | .idle => .stmt .initTimer :: loopCtl kind
  | .create => (loopBody kind).map .stmt ++ loopCtl kind
  | .closing => .creating [.close] :: loopCtl kind
  | .stat => .stmt (.trySample (sampleCall kind)) :: .stmt (.ifChanged [.readTimer]) :: .stmt expired :: sleepCtl kind
  | .resetTimer => .stmt .readTimer :: .stmt expired :: sleepCtl kind
  | .check => .stmt expired :: sleepCtl kind
  | .tkRename => .releasing true [.rename, .unlink] false :: .stmt .resetSleep :: .stmt .readTimer :: sleepCtl kind
  | .tkUnlink => .releasing true [.unlink] false :: .stmt .resetSleep :: .stmt .readTimer :: sleepCtl kind
  | .tkRestart => .stmt .readTimer :: sleepCtl kind
  | .sleep => sleepCtl kind
  | .crit => [.crit, .callRelease, .round]
  | .relRename => [.releasing true [.rename, .unlink] true, .round]
  | .relUnlink => [.releasing true [.unlink] true, .round]

theorem ctlOf_eq_ctlAt (kind : Kind) (g : Bool) (pc : PC) (hc : pc = .closing → kind = .openExcl)
    (hg : g = false → tkFree pc = true) : ctlOf (lockOf kind) kind g pc = ctlAt kind pc := by
  cases kind <;> cases g <;> cases pc <;>
    first | (simp [tkFree] at hc hg; done) | rfl

theorem pcOfCtl_ctlAt (kind : Kind) (pc : PC) : pcOfCtl (ctlAt kind pc) = some pc := by
  cases kind <;> cases pc <;> rfl

theorem pcOk_iff (cfg : Cfg) (pc : PC) :
    pcOk cfg pc = true ↔ (pc = .closing → cfg.kind = .openExcl) ∧ (cfg.grace = none → tkFree pc = true) := by
  obtain ⟨kind, grace⟩ := cfg
  cases grace <;> simp [pcOk, Decidable.imp_iff_not_or]

theorem embed_eq (cfg : Cfg) (wk : Worker) (hok : pcOk cfg wk.pc = true) :
    embed (lockOf cfg.kind) cfg wk =
      { ctl := ctlAt cfg.kind wk.pc, dead := wk.dead, mtime := wk.mtime, last := wk.last, nren := wk.nren,
        failed := wk.failed, cur := none } := by
  rw [pcOk_iff] at hok
  rw [embed, ctlOf_eq_ctlAt cfg.kind _ wk.pc hok.1 (fun h => hok.2 (by simpa using h))]

theorem stepW_pcOk (cfg : Cfg) (sh : Shared) (w : Nat) (wk : Worker) (hok : pcOk cfg wk.pc = true) :
    pcOk cfg (stepW cfg sh w wk).2.1.pc = true := by
  rw [pcOk_iff] at hok ⊢
  exact ⟨fun h => stepW_closing cfg sh w wk h, fun hg => stepW_tkFree cfg hg sh w wk (hok.2 hg)⟩

/-- one call: both interpreters unfolded, plus the case at hand.  The loop body and its branch for an existing lock file
stay folded (`loopBody`, `onExists`) where the call does not enter them: the states are smaller for it. -/
macro "lk_simp" ts:term,* : tactic => `(tactic|
  simp [gstepW, normalise, performCall, performCall.toEnd, performCall.toRound, toLoopHead, releaseFrame, fuelN,
    ctlAt, loopCtl, sleepCtl, expired, lockProg, stepW, doRename, doUnlink, createCalls, sampleCall, createdBy,
    sampled, $[$ts:term],*])

/-- **one call of the generated lock class = one call of the hand model**, at every program point that
exists for the configuration -/
theorem gstepW_eq (cfg : Cfg) (sh : Shared) (w : Nat) (wk : Worker) (hok : pcOk cfg wk.pc = true) :
    gstepW (lockOf cfg.kind) cfg sh w (embed (lockOf cfg.kind) cfg wk) =
      ((stepW cfg sh w wk).1, embed (lockOf cfg.kind) cfg (stepW cfg sh w wk).2.1, (stepW cfg sh w wk).2.2) := by
  rw [embed_eq cfg wk hok, embed_eq cfg _ (stepW_pcOk cfg sh w wk hok), lockOf_eq]
  obtain ⟨kind, grace⟩ := cfg
  obtain ⟨pc, dead, mtime, last, nren, failed⟩ := wk
  obtain ⟨lock, now, tmps⟩ := sh
  -- the program points of a takeover exist only with a grace period
  have hg : tkFree pc = false → ∃ g, grace = some g := fun h => by
    cases grace with
    | some g => exact ⟨g, rfl⟩
    | none => simp [pcOk, h] at hok
  -- the class matters at three program points only: `create`, `closing`, `stat`
  cases pc with
  | idle => lk_simp loopBody
  | create => cases kind <;> cases grace <;> cases lock <;> lk_simp loopBody, onExists
  | closing =>
    cases kind with
    | symlink => simp [pcOk] at hok
    | openExcl => lk_simp
  | sleep => lk_simp loopBody
  | crit => lk_simp
  | relRename => cases lock <;> lk_simp
  | relUnlink => by_cases hx : tmps.any (isMine w nren) = true <;> lk_simp hx
  | stat =>
    obtain ⟨g, rfl⟩ := hg rfl
    cases lock with
    | none => cases kind <;> lk_simp loopBody
    | some os =>
      obtain ⟨o, s⟩ := os
      by_cases hm : mtime = some s <;> cases kind <;> lk_simp hm
  | resetTimer =>
    obtain ⟨g, rfl⟩ := hg rfl
    lk_simp
  | check =>
    obtain ⟨g, rfl⟩ := hg rfl
    by_cases hx : now > last + g <;> lk_simp hx
  | tkRename =>
    obtain ⟨g, rfl⟩ := hg rfl
    cases lock <;> lk_simp loopBody
  | tkUnlink =>
    obtain ⟨g, rfl⟩ := hg rfl
    by_cases hx : tmps.any (isMine w nren) = true <;> lk_simp hx, loopBody
  | tkRestart =>
    obtain ⟨g, rfl⟩ := hg rfl
    lk_simp

def embedSt (cfg : Cfg) (st : St) : GSt := { sh := st.sh, ws := st.ws.map (embed (lockOf cfg.kind) cfg) }

def PcOkSt (cfg : Cfg) (st : St) : Prop := ∀ (w : Nat) (wk : Worker), st.ws[w]? = some wk → pcOk cfg wk.pc = true

theorem gstep_eq (cfg : Cfg) (st : St) (e : Ev) (hok : PcOkSt cfg st) :
    gstep (lockOf cfg.kind) cfg (embedSt cfg st) e = (embedSt cfg (step cfg st e).1, (step cfg st e).2) := by
  cases e with
  | tick => rfl
  | crash c =>
    simp only [gstep, step, embedSt, List.getElem?_map]
    cases hc : st.ws[c]? with
    | none => simp
    | some ck =>
      cases hd : ck.dead with
      | true => simp [embed, hd]
      | false =>
        have hd' : (embed (lockOf cfg.kind) cfg ck).dead = false := hd
        simp only [Option.map_some, hd, hd', Bool.false_eq_true, ↓reduceIte]
        congr 2
        exact (map_updAt (embed (lockOf cfg.kind) cfg) st.ws c (fun x => { x with dead := true })
          (fun x => { x with dead := true }) (fun a => rfl)).symm
  | step a =>
    simp only [gstep, step, embedSt, List.getElem?_map]
    cases ha : st.ws[a]? with
    | none => simp
    | some ak =>
      cases hd : ak.dead with
      | true => simp [embed, hd]
      | false =>
        have h := gstepW_eq cfg st.sh a ak (hok a ak ha)
        simp only [Option.map_some, hd, Bool.false_eq_true, ↓reduceIte]
        have hd' : (embed (lockOf cfg.kind) cfg ak).dead = false := hd
        simp only [hd', Bool.false_eq_true, ↓reduceIte, h]
        congr 2
        exact (map_updAt _ _ _ _ (fun _ => embed (lockOf cfg.kind) cfg (stepW cfg st.sh a ak).2.1) (fun _ => rfl)).symm

theorem pcOkSt_step (cfg : Cfg) (st : St) (e : Ev) (hok : PcOkSt cfg st) : PcOkSt cfg (step cfg st e).1 :=
  forall_pc_step (pcOk cfg · = true) cfg st e (stepW_pcOk cfg) hok

theorem pcOkSt_init (cfg : Cfg) (n : Nat) : PcOkSt cfg (init n) := fun _ _ h => by
  rw [init_get h]; simp [freshWorker, pcOk, tkFree]

theorem pcOk_induction (cfg : Cfg) {P : St → List Ev → Prop} (nil : ∀ st, PcOkSt cfg st → P st [])
    (cons : ∀ st e es, PcOkSt cfg st → P (step cfg st e).1 es → P st (e :: es)) :
    ∀ (evs : List Ev) (st : St), PcOkSt cfg st → P st evs := by
  intro evs
  induction evs with
  | nil => exact nil
  | cons e es ih => exact fun st h => cons st e es h (ih _ (pcOkSt_step cfg st e h))

theorem pcOkSt_run (cfg : Cfg) : ∀ (evs : List Ev) (st : St), PcOkSt cfg st → PcOkSt cfg (run cfg st evs) :=
  pcOk_induction cfg (fun _ h => h) (fun _ _ _ _ ih => ih)

theorem gFresh_eq (cfg : Cfg) : gFresh (lockOf cfg.kind) cfg = embed (lockOf cfg.kind) cfg freshWorker := by
  rw [lockOf_eq]
  cases cfg.grace <;> simp [gFresh, embed, ctlOf, walk, pathTo, fakeCfg, freshWorker, normalise, fuelN, lockProg]

theorem gInit_eq (cfg : Cfg) (n : Nat) : gInit (lockOf cfg.kind) cfg n = embedSt cfg (init n) := by
  simp [gInit, embedSt, init, gFresh_eq]

/-- **the generated lock classes run exactly like the hand model**: same shared state, same workers
(control = the hand model's program point), after every schedule -/
theorem grun_eq (cfg : Cfg) : ∀ (evs : List Ev) (st : St), PcOkSt cfg st →
    grun (lockOf cfg.kind) cfg (embedSt cfg st) evs = embedSt cfg (run cfg st evs) :=
  pcOk_induction cfg (fun _ _ => rfl) fun st e es h ih => by simp only [grun, run, gstep_eq cfg st e h]; exact ih

/-- the outcomes of the calls of a run of the hand model -/
def htrace (cfg : Cfg) (st : St) : List Ev → List Label
  | [] => []
  | e :: es => (step cfg st e).2 :: htrace cfg (step cfg st e).1 es

theorem gtrace_eq (cfg : Cfg) : ∀ (evs : List Ev) (st : St), PcOkSt cfg st →
    gtrace (lockOf cfg.kind) cfg (embedSt cfg st) evs = htrace cfg st evs :=
  pcOk_induction cfg (fun _ _ => rfl) fun st e es h ih => by simp only [gtrace, htrace, gstep_eq cfg st e h, ih]

theorem toWorker_embed (cfg : Cfg) (wk : Worker) (hok : pcOk cfg wk.pc = true) :
    (embed (lockOf cfg.kind) cfg wk).toWorker = wk := by
  rw [embed_eq cfg wk hok, GWorker.toWorker, pcOfCtl_ctlAt]; rfl

theorem toSt_embedSt (cfg : Cfg) (st : St) (hok : PcOkSt cfg st) : (embedSt cfg st).toSt = st := by
  obtain ⟨sh, ws⟩ := st
  simp only [GSt.toSt, embedSt, List.map_map, St.mk.injEq, true_and]
  apply List.ext_getElem?
  intro i
  simp only [List.getElem?_map]
  cases h : ws[i]? with
  | none => rfl
  | some wk => simp [toWorker_embed cfg wk (hok i wk h)]

/-- **the run of the generated lock classes, read back, is the run of the hand model** -/
theorem toSt_grun (cfg : Cfg) (n : Nat) (evs : List Ev) :
    (grun (lockOf cfg.kind) cfg (gInit (lockOf cfg.kind) cfg n) evs).toSt = run cfg (init n) evs := by
  rw [gInit_eq, grun_eq cfg evs (init n) (pcOkSt_init cfg n)]
  exact toSt_embedSt cfg _ (pcOkSt_run cfg evs (init n) (pcOkSt_init cfg n))


theorem htrace_snoc (cfg : Cfg) (es : List Ev) (e : Ev) : ∀ (st : St),
    htrace cfg st (es ++ [e]) = htrace cfg st es ++ [(step cfg (run cfg st es) e).2] := by
  induction es with
  | nil => intro st; rfl
  | cons x rest ih => intro st; simp only [List.cons_append, htrace, run, ih]

theorem gtrace_init (cfg : Cfg) (n : Nat) (evs : List Ev) :
    gtrace (lockOf cfg.kind) cfg (gInit (lockOf cfg.kind) cfg n) evs = htrace cfg (init n) evs := by
  rw [gInit_eq]; exact gtrace_eq cfg evs (init n) (pcOkSt_init cfg n)


theorem gsafeSched_eq (cfg : Cfg) : ∀ (evs : List Ev) (st : St), PcOkSt cfg st →
    gsafeSched (lockOf cfg.kind) cfg (embedSt cfg st) evs = safeSched cfg st evs :=
  pcOk_induction cfg (fun _ _ => rfl) fun st e es h ih => by
    simp only [gsafeSched, safeSched, gstep_eq cfg st e h, toSt_embedSt cfg st h, ih]

theorem gpunctualSched_eq (cfg : Cfg) (g : Nat) : ∀ (evs : List Ev) (st : St), PcOkSt cfg st →
    gpunctualSched (lockOf cfg.kind) cfg g (embedSt cfg st) evs = punctualSched cfg g st evs :=
  pcOk_induction cfg (fun _ _ => rfl) fun st e es h ih => by
    simp only [gpunctualSched, punctualSched, gstep_eq cfg st e h, toSt_embedSt cfg st h, ih]

end OptunaVerif.FileIR
