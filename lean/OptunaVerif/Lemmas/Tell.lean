import OptunaVerif.Model.Tell
/-! Helper lemmas about the `_tell.py` / `_run_trial` model: the value check accepts exactly the lists of non-NaN floats of
the right length and lets no cast exception out (`check_feasible_iff`, `check_not_raises`); of the reports at a step the
first one counts, and a pruned trial gets the value at its greatest step (`lastReport_foldl`). -/
namespace OptunaVerif.Tell

/-- An element the check accepts: `float(e)` succeeds and is not NaN. -/
def Elem.Good (e : Elem) : Prop := ∃ x, e = .ok x ∧ x ≠ .nan

theorem scan_feasible_iff (l : List Elem) : scan l = .feasible ↔ ∀ e ∈ l, e.Good := by
  induction l with
  | nil => simp [scan]
  | cons a t ih =>
    cases a with
    | ok x =>
      by_cases hx : x = .nan
      · subst hx
        simp [scan, Elem.Good]
      · simp only [scan, hx, if_false, List.mem_cons, forall_eq_or_imp, ih]
        constructor
        · intro h; exact ⟨⟨x, rfl, hx⟩, h⟩
        · intro h; exact h.2
    | bad e =>
      have : ¬ (Elem.bad e).Good := by rintro ⟨x, hx, _⟩; cases hx
      simp only [scan, List.mem_cons, forall_eq_or_imp]
      constructor
      · intro h; split at h <;> cases h
      · intro h; exact absurd h.1 this

theorem scan_raises (l : List Elem) (c : CastExc) (h : scan l = .raises c) :
    Elem.bad c ∈ l ∧ castCaught c = false := by
  induction l with
  | nil => simp [scan] at h
  | cons a t ih =>
    cases a with
    | ok x =>
      simp only [scan] at h
      split at h
      · cases h
      · exact ⟨List.mem_cons_of_mem _ (ih h).1, (ih h).2⟩
    | bad e =>
      simp only [scan] at h
      split at h
      · cases h
      · rename_i hc
        cases h
        exact ⟨List.mem_cons_self, by simpa using hc⟩

theorem castCaught_all (c : CastExc) : castCaught c = true := by
  cases c <;> rfl

theorem scan_not_raises (l : List Elem) (c : CastExc) : scan l ≠ .raises c := by
  intro hs
  have := (scan_raises l c hs).2
  rw [castCaught_all] at this
  cases this

theorem check_feasible_iff (nObj : Nat) (l : List Elem) :
    checkValuesFeasible nObj l = .feasible ↔ (∀ e ∈ l, e.Good) ∧ l.length = nObj := by
  unfold checkValuesFeasible
  constructor
  · intro h
    split at h
    · rename_i hs
      split at h
      · rename_i hl; exact ⟨(scan_feasible_iff l).1 hs, hl⟩
      · cases h
    · rename_i r hr
      exact absurd h (hr · )
  · rintro ⟨hg, hl⟩
    rw [(scan_feasible_iff l).2 hg]
    simp [hl]

theorem check_raises (nObj : Nat) (l : List Elem) (c : CastExc)
    (h : checkValuesFeasible nObj l = .raises c) : scan l = .raises c := by
  unfold checkValuesFeasible at h
  split at h
  · split at h <;> cases h
  · exact h

theorem check_not_raises (nObj : Nat) (l : List Elem) (c : CastExc) :
    checkValuesFeasible nObj l ≠ .raises c :=
  fun hc => scan_not_raises l c (check_raises nObj l c hc)

theorem floats_spec (l : List Elem) (h : ∀ e ∈ l, e.Good) : l = (floats l).map Elem.ok := by
  induction l with
  | nil => rfl
  | cons a t ih =>
    obtain ⟨x, hx, _⟩ := h a List.mem_cons_self
    subst hx
    simp only [floats, List.map_cons, List.cons.injEq, true_and]
    exact ih (fun e he => h e (List.mem_cons_of_mem _ he))

theorem floats_length (l : List Elem) (h : ∀ e ∈ l, e.Good) : (floats l).length = l.length := by
  conv => rhs; rw [floats_spec l h]
  simp

theorem floats_no_nan (l : List Elem) (h : ∀ e ∈ l, e.Good) : ∀ x ∈ floats l, x ≠ .nan := by
  intro x hx
  obtain ⟨y, hy, hn⟩ := h (.ok x) (by rw [floats_spec l h]; exact List.mem_map_of_mem hx)
  cases hy
  exact hn

theorem check_single (nObj : Nat) (x : XVal) :
    checkValuesFeasible nObj [.ok x] = .feasible ↔ x ≠ .nan ∧ nObj = 1 := by
  rw [check_feasible_iff]
  constructor
  · rintro ⟨hg, hl⟩
    obtain ⟨y, hy, hn⟩ := hg _ List.mem_cons_self
    cases hy
    exact ⟨hn, by simpa using hl.symm⟩
  · rintro ⟨hn, hl⟩
    refine ⟨?_, by simp [hl]⟩
    intro e he
    simp only [List.mem_singleton] at he
    subst he
    exact ⟨x, rfl, hn⟩

theorem interGet?_append (l : List (Nat × XVal)) (p : Nat × XVal) (k : Nat) :
    interGet? (l ++ [p]) k = match interGet? l k with
      | some x => some x
      | none => if p.1 = k then some p.2 else none := by
  induction l with
  | nil => simp [interGet?]
  | cons a t ih =>
    obtain ⟨s, x⟩ := a
    by_cases h : s = k
    · simp [interGet?, h]
    · simp [interGet?, h, ih]

theorem interGet?_report (l : List (Nat × XVal)) (p : Nat × XVal) (k : Nat) :
    interGet? (report l p) k = match interGet? l k with
      | some x => some x
      | none => if p.1 = k then some p.2 else none := by
  unfold report
  split
  · rename_i y hy
    by_cases hk : p.1 = k
    · subst hk; simp [hy]
    · cases interGet? l k <;> simp [hk]
  · exact interGet?_append l p k

def firstAt : List (Nat × XVal) → Nat → Option XVal
  | [], _ => none
  | (s, x) :: t, k => if s = k then some x else firstAt t k

theorem interGet?_foldl (rs acc : List (Nat × XVal)) (k : Nat) :
    interGet? (rs.foldl report acc) k = match interGet? acc k with
      | some x => some x
      | none => firstAt rs k := by
  induction rs generalizing acc with
  | nil => simp [firstAt]; cases interGet? acc k <;> rfl
  | cons p t ih =>
    simp only [List.foldl_cons]
    rw [ih, interGet?_report]
    obtain ⟨s, x⟩ := p
    cases h : interGet? acc k with
    | some y => rfl
    | none =>
      by_cases hs : s = k <;> simp [firstAt, hs]

def IsMaxStep (l : List (Nat × XVal)) (k : Nat) : Prop :=
  (∃ x, (k, x) ∈ l) ∧ ∀ p ∈ l, p.1 ≤ k

theorem lastStep_none (l : List (Nat × XVal)) : lastStep l = none ↔ l = [] := by
  cases l with
  | nil => simp [lastStep]
  | cons a t =>
    obtain ⟨s, x⟩ := a
    simp only [lastStep]
    split <;> simp

theorem lastStep_isMax (l : List (Nat × XVal)) (k : Nat) (h : lastStep l = some k) : IsMaxStep l k := by
  induction l generalizing k with
  | nil => simp [lastStep] at h
  | cons a t ih =>
    obtain ⟨s, x⟩ := a
    simp only [lastStep] at h
    split at h
    · rename_i ht
      cases h
      rw [lastStep_none] at ht
      subst ht
      exact ⟨⟨x, List.mem_cons_self⟩, by simp⟩
    · rename_i m hm
      obtain ⟨⟨y, hy⟩, hle⟩ := ih m hm
      cases h
      split
      · rename_i hms
        refine ⟨⟨x, List.mem_cons_self⟩, ?_⟩
        intro p hp
        rcases List.mem_cons.1 hp with rfl | hp
        · exact Nat.le_refl _
        · exact Nat.le_trans (hle p hp) hms
      · rename_i hms
        refine ⟨⟨y, List.mem_cons_of_mem _ hy⟩, ?_⟩
        intro p hp
        rcases List.mem_cons.1 hp with rfl | hp
        · exact Nat.le_of_lt (Nat.lt_of_not_le hms)
        · exact hle p hp

theorem interGet?_isSome (l : List (Nat × XVal)) (k : Nat) : (interGet? l k).isSome ↔ ∃ x, (k, x) ∈ l := by
  induction l with
  | nil => simp [interGet?]
  | cons a t ih =>
    obtain ⟨s, y⟩ := a
    by_cases hs : s = k
    · subst hs; simp [interGet?]
    · simp only [List.mem_cons, Prod.mk.injEq, interGet?, hs, if_false]
      rw [ih]
      constructor
      · rintro ⟨x, h⟩; exact ⟨x, Or.inr h⟩
      · rintro ⟨x, h | h⟩
        · exact absurd h.1.symm hs
        · exact ⟨x, h⟩

theorem firstAt_eq (l : List (Nat × XVal)) (k : Nat) : firstAt l k = interGet? l k := by
  induction l with
  | nil => rfl
  | cons a t ih => simp only [firstAt, interGet?, ih]

theorem foldl_report_steps (rs acc : List (Nat × XVal)) (k : Nat) :
    (∃ x, (k, x) ∈ rs.foldl report acc) ↔ (∃ x, (k, x) ∈ acc) ∨ (∃ x, (k, x) ∈ rs) := by
  rw [← interGet?_isSome, ← interGet?_isSome, ← interGet?_isSome, interGet?_foldl, firstAt_eq]
  cases interGet? acc k <;> simp

/-- The pruned-trial value is read at the greatest reported step, and is the value of the *first*
report made for that step. -/
theorem lastReport_foldl (rs : List (Nat × XVal)) :
    (rs = [] ∧ lastReport (rs.foldl report []) = none) ∨
    (∃ k, (∃ x, (k, x) ∈ rs) ∧ (∀ p ∈ rs, p.1 ≤ k) ∧ lastReport (rs.foldl report []) = firstAt rs k) := by
  unfold lastReport
  cases h : lastStep (rs.foldl report []) with
  | none =>
    left
    rw [lastStep_none] at h
    refine ⟨?_, rfl⟩
    cases rs with
    | nil => rfl
    | cons p t =>
      exfalso
      have := (foldl_report_steps (p :: t) [] p.1).2 (Or.inr ⟨p.2, List.mem_cons_self⟩)
      rw [h] at this
      simp at this
  | some k =>
    right
    obtain ⟨⟨x, hx⟩, hle⟩ := lastStep_isMax _ k h
    refine ⟨k, ?_, ?_, ?_⟩
    · have := (foldl_report_steps rs [] k).1 ⟨x, hx⟩
      simpa using this
    · intro p hp
      have := (foldl_report_steps rs [] p.1).2 (Or.inr ⟨p.2, hp⟩)
      obtain ⟨y, hy⟩ := this
      exact hle (p.1, y) hy
    · simp only []
      rw [interGet?_foldl]
      simp [interGet?]

end OptunaVerif.Tell
