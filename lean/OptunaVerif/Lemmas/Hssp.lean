import OptunaVerif.Model.Hssp
import OptunaVerif.Lemmas.Hypervolume
import Mathlib.Data.List.Nodup
import Mathlib.Data.List.InsertIdx
import Mathlib.Data.List.Perm.Basic

/-! Lemmas for C15 (hypervolume subset selection): the lazy update, the greedy run and its guarantee; that `_solve_hssp`
returns `k` distinct positions; the 2-D path (`_solve_hssp_2d`: the stored rectangles are the marginal gains on a staircase). -/
namespace OptunaVerif.Hssp
open OptunaVerif.Hypervolume

example : argmax [1, 3, 2, 3] = 1 := by decide
example : argmax [-1] = 0 := by decide
example : argmax [-5, -1] = 1 := by decide

theorem argmax_spec (cs : List Int) (hne : cs ≠ []) :
    argmax cs < cs.length ∧ ∀ i < cs.length, cs.getD i 0 ≤ cs.getD (argmax cs) 0 := by
  induction cs with
  | nil => exact absurd rfl hne
  | cons x t ih =>
    by_cases ht : t = []
    · subst ht
      simp [argmax]
    · obtain ⟨h1, h2⟩ := ih ht
      have hte : t.isEmpty = false := by simpa using ht
      simp only [argmax, hte, Bool.false_eq_true, if_false]
      split
      · rename_i hlt
        refine ⟨by simpa using h1, ?_⟩
        intro i hi
        cases i with
        | zero => simp only [List.getD_cons_zero, List.getD_cons_succ]; omega
        | succ i =>
          simp only [List.getD_cons_succ]
          exact h2 i (by simpa using hi)
      · rename_i hge
        refine ⟨by simp, ?_⟩
        intro i hi
        cases i with
        | zero => simp
        | succ i =>
          simp only [List.getD_cons_succ, List.getD_cons_zero]
          have := h2 i (by simpa using hi)
          omega

theorem getD_set (cs : List Int) (i k : Nat) (v : Int) (hi : i < cs.length) :
    (cs.set i v).getD k 0 = if i = k then v else cs.getD k 0 := by
  simp only [List.getD_eq_getElem?_getD, List.getElem?_set]
  by_cases h : i = k
  · subst h; simp [hi]
  · simp [h]

/-- Invariant of the lazy loop, for the candidates that are not waiting in `rest`: a stored value is the recomputed contribution
or lies below a recomputed one (it was skipped, so below the largest recomputed contribution `m` of that moment; nothing is below
`m = 0`, the stored values being upper bounds of gains `≥ 0`). -/
theorem lazyGo_spec (g : Nat → Int) (n : Nat) (hg0 : ∀ i < n, 0 ≤ g i) :
    ∀ (rest : List Nat) (m : Int) (cs : List Int),
      cs.length = n → (∀ i ∈ rest, i < n) →
      (∀ i < n, g i ≤ cs.getD i 0) →
      (∀ i < n, i ∉ rest → cs.getD i 0 = g i ∨ ∃ j < n, cs.getD j 0 = g j ∧ cs.getD i 0 < g j) →
      (m = 0 ∨ ∃ j < n, cs.getD j 0 = g j ∧ g j = m) →
      (lazyGo g rest m cs).length = n ∧
        (∀ i < n, g i ≤ (lazyGo g rest m cs).getD i 0) ∧
        ∀ i < n, (lazyGo g rest m cs).getD i 0 = g i ∨
          ∃ j < n, (lazyGo g rest m cs).getD j 0 = g j ∧ (lazyGo g rest m cs).getD i 0 < g j := by
  intro rest
  induction rest with
  | nil =>
    intro m cs hlen _ h1 h2 _
    exact ⟨hlen, h1, fun i hi => h2 i hi List.not_mem_nil⟩
  | cons i rest ih =>
    intro m cs hlen hord h1 h2 h3
    have hi : i < n := hord i List.mem_cons_self
    have hord' : ∀ k ∈ rest, k < n := fun k hk => hord k (List.mem_cons_of_mem _ hk)
    simp only [lazyGo]
    split
    · rename_i hlt
      refine ih m cs hlen hord' h1 (fun k hk hkr => ?_) h3
      by_cases hki : k = i
      · subst hki
        rcases h3 with rfl | ⟨j, hj, hj1, rfl⟩
        · have := h1 k hk; have := hg0 k hk; omega
        · exact Or.inr ⟨j, hj, hj1, hlt⟩
      · exact h2 k hk (by simp [hki, hkr])
    · have hset := fun k => getD_set cs i k (g i) (hlen ▸ hi)
      have hkeep : ∀ j, cs.getD j 0 = g j → (cs.set i (g i)).getD j 0 = g j := by
        intro j hj
        rw [hset]
        split
        · rename_i h; rw [h]
        · exact hj
      refine ih (max (g i) m) (cs.set i (g i)) (by simpa using hlen) hord' ?_ ?_ ?_
      · intro k hk
        rw [hset]
        split
        · rename_i h; subst h; exact le_refl _
        · exact h1 k hk
      · intro k hk hkr
        by_cases hik : i = k
        · subst hik
          exact Or.inl (by rw [hset, if_pos rfl])
        · rcases h2 k hk (by simp [Ne.symm hik, hkr]) with h | ⟨j, hj, hj1, hj2⟩
          · exact Or.inl (hkeep k h)
          · exact Or.inr ⟨j, hj, hkeep j hj1, by rw [hset, if_neg hik]; exact hj2⟩
      · rcases le_total (g i) m with hle | hle
        · rw [max_eq_right hle]
          rcases h3 with h3 | ⟨j, hj, hj1, hj2⟩
          · exact Or.inl h3
          · exact Or.inr ⟨j, hj, hkeep j hj1, hj2⟩
        · rw [max_eq_left hle]
          exact Or.inr ⟨i, hi, by rw [hset, if_pos rfl], rfl⟩

/-- **The lazy update is safe**: if the stored contributions are upper bounds of the true (non-negative)
marginal gains `g`, then after `_lazy_contribs_update` (visiting the candidates in *any* order that
covers them all) they still are, and the first maximum of the updated array is an exactly recomputed
entry that maximises the true gain. -/
theorem lazy_argmax_exact (g : Nat → Int) (cs : List Int) (order : List Nat) (hne : cs ≠ [])
    (hg0 : ∀ i < cs.length, 0 ≤ g i) (hub : ∀ i < cs.length, g i ≤ cs.getD i 0)
    (hord : ∀ i ∈ order, i < cs.length) (hcov : ∀ i < cs.length, i ∈ order) :
    (lazyGo g order 0 cs).length = cs.length ∧ (∀ i < cs.length, g i ≤ (lazyGo g order 0 cs).getD i 0) ∧
      argmax (lazyGo g order 0 cs) < cs.length ∧
      (lazyGo g order 0 cs).getD (argmax (lazyGo g order 0 cs)) 0 = g (argmax (lazyGo g order 0 cs)) ∧
      ∀ i < cs.length, g i ≤ g (argmax (lazyGo g order 0 cs)) := by
  obtain ⟨r1, r2, r3⟩ := lazyGo_spec g cs.length hg0 order 0 cs rfl hord hub
    (fun i hi hn => absurd (hcov i hi) hn) (Or.inl rfl)
  generalize lazyGo g order 0 cs = cs' at *
  have hne' : cs' ≠ [] := by
    intro h
    have : cs'.length = 0 := by rw [h]; rfl
    rw [r1] at this
    exact hne (List.eq_nil_of_length_eq_zero this)
  obtain ⟨a1, a2⟩ := argmax_spec cs' hne'
  rw [r1] at a1 a2
  -- a first maximum is not below another entry
  have hexact : cs'.getD (argmax cs') 0 = g (argmax cs') := by
    rcases r3 _ a1 with h | ⟨j, hj, hj1, hj2⟩
    · exact h
    · have := a2 j hj; omega
  refine ⟨r1, r2, a1, hexact, ?_⟩
  intro i hi
  have := r2 i hi
  have := a2 i hi
  omega

def gain (r : Pt) (T : List Pt) (p : Pt) : Int := (hvSpec (p :: T) r : Int) - (hvSpec T r : Int)

theorem gain_eq_card_sdiff (r : Pt) (T : List Pt) (p : Pt) :
    gain r T p = ((boxF p r \ unionF r T).card : Int) := by
  unfold gain hvSpec
  simp only [unionF]
  have h1 := Finset.card_sdiff_add_card (boxF p r) (unionF r T)
  omega

theorem gain_nonneg (r : Pt) (T : List Pt) (p : Pt) : 0 ≤ gain r T p := by
  rw [gain_eq_card_sdiff]; exact Int.natCast_nonneg _

/-- submodularity of the dominated volume -/
theorem gain_antitone (r : Pt) (T T' : List Pt) (h : ∀ x ∈ T, x ∈ T') (p : Pt) :
    gain r T' p ≤ gain r T p := by
  rw [gain_eq_card_sdiff, gain_eq_card_sdiff]
  exact_mod_cast Finset.card_le_card (Finset.sdiff_subset_sdiff (le_refl _) (unionF_mono r T T' h))

theorem gain_of_mem (r : Pt) (T : List Pt) (p : Pt) (h : p ∈ T) : gain r T p = 0 := by
  unfold gain
  rw [hvSpec_congr r T (p :: T) (by simp [h]), sub_self]

theorem hvSpec_snoc (r : Pt) (T : List Pt) (p : Pt) : (hvSpec (T ++ [p]) r : Int) = hvSpec T r + gain r T p := by
  have : hvSpec (T ++ [p]) r = hvSpec (p :: T) r := hvSpec_congr r _ _ (by intro q; simp [or_comm])
  unfold gain; rw [this]; omega

/-- union bound: add the members of `O` to `T` one by one, each adds at most its gain over `T` alone -/
theorem hvSpec_le_add_sum_gain (r : Pt) (T O : List Pt) :
    (hvSpec O r : Int) ≤ hvSpec T r + (O.map (gain r T)).sum := by
  have key : (hvSpec (O ++ T) r : Int) ≤ hvSpec T r + (O.map (gain r T)).sum := by
    induction O with
    | nil => simp
    | cons o O ih =>
      have := gain_antitone r T (O ++ T) (fun x hx => List.mem_append_right _ hx) o
      have : gain r (O ++ T) o = hvSpec (o :: (O ++ T)) r - hvSpec (O ++ T) r := rfl
      simp only [List.cons_append, List.map_cons, List.sum_cons]
      omega
  have := hvSpec_mono r O (O ++ T) (fun x hx => List.mem_append_left _ hx)
  omega

theorem sum_gain_le (r : Pt) (T O : List Pt) (m : Int) (h : ∀ o ∈ O, gain r T o ≤ m) :
    (O.map (gain r T)).sum ≤ O.length * m := by
  induction O with
  | nil => simp
  | cons o O ih =>
    simp only [List.map_cons, List.sum_cons, List.length_cons]
    have := h o List.mem_cons_self
    have := ih (fun o ho => h o (List.mem_cons_of_mem _ ho))
    push_cast
    linarith

/-- projection of a candidate that the contribution updates do not touch -/
def Cand.key (c : Cand) : Pt × Nat := (c.pt, c.label)

/-- `picks` is a greedy run from the selected rows `T` over the candidates `cs`: every pick maximises the
true marginal gain among the candidates still available. -/
inductive GreedyRun (r : Pt) : List Pt → List (Pt × Nat) → List (Pt × Nat) → Prop
  | nil (T : List Pt) (cs : List (Pt × Nat)) : GreedyRun r T cs []
  | cons (T : List Pt) (cs : List (Pt × Nat)) (a : Nat) (c : Pt × Nat) (out : List (Pt × Nat)) :
      cs[a]? = some c → (∀ e ∈ cs, gain r T e.1 ≤ gain r T c.1) →
      GreedyRun r (T ++ [c.1]) (cs.eraseIdx a) out → GreedyRun r T cs (c :: out)

theorem perm_of_pick {α : Type} {cs : List α} {a : Nat} {c : α} (hc : cs[a]? = some c) : (c :: cs.eraseIdx a).Perm cs := by
  obtain ⟨ha, rfl⟩ := List.getElem?_eq_some_iff.1 hc
  exact List.getElem_cons_eraseIdx_perm ha

/-- one step of the geometric decay of the greedy gap: a pick of gain `g` with `o - t ≤ K * g` -/
theorem gap_step {K o t g f : Int} {m : Nat} (hK : 1 ≤ K) (hg : o - t ≤ K * g)
    (ih : K ^ m * (o - f) ≤ (K - 1) ^ m * (o - (t + g))) :
    K ^ (m + 1) * (o - f) ≤ (K - 1) ^ (m + 1) * (o - t) := by
  have hstep : K * (o - (t + g)) ≤ (K - 1) * (o - t) := by nlinarith
  have hpow : 0 ≤ (K - 1) ^ m := pow_nonneg (by linarith) _
  calc K ^ (m + 1) * (o - f) = K * (K ^ m * (o - f)) := by ring
    _ ≤ K * ((K - 1) ^ m * (o - (t + g))) := mul_le_mul_of_nonneg_left ih (by linarith)
    _ = (K - 1) ^ m * (K * (o - (t + g))) := by ring
    _ ≤ (K - 1) ^ m * ((K - 1) * (o - t)) := mul_le_mul_of_nonneg_left hstep hpow
    _ = (K - 1) ^ (m + 1) * (o - t) := by ring

/-- **Nemhauser–Wolsey–Fisher for the dominated volume**: after `m` greedy picks, the gap to *any* set
`O` of at most `K` available rows has shrunk by the factor `((K-1)/K)^m`. -/
theorem greedy_gap (r : Pt) (K : Nat) (hK : 1 ≤ K) (T : List Pt) (cs out : List (Pt × Nat))
    (hrun : GreedyRun r T cs out) (O : List Pt) (hO : O.length ≤ K)
    (hmem : ∀ o ∈ O, o ∈ T ∨ o ∈ cs.map (·.1)) :
    (K : Int) ^ out.length * ((hvSpec O r : Int) - hvSpec (T ++ out.map (·.1)) r)
      ≤ ((K : Int) - 1) ^ out.length * ((hvSpec O r : Int) - hvSpec T r) := by
  induction hrun with
  | nil T cs => simp
  | cons T cs a c out hc hmax _ ih =>
    have hmem' : ∀ o ∈ O, o ∈ T ++ [c.1] ∨ o ∈ (cs.eraseIdx a).map (·.1) := by
      intro o ho
      rcases hmem o ho with h | h
      · exact Or.inl (List.mem_append_left _ h)
      · obtain ⟨e, he, rfl⟩ := List.mem_map.1 h
        rcases List.mem_cons.1 ((perm_of_pick hc).mem_iff.2 he) with rfl | h'
        · exact Or.inl (by simp)
        · exact Or.inr (List.mem_map.2 ⟨e, h', rfl⟩)
    have ih' := ih hmem'
    have happ : T ++ [c.1] ++ out.map (·.1) = T ++ (c :: out).map (·.1) := by simp
    rw [happ] at ih'
    -- key step: hv O - hv T ≤ K * gain T c
    have hgc : ∀ o ∈ O, gain r T o ≤ gain r T c.1 := by
      intro o ho
      rcases hmem o ho with h | h
      · rw [gain_of_mem r T o h]; exact gain_nonneg _ _ _
      · obtain ⟨e, he, rfl⟩ := List.mem_map.1 h
        exact hmax e he
    have h1 := hvSpec_le_add_sum_gain r T O
    have h2 := sum_gain_le r T O _ hgc
    have h3 : (O.length : Int) * gain r T c.1 ≤ K * gain r T c.1 :=
      mul_le_mul_of_nonneg_right (by exact_mod_cast hO) (gain_nonneg _ _ _)
    rw [hvSpec_snoc r T c.1] at ih'
    exact gap_step (by exact_mod_cast hK) (by linarith) ih'

theorem setContribs_key (cs : List Cand) (vs : List Int) :
    (setContribs cs vs).map Cand.key = cs.map Cand.key := by
  induction cs generalizing vs with
  | nil => cases vs <;> simp [setContribs]
  | cons c cs ih => cases vs <;> simp [setContribs, ih, Cand.key]

theorem setContribs_length (cs : List Cand) (vs : List Int) : (setContribs cs vs).length = cs.length := by
  simpa using congrArg List.length (setContribs_key cs vs)

theorem setContribs_pt (cs : List Cand) (vs : List Int) :
    (setContribs cs vs).map (·.pt) = cs.map (·.pt) := by
  simpa [Function.comp_def, Cand.key] using congrArg (List.map Prod.fst) (setContribs_key cs vs)

theorem setContribs_contrib (cs : List Cand) (vs : List Int) (h : vs.length = cs.length) :
    (setContribs cs vs).map (·.contrib) = vs := by
  induction cs generalizing vs with
  | nil => cases vs with
    | nil => rfl
    | cons _ _ => simp at h
  | cons c cs ih =>
    cases vs with
    | nil => simp at h
    | cons v vs => simp [setContribs, ih vs (by simpa using h)]

theorem insertDesc_isInsert (v : Nat → Int) : SortBasic.IsInsert (insertDesc v) (fun i j => v j < v i) :=
  ⟨fun _ => rfl, fun _ _ _ => rfl⟩

theorem mem_argsortDesc (cs : List Int) (k : Nat) : k ∈ argsortDesc cs ↔ k < cs.length := by
  unfold argsortDesc
  rw [(insertDesc_isInsert _).toU.mem_sort (srt := fun L => L.foldr _ []) ⟨rfl, fun _ _ => rfl⟩, List.mem_range]

/-- `compute_hypervolume(·, assume_pareto=True)` as used by the lazy update is exact -/
theorem hvAP_eq (r : Pt) (vecs : List Pt) (h : ∀ p ∈ vecs, Le p r) :
    hvAP r vecs = hvSpec vecs r :=
  computeHypervolumeFin_assumePareto_eq_spec vecs r h

/-- the contribution that `_lazy_contribs_update` recomputes is the true marginal gain -/
theorem hvAP_gain (r : Pt) (T : List Pt) (p : Pt) (hT : ∀ q ∈ T, Le q r) (hp : Le p r) :
    hvAP r (T ++ [p]) - hvAP r T = gain r T p := by
  rw [hvAP_eq r T hT, hvAP_eq r _ (by simpa [or_imp, forall_and] using ⟨hT, hp⟩), hvSpec_snoc]
  ring

theorem getD_map_pt (cs : List Cand) (i : Nat) (h : i < cs.length) :
    (cs.map (·.pt)).getD i [] = cs[i].pt := by
  simp [List.getD_eq_getElem?_getD, h]

theorem getD_map_contrib (cs : List Cand) (i : Nat) (h : i < cs.length) :
    (cs.map (·.contrib)).getD i 0 = cs[i].contrib := by
  simp [List.getD_eq_getElem?_getD, h]

/-- invariant of the main loop of `_solve_hssp_on_unique_loss_vals` -/
structure LazyInv (r : Pt) (T : List Pt) (cands : List Cand) : Prop where
  le : ∀ c ∈ cands, Le c.pt r
  leT : ∀ p ∈ T, Le p r
  ub : ∀ c ∈ cands, gain r T c.pt ≤ c.contrib
  exact : cands ≠ [] → (cands.map (·.contrib)).getD (argmax (cands.map (·.contrib))) 0
    = gain r T ((cands.map (·.pt)).getD (argmax (cands.map (·.contrib))) [])

theorem LazyInv.pick {r : Pt} {T : List Pt} {cands : List Cand} (h : LazyInv r T cands) (hne : cands ≠ []) :
    ∃ ha : argmax (cands.map (·.contrib)) < cands.length,
      ∀ e ∈ cands.map Cand.key, gain r T e.1 ≤ gain r T (Cand.key cands[argmax (cands.map (·.contrib))]).1 := by
  have hne' : cands.map (·.contrib) ≠ [] := by simpa using hne
  obtain ⟨ha, hmax⟩ := argmax_spec (cands.map (·.contrib)) hne'
  rw [List.length_map] at ha hmax
  have hexa := h.exact hne
  rw [getD_map_pt cands _ ha, getD_map_contrib cands _ ha] at hexa
  refine ⟨ha, fun e he => ?_⟩
  obtain ⟨c', hc', rfl⟩ := List.mem_map.1 he
  obtain ⟨j, hj, rfl⟩ := List.mem_iff_getElem.1 hc'
  have h1 := h.ub _ hc'
  have h2 := hmax j hj
  rw [getD_map_contrib cands j hj, getD_map_contrib cands _ ha] at h2
  simp only [Cand.key]
  omega

/-- a stale contribution stays an upper bound because gains only shrink (`gain_antitone`), and the update leaves the first
maximum exact (`lazy_argmax_exact`) -/
theorem LazyInv.step {r : Pt} {T : List Pt} {cands : List Cand} (h : LazyInv r T cands) (a : Nat) (ha : a < cands.length) :
    LazyInv r (T ++ [cands[a].pt]) (setContribs (cands.eraseIdx a)
      (lazyUpdate r ((cands.eraseIdx a).map (·.contrib)) ((cands.eraseIdx a).map (·.pt)) (T ++ [cands[a].pt]))) := by
  set cands' := cands.eraseIdx a with hcands'
  set T' := T ++ [cands[a].pt] with hT'
  have hmem' : ∀ e ∈ cands', e ∈ cands := fun e he => List.mem_of_mem_eraseIdx he
  have hleT' : ∀ p ∈ T', Le p r := by
    simpa [hT', or_imp, forall_and] using ⟨h.leT, h.le _ (List.getElem_mem ha)⟩
  set contribs := cands'.map (·.contrib) with hcontribs
  set pts := cands'.map (·.pt) with hpts
  have hcl : contribs.length = cands'.length := by simp [hcontribs]
  by_cases hne2 : contribs = []
  · have : cands' = [] := by simpa [hcontribs] using hne2
    rw [this]
    exact ⟨fun c hc => (by cases hc), hleT', fun c hc => (by cases hc), fun hn => absurd rfl hn⟩
  have hg : ∀ i < contribs.length,
      hvAP r (T' ++ [pts.getD i []]) - hvAP r T' = gain r T' (pts.getD i []) := by
    intro i hi
    have hi' : i < cands'.length := by omega
    refine hvAP_gain r T' _ hleT' ?_
    rw [hpts, getD_map_pt cands' i hi']
    exact h.le _ (hmem' _ (List.getElem_mem hi'))
  obtain ⟨l1, l2, l3, l4, _⟩ := lazy_argmax_exact
    (fun i => hvAP r (T' ++ [pts.getD i []]) - hvAP r T') contribs (argsortDesc contribs) hne2
    (by intro i hi; rw [hg i hi]; exact gain_nonneg _ _ _)
    (by
      intro i hi
      have hi' : i < cands'.length := by omega
      rw [hg i hi, hpts, getD_map_pt cands' i hi', hcontribs, getD_map_contrib cands' i hi']
      exact le_trans (gain_antitone r T T' (fun x hx => List.mem_append_left _ hx) _)
        (h.ub _ (hmem' _ (List.getElem_mem hi'))))
    (fun i hi => (mem_argsortDesc contribs i).1 hi)
    (fun i hi => (mem_argsortDesc contribs i).2 hi)
  have hupd : lazyUpdate r contribs pts T' = lazyGo
      (fun i => hvAP r (T' ++ [pts.getD i []]) - hvAP r T') (argsortDesc contribs) 0 contribs := rfl
  rw [← hupd] at l1 l2 l3 l4
  set contribs' := lazyUpdate r contribs pts T' with hcontribs'
  have hmapc : (setContribs cands' contribs').map (·.contrib) = contribs' :=
    setContribs_contrib cands' contribs' (by omega)
  have hmapp : (setContribs cands' contribs').map (·.pt) = pts := setContribs_pt cands' contribs'
  have hsl : (setContribs cands' contribs').length = cands'.length := setContribs_length _ _
  refine ⟨?_, hleT', ?_, ?_⟩
  · intro e he
    have : e.pt ∈ (setContribs cands' contribs').map (·.pt) := List.mem_map.2 ⟨e, he, rfl⟩
    rw [hmapp, hpts] at this
    obtain ⟨e', he', heq⟩ := List.mem_map.1 this
    rw [← heq]; exact h.le _ (hmem' _ he')
  · intro e he
    obtain ⟨i, hi, rfl⟩ := List.mem_iff_getElem.1 he
    have := l2 i (by omega)
    rw [hg i (by omega), ← hmapc] at this
    rwa [← hmapp, getD_map_pt _ i hi, getD_map_contrib _ i hi] at this
  · intro _
    rw [hmapc, hmapp, l4, hg _ (by omega)]

/-- **The main loop of `_solve_hssp_on_unique_loss_vals` is a greedy run**: under the invariant (true initially, re-established by
every lazy update) each pick maximises the true marginal gain; exactly `k` picks. -/
theorem greedyLazy_run (r : Pt) :
    ∀ (k : Nat) (cands : List Cand) (T : List Pt), k ≤ cands.length → LazyInv r T cands →
      GreedyRun r T (cands.map Cand.key) ((greedyLazy r k cands T).map Cand.key) ∧
        (greedyLazy r k cands T).length = k := by
  intro k
  induction k with
  | zero =>
    intro cands T _ _
    simp only [greedyLazy, List.map_nil, List.length_nil, and_true]
    exact GreedyRun.nil _ _
  | succ k ih =>
    intro cands T hk hinv
    have hne : cands ≠ [] := by intro h; subst h; simp at hk
    obtain ⟨ha, htrue⟩ := hinv.pick hne
    set a := argmax (cands.map (·.contrib)) with hadef
    have hget : cands[a]? = some cands[a] := List.getElem?_eq_getElem ha
    have hkey : (cands.map Cand.key)[a]? = some (Cand.key cands[a]) := by
      rw [List.getElem?_map, hget]; rfl
    simp only [greedyLazy]
    rw [← hadef, hget]
    simp only
    by_cases hk0 : k = 0
    · subst hk0
      simp only [if_true, List.map_cons, List.map_nil, List.length_cons, List.length_nil, and_true]
      exact GreedyRun.cons T _ a _ [] hkey htrue (GreedyRun.nil _ _)
    · simp only [hk0, if_false]
      obtain ⟨r1, r2⟩ := ih _ _ (by rw [setContribs_length, List.length_eraseIdx]; simp [ha]; omega) (hinv.step a ha)
      rw [setContribs_key, ← List.eraseIdx_map] at r1
      refine ⟨?_, by simp [r2]⟩
      simp only [List.map_cons]
      exact GreedyRun.cons T _ a _ _ hkey htrue r1

theorem subperm_of_pick {α : Type} {cs out : List α} {a : Nat} {c : α} (hc : cs[a]? = some c)
    (h : out.Subperm (cs.eraseIdx a)) : (c :: out).Subperm cs :=
  ((List.subperm_cons _).2 h).trans (perm_of_pick hc).subperm

theorem subperm_nodup_map {α β : Type} (f : α → β) {l₁ l₂ : List α} (h : l₁.Subperm l₂) (hn : (l₂.map f).Nodup) :
    (l₁.map f).Nodup := by
  obtain ⟨l, hp, hs⟩ := h
  exact (hp.map f).nodup_iff.1 (hn.sublist (hs.map f))

theorem GreedyRun.subperm {r : Pt} {T : List Pt} {cs out : List (Pt × Nat)} (h : GreedyRun r T cs out) :
    out.Subperm cs := by
  induction h with
  | nil => exact List.nil_subperm
  | cons T cs a c out hc _ _ ih => exact subperm_of_pick hc ih

theorem GreedyRun.labels (r : Pt) (T : List Pt) (cs out : List (Pt × Nat)) (h : GreedyRun r T cs out)
    (hn : (cs.map (·.2)).Nodup) : (out.map (·.2)).Nodup ∧ ∀ e ∈ out, e ∈ cs :=
  ⟨subperm_nodup_map (·.2) h.subperm hn, fun _ he => h.subperm.subset he⟩

theorem gain_nil (r p : Pt) (hp : Le p r) : gain r [] p = vol r p := by
  simp [gain, hvSpec_nil, hvSpec_single hp]

/-- the candidates `_solve_hssp_on_unique_loss_vals` starts from -/
def initCands (r : Pt) (U : List Pt) (labels : List Nat) : List Cand :=
  (U.zip labels).map (fun e => { pt := e.1, label := e.2, contrib := vol r e.1 })

theorem initCands_key (r : Pt) (U : List Pt) (labels : List Nat) :
    (initCands r U labels).map Cand.key = U.zip labels := by
  simp [initCands, Cand.key, Function.comp_def]

/-- **Greedy path of `_solve_hssp_on_unique_loss_vals`** (finite reference, `d ≠ 2`, `k < n_unique`): the
result is the list of labels of a greedy run of length `k` over all candidates, started from ∅. -/
theorem solveOnUnique_greedy (r : Pt) (hd : r.length ≠ 2) (U : List Pt) (labels : List Nat)
    (hlen : labels.length = U.length) (hU : ∀ p ∈ U, Le p r) (k : Nat) (hk : k < U.length) :
    ∃ picks : List (Pt × Nat), solveOnUnique U labels k r true = picks.map (·.2) ∧ picks.length = k ∧
      GreedyRun r [] (U.zip labels) picks := by
  have hne : labels.length ≠ k := by omega
  have hcl : (initCands r U labels).length = U.length := by simp [initCands, hlen]
  have hmem : ∀ c ∈ initCands r U labels, Le c.pt r ∧ c.contrib = vol r c.pt := by
    intro c hc
    obtain ⟨e, he, rfl⟩ := List.mem_map.1 hc
    exact ⟨hU _ ((List.of_mem_zip (a := e.1) (b := e.2) he).1), rfl⟩
  obtain ⟨h1, h2⟩ := greedyLazy_run r k (initCands r U labels) [] (by omega)
    ⟨fun c hc => (hmem c hc).1, fun p hp => (by cases hp),
      fun c hc => (by rw [gain_nil r c.pt (hmem c hc).1, (hmem c hc).2]), by
      intro hne'
      have hne2 : (initCands r U labels).map (·.contrib) ≠ [] := by simpa using hne'
      have ha := (argmax_spec _ hne2).1
      rw [List.length_map] at ha
      rw [getD_map_contrib _ _ ha, getD_map_pt _ _ ha]
      have := hmem _ (List.getElem_mem ha)
      rw [gain_nil r _ this.1, this.2]⟩
  refine ⟨(greedyLazy r k (initCands r U labels) []).map Cand.key, ?_, by simpa using h2, ?_⟩
  · simp only [solveOnUnique, Bool.not_true, Bool.false_eq_true, if_false, hne, hd, List.map_map]
    rfl
  · rw [initCands_key] at h1; exact h1

theorem hssp2dLoop_subperm : ∀ (k : Nat) (cands : List Cand2), k ≤ cands.length →
    (hssp2dLoop k cands).length = k ∧ (hssp2dLoop k cands).Subperm (cands.map (·.label)) := by
  intro k
  induction k with
  | zero => intro cands _; exact ⟨rfl, List.nil_subperm⟩
  | succ k ih =>
    intro cands hk
    have hne : cands.map contrib2 ≠ [] := by
      intro h; have : cands = [] := by simpa using h
      subst this; simp at hk
    have ha := (argmax_spec _ hne).1
    rw [List.length_map] at ha
    set a := argmax (cands.map contrib2) with hadef
    simp only [hssp2dLoop]
    rw [← hadef, List.getElem?_eq_getElem ha]
    simp only
    set nxt := (cands.take a).map (fun e => { e with dx := min (x0 cands[a].pt) e.dx }) ++
      (cands.drop (a + 1)).map (fun e => { e with dy := min (y1 cands[a].pt) e.dy }) with hnxt
    have hlab : nxt.map (·.label) = (cands.map (·.label)).eraseIdx a := by
      rw [hnxt, List.eraseIdx_map, List.eraseIdx_eq_take_drop_succ]
      simp [Function.comp_def]
    have hlen : nxt.length = cands.length - 1 := by
      have := congrArg List.length hlab
      simp only [List.length_map, List.length_eraseIdx, ha, if_true] at this
      exact this
    obtain ⟨i1, i2⟩ := ih nxt (by omega)
    exact ⟨by simp [i1], subperm_of_pick (a := a) (by simp [ha]) (hlab ▸ i2)⟩

def rowsAt (vals : List Pt) (sel : List Nat) : List Pt := sel.map (fun i => vals.getD i [])

theorem getD_idxOf (vals : List Pt) (p : Pt) (hp : p ∈ vals) : vals.getD (vals.idxOf p) [] = p := by
  have h := List.idxOf_lt_length_of_mem hp
  rw [List.getD_eq_getElem?_getD, List.getElem?_eq_getElem h]
  simp [List.getElem_idxOf h]

theorem firsts_nodup (vals : List Pt) (U : List Pt) (hU : U.Nodup) (hsub : ∀ p ∈ U, p ∈ vals) :
    (U.map (fun p => vals.idxOf p)).Nodup := by
  apply List.Nodup.map_on _ hU
  intro x hx y hy hxy
  have h1 := getD_idxOf vals x (hsub x hx)
  have h2 := getD_idxOf vals y (hsub y hy)
  rw [hxy] at h1
  rw [← h1, h2]

theorem zip_firsts (vals U : List Pt) :
    U.zip (U.map (fun p => vals.idxOf p)) = U.map (fun p => (p, vals.idxOf p)) := by
  induction U with
  | nil => rfl
  | cons p U ih => simp [ih]

theorem bound_of_cover (r : Pt) (vals : List Pt) (sel : List Nat) (O : List Pt) (k : Nat)
    (hcov : ∀ p ∈ vals, vals.idxOf p ∈ sel) (hO : ∀ o ∈ O, o ∈ vals) :
    (k : Int) ^ k * ((hvSpec O r : Int) - hvSpec (rowsAt vals sel) r) ≤ ((k : Int) - 1) ^ k * (hvSpec O r : Int) := by
  have h1 : hvSpec O r ≤ hvSpec (rowsAt vals sel) r := hvSpec_mono r O _ fun x hx =>
    List.mem_map.2 ⟨_, hcov x (hO x hx), getD_idxOf vals x (hO x hx)⟩
  have h2 : (0 : Int) ≤ (k : Int) ^ k := by positivity
  have h3 : (0 : Int) ≤ ((k : Int) - 1) ^ k := by
    cases k with
    | zero => simp
    | succ k => apply pow_nonneg; push_cast; linarith
  have h4 : (0 : Int) ≤ (hvSpec O r : Int) := Int.natCast_nonneg _
  have h5 : ((hvSpec O r : Int) - hvSpec (rowsAt vals sel) r) ≤ 0 := by
    have : (hvSpec O r : Int) ≤ hvSpec (rowsAt vals sel) r := by exact_mod_cast h1
    linarith
  nlinarith [mul_nonneg h3 h4, mul_nonneg h2 (neg_nonneg.2 h5)]

theorem filter_range_perm (n : Nat) (A : List Nat) (hA : A.Nodup) (hAn : ∀ i ∈ A, i < n) :
    ((List.range n).filter (fun i => A.contains i)).Perm A :=
  (List.perm_ext_iff_of_nodup (List.Nodup.filter _ List.nodup_range) hA).2 fun a => by
    simp only [List.mem_filter, List.mem_range, List.contains_iff_mem]
    exact ⟨fun h => h.2, fun h => ⟨hAn a h, h⟩⟩

theorem filter_range_length (n : Nat) (A B : List Nat) (hA : A.Nodup) (hB : B.Nodup)
    (hAn : ∀ i ∈ A, i < n) (hBn : ∀ i ∈ B, i < n) (hdis : ∀ i ∈ A, i ∉ B) :
    ((List.range n).filter (fun i => A.contains i || B.contains i)).length = A.length + B.length := by
  have : (fun i => A.contains i || B.contains i) = fun i => (A ++ B).contains i := by funext i; simp
  rw [this, (filter_range_perm n (A ++ B) (List.nodup_append.2 ⟨hA, hB, fun a ha b hb hab => hdis a ha (hab ▸ hb)⟩)
    (fun i hi => (List.mem_append.1 hi).elim (hAn i) (hBn i))).length_eq, List.length_append]

theorem dups_length (n : Nat) (A : List Nat) (hA : A.Nodup) (hAn : ∀ i ∈ A, i < n) :
    ((List.range n).filter (fun i => !A.contains i)).length = n - A.length := by
  have h := List.length_eq_length_filter_add (l := List.range n) (fun i => A.contains i)
  rw [(filter_range_perm n A hA hAn).length_eq, List.length_range] at h
  omega

theorem solveOnUnique_distinct (U : List Pt) (labels : List Nat) (k : Nat) (r : Pt) (fin : Bool)
    (hlen : labels.length = U.length) (hk : k ≤ U.length) (hn : labels.Nodup) (hU : ∀ p ∈ U, Le p r) :
    (solveOnUnique U labels k r fin).length = k ∧ (solveOnUnique U labels k r fin).Nodup ∧
      ∀ l ∈ solveOnUnique U labels k r fin, l ∈ labels := by
  unfold solveOnUnique
  split
  · exact ⟨by simp; omega, List.Nodup.sublist (List.take_sublist _ _) hn, fun l hl => List.mem_of_mem_take hl⟩
  · rename_i hfin
    have hfin' : fin = true := by simpa using hfin
    split
    · rename_i h; exact ⟨h, hn, fun l hl => hl⟩
    · rename_i hne
      split
      · set cands := (U.zip labels).map (fun e => ({ pt := e.1, label := e.2, dx := x0 r, dy := y1 r } : Cand2))
        have hlab : cands.map (·.label) = labels := by
          have : cands.map (·.label) = (U.zip labels).map (·.2) := by simp [cands, Function.comp_def]
          rw [this, List.map_snd_zip (Nat.le_of_eq hlen)]
        have hcl : cands.length = U.length := by simp [cands, hlen]
        obtain ⟨h1, h2⟩ := hssp2dLoop_subperm k cands (by omega)
        rw [hlab] at h2
        exact ⟨h1, by simpa using subperm_nodup_map id h2 (by simpa using hn), fun l hl => h2.subset hl⟩
      · rename_i hd
        have hk' : k < U.length := by omega
        obtain ⟨picks, hp1, hp2, hp3⟩ := solveOnUnique_greedy r hd U labels hlen hU k hk'
        have heq : (greedyLazy r k ((U.zip labels).map (fun e => ({ pt := e.1, label := e.2, contrib := vol r e.1 } : Cand))) []).map (·.label)
            = picks.map (·.2) := by
          have := hp1
          simp only [solveOnUnique, Bool.not_true, Bool.false_eq_true, if_false, hne, hd] at this
          exact this
        rw [heq]
        obtain ⟨g1, g2⟩ := GreedyRun.labels r [] _ picks hp3 (by rw [List.map_snd_zip (Nat.le_of_eq hlen)]; exact hn)
        refine ⟨by simp [hp2], g1, ?_⟩
        intro l hl
        obtain ⟨e, he, rfl⟩ := List.mem_map.1 hl
        have := g2 e he
        rw [← List.map_snd_zip (Nat.le_of_eq hlen)]
        exact List.mem_map.2 ⟨e, this, rfl⟩

/-- facts about `np.unique(vals, return_index=True, axis=0)` -/
theorem uniqueLex_firsts_spec (vals : List Pt) (r : Pt) (hv : ∀ p ∈ vals, Le p r) :
    (uniqueLex vals).Nodup ∧ ((uniqueLex vals).map (fun p => vals.idxOf p)).Nodup ∧
      (∀ i ∈ (uniqueLex vals).map (fun p => vals.idxOf p), i < vals.length) ∧
      (uniqueLex vals).length ≤ vals.length := by
  have hlex := lexSorted_uniqueLex r.length vals (fun q hq => (hv q hq).length_eq)
  have hnd := hlex.nodup
  have hsub : ∀ p ∈ uniqueLex vals, p ∈ vals := fun p hp => (mem_uniqueLex vals p).1 hp
  have hf := firsts_nodup vals _ hnd hsub
  have hlt : ∀ i ∈ (uniqueLex vals).map (fun p => vals.idxOf p), i < vals.length := by
    intro i hi
    obtain ⟨p, hp, rfl⟩ := List.mem_map.1 hi
    exact List.idxOf_lt_length_of_mem (hsub p hp)
  exact ⟨hnd, hf, hlt, uniqueLex_length_le r.length vals (fun q hq => (hv q hq).length_eq)⟩

/-- **`_solve_hssp` returns `k` distinct positions of the array**, in every branch and dimension. -/
theorem solveHssp_distinct (vals : List Pt) (r : Pt) (hv : ∀ p ∈ vals, Le p r) (k : Nat)
    (hk : k ≤ vals.length) (fin : Bool) :
    (solveHssp vals k r fin).length = k ∧ (solveHssp vals k r fin).Nodup ∧
      ∀ i ∈ solveHssp vals k r fin, i < vals.length := by
  obtain ⟨hnd, hf, hlt, hUle⟩ := uniqueLex_firsts_spec vals r hv
  unfold solveHssp
  simp only
  split
  · rename_i h
    subst h
    exact ⟨List.length_range, List.nodup_range, fun i hi => List.mem_range.1 hi⟩
  · split
    · rename_i hUk
      set firsts := (uniqueLex vals).map (fun p => vals.idxOf p) with hfirsts
      set dups := (List.range vals.length).filter (fun i => !firsts.contains i) with hdups
      have hdl : dups.length = vals.length - firsts.length := dups_length _ _ hf hlt
      have hfl : firsts.length = (uniqueLex vals).length := by simp [hfirsts]
      have hextra_sub : ∀ i ∈ dups.take (k - (uniqueLex vals).length), i ∈ dups := fun i hi => List.mem_of_mem_take hi
      have hdmem : ∀ i ∈ dups, i < vals.length ∧ i ∉ firsts := by
        intro i hi
        simp only [hdups, List.mem_filter, List.mem_range, Bool.not_eq_eq_eq_not, Bool.not_true,
          List.contains_eq_mem, decide_eq_false_iff_not] at hi
        exact hi
      have hlen := filter_range_length vals.length firsts (dups.take (k - (uniqueLex vals).length)) hf
        (List.Nodup.sublist (List.take_sublist _ _) (List.Nodup.filter _ List.nodup_range))
        hlt (fun i hi => (hdmem i (hextra_sub i hi)).1)
        (fun i hi hi2 => (hdmem i (hextra_sub i hi2)).2 hi)
      refine ⟨?_, List.Nodup.filter _ List.nodup_range, fun i hi => List.mem_range.1 (List.mem_filter.1 hi).1⟩
      rw [hlen, List.length_take, hdl, hfl]
      omega
    · rename_i hUk
      have hfl : ((uniqueLex vals).map (fun p => vals.idxOf p)).length = (uniqueLex vals).length := by simp
      obtain ⟨h1, h2, h3⟩ := solveOnUnique_distinct (uniqueLex vals) _ k r fin hfl (by omega) hf
        (fun p hp => hv p ((mem_uniqueLex vals p).1 hp))
      exact ⟨h1, h2, fun i hi => hlt i (h3 i hi)⟩

/-- `_solve_hssp` guarantee, given that the solver on the unique rows performs a greedy run (`hrun`) -/
theorem solveHssp_bound_of_run (vals : List Pt) (r : Pt) (hv : ∀ p ∈ vals, Le p r) (k : Nat)
    (hrun : k < (uniqueLex vals).length → ∃ picks : List (Pt × Nat),
      solveOnUnique (uniqueLex vals) ((uniqueLex vals).map (fun p => vals.idxOf p)) k r true = picks.map (·.2) ∧
        picks.length = k ∧
        GreedyRun r [] ((uniqueLex vals).zip ((uniqueLex vals).map (fun p => vals.idxOf p))) picks)
    (hk : k ≤ vals.length) (O : List Pt) (hO : ∀ o ∈ O, o ∈ vals) (hOk : O.length ≤ k) :
    (k : Int) ^ k * ((hvSpec O r : Int) - hvSpec (rowsAt vals (solveHssp vals k r true)) r)
      ≤ ((k : Int) - 1) ^ k * (hvSpec O r : Int) := by
  obtain ⟨hnd, hf, hlt, hUle⟩ := uniqueLex_firsts_spec vals r hv
  have hUsub : ∀ p ∈ uniqueLex vals, p ∈ vals := fun p hp => (mem_uniqueLex vals p).1 hp
  unfold solveHssp
  simp only
  split
  · rename_i h
    subst h
    exact bound_of_cover r vals _ O _ (fun p hp => List.mem_range.2 (List.idxOf_lt_length_of_mem hp)) hO
  · rename_i hkn
    have hfirst : ∀ p ∈ vals, vals.idxOf p ∈ (uniqueLex vals).map (fun p => vals.idxOf p) :=
      fun p hp => List.mem_map.2 ⟨p, (mem_uniqueLex vals p).2 hp, rfl⟩
    split
    · -- fewer unique rows than k: all unique rows are selected
      refine bound_of_cover r vals _ O k (fun p hp => ?_) hO
      refine List.mem_filter.2 ⟨List.mem_range.2 (List.idxOf_lt_length_of_mem hp), ?_⟩
      simp [hfirst p hp]
    · rename_i hUk
      by_cases hkU : k = (uniqueLex vals).length
      · have : solveOnUnique (uniqueLex vals) ((uniqueLex vals).map (fun p => vals.idxOf p)) k r true
            = (uniqueLex vals).map (fun p => vals.idxOf p) := by
          simp [solveOnUnique, hkU]
        rw [this]
        exact bound_of_cover r vals _ O k hfirst hO
      · have hk' : k < (uniqueLex vals).length := by omega
        obtain ⟨picks, hp1, hp2, hp3⟩ := hrun hk'
        rw [hp1]
        obtain ⟨_, hmemz⟩ := GreedyRun.labels r [] _ picks hp3
          (by rw [List.map_snd_zip (by simp)]; exact hf)
        have hrows : rowsAt vals (picks.map (·.2)) = picks.map (·.1) := by
          unfold rowsAt
          rw [List.map_map]
          apply List.map_congr_left
          intro e he
          have := hmemz e he
          rw [zip_firsts] at this
          obtain ⟨p, hp, rfl⟩ := List.mem_map.1 this
          exact getD_idxOf vals p (hUsub p hp)
        rw [hrows]
        by_cases hk0 : k = 0
        · subst hk0
          have : O = [] := List.eq_nil_of_length_eq_zero (by omega)
          subst this
          have : picks = [] := List.eq_nil_of_length_eq_zero hp2
          subst this
          simp [hvSpec_nil]
        · have hgap := greedy_gap r k (by omega) [] _ picks hp3 O hOk
            (by
              intro o ho
              right
              have := (mem_uniqueLex vals o).2 (hO o ho)
              rw [zip_firsts, List.map_map]
              exact List.mem_map.2 ⟨o, this, rfl⟩)
          rw [hp2] at hgap
          simpa [hvSpec_nil] using hgap

/-- **`_solve_hssp` guarantee** (finite reference, dimension ≠ 2): for every set `O` of at most `k` rows,
`k^k · (hv(O) − hv(selection)) ≤ (k−1)^k · hv(O)`, i.e. `hv(selection) ≥ (1 − (1−1/k)^k) · hv(O)`. -/
theorem solveHssp_bound (vals : List Pt) (r : Pt) (hv : ∀ p ∈ vals, Le p r) (hd : r.length ≠ 2) (k : Nat)
    (hk : k ≤ vals.length) (O : List Pt) (hO : ∀ o ∈ O, o ∈ vals) (hOk : O.length ≤ k) :
    (k : Int) ^ k * ((hvSpec O r : Int) - hvSpec (rowsAt vals (solveHssp vals k r true)) r)
      ≤ ((k : Int) - 1) ^ k * (hvSpec O r : Int) :=
  solveHssp_bound_of_run vals r hv k
    (fun hk' => solveOnUnique_greedy r hd (uniqueLex vals) _ (by simp)
      (fun p hp => hv p ((mem_uniqueLex vals p).1 hp)) k hk') hk O hO hOk

/-- the shape of a unique-lexsorted array of mutually non-dominated 2-D rows -/
def Staircase (L : List Pt) : Prop := L.Pairwise (fun a b => x0 a < x0 b ∧ y1 b < y1 a)

theorem mem_boxF_two (x y a b : Int) (c : Pt) :
    c ∈ boxF [x, y] [a, b] ↔ ∃ cx cy, c = [cx, cy] ∧ x ≤ cx ∧ cx < a ∧ y ≤ cy ∧ cy < b := by
  rw [mem_boxF]
  constructor
  · rintro ⟨h1, h2⟩
    obtain ⟨cx, cy, rfl, h3, h4⟩ := lt_two_right.1 h2
    have := le_two.1 h1
    exact ⟨cx, cy, rfl, this.1, h3, this.2, h4⟩
  · rintro ⟨cx, cy, rfl, h1, h2, h3, h4⟩
    exact ⟨le_two.2 ⟨h1, h3⟩, lt_two_right.2 ⟨cx, cy, rfl, h2, h4⟩⟩

def Cand2.key (c : Cand2) : Pt × Nat := (c.pt, c.label)

/-- invariant of `_solve_hssp_2d`: the rectangle `[pt, (dx, dy))` of every remaining candidate is exactly
the part of its box that the selected rows `T` do not cover -/
structure Inv2 (r0 r1 : Int) (T : List Pt) (cs : List Cand2) : Prop where
  stair : Staircase (cs.map (·.pt))
  shape : ∀ c ∈ cs, ∃ x y, c.pt = [x, y] ∧ x ≤ c.dx ∧ y ≤ c.dy ∧ c.dx ≤ r0 ∧ c.dy ≤ r1
  excl : ∀ c ∈ cs, boxF c.pt [r0, r1] \ unionF [r0, r1] T = boxF c.pt [c.dx, c.dy]

/-- the stored rectangle area is the true marginal gain (used for `C15.hssp2d_contribution_exact`) -/
theorem inv2_gain (r0 r1 : Int) (T : List Pt) (cs : List Cand2) (h : Inv2 r0 r1 T cs) (c : Cand2)
    (hc : c ∈ cs) : gain [r0, r1] T c.pt = contrib2 c := by
  obtain ⟨x, y, hpt, hx, hy, _, _⟩ := h.shape c hc
  rw [gain_eq_card_sdiff, h.excl c hc, hpt, card_boxF [x, y] [c.dx, c.dy] (le_two.2 ⟨hx, hy⟩)]
  simp [contrib2, vol, hpt, x0, y1]

theorem unionF_snoc (r : Pt) (T : List Pt) (p : Pt) : unionF r (T ++ [p]) = unionF r T ∪ boxF p r := by
  ext c
  simp only [mem_unionF, Finset.mem_union, mem_boxF, List.mem_append, List.mem_singleton]
  constructor
  · rintro ⟨q, hq | rfl, h⟩
    · exact Or.inl ⟨q, hq, h⟩
    · exact Or.inr h
  · rintro (⟨q, hq, h⟩ | h)
    · exact ⟨q, Or.inl hq, h⟩
    · exact ⟨p, Or.inr rfl, h⟩

theorem rect_sdiff_box_below {x y dx dy px py r0 r1 : Int} (hy : py < y) (hdx : dx ≤ r0) (hdy : dy ≤ r1) :
    boxF [x, y] [dx, dy] \ boxF [px, py] [r0, r1] = boxF [x, y] [min px dx, dy] := by
  ext c
  simp only [Finset.mem_sdiff, mem_boxF_two]
  constructor
  · rintro ⟨⟨cx, cy, rfl, h1, h2, h3, h4⟩, hn⟩
    refine ⟨cx, cy, rfl, h1, ?_, h3, h4⟩
    by_contra hc'
    exact hn ⟨cx, cy, rfl, by have := lt_min_iff.not.1 hc'; omega, by omega, by omega, by omega⟩
  · rintro ⟨cx, cy, rfl, h1, h2, h3, h4⟩
    have := lt_min_iff.1 h2
    refine ⟨⟨cx, cy, rfl, h1, this.2, h3, h4⟩, ?_⟩
    rintro ⟨cx', cy', heq, g1, _, _, _⟩
    simp only [List.cons.injEq, and_true] at heq
    omega

theorem rect_sdiff_box_left {x y dx dy px py r0 r1 : Int} (hx : px < x) (hdx : dx ≤ r0) (hdy : dy ≤ r1) :
    boxF [x, y] [dx, dy] \ boxF [px, py] [r0, r1] = boxF [x, y] [dx, min py dy] := by
  ext c
  simp only [Finset.mem_sdiff, mem_boxF_two]
  constructor
  · rintro ⟨⟨cx, cy, rfl, h1, h2, h3, h4⟩, hn⟩
    refine ⟨cx, cy, rfl, h1, h2, h3, ?_⟩
    by_contra hc'
    exact hn ⟨cx, cy, rfl, by omega, by omega, by have := lt_min_iff.not.1 hc'; omega, by omega⟩
  · rintro ⟨cx, cy, rfl, h1, h2, h3, h4⟩
    have := lt_min_iff.1 h4
    refine ⟨⟨cx, cy, rfl, h1, h2, h3, this.2⟩, ?_⟩
    rintro ⟨cx', cy', heq, _, _, g1, _⟩
    simp only [List.cons.injEq, and_true] at heq
    omega

theorem staircase_getElem {L : List Pt} (h : Staircase L) {i j : Nat} (hi : i < L.length) (hj : j < L.length)
    (hij : i < j) : x0 L[i] < x0 L[j] ∧ y1 L[j] < y1 L[i] :=
  List.pairwise_iff_getElem.1 h i j hi hj hij

theorem inv2_step (r0 r1 : Int) (T : List Pt) (cs : List Cand2) (h : Inv2 r0 r1 T cs) (m : Nat)
    (hm : m < cs.length) :
    Inv2 r0 r1 (T ++ [cs[m].pt])
      ((cs.take m).map (fun e => { e with dx := min (x0 cs[m].pt) e.dx }) ++
        (cs.drop (m + 1)).map (fun e => { e with dy := min (y1 cs[m].pt) e.dy })) := by
  obtain ⟨px, py, hp, hpx, hpy, hpr0, hpr1⟩ := h.shape cs[m] (List.getElem_mem hm)
  have hpts : ((cs.take m).map (fun e => ({ e with dx := min (x0 cs[m].pt) e.dx } : Cand2)) ++
      (cs.drop (m + 1)).map (fun e => ({ e with dy := min (y1 cs[m].pt) e.dy } : Cand2))).map (·.pt)
      = (cs.map (·.pt)).eraseIdx m := by
    rw [List.eraseIdx_eq_take_drop_succ]
    simp [Function.comp_def, List.map_take, List.map_drop]
  have hbefore : ∀ e ∈ cs.take m, e ∈ cs ∧ x0 e.pt < px ∧ py < y1 e.pt := by
    intro e he
    obtain ⟨i, hi, rfl⟩ := List.mem_iff_getElem.1 he
    have hi' : i < m := by simp at hi; omega
    have hil : i < cs.length := by omega
    have := staircase_getElem h.stair (i := i) (j := m) (by simpa using hil) (by simpa using hm) hi'
    simp only [List.getElem_map, List.getElem_take] at this ⊢
    rw [hp] at this
    exact ⟨List.getElem_mem hil, by simpa [x0, y1] using this⟩
  have hafter : ∀ e ∈ cs.drop (m + 1), e ∈ cs ∧ px < x0 e.pt ∧ y1 e.pt < py := by
    intro e he
    obtain ⟨i, hi, rfl⟩ := List.mem_iff_getElem.1 he
    have hil : m + 1 + i < cs.length := by simp at hi; omega
    have := staircase_getElem h.stair (i := m) (j := m + 1 + i) (by simpa using hm) (by simpa using hil)
      (by omega)
    simp only [List.getElem_map, List.getElem_drop] at this ⊢
    rw [hp] at this
    exact ⟨List.getElem_mem hil, by simpa [x0, y1] using this⟩
  refine ⟨?_, ?_, ?_⟩
  · unfold Staircase
    rw [hpts]
    exact List.Pairwise.sublist (List.eraseIdx_sublist _ _) h.stair
  · intro c hc
    rcases List.mem_append.1 hc with hc | hc
    · obtain ⟨e, he, rfl⟩ := List.mem_map.1 hc
      obtain ⟨hecs, hex, hey⟩ := hbefore e he
      obtain ⟨x, y, hpt, hx, hy, hr0, hr1⟩ := h.shape e hecs
      refine ⟨x, y, hpt, ?_, hy, ?_, hr1⟩
      · simp only [hp, x0, List.headD_cons]
        rw [hpt] at hex; simp only [x0, List.headD_cons] at hex
        exact le_min (le_of_lt hex) hx
      · exact le_trans (min_le_right _ _) hr0
    · obtain ⟨e, he, rfl⟩ := List.mem_map.1 hc
      obtain ⟨hecs, hex, hey⟩ := hafter e he
      obtain ⟨x, y, hpt, hx, hy, hr0, hr1⟩ := h.shape e hecs
      refine ⟨x, y, hpt, hx, ?_, hr0, ?_⟩
      · simp only [hp, y1, List.tail_cons, List.headD_cons]
        rw [hpt] at hey; simp only [y1, List.tail_cons, List.headD_cons] at hey
        exact le_min (le_of_lt hey) hy
      · exact le_trans (min_le_right _ _) hr1
  · intro c hc
    rw [unionF_snoc, ← Finset.sup_eq_union, ← sdiff_sdiff_left]
    rcases List.mem_append.1 hc with hc | hc
    · obtain ⟨e, he, rfl⟩ := List.mem_map.1 hc
      obtain ⟨hecs, hex, hey⟩ := hbefore e he
      obtain ⟨x, y, hpt, hx, hy, hr0, hr1⟩ := h.shape e hecs
      rw [h.excl e hecs]
      simp only [hpt, hp, x0, y1, List.headD_cons, List.tail_cons] at hey ⊢
      exact rect_sdiff_box_below hey hr0 hr1
    · obtain ⟨e, he, rfl⟩ := List.mem_map.1 hc
      obtain ⟨hecs, hex, hey⟩ := hafter e he
      obtain ⟨x, y, hpt, hx, hy, hr0, hr1⟩ := h.shape e hecs
      rw [h.excl e hecs]
      simp only [hpt, hp, x0, y1, List.headD_cons, List.tail_cons] at hex ⊢
      exact rect_sdiff_box_left hex hr0 hr1

/-- **`_solve_hssp_2d` is a greedy run** on a staircase (unique-lexsorted mutually non-dominated rows). -/
theorem hssp2dLoop_run (r0 r1 : Int) :
    ∀ (k : Nat) (cs : List Cand2) (T : List Pt), k ≤ cs.length → Inv2 r0 r1 T cs →
      ∃ picks : List (Pt × Nat), hssp2dLoop k cs = picks.map (·.2) ∧ picks.length = k ∧
        GreedyRun [r0, r1] T (cs.map Cand2.key) picks := by
  intro k
  induction k with
  | zero =>
    intro cs T _ _
    exact ⟨[], by simp [hssp2dLoop], rfl, GreedyRun.nil _ _⟩
  | succ k ih =>
    intro cs T hk hinv
    have hne : cs.map contrib2 ≠ [] := by
      intro h; have : cs = [] := by simpa using h
      subst this; simp at hk
    obtain ⟨ha, hmax⟩ := argmax_spec _ hne
    rw [List.length_map] at ha hmax
    set a := argmax (cs.map contrib2) with hadef
    have hstep := inv2_step r0 r1 T cs hinv a ha
    set nxt := (cs.take a).map (fun e => ({ e with dx := min (x0 cs[a].pt) e.dx } : Cand2)) ++
      (cs.drop (a + 1)).map (fun e => ({ e with dy := min (y1 cs[a].pt) e.dy } : Cand2)) with hnxt
    have hkeys : nxt.map Cand2.key = (cs.map Cand2.key).eraseIdx a := by
      have hkf : Cand2.key = fun x : Cand2 => (x.pt, x.label) := rfl
      rw [List.eraseIdx_map, hnxt, List.eraseIdx_eq_take_drop_succ, hkf]
      simp [Function.comp_def]
    have hlen : nxt.length = cs.length - 1 := by
      have := congrArg List.length hkeys
      simp only [List.length_map, List.length_eraseIdx, ha, if_true] at this
      exact this
    obtain ⟨picks, hp1, hp2, hp3⟩ := ih nxt (T ++ [cs[a].pt]) (by omega) hstep
    refine ⟨Cand2.key cs[a] :: picks, ?_, by simp [hp2], ?_⟩
    · simp only [hssp2dLoop]
      rw [← hadef, List.getElem?_eq_getElem ha]
      simp only [List.map_cons]
      rw [← hnxt, hp1]
      rfl
    · rw [hkeys] at hp3
      refine GreedyRun.cons T _ a _ picks (by rw [List.getElem?_map, List.getElem?_eq_getElem ha]; rfl) ?_ hp3
      intro e he
      obtain ⟨c, hc, rfl⟩ := List.mem_map.1 he
      obtain ⟨j, hj, rfl⟩ := List.mem_iff_getElem.1 hc
      simp only [Cand2.key]
      rw [inv2_gain r0 r1 T cs hinv _ (List.getElem_mem hj), inv2_gain r0 r1 T cs hinv _ (List.getElem_mem ha)]
      have := hmax j hj
      simpa [List.getD_eq_getElem?_getD, hj, ha] using this

theorem staircase_of_lexSorted_antichain (r : Pt) (hr : r.length = 2) (U : List Pt) (hU : ∀ p ∈ U, Le p r)
    (hlex : LexSorted U) (ha : Antichain U) : Staircase U := by
  refine List.Pairwise.imp_of_mem ?_ hlex
  intro a b hamem hbmem hlt
  have hx : x0 a ≤ x0 b := lexLt_x0 hlt
  have hab : a ≠ b := by intro h; subst h; simp [lexLt_irrefl] at hlt
  have hnle : ¬ Le a b := fun h => hab (ha a hamem b hbmem h)
  have ha2 : a.length = 2 := (hU a hamem).length_eq.trans hr
  have hb2 : b.length = 2 := (hU b hbmem).length_eq.trans hr
  have hy : y1 b < y1 a := by
    by_contra hc
    exact hnle (le_of_x0_y1 ha2 hb2 hx (not_lt.1 hc))
  refine ⟨?_, hy⟩
  rcases lt_or_eq_of_le hx with h | h
  · exact h
  · -- equal first column: the lexicographic order then forces a ≤ b
    exfalso
    match a, ha2, b, hb2 with
    | [ax, ay], _, [bx, by'], _ =>
      simp only [x0, y1, List.headD_cons, List.tail_cons] at h hy
      simp only [lexLt, Bool.or_eq_true, decide_eq_true_eq, Bool.and_eq_true, beq_iff_eq, Bool.and_false,
        Bool.or_false] at hlt
      omega

/-- **2-D path of `_solve_hssp_on_unique_loss_vals`** on mutually non-dominated unique-lexsorted rows. -/
theorem solveOnUnique_greedy2d (r : Pt) (hr : r.length = 2) (U : List Pt) (labels : List Nat)
    (hlen : labels.length = U.length) (hU : ∀ p ∈ U, Le p r) (hst : Staircase U) (k : Nat)
    (hk : k < U.length) :
    ∃ picks : List (Pt × Nat), solveOnUnique U labels k r true = picks.map (·.2) ∧ picks.length = k ∧
      GreedyRun r [] (U.zip labels) picks := by
  match r, hr with
  | [r0, r1], _ =>
    set cands := (U.zip labels).map (fun e => ({ pt := e.1, label := e.2, dx := r0, dy := r1 } : Cand2))
      with hcands
    have hpts : cands.map (·.pt) = U := by
      have : cands.map (·.pt) = (U.zip labels).map (·.1) := by simp [hcands, Function.comp_def]
      rw [this, List.map_fst_zip (Nat.le_of_eq hlen.symm)]
    have hkeys : cands.map Cand2.key = U.zip labels := by
      simp [hcands, Function.comp_def, Cand2.key]
    have hinv : Inv2 r0 r1 [] cands := by
      refine ⟨by rw [hpts]; exact hst, ?_, ?_⟩
      · intro c hc
        obtain ⟨e, he, rfl⟩ := List.mem_map.1 hc
        obtain ⟨x, y, hxy, hx, hy⟩ := le_two_right.1 (hU e.1 ((List.of_mem_zip (a := e.1) (b := e.2) he).1))
        exact ⟨x, y, hxy, hx, hy, le_refl _, le_refl _⟩
      · intro c hc
        obtain ⟨e, he, rfl⟩ := List.mem_map.1 hc
        simp [unionF]
    obtain ⟨picks, h1, h2, h3⟩ := hssp2dLoop_run r0 r1 k cands [] (by simp [hcands, hlen]; omega) hinv
    refine ⟨picks, ?_, h2, by rw [hkeys] at h3; exact h3⟩
    have hne : labels.length ≠ k := by omega
    simp only [solveOnUnique, Bool.not_true, Bool.false_eq_true, if_false, hne, List.length_cons,
      List.length_nil, if_true, x0, y1, List.headD_cons, List.tail_cons]
    exact h1

/-- **`_solve_hssp` guarantee in 2-D** for mutually non-dominated rows (duplicates allowed): what the
sampler passes (one non-domination rank). -/
theorem solveHssp_bound_2d (vals : List Pt) (r : Pt) (hv : ∀ p ∈ vals, Le p r) (hr : r.length = 2)
    (ha : Antichain vals) (k : Nat) (hk : k ≤ vals.length) (O : List Pt) (hO : ∀ o ∈ O, o ∈ vals)
    (hOk : O.length ≤ k) :
    (k : Int) ^ k * ((hvSpec O r : Int) - hvSpec (rowsAt vals (solveHssp vals k r true)) r)
      ≤ ((k : Int) - 1) ^ k * (hvSpec O r : Int) := by
  have hUsub : ∀ p ∈ uniqueLex vals, p ∈ vals := fun p hp => (mem_uniqueLex vals p).1 hp
  have hlex := lexSorted_uniqueLex r.length vals (fun q hq => (hv q hq).length_eq)
  have hst := staircase_of_lexSorted_antichain r hr (uniqueLex vals) (fun p hp => hv p (hUsub p hp)) hlex
    (fun p hp q hq h => ha p (hUsub p hp) q (hUsub q hq) h)
  exact solveHssp_bound_of_run vals r hv k
    (fun hk' => solveOnUnique_greedy2d r hr (uniqueLex vals) _ (by simp)
      (fun p hp => hv p (hUsub p hp)) hst k hk') hk O hO hOk

end OptunaVerif.Hssp
