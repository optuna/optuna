import OptunaVerif.Model.GrpcIR
import OptunaVerif.Lemmas.SimpAttr
/-!
# The simp set `grpc_ir` of the interpreter of `Model/GrpcIR.lean`

The equations of `exec` (written out, one per statement constructor: its own defining equations also rewrite the partial
applications `exec c s` that the shape lemmas of `Props/C01GrpcGen.lean` keep), the defining equations of `eval`,
`evalFields`, `evalList` and of the functions that read fields and build messages, all derived here once.  A proof about a
generated body runs it with `simp only [<body>, grpc_ir]` and never derives them again.
-/
namespace OptunaVerif.GrpcIR
open OptunaVerif.Storage OptunaVerif.Proto
open OptunaVerif.Generated.GrpcTables (Exc Status Rpc)

attribute [grpc_ir] Env.get
@[grpc_ir] theorem Env.set_eq (env : Env) (x : String) (v : Val) : env.set x v = (x, v) :: env := rfl

@[grpc_ir] theorem block_one (s : Stmt) : block [s] = s := rfl
@[grpc_ir] theorem block_cons (s s' : Stmt) (t : List Stmt) : block (s :: s' :: t) = .seq s (block (s' :: t)) := rfl

attribute [grpc_ir] bindInto


attribute [grpc_ir] getField reqField replyField KV.get mkMsg mkRequest kNat kInt kStr kBool kNats kXvals kXval kDist kPTrial applyFn
  frozenField ptrialField studyField pstudyField Req.rpc implRaisedOf clientCall bindParams

@[grpc_ir] theorem truthy_bool (b : Bool) : truthy (.bool b) = b := rfl
@[grpc_ir] theorem truthy_xvals (l : List XVal) : truthy (.xvals l) = !l.isEmpty := rfl
@[grpc_ir] theorem truthy_ptrials (l : List PTrial) : truthy (.ptrials l) = !l.isEmpty := rfl
theorem truthy_str (s : String) : truthy (.str s) = (s != "") := rfl

attribute [grpc_ir] eval evalFields evalList

/-- the body of a comprehension on one element; not in `grpc_ir`, so that `simp` does not run the body on the bound element -/
def evalElem (c : Ctx) (env : Env) (x : String) (body : Expr) (v : Val) : Except Exn Val := eval c (env.set x v) body

@[grpc_ir ↓ high] theorem eval_listComp (c : Ctx) (env : Env) (x : String) (src body : Expr) :
    eval c env (.listComp x src body) = match eval c env src with
      | .error e => .error e
      | .ok sv =>
        match elems sv with
        | none => typeError
        | some vs =>
          match mapAllE (evalElem c env x body) vs with
          | .error e => .error e
          | .ok out => match collect sv out with | some r => .ok r | none => typeError := by
  simp only [eval]; rfl

@[grpc_ir ↓ high] theorem eval_listCompIf (c : Ctx) (env : Env) (x : String) (src body cond : Expr) :
    eval c env (.listCompIf x src body cond) = match eval c env src with
      | .error e => .error e
      | .ok sv =>
        match elems sv with
        | none => typeError
        | some vs =>
          match filterE (fun v => match evalElem c env x cond v with | .error e => .error e | .ok b => .ok (truthy b)) vs with
          | .error e => .error e
          | .ok kept =>
            match mapAllE (evalElem c env x body) kept with
            | .error e => .error e
            | .ok out => match collect sv out with | some r => .ok r | none => typeError := by
  simp only [eval]; rfl

/-- a message constructor alone, for a proof that evaluates the keywords one by one -/
theorem eval_msg (c : Ctx) (env : Env) (m : Msg) (fs : Fields) :
    eval c env (.msg m fs) = match evalFields c env fs with
      | .error x => .error x
      | .ok kv => match mkMsg kv m with | some v => .ok v | none => typeError := rfl

/-- `if`: the branches stay program terms, which `simp` does not run, until the test is `true` or `false` -/
def execIf (c : Ctx) (t : Bool) (a b : Stmt) (st : St) : St × Flow := bif t then exec c a st else exec c b st

section exec
variable (c : Ctx) (st : St)

@[grpc_ir] theorem exec_skip : exec c .skip st = (st, .next) := rfl
@[grpc_ir] theorem exec_seq (a b : Stmt) : exec c (.seq a b) st = thenExec (exec c b) (exec c a st) := rfl
@[grpc_ir] theorem exec_assign (x : String) (e : Expr) :
    exec c (.assign x e) st = match eval c st.env e with
      | .error x => (st, .raised x)
      | .ok v => ({ st with env := st.env.set x v }, .next) := rfl
@[grpc_ir] theorem exec_ite (cnd : Expr) (a b : Stmt) :
    exec c (.ite cnd a b) st = match eval c st.env cnd with
      | .error x => (st, .raised x)
      | .ok v => execIf c (truthy v) a b st := by
  simp only [exec, execIf]; split <;> first | rfl | (split <;> simp_all)
attribute [grpc_ir] Bool.not_true Bool.not_false
@[grpc_ir] theorem execIf_true (a b : Stmt) : execIf c true a b st = exec c a st := rfl
@[grpc_ir] theorem execIf_false (a b : Stmt) : execIf c false a b st = exec c b st := rfl
@[grpc_ir] theorem exec_backend (m : BM) (args : List Expr) (into : Option String) :
    exec c (.backend m args into) st = match evalList c st.env args with
      | .error x => (st, .raised x)
      | .ok vs =>
        match opOf c.ir m vs with
        | none => (st, .raised (.exc .exception))
        | some op => afterBackend st into (step st.s op) := rfl
@[grpc_ir] theorem exec_stub (rpc : Rpc) (rq : Expr) (into : Option String) :
    exec c (.stub rpc rq into) st = match eval c st.env rq with
      | .error x => (st, .raised x)
      | .ok (.req r) =>
        if r.rpc = rpc then afterStub st into (c.serve st.s c.ir r)
        else (st, .raised (.exc .exception))
      | .ok _ => (st, .raised (.exc .exception)) := rfl
@[grpc_ir] theorem exec_cacheNote : exec c .cacheNote st = (st, .next) := rfl
@[grpc_ir] theorem exec_cacheGetAll (sid states : Expr) (into : Option String) :
    exec c (.cacheGetAll sid states into) st = match eval c st.env sid, eval c st.env states with
      | .ok (.nat n), .ok sv =>
        (match statesOf sv with
        | none => (st, .raised (.exc .exception))
        | some sts => afterRead st into sts (c.readTrials st.s n))
      | .error x, _ => (st, .raised x)
      | _, .error x => (st, .raised x)
      | _, _ => (st, .raised (.exc .exception)) := rfl
@[grpc_ir] theorem exec_tryExcept (body handlers : Stmt) :
    exec c (.tryExcept body handlers) st = handleTry (exec c handlers) (exec c body st) := rfl
@[grpc_ir] theorem exec_onExc (cls : Exc) (h rest : Stmt) :
    exec c (.onExc cls h rest) st = match st.cur with
      | some e => if catches cls e then exec c h st else exec c rest st
      | none => (st, .unrep) := rfl
@[grpc_ir] theorem exec_onRpcError (h rest : Stmt) :
    exec c (.onRpcError h rest) st = match st.cur with
      | some (.rpc _) => exec c h st
      | some _ => exec c rest st
      | none => (st, .unrep) := rfl
@[grpc_ir] theorem exec_ifCode (code : Status) (a b : Stmt) :
    exec c (.ifCode code a b) st = match st.cur with
      | some (.rpc k) => if k = code then exec c a st else exec c b st
      | _ => (st, .raised (.exc .exception)) := rfl
@[grpc_ir] theorem exec_abort (code : Status) : exec c (.abort code) st = (st, .aborted code) := rfl
@[grpc_ir] theorem exec_raise (k : Exc) : exec c (.raise k) st = (st, .raised (.exc k)) := rfl
@[grpc_ir] theorem exec_reraise :
    exec c .reraise st = match st.cur with | some e => (st, .raised e) | none => (st, .unrep) := rfl
@[grpc_ir] theorem exec_ret (e : Expr) :
    exec c (.ret e) st = match eval c st.env e with | .error x => (st, .raised x) | .ok v => (st, .ret v) := rfl

end exec

end OptunaVerif.GrpcIR
