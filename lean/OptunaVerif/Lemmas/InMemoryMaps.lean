import OptunaVerif.Model.InMemory
import OptunaVerif.Lemmas.Basic
/-! Dictionaries, lists, `_get_trial` and the value order: the small facts the in-memory refinement is built from.
Core Lean only. -/
namespace OptunaVerif.InMemory
open OptunaVerif.Storage

namespace NMap
variable {α : Type}

theorem get?_set (l : NMap α) (k k2 : Nat) (v : α) :
    get? (set l k v) k2 = if k2 = k then some v else get? l k2 := by
  induction l with
  | nil =>
    by_cases h : k2 = k
    · subst h; simp [set, get?]
    · have h' : ¬ k = k2 := fun e => h e.symm
      simp [set, get?, h, h']
  | cons hd t ih =>
    obtain ⟨k', v'⟩ := hd
    by_cases hk : k' = k
    · subst hk
      by_cases h2 : k2 = k'
      · subst h2; simp [set, get?]
      · have h' : ¬ k' = k2 := fun e => h2 e.symm
        simp [set, get?, h2, h']
    · by_cases h2 : k2 = k
      · subst h2; simp [set, get?, hk, ih]
      · simp only [set, hk, if_false, get?, ih, h2]

theorem get?_upd (l : NMap α) (k k2 : Nat) (f : α → α) :
    get? (upd l k f) k2 = if k2 = k then (get? l k2).map f else get? l k2 := by
  induction l with
  | nil => simp [upd, get?]
  | cons hd t ih =>
    obtain ⟨k', v'⟩ := hd
    by_cases hk : k' = k
    · subst hk
      by_cases h2 : k2 = k'
      · subst h2; simp [upd, get?]
      · have h' : ¬ k' = k2 := fun e => h2 e.symm
        simp [upd, get?, h2, h']
    · by_cases h2 : k2 = k
      · subst h2; simp [upd, get?, hk, ih]
      · simp only [upd, hk, if_false, get?, ih, h2]

theorem get?_upd_at {l : NMap α} {k : Nat} {y : α} (hy : get? l k = some y) (f : α → α) (k2 : Nat) :
    get? (upd l k f) k2 = if k2 = k then some (f y) else get? l k2 := by
  rw [get?_upd]
  split
  · next e => rw [e, hy]; rfl
  · rfl

theorem get?_upd_self {l : NMap α} {k : Nat} {y : α} (hy : get? l k = some y) (f : α → α) :
    get? (upd l k f) k = some (f y) :=
  (get?_upd_at hy f k).trans (if_pos rfl)

/-- `l'` is `l` with the entry of `k` replaced (`set`, `upd`), or dropped (`erase`): an entry of `l'` is the new one or an old one -/
theorem point_cases {l l' : NMap α} {k : Nat} {new? : Option α}
    (h : ∀ k2, get? l' k2 = if k2 = k then new? else get? l k2) {k2 : Nat} {x : α} (hx : get? l' k2 = some x) :
    (k2 = k ∧ new? = some x) ∨ (k2 ≠ k ∧ get? l k2 = some x) := by
  rw [h] at hx
  split at hx
  · exact .inl ⟨‹_›, hx⟩
  · exact .inr ⟨‹_›, hx⟩

theorem get?_erase (l : NMap α) (k k2 : Nat) :
    get? (erase l k) k2 = if k2 = k then none else get? l k2 := by
  induction l with
  | nil => simp [erase, get?]
  | cons hd t ih =>
    obtain ⟨k', v'⟩ := hd
    unfold erase at ih ⊢
    by_cases hk : k' = k
    · subst hk
      by_cases h2 : k2 = k'
      · subst h2; simpa [List.filter_cons, get?] using ih
      · have h' : ¬ k' = k2 := fun e => h2 e.symm
        simpa [List.filter_cons, get?, h2, h'] using ih
    · have hk' : (k' != k) = true := by simpa using hk
      simp only [List.filter_cons, hk', if_true, get?]
      by_cases h2 : k2 = k
      · subst h2; simp [hk]; simpa using ih
      · simp only [h2, if_false] at ih ⊢; rw [ih]

theorem keys_upd (l : NMap α) (k : Nat) (f : α → α) : (upd l k f).map (·.1) = l.map (·.1) := by
  induction l with
  | nil => rfl
  | cons hd t ih =>
    obtain ⟨k', v'⟩ := hd
    by_cases hk : k' = k <;> simp [upd, hk, ih]

theorem set_of_get?_none (l : NMap α) (k : Nat) (v : α) (h : get? l k = none) : set l k v = l ++ [(k, v)] := by
  induction l with
  | nil => rfl
  | cons hd t ih =>
    obtain ⟨k', v'⟩ := hd
    by_cases hk : k' = k
    · simp [get?, hk] at h
    · simp only [get?, hk, if_false] at h
      simp [set, hk, ih h]

theorem get?_some_mem (l : NMap α) (k : Nat) (v : α) (h : get? l k = some v) : (k, v) ∈ l := by
  induction l with
  | nil => simp [get?] at h
  | cons hd t ih =>
    obtain ⟨k', v'⟩ := hd
    by_cases hk : k' = k
    · simp only [get?, hk, if_true, Option.some.injEq] at h
      subst h; subst hk; simp
    · simp only [get?, hk, if_false] at h
      exact List.mem_cons_of_mem _ (ih h)

theorem get?_none_of_not_key (l : NMap α) (k : Nat) (h : ∀ p ∈ l, p.1 ≠ k) : get? l k = none := by
  induction l with
  | nil => rfl
  | cons hd t ih =>
    obtain ⟨k', v'⟩ := hd
    have hk : ¬ k' = k := h (k', v') (by simp)
    simp only [get?, hk, if_false]
    exact ih (fun p hp => h p (List.mem_cons_of_mem _ hp))

theorem get?_of_mem_key (l : NMap α) (p : Nat × α) (hp : p ∈ l) : ∃ v, get? l p.1 = some v := by
  induction l with
  | nil => cases hp
  | cons q r ih =>
    obtain ⟨a, v⟩ := q
    by_cases ha : a = p.1
    · exact ⟨v, by simp [get?, ha]⟩
    · simp only [List.mem_cons] at hp
      rcases hp with hp | hp
      · subst hp; exact absurd rfl ha
      · obtain ⟨si, hsi⟩ := ih hp
        exact ⟨si, by simp [get?, ha, hsi]⟩

theorem filterMap_range'_get? {β : Type} (g : α → β) (k : Nat) :
    ∀ (lo : Nat) (l : NMap α), (l.map (·.1)).Pairwise (· < ·) → (∀ p ∈ l, lo ≤ p.1 ∧ p.1 < lo + k) →
      (List.range' lo k).filterMap (fun i => (get? l i).map (fun v => (i, g v))) =
        l.map (fun p => (p.1, g p.2)) := by
  -- a scan of the keys `lo, …, lo+k-1` lists a key-sorted map whose keys lie among them.  By induction on the width `k`, for
  -- every `lo` and map: the key `lo` is the head of the map (emitted; the tail lies in `lo+1 …`) or, the keys ascending, no key
  -- of the map (nothing emitted; the whole map lies in `lo+1 …`)
  induction k with
  | zero =>
    intro lo l _ hb
    cases l with
    | nil => rfl
    | cons p r => have := hb p (by simp); omega
  | succ k ih =>
    intro lo l hs hb
    rw [List.range'_succ, List.filterMap_cons]
    cases l with
    | nil =>
      simp only [get?, Option.map_none, List.map_nil]
      rw [List.filterMap_eq_nil_iff]; intro a _; rfl
    | cons p r =>
      obtain ⟨a, v⟩ := p
      simp only [List.map_cons, List.pairwise_cons] at hs
      obtain ⟨hlt, hs'⟩ := hs
      have hba := hb (a, v) (by simp)
      by_cases ha : a = lo
      · subst ha
        simp only [get?, if_true, Option.map_some, List.map_cons]
        congr 1
        rw [← ih (a + 1) r hs' ?_]
        · apply filterMap_congr'
          intro i hi
          have : a + 1 ≤ i := (List.mem_range'_1.1 hi).1
          have hne : ¬ a = i := by omega
          simp [hne]
        · intro q hq
          have h1 := hlt q.1 (List.mem_map_of_mem hq)
          have h2 := hb q (List.mem_cons_of_mem _ hq)
          omega
      · have hne : ¬ a = lo := ha
        simp only [get?, hne, if_false]
        have hnone : get? r lo = none := by
          apply get?_none_of_not_key
          intro q hq
          have h1 := hlt q.1 (List.mem_map_of_mem hq)
          omega
        simp only [hnone, Option.map_none]
        rw [← ih (lo + 1) ((a, v) :: r) (by simp only [List.map_cons, List.pairwise_cons]; exact ⟨hlt, hs'⟩) ?_]
        · apply filterMap_congr'
          intro i _
          simp [get?]
        · intro q hq
          have h2 := hb q hq
          simp only [List.mem_cons] at hq
          rcases hq with hq | hq
          · subst hq; omega
          · have h1 := hlt q.1 (List.mem_map_of_mem hq)
            omega

end NMap

theorem get?_eraseKey {α : Type} (l : AList α) (k k2 : String) :
    AList.get? (eraseKey l k) k2 = if k2 = k then none else AList.get? l k2 := by
  induction l with
  | nil => simp [eraseKey, AList.get?]
  | cons hd t ih =>
    obtain ⟨k', v'⟩ := hd
    unfold eraseKey at ih ⊢
    by_cases hk : k' = k
    · subst hk
      by_cases h2 : k2 = k'
      · subst h2; simpa [List.filter_cons, AList.get?] using ih
      · have h' : ¬ k' = k2 := fun e => h2 e.symm
        simpa [List.filter_cons, AList.get?, h2, h'] using ih
    · have hk' : (k' != k) = true := by simpa using hk
      simp only [List.filter_cons, hk', if_true, AList.get?]
      by_cases h2 : k2 = k
      · subst h2; simp [hk]; simpa using ih
      · simp only [h2, if_false] at ih ⊢; rw [ih]

theorem alist_get?_set {α : Type} (l : AList α) (k k2 : String) (v : α) :
    AList.get? (AList.set l k v) k2 = if k2 = k then some v else AList.get? l k2 := by
  by_cases h : k2 = k
  · subst h; simp [AList.get?_set_same]
  · simp [h, AList.get?_set_other l k k2 v h]

theorem get?_foldl_erase_of_not_mem {α β : Type} (ks : List (Nat × β)) (l : NMap α) (k : Nat)
    (h : ∀ p ∈ ks, p.1 ≠ k) :
    NMap.get? (ks.foldl (fun mp p => NMap.erase mp p.1) l) k = NMap.get? l k := by
  induction ks generalizing l with
  | nil => rfl
  | cons p r ih =>
    rw [List.foldl_cons, ih _ (fun q hq => h q (List.mem_cons_of_mem _ hq)), NMap.get?_erase]
    have : ¬ k = p.1 := fun e => h p (by simp) e.symm
    simp [this]

theorem get?_foldl_erase_none {α β : Type} (ks : List (Nat × β)) (l : NMap α) (k : Nat)
    (h : NMap.get? l k = none) :
    NMap.get? (ks.foldl (fun mp p => NMap.erase mp p.1) l) k = none := by
  induction ks generalizing l with
  | nil => exact h
  | cons p r ih =>
    rw [List.foldl_cons]
    apply ih
    rw [NMap.get?_erase]
    split
    · rfl
    · exact h

theorem get?_foldl_erase_of_mem {α β : Type} (ks : List (Nat × β)) (l : NMap α) (k : Nat)
    (h : ∃ p ∈ ks, p.1 = k) :
    NMap.get? (ks.foldl (fun mp p => NMap.erase mp p.1) l) k = none := by
  induction ks generalizing l with
  | nil => obtain ⟨p, hp, _⟩ := h; cases hp
  | cons p r ih =>
    rw [List.foldl_cons]
    by_cases h1 : p.1 = k
    · apply get?_foldl_erase_none
      rw [NMap.get?_erase]; simp [h1]
    · apply ih
      obtain ⟨q, hq, e⟩ := h
      simp only [List.mem_cons] at hq
      rcases hq with hq | hq
      · subst hq; exact absurd e h1
      · exact ⟨q, hq, e⟩

theorem map_upd_eq_set {β : Type} (l : List (Nat × β)) (num tid : Nat) (t : β) (g : β → β)
    (h : l[num]? = some (tid, t)) (huniq : ∀ j q, l[j]? = some q → q.1 = tid → j = num) :
    l.map (fun q => if q.1 = tid then (q.1, g q.2) else q) = l.set num (tid, g t) := by
  apply List.ext_getElem?
  intro j
  rw [List.getElem?_map, List.getElem?_set]
  by_cases hj : num = j
  · subst hj
    have hlt : num < l.length := (List.getElem?_eq_some_iff.1 h).1
    rw [h]
    simp [hlt]
  · simp only [hj, if_false]
    cases hq : l[j]? with
    | none => rfl
    | some q =>
      have : ¬ q.1 = tid := fun e => hj (huniq j q hq e).symm
      simp [this]

theorem map_upd_eq_self {β : Type} (l : List (Nat × β)) (tid : Nat) (g : β → β)
    (h : ∀ q ∈ l, q.1 ≠ tid) :
    l.map (fun q => if q.1 = tid then (q.1, g q.2) else q) = l := by
  conv => rhs; rw [← List.map_id l]
  apply List.map_congr_left
  intro q hq
  simp [h q hq]

theorem getTrial_ok_iff (m : State) (tid : Nat) (f : Found) :
    getTrial m tid = .ok f ↔ m.tidMap.get? tid = some (f.sid, f.num) ∧
      ∃ si, m.studies.get? f.sid = some si ∧ si.trials[f.num]? = some (f.id, f.t) := by
  unfold getTrial
  constructor
  · intro h
    split at h
    · cases h
    · rename_i sid num h1
      split at h
      · cases h
      · rename_i si h2
        split at h <;> cases h
        exact ⟨h1, si, h2, ‹_›⟩
  · rintro ⟨h1, si, h2, h3⟩
    simp only [h1, h2, h3]

theorem getUpdatable_ok_iff (m : State) (tid : Nat) (f : Found) :
    getUpdatable m tid = .ok f ↔ getTrial m tid = .ok f ∧ f.t.state.isFinished = false := by
  unfold getUpdatable
  cases getTrial m tid with
  | error e => simp
  | ok f' => by_cases hf : f'.t.state.isFinished = true <;> simp [hf] <;> rintro rfl <;> simpa using hf

theorem getUpdatable_error_iff (m : State) (tid : Nat) (e : Err) :
    getUpdatable m tid = .error e ↔ getTrial m tid = .error e ∨
      ∃ f, getTrial m tid = .ok f ∧ f.t.state.isFinished = true ∧ e = .updateFinished := by
  unfold getUpdatable
  cases getTrial m tid with
  | error e' => simp
  | ok f' =>
    by_cases hf : f'.t.state.isFinished = true <;> simp [hf]
    exact eq_comm

theorem flt_true (a b : XVal) (h : flt a b = true) : a.le b = true := by
  unfold flt at h
  simp only [Bool.and_eq_true] at h
  exact h.1

theorem flt_false (a b : XVal) (ha : a ≠ .nan) (hb : b ≠ .nan) (h : flt a b = false) : b.le a = true := by
  unfold flt at h
  rcases xle_total a b ha hb with h1 | h1
  · simp [h1] at h; exact h
  · exact h1

end OptunaVerif.InMemory
