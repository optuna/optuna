import OptunaVerif.Model.FileLock
import OptunaVerif.Lemmas.Basic
/-!
Lemmas about the small-step file-lock model (`Model/FileLock.lean`): what one call does to the lock
path (`LockEffect`), what a takeover of a live creator's lock is (`liveTakeoverAt_iff`), the invariant "a live
worker that has created the lock file and not yet renamed it away is the creator of the lock file that
exists", its preservation by every event that is not such a takeover.
-/
namespace OptunaVerif.FileLock

theorem stepW_dead (cfg : Cfg) (sh : Shared) (w : Nat) (wk : Worker) :
    (stepW cfg sh w wk).2.1.dead = wk.dead := by
  unfold stepW doRename doUnlink
  repeat' split
  all_goals rfl

inductive LockEffect (sh sh' : Shared) (w : Nat) (wk wk' : Worker) : Prop where
  | same (h : sh'.lock = sh.lock) (hp : holding wk'.pc = true → holding wk.pc = true)
  | created (h0 : sh.lock = none) (h : sh'.lock = some (w, sh.now))
  | removed (o s : Nat) (h0 : sh.lock = some (o, s)) (h : sh'.lock = none) (hp : holding wk'.pc = false)
      (hpc : wk.pc = .tkRename ∨ wk.pc = .relRename)

theorem doRename_effect (sh : Shared) (w : Nat) (wk : Worker) (p : PC) (f : Worker)
    (hp : holding p = false) (hf : holding f.pc = false) (hpc : wk.pc = .tkRename ∨ wk.pc = .relRename) :
    LockEffect sh (doRename sh w wk p f).1 w wk (doRename sh w wk p f).2.1 := by
  unfold doRename
  split
  · rename_i o s h0
    exact .removed o s h0 rfl hp hpc
  · exact .same rfl (by simp [hf])

theorem stepW_effect (cfg : Cfg) (sh : Shared) (w : Nat) (wk : Worker) :
    LockEffect sh (stepW cfg sh w wk).1 w wk (stepW cfg sh w wk).2.1 := by
  -- the lock path is touched at three program points only
  by_cases ht : wk.pc = .create ∨ wk.pc = .tkRename ∨ wk.pc = .relRename
  · rcases ht with hpc | hpc | hpc <;> simp only [stepW, hpc]
    · split
      · exact .created ‹_› rfl
      · exact .same rfl (by cases cfg.grace <;> simp [holding, hpc])
    · exact doRename_effect _ _ _ _ _ rfl rfl (Or.inl hpc)
    · exact doRename_effect _ _ _ _ _ rfl rfl (Or.inr hpc)
  · have : (stepW cfg sh w wk).1.lock = sh.lock ∧ (holding (stepW cfg sh w wk).2.1.pc = true → holding wk.pc = true) := by
      revert ht
      unfold stepW doUnlink
      repeat' split
      all_goals simp_all [holding]
    exact .same this.1 this.2

theorem holding_of_inCrit {pc : PC} (h : inCrit pc = true) : holding pc = true := by
  cases pc <;> first | rfl | cases h

theorem liveAt_iff (st : St) (p : PC → Bool) (w : Nat) :
    liveAt st p w = true ↔ ∃ wk, st.ws[w]? = some wk ∧ wk.dead = false ∧ p wk.pc = true := by
  unfold liveAt
  cases st.ws[w]? <;> simp

theorem isLive_iff (st : St) (w : Nat) : isLive st w = true ↔ ∃ wk, st.ws[w]? = some wk ∧ wk.dead = false := by
  unfold isLive
  cases st.ws[w]? <;> simp

theorem liveTakeoverAt_iff (st : St) (e : Ev) :
    liveTakeoverAt st e = true ↔ ∃ a ak o s, e = .step a ∧ st.ws[a]? = some ak ∧ ak.dead = false ∧ ak.pc = .tkRename ∧
      st.sh.lock = some (o, s) ∧ isLive st o = true := by
  cases e with
  | step a => cases hl : st.sh.lock <;> simp [liveTakeoverAt, hl, liveAt_iff, Prod.ext_iff, ← exists_and_right, and_assoc]
  | tick | crash => simp [liveTakeoverAt]

theorem step_live (cfg : Cfg) (st : St) (w : Nat) (wk : Worker) (hw : st.ws[w]? = some wk) (hl : wk.dead = false) :
    step cfg st (.step w) =
      ({ sh := (stepW cfg st.sh w wk).1, ws := updAt st.ws w (fun _ => (stepW cfg st.sh w wk).2.1) },
       (stepW cfg st.sh w wk).2.2) := by
  simp [step, hw, hl]

theorem step_step (cfg : Cfg) (st : St) (a : Nat) :
    step cfg st (.step a) = (st, .noop) ∨ ∃ ak, st.ws[a]? = some ak ∧ ak.dead = false ∧
      step cfg st (.step a) =
        ({ sh := (stepW cfg st.sh a ak).1, ws := updAt st.ws a (fun _ => (stepW cfg st.sh a ak).2.1) },
         (stepW cfg st.sh a ak).2.2) := by
  cases ha : st.ws[a]? with
  | none => exact .inl (by simp [step, ha])
  | some ak =>
    cases hd : ak.dead with
    | true => exact .inl (by simp [step, ha, hd])
    | false => exact .inr ⟨ak, rfl, hd, step_live cfg st a ak ha hd⟩

theorem get_of_crash {ws : List Worker} {c w : Nat} {wk : Worker}
    (h : (updAt ws c (fun x => { x with dead := true }))[w]? = some wk) (hl : wk.dead = false) : ws[w]? = some wk := by
  rw [updAt_getElem?] at h
  split at h
  · cases hc : ws[w]? with
    | none => rw [hc] at h; cases h
    | some ck => rw [hc] at h; cases h; cases hl
  · exact h

theorem init_get {n w : Nat} {wk : Worker} (h : (init n).ws[w]? = some wk) : wk = freshWorker := by
  simp only [init, List.getElem?_replicate] at h
  split at h
  · exact (Option.some.inj h).symm
  · cases h

theorem forall_pc_step (P : PC → Prop) (cfg : Cfg) (st : St) (e : Ev)
    (hstep : ∀ sh w wk, P wk.pc → P (stepW cfg sh w wk).2.1.pc)
    (h : ∀ (w : Nat) (wk : Worker), st.ws[w]? = some wk → P wk.pc) :
    ∀ (w : Nat) (wk : Worker), (step cfg st e).1.ws[w]? = some wk → P wk.pc := by
  cases e with
  | tick => exact h
  | crash c =>
    simp only [step]
    split
    · rename_i ck hc
      split
      · exact h
      · intro w wk hw
        simp only [updAt_getElem?] at hw
        split at hw
        · rename_i e
          subst e
          simp only [hc, Option.map_some, Option.some.injEq] at hw
          subst hw
          exact h w ck hc
        · exact h w wk hw
    · exact h
  | step a =>
    rcases step_step cfg st a with h0 | ⟨ak, ha, hd, h1⟩
    · rw [h0]; exact h
    rw [h1]
    intro w wk hw
    simp only at hw
    by_cases hwa : w = a
    · subst hwa
      rw [updAt_self st.ws w ak _ ha] at hw
      simp only [Option.some.injEq] at hw
      subst hw
      exact hstep _ _ _ (h w ak ha)
    · rw [updAt_other st.ws a w _ hwa] at hw
      exact h w wk hw

/-- **the invariant**: a live worker between its successful create and its own rename is the creator
of the lock file that exists now -/
def Inv (st : St) : Prop :=
  ∀ (w : Nat) (wk : Worker), st.ws[w]? = some wk → wk.dead = false → holding wk.pc = true → ∃ s, st.sh.lock = some (w, s)

theorem inv_init (n : Nat) : Inv (init n) := by
  intro w wk h _ hh
  rw [init_get h] at hh
  cases hh

theorem inv_step (cfg : Cfg) (st : St) (e : Ev) (hi : Inv st) (hs : liveTakeoverAt st e = false) :
    Inv (step cfg st e).1 := by
  cases e with
  | tick => exact fun w wk h hl hh => hi w wk h hl hh
  | crash c =>
    simp only [step]
    split
    · split
      · exact hi
      · exact fun w wk h hl hh => hi w wk (get_of_crash h hl) hl hh
    · exact hi
  | step a =>
    rcases step_step cfg st a with h0 | ⟨ak, ha, hd, h1⟩
    · rw [h0]; exact hi
    rw [h1]
    intro w wk h hl hh
    simp only at h ⊢
    have eff := stepW_effect cfg st.sh a ak
    by_cases hwa : w = a
    · subst hwa
      rw [updAt_self st.ws w ak _ ha] at h
      simp only [Option.some.injEq] at h
      subst h
      cases eff with
      | same h0 hp =>
        obtain ⟨s, hs'⟩ := hi w ak ha hd (hp hh)
        exact ⟨s, by rw [h0, hs']⟩
      | created h0 h1 => exact ⟨_, h1⟩
      | removed o s h0 h1 hp hpc => rw [hp] at hh; simp at hh
    · rw [updAt_other st.ws a w _ hwa] at h
      obtain ⟨s, hws⟩ := hi w wk h hl hh
      cases eff with
      | same h0 hp => exact ⟨s, by rw [h0, hws]⟩
      | created h0 h1 => rw [h0] at hws; simp at hws
      | removed o s' h0 h1 hp hpc =>
        exfalso
        rw [h0] at hws
        simp only [Option.some.injEq, Prod.mk.injEq] at hws
        obtain ⟨how, _⟩ := hws
        subst how
        cases hpc with
        | inl htk =>
          -- a takeover: the hypothesis says the creator `o` of the lock file is not alive
          rw [(liveTakeoverAt_iff st _).2 ⟨a, ak, _, _, rfl, ha, hd, htk, h0, (isLive_iff st _).2 ⟨wk, h, hl⟩⟩] at hs
          cases hs
        | inr hrel =>
          -- the holder's own release: by the invariant the lock file is its own
          have hha : holding ak.pc = true := by simp [hrel, holding]
          obtain ⟨s2, h2⟩ := hi a ak ha hd hha
          rw [h0] at h2
          simp only [Option.some.injEq, Prod.mk.injEq] at h2
          exact hwa h2.1

theorem safeSched_cons (cfg : Cfg) (st : St) (e : Ev) (es : List Ev) :
    safeSched cfg st (e :: es) = true ↔ liveTakeoverAt st e = false ∧ safeSched cfg (step cfg st e).1 es = true := by
  simp [safeSched]

theorem inv_run (cfg : Cfg) (evs : List Ev) : ∀ (st : St), Inv st → safeSched cfg st evs = true → Inv (run cfg st evs) := by
  induction evs with
  | nil => intro st hi _; exact hi
  | cons e es ih =>
    intro st hi hs
    rw [safeSched_cons] at hs
    exact ih _ (inv_step cfg st e hi hs.1) hs.2

theorem run_append (cfg : Cfg) (a b : List Ev) : ∀ (st : St), run cfg st (a ++ b) = run cfg (run cfg st a) b := by
  induction a with
  | nil => intro st; rfl
  | cons e es ih => intro st; simp only [List.cons_append, run]; exact ih _

theorem safeSched_append (cfg : Cfg) (a b : List Ev) : ∀ (st : St),
    safeSched cfg st (a ++ b) = (safeSched cfg st a && safeSched cfg (run cfg st a) b) := by
  induction a with
  | nil => intro st; simp [safeSched, run]
  | cons e es ih => intro st; simp only [List.cons_append, safeSched, run, ih, Bool.and_assoc]

theorem safeSched_take (cfg : Cfg) (st : St) (evs : List Ev) (k : Nat) (h : safeSched cfg st evs = true) :
    safeSched cfg st (evs.take k) = true := by
  have := safeSched_append cfg (evs.take k) (evs.drop k) st
  rw [List.take_append_drop, h] at this
  simp only [Bool.true_eq, Bool.and_eq_true] at this
  exact this.1

def tkFree : PC → Bool
  | .stat | .resetTimer | .check | .tkRename | .tkUnlink | .tkRestart => false
  | _ => true

def TkFree (st : St) : Prop := ∀ (w : Nat) (wk : Worker), st.ws[w]? = some wk → tkFree wk.pc = true

theorem stepW_tkFree (cfg : Cfg) (hg : cfg.grace = none) (sh : Shared) (w : Nat) (wk : Worker) (h : tkFree wk.pc = true) :
    tkFree (stepW cfg sh w wk).2.1.pc = true := by
  -- the takeover points are entered only from a failed `create`, and only with a grace period
  unfold stepW doRename doUnlink
  split <;> rename_i hpc <;> (repeat' split) <;> simp_all [tkFree]

theorem tkFree_step (cfg : Cfg) (hg : cfg.grace = none) (st : St) (e : Ev) (h : TkFree st) : TkFree (step cfg st e).1 :=
  forall_pc_step (tkFree · = true) cfg st e (stepW_tkFree cfg hg) h

theorem tkFree_init (n : Nat) : TkFree (init n) := fun _ _ h => by rw [init_get h]; rfl

theorem liveTakeoverAt_of_tkFree (st : St) (e : Ev) (h : TkFree st) : liveTakeoverAt st e = false :=
  Bool.eq_false_iff.2 fun ht => by
    obtain ⟨a, ak, _, _, _, ha, _, hpc, _⟩ := (liveTakeoverAt_iff st e).1 ht
    have := h a ak ha
    rw [hpc] at this
    cases this

theorem safeSched_of_no_grace (cfg : Cfg) (hg : cfg.grace = none) (evs : List Ev) :
    ∀ (st : St), TkFree st → safeSched cfg st evs = true := by
  induction evs with
  | nil => intro st _; rfl
  | cons e es ih =>
    intro st h
    rw [safeSched_cons]
    exact ⟨liveTakeoverAt_of_tkFree st e h, ih _ (tkFree_step cfg hg st e h)⟩

theorem stepW_closing (cfg : Cfg) (sh : Shared) (w : Nat) (wk : Worker) (h : (stepW cfg sh w wk).2.1.pc = .closing) :
    cfg.kind = .openExcl := by
  -- `closing` is entered only by the successful create of the open lock
  revert h
  unfold stepW doRename doUnlink
  repeat' split
  all_goals simp_all

theorem stepW_pc_ne (cfg : Cfg) (sh : Shared) (w : Nat) (wk : Worker) : (stepW cfg sh w wk).2.1.pc ≠ wk.pc := by
  unfold stepW doRename doUnlink
  split <;> rename_i hpc <;> (repeat' split) <;> simp [hpc]

def solo (cfg : Cfg) (w : Nat) : Nat → Shared × Worker → Shared × Worker
  | 0, p => p
  | k + 1, p => solo cfg w k ((stepW cfg p.1 w p.2).1, (stepW cfg p.1 w p.2).2.1)

theorem solo_dead (cfg : Cfg) (w : Nat) (k : Nat) : ∀ (p : Shared × Worker), (solo cfg w k p).2.dead = p.2.dead := by
  induction k with
  | zero => intro p; rfl
  | succ k ih => intro p; simp only [solo]; rw [ih]; exact stepW_dead cfg p.1 w p.2

theorem run_solo (cfg : Cfg) (w : Nat) (k : Nat) : ∀ (st : St) (wk : Worker), st.ws[w]? = some wk → wk.dead = false →
    run cfg st (stepsOf w k) =
      { sh := (solo cfg w k (st.sh, wk)).1, ws := updAt st.ws w (fun _ => (solo cfg w k (st.sh, wk)).2) } := by
  induction k with
  | zero =>
    intro st wk hw _
    simp only [stepsOf, List.replicate_zero, run, solo]
    rw [updAt_id_of_get st.ws w wk hw]
  | succ k ih =>
    intro st wk hw hl
    simp only [stepsOf, List.replicate_succ, run]
    rw [step_live cfg st w wk hw hl]
    have := ih { sh := (stepW cfg st.sh w wk).1, ws := updAt st.ws w (fun _ => (stepW cfg st.sh w wk).2.1) }
      (stepW cfg st.sh w wk).2.1 (updAt_self st.ws w wk _ hw) (by rw [stepW_dead]; exact hl)
    simp only [stepsOf] at this
    rw [this]
    simp only [solo, updAt_updAt]

theorem solo_takeover (cfg : Cfg) (g : Nat) (hg : cfg.grace = some g) (sh : Shared) (w : Nat) (wk : Worker) (o s : Nat)
    (hpc : wk.pc = .create) (hlock : sh.lock = some (o, s)) (hm : wk.mtime = some s)
    (hlast : wk.last + g < sh.now) :
    (solo cfg w (match cfg.kind with | .symlink => 8 | .openExcl => 9) (sh, wk)).1.lock = some (w, sh.now) ∧
    (solo cfg w (match cfg.kind with | .symlink => 8 | .openExcl => 9) (sh, wk)).2.pc = .crit := by
  obtain ⟨kind, grace⟩ := cfg
  obtain ⟨pc, dead, mtime, last, nren, failed⟩ := wk
  obtain ⟨lock, now, tmps⟩ := sh
  simp only at hg hpc hlock hm hlast
  subst hg hpc hlock hm
  cases kind <;>
    simp [solo, stepW, doRename, doUnlink, isMine, hlast]


end OptunaVerif.FileLock
