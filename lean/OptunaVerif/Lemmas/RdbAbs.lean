import OptunaVerif.Lemmas.RdbViews
/-! The abstraction relation between the relational model and the contract model, and what follows
from it for the reading calls.  Core Lean only. -/
namespace OptunaVerif.Rdb
open OptunaVerif.Storage

/-- `paramDist` is book-keeping of the contract model, not something a storage returns -/
def erasePD (st : StudyS) : StudyS := { st with paramDist := [] }

/-- the rows the query of `_check_compatibility_with_previous_trial_param_distributions` ranges over -/
def State.paramRowOf (r : State) (sid : Nat) (name : String) (x : KRow String Param) : Prop :=
  x ∈ r.params ∧ x.key = name ∧ r.trialStudy? x.owner = some sid

def PDist (r : State) (sid : Nat) (name : String) (d1 : Dist) : Prop :=
  ∃ x, r.paramRowOf sid name x ∧ x.val.dist.compat d1 = true

/-- why it does not matter which row the `LIMIT 1` query of the compatibility check returns -/
def PC (r : State) : Prop :=
  ∀ sid name x y, r.paramRowOf sid name x → r.paramRowOf sid name y → x.val.dist.compat y.val.dist = true

theorem pdist_of_iff (s s' : State) (hiff : ∀ sid nm x, s'.paramRowOf sid nm x ↔ s.paramRowOf sid nm x) :
    (∀ sid nm d1, PDist s sid nm d1 → PDist s' sid nm d1) ∧ (PC s → PC s') :=
  ⟨fun sid nm _ ⟨x, hx, hc⟩ => ⟨x, (hiff sid nm x).mpr hx, hc⟩,
   fun hpc sid nm x y hx hy => hpc sid nm x y ((hiff sid nm x).mp hx) ((hiff sid nm y).mp hy)⟩

/-- **Abstraction relation** `Abs r a`: the tables `r` present the contract state `a`.
It is a relation and not a function because two components of `a` cannot be recomputed from the
tables: the records of the trials of deleted studies (the contract keeps them as dead entries, the
cascade deletes their rows) and `paramDist` (which distribution the last `set_trial_param` fixed). -/
structure Abs (r : State) (a : Spec) : Prop where
  inv : Inv r
  nStudies : a.studies.length = r.nStudy
  nTrials : a.trials.length = r.nTrial
  study : ∀ sid, (a.study? sid).map erasePD = r.studyView sid
  trial : ∀ tid, a.trial? tid = r.trialView tid
  bound : ∀ (i : Nat) (t : TrialS), a.trials[i]? = some t → t.study < a.studies.length
  /-- what `set_trial_param` fixed is compatible with a row the RDB compatibility query can return - hence, by `pc`, with every such row -/
  pdist : ∀ sid st name d1, a.study? sid = some st → st.paramDist.get? name = some d1 → PDist r sid name d1
  pc : PC r
  /-- (holds along well-formed histories) only finished trials carry values -/
  unfin : ∀ tid t, a.trial? tid = some t → t.state.isFinished = false → t.values = none
  /-- (holds along well-formed histories) objective values are never NaN -/
  nonan : ∀ tid t l, a.trial? tid = some t → t.values = some l → ∀ v ∈ l, v ≠ XVal.nan
  /-- (holds along well-formed histories) a study has at least one direction, each MINIMIZE or MAXIMIZE -/
  dirsOk : ∀ sid st, a.study? sid = some st → st.directions ≠ [] ∧ ∀ d ∈ st.directions, d = 1 ∨ d = 2

theorem abs_init : Abs init Storage.init := by
  refine ⟨inv_init, rfl, rfl, ?_, ?_, ?_, ?_, ?_, ?_, ?_, ?_⟩
  · intro sid; simp [Storage.init, Spec.study?, State.studyView, State.studyRow?, init]
  · intro tid; simp [Storage.init, Spec.trial?, State.trialView, State.trialRow?, init]
  · intro i t h; simp [Storage.init] at h
  · intro sid st name d1 h; simp [Storage.init, Spec.study?] at h
  · intro sid name x y hx; simp [State.paramRowOf, init] at hx
  · intro tid t h; simp [Storage.init, Spec.trial?] at h
  · intro tid t l h; simp [Storage.init, Spec.trial?] at h
  · intro sid st h; simp [Storage.init, Spec.study?] at h

def WfTrial (t : TrialS) : Prop :=
  (t.state.isFinished = false → t.values = none) ∧ ∀ l, t.values = some l → ∀ v ∈ l, v ≠ XVal.nan

theorem Abs.wfTrial {r : State} {a : Spec} (h : Abs r a) (tid : Nat) (t : TrialS) (ht : a.trial? tid = some t) :
    WfTrial t :=
  ⟨h.unfin tid t ht, fun l => h.nonan tid t l ht⟩

theorem Abs.wf_of_sub {r : State} {a : Spec} (h : Abs r a) (a' : Spec)
    (hsub : ∀ i t, a'.trial? i = some t → a.trial? i = some t) :
    (∀ tid t, a'.trial? tid = some t → t.state.isFinished = false → t.values = none) ∧
    (∀ tid t l, a'.trial? tid = some t → t.values = some l → ∀ v ∈ l, v ≠ XVal.nan) :=
  ⟨fun i t hi => (h.wfTrial i t (hsub i t hi)).1, fun i t l hi => (h.wfTrial i t (hsub i t hi)).2 l⟩

theorem abs_study_some (r : State) (a : Spec) (h : Abs r a) (sid : Nat) (st : StudyS) (hs : a.study? sid = some st) :
    ∃ row, r.studyRow? sid = some row ∧ (frozenStudy r row).2 = erasePD st := by
  have := h.study sid
  rw [hs, State.studyView] at this
  obtain ⟨row, hr, e⟩ := Option.map_eq_some_iff.mp this.symm
  exact ⟨row, hr, e⟩

theorem abs_study_none (r : State) (a : Spec) (h : Abs r a) (sid : Nat) (hs : a.study? sid = none) :
    r.studyRow? sid = none := by
  have := h.study sid
  rw [hs, State.studyView] at this
  exact Option.map_eq_none_iff.mp this.symm

theorem abs_study_row (r : State) (a : Spec) (h : Abs r a) (sid : Nat) (row : StudyRow) (hr : r.studyRow? sid = some row) :
    ∃ st, a.study? sid = some st ∧ (frozenStudy r row).2 = erasePD st := by
  cases hs : a.study? sid with
  | none => rw [abs_study_none r a h sid hs] at hr; simp at hr
  | some st =>
    obtain ⟨row', h1, h2⟩ := abs_study_some r a h sid st hs
    rw [hr] at h1
    simp only [Option.some.injEq] at h1
    subst h1
    exact ⟨st, rfl, h2⟩

theorem findStudy_abs (r : State) (a : Spec) (h : Abs r a) (sid : Nat) :
    (∃ row st, findStudy r sid = .ok row ∧ r.studyRow? sid = some row ∧ a.study? sid = some st ∧
        (frozenStudy r row).2 = erasePD st) ∨
    (findStudy r sid = .error (.api .keyError) ∧ a.study? sid = none ∧ r.studyRow? sid = none) := by
  rw [findStudy_eq r h.inv.1]
  cases hs : a.study? sid with
  | none =>
    have := abs_study_none r a h sid hs
    unfold State.studyRow? at this
    right
    simp [this, State.studyRow?]
  | some st =>
    obtain ⟨row, h1, h2⟩ := abs_study_some r a h sid st hs
    left
    unfold State.studyRow? at h1
    refine ⟨row, st, by simp [h1], h1, rfl, h2⟩

theorem abs_trial_row (r : State) (a : Spec) (h : Abs r a) (tid : Nat) (row : TrialRow) (hr : r.trialRow? tid = some row) :
    a.trial? tid = some (r.rowView row) := by
  rw [h.trial tid]; simp [State.trialView, hr]

theorem abs_trial_none (r : State) (a : Spec) (h : Abs r a) (tid : Nat) (hr : r.trialRow? tid = none) :
    a.trial? tid = none := by
  rw [h.trial tid]; simp [State.trialView, hr]

theorem abs_row_study_live (r : State) (a : Spec) (h : Abs r a) (row : TrialRow) (hr : row ∈ r.trials) :
    (a.study? row.study).isSome = true := by
  have h1 := abs_trial_row r a h row.id row (trialRow?_of_mem r h.inv.1 row hr)
  rw [trial?_some_iff] at h1
  exact h1.2

theorem updatable_abs (r : State) (a : Spec) (h : Abs r a) (tid : Nat) :
    (∃ row, updatableTrial r tid = .ok row ∧ r.trialRow? tid = some row ∧ a.writable tid = .ok (r.rowView row)) ∨
    (∃ e, updatableTrial r tid = .error (.api e) ∧ a.writable tid = .error e) := by
  unfold updatableTrial Spec.writable
  rw [findTrial_eq r h.inv.1]
  cases hr : r.trials.find? (fun x => x.id == tid) with
  | none =>
    right
    have : r.trialRow? tid = none := hr
    rw [abs_trial_none r a h tid this]
    exact ⟨.keyError, rfl, rfl⟩
  | some row =>
    have hrow : r.trialRow? tid = some row := hr
    rw [abs_trial_row r a h tid row hrow]
    simp only
    by_cases hf : row.state.isFinished = true
    · right; exact ⟨.updateFinished, by simp [hf], by simp [State.rowView, hf]⟩
    · left; exact ⟨row, by simp [hf], hrow, by simp [State.rowView, hf]⟩

theorem abs_trialsOf (r : State) (a : Spec) (h : Abs r a) (sid : Nat) (hlive : (a.study? sid).isSome = true) :
    a.trialsOf sid = (r.trials.filter (fun x => x.study == sid)).map (fun x => (x.id, r.rowView x)) := by
  apply trialsOf_eq_of_pointwise a sid hlive
  · rw [List.pairwise_map]
    exact (h.inv.1.trialsSorted.sublist List.filter_sublist).imp (by intro x y hxy; exact hxy)
  · intro i t
    rw [h.trial i]
    simp only [List.mem_map, List.mem_filter, beq_iff_eq, Prod.mk.injEq]
    constructor
    · rintro ⟨row, ⟨hrow, hst⟩, hid, hv⟩
      subst hid
      rw [State.trialView, trialRow?_of_mem r h.inv.1 row hrow]
      exact ⟨by simp [hv], by rw [← hv]; exact hst⟩
    · rintro ⟨hv, hst⟩
      unfold State.trialView at hv
      cases hrow : r.trialRow? i with
      | none => simp [hrow] at hv
      | some row =>
        simp only [hrow, Option.map_some, Option.some.injEq] at hv
        obtain ⟨hm, hid⟩ := trialRow?_some r i row hrow
        exact ⟨row, ⟨hm, by rw [← hv] at hst; exact hst⟩, hid, hv⟩

/-- FOREIGN KEY + cascade -/
theorem abs_no_rows_of_dead (r : State) (a : Spec) (h : Abs r a) (sid : Nat) (hd : a.study? sid = none) :
    r.trials.filter (fun x => x.study == sid) = [] := by
  rw [List.filter_eq_nil_iff]
  intro row hrow hs
  simp only [beq_iff_eq] at hs
  have := abs_row_study_live r a h row hrow
  rw [hs, hd] at this
  simp at this

theorem abs_liveStudies (r : State) (a : Spec) (h : Abs r a) :
    (liveStudies a).map (fun p => (p.1, erasePD p.2)) = r.studies.map (frozenStudy r) := by
  apply sorted_ext
  · rw [List.pairwise_map]
    exact (liveStudies_sorted a).imp (by intro x y hxy; exact hxy)
  · rw [List.pairwise_map]
    exact h.inv.1.studiesSorted.imp (by intro x y hxy; exact hxy)
  · intro x
    obtain ⟨i, st'⟩ := x
    simp only [List.mem_map, Prod.mk.injEq]
    constructor
    · rintro ⟨p, hp, e1, e2⟩
      obtain ⟨j, st⟩ := p
      simp only at e1 e2
      subst e1
      rw [mem_liveStudies] at hp
      obtain ⟨row, h1, h2⟩ := abs_study_some r a h j st hp
      obtain ⟨hm, hid⟩ := studyRow?_some r j row h1
      refine ⟨row, hm, ?_⟩
      rw [← e2, ← h2]
      show (row.id, (frozenStudy r row).2) = _
      rw [hid]
    · rintro ⟨row, hm, e⟩
      obtain ⟨st, h1, h2⟩ := abs_study_row r a h row.id row (studyRow?_of_mem r h.inv.1 row hm)
      refine ⟨(row.id, st), (mem_liveStudies a row.id st).mpr h1, ?_⟩
      have e1 : (frozenStudy r row).1 = i := by rw [e]
      have e2 : (frozenStudy r row).2 = st' := by rw [e]
      exact ⟨e1, by rw [← e2, h2]⟩

end OptunaVerif.Rdb
