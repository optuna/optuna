import OptunaVerif.Lemmas.RdbMut1
/-! Refinement, part 4: the frame for calls that rewrite one study, `set_study_user_attr`,
`set_study_system_attr`, `create_new_study`.  Core Lean only. -/
namespace OptunaVerif.Rdb
open OptunaVerif.Storage

theorem studyView_eq (s : State) (h : Inv0 s) (i : Nat) :
    s.studyView i = (s.studyRow? i).map (fun row => StudyS.mk row.name ((Tbl.ofOwner s.dirs row.id).map (fun x => x.val))
      (Tbl.kv id s.sUser row.id) (Tbl.kv id s.sSys row.id) []) := by
  unfold State.studyView
  cases s.studyRow? i with
  | none => rfl
  | some row => simp only [Option.map_some, frozenStudy_eq s h row]

/-- the frame for a call that rewrites one study by `f`, what a storage returns of it by `g` -/
theorem abs_updStudy (r r' : State) (a : Spec) (h : Abs r a) (hinv : Inv r') (sid : Nat) (f g : StudyS → StudyS)
    (hdir : ∀ st, (f st).directions = st.directions)
    (hcomm : ∀ st, erasePD (f st) = g (erasePD st))
    (htv : ∀ i, r'.trialView i = r.trialView i)
    (hrows : ∀ i nm x, r'.paramRowOf i nm x ↔ r.paramRowOf i nm x)
    (hn : r'.nStudy = r.nStudy ∧ r'.nTrial = r.nTrial)
    (hsv : ∀ i, r'.studyView i = if i = sid then (r.studyView i).map g else r.studyView i)
    (hpd : ∀ st name d1, a.study? sid = some st → (f st).paramDist.get? name = some d1 → PDist r sid name d1) :
    Abs r' (a.updStudy sid f) := by
  have hst : ∀ i, (a.updStudy sid f).study? i = if i = sid then (a.study? i).map f else a.study? i :=
    fun i => Storage.study?_updStudy a sid i f
  have hsome : ∀ i st, (a.updStudy sid f).study? i = some st →
      (i = sid ∧ ∃ st0, a.study? sid = some st0 ∧ st = f st0) ∨ a.study? i = some st := by
    intro i st hs
    rw [hst i] at hs
    split at hs
    · rename_i e
      subst e
      obtain ⟨st0, h0, e⟩ := Option.map_eq_some_iff.mp hs
      exact .inl ⟨rfl, st0, h0, e.symm⟩
    · exact .inr hs
  have hwf := h.wf_of_sub (a.updStudy sid f) (fun i t hi => by rwa [trial?_updStudy] at hi)
  refine ⟨hinv, ?_, hn.2 ▸ h.nTrials, ?_, fun i => by rw [trial?_updStudy, htv i]; exact h.trial i, ?_, ?_,
    (pdist_of_iff r r' hrows).2 h.pc, hwf.1, hwf.2, ?_⟩
  · show (updAt a.studies sid _).length = _
    rw [updAt_length, hn.1]; exact h.nStudies
  · intro i
    rw [hst i, hsv i, ← h.study i]
    split
    · cases a.study? i with
      | none => rfl
      | some st => simp only [Option.map_some, hcomm]
    · rfl
  · intro i t hi
    show _ < (updAt a.studies sid _).length
    rw [updAt_length]; exact h.bound i t hi
  · intro i st name d1 hs hp
    refine (pdist_of_iff r r' hrows).1 i name d1 ?_
    rcases hsome i st hs with ⟨rfl, st0, h0, rfl⟩ | hs
    · exact hpd st0 name d1 h0 hp
    · exact h.pdist i st name d1 hs hp
  · intro i st hs
    rcases hsome i st hs with ⟨rfl, st0, h0, rfl⟩ | hs
    · rw [hdir st0]; exact h.dirsOk i st0 h0
    · exact h.dirsOk i st hs

theorem abs_updStudy_attr (r r' : State) (a : Spec) (h : Abs r a) (hinv : Inv r') (sid : Nat) (f : StudyS → StudyS)
    (hf : ∀ st, (f st).directions = st.directions ∧ (f st).paramDist = st.paramDist)
    (hcomm : ∀ st, erasePD (f st) = f (erasePD st))
    (htv : ∀ i, r'.trialView i = r.trialView i)
    (hrows : ∀ i nm x, r'.paramRowOf i nm x ↔ r.paramRowOf i nm x)
    (hn : r'.nStudy = r.nStudy ∧ r'.nTrial = r.nTrial)
    (hsv : ∀ i, r'.studyView i = if i = sid then (r.studyView i).map f else r.studyView i) :
    Abs r' (a.updStudy sid f) :=
  abs_updStudy r r' a h hinv sid f f (fun st => (hf st).1) hcomm htv hrows hn hsv
    (fun st name d1 hs hp => h.pdist sid st name d1 hs ((hf st).2 ▸ hp))

theorem sim_setStudyAttr (sys : Bool) (r : State) (a : Spec) (h : Abs r a) (sid : Nat) (k v : String) :
    StepOk r a (if sys then .setStudySystemAttr sid k v else .setStudyUserAttr sid k v) := by
  unfold StepOk
  -- the user and the system table are treated alike; the upsert facts of both are at hand
  have hkU := fun i => Tbl.kv_upsertConflict id r.sUser r.nSUser h.inv.1.sUser sid k v i
  have hkS := fun i => Tbl.kv_upsertConflict id r.sSys r.nSSys h.inv.1.sSys sid k v i
  have hI := fun hsid => inv_putSAttr sys r h.inv sid hsid k v
  have hstep := setStudyAttr_eq sys r h.inv.1 sid k v
  cases sys
  all_goals
    simp only [Bool.false_eq_true, if_false, if_true, withRaised] at hI hstep ⊢
    simp only [step, Storage.step, hstep]
    rcases findStudy_abs r a h sid with ⟨srow, st, h1, h2, h3, h4⟩ | ⟨h1, h2, _⟩
    · simp only [h1, h3, commit]
      have hinv' := hI (findStudy_mem r h.inv.1 sid srow h1).2.2
      refine ⟨?_, by simp [Allowed]⟩
      refine abs_updStudy_attr r _ a h hinv' sid _ ?_ ?_ (fun _ => rfl) (fun _ _ _ => Iff.rfl) ⟨rfl, rfl⟩ ?_
      · intro _; exact ⟨rfl, rfl⟩
      · intro _; rfl
      intro i
      rw [studyView_eq _ hinv'.1, studyView_eq r h.inv.1]
      show (r.studyRow? i).map _ = _
      cases hq : r.studyRow? i with
      | none => simp
      | some row =>
        have hid := (studyRow?_some r i row hq).2
        simp only [Option.map_some, hkU, hkS, kvSet_string, id_eq, hid]
        split
        · rename_i e; subst e; simp
        · rfl
    · simp only [h1, h2, commit]
      exact ⟨h, by simp [Allowed]⟩

theorem studyView_withStudy (r : State) (h : Inv0 r) (name : String) (dirs : List Nat) (i : Nat) :
    (withStudy r name dirs).studyView i =
      if i = r.nStudy then some (StudyS.mk name dirs [] [] []) else r.studyView i := by
  show ((r.studies ++ [_]).find? _).map _ = _
  rw [find?_snoc (fun x : StudyRow => x.id) r.studies r.nStudy h.studiesBelow _ rfl i]
  split
  · simp only [Option.map_some, frozenStudy, withStudy, Tbl.ofOwner_append, h.dirsFk.ofOwner_eq_nil h.nStudy_fresh,
      h.sUserFk.ofOwner_eq_nil h.nStudy_fresh, h.sSysFk.ofOwner_eq_nil h.nStudy_fresh, List.nil_append, Tbl.ofOwner_map, if_true, List.map_map]
    exact congrArg (fun l => some (StudyS.mk name l [] [] [])) (List.zipIdx_map_fst 0 dirs)
  · rename_i hi
    show (r.studyRow? i).map _ = (r.studyRow? i).map _
    cases hq : r.studyRow? i with
    | none => rfl
    | some row =>
      have hne : row.id ≠ r.nStudy := (studyRow?_some r i row hq).2 ▸ hi
      simp only [Option.map_some, frozenStudy, withStudy, Tbl.ofOwner_append, Tbl.ofOwner_map, hne, if_false,
        List.append_nil]

theorem sim_createStudy (r : State) (a : Spec) (h : Abs r a) (name : String) (dirs : List Nat)
    (hwf : WfOp (.createStudy name dirs)) : StepOk r a (.createStudy name dirs) := by
  unfold StepOk
  simp only [withRaised]
  simp only [step, Storage.step, createStudy_eq, nameTaken_abs r a h name]
  by_cases hany : (r.studies.any fun x => x.name == name) = true
  · simp only [hany, if_true, commit]
    exact ⟨h, by simp [Allowed]⟩
  · simp only [hany, Bool.false_eq_true, if_false, commit]
    rw [h.nStudies]
    refine ⟨?_, by simp [Allowed]⟩
    have hwf' := h.wf_of_sub { a with studies := a.studies ++ [some (StudyS.mk name dirs [] [] [])] }
      (fun i t hi => by rwa [trial?_appendStudy a _ i h.bound] at hi)
    refine ⟨inv_withStudy r h.inv name dirs (fun x hx e => hany (List.any_eq_true.mpr ⟨x, hx, by simpa using e⟩)),
      ?_, ?_, ?_, ?_, ?_, ?_, h.pc, hwf'.1, hwf'.2, ?_⟩
    · simp [h.nStudies, withStudy]
    · exact h.nTrials
    · intro i
      rw [study?_append, studyView_withStudy r h.inv.1, h.nStudies]
      split
      · rfl
      · exact h.study i
    · intro i
      rw [trial?_appendStudy a _ i h.bound]
      exact h.trial i
    · intro i t hi
      have := h.bound i t hi
      simp only [List.length_append, List.length_singleton]; omega
    · intro i st nm d1 hs hp
      rw [study?_append] at hs
      split at hs
      · simp only [Option.some.injEq] at hs; subst hs; simp [AList.get?] at hp
      · exact h.pdist i st nm d1 hs hp
    · intro i st hs
      rw [study?_append] at hs
      split at hs
      · simp only [Option.some.injEq] at hs; subst hs; exact hwf
      · exact h.dirsOk i st hs

end OptunaVerif.Rdb
