import OptunaVerif.Lemmas.SearchSpace
/-!
# C17: `_SearchSpaceGroup.add_distributions` keeps the groups a canonical partition
-/
namespace OptunaVerif.SearchSpace

/-- `{name: search_space[name] for name in keys & dist_keys}` -/
def pieceIn (g d : Dists) : Dists := g.filter (fun p => (keys d).contains p.1)
/-- `{name: search_space[name] for name in keys - dist_keys}` -/
def pieceOut (g d : Dists) : Dists := g.filter (fun p => !(keys d).contains p.1)

def splitAll (gs : List Dists) (dk : List String) : List Dists :=
  gs.flatMap (fun g => [g.filter (fun p => dk.contains p.1), g.filter (fun p => !dk.contains p.1)])

theorem splitAll_cons (g : Dists) (gs : List Dists) (dk : List String) :
    splitAll (g :: gs) dk =
      g.filter (fun p => dk.contains p.1) :: g.filter (fun p => !dk.contains p.1) :: splitAll gs dk := rfl

/-- `dist_keys` after the loop: the names no group has -/
def restKeys (gs : List Dists) (dk : List String) : List String :=
  dk.filter (fun k => gs.all (fun g => !(keys g).contains k))

/-- `{name: distributions[name] for name in dist_keys}` after the loop -/
def pieceRest (gs : List Dists) (d : Dists) : Dists := d.filter (fun p => (restKeys gs (keys d)).contains p.1)

theorem mem_keys_flatten {gs : List Dists} {k : String} : k ∈ keys gs.flatten ↔ ∃ g ∈ gs, k ∈ keys g := by
  simp only [keys, List.mem_map, List.mem_flatten]
  constructor
  · rintro ⟨p, ⟨g, hg, hp⟩, rfl⟩; exact ⟨g, hg, p, hp, rfl⟩
  · rintro ⟨g, hg, p, hp, rfl⟩; exact ⟨p, ⟨g, hg, hp⟩, rfl⟩

theorem mem_keys_filter (l : Dists) (f : String → Bool) (k : String) :
    k ∈ keys (l.filter (fun p => f p.1)) ↔ k ∈ keys l ∧ f k = true := by
  simp only [keys, List.mem_map, List.mem_filter]
  constructor
  · rintro ⟨p, ⟨hp, hf⟩, rfl⟩; exact ⟨⟨p, hp, rfl⟩, hf⟩
  · rintro ⟨⟨p, hp, rfl⟩, hf⟩; exact ⟨p, ⟨hp, hf⟩, rfl⟩

theorem keys_pieceIn (g d : Dists) (k : String) : k ∈ keys (pieceIn g d) ↔ k ∈ keys g ∧ k ∈ keys d := by
  unfold pieceIn; rw [mem_keys_filter g (fun k => (keys d).contains k)]; simp

theorem keys_pieceOut (g d : Dists) (k : String) : k ∈ keys (pieceOut g d) ↔ k ∈ keys g ∧ k ∉ keys d := by
  unfold pieceOut; rw [mem_keys_filter g (fun k => !(keys d).contains k)]; simp

theorem mem_restKeys (gs : List Dists) (dk : List String) (k : String) :
    k ∈ restKeys gs dk ↔ k ∈ dk ∧ ∀ g ∈ gs, k ∉ keys g := by
  simp [restKeys, List.mem_filter, List.all_eq_true]

theorem keys_pieceRest (gs : List Dists) (d : Dists) (k : String) :
    k ∈ keys (pieceRest gs d) ↔ k ∈ keys d ∧ ∀ g ∈ gs, k ∉ keys g := by
  unfold pieceRest
  rw [mem_keys_filter d (fun k => (restKeys gs (keys d)).contains k)]
  simp only [List.contains_iff_mem, mem_restKeys]
  tauto

theorem addAux_spec : ∀ (gs : List Dists) (dk : List String), NodupKeys gs.flatten →
    addAux gs dk = (splitAll gs dk, restKeys gs dk) := by
  intro gs
  induction gs with
  | nil => intro dk _; simp [addAux, splitAll, restKeys]
  | cons g gs ih =>
    intro dk hnd
    have hnd' : NodupKeys gs.flatten := by
      unfold NodupKeys keys at *
      simp only [List.flatten_cons, List.map_append] at hnd
      exact (List.nodup_append.mp hnd).2.1
    have hdisj : ∀ g' ∈ gs, ∀ p ∈ g', p.1 ∉ keys g := by
      intro g' hg' p hp hk
      unfold NodupKeys keys at hnd
      simp only [List.flatten_cons, List.map_append] at hnd
      have := (List.nodup_append.mp hnd).2.2 p.1 hk p.1
        (List.mem_map.mpr ⟨p, List.mem_flatten.mpr ⟨g', hg', hp⟩, rfl⟩)
      exact this rfl
    simp only [addAux]
    rw [ih _ hnd']
    have hsplit : splitAll gs (dk.filter (fun k => !(keys g).contains k)) = splitAll gs dk := by
      unfold splitAll
      apply List.flatMap_congr
      intro g' hg'
      have e : ∀ p ∈ g', (dk.filter (fun k => !(keys g).contains k)).contains p.1 = dk.contains p.1 := by
        intro p hp
        have := hdisj g' hg' p hp
        rw [Bool.eq_iff_iff]
        simp only [List.mem_filter, Bool.not_eq_true', List.contains_eq_mem,
          decide_eq_false_iff_not, decide_eq_true_eq]
        tauto
      congr 1
      · exact List.filter_congr e
      · congr 1
        exact List.filter_congr (fun p hp => by rw [e p hp])
    have hrest : restKeys gs (dk.filter (fun k => !(keys g).contains k)) = restKeys (g :: gs) dk := by
      unfold restKeys
      rw [List.filter_filter]
      apply List.filter_congr
      intro k _
      simp only [List.all_cons]
      rw [Bool.and_comm]
    rw [hsplit, hrest, splitAll_cons]

theorem mem_splitAll {gs : List Dists} {d h : Dists} :
    h ∈ splitAll gs (keys d) ↔ ∃ g ∈ gs, h = pieceIn g d ∨ h = pieceOut g d := by
  simp only [splitAll, List.mem_flatMap, List.mem_cons, List.not_mem_nil, or_false, pieceIn, pieceOut]

theorem ne_nil_iff_key {h : Dists} : h ≠ [] ↔ ∃ k, k ∈ keys h := by
  cases h with
  | nil => simp [keys]
  | cons p t => simp [keys]

theorem mem_addDistributions {gs : List Dists} {d : Dists} (hnd : NodupKeys gs.flatten) {h : Dists} :
    h ∈ addDistributions gs d ↔
      h ≠ [] ∧ ((∃ g ∈ gs, h = pieceIn g d ∨ h = pieceOut g d) ∨ h = pieceRest gs d) := by
  unfold addDistributions
  simp only [addAux_spec gs (keys d) hnd, List.mem_filter, List.mem_append, List.mem_singleton,
    Bool.not_eq_true', List.isEmpty_eq_false_iff, mem_splitAll]
  unfold pieceRest
  exact and_comm

theorem flatten_filter_nonempty (L : List Dists) : (L.filter (fun g => !g.isEmpty)).flatten = L.flatten := by
  induction L with
  | nil => rfl
  | cons g L ih =>
    cases g with
    | nil => simp [ih]
    | cons p t => simp [ih]

theorem perm_flatten_splitAll (gs : List Dists) (dk : List String) : (splitAll gs dk).flatten.Perm gs.flatten := by
  induction gs with
  | nil => simp [splitAll]
  | cons g gs ih =>
    rw [splitAll_cons]
    simp only [List.flatten_cons]
    rw [← List.append_assoc]
    exact List.Perm.append (List.filter_append_perm _ _) ih

theorem nodupKeys_addDistributions {gs : List Dists} {d : Dists} (hnd : NodupKeys gs.flatten) (hd : NodupKeys d) :
    NodupKeys (addDistributions gs d).flatten := by
  unfold addDistributions
  rw [flatten_filter_nonempty, addAux_spec gs (keys d) hnd]
  simp only [List.flatten_append, List.flatten_cons, List.flatten_nil, List.append_nil]
  have hp : ((splitAll gs (keys d)).flatten ++ pieceRest gs d).Perm (gs.flatten ++ pieceRest gs d) :=
    List.Perm.append_right _ (perm_flatten_splitAll gs (keys d))
  show NodupKeys ((splitAll gs (keys d)).flatten ++ pieceRest gs d)
  unfold NodupKeys keys at *
  rw [(hp.map _).nodup_iff, List.map_append]
  refine List.nodup_append.mpr ⟨hnd, ?_, ?_⟩
  · exact nodupKeys_filter hd _
  · intro a ha b hb e
    subst e
    have h1 := (keys_pieceRest gs d a).mp hb
    obtain ⟨g, hg, hk⟩ := mem_keys_flatten.mp ha
    exact h1.2 g hg hk

def Seen (A : List Dists) (k : String) : Prop := ∃ d ∈ A, k ∈ keys d

def SameSig (A : List Dists) (a b : String) : Prop := ∀ d ∈ A, (a ∈ keys d ↔ b ∈ keys d)

structure GInv (A : List Dists) (gs : List Dists) : Prop where
  nonempty : ∀ g ∈ gs, g ≠ []
  nodup : NodupKeys gs.flatten
  cover : ∀ k, (∃ g ∈ gs, k ∈ keys g) ↔ Seen A k
  canon : ∀ g ∈ gs, ∀ a ∈ keys g, ∀ b, b ∈ keys g ↔ (Seen A b ∧ SameSig A a b)

theorem ginv_nil : GInv [] [] :=
  ⟨by simp, by simp [NodupKeys, keys], by simp [Seen], by simp⟩

theorem ginv_addDistributions {A gs : List Dists} {d : Dists} (h : GInv A gs) (hd : NodupKeys d) :
    GInv (A ++ [d]) (addDistributions gs d) := by
  obtain ⟨_, h2, h3, h4⟩ := h
  have seen' : ∀ k, Seen (A ++ [d]) k ↔ Seen A k ∨ k ∈ keys d := fun k => by
    simp only [Seen, List.mem_append, List.mem_singleton, or_and_right, exists_or, exists_eq_left]
  have sig' : ∀ a b, SameSig (A ++ [d]) a b ↔ SameSig A a b ∧ (a ∈ keys d ↔ b ∈ keys d) := fun a b => by
    simp only [SameSig, List.mem_append, List.mem_singleton, or_imp, forall_and, forall_eq]
  have notseen : ∀ k, (∀ g ∈ gs, k ∉ keys g) ↔ ¬ Seen A k := by
    intro k; rw [← h3 k]; simp
  -- a group that was there is cut in two by `d`: two of its names stay together exactly if `d` does not separate them
  have cut : ∀ g ∈ gs, ∀ a ∈ keys g, ∀ b, b ∈ keys g ∧ (a ∈ keys d ↔ b ∈ keys d) ↔
      (Seen A b ∨ b ∈ keys d) ∧ SameSig A a b ∧ (a ∈ keys d ↔ b ∈ keys d) := by
    intro g hg a hag b
    rw [h4 g hg a hag b]
    obtain ⟨x, hx, hax⟩ := (h3 a).mp ⟨g, hg, hag⟩
    exact ⟨fun ⟨⟨hsb, hsig⟩, hiff⟩ => ⟨Or.inl hsb, hsig, hiff⟩,
      fun ⟨_, hsig, hiff⟩ => ⟨⟨⟨x, hx, (hsig x hx).mp hax⟩, hsig⟩, hiff⟩⟩
  have canon : ∀ g' ∈ addDistributions gs d, ∀ a ∈ keys g', ∀ b, b ∈ keys g' ↔ (Seen (A ++ [d]) b ∧ SameSig (A ++ [d]) a b) := by
    intro g' hg' a ha b
    rw [seen', sig']
    obtain ⟨_, (⟨g, hg, e | e⟩ | e)⟩ := (mem_addDistributions h2).mp hg'
    · subst e
      obtain ⟨hag, had⟩ := (keys_pieceIn g d a).mp ha
      rw [keys_pieceIn, ← cut g hg a hag b]
      exact and_congr_right fun _ => ⟨iff_of_true had, fun h => h.mp had⟩
    · subst e
      obtain ⟨hag, had⟩ := (keys_pieceOut g d a).mp ha
      rw [keys_pieceOut, ← cut g hg a hag b]
      exact and_congr_right fun _ => ⟨iff_of_false had, fun h hb => had (h.mpr hb)⟩
    · subst e
      obtain ⟨had, hna⟩ := (keys_pieceRest gs d a).mp ha
      have hnsa : ¬ Seen A a := (notseen a).mp hna
      rw [keys_pieceRest, notseen]
      constructor
      · rintro ⟨hbd, hnsb⟩
        refine ⟨Or.inr hbd, ?_, iff_of_true had hbd⟩
        intro x hx
        constructor
        · intro hax; exact absurd ⟨x, hx, hax⟩ hnsa
        · intro hbx; exact absurd ⟨x, hx, hbx⟩ hnsb
      · rintro ⟨_, hsig, hiff⟩
        refine ⟨hiff.mp had, ?_⟩
        rintro ⟨x, hx, hbx⟩
        exact hnsa ⟨x, hx, (hsig x hx).mpr hbx⟩
  -- a name of a new group is seen, that being part of what `canon` says of it; the other way round:
  refine ⟨fun g hg => ((mem_addDistributions h2).mp hg).1, nodupKeys_addDistributions h2 hd,
    fun k => ⟨fun ⟨g', hg', hk⟩ => ((canon g' hg' k hk k).mp hk).1, fun hk => ?_⟩, canon⟩
  rw [seen'] at hk
  by_cases hs : Seen A k
  · obtain ⟨g, hg, hkg⟩ := (h3 k).mpr hs
    by_cases hkd : k ∈ keys d
    · have hk' := (keys_pieceIn g d k).mpr ⟨hkg, hkd⟩
      exact ⟨pieceIn g d, (mem_addDistributions h2).mpr ⟨ne_nil_iff_key.mpr ⟨k, hk'⟩, Or.inl ⟨g, hg, Or.inl rfl⟩⟩, hk'⟩
    · have hk' := (keys_pieceOut g d k).mpr ⟨hkg, hkd⟩
      exact ⟨pieceOut g d, (mem_addDistributions h2).mpr ⟨ne_nil_iff_key.mpr ⟨k, hk'⟩, Or.inl ⟨g, hg, Or.inr rfl⟩⟩, hk'⟩
  · have hkd : k ∈ keys d := hk.resolve_left hs
    have hk' := (keys_pieceRest gs d k).mpr ⟨hkd, (notseen k).mpr hs⟩
    exact ⟨pieceRest gs d, (mem_addDistributions h2).mpr ⟨ne_nil_iff_key.mpr ⟨k, hk'⟩, Or.inr rfl⟩, hk'⟩

theorem GInv.disjoint {A gs : List Dists} (h : GInv A gs) :
    (∀ g ∈ gs, (keys g).Nodup) ∧ (gs.map keys).Pairwise List.Disjoint := by
  have h2 := h.nodup
  unfold NodupKeys keys at h2
  rw [List.map_flatten, List.nodup_flatten] at h2
  exact ⟨fun g hg => h2.1 _ (List.mem_map.mpr ⟨g, hg, rfl⟩), h2.2⟩

theorem GInv.union {A gs : List Dists} (h : GInv A gs) {d : Dists} (hd : d ∈ A) {k : String} (hk : k ∈ keys d) :
    ∃ g ∈ gs, k ∈ keys g ∧ ∀ n ∈ keys g, n ∈ keys d := by
  obtain ⟨g, hg, hkg⟩ := (h.cover k).mpr ⟨d, hd, hk⟩
  exact ⟨g, hg, hkg, fun n hn => (((h.canon g hg k hkg n).mp hn).2 d hd).mp hk⟩

theorem ginv_foldl (ds : List Dists) : ∀ {A gs : List Dists}, GInv A gs → (∀ d ∈ ds, NodupKeys d) →
    GInv (A ++ ds) (ds.foldl addDistributions gs) := by
  induction ds with
  | nil => intro A gs h _; simpa using h
  | cons d ds ih =>
    intro A gs h hnd
    have h2 := ih (ginv_addDistributions h (hnd d (by simp))) (fun x hx => hnd x (by simp [hx]))
    simpa [List.append_assoc] using h2

theorem GInv.congr {A A' gs : List Dists} (h : GInv A gs) (hA : ∀ x, x ∈ A ↔ x ∈ A') : GInv A' gs := by
  obtain ⟨h1, h2, h3, h4⟩ := h
  have hs : ∀ k, Seen A k ↔ Seen A' k := fun k =>
    ⟨fun ⟨x, hx, hk⟩ => ⟨x, (hA x).mp hx, hk⟩, fun ⟨x, hx, hk⟩ => ⟨x, (hA x).mpr hx, hk⟩⟩
  have hg : ∀ a b, SameSig A a b ↔ SameSig A' a b := fun a b =>
    ⟨fun h x hx => h x ((hA x).mpr hx), fun h x hx => h x ((hA x).mp hx)⟩
  exact ⟨h1, h2, fun k => (h3 k).trans (hs k), fun g hg' a ha b => by rw [h4 g hg' a ha b, hs, hg]⟩

theorem GInv.unique {A gs gs' : List Dists} (h : GInv A gs) (h' : GInv A gs') {g : Dists} (hg : g ∈ gs) :
    ∃ g' ∈ gs', ∀ k, k ∈ keys g ↔ k ∈ keys g' := by
  obtain ⟨a, ha⟩ := ne_nil_iff_key.mp (h.nonempty g hg)
  obtain ⟨g', hg', ha'⟩ := (h'.cover a).mpr ((h.cover a).mp ⟨g, hg, ha⟩)
  exact ⟨g', hg', fun k => (h.canon g hg a ha k).trans (h'.canon g' hg' a ha' k).symm⟩

/-- the dicts the group calculator adds at a call -/
def goiDists (ip : Bool) (trials : List Trial) : List Dists :=
  (trials.filter (fun t => groupOfInterest ip t.state)).map Trial.dists

theorem mem_goiDists {ip : Bool} {trials : List Trial} {d : Dists} :
    d ∈ goiDists ip trials ↔ ∃ t ∈ trials, groupOfInterest ip t.state = true ∧ t.dists = d := by
  simp only [goiDists, List.mem_map, List.mem_filter, and_assoc]

theorem gcalculate_cases (c : GCalc) (sid : Nat) (trials : List Trial) :
    (c.calculate sid trials = (c, .valueError) ∧ ∃ x, c.studyId = some x ∧ x ≠ sid) ∨
    ((∀ x, c.studyId = some x → x = sid) ∧
      c.calculate sid trials =
        ({ c with studyId := some sid, groups := (goiDists c.includePruned trials).foldl addDistributions c.groups },
         .groups ((goiDists c.includePruned trials).foldl addDistributions c.groups))) := by
  unfold GCalc.calculate goiDists
  rw [List.foldl_map]
  cases h : c.studyId with
  | none => right; simp
  | some x =>
    by_cases hx : x = sid
    · right; subst hx; simp
    · left; simp [hx]

end OptunaVerif.SearchSpace
