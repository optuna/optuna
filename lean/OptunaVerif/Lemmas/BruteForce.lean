import OptunaVerif.Model.BruteForce
import OptunaVerif.Lemmas.OptimizeLoop
/-!
Lemmas about the brute-force sampler model (`Model/BruteForce.lean`, for Props/C14).  The idea: the tree that
`_populate_tree` builds from a history `H` of trials consistent with the program is a function of `H`, the
*specification tree* `specTree p H` (`populate_from_empty`; root-expanded for `sample_independent`, `buildTree_root`), and
its `count` is zero exactly when `remaining p H` is: the number of root-to-leaf paths (`leaves p`) that are not the path
of a finished trial (`evalOf H`), counted with the rules for a finite space of `Lemmas/OptimizeLoop.lean`
(`count_eq_zero_iff`; one direction needs `ModeOK`: strict mode, or no RUNNING trial).  The prefix filter of
`sample_independent` is `sub`, one step at a time (`buildTree_peel`), so an objective call is followed from the root down
with the history relative to the node it has reached: it never hits a sampler error and ends in a new leaf
(`runObj_spec`).  One `_run_trial` keeps the loop invariant `Inv` and lowers `remaining` by one (`runTrial_inv`), and the
sessions are instances of the rules of `Lemmas/OptimizeLoop.lean` (`session_eq`).  At the end: the candidate enumeration
of a distribution.
-/
namespace OptunaVerif.BruteForce

/-- `l` is a root-to-leaf path of `p` (what a trial that ran to the end has recorded). -/
def LeafPath : Prog → List Step → Prop
  | .leaf _, l => l = []
  | .node name _ cands child, l =>
    ∃ v rest, l = ⟨name, cands, v⟩ :: rest ∧ v ∈ cands ∧ LeafPath (child v) rest

/-- `l` is a path from the root to some node of `p` (what a RUNNING trial has recorded so far). -/
def Walk : Prog → List Step → Prop
  | .leaf _, l => l = []
  | .node name _ cands child, l =>
    l = [] ∨ ∃ v rest, l = ⟨name, cands, v⟩ :: rest ∧ v ∈ cands ∧ Walk (child v) rest

/-- A stored trial is consistent with the program. -/
def TrialOK (p : Prog) (t : Trial) : Prop :=
  if t.finished then LeafPath p t.steps else Walk p t.steps

def HasName : Prog → String → Prop
  | .leaf _, _ => False
  | .node name _ cands child, m => name = m ∨ ∃ v, v ∈ cands ∧ HasName (child v) m

/-- Well-formed program: candidate lists non-empty and duplicate-free, `single` only for
one-candidate domains, and no parameter name is asked twice along a path. -/
def Prog.WF : Prog → Prop
  | .leaf _ => True
  | .node name single cands child =>
    cands ≠ [] ∧ cands.Nodup ∧ (single = true → ∃ v, cands = [v]) ∧
      ∀ v, v ∈ cands → (Prog.WF (child v) ∧ ¬ HasName (child v) name)

/-- The trials of `H` that took value `v` at the current node, with that step removed. -/
def subOne (v : Val) (t : Trial) : Option Trial :=
  match t.steps with
  | [] => none
  | s :: rest => if s.value = v then some ⟨rest, t.finished⟩ else none

def sub (v : Val) (H : List Trial) : List Trial := H.filterMap (subOne v)

/-- Some trial of `H` makes the current node expanded: a finished trial (ending here or below) or
any trial that went further down. -/
def expandedHere (H : List Trial) : Bool := H.any (fun t => t.finished || !t.steps.isEmpty)

def runningHere (H : List Trial) : Bool := H.any (fun t => !t.finished && t.steps.isEmpty)

def finishedHere (H : List Trial) : Bool := H.any (fun t => t.finished && t.steps.isEmpty)

/-- The explored-space tree that the history `H` (trials relative to the root of `p`) determines. -/
def specTree : Prog → List Trial → Tree
  | .leaf _, H =>
    if expandedHere H then .exp none [] (fun _ => .unexp false) (runningHere H)
    else .unexp (runningHere H)
  | .node name _ cands child, H =>
    if expandedHere H then
      .exp (some name) cands (fun v => specTree (child v) (sub v H)) (runningHere H)
    else .unexp (runningHere H)

@[simp] theorem sub_nil (v : Val) : sub v [] = [] := rfl

theorem sub_append (v : Val) (H1 H2 : List Trial) : sub v (H1 ++ H2) = sub v H1 ++ sub v H2 := by
  simp [sub, List.filterMap_append]

@[simp] theorem expandedHere_nil : expandedHere [] = false := rfl
@[simp] theorem runningHere_nil : runningHere [] = false := rfl
@[simp] theorem finishedHere_nil : finishedHere [] = false := rfl

@[simp] theorem expandedHere_snoc (H : List Trial) (t : Trial) :
    expandedHere (H ++ [t]) = (expandedHere H || (t.finished || !t.steps.isEmpty)) := by
  simp [expandedHere]

@[simp] theorem runningHere_snoc (H : List Trial) (t : Trial) :
    runningHere (H ++ [t]) = (runningHere H || (!t.finished && t.steps.isEmpty)) := by
  simp [runningHere]

@[simp] theorem finishedHere_snoc (H : List Trial) (t : Trial) :
    finishedHere (H ++ [t]) = (finishedHere H || (t.finished && t.steps.isEmpty)) := by
  simp [finishedHere]

@[simp] theorem sub_single_nil (v : Val) (f : Bool) : sub v [⟨[], f⟩] = [] := by simp [sub, subOne]

theorem sub_of_not_expanded (v : Val) (H : List Trial) (h : expandedHere H = false) : sub v H = [] := by
  induction H with
  | nil => rfl
  | cons t H ih =>
    simp only [expandedHere, List.any_cons, Bool.or_eq_false_iff] at h
    obtain ⟨⟨_, h2⟩, h3⟩ := h
    have ih' := ih (by simpa [expandedHere] using h3)
    have : t.steps = [] := by
      cases hs : t.steps with
      | nil => rfl
      | cons a b => simp [hs] at h2
    simp only [sub, List.filterMap_cons, subOne, this]
    exact ih'

@[simp] theorem specTree_nil (p : Prog) : specTree p [] = .unexp false := by
  cases p <;> simp [specTree]

theorem sameKeys_self (a : List Val) : sameKeys a a = true := by
  simp [sameKeys, List.all_eq_true]

theorem finishedHere_le_expandedHere (H : List Trial) (h : finishedHere H = true) : expandedHere H = true := by
  simp only [finishedHere, expandedHere, List.any_eq_true, Bool.and_eq_true, Bool.or_eq_true] at *
  obtain ⟨t, ht, h1, _⟩ := h
  exact ⟨t, ht, Or.inl h1⟩

theorem trialOK_leaf {o : Outcome} {steps : List Step} {fin : Bool} (h : TrialOK (.leaf o) ⟨steps, fin⟩) :
    steps = [] := by
  cases fin <;> simpa [TrialOK, LeafPath, Walk] using h

theorem trialOK_cons {name : String} {sg : Bool} {cands : List Val} {child : Val → Prog} {s : Step}
    {rest : List Step} {fin : Bool} (h : TrialOK (.node name sg cands child) ⟨s :: rest, fin⟩) :
    s = ⟨name, cands, s.value⟩ ∧ s.value ∈ cands ∧ TrialOK (child s.value) ⟨rest, fin⟩ := by
  -- finished or not, the trial has taken a step of the root node and goes on below
  obtain ⟨v, rest', heq, hv, hp⟩ : ∃ v rest', s :: rest = ⟨name, cands, v⟩ :: rest' ∧ v ∈ cands ∧
      TrialOK (child v) ⟨rest', fin⟩ := by
    cases fin <;> simpa [TrialOK, LeafPath, Walk] using h
  cases heq
  exact ⟨rfl, hv, hp⟩

theorem mem_sub {v : Val} {H : List Trial} {t' : Trial} :
    t' ∈ sub v H ↔ ∃ s : Step, s.value = v ∧ ⟨s :: t'.steps, t'.finished⟩ ∈ H := by
  simp only [sub, List.mem_filterMap]
  constructor
  · rintro ⟨⟨steps, fin⟩, ht, hsome⟩
    cases steps with
    | nil => simp [subOne] at hsome
    | cons s rest =>
      simp only [subOne] at hsome
      split at hsome
      · rename_i hv
        cases hsome
        exact ⟨s, hv, ht⟩
      · cases hsome
  · rintro ⟨s, hv, ht⟩
    exact ⟨_, ht, by simp [subOne, hv]⟩

theorem sub_snoc (k : Val) (H : List Trial) (s : Step) (rest : List Step) (fin : Bool) :
    sub k (H ++ [⟨s :: rest, fin⟩]) = if s.value = k then sub k H ++ [⟨rest, fin⟩] else sub k H := by
  by_cases hk : s.value = k <;> simp [sub, subOne, hk]

theorem trialOK_sub (name : String) (sg : Bool) (cands : List Val) (child : Val → Prog) (v : Val)
    (H : List Trial) (h : ∀ t ∈ H, TrialOK (.node name sg cands child) t) :
    ∀ t ∈ sub v H, TrialOK (child v) t := by
  intro t' ht'
  obtain ⟨s, hv, ht⟩ := mem_sub.mp ht'
  have := (trialOK_cons (h _ ht)).2.2
  rwa [hv] at this

theorem sub_flags (v : Val) (H : List Trial) (b : Bool) (h : ∀ t ∈ H, t.finished = b) :
    ∀ t ∈ sub v H, t.finished = b := by
  intro t' ht'
  obtain ⟨s, _, ht⟩ := mem_sub.mp ht'
  exact h ⟨s :: t'.steps, t'.finished⟩ ht

theorem finOf_eq (steps steps' : List Step) (fin : Bool) :
    finOf ⟨steps, fin⟩ = finOf ⟨steps', fin⟩ := rfl

/-- The specification tree of a node with its root expanded: what `expand` makes of `specTree`, and the tree
`sample_independent` looks at (the children are the specification trees of the sub-programs, also when nobody
has been here yet). -/
def expandedSpec (name : String) (cands : List Val) (child : Val → Prog) (H : List Trial) : Tree :=
  .exp (some name) cands (fun v => specTree (child v) (sub v H)) (runningHere H)

theorem specTree_unexpanded (p : Prog) (H : List Trial) (he : expandedHere H = false) :
    specTree p H = .unexp (runningHere H) := by
  cases p <;> simp [specTree, he]

theorem specTree_node (name : String) (sg : Bool) (cands : List Val) (child : Val → Prog) (H : List Trial)
    (he : expandedHere H = true) : specTree (.node name sg cands child) H = expandedSpec name cands child H := by
  simp [specTree, he, expandedSpec]

theorem expandedSpec_of_unexpanded (name : String) (cands : List Val) (child : Val → Prog) (H : List Trial)
    (he : expandedHere H = false) :
    expandedSpec name cands child H = .exp (some name) cands (fun _ => .unexp false) (runningHere H) := by
  simp only [expandedSpec]
  congr 1
  funext v
  rw [sub_of_not_expanded v H he, specTree_nil]

theorem expand_specTree (name : String) (sg : Bool) (cands : List Val) (child : Val → Prog) (H : List Trial) :
    (specTree (.node name sg cands child) H).expand (some name) cands =
      some (expandedSpec name cands child H) := by
  by_cases he : expandedHere H = true
  · rw [specTree_node _ _ _ _ _ he]
    simp [expandedSpec, Tree.expand, sameKeys_self]
  · simp only [Bool.not_eq_true] at he
    rw [specTree_unexpanded _ _ he, expandedSpec_of_unexpanded _ _ _ _ he]
    rfl

theorem expand_expandedSpec (name : String) (cands : List Val) (child : Val → Prog) (H : List Trial) :
    (expandedSpec name cands child H).expand (some name) cands = some (expandedSpec name cands child H) := by
  simp [expandedSpec, Tree.expand, sameKeys_self]

theorem specTree_snoc_running (p : Prog) (H : List Trial) :
    specTree p (H ++ [⟨[], false⟩]) = (specTree p H).setRunning := by
  cases p <;> by_cases he : expandedHere H = true <;>
    simp [specTree, he, sub_append, Tree.setRunning]

theorem addPath_expandedSpec_cons (name : String) (cands : List Val) (child : Val → Prog) (H : List Trial)
    (v : Val) (rest : List Step) (fin : Bool) (hv : v ∈ cands)
    (hrec : (specTree (child v) (sub v H)).addPath (finOf ⟨rest, fin⟩) rest =
      some (specTree (child v) (sub v H ++ [⟨rest, fin⟩]))) :
    (expandedSpec name cands child H).addPath (finOf ⟨⟨name, cands, v⟩ :: rest, fin⟩) (⟨name, cands, v⟩ :: rest) =
      some (expandedSpec name cands child (H ++ [⟨⟨name, cands, v⟩ :: rest, fin⟩])) := by
  have hcont : cands.contains v = true := by simpa using hv
  rw [finOf_eq rest (⟨name, cands, v⟩ :: rest) fin] at hrec
  simp only [Tree.addPath, expand_expandedSpec]
  simp only [expandedSpec, hcont, hrec, if_true, runningHere_snoc, List.isEmpty_cons, Bool.and_false, Bool.or_false]
  congr 2
  funext k
  rw [sub_snoc]
  by_cases hk : v = k <;> simp [hk, eq_comm (a := k)]

theorem addPath_spec (p : Prog) : ∀ (H : List Trial) (steps : List Step) (fin : Bool),
    TrialOK p ⟨steps, fin⟩ →
    (specTree p H).addPath (finOf ⟨steps, fin⟩) steps = some (specTree p (H ++ [⟨steps, fin⟩])) := by
  induction p with
  | leaf o =>
    intro H steps fin hok
    have hs := trialOK_leaf hok
    subst hs
    cases fin with
    | false => rw [specTree_snoc_running]; rfl
    | true => cases he : expandedHere H <;> simp [Tree.addPath, finOf, Tree.setLeaf, Tree.expand, specTree, he, sameKeys]
  | node name single cands child ih =>
    intro H steps fin hok
    cases steps with
    | nil =>
      cases fin with
      | true => simp [TrialOK, LeafPath] at hok
      | false => rw [specTree_snoc_running]; rfl
    | cons s rest =>
      obtain ⟨hs, hv, hrest⟩ := trialOK_cons hok
      rw [hs]
      rw [hs] at hrest hv
      -- the node is expanded first, and is expanded afterwards
      rw [specTree_node name single cands child (H ++ [_]) (by simp),
        ← addPath_expandedSpec_cons name cands child H _ rest fin hv (ih _ _ rest fin hrest)]
      simp only [Tree.addPath, expand_specTree, expand_expandedSpec]

theorem dictMatch_nil (t : Trial) : dictMatch [] t = true := rfl

theorem restSteps_nil (t : Trial) : restSteps [] t = t.steps := by
  simp [restSteps]

theorem populate_cons (tree : Tree) (t : Trial) (rest : List Trial) (params : List (String × Val)) :
    populate tree (t :: rest) params =
      (if dictMatch params t then tree.addPath (finOf t) (restSteps params t) else some tree).bind
        (fun tree' => populate tree' rest params) := by
  rw [populate]
  split
  · cases tree.addPath (finOf t) (restSteps params t) <;> rfl
  · rfl

theorem populate_history (T : List Trial → Tree) (ok : Trial → Prop)
    (hadd : ∀ H steps fin, ok ⟨steps, fin⟩ →
      (T H).addPath (finOf ⟨steps, fin⟩) steps = some (T (H ++ [⟨steps, fin⟩])))
    (H1 : List Trial) : ∀ (H0 : List Trial), (∀ t ∈ H1, ok t) → populate (T H0) H1 [] = some (T (H0 ++ H1)) := by
  induction H1 with
  | nil => intro H0 _; simp [populate]
  | cons t rest ih =>
    intro H0 h
    obtain ⟨steps, fin⟩ := t
    rw [populate_cons, dictMatch_nil, if_pos rfl, restSteps_nil, hadd H0 steps fin (h _ (by simp))]
    have := ih (H0 ++ [⟨steps, fin⟩]) (fun x hx => h x (by simp [hx]))
    rwa [List.append_assoc] at this

/-- the full tree, as `after_trial` builds it -/
theorem populate_from_empty (p : Prog) (H : List Trial) (h : ∀ t ∈ H, TrialOK p t) :
    populate (Tree.unexp false) H [] = some (specTree p H) := by
  simpa using populate_history (specTree p) (TrialOK p) (addPath_spec p) H [] h

def Tree.isExp : Tree → Bool
  | .unexp _ => false
  | .exp _ _ _ _ => true

theorem expand_isExp (t t' : Tree) (n : Option String) (c : List Val) (h : t.expand n c = some t') :
    ∃ n' ks ch r, t' = .exp n' ks ch r := by
  cases t with
  | unexp r => simp [Tree.expand] at h; exact ⟨_, _, _, _, h.symm⟩
  | exp n0 ks ch r =>
    simp only [Tree.expand] at h
    split at h
    · cases h; exact ⟨_, _, _, _, rfl⟩
    · cases h

theorem addPath_isExp (fin : Tree → Option Tree)
    (hfin : ∀ t t', t.isExp = true → fin t = some t' → t'.isExp = true)
    (steps : List Step) (t t' : Tree) (ht : t.isExp = true) (h : t.addPath fin steps = some t') :
    t'.isExp = true := by
  cases steps with
  | nil => exact hfin _ _ ht h
  | cons s rest =>
    cases t with
    | unexp r => cases ht
    | exp n ks ch r =>
      simp only [Tree.addPath, Tree.expand] at h
      by_cases hc : (n == some s.name && sameKeys ks s.cands) = true
      · simp only [hc, if_true] at h
        by_cases hv : ks.contains s.value = true
        · simp only [hv, if_true] at h
          cases hr : Tree.addPath fin rest (ch s.value) with
          | none => simp [hr] at h
          | some c' => simp only [hr, Option.some.injEq] at h; subst h; rfl
        · simp only [hv, Bool.false_eq_true, if_false, Option.some.injEq] at h; subst h; rfl
      · simp [hc] at h

theorem finOf_isExp (tr : Trial) (t t' : Tree) (ht : t.isExp = true) (h : finOf tr t = some t') :
    t'.isExp = true := by
  cases t with
  | unexp r => cases ht
  | exp n ks ch r =>
    simp only [finOf] at h
    split at h
    · simp only [Tree.setLeaf, Tree.expand] at h
      split at h
      · cases h; rfl
      · cases h
    · cases h; rfl

theorem populate_isExp (params : List (String × Val)) (ts : List Trial) :
    ∀ (t t' : Tree), t.isExp = true → populate t ts params = some t' → t'.isExp = true := by
  induction ts with
  | nil => intro t t' ht h; simp only [populate] at h; cases h; exact ht
  | cons tr rest ih =>
    intro t t' ht h
    rw [populate_cons] at h
    obtain ⟨tree', hap, h⟩ := Option.bind_eq_some_iff.mp h
    refine ih tree' t' ?_ h
    split at hap
    · exact addPath_isExp _ (finOf_isExp tr) _ _ _ ht hap
    · cases hap; exact ht

theorem trialOK_names (p : Prog) : ∀ (steps : List Step) (fin : Bool), TrialOK p ⟨steps, fin⟩ →
    ∀ s ∈ steps, HasName p s.name := by
  induction p with
  | leaf o => intro steps fin h s hs; rw [trialOK_leaf h] at hs; cases hs
  | node name sg cands child ih =>
    intro steps fin h s hs
    cases steps with
    | nil => cases hs
    | cons a rest =>
      obtain ⟨ha, hv, hrest⟩ := trialOK_cons h
      rcases List.mem_cons.mp hs with rfl | hs
      · exact Or.inl (by rw [ha])
      · exact Or.inr ⟨_, hv, ih _ rest fin hrest s hs⟩

theorem all_congr_mem {α : Type} (l : List α) (f g : α → Bool) (h : ∀ x ∈ l, f x = g x) :
    l.all f = l.all g := by
  induction l with
  | nil => rfl
  | cons a l ih =>
    simp only [List.all_cons]
    rw [h a (by simp), ih (fun x hx => h x (by simp [hx]))]

theorem dictMatch_cons_cons (a s : Step) (π rest : List Step) (fin : Bool) (hn : s.name = a.name)
    (hπ : ∀ x ∈ π, x.name ≠ s.name) :
    dictMatch (paramsOf (a :: π)) ⟨s :: rest, fin⟩ =
      (decide (s.value = a.value) && dictMatch (paramsOf π) ⟨rest, fin⟩) := by
  simp only [dictMatch, paramsOf, List.map_cons, List.all_cons, List.find?_cons]
  have h1 : (s.name == a.name) = true := by simp [hn]
  simp only [h1, Option.map_some]
  congr 1
  apply all_congr_mem
  intro pv hpv
  simp only [List.mem_map] at hpv
  obtain ⟨x, hx, rfl⟩ := hpv
  have : (s.name == x.name) = false := by
    simp only [beq_eq_false_iff_ne, ne_eq]
    exact fun h => hπ x hx h.symm
  simp [this]

theorem restSteps_cons_cons (a s : Step) (π rest : List Step) (fin : Bool) (hn : s.name = a.name)
    (hrest : ∀ x ∈ rest, x.name ≠ s.name) :
    restSteps (paramsOf (a :: π)) ⟨s :: rest, fin⟩ = restSteps (paramsOf π) ⟨rest, fin⟩ := by
  simp only [restSteps, paramsOf, List.map_cons, List.any_cons, List.filter_cons]
  have h1 : (a.name == s.name) = true := by simp [hn]
  simp only [h1, Bool.true_or, Bool.not_true, Bool.false_eq_true, if_false]
  apply List.filter_congr
  intro x hx
  have : (a.name == x.name) = false := by
    simp only [beq_eq_false_iff_ne, ne_eq, ← hn]
    exact fun h => hrest x hx h.symm
  simp [this]

/-- Below the first step `s` of the prefix, `_populate_tree` sees the history relative to the child `s.value`: the
trials that took another value at the root fail the dictionary test, the others lose their first step to the name
filter.  (`name` is asked only at the root: by no other step of the prefix and by no later step of a trial.) -/
theorem populate_peel {name : String} {sg : Bool} {cands : List Val} {child : Val → Prog}
    (hwf : (Prog.node name sg cands child).WF) (s : Step) (hs : s.name = name) (pre : List Step)
    (hpre : ∀ x ∈ pre, x.name ≠ name) (H : List Trial) : ∀ (tree : Tree),
    (∀ t ∈ H, TrialOK (.node name sg cands child) t) →
    populate tree H (paramsOf (s :: pre)) = populate tree (sub s.value H) (paramsOf pre) := by
  induction H with
  | nil => intro tree _; rfl
  | cons t rest ih =>
    intro tree hok
    have ih' := fun tree' => ih tree' (fun x hx => hok x (List.mem_cons_of_mem _ hx))
    obtain ⟨steps, fin⟩ := t
    rw [populate_cons]
    cases steps with
    | nil =>
      have hdm : dictMatch (paramsOf (s :: pre)) ⟨[], fin⟩ = false := by simp [dictMatch, paramsOf]
      simp only [hdm, Bool.false_eq_true, if_false, Option.bind_some, ih', sub, List.filterMap_cons, subOne]
    | cons s' r =>
      obtain ⟨hs', hv', hr⟩ := trialOK_cons (hok _ (List.mem_cons_self ..))
      have hn : s'.name = name := by rw [hs']
      -- below this node nobody asks for its name again
      obtain ⟨_, hnot⟩ := hwf.2.2.2 _ hv'
      rw [dictMatch_cons_cons s s' pre r fin (hn.trans hs.symm) (fun x hx h => hpre x hx (h.trans hn)),
        show sub s.value (⟨s' :: r, fin⟩ :: rest) = sub s.value [⟨s' :: r, fin⟩] ++ sub s.value rest from
          sub_append _ [_] rest]
      by_cases hval : s'.value = s.value
      · -- same branch: the trial goes on below, without its first step
        rw [restSteps_cons_cons s s' pre r fin (hn.trans hs.symm)
          (fun x hx h => hnot (hn ▸ h ▸ trialOK_names _ r fin hr x hx))]
        simp only [hval, decide_true, Bool.true_and, sub, subOne, List.filterMap_cons, List.filterMap_nil, if_true,
          List.singleton_append, populate_cons, ih']
        rfl
      · simp only [hval, decide_false, Bool.false_and, Bool.false_eq_true, if_false, Option.bind_some, ih', sub,
          subOne, List.filterMap_cons, List.filterMap_nil, List.nil_append]

theorem buildTree_peel {name : String} {sg : Bool} {cands : List Val} {child : Val → Prog}
    (hwf : (Prog.node name sg cands child).WF) (s : Step) (hs : s.name = name) (pre : List Step)
    (hpre : ∀ x ∈ pre, x.name ≠ name) (H : List Trial) (hok : ∀ t ∈ H, TrialOK (.node name sg cands child) t)
    (n : String) (cs : List Val) : buildTree H (s :: pre) n cs = buildTree (sub s.value H) pre n cs := by
  simp only [buildTree, Tree.expand, populate_peel hwf s hs pre hpre H _ hok]

theorem addPath_expandedSpec (name : String) (sg : Bool) (cands : List Val) (child : Val → Prog)
    (H : List Trial) (steps : List Step) (fin : Bool)
    (hok : TrialOK (.node name sg cands child) ⟨steps, fin⟩) :
    (expandedSpec name cands child H).addPath (finOf ⟨steps, fin⟩) steps =
      some (expandedSpec name cands child (H ++ [⟨steps, fin⟩])) := by
  cases steps with
  | nil =>
    cases fin with
    | true => simp [TrialOK, LeafPath] at hok
    | false => simp [expandedSpec, Tree.addPath, finOf, Tree.setRunning, sub_append]
  | cons s rest =>
    obtain ⟨hs, hv, hrest⟩ := trialOK_cons hok
    rw [hs]
    rw [hs] at hrest hv
    exact addPath_expandedSpec_cons name cands child H _ rest fin hv (addPath_spec _ _ rest fin hrest)

theorem buildTree_root (name : String) (sg : Bool) (cands : List Val) (child : Val → Prog) (H : List Trial)
    (h : ∀ t ∈ H, TrialOK (.node name sg cands child) t) :
    buildTree H [] name cands = some (expandedSpec name cands child H) := by
  simpa [buildTree, Tree.expand, expandedSpec, paramsOf] using
    populate_history (expandedSpec name cands child) _ (addPath_expandedSpec name sg cands child) H [] h

theorem sum_map_eq_zero_iff {α : Type} (l : List α) (f : α → Nat) :
    (l.map f).sum = 0 ↔ ∀ x ∈ l, f x = 0 := by
  simp [List.sum_eq_zero_iff_forall_eq_nat]

theorem sum_map_pos_iff {α : Type} (l : List α) (f : α → Nat) :
    0 < (l.map f).sum ↔ ∃ x ∈ l, 0 < f x := by
  induction l with
  | nil => simp
  | cons a l ih =>
    simp only [List.map_cons, List.sum_cons, List.mem_cons, exists_eq_or_imp]
    rw [← ih]
    omega

theorem count_expandedSpec_pos (excl : Bool) (name : String) (sg : Bool) (cands : List Val) (child : Val → Prog)
    (H : List Trial) (hne : cands ≠ [])
    (h : 0 < (specTree (.node name sg cands child) H).count excl) :
    0 < (expandedSpec name cands child H).count excl := by
  by_cases he : expandedHere H = true
  · rwa [specTree_node _ _ _ _ _ he] at h
  · simp only [Bool.not_eq_true] at he
    rw [expandedSpec_of_unexpanded _ _ _ _ he]
    simp only [Tree.count]
    rw [sum_map_pos_iff]
    cases cands with
    | nil => exact absurd rfl hne
    | cons a l => exact ⟨a, by simp, by simp⟩

theorem zip_map_self (keys : List Val) (w : Val → Nat) :
    keys.zip (keys.map w) = keys.map (fun k => (k, w k)) := by
  simpa using List.zip_map' (f := id) (g := w) (l := keys)

theorem pick_map (keys : List Val) (w : Val → Nat) (proposal : Val) (h : ∃ k ∈ keys, 0 < w k) :
    pick keys (keys.map w) proposal ∈ keys ∧ 0 < w (pick keys (keys.map w) proposal) := by
  have hz := zip_map_self keys w
  unfold pick
  rw [hz]
  split
  · rename_i hany
    simp only [List.any_map, List.any_eq_true, Function.comp, Bool.and_eq_true, beq_iff_eq,
      decide_eq_true_eq] at hany
    obtain ⟨k, hk, hkp, hkw⟩ := hany
    subst hkp
    exact ⟨hk, hkw⟩
  · split
    · rename_i kw hf
      have h1 := List.find?_some hf
      have h2 := List.mem_of_find?_eq_some hf
      simp only [List.mem_map] at h2
      obtain ⟨k, hk, hke⟩ := h2
      subst hke
      simp only [decide_eq_true_eq] at h1
      exact ⟨hk, h1⟩
    · rename_i hf
      rw [List.find?_eq_none] at hf
      obtain ⟨k, hk, hw⟩ := h
      exact absurd (by simpa using hw) (hf (k, w k) (by simp only [List.mem_map]; exact ⟨k, hk, rfl⟩))

theorem sampleChild_pos (excl : Bool) (n : Option String) (ks : List Val) (ch : Val → Tree) (r : Bool)
    (proposal : Val) (h : 0 < (Tree.exp n ks ch r).count excl) :
    (Tree.exp n ks ch r).sampleChild excl proposal ∈ ks ∧
      0 < (ch ((Tree.exp n ks ch r).sampleChild excl proposal)).count excl := by
  simp only [Tree.count] at h
  rw [sum_map_pos_iff] at h
  obtain ⟨k0, hk0, hc0⟩ := h
  simp only [Tree.sampleChild, Tree.keys, Tree.weights]
  generalize hprio : (ks.any fun k => !(ch k).isRunning && decide (0 < (ch k).count excl)) = prio
  -- zeroing the running children leaves a positive weight: it is done only when a child that is not running has one; and
  -- `pick` returns a key of positive weight whenever there is one, whatever the RNG proposes (`pick_map`)
  have hex : ∃ k ∈ ks, 0 < (if (prio && (ch k).isRunning) = true then 0 else (ch k).count excl) := by
    cases prio with
    | false => exact ⟨k0, hk0, by simpa using hc0⟩
    | true =>
      simp only [List.any_eq_true, Bool.and_eq_true, Bool.not_eq_true', decide_eq_true_eq] at hprio
      obtain ⟨k, hk, hr, hc⟩ := hprio
      exact ⟨k, hk, by simp [hr, hc]⟩
  have := pick_map ks (fun k => if (prio && (ch k).isRunning) = true then 0 else (ch k).count excl)
    proposal hex
  refine ⟨this.1, ?_⟩
  have h2 := this.2
  split at h2
  · omega
  · exact h2

def numLeaves : Prog → Nat
  | .leaf _ => 1
  | .node _ _ cands child => (cands.map (fun v => numLeaves (child v))).sum

def leaves : Prog → List (List Step)
  | .leaf _ => [[]]
  | .node name _ cands child => cands.flatMap (fun v => (leaves (child v)).map (fun l => ⟨name, cands, v⟩ :: l))

theorem mem_leaves_iff (p : Prog) : ∀ (l : List Step), l ∈ leaves p ↔ LeafPath p l := by
  induction p with
  | leaf o => intro l; simp [leaves, LeafPath]
  | node name sg cands child ih =>
    intro l
    simp only [leaves, LeafPath, List.mem_flatMap, List.mem_map]
    constructor
    · rintro ⟨v, hv, r, hr, rfl⟩
      exact ⟨v, r, rfl, hv, (ih v r).mp hr⟩
    · rintro ⟨v, r, rfl, hv, hp⟩
      exact ⟨v, hv, r, (ih v r).mpr hp, rfl⟩

theorem length_leaves (p : Prog) : (leaves p).length = numLeaves p := by
  induction p with
  | leaf o => simp [leaves, numLeaves]
  | node name sg cands child ih =>
    simp only [leaves, numLeaves, List.length_flatMap, List.length_map]
    rw [List.map_congr_left fun v _ => ih v]

theorem leaves_nodup (p : Prog) : p.WF → (leaves p).Nodup := by
  induction p with
  | leaf o => intro _; simp [leaves]
  | node name sg cands child ih =>
    intro hwf
    simp only [Prog.WF] at hwf
    obtain ⟨_, hnd, _, hkids⟩ := hwf
    simp only [leaves]
    unfold List.Nodup
    rw [List.pairwise_flatMap]
    constructor
    · intro v hv
      rw [List.pairwise_map]
      have := ih v (hkids v hv).1
      unfold List.Nodup at this
      exact List.Pairwise.imp (fun hne h => hne (List.cons.inj h).2) this
    · unfold List.Nodup at hnd
      refine List.Pairwise.imp ?_ hnd
      intro a b hab x hx y hy hxy
      simp only [List.mem_map] at hx hy
      obtain ⟨_, _, rfl⟩ := hx
      obtain ⟨_, _, rfl⟩ := hy
      have := (List.cons.inj hxy).1
      simp only [Step.mk.injEq] at this
      exact hab this.2.2

theorem numLeaves_pos (p : Prog) : p.WF → 0 < numLeaves p := by
  induction p with
  | leaf o => intro _; simp [numLeaves]
  | node name sg cands child ih =>
    intro hwf
    simp only [Prog.WF] at hwf
    obtain ⟨hne, _, _, hkids⟩ := hwf
    simp only [numLeaves]
    rw [sum_map_pos_iff]
    cases cands with
    | nil => exact absurd rfl hne
    | cons v l => exact ⟨v, by simp, ih v (hkids v (by simp)).1⟩

/-- the parameter combinations evaluated to the end (paths of the finished trials, by number) -/
def evalOf (H : List Trial) : List (List Step) := (H.filter (·.finished)).map (·.steps)

def evaluated (st : St) : List (List Step) := evalOf st.trials

theorem mem_evalOf {H : List Trial} {l : List Step} : l ∈ evalOf H ↔ ⟨l, true⟩ ∈ H := by
  simp only [evalOf, List.mem_map, List.mem_filter]
  constructor
  · rintro ⟨⟨steps, fin⟩, ⟨ht, hf⟩, rfl⟩
    cases hf
    exact ht
  · intro h
    exact ⟨_, ⟨h, rfl⟩, rfl⟩

theorem evalOf_snoc (H : List Trial) (l : List Step) : evalOf (H ++ [⟨l, true⟩]) = evalOf H ++ [l] := by
  simp [evalOf, List.filter_append]

theorem mem_evalOf_sub {v : Val} {H : List Trial} {l : List Step} :
    l ∈ evalOf (sub v H) ↔ ∃ s : Step, s.value = v ∧ s :: l ∈ evalOf H := by
  simp only [mem_evalOf, mem_sub]

/-- number of leaves of `p` that no finished trial of `H` has reached -/
def remaining (p : Prog) (H : List Trial) : Nat := (toVisit (leaves p) (evalOf H)).length

theorem remaining_zero_iff (p : Prog) (H : List Trial) :
    remaining p H = 0 ↔ ∀ l, LeafPath p l → l ∈ evalOf H := by
  simp only [remaining, length_toVisit_eq_zero_iff, mem_leaves_iff]

theorem evalOf_all_running (H : List Trial) (h : ∀ t ∈ H, t.finished = false) : evalOf H = [] := by
  rw [evalOf, List.filter_eq_nil_iff.mpr fun t ht => by simp [h t ht]]
  rfl

theorem remaining_all_running (p : Prog) (H : List Trial) (h : ∀ t ∈ H, t.finished = false) :
    remaining p H = numLeaves p := by
  rw [remaining, evalOf_all_running H h, toVisit_nil, length_leaves]

theorem remaining_step (p : Prog) (H : List Trial) (l : List Step) (hwf : p.WF) (hl : LeafPath p l)
    (hnew : l ∉ evalOf H) : remaining p (H ++ [⟨l, true⟩]) + 1 = remaining p H := by
  rw [remaining, evalOf_snoc]
  exact length_toVisit_snoc (leaves_nodup p hwf) ((mem_leaves_iff p l).mpr hl) hnew

theorem runningHere_of_all_finished (H : List Trial) (h : ∀ t ∈ H, t.finished = true) :
    runningHere H = false := by
  simp only [runningHere, List.any_eq_false]
  intro t ht
  simp [h t ht]

/-- The mode hypothesis of the main theorem: strict mode (`avoid_premature_stop=True`, the count
does not exclude running nodes), or no RUNNING trial in the history. -/
def ModeOK (excl : Bool) (H : List Trial) : Prop := excl = false ∨ ∀ t ∈ H, t.finished = true

theorem modeOK_sub (excl : Bool) (v : Val) (H : List Trial) (h : ModeOK excl H) : ModeOK excl (sub v H) := by
  rcases h with h | h
  · exact Or.inl h
  · exact Or.inr (sub_flags v H true h)

theorem count_unexp_modeOK (excl : Bool) (H : List Trial) (h : ModeOK excl H) :
    (Tree.unexp (runningHere H)).count excl = 1 := by
  rcases h with h | h
  · simp [Tree.count, h]
  · simp [Tree.count, runningHere_of_all_finished H h]

/-- an unexpanded node counts (in the default mode: unless a RUNNING trial stands on it) -/
theorem expanded_of_count_zero (excl : Bool) (p : Prog) (H : List Trial) (hm : ModeOK excl H)
    (hc : (specTree p H).count excl = 0) : expandedHere H = true := by
  by_cases he : expandedHere H = true
  · exact he
  · rw [specTree_unexpanded p H (by simpa using he)] at hc
    have := count_unexp_modeOK excl H hm
    omega

/-- needs the mode hypothesis: in the default mode a stale RUNNING trial hides its node -/
theorem visited_of_count_zero (excl : Bool) (p : Prog) : ∀ (H : List Trial),
    (∀ t ∈ H, TrialOK p t) → ModeOK excl H → (specTree p H).count excl = 0 →
    ∀ l, LeafPath p l → l ∈ evalOf H := by
  induction p with
  | leaf o =>
    intro H hok hm hc l hl
    -- some trial made the node expanded, and at a leaf its path is empty: it is finished
    have he := expanded_of_count_zero excl _ H hm hc
    simp only [expandedHere, List.any_eq_true] at he
    obtain ⟨⟨steps, fin⟩, ht, hfe⟩ := he
    obtain rfl := trialOK_leaf (hok _ ht)
    obtain rfl : fin = true := by simpa using hfe
    obtain rfl : l = [] := hl
    exact mem_evalOf.mpr ht
  | node name sg cands child ih =>
    intro H hok hm hc l hl
    obtain ⟨v, rest, rfl, hv, hp⟩ := hl
    rw [specTree_node _ _ _ _ _ (expanded_of_count_zero excl _ H hm hc), expandedSpec, Tree.count,
      sum_map_eq_zero_iff] at hc
    obtain ⟨s, hsv, hs⟩ := mem_evalOf_sub.mp
      (ih v (sub v H) (trialOK_sub name sg cands child v H hok) (modeOK_sub excl v H hm) (hc v hv) rest hp)
    rwa [(trialOK_cons (hok _ (mem_evalOf.mp hs))).1, hsv] at hs

theorem count_zero_of_visited (excl : Bool) (p : Prog) : ∀ (H : List Trial), p.WF →
    (∀ l, LeafPath p l → l ∈ evalOf H) → (specTree p H).count excl = 0 := by
  induction p with
  | leaf o =>
    intro H _ h
    have hf : finishedHere H = true := by
      simp only [finishedHere, List.any_eq_true]
      exact ⟨_, mem_evalOf.mp (h [] rfl), rfl⟩
    simp [specTree, finishedHere_le_expandedHere H hf, Tree.count]
  | node name sg cands child ih =>
    intro H hwf h
    -- a program has a leaf, and the finished trial that reached it went through the root
    have he : expandedHere H = true := by
      obtain ⟨l, hl⟩ := List.exists_mem_of_length_pos (length_leaves _ ▸ numLeaves_pos _ hwf)
      simp only [expandedHere, List.any_eq_true]
      exact ⟨_, mem_evalOf.mp (h l ((mem_leaves_iff _ l).mp hl)), rfl⟩
    rw [specTree_node _ _ _ _ _ he, expandedSpec, Tree.count, sum_map_eq_zero_iff]
    intro v hv
    exact ih v (sub v H) (hwf.2.2.2 v hv).1
      (fun l hl => mem_evalOf_sub.mpr ⟨⟨name, cands, v⟩, rfl, h _ ⟨v, l, rfl, hv, hl⟩⟩)

theorem count_eq_zero_iff (excl : Bool) (p : Prog) (H : List Trial) (hwf : p.WF) (hok : ∀ t ∈ H, TrialOK p t)
    (hm : ModeOK excl H) : (specTree p H).count excl = 0 ↔ remaining p H = 0 := by
  rw [remaining_zero_iff]
  exact ⟨visited_of_count_zero excl p H hok hm, count_zero_of_visited excl p H hwf⟩

/-- no leaf of the program raises an exception that `optimize` does not catch -/
def NoRaise : Prog → Prop
  | .leaf o => o.raises = false
  | .node _ _ cands child => ∀ v, v ∈ cands → NoRaise (child v)

/-- **One objective call**, at any depth.  `G` and `ctx` are the history and the prefix the sampler is called with; the
tree it builds from them for a prefix `ctx ++ pre` is the tree it would build for `pre` from the history `H`, the
history relative to `q` (at the root `G = H` and `ctx = []`; one step down `buildTree_peel` gives `sub v H`). -/
theorem runObj_spec (avoid : Bool) (ω : Nat → Val) (G : List Trial) (cut : Cut) (hcut : ∀ j, cut ≠ .mid j)
    (q : Prog) : ∀ (ctx : List Step) (H : List Trial) (c : Nat), q.WF → (∀ t ∈ H, TrialOK q t) →
      (∀ (pre : List Step) (n : String) (cs : List Val), (∀ x ∈ pre, HasName q x.name) →
        buildTree G (ctx ++ pre) n cs = buildTree H pre n cs) →
      0 < (specTree q H).count (!avoid) →
      (runObj avoid ω G q ctx c cut).1.isError = false ∧
      (∃ l, (runObj avoid ω G q ctx c cut).1.steps = ctx ++ l ∧ LeafPath q l ∧ l ∉ evalOf H) ∧
      (cut = .none → NoRaise q → (runObj avoid ω G q ctx c cut).1.raised = false) := by
  induction q with
  | leaf o =>
    intro ctx H c _ _ _ hc
    have hfin : [] ∉ evalOf H := fun h =>
      Nat.ne_of_gt hc (count_zero_of_visited _ (.leaf o) H trivial fun l hl => hl ▸ h)
    cases cut with
    | none => exact ⟨rfl, ⟨[], (List.append_nil _).symm, rfl, hfin⟩, fun _ h => h⟩
    | mid j => exact ⟨rfl, ⟨[], (List.append_nil _).symm, rfl, hfin⟩, fun h => by simp at h⟩
    | atEnd => exact ⟨rfl, ⟨[], (List.append_nil _).symm, rfl, hfin⟩, fun h => by simp at h⟩
  | node name sg cands child ih =>
    intro ctx H c hwf hok hsee hc
    have ⟨hne, _, hsingle, hkids⟩ := hwf
    have hcf := count_expandedSpec_pos (!avoid) name sg cands child _ hne hc
    rw [expandedSpec] at hcf
    have hnotmid : ¬ (cut = Cut.mid ctx.length) := hcut ctx.length
    -- the value taken at this node, the call counter afterwards, and something still unexpanded below
    obtain ⟨v, c', hvm, hstep, hc'⟩ : ∃ v c', v ∈ cands ∧
        runObj avoid ω G (.node name sg cands child) ctx c cut =
          runObj avoid ω G (child v) (ctx ++ [⟨name, cands, v⟩]) c' cut ∧
        0 < (specTree (child v) (sub v H)).count (!avoid) := by
      by_cases hsg : sg = true
      · obtain ⟨v, hv⟩ := hsingle hsg
        refine ⟨v, c, by simp [hv], by simp [runObj, hnotmid, hsg, hv], ?_⟩
        simp only [Tree.count, hv, List.map_cons, List.map_nil, List.sum_cons, List.sum_nil] at hcf
        simpa using hcf
      · have hbt := (hsee [] name cands (by simp)).trans (buildTree_root name sg cands child H hok)
        rw [List.append_nil, expandedSpec] at hbt
        have hpos := sampleChild_pos (!avoid) (some name) cands _ (runningHere H) (ω c) hcf
        refine ⟨_, c + 1, hpos.1, ?_, hpos.2⟩
        simp [runObj, hnotmid, hsg, sampleIndependent, hbt, Nat.ne_of_gt hcf]
    rw [hstep]
    obtain ⟨hwfc, hnot⟩ := hkids v hvm
    -- below the step just taken the sampler sees the history relative to the child
    obtain ⟨h1, ⟨l, hl, hlp, hnew⟩, h3⟩ := ih v (ctx ++ [⟨name, cands, v⟩]) (sub v H) c' hwfc
      (trialOK_sub name sg cands child v H hok)
      (fun pre n cs hpre => by
        rw [List.append_assoc, List.singleton_append,
          hsee _ n cs (by
            intro x hx
            rcases List.mem_cons.mp hx with rfl | hx
            · exact Or.inl rfl
            · exact Or.inr ⟨v, hvm, hpre x hx⟩),
          buildTree_peel hwf ⟨name, cands, v⟩ rfl pre (fun x hx h => hnot (h ▸ hpre x hx)) H hok])
      hc'
    exact ⟨h1, ⟨⟨name, cands, v⟩ :: l, by rw [hl, List.append_assoc, List.singleton_append],
      ⟨v, l, rfl, hvm, hlp⟩, fun h => hnew (mem_evalOf_sub.mpr ⟨_, rfl, h⟩)⟩, fun h1' h2 => h3 h1' (h2 v hvm)⟩

structure Inv (excl : Bool) (p : Prog) (st : St) : Prop where
  ok : ∀ t ∈ st.trials, TrialOK p t
  mode : ModeOK excl st.trials
  noCrash : st.crashed = false
  nodup : (evaluated st).Nodup
  stop : st.stop = true ↔ remaining p st.trials = 0

theorem modeOK_snoc_finished (excl : Bool) (H : List Trial) (l : List Step) (h : ModeOK excl H) :
    ModeOK excl (H ++ [⟨l, true⟩]) := by
  rcases h with h | h
  · exact Or.inl h
  · refine Or.inr ?_
    intro t ht
    simp only [List.mem_append, List.mem_singleton] at ht
    rcases ht with ht | ht
    · exact h t ht
    · subst ht; rfl

theorem runTrial_inv (cx : Ctx) (p : Prog) (hwf : p.WF) (st : St) (hinv : Inv (!cx.avoid) p st)
    (hns : st.stop = false) (hcut : ∀ j, cx.cuts st.trials.length ≠ .mid j) :
    Inv (!cx.avoid) p (runTrial cx p st).1 ∧
    (∃ l, (runTrial cx p st).1.trials = st.trials ++ [⟨l, true⟩]) ∧
    remaining p (runTrial cx p st).1.trials + 1 = remaining p st.trials ∧
    (cx.cuts st.trials.length = .none → NoRaise p → (runTrial cx p st).2 = false) := by
  have hcount : 0 < (specTree p st.trials).count (!cx.avoid) := Nat.pos_of_ne_zero fun h => by
    have := hinv.stop.mpr ((count_eq_zero_iff (!cx.avoid) p st.trials hwf hinv.ok hinv.mode).mp h)
    rw [hns] at this
    cases this
  have hspec := runObj_spec cx.avoid cx.ω st.trials (cx.cuts st.trials.length) hcut p [] st.trials st.calls hwf
    hinv.ok (fun _ _ _ _ => rfl) hcount
  generalize hr : runObj cx.avoid cx.ω st.trials p [] st.calls (cx.cuts st.trials.length) = r at hspec
  obtain ⟨hnoerr, ⟨_, hl, hlp, hnew⟩, hraise⟩ := hspec
  obtain rfl := hl.symm
  have hok' : ∀ t ∈ st.trials ++ [⟨r.1.steps, true⟩], TrialOK p t := by
    intro t ht
    simp only [List.mem_append, List.mem_singleton] at ht
    rcases ht with ht | ht
    · exact hinv.ok t ht
    · subst ht; simpa [TrialOK] using hlp
  have hpop := populate_from_empty p _ hok'
  -- what `_run_trial` returns once the sampler's tree is known
  have heq : runTrial cx p st =
      ({ trials := st.trials ++ [⟨r.1.steps, true⟩],
         stop := (specTree p (st.trials ++ [⟨r.1.steps, true⟩])).count (!cx.avoid) == 0,
         calls := r.2, crashed := false }, r.1.raised) := by
    simp only [runTrial, hr, afterTrial, hpop, hns, Bool.false_or, hinv.noCrash, hnoerr, Bool.or_self]
  have hmode' := modeOK_snoc_finished (!cx.avoid) st.trials r.1.steps hinv.mode
  rw [heq]
  refine ⟨⟨hok', hmode', rfl, ?_, ?_⟩, ⟨_, rfl⟩, remaining_step p st.trials r.1.steps hwf hlp hnew, hraise⟩
  · rw [evaluated, evalOf_snoc]
    exact nodup_snoc hinv.nodup hnew
  · rw [beq_iff_eq]
    exact count_eq_zero_iff (!cx.avoid) p _ hwf hok' hmode'

def NoMidCut (cx : Ctx) : Prop := ∀ n j, cx.cuts n ≠ .mid j

def NoCut (cx : Ctx) : Prop := ∀ n, cx.cuts n = .none

theorem noMid_of_noCut (cx : Ctx) (h : NoCut cx) : NoMidCut cx := by
  intro n j; rw [h n]; simp

theorem reset_stop (st : St) (h : st.stop = false) : { st with stop := false } = st := by
  cases st
  simp only at h
  subst h
  rfl

theorem optimizeLoop_eq (cx : Ctx) (p : Prog) (k : Nat) : ∀ (st : St),
    optimizeLoop cx p k st = runLoop (·.stop) (runTrial cx p) k st :=
  eq_runLoop _ (fun _ => rfl) (fun _ _ => rfl) k

theorem session_eq (cx : Ctx) (p : Prog) (ks : List Nat) (st : St) :
    session cx p ks st = runSession (·.stop) (runTrial cx p) ks st := by
  simp only [session, optimize, optimizeLoop_eq]
  exact foldl_optimize_eq reset_stop ks st

theorem session_inv (cx : Ctx) (p : Prog) (hwf : p.WF) (hcuts : NoMidCut cx) (ks : List Nat) (st : St)
    (h : Inv (!cx.avoid) p st) : Inv (!cx.avoid) p (session cx p ks st) := by
  rw [session_eq]
  exact runSession_inv _ (fun st h hs => (runTrial_inv cx p hwf st h hs (hcuts _)).1) ks st h

theorem session_shape (cx : Ctx) (p : Prog) (hwf : p.WF) (hcuts : NoMidCut cx) (ks : List Nat) :
    ∀ (st : St), Inv (!cx.avoid) p st →
    ∃ F, (session cx p ks st).trials = st.trials ++ F ∧ ∀ t ∈ F, t.finished = true := by
  intro st h
  rw [session_eq]
  refine (runSession_inv
    (fun st' => Inv (!cx.avoid) p st' ∧ ∃ F, st'.trials = st.trials ++ F ∧ ∀ t ∈ F, t.finished = true)
    ?_ ks st ⟨h, [], by simp, by simp⟩).2
  intro st' ⟨h', F, hF, hfin⟩ hs
  obtain ⟨hinv', ⟨l, hl⟩, _, _⟩ := runTrial_inv cx p hwf st' h' hs (hcuts _)
  refine ⟨hinv', F ++ [⟨l, true⟩], by rw [hl, hF, List.append_assoc], ?_⟩
  intro t ht
  rcases List.mem_append.mp ht with ht | ht
  · exact hfin t ht
  · rw [List.mem_singleton.mp ht]

theorem session_len (cx : Ctx) (p : Prog) (hwf : p.WF) (hcuts : NoMidCut cx) (ks : List Nat) (st : St)
    (h : Inv (!cx.avoid) p st) :
    (session cx p ks st).trials.length + remaining p (session cx p ks st).trials =
      st.trials.length + remaining p st.trials := by
  rw [session_eq]
  refine (runSession_inv (fun st' => Inv (!cx.avoid) p st' ∧
    st'.trials.length + remaining p st'.trials = st.trials.length + remaining p st.trials) ?_ ks st ⟨h, rfl⟩).2
  intro st' ⟨h', hl⟩ hs
  obtain ⟨hinv', ⟨l, htr⟩, hrem, _⟩ := runTrial_inv cx p hwf st' h' hs (hcuts _)
  refine ⟨hinv', ?_⟩
  rw [htr] at hrem ⊢
  rw [List.length_append, List.length_singleton]
  omega

theorem session_count (cx : Ctx) (p : Prog) (hwf : p.WF) (hcuts : NoCut cx) (hnr : NoRaise p)
    (ks : List Nat) (st : St) (h : Inv (!cx.avoid) p st) :
    (session cx p ks st).trials.length = st.trials.length + min ks.sum (remaining p st.trials) := by
  rw [session_eq]
  refine (runSession_count (Inv (!cx.avoid) p) (fun st => remaining p st.trials) (fun st => st.trials.length)
    ?_ (fun st h hs => h.stop.mp hs) ks st h).1
  intro st h hs
  obtain ⟨hinv', ⟨l, hl⟩, hrem, hraise⟩ := runTrial_inv cx p hwf st h hs (noMid_of_noCut cx hcuts _)
  exact ⟨hinv', hraise (hcuts _) hnr, hrem, by rw [hl]; simp⟩

/-- progress in general (leaves may raise, trials may be interrupted at their end): every call with a positive
budget on a study that has not stopped evaluates at least one new leaf; with `Inv.stop` (`remaining = 0` sets the flag) `numLeaves` such calls suffice -/
theorem session_progress (cx : Ctx) (p : Prog) (hwf : p.WF) (hcuts : NoMidCut cx) (ks : List Nat)
    (hks : ∀ k ∈ ks, 1 ≤ k) (st : St) (h : Inv (!cx.avoid) p st) :
    (session cx p ks st).stop = true ∨
      remaining p (session cx p ks st).trials + ks.length ≤ remaining p st.trials := by
  rw [session_eq]
  refine runSession_progress (Inv (!cx.avoid) p) (fun st => remaining p st.trials) ?_ ks hks st h
  intro st h hs
  obtain ⟨hinv', _, hrem, _⟩ := runTrial_inv cx p hwf st h hs (hcuts _)
  exact ⟨hinv', by omega⟩

/-- the initial study: only stale RUNNING trials `R` (created by a worker that died) -/
def initSt (R : List Trial) : St := { trials := R }

theorem inv_init (excl : Bool) (p : Prog) (hwf : p.WF) (R : List Trial)
    (hR : ∀ t ∈ R, t.finished = false ∧ Walk p t.steps) (hmode : excl = false ∨ R = []) :
    Inv excl p (initSt R) := by
  have hrem := remaining_all_running p R (fun t ht => (hR t ht).1)
  constructor
  · intro t ht
    have := hR t ht
    simp [TrialOK, this.1, this.2]
  · rcases hmode with h | h
    · exact Or.inl h
    · subst h
      exact Or.inr (fun t ht => by cases ht)
  · rfl
  · rw [evaluated, initSt, evalOf_all_running R (fun t ht => (hR t ht).1)]; exact List.nodup_nil
  · have hpos := numLeaves_pos p hwf
    simp only [initSt]
    constructor
    · intro h; cases h
    · intro h; omega

theorem loopQ_ge (high step : Rat) (hs : 0 < step) : ∀ (fuel : Nat) (value x : Rat),
    x ∈ loopQ high step fuel value → value ≤ x := by
  intro fuel
  induction fuel with
  | zero => intro value x h; simp [loopQ] at h
  | succ f ih =>
    intro value x h
    simp only [loopQ] at h
    split at h
    · simp only [List.mem_cons] at h
      rcases h with h | h
      · subst h; exact Rat.le_refl
      · have := ih (value + step) x h
        grind
    · simp at h

theorem loopQ_nodup (high step : Rat) (hs : 0 < step) : ∀ (fuel : Nat) (value : Rat),
    (loopQ high step fuel value).Nodup := by
  intro fuel
  induction fuel with
  | zero => intro value; simp [loopQ]
  | succ f ih =>
    intro value
    simp only [loopQ]
    split
    · rw [List.nodup_cons]
      refine ⟨?_, ih _⟩
      intro hmem
      have := loopQ_ge high step hs f (value + step) value hmem
      grind
    · simp

theorem loopQ_le_high (high step : Rat) : ∀ (fuel : Nat) (value x : Rat),
    x ∈ loopQ high step fuel value → x ≤ high := by
  intro fuel
  induction fuel with
  | zero => intro value x h; simp [loopQ] at h
  | succ f ih =>
    intro value x h
    simp only [loopQ] at h
    split at h
    · rename_i hle
      simp only [List.mem_cons] at h
      rcases h with h | h
      · subst h; exact hle
      · exact ih _ x h
    · simp at h

theorem loopQ_mem (high step : Rat) (hs : 0 < step) : ∀ (fuel : Nat) (value : Rat) (k : Nat),
    k < fuel → value + (k : Rat) * step ≤ high → value + (k : Rat) * step ∈ loopQ high step fuel value := by
  intro fuel
  induction fuel with
  | zero => intro value k hk; omega
  | succ f ih =>
    intro value k hk hle
    have hk0 : (0:Rat) ≤ (k : Rat) := by exact_mod_cast Nat.zero_le k
    have hnn : 0 ≤ (k : Rat) * step := Rat.mul_nonneg hk0 (Rat.le_of_lt hs)
    have hv : value ≤ high := by grind
    simp only [loopQ, hv, if_true]
    cases k with
    | zero =>
      have : value + ((0 : Nat) : Rat) * step = value := by grind
      rw [this]; simp
    | succ k' =>
      have hcast : ((k' + 1 : Nat) : Rat) = (k' : Rat) + 1 := by push_cast; rfl
      have heq : value + ((k' + 1 : Nat) : Rat) * step = (value + step) + (k' : Rat) * step := by
        rw [hcast]; grind
      rw [heq] at hle ⊢
      exact List.mem_cons_of_mem _ (ih (value + step) k' (by omega) hle)

theorem loopQ_single (high step low : Rat) (f : Nat) (h1 : low ≤ high) (h2 : high - low < step) :
    loopQ high step (f + 1) low = [low] := by
  simp only [loopQ, h1, if_true]
  cases f with
  | zero => simp [loopQ]
  | succ f =>
    have : ¬ (low + step ≤ high) := by grind
    simp [loopQ, this]

theorem loopQ_head (high step low : Rat) (f : Nat) (h1 : low ≤ high) :
    loopQ high step (f + 1) low ≠ [] := by
  simp [loopQ, h1]

theorem enumerate_ne_nil (d : Dist) (h : d.WF) : d.enumerate ≠ [] := by
  cases d with
  | int low high step =>
    simp only [Dist.WF] at h
    simp only [Dist.enumerate]
    exact loopQ_head _ _ _ _ (by exact_mod_cast h.1)
  | float low high step =>
    simp only [Dist.WF] at h
    simp only [Dist.enumerate]
    exact loopQ_head _ _ _ _ h.1
  | cat n =>
    simp only [Dist.WF] at h
    simp only [Dist.enumerate]
    cases n with
    | zero => omega
    | succ n => simp [List.range_succ]

theorem enumerate_nodup (d : Dist) (h : d.WF) : d.enumerate.Nodup := by
  cases d with
  | int low high step =>
    simp only [Dist.WF] at h
    simp only [Dist.enumerate]
    exact loopQ_nodup _ _ (by exact_mod_cast h.2) _ _
  | float low high step =>
    simp only [Dist.WF] at h
    simp only [Dist.enumerate]
    exact loopQ_nodup _ _ h.2 _ _
  | cat n =>
    simp only [Dist.enumerate]
    unfold List.Nodup
    rw [List.pairwise_map]
    have := @List.nodup_range n
    unfold List.Nodup at this
    refine List.Pairwise.imp ?_ this
    intro a b hab h
    exact hab (Rat.natCast_inj.mp h)

/-- "single-valued domains add exactly one edge": when `distribution.single()` holds, the value
`Trial._suggest` takes without asking the sampler is the one and only candidate. -/
theorem single_one_edge (d : Dist) (h : d.WF) (hs : d.single = true) :
    d.enumerate = [d.singleValue] := by
  cases d with
  | int low high step =>
    simp only [Dist.WF] at h
    simp only [Dist.single, Bool.or_eq_true, beq_iff_eq, decide_eq_true_eq] at hs
    simp only [Dist.enumerate, Dist.singleValue]
    apply loopQ_single
    · exact_mod_cast h.1
    · rcases hs with hs | hs
      · subst hs
        have : (0 : Rat) < (step : Rat) := by exact_mod_cast h.2
        grind
      · have : ((high - low : Int) : Rat) < (step : Rat) := by exact_mod_cast hs
        simpa [Rat.intCast_sub] using this
  | float low high step =>
    simp only [Dist.WF] at h
    simp only [Dist.single, Bool.or_eq_true, beq_iff_eq, decide_eq_true_eq] at hs
    simp only [Dist.enumerate, Dist.singleValue]
    apply loopQ_single
    · exact h.1
    · rcases hs with hs | hs
      · subst hs; grind
      · exact hs
  | cat n =>
    simp only [Dist.single, beq_iff_eq] at hs
    subst hs
    simp [Dist.enumerate, Dist.singleValue, List.range_succ]

theorem enumerate_complete_float (low high step : Rat) (h : (Dist.float low high step).WF) (k : Nat)
    (hk : low + (k : Rat) * step ≤ high) : low + (k : Rat) * step ∈ (Dist.float low high step).enumerate := by
  simp only [Dist.WF] at h
  simp only [Dist.enumerate]
  apply loopQ_mem high step h.2 _ low k _ hk
  have hfl : ((k : Nat) : Int) ≤ ((high - low) / step).floor := by
    rw [Rat.le_floor_iff]
    rcases Classical.em ((high - low) / step < (((k : Nat) : Int) : Rat)) with hlt | hge
    · rw [Rat.div_lt_iff h.2] at hlt
      have : (((k : Nat) : Int) : Rat) = (k : Rat) := by norm_cast
      rw [this] at hlt
      grind
    · exact Rat.not_lt.mp hge
  omega

theorem enumerate_complete_int (low high step : Int) (h : (Dist.int low high step).WF) (k : Nat)
    (hk : low + (k : Int) * step ≤ high) :
    ((low + (k : Int) * step : Int) : Rat) ∈ (Dist.int low high step).enumerate := by
  simp only [Dist.WF] at h
  simp only [Dist.enumerate]
  have hcast : ((low + (k : Int) * step : Int) : Rat) = (low : Rat) + (k : Rat) * (step : Rat) := by
    push_cast; rfl
  rw [hcast]
  apply loopQ_mem _ _ (by exact_mod_cast h.2)
  · have h1 : (k : Int) * 1 ≤ (k : Int) * step := Int.mul_le_mul_of_nonneg_left (by omega) (by omega)
    omega
  · rw [← hcast]; exact_mod_cast hk

end OptunaVerif.BruteForce
