import OptunaVerif.Lemmas.RdbHbSweep
/-! Table level: which *rows* a storage call of the sweep touches.  `rowsOf hs tid` is everything the eleven
tables hold about trial `tid` (its `trials` row, its rows in the five child tables, its heartbeat row with the
`heartbeat` column), primary keys included.  Core Lean only. -/
namespace OptunaVerif.RdbHb
open OptunaVerif.Storage OptunaVerif.Rdb

structure TrialRows where
  trial : Option TrialRow
  params : List (KRow String Param)
  values : List (KRow Nat SVal)
  inters : List (KRow Int SIVal)
  user : List (KRow String String)
  sys : List (KRow String String)
  beats : List (KRow Unit Unit × Option Int)
deriving DecidableEq, Repr

def dbRows (db : Rdb.State) (stamps : Stamps) (tid : Nat) : TrialRows :=
  { trial := db.trialRow? tid, params := Tbl.ofOwner db.params tid, values := Tbl.ofOwner db.values tid,
    inters := Tbl.ofOwner db.inters tid, user := Tbl.ofOwner db.tUser tid, sys := Tbl.ofOwner db.tSys tid,
    beats := (Tbl.ofOwner db.beats tid).map (fun b => (b, stampOf stamps b.id)) }

def rowsOf (hs : HState) (tid : Nat) : TrialRows := dbRows hs.db hs.stamps tid

theorem cas_rows (db : Rdb.State) (hinv : Inv0 db) (stamps : Stamps) {st : TState} (t tid : Nat) (hne : tid ≠ t) :
    dbRows (Rdb.step db (.setTrialStateValues t st none)).1 stamps tid = dbRows db stamps tid := by
  rcases step_wrote db hinv (.setTrialStateValues t st none) with e | hw
  · rw [e]
  generalize (Rdb.step db (.setTrialStateValues t st none)).1 = s' at hw
  cases hw with
  | values _ _ _ _ => rfl
  | state _ _ _ _ =>
    -- the UPDATE rewrites the `trials` row with id `t` and nothing else
    simp only [dbRows, State.trialRow?]
    rw [find?_map_id _ _ (by intro r; split <;> rfl)]
    congr 1
    cases hf : db.trials.find? (fun r => r.id == tid) with
    | none => rfl
    | some r =>
      have : r.id = tid := by simpa using List.find?_some hf
      show some (if _ then _ else r) = some r
      rw [if_neg (by simp [this, hne])]

theorem withTemplate_rows (db : Rdb.State) (h : Inv0 db) (stamps : Stamps) (sid : Nat) (t : Template) (tid : Nat)
    (htid : tid ∈ db.trialIds) : dbRows (withTemplate db sid t) stamps tid = dbRows db stamps tid := by
  have hne : tid ≠ db.nTrial := fun e => h.nTrial_fresh (e ▸ htid)
  have h1 : (withTemplate db sid t).trialRow? tid = db.trialRow? tid :=
    (find?_ins db h (newRow db sid t) rfl tid).trans (if_neg hne)
  simp only [dbRows, h1]
  simp only [withTemplate, (Tbl.bulk_frame _ _ h.params _ _).2.1 tid hne, (Tbl.bulk_frame _ _ h.values _ _).2.1 tid hne,
    (Tbl.bulk_frame _ _ h.inters _ _).2.1 tid hne, (Tbl.bulk_frame _ _ h.tUser _ _).2.1 tid hne,
    (Tbl.bulk_frame _ _ h.tSys _ _).2.1 tid hne]

theorem create_rows (db : Rdb.State) (hinv : Inv0 db) (stamps : Stamps) (sid : Nat) (tmpl : Option Template) (ir : Bool)
    (tid : Nat) (htid : tid ∈ db.trialIds) :
    dbRows (Rdb.step db (.createTrial sid tmpl ir)).1 stamps tid = dbRows db stamps tid := by
  rcases step_wrote db hinv (.createTrial sid tmpl ir) with e | hw
  · rw [e]
  generalize (Rdb.step db (.createTrial sid tmpl ir)).1 = s' at hw
  cases hw
  exact withTemplate_rows db hinv stamps sid _ tid htid

theorem sweepStep_rows (P : Params) (c : Cfg) (hinv : Inv0 c.hs.db) (w tid : Nat) (htid : tid ∈ c.hs.db.trialIds) :
    rowsOf (sweepStep P c w).hs tid = rowsOf c.hs tid ∨
    ∃ todo won, c.workers[w]? = some (.failing (tid :: todo) won) := by
  cases hw : c.workers[w]? with
  | none => left; rw [sweepStep_absent P c w hw]
  | some ph =>
    obtain ⟨db', _, _, hrel, _, hdb⟩ := sweepStep_move P c w ph hw
    rw [hrel]
    rcases hdb with e | ⟨t, todo, won, rfl, e⟩ | ⟨t, snap, todo, tmpl, rfl, e⟩ <;> subst e
    · exact Or.inl rfl
    · by_cases ht : tid = t
      · right; subst ht; exact ⟨todo, won, rfl⟩
      · exact Or.inl (cas_rows c.hs.db hinv c.hs.stamps t tid ht)
    · exact Or.inl (create_rows c.hs.db hinv c.hs.stamps P.sid _ false tid htid)

theorem sweepStep_inv (P : Params) (c : Cfg) (h : Inv c.hs.db) (w : Nat) : Inv (sweepStep P c w).hs.db := by
  cases hw : c.workers[w]? with
  | none => rw [sweepStep_absent P c w hw]; exact h
  | some ph =>
    obtain ⟨db', _, _, hrel, _, hdb⟩ := sweepStep_move P c w ph hw
    rw [hrel]
    rcases hdb with e | ⟨_, _, _, _, e⟩ | ⟨_, _, _, _, _, e⟩ <;> subst e
    · exact h
    · exact inv_step _ _ h
    · exact inv_step _ _ h

end OptunaVerif.RdbHb
