import OptunaVerif.Model.RdbHeartbeat
import OptunaVerif.Lemmas.RdbInv
/-! `_get_stale_trial_ids` on the relational model: what the query returns, for every table state that
satisfies the table invariant.  The staleness test and the query filter are the *generated*
definitions of `Generated/StaleGen.lean`; the lemmas `rowVerdict_le_one` and `queryFilter_iff` (and
`effectiveGrace_eq`, `effectiveGrace_pos` for the default and the bounds of the grace period) are where a change of the Python text
(`>=`, `.seconds`, another state, a dropped filter) stops the build.
Core Lean only. -/
namespace OptunaVerif.RdbHb
open OptunaVerif.Rdb
open OptunaVerif.Generated

theorem stampOf_setStamp_same (l : Stamps) (b : Nat) (ts : Int) : stampOf (setStamp l b ts) b = some ts := by
  fun_induction setStamp l b ts <;> simp_all [stampOf]

theorem stampOf_setStamp_other (l : Stamps) (b b2 : Nat) (ts : Int) (h : b2 ≠ b) :
    stampOf (setStamp l b ts) b2 = stampOf l b2 := by
  fun_induction setStamp l b ts <;> simp_all [stampOf, Ne.symm h]

theorem stampOf_mem (l : Stamps) (b : Nat) (ts : Int) (h : stampOf l b = some ts) : (b, ts) ∈ l := by
  fun_induction stampOf l b <;> simp_all

theorem mem_setStamp (l : Stamps) (b : Nat) (ts : Int) (p : Nat × Int) (h : p ∈ setStamp l b ts) : p ∈ l ∨ p = (b, ts) := by
  fun_induction setStamp l b ts <;> simp only [List.mem_cons, List.not_mem_nil, false_or, or_false] at h ⊢
  · exact h
  · exact h.symm.imp_left Or.inr
  · rename_i ih
    exact h.elim (fun h => .inl (.inl h)) fun h => (ih h).imp_left Or.inr

/-- NOT NULL on `trial_heartbeats.heartbeat` -/
def Stamped (s : HState) : Prop := ∀ b ∈ s.db.beats, ∃ ts, stampOf s.stamps b.id = some ts

structure HInv (s : HState) : Prop where
  inv : Inv s.db
  stamped : Stamped s

theorem heartbeatsOf_le_one (s : HState) (h : Inv0 s.db) (tid : Nat) : (heartbeatsOf s tid).length ≤ 1 := by
  unfold heartbeatsOf
  exact Nat.le_trans (List.length_filterMap_le _ _) (Tbl.ofOwner_unitKey_le_one _ _ h.beats tid)

theorem heartbeatsOf_eq_singleton_iff (s : HState) (h : Inv0 s.db) (tid : Nat) (ts : Int) :
    heartbeatsOf s tid = [ts] ↔ ∃ b ∈ s.db.beats, b.owner = tid ∧ stampOf s.stamps b.id = some ts := by
  constructor
  · intro he
    have : ts ∈ heartbeatsOf s tid := by rw [he]; simp
    unfold heartbeatsOf at this
    obtain ⟨b, hb, hs⟩ := List.mem_filterMap.mp this
    rw [Tbl.mem_ofOwner] at hb
    exact ⟨b, hb.1, hb.2, hs⟩
  · rintro ⟨b, hb, ho, hs⟩
    subst ho
    unfold heartbeatsOf
    rw [Tbl.ofOwner_unitKey_eq_singleton _ _ h.beats b hb]
    simp [hs]

theorem heartbeatsOf_eq_nil_iff (s : HState) (hst : Stamped s) (tid : Nat) :
    heartbeatsOf s tid = [] ↔ ∀ b ∈ s.db.beats, b.owner ≠ tid := by
  unfold heartbeatsOf
  rw [List.filterMap_eq_nil_iff]
  constructor
  · intro h b hb ho
    obtain ⟨ts, hts⟩ := hst b hb
    have := h b ((Tbl.mem_ofOwner _ _ _).mpr ⟨hb, ho⟩)
    rw [hts] at this
    cases this
  · intro h b hb
    rw [Tbl.mem_ofOwner] at hb
    exact absurd hb.2 (h b hb.1)

/-- `g` in seconds, timestamps in µs -/
theorem rowVerdict_le_one (now g : Int) (hbs : List Int) (h : hbs.length ≤ 1) :
    StaleGen.rowVerdict now hbs g =
      match hbs with
      | [] => .skip
      | ts :: _ => if now - ts > g * 1000000 then .stale else .fresh := by
  match hbs, h with
  | [], _ => simp [StaleGen.rowVerdict]
  | [ts], _ => simp [StaleGen.rowVerdict]
  | _ :: _ :: _, h => simp at h

theorem queryFilter_iff (st : TState) (study sid : Nat) :
    StaleGen.queryFilter st study sid = true ↔ st = .running ∧ study = sid := by
  simp [StaleGen.queryFilter]

theorem effectiveGrace_eq (hbInterval : Int) (gp : Option Int) :
    StaleGen.effectiveGrace hbInterval gp = match gp with | none => 2 * hbInterval | some g => g := by
  cases gp <;> rfl

theorem effectiveGrace_pos (hbInterval : Int) (gp : Option Int)
    (h1 : StaleGen.heartbeatIntervalRejected (some hbInterval) = false) (h2 : StaleGen.gracePeriodRejected gp = false) :
    0 < StaleGen.effectiveGrace hbInterval gp := by
  cases gp with
  | none => simp [StaleGen.heartbeatIntervalRejected] at h1; simp [StaleGen.effectiveGrace]; omega
  | some g => simp [StaleGen.gracePeriodRejected] at h2; simp [StaleGen.effectiveGrace]; omega

def staleRow (s : HState) (now g : Int) (r : TrialRow) : Bool :=
  match heartbeatsOf s r.id with
  | [ts] => decide (now - ts > g * 1000000)
  | _ => false

theorem staleLoop_eq (s : HState) (h : Inv0 s.db) (now g : Int) (rows : List TrialRow) :
    staleLoop s now g rows = .ok ((rows.filter (staleRow s now g)).map (·.id)) := by
  induction rows with
  | nil => rfl
  | cons r rest ih =>
    have hl := heartbeatsOf_le_one s h r.id
    unfold staleLoop
    rw [rowVerdict_le_one now g _ hl]
    match hh : heartbeatsOf s r.id, hl with
    | [], _ => simp [ih, staleRow, hh]
    | [ts], _ =>
      by_cases hc : now - ts > g * 1000000
      · simp [ih, staleRow, hh, hc]
      · simp [ih, staleRow, hh, hc]
    | _ :: _ :: _, hl => simp at hl

theorem getStaleTrialIds_eq (s : HState) (h : Inv0 s.db) (now hbInterval : Int) (gp : Option Int) (sid : Nat) :
    getStaleTrialIds s now hbInterval gp sid =
      .ok (((staleCandidates s sid).filter (staleRow s now (StaleGen.effectiveGrace hbInterval gp))).map (·.id)) :=
  staleLoop_eq s h now _ _

theorem staleRow_iff (s : HState) (h : Inv0 s.db) (now g : Int) (r : TrialRow) :
    staleRow s now g r = true ↔
      ∃ b ∈ s.db.beats, b.owner = r.id ∧ ∃ ts, stampOf s.stamps b.id = some ts ∧ now - ts > g * 1000000 := by
  have hl := heartbeatsOf_le_one s h r.id
  constructor
  · intro hs
    unfold staleRow at hs
    match hh : heartbeatsOf s r.id, hl with
    | [], _ => simp [hh] at hs
    | [ts], _ =>
      simp only [hh, decide_eq_true_eq] at hs
      obtain ⟨b, hb, ho, hst⟩ := (heartbeatsOf_eq_singleton_iff s h r.id ts).mp hh
      exact ⟨b, hb, ho, ts, hst, hs⟩
    | _ :: _ :: _, hl => simp at hl
  · rintro ⟨b, hb, ho, ts, hst, hgt⟩
    have := (heartbeatsOf_eq_singleton_iff s h r.id ts).mpr ⟨b, hb, ho, hst⟩
    simp [staleRow, this, hgt]

theorem mem_staleCandidates (s : HState) (sid : Nat) (r : TrialRow) :
    r ∈ staleCandidates s sid ↔ r ∈ s.db.trials ∧ r.state = .running ∧ r.study = sid := by
  unfold staleCandidates
  rw [List.mem_filter, queryFilter_iff]

end OptunaVerif.RdbHb
