import OptunaVerif.Generated.BestMethods
import OptunaVerif.Lemmas.BestOrder
import OptunaVerif.Lemmas.HsspIR
/-!
Flag-free REFERENCE semantics for `Props/C12Gen.lean`, and helper lemmas that do not mention the generated program.

`Model/Best.lean` takes its comparison operators / flags from `Generated/Best.lean` (translator `best.py`), so an edit of the
source changes the hand model too.  The equalities of `Props/C12Gen.lean` are therefore stated against the fixed
definitions below (today's semantics written out: "violated = some x > 0", "strictly better replaces", "min / max of
the COMPLETE trials", …); `Props/C12GenSpec.lean` proves that these coincide with the hand model and carries the
property theorems of `Props/C12.lean` over.  This file must not import `Lemmas/Best.lean` (which stops building when
a flag changes); the order facts it needs are those of `Lemmas/BestOrder.lean`, which mentions no flag.  Core Lean only.
-/
namespace OptunaVerif.BestIR
open OptunaVerif.Best

/-- `constraints is not None and any(x > 0.0 …)` -/
def violatedRef (t : BTrial) : Bool :=
  match t.cons.get with
  | some cs => cs.any (fun x => xlt zero x)
  | none => false

/-- `constraints is not None and all(x <= 0.0 …)` -/
def feasibleRef (t : BTrial) : Bool :=
  match t.cons.get with
  | some cs => cs.all (fun x => x.le zero)
  | none => false

/-- Python `max` (maximise) / `min` (minimise) by value over the COMPLETE trials that satisfy `p`, lowest number on ties -/
def pickRef (d : Dir) (p : BTrial → Bool) (ts : List BTrial) : Option Nat :=
  (pyPick d.isMax (fun x => x.2) (valuedIn [1] p ts)).map (fun x => x.1)

/-- `_update_cache`: a COMPLETE trial replaces the cached best iff there is none, the cached one has no value, or it is strictly better -/
def updateCacheRef (dirs : List Dir) (m : Mem) (i : Nat) : Mem :=
  match m.trials[i]? with
  | none => m
  | some t =>
    if t.state != .complete then m else
    match m.best with
    | none => { m with best := some i }
    | some b =>
      match dirs with
      | [d] =>
        match (m.trials[b]?).bind BTrial.value?, t.value? with
        | none, _ => { m with best := some i }
        | some _, none => m
        | some bv, some nv => if better d nv bv then { m with best := some i } else m
      | _ => m

/-- `InMemoryStorage.get_best_trial` -/
def memBestRef (dirs : List Dir) (cached : Option Nat) : GRes :=
  match cached with
  | none => .raise .valueError
  | some b => if 1 < dirs.length then .raise .runtimeError else .ok b

/-- the `ORDER BY` of the two queries: type rank (−∞ < finite < +∞) first, then the value; ASC for min, DESC for max -/
def rankRef : VType → Int
  | .infNeg => -1 | .finite => 0 | .infPos => 1

def sqlBeforeRef (useMax : Bool) (a b : Option Rat × VType) : Bool :=
  if rankRef a.2 != rankRef b.2 then (if useMax then rankRef b.2 < rankRef a.2 else rankRef a.2 < rankRef b.2)
  else (if useMax then nullLt b.1 a.1 else nullLt a.1 b.1)

/-- `find_{max,min}_value_trial_id(study_id, 0, session)` on the model's rows -/
def rdbRowsRef (useMax : Bool) (rows : List Row) : Option Nat :=
  let cands := rows.zipIdx.filterMap (fun x => if x.1.state == .complete then (x.1.vals[0]?).map (fun v => (x.2, v)) else none)
  (firstBest (fun y cur => sqlBeforeRef useMax y.2 cur.2) cands).map (fun x => x.1)

/-- `Study.best_trial` of a single-objective study, given the storage's answer -/
def studyBestRef (sb : GRes) (d : Dir) (ts : List BTrial) : GRes :=
  match sb with
  | .ok b =>
    (match ts[b]? with
     | none => .raise .valueError
     | some t => if violatedRef t then GRes.ofOpt (pickRef d feasibleRef ts) else .ok b)
  | r => r

/-- `Study.best_trials` -/
def bestTrialsRef (dirs : List Dir) (ts : List BTrial) : Option (List Nat) :=
  let constrained := ts.any (fun t => t.cons.hasKey)
  let c := ts.zipIdx.filter (fun x => x.1.state == .complete && (!constrained || feasibleRef x.1))
  if c.any (fun x => (x.1.values.getD []).length != dirs.length) then none
  else
    let loss := c.map (fun x => normRow dirs (x.1.values.getD []))
    let on := isParetoFront loss
    some (((c.zip on).filter (fun y => y.2)).map (fun y => y.1.2))

theorem code_eq_one (s : TState) : (s.code == 1) = (s == .complete) := by cases s <;> rfl
theorem code_ne_one (s : TState) : (s.code != 1) = (s != .complete) := by cases s <;> rfl

theorem stepWith_updateCache (upd : List Dir → Mem → Nat → Mem) (dirs : List Dir) (h : upd dirs = Mem.updateCache dirs) :
    stepWith upd dirs = Mem.step dirs := by
  funext m ev
  cases ev <;> simp only [stepWith, Mem.step, h] <;> rfl

/-- `a != b and all(a <= b)` is the docstring's dominance `all(a <= b) and any(a < b)` -/
theorem ne_allLe_eq_dominates (a b : Point) (h : a.length = b.length) : (!(a == b) && allLe a b) = dominates a b := by
  rw [Bool.eq_iff_iff, dominates_iff a b h]
  simp [and_comm]

theorem zipAllC_le (a b : List EVal) : zipAllC .le a b = allLe a b := by
  induction a generalizing b with
  | nil => cases b <;> rfl
  | cons x t ih =>
    cases b with
    | nil => rfl
    | cons y s => simp [zipAllC, allLe, ih, cmpE, cmpX, EVal.le]

theorem interpDominates_const (norm : DT NCond NX) (tree : DT DCond DLeaf) (dirs : List Dir) (t0 t1 : BTrial) (c : Bool)
    (h : ∀ n0 n1, tree.eval (DCond.eval ⟨t0, t1, dirs, n0, n1⟩) = some (.ret (.const c))) :
    interpDominates norm tree dirs t0 t1 = .ok c := by
  unfold interpDominates
  simp only [h]
  cases t0.values.bind (interpNormRow norm dirs) <;> cases t1.values.bind (interpNormRow norm dirs) <;> rfl

theorem nullLt_irrefl (x : Option Rat) : nullLt x x = false := by
  cases x <;> simp [nullLt, Rat.lt_irrefl]

theorem sqlBeforeGen_rank_value (asc : Bool) (k : SqlKey) (rk : VType → Int)
    (hk : ∀ row, k.eval row = some ((rk row.2 : Int) : Rat)) (a b : Option Rat × VType) :
    sqlBeforeGen [⟨asc, k⟩, ⟨asc, .valueCol⟩] a b =
      if rk a.2 != rk b.2 then (if asc then decide (rk a.2 < rk b.2) else decide (rk b.2 < rk a.2))
      else (if asc then nullLt a.1 b.1 else nullLt b.1 a.1) := by
  have hvc : ∀ row : Option Rat × VType, SqlKey.eval row .valueCol = row.1 := fun _ => rfl
  simp only [sqlBeforeGen, hk, hvc]
  by_cases h : rk a.2 = rk b.2
  · by_cases hv : a.1 = b.1 <;> simp [h, hv, nullLt_irrefl]
  · simp [h, nullLt, Rat.intCast_inj, Rat.intCast_lt_intCast]

/-- today's `case` table is `rankRef` -/
theorem rankKey_eval (row : Option Rat × VType) :
    (SqlKey.caseType (some (-1)) (some 0) (some 1) false).eval row = some ((rankRef row.2 : Int) : Rat) := by
  obtain ⟨v, t⟩ := row; cases t <;> rfl

theorem sqlBeforeRef_encode (useMax : Bool) (a b : EVal) :
    sqlBeforeRef useMax (encode a) (encode b) = if useMax then b.lt a else a.lt b := by
  cases useMax <;> cases a <;> cases b <;>
    simp [sqlBeforeRef, rankRef, encode, nullLt, EVal.lt, EVal.le, EVal.toX, XVal.le, rat_lt_decide]

theorem Query.run_eq_ref (q : Query) (useMax : Bool) (hs : q.stateFilter = some 1) (ho : q.objectiveFilter = true)
    (hl : q.limitOne = true) (hord : ∀ a b, sqlBeforeGen q.order a b = sqlBeforeRef useMax a b) (rows : List Row) :
    q.run 0 rows = GRes.ofOpt (rdbRowsRef useMax rows) := by
  simp [Query.run, rdbRowsRef, hs, ho, hl, hord, code_eq_one]

def Rect' (n : Nat) (rows : List Point) : Prop := ∀ r ∈ rows, r.length = n

/-- `cummin[1:] < cummin[:-1]` over the second column, `m` being the minimum over the rows before: the flags the 2-D path
gives these rows -/
theorem ltRow_cummin (m : EVal) (rest : List Point) (h : Rect' 2 rest) :
    ltRow (cumminFrom m (rest.map fun r => r[1]?.getD .pinf)) (m :: cumminFrom m (rest.map fun r => r[1]?.getD .pinf)).dropLast
      = front2dAux m rest := by
  induction rest generalizing m with
  | nil => rfl
  | cons r rest ih =>
    obtain ⟨x, y, rfl⟩ := len2 r (h r List.mem_cons_self)
    have := ih (emin m y) (fun q hq => h q (List.mem_cons_of_mem _ hq))
    simp only [List.map_cons, cumminFrom, List.dropLast_cons_cons, ltRow, List.zipWith_cons_cons, front2dAux, col1] at this ⊢
    simp [this]

theorem envGet_cons (k : String) (v : NV) (env : List (String × NV)) (n : String) :
    envGet ((k, v) :: env) n = if k == n then v else envGet env n := by
  unfold envGet
  simp only [List.find?_cons]
  cases h : (k == n) <;> simp

theorem anyLt_self (r : Point) : anyLt r r = false := by
  rw [anyLt_eq_not_allLe, allLe_refl]; rfl

theorem ltRow_any (q r : Point) : (ltRow q r).any id = anyLt q r := by
  induction q generalizing r with
  | nil => cases r <;> rfl
  | cons x t ih =>
    cases r with
    | nil => rfl
    | cons y s => simp [ltRow, anyLt, ← ih s]

theorem selMask_sublist {α : Type} (l : List α) (m : List Bool) : (selMask l m).Sublist l := by
  induction l generalizing m with
  | nil => cases m <;> simp [selMask]
  | cons a t ih =>
    cases m with
    | nil => simp [selMask]
    | cons b ms =>
      cases b <;> simp only [selMask]
      · exact (ih ms).cons a
      · exact (ih ms).cons_cons a

theorem selMask_zip {α β : Type} (f : β → Bool) (is : List α) (rows : List β) (h : is.length = rows.length) :
    (selMask is (rows.map f)).zip (selMask rows (rows.map f)) = (is.zip rows).filter (fun q => f q.2) ∧
    (selMask is (rows.map f)).length = (selMask rows (rows.map f)).length := by
  induction rows generalizing is with
  | nil => cases is <;> simp_all [selMask]
  | cons r rows ih =>
    cases is with
    | nil => simp at h
    | cons i is =>
      simp only [List.length_cons, Nat.add_right_cancel_iff] at h
      obtain ⟨h1, h2⟩ := ih is h
      cases hf : f r <;> simp [selMask, hf, h1, h2]

/-- `on_front[j] = True` for every `j` of the list -/
def markAll (M : List Bool) : List Nat → List Bool
  | [] => M
  | j :: js => markAll (M.set j true) js

theorem markAll_length (M : List Bool) (js : List Nat) : (markAll M js).length = M.length := by
  induction js generalizing M with
  | nil => rfl
  | cons j js ih => simp [markAll, ih]

/-- the same marking loop as `hssp.py`'s (`HsspIR.setAll`): its facts are carried over -/
theorem markAll_eq_setAll (M : List Bool) (js : List Nat) : markAll M js = HsspIR.setAll M js := by
  induction js generalizing M with
  | nil => rfl
  | cons j js ih => exact ih _

theorem markAll_replicate (n : Nat) (js : List Nat) :
    markAll (List.replicate n false) js = (List.range n).map (fun i => js.contains i) := by
  rw [markAll_eq_setAll]; exact HsspIR.setAll_replicate n js

/-- The body of a `while len(loss_values):` loop is a peeling step: it marks the index of the top row and keeps, of the other
rows and of their indices, those that are strictly below the top row in some coordinate. -/
def PeelStep (call : String → List NV → NV) (body : List (String × NE)) : Prop :=
  ∀ (i : Nat) (is : List Nat) (r : Point) (rows : List Point) (M : List Bool) (env : List (String × NV)),
    is.length = rows.length → i < M.length →
    envGet env "loss_values" = .mat (r :: rows) → envGet env "nondominated_indices" = .idx (i :: is) →
    envGet env "on_front" = .mask M →
    envGet (runAssigns call body env) "loss_values" = .mat (selMask rows (rows.map (fun q => anyLt q r))) ∧
    envGet (runAssigns call body env) "nondominated_indices" = .idx (selMask is (rows.map (fun q => anyLt q r))) ∧
    envGet (runAssigns call body env) "on_front" = .mask (M.set i true)

theorem peelLoop (call : String → List NV → NV) (l : NLoop) (hc : l.condLen = "loss_values") (hbody : PeelStep call l.body)
    (fuel : Nat) : ∀ (is : List Nat) (rows : List Point) (M : List Bool) (env : List (String × NV)),
    is.length = rows.length → rows.length < fuel → (∀ i ∈ is, i < M.length) →
    envGet env "loss_values" = .mat rows → envGet env "nondominated_indices" = .idx is → envGet env "on_front" = .mask M →
    ∃ env', loopFuel call l fuel env = some env' ∧
      envGet env' "on_front" = .mask (markAll M (peel (is.zip rows))) := by
  induction fuel with
  | zero => intro is rows M env _ h; omega
  | succ fuel ih =>
    intro is rows M env hlen hfuel hlt h1 h2 h3
    cases rows with
    | nil =>
      have : is = [] := by cases is <;> simp_all
      subst this
      refine ⟨env, ?_, ?_⟩
      · simp [loopFuel, hc, h1, lenOf]
      · simpa [peel, markAll] using h3
    | cons r rows =>
      cases is with
      | nil => simp at hlen
      | cons i is =>
        simp only [List.length_cons, Nat.add_right_cancel_iff] at hlen
        obtain ⟨s1, s2, s3⟩ := hbody i is r rows M env hlen (hlt i List.mem_cons_self) h1 h2 h3
        -- indices and rows go through one mask and so stay paired (`z1`): a round of the loop is a round of `peel` on the
        -- pairs; it drops the top row at least (`hle`), and that is what the fuel counts
        obtain ⟨z1, z2⟩ := selMask_zip (fun q => anyLt q r) is rows hlen
        have hle := (selMask_sublist rows (rows.map (fun q => anyLt q r))).length_le
        obtain ⟨env', he1, he2⟩ := ih _ _ (M.set i true) _ z2
          (by simp only [List.length_cons] at hfuel; omega)
          (by intro j hj; rw [List.length_set]; exact hlt j (List.mem_cons_of_mem _ ((selMask_sublist _ _).subset hj)))
          s1 s2 s3
        refine ⟨env', ?_, ?_⟩
        · simp only [loopFuel, hc, h1, lenOf, List.length_cons]
          exact he1
        · rw [he2, List.zip_cons_cons, peel_cons, markAll, z1]

theorem zipIdx_tail_pairs_from (u : List Point) (k : Nat) :
    (u.zipIdx k).map (fun x => (x.2, x.1.tail)) = (List.range' k u.length).zip (u.map (fun r => r.drop 1)) := by
  induction u generalizing k with
  | nil => rfl
  | cons a t ih => simp [List.zipIdx_cons, List.range'_succ, ih (k + 1), List.drop_one]

theorem zipIdx_tail_pairs (u : List Point) :
    u.zipIdx.map (fun x => (x.2, x.1.tail)) = (List.range u.length).zip (u.map (fun r => r.drop 1)) := by
  rw [List.range_eq_range']; exact zipIdx_tail_pairs_from u 0


theorem NLoop.run_peel (call : String → List NV → NV) (l : NLoop) (u : List Point) (hp : l.params.length = 1)
    (hc : l.condLen = "loss_values") (hres : l.result = .var "on_front") (hbody : PeelStep call l.body)
    (h1 : envGet (runAssigns call l.init (l.params.zip [.mat u])) "loss_values" = .mat (u.map (fun r => r.drop 1)))
    (h2 : envGet (runAssigns call l.init (l.params.zip [.mat u])) "nondominated_indices" = .idx (List.range u.length))
    (h3 : envGet (runAssigns call l.init (l.params.zip [.mat u])) "on_front" = .mask (List.replicate u.length false)) :
    l.run call [.mat u] = .mask (frontNd u) := by
  obtain ⟨env', he1, he2⟩ := peelLoop call l hc hbody (u.length + 1) _ _ _ _ (by simp) (by simp)
    (by intro i hi; simpa using hi) h1 h2 h3
  simp only [NLoop.run, hp, List.length_cons, List.length_nil, Nat.zero_add, if_true, hc, h1, lenOf, List.length_map, he1, hres]
  dsimp only [NE.eval]
  rw [he2, frontNd, zipIdx_tail_pairs, markAll_replicate]

theorem front1d_length (u : List Point) : (front1d u).length = u.length := by
  cases u <;> simp [front1d]

theorem front2dAux_length (m : EVal) (u : List Point) : (front2dAux m u).length = u.length := by
  induction u generalizing m with
  | nil => rfl
  | cons r t ih => simp only [front2dAux]; split <;> simp [ih]

theorem front2d_length (u : List Point) : (front2d u).length = u.length := by
  cases u with
  | nil => rfl
  | cons r t => simp only [front2d]; split <;> simp [front2dAux_length]

theorem frontSorted_length (u : List Point) : (frontSorted u).length = u.length := by
  cases u with
  | nil => rfl
  | cons r t =>
    simp only [frontSorted]
    split
    · exact front1d_length _
    · split
      · exact front2d_length _
      · simp [frontNd]

/-- the stages after the two filters, from any list of (trial, number) pairs -/
theorem pareto_tail (P : Prog) (hnorm : ∀ dirs vs, interpNormRow P.normalize dirs vs = some (normRow dirs vs))
    (hfront : ∀ n rows, Rect' n rows → interpFront P rows false = .mask (isParetoFront rows))
    (dirs : List Dir) (consider : Bool) (c : List (BTrial × Nat)) :
    runStages P dirs consider [.emptyReturnsEmpty, .raiseIfValuesLen .ne .valueError, .lossRows, .frontMask false, .retSelected]
      ⟨c, none, none⟩ =
    if c.any (fun x => (x.1.values.getD []).length != dirs.length) then none
    else some (((c.zip (isParetoFront (c.map (fun x => normRow dirs (x.1.values.getD []))))).filter (fun y => y.2)).map
      (fun y => y.1.2)) := by
  simp only [runStages, PStage.step]
  cases hcn : c with
  | nil => simp [isParetoFront, uniqueLexsort, frontSorted]
  | cons x xs =>
    rw [← hcn]
    have hne : c.isEmpty = false := by rw [hcn]; rfl
    simp only [hne, Bool.false_eq_true, if_false]
    by_cases hlen : c.any (fun x => (x.1.values.getD []).length != dirs.length) = true
    · simp [hlen]
    · have hlen' : c.any (fun x => (x.1.values.getD []).length != dirs.length) = false := by simpa using hlen
      simp only [hlen', Bool.false_eq_true, if_false]
      have hrows : c.map (fun x => interpNormRow P.normalize dirs (x.1.values.getD [])) =
          c.map (fun x => some (normRow dirs (x.1.values.getD []))) := by
        apply List.map_congr_left; intro x _; exact hnorm dirs _
      -- the length check just passed is what makes the loss rows rectangular, as `hfront` asks
      have hrect : Rect' dirs.length (c.map (fun x => normRow dirs (x.1.values.getD []))) := by
        intro r hr
        obtain ⟨x, hx, rfl⟩ := List.mem_map.mp hr
        have : (x.1.values.getD []).length = dirs.length := by
          have := List.any_eq_false.mp hlen' x hx
          simpa using this
        exact normRow_length dirs _ this
      have hfront := hfront dirs.length _ hrect
      simp only [hrows, List.all_map, Function.comp, Option.isSome_some, List.all_eq_true, implies_true, List.map_map,
        if_true]
      have hcomp : ((fun (r : Option (List EVal)) => r.getD []) ∘ fun (x : BTrial × Nat) => some (normRow dirs (x.1.values.getD []))) =
          (fun x => normRow dirs (x.1.values.getD [])) := by funext x; rfl
      rw [hcomp, hfront]

theorem interpBestTrials_eq_ref (P : Prog) (hkey : P.bestTrialsKey = "constraints") (hq : P.bestTrialsQuant = .any)
    (hstages : P.pareto = [.keepState 1, .keepFeasibleIf, .emptyReturnsEmpty, .raiseIfValuesLen .ne .valueError, .lossRows,
      .frontMask false, .retSelected])
    (hfeas : ∀ t, feasibleGen P t = feasibleRef t)
    (hnorm : ∀ dirs vs, interpNormRow P.normalize dirs vs = some (normRow dirs vs))
    (hfront : ∀ n rows, Rect' n rows → interpFront P rows false = .mask (isParetoFront rows))
    (dirs : List Dir) (ts : List BTrial) : interpBestTrials P dirs ts = bestTrialsRef dirs ts := by
  unfold interpBestTrials bestTrialsRef
  simp only [hkey, hq, if_true, hstages]
  -- the two filters leave the eligible trials
  cases ts.any (fun t => t.cons.hasKey)
  · have hc : ts.zipIdx.filter (fun x => x.1.state == .complete && (!false || feasibleRef x.1)) =
        ts.zipIdx.filter (fun x => x.1.state.code == 1) := by simp [code_eq_one]
    rw [hc]; exact pareto_tail P hnorm hfront dirs false _
  · have hc : ts.zipIdx.filter (fun x => x.1.state == .complete && (!true || feasibleRef x.1)) =
        (ts.zipIdx.filter (fun x => x.1.state.code == 1)).filter (fun x => feasibleGen P x.1) := by
      simp [hfeas, code_eq_one, List.filter_filter, Bool.and_comm]
    rw [hc]; exact pareto_tail P hnorm hfront dirs true _

end OptunaVerif.BestIR
