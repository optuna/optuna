import OptunaVerif.Lemmas.Journal
import OptunaVerif.Lemmas.Storage
/-! The journal replay model refines the storage contract model (used by C01 and C06): the contract call a record
stands for (`opOf`), one record against one call under the invariant `JInv` (`apply_refines_step`), and `JInv` in
every state the replay reaches (`jinv_step`).  `JInv` ties the journal's compatibility test (first trial of the
study that has the name) to the contract's (`paramDist`). -/
namespace OptunaVerif.Journal
open OptunaVerif.Storage

/-- the contract call a record stands for; `raised` = did the issuer get `ValueError`
(only consulted by the contract where it leaves the answer open: U1) -/
def opOf (r : Rec) (raised : Bool) : Op :=
  match r with
  | .createStudy _ name dirs => .createStudy name dirs
  | .deleteStudy _ sid => .deleteStudy sid
  | .setStudyUserAttr _ sid k v => .setStudyUserAttr sid k v
  | .setStudySystemAttr _ sid k v => .setStudySystemAttr sid k v
  | .createTrial _ sid t => .createTrial sid t false
  | .setTrialParam _ tid name p => .setTrialParam tid name p raised
  | .setTrialStateValues _ tid st vs => .setTrialStateValues tid st vs
  | .setTrialInter _ tid stp v => .setTrialInter tid stp v
  | .setTrialUserAttr _ tid k v => .setTrialUserAttr tid k v
  | .setTrialSystemAttr _ tid k v => .setTrialSystemAttr tid k v

def errOf : Out → Option Err
  | .err e => some e
  | _ => none

/-- Invariant linking the journal's compatibility test (first trial of the study, in number order,
that has the name) with the contract's (`paramDist`, the distribution fixed by `set_trial_param`). -/
def JInv (s : Spec) : Prop :=
  ∀ sid st name d1, s.study? sid = some st → st.paramDist.get? name = some d1 →
    ∃ d0, firstDistOf s sid name = some d0 ∧ d0.compat d1 = true

theorem firstDistOf_mem (s : Spec) (sid : Nat) (name : String) (d0 : Dist)
    (h : firstDistOf s sid name = some d0) :
    ∃ p ∈ s.trialsOf sid, ∃ q, p.2.params.get? name = some q ∧ q.dist = d0 := by
  unfold firstDistOf at h
  cases hf : (s.trialsOf sid).findSome? (fun p => p.2.params.get? name) with
  | none => simp [hf] at h
  | some q =>
    simp only [hf, Option.map_some, Option.some.injEq] at h
    obtain ⟨p, hp, hq⟩ := List.exists_of_findSome?_eq_some hf
    exact ⟨p, hp, q, hq, h⟩

/-- One record of `C06.replay_refines_spec`: under the invariant, replaying a record changes the
public state exactly as the contract call it stands for does, and the issuer's error is the
contract's error. -/
theorem apply_refines_step (s : Spec) (r : Rec) (hJ : JInv s) :
    applySpec s r = (Storage.step s (opOf r (rejects s r == some .valueError))).1 ∧
    rejects s r = errOf (Storage.step s (opOf r (rejects s r == some .valueError))).2 := by
  cases r with
  | setTrialParam w tid name p =>
    simp only [applySpec, rejects, opOf, Storage.step, updatable]
    cases hw : s.writable tid with
    | error e => simp [errOf]
    | ok t =>
      simp only
      have hlive : (s.study? t.study).isSome = true :=
        ((trial?_some_iff s tid t).1 ((writable_ok_iff s tid t).1 hw).1).2
      obtain ⟨st, hst⟩ := Option.isSome_iff_exists.1 hlive
      simp only [hst]
      -- whatever the journal's test accepts, the contract has fixed nothing against (`JInv`)
      have hfix : (∀ d0, firstDistOf s t.study name = some d0 → d0.compat p.dist = true) →
          st.fixedConflict name p.dist = false := by
        intro hall
        unfold StudyS.fixedConflict
        cases hpd : st.paramDist.get? name with
        | none => rfl
        | some d1 =>
          obtain ⟨d0, h0, hcomp⟩ := hJ t.study st name d1 hst hpd
          simp [compat_trans d1 d0 p.dist (compat_symm _ _ hcomp) (hall d0 h0)]
      have hcases : firstDistOf s t.study name = none ∨ ∃ d0, firstDistOf s t.study name = some d0 := by
        cases firstDistOf s t.study name with
        | none => exact .inl rfl
        | some d => exact .inr ⟨d, rfl⟩
      rcases hcases with hfd | ⟨d0, hfd⟩
      · simp [hfd, hfix (by simp [hfd]), errOf, setParam]
      · simp only [hfd]
        by_cases hc : d0.compat p.dist = true
        · simp [hc, hfix (by simp [hfd, hc]), errOf, setParam]
        · -- rejected by the journal: the contract raises too (fixed or template conflict)
          have hc' : d0.compat p.dist = false := by simpa using hc
          obtain ⟨pr, hpr, q, hq, hqd⟩ := firstDistOf_mem s t.study name d0 hfd
          have htc : s.templateConflict t.study name p.dist = true := by
            unfold Spec.templateConflict
            simp only [List.any_eq_true]
            exact ⟨pr, hpr, by simp [hq, hqd, hc']⟩
          by_cases hfix : st.fixedConflict name p.dist = true
          · simp [hc', hfix, errOf]
          · simp [hc', hfix, htc, errOf]
  | setTrialStateValues w tid state values =>
    simp only [applySpec, rejects, opOf, Storage.step, updatable]
    cases hw : s.writable tid with
    | error e => simp [errOf]
    | ok t =>
      have hnf := ((writable_ok_iff s tid t).1 hw).2
      cases hst : t.state <;> simp [hst, TState.isFinished] at hnf <;>
        cases state <;> simp [hst, errOf]
  | createTrial w sid tmpl =>
    simp only [applySpec, rejects, opOf, Storage.step]
    cases hs : s.study? sid <;> simp [errOf]
  | _ =>
    simp only [applySpec, rejects, opOf, Storage.step, updatable]
    repeat' split
    all_goals simp_all [errOf]

theorem findSome?_upd {β : Type} (g : TrialS → Option β) (L : List (Nat × TrialS)) (tid : Nat)
    (f : TrialS → TrialS) (v : β) (hv : ∀ t, g (f t) = some v) (w : β)
    (h : (L.map (fun q => if q.1 = tid then (q.1, f q.2) else q)).findSome? (fun q => g q.2) = some w) :
    w = v ∨ L.findSome? (fun q => g q.2) = some w := by
  induction L with
  | nil => simp at h
  | cons q r ih =>
    simp only [List.map_cons, List.findSome?_cons] at h ⊢
    by_cases hq : q.1 = tid
    · simp only [hq, if_true, hv] at h
      simp only [Option.some.injEq] at h
      exact .inl h.symm
    · simp only [hq, if_false] at h
      cases hg : g q.2 with
      | some x => simp only [hg] at h ⊢; exact .inr h
      | none => simp only [hg] at h ⊢; exact ih h

theorem findSome?_upd_some {β : Type} (g : TrialS → Option β) (L : List (Nat × TrialS)) (tid : Nat)
    (f : TrialS → TrialS) (v : β) (hv : ∀ t, g (f t) = some v) (hmem : ∃ q ∈ L, q.1 = tid) :
    ∃ w, (L.map (fun q => if q.1 = tid then (q.1, f q.2) else q)).findSome? (fun q => g q.2) = some w := by
  induction L with
  | nil => obtain ⟨q, hq, _⟩ := hmem; simp at hq
  | cons q r ih =>
    simp only [List.map_cons, List.findSome?_cons]
    by_cases hq : q.1 = tid
    · simp only [hq, if_true, hv]; exact ⟨v, rfl⟩
    · simp only [hq, if_false]
      cases hg : g q.2 with
      | some x => exact ⟨x, rfl⟩
      | none =>
        simp only
        apply ih
        obtain ⟨q', hq', e⟩ := hmem
        simp only [List.mem_cons] at hq'
        rcases hq' with hq' | hq'
        · subst hq'; exact absurd e hq
        · exact ⟨q', hq', e⟩

theorem findSome?_upd_same {β : Type} (g : TrialS → Option β) (L : List (Nat × TrialS)) (tid : Nat)
    (f : TrialS → TrialS) (hg : ∀ t, g (f t) = g t) :
    (L.map (fun q => if q.1 = tid then (q.1, f q.2) else q)).findSome? (fun q => g q.2) =
      L.findSome? (fun q => g q.2) := by
  rw [List.findSome?_map]
  congr 1; funext q
  simp only [Function.comp]; split <;> simp [hg]

theorem firstDistOf_updStudy (s : Spec) (sid0 sid : Nat) (f : StudyS → StudyS) (name : String) :
    firstDistOf (s.updStudy sid0 f) sid name = firstDistOf s sid name := rfl

theorem jinv_init : JInv Storage.init := by
  intro sid st name d1 h
  simp [Storage.init, Spec.study?] at h

theorem jinv_of_same (s s' : Spec) (h : JInv s)
    (hst : ∀ sid st', s'.study? sid = some st' → ∃ st, s.study? sid = some st ∧ st'.paramDist = st.paramDist)
    (hfd : ∀ sid name, firstDistOf s' sid name = firstDistOf s sid name) : JInv s' := by
  intro sid st' name d1 hs hp
  obtain ⟨st, hs0, hpd⟩ := hst sid st' hs
  rw [hpd] at hp
  obtain ⟨d0, h0, hc⟩ := h sid st name d1 hs0 hp
  exact ⟨d0, by rw [hfd]; exact h0, hc⟩

theorem firstDistOf_updTrial_same (s : Spec) (tid sid : Nat) (name : String) (f : TrialS → TrialS)
    (hf : ∀ t, (f t).study = t.study) (hp : ∀ t, (f t).params = t.params) :
    firstDistOf (s.updTrial tid f) sid name = firstDistOf s sid name := by
  unfold firstDistOf
  rw [trialsOf_updTrial s tid sid f hf]
  rw [findSome?_upd_same (fun t => t.params.get? name) (s.trialsOf sid) tid f (by intro t; simp [hp])]

theorem jinv_updStudy (s : Spec) (sid0 : Nat) (f : StudyS → StudyS) (hf : ∀ x, (f x).paramDist = x.paramDist)
    (h : JInv s) : JInv (s.updStudy sid0 f) := by
  refine jinv_of_same s _ h ?_ (fun _ _ => rfl)
  intro sid st' hs
  rw [study?_updStudy] at hs
  split at hs
  · cases hh : s.study? sid with
    | none => simp [hh] at hs
    | some st => simp only [hh, Option.map_some, Option.some.injEq] at hs; exact ⟨st, rfl, by rw [← hs, hf]⟩
  · exact ⟨st', hs, rfl⟩

theorem jinv_updTrial (s : Spec) (tid : Nat) (f : TrialS → TrialS) (hf : ∀ t, (f t).study = t.study)
    (hp : ∀ t, (f t).params = t.params) (h : JInv s) : JInv (s.updTrial tid f) :=
  jinv_of_same s _ h (fun _ st' hs => ⟨st', hs, rfl⟩) (fun sid nm => firstDistOf_updTrial_same s tid sid nm f hf hp)

theorem jinv_step (s : Spec) (r : Rec) (h : JInv s) : JInv (applySpec s r) := by
  unfold applySpec
  cases hrej : rejects s r with
  | some e => exact h
  | none =>
    simp only
    cases r with
    | createStudy w name dirs =>
      simp only
      intro sid st' nm d1 hs hp
      rw [study?_append] at hs
      split at hs
      · cases hs; simp [AList.get?] at hp
      · exact h sid st' nm d1 hs hp
    | deleteStudy w sid0 =>
      simp only
      intro sid st' nm d1 hs hp
      rw [study?_delete] at hs
      split at hs
      · cases hs
      · exact h sid st' nm d1 hs hp
    | setStudyUserAttr w sid0 k v => exact jinv_updStudy s sid0 _ (fun _ => rfl) h
    | setStudySystemAttr w sid0 k v => exact jinv_updStudy s sid0 _ (fun _ => rfl) h
    | createTrial w sid0 tmpl =>
      simp only
      intro sid st' nm d1 hs hp
      have hs0 : s.study? sid = some st' := hs
      obtain ⟨d0, h0, hc⟩ := h sid st' nm d1 hs0 hp
      refine ⟨d0, ?_, hc⟩
      unfold firstDistOf Spec.trialsOf at h0 ⊢
      simp only
      rw [trialsFrom_append, List.findSome?_append]
      cases hf : (trialsFrom sid s.trials 0).findSome? (fun p => p.2.params.get? nm) with
      | none => simp [hf] at h0
      | some q => simp only [hf] at h0 ⊢; exact h0
    | setTrialParam w tid name p =>
      simp only [updatable] at hrej ⊢
      cases hw : s.writable tid with
      | error e => simp [rejects, updatable, hw] at hrej
      | ok t =>
        simp only
        have hget := trial?_some ((writable_ok_iff s tid t).1 hw).1
        have hmem : ∃ q ∈ s.trialsOf t.study, q.1 = tid :=
          ⟨(tid, t), (mem_trialsOf s t.study tid t).2 ⟨hget, rfl⟩, rfl⟩
        -- what the journal checked when it accepted the record
        have hacc : ∀ d0, firstDistOf s t.study name = some d0 → d0.compat p.dist = true := by
          intro d0 hd0
          simp only [rejects, updatable, hw, hd0] at hrej
          split at hrej
          · assumption
          · simp at hrej
        intro sid st' nm d1 hs hp
        unfold setParam at hs ⊢
        rw [study?_updStudy, updTrial_study?] at hs
        have hf1 : ∀ t0 : TrialS, ({ t0 with params := t0.params.set name p } : TrialS).study = t0.study := fun _ => rfl
        by_cases hsid : sid = t.study
        · subst hsid
          simp only [if_true] at hs
          cases hh : s.study? t.study with
          | none => simp [hh] at hs
          | some st =>
            simp only [hh, Option.map_some, Option.some.injEq] at hs
            subst hs
            simp only at hp
            by_cases hnm : nm = name
            · subst hnm
              rw [AList.get?_set_same] at hp
              simp only [Option.some.injEq] at hp
              subst hp
              -- the new first distribution is p's or the old first one
              rw [firstDistOf_updStudy]
              unfold firstDistOf
              rw [trialsOf_updTrial s tid t.study _ hf1]
              obtain ⟨wv, hwv⟩ := findSome?_upd_some (fun t0 => t0.params.get? nm) (s.trialsOf t.study) tid
                (fun t0 => { t0 with params := t0.params.set nm p }) p (by intro t0; exact AList.get?_set_same _ _ _) hmem
              rw [hwv]
              refine ⟨wv.dist, rfl, ?_⟩
              rcases findSome?_upd (fun t0 => t0.params.get? nm) (s.trialsOf t.study) tid
                (fun t0 => { t0 with params := t0.params.set nm p }) p (by intro t0; exact AList.get?_set_same _ _ _) wv hwv with e | e
              · subst e
                unfold Dist.compat; split <;> simp
              · exact hacc wv.dist (by unfold firstDistOf; rw [e]; rfl)
            · rw [AList.get?_set_other _ _ _ _ hnm] at hp
              obtain ⟨d0, h0, hc⟩ := h t.study st nm d1 hh hp
              refine ⟨d0, ?_, hc⟩
              rw [firstDistOf_updStudy]
              unfold firstDistOf at h0 ⊢
              rw [trialsOf_updTrial s tid t.study _ hf1]
              have e := findSome?_upd_same (fun t0 : TrialS => t0.params.get? nm) (s.trialsOf t.study) tid
                (fun t0 => ({ t0 with params := t0.params.set name p } : TrialS))
                (by intro t0; exact AList.get?_set_other _ _ _ _ hnm)
              exact (congrArg (Option.map (·.dist)) e).trans h0
        · simp only [hsid, if_false] at hs
          obtain ⟨d0, h0, hc⟩ := h sid st' nm d1 hs hp
          refine ⟨d0, ?_, hc⟩
          rw [firstDistOf_updStudy]
          unfold firstDistOf at h0 ⊢
          rw [trialsOf_updTrial s tid sid _ hf1]
          -- trial `tid` belongs to another study: it does not occur in this study's list
          have hno : ∀ q ∈ s.trialsOf sid, q.1 ≠ tid := by
            rintro ⟨qi, qt⟩ hq rfl
            obtain ⟨hgetk, hst⟩ := (mem_trialsOf s sid qi qt).1 hq
            rw [hget] at hgetk
            cases hgetk
            exact hsid hst.symm
          have : (s.trialsOf sid).map (fun q => if q.1 = tid then (q.1, ({ q.2 with params := q.2.params.set name p } : TrialS)) else q) = s.trialsOf sid := by
            refine (List.map_congr_left ?_).trans (List.map_id _)
            intro q hq
            simp [hno q hq]
          rw [this]
          exact h0
    | setTrialStateValues w tid state values =>
      simp only [updatable]
      cases hw : s.writable tid with
      | error e => exact h
      | ok t =>
        simp only
        split
        · exact h
        · exact jinv_updTrial s tid _ (fun _ => rfl) (fun _ => rfl) h
    | setTrialInter w tid stp v => exact jinv_updTrial s tid _ (fun _ => rfl) (fun _ => rfl) h
    | setTrialUserAttr w tid k v => exact jinv_updTrial s tid _ (fun _ => rfl) (fun _ => rfl) h
    | setTrialSystemAttr w tid k v => exact jinv_updTrial s tid _ (fun _ => rfl) (fun _ => rfl) h

end OptunaVerif.Journal
