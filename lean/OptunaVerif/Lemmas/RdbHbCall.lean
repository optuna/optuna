import OptunaVerif.Lemmas.RdbHbRows
/-! One whole call of `fail_stale_trials` on the relational model (`failStaleTrials`): it is a run of abstract sweep
steps of one worker, it returns, and it leaves the rows of every trial that its stale read did not return as they
were.  Core Lean only. -/
namespace OptunaVerif.RdbHb
open OptunaVerif.Rdb

theorem sweepLoop_sim (P : Params) (hP : POk P) (w : Nat) (fuel : Nat) (c : Cfg) (h : RInv P c) :
    ∃ k, absCfg P (sweepLoop P w fuel c) =
        Heartbeat.run (absParams P) (absCfg P c) (List.replicate k (.sweep w [])) ∧ RInv P (sweepLoop P w fuel c) := by
  induction fuel generalizing c with
  | zero => exact ⟨0, rfl, h⟩
  | succ n ih =>
    simp only [sweepLoop]
    split
    · obtain ⟨h1, h2⟩ := sweep_sim P hP c h w
      obtain ⟨k, hk, hr⟩ := ih (sweepStep P c w) h2
      refine ⟨k + 1, ?_, hr⟩
      rw [hk, List.replicate_succ, Heartbeat.run_cons, h1]
      rfl
    · exact ⟨0, rfl, h⟩

theorem failStaleTrials_sim (P : Params) (hP : POk P) (c : Cfg) (h : RInv P c) (w : Nat) :
    ∃ k, absCfg P (failStaleTrials P c w) =
        Heartbeat.run (absParams P) (absCfg P c) (List.replicate k (.sweep w [])) ∧ RInv P (failStaleTrials P c w) := by
  unfold failStaleTrials
  obtain ⟨h1, h2⟩ := sweep_sim P hP c h w
  obtain ⟨k, hk, hr⟩ := sweepLoop_sim P hP w _ (sweepStep P c w) h2
  refine ⟨k + 1, ?_, hr⟩
  simp only
  rw [hk, List.replicate_succ, Heartbeat.run_cons, h1]
  rfl

def Phase.failTodo : Phase → List Nat
  | .failing todo _ => todo
  | _ => []

theorem norm_failTodo (b : Bool) (ph : Phase) : (Phase.norm b ph).failTodo.Sublist ph.failTodo := by
  fun_cases Phase.norm b ph <;> exact List.Sublist.refl _

theorem workers_setDb (c : Cfg) (d : Rdb.State) : (c.setDb d).workers = c.workers := rfl

theorem sweepStep_next (P : Params) (c : Cfg) (w : Nat) (ph : Phase) (hw : c.workers[w]? = some ph) :
    ∃ ph', (sweepStep P c w).workers[w]? = some ph' ∧ Phase.next P.hasCb ph ph' := by
  obtain ⟨db', ph', e, hrel, hn, _⟩ := sweepStep_move P c w ph hw
  exact ⟨ph', by rw [hrel]; exact updAt_self _ _ _ _ hw, hn⟩

theorem Phase.next_failTodo {b : Bool} {ph ph' : Phase} (hn : Phase.next b ph ph') (hni : ph ≠ .idle) :
    ∀ x ∈ ph'.failTodo, x ∈ ph.failTodo := by
  intro x hx
  match ph, hn with
  | .failing [] won, hn => rw [hn] at hx; exact (norm_failTodo _ _).subset hx
  | .failing (t :: todo) won, hn =>
    rcases hn with hn | ⟨won', _, hn⟩ <;> rw [hn] at hx
    · simp [Phase.failTodo] at hx
    · exact List.mem_cons_of_mem _ ((norm_failTodo _ _).subset hx)
  | .calling [], hn => rw [hn] at hx; simp [Phase.failTodo] at hx
  | .calling (t :: todo), hn =>
    rcases hn with hn | hn | ⟨tr, hn⟩ <;> rw [hn] at hx
    · simp [Phase.failTodo] at hx
    · cases (norm_failTodo _ _).subset hx
    · simp [Phase.failTodo] at hx
  | .enqueue _ _ todo, hn =>
    rcases hn with hn | hn <;> rw [hn] at hx
    · simp [Phase.failTodo] at hx
    · cases (norm_failTodo _ _).subset hx
  | .idle, hn => exact absurd rfl hni
  | .dead, hn => rw [hn] at hx; exact hx

theorem rows_trialIds (hs hs' : HState) (tid : Nat) (h : rowsOf hs' tid = rowsOf hs tid) (ht : tid ∈ hs.db.trialIds) :
    tid ∈ hs'.db.trialIds := by
  have e : hs'.db.trialRow? tid = hs.db.trialRow? tid := congrArg TrialRows.trial h
  cases hr : hs'.db.trialRow? tid with
  | none =>
    rw [hr] at e
    exact absurd ht ((trialRow?_none_iff hs.db tid).mp e.symm)
  | some r =>
    obtain ⟨hm, hid⟩ := trialRow?_some hs'.db tid r hr
    exact List.mem_map.mpr ⟨r, hm, hid⟩

theorem sweepLoop_rows (P : Params) (w : Nat) (S : List Nat) (tid : Nat) (hS : tid ∉ S) (fuel : Nat) (c : Cfg)
    (h : Inv c.hs.db) (htid : tid ∈ c.hs.db.trialIds)
    (hsub : ∀ ph, c.workers[w]? = some ph → ∀ x ∈ ph.failTodo, x ∈ S) :
    rowsOf (sweepLoop P w fuel c).hs tid = rowsOf c.hs tid := by
  induction fuel generalizing c with
  | zero => rfl
  | succ n ih =>
    simp only [sweepLoop]
    split
    · rename_i hbusy
      have hrows : rowsOf (sweepStep P c w).hs tid = rowsOf c.hs tid := by
        rcases sweepStep_rows P c h.1 w tid htid with e | ⟨todo, won, hw⟩
        · exact e
        · exact absurd (hsub _ hw tid (by simp [Phase.failTodo])) hS
      rw [ih (sweepStep P c w) (sweepStep_inv P c h w) (rows_trialIds _ _ tid hrows htid) ?_, hrows]
      intro ph' hph' x hx
      cases hw : c.workers[w]? with
      | none => simp [Cfg.busy, hw] at hbusy
      | some ph =>
        have hni : ph ≠ .idle := by intro e; subst e; simp [Cfg.busy, hw] at hbusy
        obtain ⟨ph1, h1, hn⟩ := sweepStep_next P c w ph hw
        rw [h1] at hph'
        cases hph'
        exact hsub ph hw x (Phase.next_failTodo hn hni x hx)
    · rfl

theorem failStaleTrials_rows (P : Params) (c : Cfg) (h : Inv c.hs.db) (w : Nat) (hw : c.workers[w]? = some .idle)
    (ids : List Nat) (hids : getStaleTrialIds c.hs c.now P.hbInterval P.gracePeriod P.sid = .ok ids)
    (tid : Nat) (htid : tid ∈ c.hs.db.trialIds) (hns : tid ∉ ids) :
    rowsOf (failStaleTrials P c w).hs tid = rowsOf c.hs tid := by
  unfold failStaleTrials
  have h1 := sweepStep_read P c w hw ids hids
  simp only
  rw [sweepLoop_rows P w ids tid hns _ (sweepStep P c w) (sweepStep_inv P c h w) (by rw [h1]; exact htid) ?_, h1]
  · rfl
  · intro ph hph x hx
    rw [h1] at hph
    cases (updAt_self c.workers w _ _ hw).symm.trans hph
    exact (norm_failTodo _ _).subset hx

theorem size_norm_failing (b : Bool) (todo won : List Nat) :
    (Phase.norm b (.failing todo won)).size ≤ 3 * todo.length + 2 * won.length + 2 := by
  cases todo with
  | nil =>
    simp only [Phase.norm]
    split <;> simp [Phase.size] <;> omega
  | cons t r => simp [Phase.norm, Phase.size]

theorem size_norm_calling (b : Bool) (todo : List Nat) : (Phase.norm b (.calling todo)).size ≤ 2 * todo.length + 1 := by
  cases todo <;> simp [Phase.norm, Phase.size]

theorem Phase.next_size {b : Bool} {ph ph' : Phase} (hn : Phase.next b ph ph') (hni : ph ≠ .idle) (hnd : ph ≠ .dead) :
    ph'.size < ph.size := by
  match ph, hn with
  | .failing [] won, hn =>
    rw [hn]
    simp only [Phase.norm]
    split <;> simp [Phase.size]
  | .failing (t :: todo) won, hn =>
    rcases hn with hn | ⟨won', hlen, hn⟩ <;> rw [hn]
    · simp [Phase.size]
    · have := size_norm_failing b todo won'
      simp only [Phase.size, List.length_cons] at this ⊢; omega
  | .calling [], hn => rw [hn]; simp [Phase.size]
  | .calling (t :: todo), hn =>
    rcases hn with hn | hn | ⟨tr, hn⟩ <;> rw [hn]
    · simp [Phase.size]
    · have := size_norm_calling b todo
      simp only [Phase.size, List.length_cons] at this ⊢; omega
    · simp [Phase.size]; omega
  | .enqueue _ _ todo, hn =>
    rcases hn with hn | hn <;> rw [hn]
    · simp [Phase.size]
    · have := size_norm_calling b todo
      simp only [Phase.size] at this ⊢; omega
  | .idle, hn => exact absurd rfl hni
  | .dead, hn => exact absurd rfl hnd

theorem sweepLoop_returns (P : Params) (w : Nat) (fuel : Nat) (c : Cfg) (ph : Phase) (hw : c.workers[w]? = some ph)
    (hf : ph.size ≤ fuel) : (sweepLoop P w fuel c).busy w = false := by
  induction fuel generalizing c ph with
  | zero =>
    simp only [sweepLoop]
    cases ph <;> simp [Phase.size] at hf <;> simp [Cfg.busy, hw]
  | succ n ih =>
    simp only [sweepLoop]
    split
    · rename_i hb
      obtain ⟨ph', hget, hn⟩ := sweepStep_next P c w ph hw
      have := Phase.next_size hn (by intro e; subst e; simp [Cfg.busy, hw] at hb) (by intro e; subst e; simp [Cfg.busy, hw] at hb)
      exact ih (sweepStep P c w) ph' hget (by omega)
    · rename_i hb; simpa using hb

theorem failStaleTrials_returns (P : Params) (c : Cfg) (w : Nat) (hw : w < c.workers.length) :
    (failStaleTrials P c w).busy w = false := by
  unfold failStaleTrials
  obtain ⟨ph', hget, _⟩ := sweepStep_next P c w _ (List.getElem?_eq_getElem hw)
  simp only [hget]
  exact sweepLoop_returns P w _ _ _ hget (Nat.le_refl _)

end OptunaVerif.RdbHb
