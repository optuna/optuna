import Mathlib.Analysis.Complex.Exponential
import Mathlib.Tactic.FieldSimp
import Mathlib.Tactic.Linarith
/-! The one real-analysis step of C15: the greedy guarantee of `Lemmas/Hssp.lean` is stated over `Int` as
`k^k · (o − g) ≤ (k−1)^k · o`; with Mathlib's `(1 − 1/k)^k ≤ exp(−1)` it gives `(1 − 1/e) · o ≤ g` over `ℝ`
(used by Props/C15).  Imports Mathlib only, nothing of the models. -/
namespace OptunaVerif.Hssp

/-- `h0`: `k = 0` selects nothing, and then nothing is to be covered -/
theorem one_sub_inv_e_of_gap (k o g : Nat) (h0 : k = 0 → o = 0)
    (h : (k : Int) ^ k * ((o : Int) - g) ≤ ((k : Int) - 1) ^ k * o) :
    (1 - Real.exp (-1)) * (o : ℝ) ≤ (g : ℝ) := by
  rcases Nat.eq_zero_or_pos k with hk | hk
  · simp [h0 hk]
  have hkpos : (0 : ℝ) < (k : ℝ) := by exact_mod_cast hk
  have h' : ((k : ℝ)) ^ k * ((o : ℝ) - g) ≤ ((k : ℝ) - 1) ^ k * o := by exact_mod_cast h
  have hpow : (0 : ℝ) < (k : ℝ) ^ k := pow_pos hkpos k
  have hle : ((1 : ℝ) - 1 / k) ^ k ≤ Real.exp (-1) :=
    Real.one_sub_div_pow_le_exp_neg (by exact_mod_cast hk)
  have heq : ((k : ℝ) - 1) ^ k = (k : ℝ) ^ k * (1 - 1 / k) ^ k := by
    rw [← mul_pow]; congr 1; field_simp
  rw [heq, mul_assoc] at h'
  have h2 : (o : ℝ) - g ≤ (1 - 1 / (k : ℝ)) ^ k * o := le_of_mul_le_mul_left h' hpow
  have ho' : (0 : ℝ) ≤ (o : ℝ) := Nat.cast_nonneg o
  have h3 : (1 - 1 / (k : ℝ)) ^ k * o ≤ Real.exp (-1) * o := mul_le_mul_of_nonneg_right hle ho'
  linarith

end OptunaVerif.Hssp
