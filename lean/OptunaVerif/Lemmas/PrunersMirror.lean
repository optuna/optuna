import OptunaVerif.Lemmas.Pruners
import OptunaVerif.Lemmas.Direction
/-! Negation lemmas on `Model/Pruners.lean` (C13 bridge): every quantity the pruners compute, on the negated study. -/
namespace OptunaVerif.Pruners

/-- the trial of the mirrored run: every reported value and every stored `completed_rung_k` value negated (NaN stays NaN) -/
def negT (t : PTrial) : PTrial :=
  { t with inter := t.inter.map (fun p => (p.1, xneg p.2)), rungs := t.rungs.map (fun p => (p.1, xneg p.2)) }

theorem interGet_neg (l : List (Int × XVal)) (k : Int) :
    interGet (l.map (fun p => (p.1, xneg p.2))) k = (interGet l k).map xneg := by
  induction l with
  | nil => rfl
  | cons p t ih =>
    obtain ⟨s, v⟩ := p
    simp only [List.map_cons, interGet, ih]
    split <;> rfl

theorem rungGet_neg (l : List (Nat × XVal)) (k : Nat) :
    rungGet (l.map (fun p => (p.1, xneg p.2))) k = (rungGet l k).map xneg := by
  induction l with
  | nil => rfl
  | cons p t ih =>
    obtain ⟨s, v⟩ := p
    simp only [List.map_cons, rungGet, ih]
    split <;> rfl

theorem lastStep_neg (l : List (Int × XVal)) : lastStep (l.map (fun p => (p.1, xneg p.2))) = lastStep l := by
  induction l with
  | nil => rfl
  | cons p t ih =>
    obtain ⟨s, v⟩ := p
    simp only [List.map_cons, lastStep, ih]

@[simp] theorem negT_state (t : PTrial) : (negT t).state = t.state := rfl
@[simp] theorem lastStep_negT (t : PTrial) : lastStep (negT t).inter = lastStep t.inter := lastStep_neg _
@[simp] theorem interSteps_negT (t : PTrial) : interSteps (negT t) = interSteps t := by
  simp [interSteps, negT, List.map_map, Function.comp_def]
theorem interValues_negT (t : PTrial) : interValues (negT t) = (interValues t).map xneg := by
  simp [interValues, negT, List.map_map, Function.comp_def]
@[simp] theorem inter_length_negT (t : PTrial) : (negT t).inter.length = t.inter.length := by simp [negT]

theorem completedTrials_neg (trials : List PTrial) : completedTrials (trials.map negT) = (completedTrials trials).map negT := by
  unfold completedTrials
  rw [List.filter_map]; rfl

theorem valuesAtStep_neg (trials : List PTrial) (step : Int) :
    valuesAtStep (trials.map negT) step = (valuesAtStep trials step).map xneg := by
  unfold valuesAtStep
  rw [List.filterMap_map, List.map_filterMap]
  congr 1
  funext t
  simp [Function.comp, negT, interGet_neg]

theorem insertBy_eq {α : Type} (le : α → α → Bool) (x : α) (l : List α) : insertBy le x l = Direction.insertBy le x l := by
  induction l with
  | nil => rfl
  | cons y t ih => simp only [insertBy, Direction.insertBy, ih]

theorem sortBy_eq {α : Type} (le : α → α → Bool) (l : List α) : sortBy le l = Direction.sortBy le l := by
  induction l with
  | nil => rfl
  | cons x t ih => simp only [sortBy, Direction.sortBy, ih, insertBy_eq]

theorem scoresByStep_negT (t : PTrial) : scoresByStep (negT t) = (scoresByStep t).map xneg := by
  unfold scoresByStep negT
  simp only [sortBy_eq]
  rw [Direction.sortBy_map]
  have : (fun (a b : Int × XVal) => stepLe (a.1, xneg a.2) (b.1, xneg b.2)) = stepLe := by funext a b; rfl
  rw [this]
  simp [List.map_map, Function.comp_def]

theorem patientMaybe_mirror (patience : Nat) (delta : Rat) (t : PTrial) :
    patientMaybe patience delta .minimize (negT t) = patientMaybe patience delta .maximize t := by
  unfold patientMaybe
  simp only [inter_length_negT, scoresByStep_negT, ← List.map_take, ← List.map_drop, nanMin_neg]
  split
  · rfl
  · rw [← xlt_xneg, xneg_xadd, xneg_xneg, xneg_xneg]
    rfl

def mirrorThreshold (c : ThresholdCfg) : ThresholdCfg := { c with lower := xneg c.upper, upper := xneg c.lower }

theorem thresholdPrune_mirror (c : ThresholdCfg) (t : PTrial) :
    thresholdPrune (mirrorThreshold c) (negT t) = thresholdPrune c t := by
  have hc : thresholdChecked (mirrorThreshold c) (negT t) = (thresholdChecked c t).map xneg := by
    fun_cases thresholdChecked c t <;>
      simp only [thresholdChecked, mirrorThreshold, lastStep_negT, interSteps_negT, Option.map_none, if_true, if_false, *]
    exact interGet_neg _ _
  unfold thresholdPrune
  rw [hc]
  cases thresholdChecked c t with
  | none => rfl
  | some v =>
    simp only [Option.map_some, mirrorThreshold, xisNan_xneg, xlt_xneg]
    cases xisNan v <;> cases xlt v c.lower <;> cases xlt c.upper v <;> rfl

def finOf : List XVal → List Rat
  | [] => []
  | .fin q :: t => q :: finOf t
  | _ :: t => finOf t

def NoInf (l : List XVal) : Prop := ∀ v ∈ l, v ≠ .pinf ∧ v ≠ .ninf

theorem filter_notNan_eq (l : List XVal) (h : NoInf l) : l.filter (fun v => !xisNan v) = (finOf l).map .fin := by
  induction l with
  | nil => rfl
  | cons v t ih =>
    have ht : NoInf t := fun x hx => h x (List.mem_cons_of_mem _ hx)
    have hv := h v (List.mem_cons_self)
    cases v with
    | nan => simp only [List.filter_cons, finOf]; simpa [xisNan] using ih ht
    | fin q => simp only [List.filter_cons, finOf, List.map_cons]; simpa [xisNan] using ih ht
    | pinf => exact absurd rfl hv.1
    | ninf => exact absurd rfl hv.2

theorem finOf_neg (l : List XVal) : finOf (l.map xneg) = Direction.negL (finOf l) := by
  induction l with
  | nil => rfl
  | cons v t ih => cases v <;> simp [finOf, xneg, Direction.negL, ih]

theorem NoInf_neg (l : List XVal) (h : NoInf l) : NoInf (l.map xneg) := by
  intro v hv
  obtain ⟨u, hu, rfl⟩ := List.mem_map.mp hv
  have := h u hu
  cases u <;> simp_all [xneg]

theorem sortX_fin (l : List Rat) : sortX (l.map XVal.fin) = (Direction.sortR l).map XVal.fin := by
  unfold sortX Direction.sortR
  rw [sortBy_eq, Direction.sortBy_map]
  have : (fun (a b : Rat) => XVal.le (.fin a) (.fin b)) = Direction.leR := by
    funext a b; simp [XVal.le, Direction.leR]
  rw [this]

theorem lerp_fin (a b t : Rat) : lerp (.fin a) (.fin b) t = .fin (a + (b - a) * t) := by
  unfold lerp
  simp only [xsub, xadd, xneg, xscale]
  split <;> (congr 1; ring)

theorem npPercentile_eq_percLin (vals : List XVal) (q : Rat) (h : NoInf vals) (hq0 : 0 ≤ q) (hq1 : q ≤ 100) :
    npPercentile vals q =
      match finOf vals with
      | [] => .nan
      | x :: r => .fin (Direction.percLin (Direction.sortR (x :: r)) q) := by
  unfold npPercentile
  simp only [filter_notNan_eq vals h, List.length_map, sortX_fin]
  cases hl : finOf vals with
  | nil => rfl
  | cons x r =>
    have hlen : (Direction.sortR (x :: r)).length = r.length + 1 := by simp
    simp only [List.length_cons]
    unfold Direction.percLin
    simp only [hlen]
    have hm0 : (0 : Rat) ≤ (r.length : Rat) := by exact_mod_cast Nat.zero_le _
    have hv0 : 0 ≤ (r.length : Rat) * (q / 100) := mul_nonneg hm0 (by positivity)
    have hveq : q / 100 * (((r.length + 1 : Nat) : Rat) - 1) = (r.length : Rat) * (q / 100) := by push_cast; ring
    rw [hveq]
    have hvle : (r.length : Rat) * (q / 100) ≤ (r.length : Rat) := by
      have : q / 100 ≤ 1 := by linarith
      calc (r.length : Rat) * (q / 100) ≤ (r.length : Rat) * 1 := mul_le_mul_of_nonneg_left this hm0
        _ = _ := by ring
    have hf1 := (floor_toNat_bounds hv0).1
    set v := (r.length : Rat) * (q / 100) with hvdef
    set p := v.floor.toNat with hp
    -- the branch of `npPercentile` at the last index (`v = r.length`): both neighbours are the maximum there, as they are
    -- for `percLin` through its clip `min (k + 1) (n - 1)`; below it `p + 1` is an index and the clip is idle
    by_cases htop : (r.length : Rat) ≤ v
    · have hpm : p = r.length := Direction.floor_toNat_eq v r.length htop (by linarith)
      have hidx : r.length < (Direction.sortR (x :: r)).length := by omega
      simp only [htop, if_true, List.getElem?_map, List.getElem?_eq_getElem hidx, Option.map_some, lerp_fin, hpm,
        List.getD_eq_getElem?_getD, Nat.min_eq_right (Nat.le_succ _), Nat.add_sub_cancel, Option.getD_some]
      congr 1; ring
    · have hlt : v < (r.length : Rat) := not_le.mp htop
      have hp1 : p + 1 ≤ r.length := by exact_mod_cast lt_of_le_of_lt hf1 hlt
      have hi0 : p < (Direction.sortR (x :: r)).length := by omega
      have hi1 : p + 1 < (Direction.sortR (x :: r)).length := by omega
      have hmin : min (p + 1) (r.length + 1 - 1) = p + 1 := by omega
      simp only [htop, if_false, List.getElem?_map, List.getElem?_eq_getElem hi0, List.getElem?_eq_getElem hi1,
        Option.map_some, lerp_fin, List.getD_eq_getElem?_getD, hmin, Option.getD_some]

/-- **numpy's percentile mirrors on values without ±inf**: `perc(-v, q) = -perc(v, 100 - q)`.  The tie-break that
makes it go through: both `_lerp` branches (`a + d·t` below one half, `b - d·(1-t)` from one half on) are the
same number `a + (b-a)·t` for finite neighbours, so which branch the mirrored `t' = 1 - t` falls into does not
matter — with an infinite neighbour it does (`percentile_mirror_fails_with_inf`). -/
theorem npPercentile_neg (vals : List XVal) (q : Rat) (h : NoInf vals) (hq0 : 0 ≤ q) (hq1 : q ≤ 100) :
    npPercentile (vals.map xneg) q = xneg (npPercentile vals (100 - q)) := by
  rw [npPercentile_eq_percLin _ q (NoInf_neg vals h) hq0 hq1,
    npPercentile_eq_percLin vals (100 - q) h (by linarith) (by linarith), finOf_neg]
  cases hl : finOf vals with
  | nil => rfl
  | cons x r =>
    simp only [Direction.negL, List.map_cons]
    have := Direction.percLin_mirror (Direction.sortR (x :: r)) q (by
      intro he; have := congrArg List.length he; simp at this) hq0 hq1
    rw [this, ← Direction.sortR_negL]
    simp [xneg, Direction.negL]

theorem bestOverSteps_mirror (t : PTrial) : bestOverSteps (negT t) .minimize = xneg (bestOverSteps t .maximize) := by
  simp only [bestOverSteps, interValues_negT, nanMin_neg]

/-- by construction: under MAXIMIZE the source negates, takes the percentile at `q`, negates -/
theorem percentileOverTrials_mirror (completed : List PTrial) (step : Int) (q : Rat) (nMin : Nat) :
    percentileOverTrials (completed.map negT) .minimize step q nMin =
      xneg (percentileOverTrials completed .maximize step q nMin) := by
  unfold percentileOverTrials
  simp only [valuesAtStep_neg, List.length_map]
  split
  · rfl
  · simp

theorem percentilePrune_mirror (c : PercentileCfg) (trials : List PTrial) (t : PTrial) :
    percentilePrune c .minimize (trials.map negT) (negT t) = percentilePrune c .maximize trials t := by
  cases h : lastStep t.inter <;>
    simp only [percentilePrune, completedTrials_neg, List.length_map, lastStep_negT, interSteps_negT, bestOverSteps_mirror,
      percentileOverTrials_mirror, xisNan_xneg, xlt_xneg, h]

/-- the formulation `percentile = 100 - percentile` on the raw values (finding F41) mirrors when no report is ±inf; with
one it need not (`C13Bridge.percentile_mirror_fails_with_inf`) -/
theorem percentileOverTrialsOld_mirror (completed : List PTrial) (step : Int) (q : Rat) (nMin : Nat)
    (h : NoInf (valuesAtStep completed step)) (hq0 : 0 ≤ q) (hq1 : q ≤ 100) :
    percentileOverTrialsOld (completed.map negT) .minimize step q nMin =
      xneg (percentileOverTrialsOld completed .maximize step q nMin) := by
  unfold percentileOverTrialsOld
  simp only [valuesAtStep_neg, List.length_map]
  split
  · rfl
  · exact npPercentile_neg _ q h hq0 hq1

/-- the order facts are asked of the non-NaN values only, on which `XVal.le` is total and transitive -/
theorem sortX_pairwise (l : List XVal) (h : ∀ v ∈ l, xisNan v = false) :
    (sortX l).Pairwise (fun a b => XVal.le a b = true) :=
  (insertBy_isInsert XVal.le).toU.sort_pairwise (M := fun v => xisNan v = false) (fun _ _ _ _ hxy => hxy)
    (fun _ _ _ _ _ _ hxy hyz => xle_trans hxy hyz) (fun _ _ hx hy hxy _ => (xle_total hx hy).resolve_left hxy)
    (sortBy_isSort XVal.le) h

theorem sortX_neg (l : List XVal) (h : ∀ v ∈ l, xisNan v = false) :
    sortX (l.map xneg) = (sortX l).reverse.map xneg := by
  apply List.Perm.eq_of_pairwise (le := fun a b => XVal.le a b = true)
  · intro a b _ _ h1 h2; exact xle_antisymm h1 h2
  · apply sortX_pairwise
    intro v hv
    obtain ⟨u, hu, rfl⟩ := List.mem_map.mp hv
    simp [h u hu]
  · rw [List.pairwise_map, List.pairwise_reverse]
    exact (sortX_pairwise l h).imp (fun {a b} hab => by rw [xle_xneg]; exact hab)
  · exact (sortBy_perm _ _).trans (((List.reverse_perm _).trans (sortBy_perm _ l)).map _).symm

theorem isPromotable_mirror (v : XVal) (comp : List XVal) (eta : Nat) (h : ∀ u ∈ comp, xisNan u = false) :
    isPromotable? (xneg v) (comp.map xneg) eta .minimize = isPromotable? v comp eta .maximize := by
  unfold isPromotable?
  simp only [List.length_map, sortX_neg comp h, List.getElem?_map]
  have hlen : (sortX comp).length = comp.length := length_sortBy _ _
  generalize promotableIdx comp.length eta = idx
  by_cases hi : idx + 1 ≤ (sortX comp).length
  · have : idx < (sortX comp).length := by omega
    simp only [hi, if_true, List.getElem?_reverse this]
    have e : (sortX comp).length - 1 - idx = (sortX comp).length - (idx + 1) := by omega
    rw [e]
    cases (sortX comp)[(sortX comp).length - (idx + 1)]? with
    | none => rfl
    | some c => simp [xle_xneg]
  · simp only [hi, if_false]
    have : (sortX comp).reverse.length ≤ idx := by simp; omega
    rw [List.getElem?_eq_none this]
    rfl

theorem competingValues_neg (trials : List PTrial) (rung : Nat) (v : XVal) :
    competingValues (trials.map negT) rung (xneg v) = (competingValues trials rung v).map xneg := by
  unfold competingValues
  rw [List.filterMap_map, List.map_append, List.map_filterMap]
  congr 1
  congr 1
  funext t
  simp [Function.comp, negT, rungGet_neg]

/-- no `completed_rung_k` attribute holds NaN (true in every reachable study: the pruner returns before storing a NaN) -/
def NoNanRungs (trials : List PTrial) : Prop := ∀ t ∈ trials, ∀ p ∈ t.rungs, xisNan p.2 = false

theorem competing_notNan (trials : List PTrial) (rung : Nat) (v : XVal) (h : NoNanRungs trials) (hv : xisNan v = false) :
    ∀ u ∈ competingValues trials rung v, xisNan u = false := by
  intro u hu
  unfold competingValues at hu
  rcases List.mem_append.mp hu with hu | hu
  · obtain ⟨t, ht, hg⟩ := List.mem_filterMap.mp hu
    exact h t ht _ (rungGet_mem hg)
  · simp at hu; rw [hu]; exact hv

theorem shLoop_mirror (c : SHCfg) (m : Nat) (trials : List PTrial) (step : Int) (v : XVal) (h : NoNanRungs trials) :
    ∀ (fuel rung : Nat), shLoop c m .minimize (trials.map negT) step (xneg v) fuel rung =
      shLoop c m .maximize trials step v fuel rung := by
  intro fuel
  induction fuel with
  | zero => intro rung; rfl
  | succ fuel ih =>
    intro rung
    simp only [shLoop, xisNan_xneg, competingValues_neg, List.length_map]
    split
    · rfl
    split
    · rfl
    rename_i _ hn
    have hv : xisNan v = false := by simpa using hn
    split
    · rfl
    rw [isPromotable_mirror v _ c.eta (competing_notNan trials rung v h hv), ih]

theorem hasRung_neg (l : List (Nat × XVal)) (k : Nat) : hasRung (l.map (fun p => (p.1, xneg p.2))) k = hasRung l k := by
  unfold hasRung; rw [rungGet_neg]; cases rungGet l k <;> rfl

theorem currentRungFrom_neg (l : List (Nat × XVal)) : ∀ (f k : Nat),
    currentRungFrom (l.map (fun p => (p.1, xneg p.2))) f k = currentRungFrom l f k := by
  intro f
  induction f with
  | zero => intro k; rfl
  | succ f ih => intro k; simp only [currentRungFrom, hasRung_neg, ih]

theorem estimateMinResource_neg (trials : List PTrial) : estimateMinResource (trials.map negT) = estimateMinResource trials := by
  unfold estimateMinResource
  simp only [completedTrials_neg, List.filterMap_map]
  have : ((fun t => lastStep t.inter) ∘ negT) = (fun t => lastStep t.inter) := by funext t; simp
  rw [this]

/-- the mirrored result: the value written to `completed_rung_k` is the negated one -/
def negR (r : SHResult) : SHResult := { r with value := xneg r.value }

theorem shPrune_mirror (c : SHCfg) (trials : List PTrial) (t : PTrial) (h : NoNanRungs trials) :
    shPrune c .minimize (trials.map negT) (negT t) = negR (shPrune c .maximize trials t) := by
  have hcr : currentRung (negT t).rungs = currentRung t.rungs := by
    unfold currentRung negT; simp only [List.length_map]; exact currentRungFrom_neg _ _ _
  have hres : resolveMinResource c (trials.map negT) = resolveMinResource c trials := by
    unfold resolveMinResource; rw [estimateMinResource_neg]
  have hig : ∀ step, interGet (negT t).inter step = (interGet t.inter step).map xneg := fun _ => interGet_neg _ _
  -- the mirrored call takes the path of the call it mirrors
  fun_cases shPrune c .maximize trials t <;>
    simp +zetaDelta only [shPrune, lastStep_negT, shLoop_mirror c _ trials _ _ h, Option.map_some, Option.map_none, *] <;>
    rfl

theorem bracketTrials_neg (nb eta : Nat) (crc : Nat → Nat) (b : Nat) (trials : List PTrial) :
    bracketTrials nb eta crc b (trials.map negT) = (bracketTrials nb eta crc b trials).map negT := by
  unfold bracketTrials
  rw [List.zipIdx_map, List.filter_map, List.map_map, List.map_map]
  rfl

theorem NoNanRungs_bracket (nb eta : Nat) (crc : Nat → Nat) (b : Nat) (trials : List PTrial) (h : NoNanRungs trials) :
    NoNanRungs (bracketTrials nb eta crc b trials) := by
  intro t ht
  obtain ⟨i, hi, _⟩ := mem_bracketTrials ht
  exact h t (List.mem_of_getElem? hi)

theorem hbPrune_mirror (c : HBCfg) (crc : Nat → Nat) (trials : List PTrial) (n : Nat) (t : PTrial) (h : NoNanRungs trials) :
    hbPrune c crc .minimize (trials.map negT) n (negT t) = negR (hbPrune c crc .maximize trials n t) := by
  fun_cases hbPrune c crc .maximize trials n t with
  | case4 nb hnb h0 b hb =>
    simp only [hbPrune, hnb, h0, hb, if_false, bracketTrials_neg]
    exact shPrune_mirror _ _ t (NoNanRungs_bracket nb c.eta crc b trials h)
  | _ => simp only [hbPrune, *]; rfl

/-- the pruner of the mirrored run: thresholds mirrored (`lower' = -upper`, `upper' = -lower`), everything else kept -/
def mirrorP : Pruner → Pruner
  | .threshold c => .threshold (mirrorThreshold c)
  | .patient w k d => .patient (mirrorP w) k d
  | p => p

theorem prune_mirror (crc : Nat → Nat) (trials : List PTrial) (n : Nat) (t : PTrial) (p : Pruner) (hr : NoNanRungs trials) :
    prune crc ⟨.minimize, trials.map negT⟩ n (negT t) (mirrorP p) = negR (prune crc ⟨.maximize, trials⟩ n t p) := by
  induction p with
  | nop => rfl
  | percentile c =>
    simp only [mirrorP, prune, percentilePrune_mirror c trials t]
    rfl
  | threshold c =>
    simp only [mirrorP, prune, thresholdPrune_mirror]
    rfl
  | sh c => exact shPrune_mirror c trials t hr
  | hyperband c => exact hbPrune_mirror c crc trials n t hr
  | patient w k dl ih =>
    simp only [mirrorP, prune, patientMaybe_mirror]
    split
    · exact ih
    · rfl
  | patientNone k dl =>
    simp only [mirrorP, prune, patientMaybe_mirror]
    rfl

end OptunaVerif.Pruners
