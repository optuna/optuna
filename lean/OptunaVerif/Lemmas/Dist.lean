import Mathlib.Tactic.Linarith
import Mathlib.Tactic.Ring
import Mathlib.Tactic.FieldSimp
import Mathlib.Algebra.Order.Field.Rat
import Mathlib.Data.Rat.Floor
import Mathlib.Data.List.Forall2
import OptunaVerif.Model.Dist
import OptunaVerif.Lemmas.Basic
/-!
Lemmas about `Model/Dist.lean` for Props/C10 and C11.  Arithmetic: rounding, truncation, clipping, the rational
modulo, and the grid `k·s + low` of a stepped range, on which both high adjustments are the floor and an integer
range is the cast of a rational one.  `WF d` is the class invariant `__init__` establishes (`mkFlt_wf` /
`mkInt_wf` / `mkCat_wf` and their converses).  The search-space transform one distribution at a time: the column of
every point of the range lies within the raw bounds (`flt_tnum_inB`, `int_tnum_inB`), a canonical contained value
(`Canon`) decodes back from its column (`encode_ok`), and raw columns within the bounds decode to a member of the
domain (`Member`; `decode_in_domain` - not for `tlog = false ∧ tstep = true`), where the shapes that round to the grid and
clip need nothing of the column (`decode_round_in_domain`, from `grid_clip_member` / `int_grid_clip_member`); the 0-1
scaling and its inverse column by column.
-/
namespace OptunaVerif.Dist
open OptunaVerif.Generated

theorem floor_eq (q : Rat) : q.floor = ⌊q⌋ := rfl

theorem rat_abs_eq (q : Rat) : Rat.abs q = |q| := by
  unfold Rat.abs
  split
  · rw [abs_of_nonneg]; assumption
  · rw [abs_of_neg]; linarith

theorem roundHE_intCast (n : Int) : roundHE (n : Rat) = n := by
  unfold roundHE
  simp only [Rat.floor_intCast, sub_self]
  norm_num

theorem truncI_intCast (n : Int) : truncI (n : Rat) = n := by
  unfold truncI
  split
  · exact Rat.floor_intCast n
  · have : (-(n : Rat)) = ((-n : Int) : Rat) := by push_cast; ring
    rw [this, Rat.floor_intCast]; omega

theorem roundHE_near (q : Rat) : |q - (roundHE q : Rat)| ≤ 1 / 2 := by
  have h1 : ((q.floor : Int) : Rat) ≤ q := Rat.floor_le q
  have h2 : q < ((q.floor : Int) : Rat) + 1 := by
    have := Rat.lt_floor_add_one q; push_cast at this; exact this
  unfold roundHE
  simp only
  split
  · rename_i h; rw [abs_le]; constructor <;> linarith
  · split
    · rename_i h h'; push_cast; rw [abs_le]; constructor <;> linarith
    · rename_i h h'
      have he : q - (q.floor : Rat) = 1 / 2 := le_antisymm (not_lt.mp h') (not_lt.mp h)
      split
      · rw [abs_le]; constructor <;> linarith
      · push_cast; rw [abs_le]; constructor <;> linarith

theorem roundHE_mono_le {q : Rat} {n : Int} (h : q ≤ (n : Rat)) : roundHE q ≤ n := by
  have hn := roundHE_near q
  rw [abs_le] at hn
  by_contra hc
  have : n + 1 ≤ roundHE q := by omega
  have h3 : ((n : Rat) + 1) ≤ (roundHE q : Rat) := by exact_mod_cast this
  -- q ≤ n and roundHE q ≥ n + 1 means the distance is ≥ 1
  linarith [hn.1]

theorem roundHE_mono_ge {q : Rat} {n : Int} (h : (n : Rat) ≤ q) : n ≤ roundHE q := by
  have hn := roundHE_near q
  rw [abs_le] at hn
  by_contra hc
  have : roundHE q + 1 ≤ n := by omega
  have h3 : (roundHE q : Rat) + 1 ≤ (n : Rat) := by exact_mod_cast this
  linarith [hn.2]

theorem clip_mem {x lo hi : Rat} (h : lo ≤ hi) : lo ≤ clip x lo hi ∧ clip x lo hi ≤ hi := by
  unfold clip
  refine ⟨le_min (le_max_right _ _) h, min_le_right _ _⟩

theorem clip_id {x lo hi : Rat} (h1 : lo ≤ x) (h2 : x ≤ hi) : clip x lo hi = x := by
  unfold clip
  rw [max_eq_left h1, min_eq_left h2]

theorem clip_cases (x lo hi : Rat) (h : lo ≤ hi) :
    (clip x lo hi = x ∧ lo ≤ x ∧ x ≤ hi) ∨ (clip x lo hi = lo ∧ x < lo) ∨ (clip x lo hi = hi ∧ hi < x) := by
  unfold clip
  rcases le_or_gt lo x with h1 | h1
  · rcases le_or_gt x hi with h2 | h2
    · left; rw [max_eq_left h1, min_eq_left h2]; exact ⟨rfl, h1, h2⟩
    · right; right; rw [max_eq_left h1, min_eq_right (le_of_lt h2)]; exact ⟨rfl, h2⟩
  · right; left; rw [max_eq_right (le_of_lt h1), min_eq_left h]; exact ⟨rfl, h1⟩

theorem clip_int (low high n : Int) (hl : low ≤ high) :
    ∃ i : Int, low ≤ i ∧ i ≤ high ∧ clip (n : Rat) (low : Rat) (high : Rat) = (i : Rat) :=
  ⟨clipI n low high, le_min (le_max_right _ _) hl, min_le_right _ _, by rw [clip, clipI, Int.cast_min, Int.cast_max]⟩

theorem ratMod_eq_zero_iff {a b : Rat} (hb : b ≠ 0) : ratMod a b = 0 ↔ ∃ k : Int, a = (k : Rat) * b := by
  unfold ratMod
  constructor
  · intro h
    exact ⟨(a / b).floor, by linarith⟩
  · rintro ⟨k, hk⟩
    have : a / b = (k : Rat) := by rw [hk]; field_simp
    rw [this, Rat.floor_intCast, hk]; ring

theorem le_floor_div {s : Rat} (hs : 0 < s) (a : Rat) (k : Int) : k ≤ (a / s).floor ↔ (k : Rat) * s ≤ a := by
  rw [Rat.le_floor_iff, le_div_iff₀ hs]

theorem ratMod_nonneg {a b : Rat} (hb : 0 < b) : 0 ≤ ratMod a b :=
  sub_nonneg.2 ((le_floor_div hb a _).1 le_rfl)

theorem ratMod_lt {a b : Rat} (hb : 0 < b) : ratMod a b < b := by
  have := (le_floor_div hb a ((a / b).floor + 1)).not.1 (by omega)
  unfold ratMod
  push_cast at this
  linarith

/-! ## the grid of a stepped range

The points `k·s + low`, `k : ℤ`, of a range with step `s > 0`, ordered like their indices.  `ratMod (x - low) s = 0` says
that `x` is one of them (`ratMod_eq_zero_iff`); the largest one not above `x` has the index `⌊(x - low) / s⌋`
(`le_floor_grid`), lies `ratMod (x - low) s` below `x`, and is what both high adjustments return
(`adjustDiscreteHigh_eq`, `adjustInt_cast`).  An integer range is read as the rational one through the cast
(`int_grid_iff`). -/

theorem grid_div {s : Rat} (hs : s ≠ 0) (k low : Rat) : (k * s + low - low) / s = k := by
  rw [add_sub_cancel_right, mul_div_assoc, div_self hs, mul_one]

theorem grid_le_grid {s : Rat} (hs : 0 < s) (low : Rat) (k K : Int) :
    (k : Rat) * s + low ≤ (K : Rat) * s + low ↔ k ≤ K := by
  rw [add_le_add_iff_right, mul_le_mul_iff_of_pos_right hs, Int.cast_le]

theorem grid_nonneg {s : Rat} (hs : 0 < s) (low : Rat) (k : Int) : low ≤ (k : Rat) * s + low ↔ 0 ≤ k := by
  rw [le_add_iff_nonneg_left, mul_nonneg_iff_of_pos_right hs, Int.cast_nonneg_iff]

theorem le_floor_grid {s : Rat} (hs : 0 < s) (low x : Rat) (k : Int) :
    k ≤ ((x - low) / s).floor ↔ (k : Rat) * s + low ≤ x := by
  rw [le_floor_div hs, le_sub_iff_add_le]

theorem floor_grid {s : Rat} (hs : s ≠ 0) (low : Rat) (k : Int) : (((k : Rat) * s + low - low) / s).floor = k := by
  rw [grid_div hs, Rat.floor_intCast]

theorem sub_floor_grid (low s x : Rat) : x - ((((x - low) / s).floor : Rat) * s + low) = ratMod (x - low) s := by
  unfold ratMod; ring

theorem grid_single {low high s : Rat} {K : Int} (hs : 0 < s) (hK0 : 0 ≤ K) (hK : high - low = (K : Rat) * s)
    (h : high - low < s) : high = low := by
  have : ¬ 1 ≤ K := fun h1 => by
    have := (grid_le_grid hs low 1 K).2 h1
    rw [Int.cast_one, one_mul] at this; linarith
  obtain rfl : K = 0 := by omega
  rw [Int.cast_zero, zero_mul] at hK; linarith

/-- `hK`: the range is a whole number of steps, which the constructors guarantee. -/
theorem clip_grid (low high s : Rat) (K : Int) (hs : 0 < s) (hK0 : 0 ≤ K) (hK : high - low = (K : Rat) * s) (m : Int) :
    ∃ k : Int, 0 ≤ k ∧ k ≤ K ∧ clip ((m : Rat) * s + low) low high = (k : Rat) * s + low := by
  obtain rfl : high = (K : Rat) * s + low := by linarith
  rcases clip_cases ((m : Rat) * s + low) low _ ((grid_nonneg hs low K).2 hK0) with ⟨he, h1, h2⟩ | ⟨he, _⟩ | ⟨he, _⟩
  · exact ⟨_, (grid_nonneg hs low _).1 h1, (grid_le_grid hs low _ K).1 h2, he⟩
  · exact ⟨0, le_refl _, hK0, by rw [he, Int.cast_zero, zero_mul, zero_add]⟩
  · exact ⟨K, hK0, le_refl _, he⟩

theorem grid_clip (low high s : Rat) (K : Int) (hs : 0 < s) (hK0 : 0 ≤ K) (hK : high - low = (K : Rat) * s) (x : Rat) :
    ∃ k : Int, 0 ≤ k ∧ k ≤ K ∧ clip ((roundHE ((x - low) / s) : Rat) * s + low) low high = (k : Rat) * s + low :=
  clip_grid low high s K hs hK0 hK _

theorem grid_clip_fix {low high s : Rat} (hs : 0 < s) (k : Int) (hk0 : 0 ≤ k) (hk1 : (k : Rat) * s + low ≤ high) :
    clip ((roundHE (((k : Rat) * s + low - low) / s) : Rat) * s + low) low high = (k : Rat) * s + low := by
  rw [grid_div (ne_of_gt hs), roundHE_intCast, clip_id ((grid_nonneg hs low k).2 hk0) hk1]

theorem int_grid_iff {step : Int} (i low : Int) :
    (i - low) % step = 0 ↔ ∃ k : Int, (i : Rat) - (low : Rat) = (k : Rat) * (step : Rat) := by
  rw [← Int.dvd_iff_emod_eq_zero, dvd_iff_exists_eq_mul_left]
  constructor <;> rintro ⟨k, hk⟩ <;> exact ⟨k, by exact_mod_cast hk⟩

theorem int_range_grid {low high step : Int} (hs : 0 < step) (hl : low ≤ high) (hg : (high - low) % step = 0) :
    ∃ K : Int, 0 ≤ K ∧ (high : Rat) - (low : Rat) = (K : Rat) * (step : Rat) := by
  obtain ⟨K, hK⟩ := (int_grid_iff high low).1 hg
  have hsq : (0 : Rat) < (step : Rat) := by exact_mod_cast hs
  refine ⟨K, (grid_nonneg hsq (low : Rat) K).1 ?_, hK⟩
  rw [← hK, sub_add_cancel]; exact_mod_cast hl

theorem int_grid_clip (low high step : Int) (hs : 0 < step) (hl : low ≤ high) (hg : (high - low) % step = 0) (x : Rat) :
    ∃ i : Int, low ≤ i ∧ i ≤ high ∧ (i - low) % step = 0 ∧
      clip ((roundHE ((x - (low : Rat)) / (step : Rat)) : Rat) * (step : Rat) + (low : Rat)) (low : Rat) (high : Rat) = (i : Rat) := by
  have hsq : (0 : Rat) < (step : Rat) := by exact_mod_cast hs
  obtain ⟨K, hK0, hK⟩ := int_range_grid hs hl hg
  obtain ⟨k, hk0, hk1, hk⟩ := grid_clip (low : Rat) (high : Rat) (step : Rat) K hsq hK0 hK x
  have h1 := (grid_nonneg hsq (low : Rat) k).2 hk0
  have h2 := (grid_le_grid hsq (low : Rat) k K).2 hk1
  rw [← hK, sub_add_cancel] at h2
  exact ⟨k * step + low, by exact_mod_cast h1, by exact_mod_cast h2, (int_grid_iff _ _).2 ⟨k, by push_cast; ring⟩,
    by rw [hk]; push_cast; rfl⟩

theorem firstIdx_some {α : Type} (p : α → Bool) (l : List α) (i : Nat) (h : firstIdx p l = some i) :
    ∃ a, l[i]? = some a ∧ p a = true ∧ ∀ j, j < i → ∀ b, l[j]? = some b → p b = false := by
  induction l generalizing i with
  | nil => simp [firstIdx] at h
  | cons a t ih =>
    unfold firstIdx at h
    split at h
    · rename_i hp
      have : i = 0 := by simpa using h.symm
      subst this
      exact ⟨a, by simp, hp, by intro j hj; omega⟩
    · rename_i hp
      cases hf : firstIdx p t with
      | none => simp [hf] at h
      | some k =>
        simp [hf] at h
        subst h
        obtain ⟨b, hb, hpb, hmin⟩ := ih k hf
        refine ⟨b, by simpa using hb, hpb, ?_⟩
        intro j hj c hc
        cases j with
        | zero => simp at hc; subst hc; simpa using hp
        | succ j => exact hmin j (by omega) c (by simpa using hc)

theorem firstIdx_of_mem {α : Type} (p : α → Bool) (l : List α) (i : Nat) (a : α)
    (h : l[i]? = some a) (hp : p a = true) : ∃ j, firstIdx p l = some j ∧ j ≤ i := by
  induction l generalizing i with
  | nil => simp at h
  | cons b t ih =>
    unfold firstIdx
    split
    · exact ⟨0, rfl, Nat.zero_le _⟩
    · rename_i hb
      cases i with
      | zero => simp at h; subst h; exact absurd hp hb
      | succ i =>
        obtain ⟨j, hj, hle⟩ := ih i (by simpa using h)
        exact ⟨j + 1, by simp [hj], by omega⟩

def FClsOK : FCls → Bool → Option Rat → Prop
  | .float, _, _ => True
  | .uniform, log, step => log = false ∧ step = none
  | .logUniform, log, step => log = true ∧ step = none
  | .discreteUniform, log, step => log = false ∧ step ≠ none

def IClsOK : ICls → Bool → Prop
  | .int, _ => True
  | .intUniform, log => log = false
  | .intLogUniform, log => log = true

/-- The class invariant established by `__init__` (and by nothing else: attributes are not
re-validated on assignment in Python, which is outside this model). -/
def WF : Dist → Prop
  | .flt c low high log step =>
    low ≤ high ∧ (log = true → 0 < low ∧ step = none) ∧
    (∀ s, step = some s → 0 < s ∧ ∃ k : Int, 0 ≤ k ∧ high - low = (k : Rat) * s) ∧ FClsOK c log step
  | .int c low high log step =>
    low ≤ high ∧ (log = true → 1 ≤ low ∧ step = 1) ∧ 0 < step ∧ (high - low) % step = 0 ∧ IClsOK c log
  | .cat cs => cs ≠ []

theorem adjustDiscrete_fix (low X step : Rat) (h : ratMod (X - low) step = 0) :
    adjustDiscreteHigh low X step = X := by
  unfold adjustDiscreteHigh
  simp [h]

theorem adjustDiscreteHigh_eq (low high s : Rat) :
    adjustDiscreteHigh low high s = (((high - low) / s).floor : Rat) * s + low := by
  unfold adjustDiscreteHigh ratMod
  simp only
  split
  · rfl
  · rename_i h; linarith [not_not.mp h]

theorem adjustDiscrete_grid (low high step : Rat) (hs : 0 < step) (hl : low ≤ high) :
    low ≤ adjustDiscreteHigh low high step ∧
    ∃ k : Int, 0 ≤ k ∧ adjustDiscreteHigh low high step - low = (k : Rat) * step := by
  rw [adjustDiscreteHigh_eq]
  have h0 : 0 ≤ ((high - low) / step).floor := (le_floor_grid hs low high 0).2 (by simpa using hl)
  exact ⟨(grid_nonneg hs low _).2 h0, _, h0, add_sub_cancel_right _ _⟩

theorem ok_of_guard {α : Type} {c : Prop} [Decidable c] {e : Err} {x : R α} {a : α}
    (h : (if c then .error e else x) = .ok a) : ¬ c ∧ x = .ok a := by
  split at h
  · cases h
  · exact ⟨‹_›, h⟩

theorem mkFlt_wf (c : FCls) (low high : Rat) (log : Bool) (step : Option Rat) (d : Dist)
    (hc : FClsOK c log step) (h : mkFlt c low high log step = .ok d) : WF d := by
  unfold mkFlt at h
  obtain ⟨h1, h⟩ := ok_of_guard h
  obtain ⟨h2, h⟩ := ok_of_guard h
  obtain ⟨h3, h⟩ := ok_of_guard h
  have hl : low ≤ high := not_lt.mp h2
  cases step with
  | none =>
    cases h
    exact ⟨hl, fun hlog => ⟨by simpa [hlog] using h3, rfl⟩, nofun, hc⟩
  | some s =>
    obtain ⟨h4, h⟩ := ok_of_guard h
    cases h
    have hs : 0 < s := not_le.mp h4
    obtain ⟨g1, g2⟩ := adjustDiscrete_grid low high s hs hl
    exact ⟨g1, fun hlog => absurd (by simp [hlog]) h1, fun s' hs' => by cases hs'; exact ⟨hs, g2⟩, hc⟩

theorem mkFlt_of_wf (c : FCls) (low high : Rat) (log : Bool) (step : Option Rat)
    (h : WF (.flt c low high log step)) : mkFlt c low high log step = .ok (.flt c low high log step) := by
  obtain ⟨hl, hlog, hstep, _⟩ := h
  unfold mkFlt
  have h1 : (log && step.isSome) = false := by
    cases log with
    | false => simp
    | true => simp [(hlog rfl).2]
  have h2 : ¬ high < low := not_lt.mpr hl
  have h3 : (log && decide (low ≤ 0)) = false := by
    cases log with
    | false => simp
    | true => simp [(hlog rfl).1]
  simp only [h1, h2, h3, Bool.false_eq_true, if_false]
  cases step with
  | none => rfl
  | some s =>
    obtain ⟨hs, k, _, hk⟩ := hstep s rfl
    have : ¬ s ≤ 0 := not_le.mpr hs
    simp only [this, if_false]
    rw [adjustDiscrete_fix low high s ((ratMod_eq_zero_iff (ne_of_gt hs)).mpr ⟨k, hk⟩)]

theorem adjustInt_eq (low high step : Int) (hs : 0 < step) :
    DistInt.adjustIntUniformHigh low high step = (high - low) / step * step + low := by
  simp only [DistInt.adjustIntUniformHigh, Int.fmod_eq_emod_of_nonneg _ (le_of_lt hs), Int.fdiv_eq_ediv_of_nonneg _ (le_of_lt hs)]
  split
  · rfl
  · rename_i h
    have := Int.mul_ediv_add_emod (high - low) step
    simp only [ne_eq, decide_not, Bool.not_eq_eq_eq_not, Bool.not_true, decide_eq_false_iff_not, not_not] at h
    rw [h, Int.mul_comm] at this; omega

theorem adjustInt_cast (low high step : Int) (hs : 0 < step) :
    ((DistInt.adjustIntUniformHigh low high step : Int) : Rat) = adjustDiscreteHigh (low : Rat) (high : Rat) (step : Rat) := by
  have hsq : (0 : Rat) < (step : Rat) := by exact_mod_cast hs
  have : (high - low) / step = (((high : Rat) - (low : Rat)) / (step : Rat)).floor :=
    eq_of_forall_le_iff fun k => by
      rw [le_floor_grid hsq, Int.le_ediv_iff_mul_le hs, ← le_sub_iff_add_le]; norm_cast
  rw [adjustInt_eq low high step hs, adjustDiscreteHigh_eq, this]; push_cast; rfl

theorem adjustInt_grid (low high step : Int) (hs : 0 < step) (hl : low ≤ high) :
    low ≤ DistInt.adjustIntUniformHigh low high step ∧
    (DistInt.adjustIntUniformHigh low high step - low) % step = 0 := by
  obtain ⟨h1, k, _, hk⟩ := adjustDiscrete_grid (low : Rat) (high : Rat) (step : Rat) (by exact_mod_cast hs) (by exact_mod_cast hl)
  rw [← adjustInt_cast low high step hs] at h1 hk
  exact ⟨by exact_mod_cast h1, (int_grid_iff _ _).2 ⟨k, hk⟩⟩

theorem mkInt_wf (c : ICls) (low high : Int) (log : Bool) (step : Int) (d : Dist)
    (hc : IClsOK c log) (h : mkInt c low high log step = .ok d) : WF d := by
  unfold mkInt at h
  obtain ⟨h1, h⟩ := ok_of_guard h
  obtain ⟨h2, h⟩ := ok_of_guard h
  obtain ⟨h3, h⟩ := ok_of_guard h
  obtain ⟨h4, h⟩ := ok_of_guard h
  cases h
  have hs : 0 < step := not_le.mp h4
  obtain ⟨g1, g2⟩ := adjustInt_grid low high step hs (not_lt.mp h2)
  exact ⟨g1, fun hlog => ⟨by simpa [hlog] using h3, by simpa [hlog] using h1⟩, hs, g2, hc⟩

theorem mkInt_of_wf (c : ICls) (low high : Int) (log : Bool) (step : Int)
    (h : WF (.int c low high log step)) : mkInt c low high log step = .ok (.int c low high log step) := by
  obtain ⟨hl, hlog, hs, hg, _⟩ := h
  unfold mkInt
  have h1 : (log && step != 1) = false := by
    cases log with
    | false => simp
    | true => simp [(hlog rfl).2]
  have h2 : ¬ high < low := by omega
  have h3 : (log && decide (low < 1)) = false := by
    cases log with
    | false => simp
    | true => have := (hlog rfl).1; simp; omega
  have h4 : ¬ step ≤ 0 := by omega
  simp only [h1, h2, h3, h4, Bool.false_eq_true, if_false]
  rw [adjustInt_eq low high step hs, Int.ediv_mul_cancel (Int.dvd_of_emod_eq_zero hg), Int.sub_add_cancel]

theorem mkCat_wf (cs : List Tok) (d : Dist) (h : mkCat cs = .ok d) : WF d := by
  unfold mkCat at h
  obtain ⟨h1, h⟩ := ok_of_guard h
  cases h
  exact fun hc => h1 (by simp [hc])

theorem mkCat_of_wf (cs : List Tok) (h : WF (.cat cs)) : mkCat cs = .ok (.cat cs) := by
  unfold mkCat
  cases cs with
  | nil => exact absurd rfl h
  | cons a t => simp

theorem argmaxAux_range (t : List Rat) (i : Nat) (m : Rat) (best : Nat) :
    argmaxAux t i m best = best ∨ (i ≤ argmaxAux t i m best ∧ argmaxAux t i m best < i + t.length) := by
  induction t generalizing i m best with
  | nil => left; rfl
  | cons x t ih =>
    unfold argmaxAux
    split
    · rcases ih (i + 1) x i with h | h
      · right; rw [h]; simp
      · right; simp only [List.length_cons]; omega
    · rcases ih (i + 1) m best with h | h
      · left; exact h
      · right; simp only [List.length_cons]; omega

theorem argmax_lt (l : List Rat) (h : l ≠ []) : argmax l < l.length := by
  cases l with
  | nil => exact absurd rfl h
  | cons x t =>
    show argmaxAux t 1 x 0 < (x :: t).length
    rcases argmaxAux_range t 1 x 0 with h | h
    · rw [h]; simp
    · simp only [List.length_cons]; omega

theorem argmaxAux_zeros (k : Nat) (t : List Rat) (j : Nat) (m : Rat) (best : Nat) (hm : 0 ≤ m) :
    argmaxAux (List.replicate k 0 ++ t) j m best = argmaxAux t (j + k) m best := by
  induction k generalizing j with
  | zero => simp
  | succ k ih =>
    simp only [List.replicate_succ, List.cons_append]
    rw [argmaxAux, if_neg (not_lt.mpr hm), ih]
    congr 1; omega

theorem argmaxAux_zeros_end (k : Nat) (j : Nat) (m : Rat) (best : Nat) (hm : 0 ≤ m) :
    argmaxAux (List.replicate k 0) j m best = best := by
  have := argmaxAux_zeros k [] j m best hm
  simpa [argmaxAux] using this

theorem oneHot_eq (n i : Nat) (h : i < n) :
    oneHot n i = List.replicate i 0 ++ (1 : Rat) :: List.replicate (n - i - 1) 0 := by
  apply List.ext_getElem
  · simp [oneHot]; omega
  · intro j h1 h2
    simp only [oneHot, List.getElem_map, List.getElem_range]
    rcases Nat.lt_trichotomy j i with hj | hj | hj
    · rw [List.getElem_append_left (by simpa using hj)]
      simp [Nat.ne_of_lt hj]
    · subst hj
      rw [List.getElem_append_right (by simp)]
      simp
    · rw [List.getElem_append_right (by simp; omega)]
      have : j - (List.replicate i (0 : Rat)).length = (j - i - 1) + 1 := by simp; omega
      simp only [this, List.getElem_cons_succ, List.getElem_replicate]
      simp [Nat.ne_of_gt hj]

theorem argmax_oneHot (n i : Nat) (h : i < n) : argmax (oneHot n i) = i := by
  rw [oneHot_eq n i h]
  cases i with
  | zero =>
    simp only [List.replicate_zero, List.nil_append]
    show argmaxAux _ 1 1 0 = 0
    exact argmaxAux_zeros_end _ _ _ _ (by norm_num)
  | succ i =>
    simp only [List.replicate_succ, List.cons_append]
    show argmaxAux _ 1 0 0 = i + 1
    rw [argmaxAux_zeros i _ 1 0 0 (le_refl _), argmaxAux, if_pos (by norm_num),
      argmaxAux_zeros_end _ _ _ _ (by norm_num)]
    omega

theorem oneHot_length (n i : Nat) : (oneHot n i).length = n := by simp [oneHot]

def InB (b : Rat × Rat) (x : Rat) : Prop := b.1 ≤ x ∧ x ≤ b.2

theorem unscale_scale (b : Rat × Rat) (x : Rat) (h : InB b x) : unscale01 b (scale01 b x) = x := by
  unfold unscale01 scale01
  obtain ⟨h1, h2⟩ := h
  split
  · rename_i he
    have hx : x = b.1 := le_antisymm (he ▸ h2) h1
    rw [hx, ← he]; ring
  · rename_i he
    have : b.2 - b.1 ≠ 0 := sub_ne_zero.mpr (Ne.symm he)
    field_simp
    ring

theorem scale_in01 (b : Rat × Rat) (x : Rat) (h : InB b x) : 0 ≤ scale01 b x ∧ scale01 b x ≤ 1 := by
  unfold scale01
  obtain ⟨h1, h2⟩ := h
  split
  · norm_num
  · rename_i he
    have hpos : 0 < b.2 - b.1 := by
      rcases lt_or_eq_of_le (le_trans h1 h2) with hlt | heq
      · linarith
      · exact absurd heq he
    constructor
    · exact div_nonneg (by linarith) (le_of_lt hpos)
    · rw [div_le_one hpos]; linarith

theorem unscale_inB (b : Rat × Rat) (x : Rat) (hb : b.1 ≤ b.2) (h0 : 0 ≤ x) (h1 : x ≤ 1) :
    InB b (unscale01 b x) := by
  unfold unscale01 InB
  have : 0 ≤ b.2 - b.1 := by linarith
  constructor <;> nlinarith

theorem zip_unscale_scale (bs : List (Rat × Rat)) (xs : List Rat) (h : List.Forall₂ InB bs xs) :
    List.zipWith unscale01 bs (List.zipWith scale01 bs xs) = xs := by
  induction h with
  | nil => rfl
  | cons hb _ ih => simp [List.zipWith, unscale_scale _ _ hb, ih]

theorem zip_scale_in01 (bs : List (Rat × Rat)) (xs : List Rat) (h : List.Forall₂ InB bs xs) :
    ∀ y ∈ List.zipWith scale01 bs xs, 0 ≤ y ∧ y ≤ 1 := by
  induction h with
  | nil => simp
  | cons hb _ ih =>
    intro y hy
    simp only [List.zipWith, List.mem_cons] at hy
    rcases hy with hy | hy
    · subst hy; exact scale_in01 _ _ hb
    · exact ih y hy

theorem forall2_length_zipWith_scale (bs : List (Rat × Rat)) (xs : List Rat) (h : List.Forall₂ InB bs xs) :
    bs.length = (List.zipWith scale01 bs xs).length := by
  have := h.length_eq
  simp [this]

theorem zip_unscale_inB (bs : List (Rat × Rat)) (xs : List Rat) (hl : bs.length = xs.length)
    (hb : ∀ b ∈ bs, b.1 ≤ b.2) (hx : ∀ x ∈ xs, 0 ≤ x ∧ x ≤ 1) :
    List.Forall₂ InB bs (List.zipWith unscale01 bs xs) := by
  induction bs generalizing xs with
  | nil => cases xs <;> simp_all
  | cons b bs ih =>
    cases xs with
    | nil => simp at hl
    | cons x xs =>
      simp only [List.zipWith]
      refine List.Forall₂.cons ?_ (ih xs (by simpa using hl) (fun b' hb' => hb b' (by simp [hb']))
        (fun x' hx' => hx x' (by simp [hx'])))
      exact unscale_inB b x (hb b (by simp)) (hx x (by simp)).1 (hx x (by simp)).2

/-- What is assumed of the log/exp pair: `ex` is monotone, `ex ∘ lg = id` on the positives, `lg` is
monotone on the positives.  (`lg = ex = id` satisfies it, so do the real `log`/`exp`.) -/
structure EnvOK (E : Env) : Prop where
  ex_mono : ∀ a b, a ≤ b → E.ex a ≤ E.ex b
  ex_lg : ∀ q, 0 < q → E.ex (E.lg q) = q
  lg_mono : ∀ a b, 0 < a → a ≤ b → E.lg a ≤ E.lg b

theorem envOK_id (b : Rat → Rat) : EnvOK ⟨id, id, b⟩ := ⟨fun _ _ h => h, fun _ _ => rfl, fun _ _ _ h => h⟩

/-- The half-open clamp stays inside the domain: `low ≤ nextafter(high, high-1) ≤ high` for every
non-single float distribution without step. -/
def HC (E : Env) : Dist → Prop
  | .flt _ low high _ Option.none => low < high → low ≤ E.below high ∧ E.below high ≤ high
  | _ => True

/-- a canonical, contained external value (for plain floats: not above the half-open clamp) -/
def Canon (E : Env) : Dist → Tok → Prop
  | .flt _ low high _ Option.none, v => ∃ q, v = .flt q ∧ low ≤ q ∧ q ≤ high ∧ (low < high → q ≤ E.below high)
  | .flt _ low high _ (some s), v => ∃ k : Int, v = .flt ((k : Rat) * s + low) ∧ 0 ≤ k ∧ (k : Rat) * s + low ≤ high
  | .int _ low high _ step, v => ∃ i : Int, v = .int i ∧ low ≤ i ∧ i ≤ high ∧ (i - low) % step = 0
  | .cat cs, v => ∃ i, cs[i]? = some v ∧ firstIdx (fun c => v.catEq c) cs = some i

theorem log_false_of_step {log : Bool} {low s : Rat} (hlog : log = true → 0 < low ∧ some s = none) : log = false := by
  cases log with
  | false => rfl
  | true => exact absurd (hlog rfl).2 (by simp)

theorem wf_stepped {c : FCls} {low high s : Rat} {log : Bool} (h : WF (.flt c low high log (some s))) :
    log = false ∧ 0 < s ∧ ∃ K : Int, 0 ≤ K ∧ high - low = (K : Rat) * s :=
  ⟨log_false_of_step h.2.1, h.2.2.1 s rfl⟩

theorem wf_intLog {c : ICls} {low high step : Int} (h : WF (.int c low high true step)) : step = 1 ∧ 1 ≤ low ∧ low ≤ high :=
  ⟨(h.2.1 rfl).2, (h.2.1 rfl).1, h.1⟩

theorem single_plain_eq (c : FCls) (low high : Rat) (log : Bool) (hl : low ≤ high) :
    (Dist.flt c low high log Option.none).single = !decide (low < high) := by
  by_cases hs : low < high
  · simp [Dist.single, hs, ne_of_lt hs]
  · simp [Dist.single, le_antisymm hl (not_lt.mp hs)]

theorem forall2_01_iff {α : Type} (bs : List α) (xs : List Rat) :
    List.Forall₂ InB (bs.map fun _ => ((0 : Rat), (1 : Rat))) xs ↔ bs.length = xs.length ∧ ∀ x ∈ xs, 0 ≤ x ∧ x ≤ 1 := by
  induction bs generalizing xs with
  | nil => cases xs <;> simp
  | cons b bs ih =>
    cases xs with
    | nil => simp
    | cons x xs =>
      rw [List.map_cons, List.forall₂_cons, ih, List.length_cons, List.length_cons, Nat.succ_inj, List.forall_mem_cons]
      exact and_left_comm

theorem oneHot_01 (n i : Nat) : ∀ x ∈ oneHot n i, (0 : Rat) ≤ x ∧ x ≤ 1 := by
  intro x hx
  simp only [oneHot, List.mem_map, List.mem_range] at hx
  obtain ⟨j, _, rfl⟩ := hx
  split <;> norm_num

theorem tnum_mono {E : Env} (hE : EnvOK E) (c : TCfg) (d : Dist) {a b : Rat} (ha : d.isLog = true → 0 < a) (hab : a ≤ b) :
    tnum E c d a ≤ tnum E c d b := by
  unfold tnum
  split
  · rename_i h
    exact hE.lg_mono a b (ha (Bool.and_eq_true_iff.mp h).1) hab
  · exact hab

theorem tnum_of_not_log (E : Env) (c : TCfg) {d : Dist} (h : d.isLog = false) (v : Rat) : tnum E c d v = v := by
  simp [tnum, h]

/-- what `decode` applies to a float column before the clamp: the inverse of `tnum` -/
def untnum (E : Env) (c : TCfg) (d : Dist) (x : Rat) : Rat := if d.isLog && c.tlog then E.ex x else x

theorem untnum_tnum {E : Env} (hE : EnvOK E) (c : TCfg) (d : Dist) {q : Rat} (hq : d.isLog = true → 0 < q) :
    untnum E c d (tnum E c d q) = q := by
  unfold untnum tnum
  split
  · rename_i h; exact hE.ex_lg q (hq (Bool.and_eq_true_iff.mp h).1)
  · rfl

theorem untnum_mem {E : Env} (hE : EnvOK E) (c : TCfg) (d : Dist) {low high x : Rat} (hpos : d.isLog = true → 0 < low)
    (hl : low ≤ high) (h1 : tnum E c d low ≤ x) (h2 : x ≤ tnum E c d high) :
    low ≤ untnum E c d x ∧ untnum E c d x ≤ high := by
  unfold untnum tnum at *
  split
  · rename_i h
    have hp := hpos (Bool.and_eq_true_iff.mp h).1
    rw [if_pos h] at h1 h2
    have a := hE.ex_mono _ _ h1
    have b := hE.ex_mono _ _ h2
    rw [hE.ex_lg _ hp] at a
    rw [hE.ex_lg _ (lt_of_lt_of_le hp hl)] at b
    exact ⟨a, b⟩
  · rename_i h
    rw [if_neg h] at h1 h2
    exact ⟨h1, h2⟩

theorem decode_plain (E : Env) (c : TCfg) (cl : FCls) {low high : Rat} (log : Bool) (hl : low ≤ high) (x : Rat) :
    decode E c (.flt cl low high log none) [x] =
      some (.flt (if low < high then min (untnum E c (.flt cl low high log none) x) (E.below high)
        else untnum E c (.flt cl low high log none) x)) := by
  cases log <;> simp only [decode, single_plain_eq cl low high _ hl, untnum, Dist.isLog] <;> by_cases hs : low < high <;> simp [hs]

theorem half_nonneg (b : Bool) {s : Rat} (hs : 0 < s) : 0 ≤ (if b = true then s / 2 else 0) := by
  split <;> linarith

theorem inB_widen {lo hi q h : Rat} (h0 : 0 ≤ h) (h1 : lo ≤ q) (h2 : q ≤ hi) : InB (lo - h, hi + h) q :=
  ⟨(sub_le_self _ h0).trans h1, h2.trans (le_add_of_nonneg_right h0)⟩

theorem forall2_inB_le {bs : List (Rat × Rat)} {xs : List Rat} (h : List.Forall₂ InB bs xs) : ∀ b ∈ bs, b.1 ≤ b.2 := by
  induction h with
  | nil => nofun
  | cons hx _ ih =>
    intro b hb
    rcases List.mem_cons.mp hb with rfl | hb
    · exact hx.1.trans hx.2
    · exact ih b hb

theorem forall2_inB_one {b : Rat × Rat} {raw : List Rat} (h : List.Forall₂ InB [b] raw) : ∃ x, raw = [x] ∧ InB b x := by
  obtain ⟨x, t, hx, ht, rfl⟩ := List.forall₂_cons_left_iff.mp h
  rw [List.forall₂_nil_left_iff.mp ht]; exact ⟨x, rfl, hx⟩

theorem flt_tnum_inB {E : Env} (hE : EnvOK E) (c : TCfg) {cl : FCls} {low high : Rat} {log : Bool} {step : Option Rat}
    (h : WF (.flt cl low high log step)) {q : Rat} (h1 : low ≤ q) (h2 : q ≤ high) :
    List.Forall₂ InB (boundsOf E c (.flt cl low high log step)) [tnum E c (.flt cl low high log step) q] := by
  cases step with
  | none =>
    have hpos : log = true → 0 < low := fun hl => (h.2.1 hl).1
    exact .cons ⟨tnum_mono hE c _ hpos h1, tnum_mono hE c _ (fun hl => lt_of_lt_of_le (hpos hl) h1) h2⟩ .nil
  | some s =>
    obtain ⟨rfl, hs, _⟩ := wf_stepped h
    simp only [boundsOf, tnum_of_not_log E c (d := .flt cl low high false (some s)) rfl]
    exact .cons (inB_widen (half_nonneg c.tstep hs) h1 h2) .nil

theorem int_tnum_inB {E : Env} (hE : EnvOK E) (c : TCfg) {cl : ICls} {low high step : Int} {log : Bool}
    (h : WF (.int cl low high log step)) {q : Rat} (h1 : (low : Rat) ≤ q) (h2 : q ≤ (high : Rat)) :
    List.Forall₂ InB (boundsOf E c (.int cl low high log step)) [tnum E c (.int cl low high log step) q] := by
  cases log with
  | true =>
    -- the half step is taken inside the log: `low - 1/2` is still positive
    obtain ⟨rfl, hl1, _⟩ := wf_intLog h
    have hh : (if c.tstep = true then ((1 : Int) : Rat) / 2 else 0) ≤ 1 / 2 := by split <;> norm_num
    have h0 := half_nonneg c.tstep (s := ((1 : Int) : Rat)) (by norm_num)
    have hpos : 0 < (low : Rat) - (if c.tstep = true then ((1 : Int) : Rat) / 2 else 0) := by
      have : (1 : Rat) ≤ (low : Rat) := by exact_mod_cast hl1
      linarith
    have hw := inB_widen h0 h1 h2
    simp only [boundsOf, if_true]
    exact .cons ⟨tnum_mono hE c _ (fun _ => hpos) hw.1, tnum_mono hE c _ (fun _ => lt_of_lt_of_le hpos hw.1) hw.2⟩ .nil
  | false =>
    simp only [boundsOf, Bool.false_eq_true, if_false, tnum_of_not_log E c (d := .int cl low high false step) rfl]
    exact .cons (inB_widen (half_nonneg c.tstep (by exact_mod_cast h.2.2.1)) h1 h2) .nil

theorem encode_ok (E : Env) (c : TCfg) (d : Dist) (v : Tok) (hE : EnvOK E) (h : WF d) (hv : Canon E d v) :
    ∃ raw, encode E c d v = .ok raw ∧ List.Forall₂ InB (boundsOf E c d) raw ∧ decode E c d raw = some v := by
  cases d with
  | cat cs =>
    obtain ⟨i, hi, hidx⟩ := hv
    have hlt : i < cs.length := (List.getElem?_eq_some_iff.mp hi).1
    exact ⟨oneHot cs.length i, by simp [encode, catIndex, hidx, Except.map],
      (forall2_01_iff cs _).2 ⟨(oneHot_length _ _).symm, oneHot_01 _ _⟩, by simp [decode, argmax_oneHot _ _ hlt, hi]⟩
  | flt cl low high log step =>
    cases step with
    | none =>
      obtain ⟨q, rfl, h1, h2, h3⟩ := hv
      refine ⟨_, rfl, flt_tnum_inB hE c h h1 h2, ?_⟩
      rw [decode_plain E c cl log h.1, untnum_tnum hE c (.flt cl low high log none) fun hl => lt_of_lt_of_le (h.2.1 hl).1 h1]
      -- the half-open clamp `min · (below high)` is idle on `q`: this is what `Canon` asks of a plain float
      split
      · rename_i hs; rw [min_eq_left (h3 hs)]
      · rfl
    | some s =>
      obtain ⟨k, rfl, hk0, hk1⟩ := hv
      obtain ⟨rfl, hs, _⟩ := wf_stepped h
      refine ⟨_, rfl, flt_tnum_inB hE c h ((grid_nonneg hs low k).2 hk0) hk1, ?_⟩
      simp only [decode, tnum_of_not_log E c (d := .flt cl low high false (some s)) rfl, grid_clip_fix hs k hk0 hk1]
  | int cl low high log step =>
    obtain ⟨i, rfl, h1, h2, h3⟩ := hv
    have h1q : (low : Rat) ≤ (i : Rat) := by exact_mod_cast h1
    have h2q : (i : Rat) ≤ (high : Rat) := by exact_mod_cast h2
    refine ⟨_, rfl, int_tnum_inB hE c h h1q h2q, ?_⟩
    cases log with
    | true =>
      have hpos : (0 : Rat) < (i : Rat) := by exact_mod_cast lt_of_lt_of_le (wf_intLog h).2.1 h1
      cases htl : c.tlog with
      | true =>
        simp only [decode, tnum, Dist.isLog, htl, Bool.and_self, if_true, hE.ex_lg _ hpos, roundHE_intCast,
          clip_id h1q h2q, truncI_intCast]
      | false =>
        simp only [decode, tnum, Dist.isLog, htl, Bool.and_false, Bool.false_eq_true, if_false, truncI_intCast]
    | false =>
      obtain ⟨k, hk⟩ := (int_grid_iff i low).1 h3
      have hsq : (0 : Rat) < (step : Rat) := by exact_mod_cast h.2.2.1
      have hi : (i : Rat) = (k : Rat) * (step : Rat) + (low : Rat) := by linarith
      simp only [decode, tnum_of_not_log E c (d := .int cl low high false step) rfl]
      rw [hi, grid_clip_fix hsq k ((grid_nonneg hsq _ k).1 (hi ▸ h1q)) (hi ▸ h2q), ← hi, truncI_intCast]

/-- membership of an external value in the declared domain, as the code itself would test it:
`to_internal_repr` accepts it and `_contains` says yes -/
def Member (d : Dist) (v : Tok) : Prop := ∃ q, d.toInternal v = .ok q ∧ d.contains q = true

theorem toInternal_num_iff {d : Dist} {l : Bool} (hd : d.log? = some l) (v : Tok) (q : Rat) :
    d.toInternal v = .ok q ↔ v.num? = some q ∧ (l = true → 0 < q) := by
  have key : (match v.num? with
      | some x => if (l && decide (x ≤ 0)) = true then (.error .valueError : R Rat) else .ok x
      | none => .error .valueError) = .ok q ↔ v.num? = some q ∧ (l = true → 0 < q) := by
    cases v.num? with
    | none => simp
    | some x =>
      by_cases hx : l = true ∧ x ≤ 0
      · simp [hx]; intro h; subst h; exact hx.2
      · simp [hx]; intro h; subst h; simpa [not_le] using hx
  cases d with
  | cat cs => cases hd
  | flt c low high log step => cases hd; exact key
  | int c low high log step => cases hd; exact key

theorem contains_of_member {d : Dist} {l : Bool} (hd : d.log? = some l) {v : Tok} {q : Rat} (hv : v.num? = some q)
    (h : Member d v) : d.contains q = true := by
  obtain ⟨q', hq', hc⟩ := h
  cases hv.symm.trans ((toInternal_num_iff hd v q').1 hq').1
  exact hc

theorem stepped_contains (cl : FCls) (low high s : Rat) (log : Bool) (k : Int) (hs : 0 < s) (hk0 : 0 ≤ k)
    (hk1 : (k : Rat) * s + low ≤ high) : (Dist.flt cl low high log (some s)).contains ((k : Rat) * s + low) = true := by
  simp only [Dist.contains, grid_div (ne_of_gt hs), roundHE_intCast, sub_self, Bool.and_eq_true, decide_eq_true_eq]
  exact ⟨⟨(grid_nonneg hs low k).2 hk0, hk1⟩, by rw [rat_abs_eq]; norm_num⟩

theorem flt_contains_range {c : FCls} {low high : Rat} {log : Bool} {step : Option Rat} {q : Rat}
    (hc : (Dist.flt c low high log step).contains q = true) : low ≤ q ∧ q ≤ high := by
  cases step <;> simp only [Dist.contains, Bool.and_eq_true, decide_eq_true_eq] at hc
  · exact hc
  · exact hc.1

theorem int_contains_iff (c : ICls) (low high : Int) (log : Bool) (step : Int) (q : Rat) (hs : 0 < step) :
    (Dist.int c low high log step).contains q = true ↔
      ∃ i : Int, q = (i : Rat) ∧ low ≤ i ∧ i ≤ high ∧ (i - low) % step = 0 := by
  have hne : (step : Rat) ≠ 0 := by exact_mod_cast (ne_of_gt hs)
  simp only [Dist.contains, Bool.and_eq_true, decide_eq_true_eq, ratMod_eq_zero_iff hne]
  constructor
  · rintro ⟨⟨h1, h2⟩, k, hk⟩
    obtain rfl : q = ((k * step + low : Int) : Rat) := by push_cast; linarith
    exact ⟨_, rfl, by exact_mod_cast h1, by exact_mod_cast h2, (int_grid_iff _ _).2 ⟨k, hk⟩⟩
  · rintro ⟨i, rfl, h1, h2, h3⟩
    exact ⟨⟨by exact_mod_cast h1, by exact_mod_cast h2⟩, (int_grid_iff _ _).1 h3⟩

theorem int_member (cl : ICls) (low high : Int) (log : Bool) (step i : Int) (hs : 0 < step)
    (hlog : log = true → 1 ≤ low) (h1 : low ≤ i) (h2 : i ≤ high) (h3 : (i - low) % step = 0) :
    Member (.int cl low high log step) (.int i) :=
  ⟨(i : Rat), (toInternal_num_iff rfl _ _).2 ⟨rfl, fun h => by exact_mod_cast lt_of_lt_of_le (hlog h) h1⟩,
    (int_contains_iff cl low high log step _ hs).2 ⟨i, rfl, h1, h2, h3⟩⟩

theorem int_member_unit {cl : ICls} {low high : Int} {log : Bool} (h : WF (.int cl low high log 1)) {i : Int}
    (h1 : low ≤ i) (h2 : i ≤ high) : Member (.int cl low high log 1) (.int i) :=
  int_member cl low high log 1 i Int.one_pos (fun hh => (h.2.1 hh).1) h1 h2 (Int.emod_one _)

theorem flt_member (cl : FCls) (low high : Rat) (log : Bool) (p : Rat)
    (hlog : log = true → 0 < low) (h1 : low ≤ p) (h2 : p ≤ high) :
    Member (.flt cl low high log Option.none) (.flt p) :=
  ⟨p, (toInternal_num_iff rfl _ _).2 ⟨rfl, fun h => lt_of_lt_of_le (hlog h) h1⟩, by simp [Dist.contains, h1, h2]⟩

theorem stepped_member (cl : FCls) (low high s : Rat) (k : Int) (hs : 0 < s) (hk0 : 0 ≤ k) (hk1 : (k : Rat) * s + low ≤ high) :
    Member (.flt cl low high false (some s)) (.flt ((k : Rat) * s + low)) :=
  ⟨_, (toInternal_num_iff rfl _ _).2 ⟨rfl, nofun⟩, stepped_contains cl low high s false k hs hk0 hk1⟩

theorem grid_clip_member {cl : FCls} {low high s : Rat} (h : WF (.flt cl low high false (some s))) (x : Rat) :
    Member (.flt cl low high false (some s)) (.flt (clip ((roundHE ((x - low) / s) : Rat) * s + low) low high)) := by
  obtain ⟨-, hs, K, hK0, hK⟩ := wf_stepped h
  obtain ⟨k, hk0, -, hk⟩ := grid_clip low high s K hs hK0 hK x
  have hk1 := (clip_mem (x := (roundHE ((x - low) / s) : Rat) * s + low) h.1).2
  rw [hk] at hk1 ⊢
  exact stepped_member cl low high s k hs hk0 hk1

theorem int_grid_clip_member {cl : ICls} {low high step : Int} {log : Bool} (h : WF (.int cl low high log step)) (x : Rat) :
    Member (.int cl low high log step)
      (.int (truncI (clip ((roundHE ((x - (low : Rat)) / (step : Rat)) : Rat) * (step : Rat) + (low : Rat)) (low : Rat) (high : Rat)))) := by
  obtain ⟨hl, hlog, hs, hg, -⟩ := h
  obtain ⟨i, h1, h2, h3, hi⟩ := int_grid_clip low high step hs hl hg x
  rw [hi, truncI_intCast]; exact int_member cl low high log step i hs (fun hh => (hlog hh).1) h1 h2 h3

theorem catEq_refl (t : Tok) : t.catEq t = true := by
  cases t <;> simp [Tok.catEq, Tok.pyEq, Tok.num?]

theorem pyEq_nan_left (c : Tok) : Tok.pyEq .nan c = false := by cases c <;> rfl

theorem catEq_eq_pyEq (v c : Tok) (h : v ≠ .nan) : v.catEq c = v.pyEq c := by
  have : (v == Tok.nan) = false := by simpa using h
  simp [Tok.catEq, this]

theorem firstIdx_pyEq_catEq (v : Tok) (cs : List Tok) (i : Nat) (h : firstIdx (fun c => v.pyEq c) cs = some i) :
    firstIdx (fun c => v.catEq c) cs = some i := by
  by_cases hn : v = .nan
  · subst hn
    exfalso
    have hf : (fun c => Tok.pyEq .nan c) = (fun _ => false) := funext pyEq_nan_left
    rw [hf] at h
    have : ∀ l : List Tok, firstIdx (fun _ => false) l = none := by
      intro l
      induction l with
      | nil => rfl
      | cons a t ih => simp [firstIdx, ih]
    rw [this] at h
    cases h
  · have : (fun c => v.catEq c) = (fun c => v.pyEq c) := funext (fun c => catEq_eq_pyEq v c hn)
    rw [this]; exact h

theorem pyEq_of_num {a b : Tok} {x : Rat} (ha : a.num? = some x) (hb : b.num? = some x) : a.pyEq b = true := by
  cases a <;> cases b <;> simp_all [Tok.num?, Tok.pyEq]

theorem listCatEq_refl (l : List Tok) : listCatEq l l = true := by
  induction l with
  | nil => rfl
  | cons a t ih => simp [listCatEq, catEq_refl, ih]

theorem compat_refl (d : Dist) : compat d d = true := by
  cases d with
  | flt c low high log step => simp [compat, Dist.sameClass, Dist.log?]
  | int c low high log step => simp [compat, Dist.sameClass, Dist.log?]
  | cat cs => simp [compat, Dist.sameClass, Dist.log?, listCatEq_refl]

theorem truncI_natCast (n : Nat) : truncI ((n : Nat) : Rat) = (n : Int) := by
  have : ((n : Nat) : Rat) = ((n : Int) : Rat) := by push_cast; rfl
  rw [this, truncI_intCast]

theorem cat_member (cs : List Tok) (i : Nat) (t : Tok) (h : cs[i]? = some t) : Member (.cat cs) t := by
  obtain ⟨j, hj, hle⟩ := firstIdx_of_mem (fun c => t.catEq c) cs i t h (catEq_refl t)
  have hlt : i < cs.length := by
    rcases Nat.lt_or_ge i cs.length with h' | h'
    · exact h'
    · simp [List.getElem?_eq_none h'] at h
  refine ⟨(j : Rat), by simp [Dist.toInternal, catIndex, hj, Except.map], ?_⟩
  simp only [Dist.contains, truncI_natCast, Bool.and_eq_true, decide_eq_true_eq]
  omega

/-- `hkind`: the clip-and-round shapes of `decode` (stepped floats, ints, log ints under `transform_log`). -/
theorem decode_round_in_domain (E : Env) (c : TCfg) (d : Dist) (x : Rat) (h : WF d)
    (hkind : match d with
      | .flt _ _ _ _ (some _) => True
      | .int _ _ _ log _ => log = false ∨ c.tlog = true
      | _ => False) :
    ∃ v, decode E c d [x] = some v ∧ Member d v := by
  cases d with
  | cat cs => exact hkind.elim
  | flt cl low high log step =>
    cases step with
    | none => exact hkind.elim
    | some s =>
      obtain ⟨rfl, -⟩ := wf_stepped h
      exact ⟨_, rfl, grid_clip_member h x⟩
  | int cl low high log step =>
    cases log with
    | false => exact ⟨_, rfl, int_grid_clip_member h x⟩
    | true =>
      -- `clip(round(exp x), low, high)`: an integer of the range, and with step 1 every one of them is a member
      obtain ⟨rfl, -, hl⟩ := wf_intLog h
      obtain ⟨i, h1, h2, hi⟩ := clip_int low high (roundHE (E.ex x)) hl
      exact ⟨.int i, by simp only [decode, hkind.resolve_left nofun, if_true, hi, truncI_intCast], int_member_unit h h1 h2⟩

/-- `tlog = false ∧ tstep = true` is excluded: with it a log-int column is widened by half a
step but decoded by plain truncation — see `untransform_out_of_domain_witness` in Props/C11. -/
theorem decode_in_domain (E : Env) (c : TCfg) (d : Dist) (raw : List Rat) (hE : EnvOK E) (h : WF d) (hc : HC E d)
    (hcfg : c.tlog = true ∨ c.tstep = false) (hb : List.Forall₂ InB (boundsOf E c d) raw) :
    ∃ v, decode E c d raw = some v ∧ Member d v := by
  cases d with
  | cat cs =>
    have hlen : raw.length = cs.length := by simpa [boundsOf] using hb.length_eq.symm
    have hlt : argmax raw < cs.length :=
      hlen ▸ argmax_lt raw fun he => h (List.length_eq_zero_iff.mp (by rw [← hlen, he]; rfl))
    exact ⟨cs[argmax raw], by simp [decode, hlt], cat_member cs _ _ (List.getElem?_eq_getElem hlt)⟩
  | flt cl low high log step =>
    cases step with
    | none =>
      obtain ⟨x, rfl, hx⟩ := forall2_inB_one hb
      have hpos : log = true → 0 < low := fun hl => (h.2.1 hl).1
      obtain ⟨hp1, hp2⟩ := untnum_mem hE c (.flt cl low high log none) hpos h.1 hx.1 hx.2
      rw [decode_plain E c cl log h.1]
      refine ⟨_, rfl, ?_⟩
      split
      · rename_i hs
        obtain ⟨hb1, hb2⟩ := hc hs
        exact flt_member cl low high log _ hpos (le_min hp1 hb1) (le_trans (min_le_right _ _) hb2)
      · exact flt_member cl low high log _ hpos hp1 hp2
    | some s =>
      obtain ⟨x, rfl, -⟩ := forall2_inB_one hb
      exact decode_round_in_domain E c _ x h trivial
  | int cl low high log step =>
    cases log with
    | false =>
      obtain ⟨x, rfl, -⟩ := forall2_inB_one hb
      exact decode_round_in_domain E c _ x h (.inl rfl)
    | true =>
      obtain ⟨x, rfl, hx⟩ := forall2_inB_one hb
      cases htl : c.tlog with
      | true => exact decode_round_in_domain E c _ x h (.inr htl)
      | false =>
        obtain ⟨rfl, hl1, hl⟩ := wf_intLog h
        -- the one use of `hcfg`: without `transform_log` a log int is decoded by truncation alone, so the bounds must be
        -- `[low, high]` itself; widened by the half step they hold `low - 1/2`, which truncates to `low - 1`
        have hts : c.tstep = false := hcfg.resolve_left (by simp [htl])
        unfold InB tnum at hx
        simp only [Dist.isLog, htl, hts, Bool.and_false, Bool.false_eq_true, if_false, sub_zero, add_zero] at hx
        have hx0 : 0 ≤ x := by
          have : (1 : Rat) ≤ (low : Rat) := by exact_mod_cast hl1
          linarith [hx.1]
        have h2 : x.floor ≤ high := by exact_mod_cast (Rat.floor_le x).trans hx.2
        exact ⟨.int x.floor, by simp [decode, htl, truncI, hx0], int_member_unit h (Rat.le_floor_iff.mpr hx.1) h2⟩

theorem boundsOf_length (E : Env) (c : TCfg) (d : Dist) : (boundsOf E c d).length = d.width := by
  cases d with
  | cat cs => simp [boundsOf, Dist.width]
  | flt cl low high log step => cases step <;> simp [boundsOf, Dist.width]
  | int cl low high log step => cases log <;> simp [boundsOf, Dist.width]

theorem boundsOf_le (E : Env) (c : TCfg) (d : Dist) (hE : EnvOK E) (h : WF d) :
    ∀ b ∈ boundsOf E c d, b.1 ≤ b.2 := by
  cases d with
  | cat cs =>
    intro b hb
    obtain ⟨_, _, rfl⟩ := List.mem_map.mp hb
    norm_num
  | flt cl low high log step => exact forall2_inB_le (flt_tnum_inB hE c h le_rfl h.1)
  | int cl low high log step => exact forall2_inB_le (int_tnum_inB hE c h le_rfl (by exact_mod_cast h.1))

theorem untransform_cons (E : Env) (c : TCfg) (d : Dist) (ds : List Dist) (xs : List Rat) :
    untransform E c (d :: ds) xs =
      if xs.length < d.width then none
      else (ucols E c d (xs.take d.width)).bind (fun v =>
        (untransform E c ds (xs.drop d.width)).bind (fun rest => some (v :: rest))) := by
  rw [untransform]
  split <;> rfl

end OptunaVerif.Dist
