import OptunaVerif.Lemmas.RankBridge
import OptunaVerif.Lemmas.BestIR
/-! Bridge between the two hand models of `_is_pareto_front_for_unique_sorted`: `Best.frontSorted` (Model/Best.lean: a MASK over rows of
extended rationals `EVal`, the model C12Gen's interpreter of the generated `_is_pareto_front` is proved equal to) and
`Hypervolume.frontSorted` (Model/Hypervolume.lean: the LIST of kept rows over integer lattice points, the parameter of the wfg / rank
interpreters of C15).  Encoding: a lattice row `p : List Int` is the loss row `p.map (fun a => EVal.fin a)` (finite values; the direction
normalisation has already happened on both sides: both models take loss rows, smaller is better). -/
namespace OptunaVerif.FrontBridge
open OptunaVerif.Hypervolume OptunaVerif.Best OptunaVerif.RankIR

def encRow (p : Pt) : Point := p.map (fun a => EVal.fin (a : Rat))

theorem lt_fin (a b : Int) : EVal.lt (.fin (a : Rat)) (.fin (b : Rat)) = decide (a < b) := by
  simp only [EVal.lt, EVal.le, EVal.toX, XVal.le, Int.cast_le]
  by_cases h : a < b
  · have : ¬ b ≤ a := by omega
    simp [h, this]
  · have : b ≤ a := by omega
    simp [h, this]

theorem le_fin (a b : Int) : EVal.le (.fin (a : Rat)) (.fin (b : Rat)) = decide (a ≤ b) := by
  simp [EVal.le, EVal.toX, XVal.le]

/-- one objective: only the first row -/
theorem front1d_bridge (U : List Pt) : selMask U (Best.front1d (U.map encRow)) = Hypervolume.front1d U := by
  cases U with
  | nil => rfl
  | cons h t =>
    simp only [List.map_cons, Best.front1d, Hypervolume.front1d, selMask, List.map_map]
    congr 1
    induction t with
    | nil => rfl
    | cons a t ih => simpa [selMask] using ih

theorem col1_enc (p : Pt) (hp : p.length = 2) : col1 (encRow p) = some (EVal.fin ((y1 p : Int) : Rat)) := by
  match p, hp with
  | [a, b], _ => rfl

theorem emin_fin (m y : Int) : emin (.fin (m : Rat)) (.fin (y : Rat)) = .fin ((min m y : Int) : Rat) := by
  unfold emin
  rw [le_fin]
  by_cases h : m ≤ y
  · simp [h]
  · have : y ≤ m := by omega
    simp [h, Int.min_eq_right this]

/-- two objectives: "the running minimum of the second column got strictly smaller" -/
theorem front2dAux_bridge : ∀ (t : List Pt) (m : Int), (∀ p ∈ t, p.length = 2) →
    selMask t (front2dAux (.fin (m : Rat)) (t.map encRow)) = front2dGo id m t := by
  intro t
  induction t with
  | nil => intro m _; rfl
  | cons q t ih =>
    intro m hl
    have hq := hl q (List.mem_cons_self ..)
    have ht : ∀ p ∈ t, p.length = 2 := fun p hp => hl p (List.mem_cons_of_mem _ hp)
    simp only [List.map_cons, front2dAux, col1_enc q hq, front2dGo, id]
    rw [emin_fin, lt_fin]
    by_cases h : y1 q < m
    · have hmin : min m (y1 q) = y1 q := by omega
      rw [hmin]
      simp [selMask, h, ih (y1 q) ht]
    · have hmin : min m (y1 q) = m := by omega
      rw [hmin]
      simp [selMask, h, ih m ht]

theorem front2d_bridge (U : List Pt) (hU : ∀ p ∈ U, p.length = 2) :
    selMask U (Best.front2d (U.map encRow)) = Hypervolume.front2d id U := by
  cases U with
  | nil => rfl
  | cons h t =>
    have hh := hU h (List.mem_cons_self ..)
    simp only [List.map_cons, Best.front2d, col1_enc h hh, Hypervolume.front2d, selMask, id]
    rw [front2dAux_bridge t (y1 h) (fun p hp => hU p (List.mem_cons_of_mem _ hp))]

/-- One and two objectives, no uniqueness needed.  `d ≥ 3`, the `_is_pareto_front_nd` loop: not bridged — `Best.peel` works on
(index, row) pairs, `Hypervolume.frontNdFuel` on the rows. -/
theorem frontSorted_eq_best_front_le2 (d : Nat) (hd : d = 1 ∨ d = 2) (U : List Pt) (hU : ∀ p ∈ U, p.length = d) :
    selMask U (Best.frontSorted (U.map encRow)) = Hypervolume.frontSorted id d U := by
  cases U with
  | nil => rcases hd with rfl | rfl <;> rfl
  | cons h t =>
    have hh : (encRow h).length = d := by simp [encRow, hU h (List.mem_cons_self ..)]
    rcases hd with rfl | rfl
    · have := front1d_bridge (h :: t)
      simp only [List.map_cons] at this
      simp only [List.map_cons, Best.frontSorted, hh, beq_self_eq_true, if_true, Hypervolume.frontSorted]
      exact this
    · have := front2d_bridge (h :: t) hU
      simp only [List.map_cons] at this
      simp only [List.map_cons, Best.frontSorted, hh, Hypervolume.frontSorted]
      exact this

example : selMask [[0, 5], [1, 4], [2, 4]] (Best.frontSorted ([[0, 5], [1, 4], [2, 4]].map encRow)) = Hypervolume.frontSorted id 2 [[0, 5], [1, 4], [2, 4]] := by
  decide +kernel

end OptunaVerif.FrontBridge
