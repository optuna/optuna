import OptunaVerif.Lemmas.Repro
/-! Helper lemmas for `copy_study` (C09): what the folds of study-attribute writes and of
`create_new_trial(template)` on the storage contract model do to the id-erased view of the study. -/
namespace OptunaVerif.Repro
open OptunaVerif.Storage

theorem foldl_set_nodup {α : Type} (l acc : AList α)
    (hnd : ((acc ++ l).map Prod.fst).Nodup) :
    l.foldl (fun a kv => AList.set a kv.1 kv.2) acc = acc ++ l := by
  induction l generalizing acc with
  | nil => simp
  | cons kv r ih =>
    obtain ⟨k, v⟩ := kv
    have hk : ∀ p ∈ acc, p.1 ≠ k := by
      simp only [List.map_append, List.map_cons] at hnd
      intro p hp
      exact (List.nodup_append.1 hnd).2.2 p.1 (List.mem_map_of_mem hp) k (List.mem_cons_self ..)
    simp only [List.foldl_cons, AList.set_of_not_mem acc k v hk]
    rw [ih (acc ++ [(k, v)]) (by simpa using hnd)]
    simp

theorem setStudySys_view (l : AList String) {d : Spec} {sid : Nat} {v : View} (h : specView sid d = some v) :
    specView sid (setStudySys d sid l) = some { v with study := { v.study with
      systemAttrs := l.foldl (fun a kv => AList.set a kv.1 kv.2) v.study.systemAttrs } } := by
  induction l generalizing d v with
  | nil => exact h
  | cons kv r ih =>
    simp only [setStudySys, List.foldl_cons, step, (specView_some h).1]
    exact ih (specView_updStudy _ h)

theorem setStudyUser_view (l : AList String) {d : Spec} {sid : Nat} {v : View} (h : specView sid d = some v) :
    specView sid (setStudyUser d sid l) = some { v with study := { v.study with
      userAttrs := l.foldl (fun a kv => AList.set a kv.1 kv.2) v.study.userAttrs } } := by
  induction l generalizing d v with
  | nil => exact h
  | cons kv r ih =>
    simp only [setStudyUser, List.foldl_cons, step, (specView_some h).1]
    exact ih (specView_updStudy _ h)

/-- The records `add_trials` creates: every field of the source trial, numbered from `k`. -/
def copied (sid : Nat) : Nat → List TrialS → List TrialS
  | _, [] => []
  | k, t :: r => mkTrial sid k (some (templateOf t)) :: copied sid (k + 1) r

/-- No template of `all` conflicts with anything the destination study holds: all parameter
distributions involved are pairwise compatible (always true when `ir = false`, i.e. on backends
that do not check templates). -/
def Accepts (ir : Bool) (all : List TrialS) : Prop :=
  ir = true → ∀ t ∈ all, ∀ t' ∈ all, ∀ (name : String) (q : Param) (p : Param),
    t.params.get? name = some q → (name, p) ∈ t'.params → q.dist.compat p.dist = true

/-- The study has no fixed distribution yet and what it holds comes from `all`, so no template is refused. -/
theorem addTrials_view (ir : Bool) (all : List TrialS) (hacc : Accepts ir all)
    (ts : List TrialS) (hsub : ∀ t ∈ ts, t ∈ all) {d : Spec} {sid : Nat} {v : View} (h : specView sid d = some v)
    (hpd : v.study.paramDist = []) (hprev : ∀ e ∈ v.trials, ∃ t ∈ all, e.params = t.params) :
    specView sid (addTrials d sid ir ts) =
      some { v with trials := v.trials ++ (copied sid v.trials.length ts).map eraseT } := by
  induction ts generalizing d v with
  | nil => simpa [addTrials, copied] using h
  | cons t r ih =>
    obtain ⟨hst, htr⟩ := specView_some h
    have hnoconf : (ir && d.tmplConflict sid v.study (some (templateOf t))) = false := by
      cases hir : ir with
      | false => rfl
      | true =>
        simp only [Bool.true_and, Spec.tmplConflict, templateOf]
        rw [List.any_eq_false]
        rintro ⟨name, p⟩ hnp
        simp only [Bool.or_eq_true, not_or, Bool.not_eq_true]
        refine ⟨by simp [StudyS.fixedConflict, hpd, AList.get?], ?_⟩
        rw [templateConflict_view htr, View.templateConflict, List.any_eq_false]
        intro e he
        obtain ⟨t0, ht0, hpar⟩ := hprev e he
        rw [hpar]
        cases hq : t0.params.get? name with
        | none => simp
        | some q => simp [hacc hir t0 ht0 t (hsub t (List.mem_cons_self ..)) name q p hq hnp]
    have hstep : (step d (.createTrial sid (some (templateOf t)) ir)).1 =
        { d with trials := d.trials ++ [mkTrial sid v.trials.length (some (templateOf t))] } := by
      simp only [step, hst, hnoconf, Bool.false_eq_true, if_false, htr, List.length_map]
    simp only [addTrials, List.foldl_cons, hstep]
    have := ih (fun x hx => hsub x (List.mem_cons_of_mem _ hx))
      (specView_appendTrial h (mkTrial sid v.trials.length (some (templateOf t))) rfl) hpd (by
        intro e he
        rcases List.mem_append.mp he with he | he
        · exact hprev e he
        · exact ⟨t, hsub t (List.mem_cons_self ..), by rw [List.mem_singleton.mp he]; rfl⟩)
    simpa [addTrials, copied, List.append_assoc] using this

theorem copied_eq (sid k : Nat) (ts : List TrialS) (hnum : ∀ n t, ts[n]? = some t → t.number = k + n) :
    (copied sid k ts).map eraseT = ts.map eraseT := by
  induction ts generalizing k with
  | nil => rfl
  | cons t r ih =>
    have h0 := hnum 0 t rfl
    simp only [Nat.add_zero] at h0
    simp only [copied, List.map_cons]
    rw [ih (k + 1) (fun n t' h => by have := hnum (n + 1) t' (by simpa using h); omega)]
    congr 1
    simp only [eraseT, mkTrial, templateOf, h0]

end OptunaVerif.Repro
