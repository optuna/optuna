import OptunaVerif.Generated.RankMethods
/-! Flag-free references for the two rank functions and the lemmas of the interpreter tie (`Props/C15Gen.lean`, rank part).  Core Lean only. -/
namespace OptunaVerif.RankIR
open OptunaVerif.Hypervolume

/-- `n_below` as the interpreter receives it -/
def nbRV : Option Int → RV
  | none => .none_
  | some n => .int n

def penRV : Option (List (Option Int)) → RV
  | none => .none_
  | some p => .pen p

/-- the state of the peeling loop: `rank`, `indices`, `unique_lexsorted_loss_values`, `ranks` -/
structure PeelSt where
  rank : Int
  indices : List Int
  arr : List Pt
  ranks : List Int
deriving Repr

/-- the `while n_unique - indices.size < n_below` loop: the rows on the front of what is left get the current rank (a scatter write through
`indices`), they are removed from `indices` and from the array, the rank goes up -/
def peelRef (front : Nat → List Pt → List Pt) (d : Nat) (nU nb : Int) : Nat → PeelSt → PeelSt
  | 0, st => st
  | fuel + 1, st =>
    if nU - (st.indices.length : Int) < nb then
      let on := frontMaskOf front d st.arr
      peelRef front d nU nb fuel
        { rank := st.rank + 1, indices := selMask st.indices (on.map (fun x => !x)), arr := selMask st.arr (on.map (fun x => !x)),
          ranks := scatterIdx st.ranks (selMask st.indices on) st.rank }
    else st

/-- `n_below or n` -/
def nbOr (nb : Option Int) (n : Nat) : Int :=
  match nb with
  | none => (n : Int)
  | some k => if k = 0 then (n : Int) else k

/-- `min(n_below or n_unique, n_unique)` -/
def nbClip (nb : Option Int) (nU : Nat) : Int := min (nbOr nb nU) (nU : Int)

/-- `_calculate_nondomination_rank(S, n_below=nb)`: all zeros for an empty array or a non-positive `n_below`; for one objective the position of
the value among the sorted distinct values; else: rows made unique and sorted, `n_below` clipped to the number of unique rows, the peeling loop,
the rows that were never reached get the last rank, every row reads the rank of its unique row -/
def calcRef (front : Nat → List Pt → List Pt) (fuel d : Nat) (S : List Pt) (nb : Option Int) : List Int :=
  if Rank.trivialCase S nb then List.replicate S.length 0
  else if d = 1 then uniqueInvCol0Of S
  else
    let U := uniqueLex S
    let nb' : Int := nbClip nb U.length
    let st := peelRef front d U.length nb' fuel
      { rank := 0, indices := (List.range U.length).map Int.ofNat, arr := U, ranks := List.replicate U.length 0 }
    (uniqueInvOf S).map (fun j => (scatterIdx st.ranks st.indices st.rank).getD j.toNat 0)

/-- `_fast_non_domination_rank(S, penalty=pen, n_below=nBelow)` with the callee `c` = `_calculate_nondomination_rank(·, n_below=·)` -/
def fastRef (c : Nat → List Pt → Int → List Int) (d : Nat) (S : List Pt) (pen : Option (List (Option Int))) (nBelow : Option Int) : RV :=
  if S.length = 0 then .ints []
  else
    let nb : Int := nbOr nBelow S.length
    if ¬ 0 < nb then .assertionError
    else match pen with
    | none => .ints (c d S nb)
    | some p =>
      if p.length ≠ S.length then .valueError
      else
        let isNan := isnanOf p
        let isF := zipAnd (isNan.map (fun x => !x)) (penLe0Of p)
        let isI := zipAnd (isNan.map (fun x => !x)) (penGt0Of p)
        -- feasible rows: ranks by domination
        let r1 := scatterMask (List.replicate S.length (-1)) isF (c d (selMask S isF) nb)
        let nb1 := nb - countTrueOf isF
        -- infeasible rows: after every feasible rank, by the penalty alone
        let topI := maxInitOf (selMask r1 isF) (-1) + 1
        let r2 := scatterMask r1 isI ((c 1 (newaxisOf (selMask p isI)) nb1).map (fun v => topI + v))
        let nb2 := nb1 - countTrueOf isI
        -- rows without penalty information: after every rank given so far, by domination
        let topN := maxInitOf (selMask r2 (isNan.map (fun x => !x))) (-1) + 1
        let r3 := scatterMask r2 isNan ((c d (selMask S isNan) nb2).map (fun v => topN + v))
        if r3.all (fun v => v != -1) then .ints r3 else .assertionError

theorem orElseV_nbRV (nb : Option Int) (n : Nat) : RV.orElseV (nbRV nb) (.int (n : Int)) = .int (nbOr nb n) := by
  cases nb with
  | none => rfl
  | some k => by_cases h : k = 0 <;> simp [nbRV, RV.orElseV, nbOr, h]

theorem rget_cons (k : String) (v : RV) (env : Env) (n : String) :
    rget ((k, v) :: env) n = if k == n then v else rget env n := by
  unfold rget
  simp only [List.find?_cons]
  cases h : (k == n) <;> simp

theorem rget_nil (n : String) : rget [] n = .err := rfl

theorem rset_cons (k : String) (w : RV) (t : Env) (n : String) (v : RV) :
    rset ((k, w) :: t) n v = if k == n then (k, v) :: t else (k, w) :: rset t n v := rfl

theorem rset_nil (n : String) (v : RV) : rset [] n v = [(n, v)] := rfl

theorem rget_rset_self (env : Env) (n : String) (v : RV) : rget (rset env n v) n = v := by
  induction env with
  | nil => simp [rset_nil, rget_cons]
  | cons p t ih =>
    obtain ⟨k, w⟩ := p
    cases h : k == n <;> simp [rset_cons, rget_cons, h, ih]

/-! ## the interpreter

`RE.eval` has one equation per primitive; proofs that execute a generated body rewrite with `RE.eval`, `Simple.exec` and `run` themselves.
Stated by name are three of them: a variable, an assignment, a `return`. -/

section
variable (front : Nat → List Pt → List Pt) (callee : Nat → List Pt → RV → RV)

theorem eval_var (env : Env) (n : String) : RE.eval front callee env (.var n) = rget env n := by simp only [RE.eval]

theorem exec_assign (env : Env) (x : String) (e : RE) :
    Simple.exec front callee env (.assign x e) = rset env x (e.eval front callee env) := by simp only [Simple.exec]

theorem run_ret (fuel : Nat) (e : RE) (rest : List Stmt) (env : Env) :
    run front callee fuel (.ret e :: rest) env = e.eval front callee env := by simp only [run]

end

end OptunaVerif.RankIR
