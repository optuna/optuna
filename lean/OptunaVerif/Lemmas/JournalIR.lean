import OptunaVerif.Model.JournalIR
import OptunaVerif.Lemmas.SimpAttr
/-! The interpreter of `Model/JournalIR.lean` as a simp set (`journal_ir`): `exec`, `evalCond` and the action table
`doAct` by their defining equations (they fire at a concrete statement / condition / action), a conjunction of
conditions by `evalCond_and_ok`, `block`, `finish`.  A handler body is executed by rewriting with the set.  Then the facts
about `TState` and `buildTrial` that the handler proofs of `Props/C06Gen.lean` need. -/
namespace OptunaVerif.JournalIR
open OptunaVerif.Storage OptunaVerif.Journal

attribute [journal_ir] Env.init setSpec owe bad keyErr doAct exec evalCond interp

section equations
variable (w : String) (r : Rec) (env : Env)

@[journal_ir] theorem block_one (s : Stmt) : block [s] = s := rfl
@[journal_ir] theorem block_cons (s t : Stmt) (rest : List Stmt) :
    block (s :: t :: rest) = .seq s (block (t :: rest)) := rfl

/-- a conjunction of two conditions that do not raise is `&&` (the short circuit is invisible).  Tried before `evalCond`
is unfolded at `.and`: the defining equation would leave a match on `.ok x` with `x` open. -/
@[journal_ir ↓] theorem evalCond_and_ok (a b : Cond) (x y : Bool) (ha : evalCond w r env a = .ok x)
    (hb : evalCond w r env b = .ok y) : evalCond w r env (.and a b) = .ok (x && y) := by
  simp only [evalCond, ha]; cases x <;> simp [hb]

@[journal_ir] theorem finish_raised (e : Err) : finish (env, .raised e) = (env.st, some e) := rfl
@[journal_ir] theorem finish_next :
    finish (env, .next) = if env.debt.isEmpty then (env.st, none) else (env.st, some unrepresentable) := rfl
@[journal_ir] theorem finish_ret (b : Option Bool) :
    finish (env, .ret b) = if env.debt.isEmpty then (env.st, none) else (env.st, some unrepresentable) := rfl

end equations

theorem isFinished_running : TState.running.isFinished = false := rfl
theorem isFinished_complete : TState.complete.isFinished = true := rfl
theorem isFinished_pruned : TState.pruned.isFinished = true := rfl
theorem isFinished_fail : TState.fail.isFinished = true := rfl
theorem isFinished_waiting : TState.waiting.isFinished = false := rfl

theorem buildTrial_all (sid n : Nat) (tmpl : Option Template) :
    buildTrial sid n tmpl [.state, .values, .params, .userAttrs, .systemAttrs, .inter, .start, .complete] = mkTrial sid n tmpl := by
  cases tmpl <;> simp [buildTrial, mkTrial]

end OptunaVerif.JournalIR
