import OptunaVerif.Model.CacheIR
import OptunaVerif.Lemmas.Cache
import OptunaVerif.Lemmas.SimpAttr
import OptunaVerif.Lemmas.StepAnswer
/-! Lemmas for Props/C08Gen, in two parts.  (1) The simp set `cache_ir`: the equations of the generic interpreter of
`Model/CacheIR.lean` for the statement / condition constructors that the lemmas about shared segments of the generated
bodies step over (all by `rfl`; written out, not the definitions' own, so that a rewrite can stop in front of a segment that
has its lemma), and of those primitives of `cachedM` that these lemmas rewrite with, a segment at a time and for any state.
A whole body is not rewritten into its run (the short ones of `create_new_trial` and `delete_study` excepted:
`interp_createNewTrial`, `interp_deleteStudy`): it is opened by `dsimp only [<body>, block, exec, evalCond, <machine>]` (the
definitions' own equations and the machine's table, definitionally; `simp` would build a congruence proof under every
`match` that is still stuck and rewrite inside every arm of the table), then split into its cases, and each case closed by
`simp` with the case hypotheses.  (2) The two pass-through shapes of `_CachedStorage` (`exec_forward_ret`,
`exec_forward_unit`; `forwards` recognises them, `interp_forward`). -/
namespace OptunaVerif.CacheIR
open OptunaVerif.Storage OptunaVerif.Cache

section Interp
variable {σ ε ι : Type} (M : Machine σ ε ι) (cur : Option ε) (s : σ)

@[cache_ir] theorem block_one (a : Stmt) : block [a] = a := rfl
@[cache_ir] theorem block_cons (a b : Stmt) (r : List Stmt) : block (a :: b :: r) = .seq a (block (b :: r)) := rfl

@[cache_ir] theorem evalCond_not (c : Cond) :
    evalCond M (.not c) cur s = match evalCond M c cur s with
      | (s', .ok b) => (s', .ok (!b))
      | r => r := rfl
@[cache_ir] theorem evalCond_prim (p : Prim) : evalCond M (.prim p) cur s = M.prim p cur s := rfl

@[cache_ir] theorem exec_skip (M : Machine σ ε ι) (cur : Option ε) (s : σ) : exec M .skip cur s = (s, .next) := rfl
@[cache_ir] theorem exec_seq (a b : Stmt) :
    exec M (.seq a b) cur s = match exec M a cur s with
      | (s', .next) => exec M b cur s'
      | r => r := rfl
@[cache_ir] theorem exec_ite (c : Cond) (t e : Stmt) :
    exec M (.ite c t e) cur s = match evalCond M c cur s with
      | (s', .error x) => (s', .raised x)
      | (s', .ok true) => exec M t cur s'
      | (s', .ok false) => exec M e cur s' := rfl
@[cache_ir] theorem exec_ret (r : RetExpr) :
    exec M (.ret r) cur s = match M.onRet r s with
      | (s', none) => (s', .ret)
      | (s', some e) => (s', .raised e) := rfl
@[cache_ir] theorem exec_tryExcept (body handlers orelse : Stmt) :
    exec M (.tryExcept body handlers orelse) cur s = match exec M body cur s with
      | (s', .raised e) => exec M handlers (some e) s'
      | (s', .next) => exec M orelse cur s'
      | r => r := rfl
@[cache_ir] theorem exec_forIn (it : Iter) (body : Stmt) :
    exec M (.forIn it body) cur s = match M.items it s with
      | (s', .error e) => (s', .raised e)
      | (s', .ok xs) => forLoop (exec M body cur) (M.bind it) xs s' := rfl
@[cache_ir] theorem exec_locked (b : Stmt) : exec M (.locked b) cur s = exec M b cur s := rfl
@[cache_ir] theorem exec_call (b : Bind) (into : Target) (callee : Stmt) :
    exec M (.call b into callee) cur s = match M.enter b s with
      | (s1, some e) => (s1, .raised e)
      | (s1, none) =>
        match exec M callee none s1 with
        | (s2, .raised e) => (M.leave .drop s s2, .raised e)
        | (s2, .ret) => (M.leave into s s2, .next)
        | (s2, .next) => (M.leave into s s2, .next)
        | (s2, _) => (s2, .raised M.unrep) := rfl
@[cache_ir] theorem exec_act (a : Act) :
    exec M (.act a) cur s = match M.act a cur s with
      | (s', none) => (s', .next)
      | (s', some e) => (s', .raised e) := rfl

@[cache_ir] theorem forLoop_nil (f : σ → σ × Flow ε) (bind : ι → σ → σ) (s : σ) : forLoop f bind [] s = (s, .next) := rfl
@[cache_ir] theorem forLoop_cons (f : σ → σ × Flow ε) (bind : ι → σ → σ) (x : ι) (xs : List ι) :
    forLoop f bind (x :: xs) s = match f (bind x s) with
      | (s', .next) => forLoop f bind xs s'
      | (s', .cont) => forLoop f bind xs s'
      | (s', .brk) => (s', .next)
      | r => r := rfl

end Interp

attribute [cache_ir] catches CExn.mro errMro

section Cached
variable (op : Op) (fetch : Fetch) (cur : Option CExn) (x x0 x2 : CSt)

attribute [cache_ir] ok bad keyErr setL setStudies updAlias aliasEntry interpCached

@[cache_ir] theorem finishCached_ret :
    finishCached (x, .ret) = match x.retv with
      | some out => some (x.s, x.c, out)
      | none => none := rfl
@[cache_ir] theorem finishCached_next : finishCached (x, .next) = some (x.s, x.c, .unit) := rfl
@[cache_ir] theorem finishCached_raised (e : Err) : finishCached (x, .raised (.err e)) = some (x.s, x.c, .err e) := rfl

@[cache_ir] theorem cachedM_prim_studyIdInStudies :
    (cachedM op fetch).prim .studyIdInStudies cur x = match x.l.sid with
      | some sid => (x, .ok (find x.c.studies sid).isSome)
      | none => (x, .error .unrep) := rfl
@[cache_ir] theorem cachedM_prim_trialsTruthy :
    (cachedM op fetch).prim .trialsTruthy cur x = match x.l.trials with
      | some l => (x, .ok (!l.isEmpty))
      | none => (x, .error .unrep) := rfl
@[cache_ir] theorem cachedM_act_initStudyInfo :
    (cachedM op fetch).act .initStudyInfo cur x = match x.l.sid with
      | some sid => ok (setStudies x (insert x.c.studies sid Entry.empty))
      | none => bad x := rfl
@[cache_ir] theorem cachedM_act_aliasStudy :
    (cachedM op fetch).act .aliasStudy cur x = match x.l.sid with
      | some sid => match find x.c.studies sid with
        | some _ => ok (setL x (fun l => { l with study := .stored sid }))
        | none => keyErr x
      | none => bad x := rfl
@[cache_ir] theorem cachedM_act_delStudy :
    (cachedM op fetch).act .delStudy cur x = match x.l.sid with
      | some sid => match find x.c.studies sid with
        | some _ => ok (setStudies x (erase x.c.studies sid))
        | none => keyErr x
      | none => bad x := rfl
@[cache_ir] theorem cachedM_act_frozenFromResult :
    (cachedM op fetch).act .frozenFromResult cur x = match x.l.result with
      | some (.newId tid) => match x.s.trials[tid]? with
        | some t => ok (setL x (fun l => { l with frozen := some (tid, t) }))
        | none => bad x
      | _ => bad x := rfl
@[cache_ir] theorem cachedM_act_tidFromFrozen :
    (cachedM op fetch).act .tidFromFrozen cur x = match x.l.frozen with
      | some p => ok (setL x (fun l => { l with tid := some p.1 }))
      | none => bad x := rfl
@[cache_ir] theorem cachedM_act_backendGetTrials (statesNone : Bool) :
    (cachedM op fetch).act (.backendGetTrials statesNone) cur x = match x.l.sid, aliasEntry x with
      | some sid, some e =>
        match fetch x.s sid (if statesNone then none else x.l.states) e.unfinished e.watermark with
        | some (.ok l) => ok (setL x (fun lo => { lo with trials := some l }))
        | some (.error err) => (x, some (.err err))
        | none => bad x
      | _, _ => bad x := rfl
@[cache_ir] theorem cachedM_items_cachedNumbers :
    (cachedM op fetch).items .cachedNumbers x = match x.l.sid with
      | some sid => match find x.c.studies sid with
        | some e => (x, .ok (e.trials.map (fun kv => Sum.inl kv.1)))
        | none => (x, .error (.err .keyError))
      | none => (x, .error .unrep) := rfl
@[cache_ir] theorem cachedM_items_trials :
    (cachedM op fetch).items .trials x = match x.l.trials with
      | some l => (x, .ok (l.map Sum.inr))
      | none => (x, .error .unrep) := rfl
@[cache_ir] theorem cachedM_onRet_none :
    (cachedM op fetch).onRet .none x = ok { x with retv := some .unit } := rfl
@[cache_ir] theorem cachedM_onRet_trialId :
    (cachedM op fetch).onRet .trialId x = match x.l.tid with
      | some tid => ok { x with retv := some (.newId tid) }
      | none => bad x := rfl
@[cache_ir] theorem cachedM_onRet_backendResult :
    (cachedM op fetch).onRet .backendResult x = match x.l.result with
      | some out => ok { x with retv := some out }
      | none => bad x := rfl
@[cache_ir] theorem cachedM_enter_studyIdFrozen :
    (cachedM op fetch).enter .studyIdFrozen x = match x.l.sid, x.l.frozen with
      | some sid, some p => ok { x with l := { sid := some sid, trials := some [p] }, retv := none }
      | _, _ => bad x := rfl
@[cache_ir] theorem cachedM_enter_studyIdTrials :
    (cachedM op fetch).enter .studyIdTrials x = match x.l.sid, x.l.trials with
      | some sid, some l => ok { x with l := { sid := some sid, trials := some l }, retv := none }
      | _, _ => bad x := rfl
@[cache_ir] theorem cachedM_enter_studyId :
    (cachedM op fetch).enter .studyId x = match x.l.sid with
      | some sid => ok { x with l := { sid := some sid }, retv := none }
      | none => bad x := rfl
@[cache_ir] theorem cachedM_leave_drop :
    (cachedM op fetch).leave .drop x0 x2 = { x2 with l := x0.l, retv := x0.retv } := rfl

/-- `self._backend.<m>(<the method's own arguments>)` is one step of the backend; its answer is bound, unless it is an
exception, which propagates -/
theorem cachedM_act_backend (m : BackendM) :
    (cachedM op fetch).act (.backend m) cur x =
      if backendMatches m op then
        let r := step x.s op
        match r.2 with
        | .err e => ({ x with s := r.1 }, some (.err e))
        | out => ok (setL { x with s := r.1 } (fun l => { l with result := some out }))
      else match m with
        | .other _ => ok x
        | _ => bad x := rfl

theorem cachedM_act_backend_err (m : BackendM) (hm : backendMatches m op = true) (e : Err) (h : (step x.s op).2 = .err e) :
    (cachedM op fetch).act (.backend m) cur x = ({ x with s := (step x.s op).1 }, some (.err e)) := by
  simp only [cachedM_act_backend, hm, if_true, h]

theorem cachedM_act_backend_ok (m : BackendM) (hm : backendMatches m op = true) (h : ∀ e, (step x.s op).2 ≠ .err e) :
    (cachedM op fetch).act (.backend m) cur x =
      ({ x with s := (step x.s op).1, l := { x.l with result := some (step x.s op).2 } }, none) := by
  simp only [cachedM_act_backend, hm, if_true]
  rfl

end Cached

/-- `return self._backend.<m>(<own arguments>)` -/
def forwardRet (m : BackendM) : Stmt := .seq (.act (.backend m)) (.ret .backendResult)

theorem exec_forward_ret (m : BackendM) (fetch : Fetch) (op : Op) (hm : backendMatches m op = true) (x : CSt) :
    finishCached (exec (cachedM op fetch) (forwardRet m) none x) = some ((step x.s op).1, x.c, (step x.s op).2) := by
  by_cases h : ∃ e, (step x.s op).2 = .err e
  · obtain ⟨e, h⟩ := h
    simp only [forwardRet, cache_ir, cachedM_act_backend_err _ _ _ _ m hm e h, h]
  · simp only [forwardRet, cache_ir, cachedM_act_backend_ok _ _ _ _ m hm (fun e he => h ⟨e, he⟩)]

/-- `self._backend.<m>(<own arguments>)` as the last statement (the method returns None) -/
theorem exec_forward_unit (m : BackendM) (fetch : Fetch) (op : Op) (hm : backendMatches m op = true) (x : CSt)
    (hu : (step x.s op).2 = .unit ∨ ∃ e, (step x.s op).2 = .err e) :
    finishCached (exec (cachedM op fetch) (.act (.backend m)) none x) = some ((step x.s op).1, x.c, (step x.s op).2) := by
  rcases hu with h | ⟨e, h⟩
  · simp only [cache_ir, cachedM_act_backend_ok _ _ _ _ m hm (fun e he => by rw [h] at he; cases he), h]
  · simp only [cache_ir, cachedM_act_backend_err _ _ _ _ m hm e h, h]

/-- the bodies that only forward: `return self._backend.<m>(<own arguments>)`, or that call as the whole body of a method
that returns None -/
def forwards (body : Stmt) (op : Op) : Bool :=
  match body with
  | .seq (.act (.backend m)) (.ret .backendResult) => backendMatches m op
  | .act (.backend m) => backendMatches m op && C01GrpcGen.shapeOK op .unit
  | _ => false

theorem interp_forward (body : Stmt) (fetch : Fetch) (s : Spec) (c : Client) (op : Op) (h : forwards body op = true) :
    interpCached body fetch s c op = some ((step s op).1, c, (step s op).2) := by
  unfold forwards at h
  split at h
  · exact exec_forward_ret _ fetch op h _
  · rw [Bool.and_eq_true] at h
    exact exec_forward_unit _ fetch op h.1 _ (step_unit_or_err _ _ h.2)
  · cases h

end OptunaVerif.CacheIR
