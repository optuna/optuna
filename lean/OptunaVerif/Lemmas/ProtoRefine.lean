import OptunaVerif.Lemmas.Proto
/-!
Helper lemmas for Props/C01Grpc.lean (the gRPC proxy refines its backend): the `FrozenTrial` round trip and its
list form, facts about the normal form, the `BaseStorage.get_best_trial` computation under normalisation.
-/
namespace OptunaVerif.C01Grpc
open OptunaVerif.Storage OptunaVerif.Proto OptunaVerif.Generated
open OptunaVerif.Generated.GrpcTables (Rpc)

def normFrozen (f : Frozen) : Frozen := { f with body := normTemplate f.body }

theorem normDir_eq (d : Nat) : normDir d = if d = 1 then 1 else 2 := by
  unfold normDir dirFromProto dirToProto
  by_cases h : d = 1
  · subst h; decide
  · have : ¬ d = GrpcTables.dirToProtoTest := h
    simp only [this, h, if_false]
    decide

theorem normDir_idem (d : Nat) : normDir (normDir d) = normDir d := by
  simp only [normDir_eq]; split <;> simp

theorem frozen_roundtrip (f : Frozen) :
    ∃ p, toProtoTrial f = some p ∧ fromProtoTrial p = .ok (normFrozen f) := by
  obtain ⟨c, h1, h2⟩ := state_roundtrip f.body.state
  simp only [toProtoTrial, h1]
  refine ⟨_, rfl, ?_⟩
  simp only [fromProtoTrial, joinParams_smap, h2, values_roundtrip, decodeDt_encodeDt]
  rfl

theorem normValues_idem (v : Option (List XVal)) : normValues (normValues v) = normValues v := by
  cases v with
  | none => rfl
  | some l => cases l <;> rfl

/-- the rpc an operation of the contract goes through; `none`: a `BaseStorage` default that runs in the
client on top of `get_trial` / `get_all_trials` / `get_study_directions` -/
def rpcOf : Op → Option Rpc
  | .createStudy .. => some .createNewStudy
  | .deleteStudy .. => some .deleteStudy
  | .setStudyUserAttr .. => some .setStudyUserAttribute
  | .setStudySystemAttr .. => some .setStudySystemAttribute
  | .createTrial .. => some .createNewTrial
  | .setTrialParam .. => some .setTrialParameter
  | .setTrialStateValues .. => some .setTrialStateValues
  | .setTrialInter .. => some .setTrialIntermediateValue
  | .setTrialUserAttr .. => some .setTrialUserAttribute
  | .setTrialSystemAttr .. => some .setTrialSystemAttribute
  | .getStudyIdFromName .. => some .getStudyIdFromName
  | .getStudyNameFromId .. => some .getStudyNameFromId
  | .getStudyDirections .. => some .getStudyDirections
  | .getStudyUserAttrs .. => some .getStudyUserAttributes
  | .getStudySystemAttrs .. => some .getStudySystemAttributes
  | .getAllStudies => some .getAllStudies
  | .getTrialIdFromNumber .. => some .getTrialIdFromStudyIdTrialNumber
  | .getTrial .. => some .getTrial
  | .getAllTrials .. => some .getTrials
  | .getTrialNumberFromId .. | .getTrialParam .. | .getNTrials .. | .getBestTrial .. => none

theorem trialOfFrozen_norm (p : Nat × TrialS) : trialOfFrozen (normFrozen (frozenOf p)) = normIdTrial p := by
  simp [trialOfFrozen, normFrozen, frozenOf, normIdTrial, normTrial, normTemplate, TrialS.template]

theorem trial_roundtrip (p : Nat × TrialS) :
    ∃ q f, toProtoTrial (frozenOf p) = some q ∧ fromProtoTrial q = .ok f ∧ trialOfFrozen f = normIdTrial p := by
  obtain ⟨q, h1, h2⟩ := frozen_roundtrip (frozenOf p)
  exact ⟨q, _, h1, h2, trialOfFrozen_norm p⟩

theorem trials_roundtrip (l : List (Nat × TrialS)) :
    ∃ ps fs, toProtoTrials (l.map frozenOf) = some ps ∧ fromProtoTrials ps = .ok fs ∧ fs.map trialOfFrozen = l.map normIdTrial := by
  induction l with
  | nil => exact ⟨[], [], rfl, rfl, rfl⟩
  | cons hd t ih =>
    obtain ⟨ps, fs, h1, h2, h3⟩ := ih
    obtain ⟨q, f, h4, h5, h6⟩ := trial_roundtrip hd
    exact ⟨q :: ps, f :: fs, by simp [toProtoTrials, h1, h4], by simp [fromProtoTrials, h2, h5], by simp [h3, h6]⟩

theorem servicerFilter_all (l : List (Nat × TrialS)) : Cache.servicerFilter [] (-1) l = l := by
  unfold Cache.servicerFilter
  apply List.filter_eq_self.2
  intro p _
  simp only [Bool.or_eq_true, decide_eq_true_eq]
  exact Or.inl (by omega)

theorem rpcOf_normOp (u : String) (op : Op) : rpcOf (normOp u op) = rpcOf op := by
  cases op <;> try rfl
  case createTrial sid t ir => cases t <;> rfl

theorem value0_norm (t : TrialS) : (normTrial t).value0? = t.value0? := by
  unfold TrialS.value0? normTrial
  cases h : t.values with
  | none => rfl
  | some l => cases l <;> rfl

theorem completeWithValue_norm (l : List (Nat × TrialS)) :
    completeWithValue (l.map normIdTrial) = (completeWithValue l).map (fun q => (q.1, normTrial q.2.1, q.2.2)) := by
  unfold completeWithValue
  rw [List.filterMap_map, List.map_filterMap]
  congr 1; funext p
  show (if (p.2.state == TState.complete) = true then Option.map _ (normTrial p.2).value0? else none) = _
  rw [value0_norm]
  split
  · cases p.2.value0? <;> rfl
  · rfl

theorem betterEq_normDir (d : Nat) : betterEq (normDir d) = betterEq d := by
  funext a b
  unfold betterEq
  rw [normDir_eq]
  by_cases h : d = 1
  · subst h; rfl
  · have h1 : (d == 1) = false := by simpa using h
    simp [h, h1]

theorem bestSet_norm (d : Nat) (l : List (Nat × TrialS)) :
    bestSet (normDir d) (l.map normIdTrial) = (bestSet d l).map normIdTrial := by
  unfold bestSet
  rw [betterEq_normDir, completeWithValue_norm]
  simp [List.filter_map, List.all_map, List.map_map, Function.comp_def, normIdTrial]

theorem bestOut_norm (dirs : List Nat) (l : List (Nat × TrialS)) :
    bestOut (dirs.map normDir) (l.map normIdTrial) = normOut (bestOut dirs l) := by
  match dirs with
  | [] => rfl
  | [d] =>
    simp only [List.map_cons, List.map_nil, bestOut, bestSet_norm]
    cases bestSet d l with
    | nil => rfl
    | cons b bs => rfl
  | d1 :: d2 :: rest => rfl

theorem trialParamOut_norm (t : TrialS) (name : String) :
    Cache.trialParamOut (normTrial t) name = normOut (Cache.trialParamOut t name) := by
  unfold Cache.trialParamOut
  have : (normTrial t).params.get? name = t.params.get? name := get?_smap _ name
  rw [this]
  cases t.params.get? name <;> rfl

theorem step_getBestTrial (s : Spec) (sid : Nat) (st : StudyS) (h : s.study? sid = some st) :
    step s (.getBestTrial sid) = (s, bestOut st.directions (s.trialsOf sid)) := by
  simp only [step, h]
  unfold bestOut
  rcases hd : st.directions with _ | ⟨d, _ | ⟨d2, r⟩⟩
  · rfl
  · simp only []
    cases hb : bestSet d (s.trialsOf sid) <;> rfl
  · rfl

theorem normOp_of_derived (u : String) (op : Op) (h : rpcOf op = none) : normOp u op = op := by
  cases op <;> simp [rpcOf] at h <;> rfl

theorem study_roundtrip (p : Nat × StudyS) : fromProtoStudy (toProtoStudy p) = (p.1, normStudy p.2) := by
  simp [fromProtoStudy, toProtoStudy, normStudy, List.map_map, normDir, Function.comp_def]

end OptunaVerif.C01Grpc
