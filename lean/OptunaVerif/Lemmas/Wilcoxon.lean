import OptunaVerif.Model.Wilcoxon
import OptunaVerif.Lemmas.Direction
/-! Helper lemmas for `WilcoxonPruner.prune` (C16 / C13): lengths of the finite part and of the difference list,
negation against `finPart` / `diffValues` / `avgIsBest`. -/
namespace OptunaVerif.Wilcoxon
open OptunaVerif.Direction

theorem finPart_length_le (iv : IV) : (finPart iv).length ≤ iv.length := by
  induction iv with
  | nil => simp [finPart]
  | cons p t ih =>
    obtain ⟨s, v⟩ := p
    cases v <;> simp [finPart] <;> omega

theorem finPart_length_of_allFinite (iv : IV) (h : allFinite iv = true) : (finPart iv).length = iv.length := by
  induction iv with
  | nil => simp [finPart]
  | cons p t ih =>
    obtain ⟨s, v⟩ := p
    simp only [allFinite, List.all_cons, Bool.and_eq_true] at h
    have ht : allFinite t = true := h.2
    cases v <;> simp [isFin] at h
    simp [finPart, ih ht]

def nCommon (cur best : List (Int × Rat)) : Nat :=
  (cur.filter (fun p => (lookupStep p.1 best).isSome)).length

/-- `len(diff_values)` is the number of steps of the current trial that the best trial also has
(`np.intersect1d` on the two key sets), whatever the report order. -/
theorem diffValues_length (cur best : List (Int × Rat)) : (diffValues cur best).length = nCommon cur best := by
  unfold diffValues common nCommon
  rw [List.length_map, List.length_filterMap_eq_countP, ← List.countP_eq_length_filter, (sortBy_perm _ cur).countP_eq]
  exact List.countP_congr (fun p _ => by cases lookupStep p.1 best <;> simp)

theorem nCommon_le (cur best : List (Int × Rat)) : nCommon cur best ≤ cur.length := by
  unfold nCommon; exact List.length_filter_le _ _

theorem diffValues_length_le (cur best : IV) :
    (diffValues (finPart cur) (finPart best)).length ≤ cur.length := by
  rw [diffValues_length]
  exact Nat.le_trans (nCommon_le _ _) (finPart_length_le cur)

theorem avgIsBest_self (d : Dir) (l : List Rat) : avgIsBest d l l = true := by
  cases d <;> simp [avgIsBest]

theorem allFinite_negIV (iv : IV) : allFinite (Wilcoxon.negIV iv) = allFinite iv := by
  unfold allFinite Wilcoxon.negIV
  rw [List.all_map]
  congr 1
  funext p
  obtain ⟨s, v⟩ := p
  cases v <;> rfl

def negQ (l : List (Int × Rat)) : List (Int × Rat) := l.map (fun p => (p.1, -p.2))

theorem finPart_negIV (iv : IV) : finPart (Wilcoxon.negIV iv) = negQ (finPart iv) := by
  induction iv with
  | nil => rfl
  | cons p t ih =>
    obtain ⟨s, v⟩ := p
    simp only [Wilcoxon.negIV, List.map_cons] at ih ⊢
    cases v <;> simp [finPart, xneg, negQ] <;> exact ih

theorem diffValues_eq_diffs (cur best : List (Int × Rat)) :
    diffValues cur best = diffs (sortBy (fun (a b : Int × Rat) => decide (a.1 ≤ b.1)) cur) best := by
  unfold diffValues common diffs
  rw [List.map_filterMap]
  congr 1
  funext p
  cases lookupStep p.1 best <;> rfl

theorem diffValues_negQ (cur best : List (Int × Rat)) :
    diffValues (negQ cur) (negQ best) = negL (diffValues cur best) := by
  rw [diffValues_eq_diffs, diffValues_eq_diffs, ← diffs_neg]
  unfold negQ
  rw [sortBy_map]

theorem map_snd_negQ (l : List (Int × Rat)) : (negQ l).map (·.2) = negL (l.map (·.2)) := map_snd_neg l

theorem avgIsBest_mirror (a b : List Rat) : avgIsBest .maximize a b = avgIsBest .minimize (negL a) (negL b) := by
  unfold avgIsBest
  simp only [mean_negL, decide_eq_decide]
  constructor <;> intro h <;> linarith

end OptunaVerif.Wilcoxon
