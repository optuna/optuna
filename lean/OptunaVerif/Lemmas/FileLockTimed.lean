import OptunaVerif.Lemmas.FileLock
/-!
A timing discipline under which `safeSched` holds for **both lock classes** (both sample the lock file's own
creation stamp), crashes of holders included:

* (H0) *punctual holders*: the clock never passes `stamp + grace` while the creator of the lock file is alive;
* (W0) *no stalled waiter*: the clock does not move while a live waiter is between its `stat` and the
  `rename` of a takeover (program points `resetTimer`, `check`, `tkRename`);
* (U)  *one taker at a time*: a takeover `rename` finds no other live waiter inside that window.

The three conditions are `punctualAt` / `punctualSched` of `Model/FileLock.lean` (`punctualAt_tick`,
`punctualAt_takeover`: what they say of an event); proved here: the invariant `TInv` they maintain and
`safeSched_of_punctual`.

(H0) alone is what the grace period is meant to express; (W0) and (U) are what the code silently
assumes on top of it — dropping (U) gives F13, dropping (W0) gives `stalledWaiter`.
-/
namespace OptunaVerif.FileLock

/-- a punctual `tick`: (H0) it does not pass the deadline of a live creator's lock file, (W0) no live worker is inside
the window -/
theorem punctualAt_tick {g : Nat} {st : St} (h : punctualAt g st .tick = true) :
    (∀ o s, st.sh.lock = some (o, s) → isLive st o = true → st.sh.now + 1 ≤ s + g) ∧
    ∀ (v : Nat) (wk : Worker), st.ws[v]? = some wk → wk.dead = false → inWindow wk.pc = false := by
  simp only [punctualAt, Bool.and_eq_true, List.all_eq_true, List.mem_range] at h
  refine ⟨fun o s hl hlive => ?_, fun v wk hv hd => ?_⟩
  · have := h.1
    rw [hl] at this
    simpa [hlive] using this
  · simpa [liveAt, hv, hd] using h.2 v (getElem?_lt_length hv)

/-- (U) a punctual takeover `rename` that finds a lock file: no other live worker is inside the window -/
theorem punctualAt_takeover {g : Nat} {st : St} {a : Nat} {ak : Worker} (h : punctualAt g st (.step a) = true)
    (ha : st.ws[a]? = some ak) (hd : ak.dead = false) (hpc : ak.pc = .tkRename) (hl : st.sh.lock.isSome = true) :
    ∀ (v : Nat) (wk : Worker), v ≠ a → st.ws[v]? = some wk → wk.dead = false → inWindow wk.pc = false := by
  intro v wk hva hv hdv
  simp only [punctualAt, liveAt, ha, hd, hpc, hl, Bool.not_false, beq_self_eq_true, Bool.and_self, Bool.true_and,
    Bool.not_eq_eq_eq_not, Bool.not_true, List.any_eq_false, List.mem_range] at h
  simpa [hva, liveAt, hv, hdv] using h v (getElem?_lt_length hv)

structure WInv (g : Nat) (sh : Shared) (live : Nat → Bool) (wk : Worker) : Prop where
  /-- a sampled mtime is a past reading of the clock -/
  seen : ∀ m, wk.mtime = some m → m ≤ sh.now
  /-- the timer was (re)started no earlier than the stamp it watches -/
  timer : wk.pc ≠ .resetTimer → ∀ m, wk.mtime = some m → m ≤ wk.last
  /-- between `stat` and the takeover `rename`: either the check is going to fail (the stamp watched is
  young), or the lock file that exists is the watched one and its creator is dead -/
  window : inWindow wk.pc = true →
    (wk.pc ≠ .tkRename ∧ ∃ m, wk.mtime = some m ∧ sh.now ≤ m + g) ∨
    (∃ o s, sh.lock = some (o, s) ∧ live o = false ∧ wk.mtime = some s)

structure SInv (g : Nat) (sh : Shared) (live : Nat → Bool) : Prop where
  stampLe : ∀ o s, sh.lock = some (o, s) → s ≤ sh.now
  deadline : ∀ o s, sh.lock = some (o, s) → live o = true → sh.now ≤ s + g

theorem stepW_now (cfg : Cfg) (sh : Shared) (w : Nat) (wk : Worker) : (stepW cfg sh w wk).1.now = sh.now := by
  unfold stepW doRename doUnlink
  repeat' split
  all_goals rfl

theorem stepW_sinv (cfg : Cfg) (g : Nat) (sh : Shared) (w : Nat) (wk : Worker) (live : Nat → Bool)
    (hs : SInv g sh live) : SInv g (stepW cfg sh w wk).1 live := by
  have hnow := stepW_now cfg sh w wk
  cases stepW_effect cfg sh w wk with
  | same h _ =>
    exact ⟨fun o s hl => by rw [hnow]; exact hs.stampLe o s (by rw [← h]; exact hl),
           fun o s hl hlv => by rw [hnow]; exact hs.deadline o s (by rw [← h]; exact hl) hlv⟩
  | created h0 h =>
    refine ⟨fun o s hl => ?_, fun o s hl _ => ?_⟩
    · rw [h] at hl; simp only [Option.some.injEq, Prod.mk.injEq] at hl; rw [hnow, ← hl.2]; exact Nat.le_refl _
    · rw [h] at hl; simp only [Option.some.injEq, Prod.mk.injEq] at hl; rw [hnow, ← hl.2]; exact Nat.le_add_right _ _
  | removed o s h0 h _ _ =>
    exact ⟨fun o s hl => by rw [h] at hl; simp at hl, fun o s hl => by rw [h] at hl; simp at hl⟩

theorem WInv.frame {g : Nat} {sh sh' : Shared} {live : Nat → Bool} {wk wk' : Worker} (hw : WInv g sh live wk)
    (hnow : sh'.now = sh.now) (hm : wk'.mtime = wk.mtime) (hl : wk'.last = wk.last) (hne : wk.pc ≠ .resetTimer)
    (hwin : inWindow wk'.pc = false) : WInv g sh' live wk' :=
  ⟨by rw [hm, hnow]; exact hw.seen, fun _ => by rw [hm, hl]; exact hw.timer hne, fun h => by rw [hwin] at h; cases h⟩

theorem stepW_winv (cfg : Cfg) (g : Nat) (hg : cfg.grace = some g) (sh : Shared) (w : Nat)
    (wk : Worker) (live : Nat → Bool) (hs : SInv g sh live) (hw : WInv g sh live wk) :
    WInv g (stepW cfg sh w wk).1 live (stepW cfg sh w wk).2.1 := by
  unfold stepW
  split <;> rename_i hpc
  · -- idle
    exact ⟨fun m h => by simp at h, fun _ m h => by simp at h, fun h => by simp [inWindow] at h⟩
  · -- create
    split
    · exact hw.frame rfl rfl rfl (by simp [hpc]) (by cases cfg.kind <;> rfl)
    · exact hw.frame rfl rfl rfl (by simp [hpc]) (by simp [hg, inWindow])
  · -- closing
    exact hw.frame rfl rfl rfl (by simp [hpc]) rfl
  · -- stat
    have hne : wk.pc ≠ .resetTimer := by simp [hpc]
    split
    · exact hw.frame rfl rfl rfl hne rfl
    · rename_i o s hl
      have key : ∀ (wk' : Worker), wk'.mtime = some s → wk'.pc ≠ .tkRename →
          (wk'.pc ≠ .tkRename ∧ ∃ m, wk'.mtime = some m ∧ sh.now ≤ m + g) ∨
          (∃ o s', sh.lock = some (o, s') ∧ live o = false ∧ wk'.mtime = some s') := by
        intro wk' hm hp
        cases hlo : live o with
        | true => exact Or.inl ⟨hp, s, hm, hs.deadline o s hl hlo⟩
        | false => exact Or.inr ⟨o, s, hl, hlo, hm⟩
      split
      · rename_i hm
        exact ⟨hw.seen, fun _ => hw.timer hne, fun _ => key _ hm (by simp)⟩
      · refine ⟨fun m h => ?_, fun h => by simp at h, fun _ => key _ rfl (by simp)⟩
        simp only [Option.some.injEq] at h
        rw [← h]
        exact hs.stampLe o s hl
  · -- resetTimer
    refine ⟨hw.seen, fun _ m h => hw.seen m h, fun _ => ?_⟩
    cases hw.window (by simp [hpc, inWindow]) with
    | inl h => exact Or.inl ⟨by simp, h.2⟩
    | inr h => exact Or.inr h
  · -- check
    have hne : wk.pc ≠ .resetTimer := by simp [hpc]
    rw [hg]
    simp only
    refine ⟨hw.seen, fun _ => hw.timer hne, fun hwin => ?_⟩
    split at hwin
    · rename_i hpass
      cases hw.window (by simp [hpc, inWindow]) with
      | inl h =>
        obtain ⟨_, m, hm, hle⟩ := h
        have := hw.timer hne m hm
        omega
      | inr h => exact Or.inr h
    · simp [inWindow] at hwin
  · -- tkRename
    unfold doRename; split <;> exact hw.frame rfl rfl rfl (by simp [hpc]) rfl
  · -- tkUnlink
    unfold doUnlink; split <;> exact hw.frame rfl rfl rfl (by simp [hpc]) rfl
  · -- tkRestart: the timer is restarted at the present clock
    exact ⟨hw.seen, fun _ m h => hw.seen m h, fun h => by simp [inWindow] at h⟩
  · -- sleep
    exact hw.frame rfl rfl rfl (by simp [hpc]) rfl
  · -- crit
    exact hw.frame rfl rfl rfl (by simp [hpc]) rfl
  · -- relRename
    unfold doRename; split <;> exact hw.frame rfl rfl rfl (by simp [hpc]) rfl
  · -- relUnlink
    unfold doUnlink; split <;> exact hw.frame rfl rfl rfl (by simp [hpc]) rfl

structure TInv (g : Nat) (st : St) : Prop where
  own : Inv st
  shared : SInv g st.sh (isLive st)
  workers : ∀ (w : Nat) (wk : Worker), st.ws[w]? = some wk → wk.dead = false → WInv g st.sh (isLive st) wk

theorem tinv_init (g n : Nat) : TInv g (init n) := by
  refine ⟨inv_init n, ⟨fun o s h => by simp [init] at h, fun o s h => by simp [init] at h⟩, ?_⟩
  intro w wk h _
  rw [init_get h]
  exact ⟨fun m h => by simp [freshWorker] at h, fun _ m h => by simp [freshWorker] at h,
         fun h => by simp [freshWorker, inWindow] at h⟩

theorem isLive_step_live (cfg : Cfg) (st : St) (a : Nat) (ak : Worker) (ha : st.ws[a]? = some ak)
    (o : Nat) :
    isLive { sh := (stepW cfg st.sh a ak).1, ws := updAt st.ws a (fun _ => (stepW cfg st.sh a ak).2.1) } o = isLive st o := by
  unfold isLive
  simp only
  by_cases hoa : o = a
  · subst hoa
    rw [updAt_self st.ws o ak _ ha, ha]
    simp only [stepW_dead]
  · rw [updAt_other st.ws a o _ hoa]

theorem liveTakeoverAt_of_tinv (g : Nat) (st : St) (e : Ev) (hi : TInv g st) : liveTakeoverAt st e = false :=
  Bool.eq_false_iff.2 fun ht => by
    obtain ⟨a, ak, o, s, _, ha, hd, hpc, hl, hlive⟩ := (liveTakeoverAt_iff st e).1 ht
    -- at `tkRename` the window invariant says: the lock file that exists is the watched one, its creator is dead
    rcases (hi.workers a ak ha hd).window (by simp [hpc, inWindow]) with h | ⟨o', s', hl', hdead, _⟩
    · exact h.1 hpc
    · rw [hl] at hl'
      cases hl'
      rw [hdead] at hlive
      cases hlive

theorem tinv_tick (cfg : Cfg) (g : Nat) (st : St) (hi : TInv g st) (hp : punctualAt g st .tick = true) :
    TInv g (step cfg st .tick).1 := by
  obtain ⟨hdl, hwin⟩ := punctualAt_tick hp
  refine ⟨inv_step cfg st .tick hi.own rfl, ⟨fun o s hl => ?_, fun o s hl hlv => hdl o s hl hlv⟩, fun w wk hw hl => ?_⟩
  · exact Nat.le_succ_of_le (hi.shared.stampLe o s hl)
  · have old := hi.workers w wk hw hl
    exact ⟨fun m hm => Nat.le_succ_of_le (old.seen m hm), old.timer, fun h => by rw [hwin w wk hw hl] at h; cases h⟩

theorem tinv_crash (cfg : Cfg) (g : Nat) (st : St) (c : Nat) (hi : TInv g st) : TInv g (step cfg st (.crash c)).1 := by
  have hown : Inv (step cfg st (.crash c)).1 := inv_step cfg st (.crash c) hi.own rfl
  revert hown
  simp only [step]
  split
  · split
    · exact fun _ => hi
    · intro hown
      -- fewer workers are alive afterwards; those that are, are as they were
      have hmono : ∀ o, isLive { st with ws := updAt st.ws c (fun x => { x with dead := true }) } o = true → isLive st o = true := by
        intro o h
        obtain ⟨wk, hw, hd⟩ := (isLive_iff _ o).1 h
        exact (isLive_iff st o).2 ⟨wk, get_of_crash hw hd, hd⟩
      refine ⟨hown, ⟨hi.shared.stampLe, fun o s hl hlv => hi.shared.deadline o s hl (hmono o hlv)⟩, ?_⟩
      intro w wk hw hl
      have old := hi.workers w wk (get_of_crash hw hl) hl
      refine ⟨old.seen, old.timer, fun h => ?_⟩
      cases old.window h with
      | inl h1 => exact Or.inl h1
      | inr h2 =>
        obtain ⟨o, s, h3, h4, h5⟩ := h2
        refine Or.inr ⟨o, s, h3, ?_, h5⟩
        cases hx : isLive { st with ws := updAt st.ws c (fun x => { x with dead := true }) } o with
        | false => rfl
        | true => rw [hmono o hx] at h4; simp at h4
  · exact fun _ => hi

theorem tinv_stepw (cfg : Cfg) (g : Nat) (hg : cfg.grace = some g) (st : St) (a : Nat)
    (hi : TInv g st) (hp : punctualAt g st (.step a) = true) : TInv g (step cfg st (.step a)).1 := by
  have hown : Inv (step cfg st (.step a)).1 := inv_step cfg st (.step a) hi.own (liveTakeoverAt_of_tinv g st (.step a) hi)
  rcases step_step cfg st a with h0 | ⟨ak, ha, hd, h1⟩
  · rw [h0]; exact hi
  rw [h1] at hown ⊢
  have hfun : isLive { sh := (stepW cfg st.sh a ak).1, ws := updAt st.ws a (fun _ => (stepW cfg st.sh a ak).2.1) } = isLive st :=
    funext (isLive_step_live cfg st a ak ha)
  refine ⟨hown, ?_, ?_⟩
  · rw [hfun]
    exact stepW_sinv cfg g st.sh a ak (isLive st) hi.shared
  · intro w wk hw hl
    rw [hfun]
    simp only at hw ⊢
    by_cases hwa : w = a
    · subst hwa
      rw [updAt_self st.ws w ak _ ha] at hw
      simp only [Option.some.injEq] at hw
      subst hw
      exact stepW_winv cfg g hg st.sh w ak (isLive st) hi.shared (hi.workers w ak ha hd)
    · rw [updAt_other st.ws a w _ hwa] at hw
      have old := hi.workers w wk hw hl
      have hnow := stepW_now cfg st.sh a ak
      refine ⟨fun m hm => by rw [hnow]; exact old.seen m hm, old.timer, fun hwin => ?_⟩
      cases old.window hwin with
      | inl h1 => exact Or.inl ⟨h1.1, by rw [hnow]; exact h1.2⟩
      | inr h2 =>
        obtain ⟨o, s, h3, h4, h5⟩ := h2
        cases stepW_effect cfg st.sh a ak with
        | same h0 _ => exact Or.inr ⟨o, s, by rw [h0]; exact h3, h4, h5⟩
        | created h0 _ => rw [h0] at h3; simp at h3
        | removed o' s' h0 _ _ hpc =>
          exfalso
          cases hpc with
          | inl htk =>
            -- (U): another live waiter (`w`) is inside the window
            rw [punctualAt_takeover hp ha hd htk (by rw [h0]; rfl) w wk hwa hw hl] at hwin
            cases hwin
          | inr hrel =>
            -- the holder's own release: the lock file would be its own, but its creator is dead
            obtain ⟨s2, h2⟩ := hi.own a ak ha hd (by simp [hrel, holding])
            rw [h3] at h2
            simp only [Option.some.injEq, Prod.mk.injEq] at h2
            rw [h2.1] at h4
            simp [isLive, ha, hd] at h4

theorem tinv_step (cfg : Cfg) (g : Nat) (hg : cfg.grace = some g) (st : St) (e : Ev)
    (hi : TInv g st) (hp : punctualAt g st e = true) : TInv g (step cfg st e).1 := by
  cases e with
  | tick => exact tinv_tick cfg g st hi hp
  | crash c => exact tinv_crash cfg g st c hi
  | step a => exact tinv_stepw cfg g hg st a hi hp

theorem safeSched_of_punctual (cfg : Cfg) (g : Nat) (hg : cfg.grace = some g) (evs : List Ev) :
    ∀ (st : St), TInv g st → punctualSched cfg g st evs = true → safeSched cfg st evs = true := by
  induction evs with
  | nil => intro st _ _; rfl
  | cons e es ih =>
    intro st hi hp
    simp only [punctualSched, Bool.and_eq_true] at hp
    rw [safeSched_cons]
    exact ⟨liveTakeoverAt_of_tinv g st e hi, ih _ (tinv_step cfg g hg st e hi hp.1) hp.2⟩

end OptunaVerif.FileLock
