import OptunaVerif.Lemmas.RdbHbStep
/-! The other actors of the relational heartbeat model against the abstract one: a worker dies, the database clock
advances, somebody records a heartbeat.  Core Lean only. -/
namespace OptunaVerif.RdbHb
open OptunaVerif.Rdb
open OptunaVerif.Heartbeat (HTrial)

theorem heartbeat_past (hs : HState) (now : Int) (hpast : ∀ p ∈ hs.stamps, p.2 ≤ now) (tid : Nat) (ts : Int)
    (h : ts ∈ heartbeatsOf hs tid) : ts ≤ now := by
  unfold heartbeatsOf at h
  obtain ⟨b, _, hb⟩ := List.mem_filterMap.mp h
  exact hpast (b.id, ts) (stampOf_mem _ _ _ hb)

theorem die_sim (P : Params) (c : Cfg) (h : RInv P c) (w : Nat) :
    absCfg P (step P c (.die w)) = Heartbeat.step (absParams P) (absCfg P c) (.die w) ∧ RInv P (step P c (.die w)) := by
  obtain ⟨m1, m2⟩ := move_same_sim P c h w .dead none trivial (by intro ev hev; cases hev)
  exact ⟨m1.trans (by simp only [Heartbeat.step, Heartbeat.Cfg.setPhase]; apply Heartbeat.Cfg.ext <;> rfl), m2⟩

theorem ageOf_tick (hs : HState) (now : Int) (d : Nat) (hpast : ∀ p ∈ hs.stamps, p.2 ≤ now) (tid : Nat) :
    ageOf hs (now + d) tid = (ageOf hs now tid).map (· + d) := by
  unfold ageOf
  match hh : heartbeatsOf hs tid with
  | [] => rfl
  | [ts] =>
    have : ts ≤ now := heartbeat_past hs now hpast tid ts (by rw [hh]; simp)
    simp only [Option.map_some, Option.some.injEq]
    omega
  | _ :: _ :: _ => rfl

theorem tick_sim (P : Params) (c : Cfg) (h : RInv P c) (d : Nat) :
    absCfg P (step P c (.tick d)) = Heartbeat.step (absParams P) (absCfg P c) (.env (.tick d)) ∧ RInv P (step P c (.tick d)) := by
  constructor
  · simp only [step, Heartbeat.step, Heartbeat.envStep]
    apply Heartbeat.Cfg.ext
    · simp only [absCfg, absTrialsL, List.map_map]
      apply List.map_congr_left
      intro p _
      simp only [Function.comp, absTrial, ageOf_tick c.hs c.now d h.past p.1]
    · rfl
    · rfl
  · refine ⟨h.abs, h.stamped, ?_, h.wf, h.phases, h.evIn, h.noRaise⟩
    intro p hp
    have := h.past p hp
    show p.2 ≤ c.now + d
    omega

set_option linter.unusedVariables false in
theorem unit_row_eq {ν : Type} (r : KRow Unit Unit) : ({ r with val := () } : KRow Unit Unit) = r := rfl

theorem beat_cases (s : HState) (h : Inv0 s.db) (now : Int) (tid : Nat) :
    ((∀ b ∈ s.db.beats, b.owner ≠ tid) ∧
      (recordHeartbeat s now tid).1 =
        { db := { s.db with beats := s.db.beats ++ [{ id := s.db.nBeat, owner := tid, key := (), val := () }], nBeat := s.db.nBeat + 1 },
          stamps := setStamp s.stamps s.db.nBeat now }) ∨
    (∃ r ∈ s.db.beats, r.owner = tid ∧ (recordHeartbeat s now tid).1 = { db := s.db, stamps := setStamp s.stamps r.id now }) := by
  unfold recordHeartbeat
  -- `trial_id` is UNIQUE in `trial_heartbeats` (`h.beats`): `one_or_none()` does not raise and is the trial's first row, if any
  rw [Tbl.oneOrNone_atKey s.db.beats s.db.nBeat h.beats, recordHeartbeat_eq s.db h]
  cases hf : s.db.beats.find? (fun r => r.owner == tid && decide (r.key = ())) with
  | none =>
    left
    have hno : ∀ b ∈ s.db.beats, b.owner ≠ tid := by
      intro b hb e
      have := List.find?_eq_none.mp hf b hb
      simp [e] at this
    have hemp : (Tbl.atKey s.db.beats tid ()).isEmpty = true := by
      rw [Tbl.atKey_isEmpty_iff]; intro r hr hm; exact hno r hr hm.1
    refine ⟨hno, ?_⟩
    simp only [Tbl.upsertConflict, hemp, if_true]
  | some r =>
    right
    have hr := List.find?_some hf
    have hmem := List.mem_of_find?_eq_some hf
    simp only [Bool.and_eq_true, beq_iff_eq, decide_eq_true_eq] at hr
    have hne : (Tbl.atKey s.db.beats tid ()).isEmpty = false := by
      cases hh : (Tbl.atKey s.db.beats tid ()).isEmpty with
      | false => rfl
      | true =>
        rw [Tbl.atKey_isEmpty_iff] at hh
        exact absurd ⟨hr.1, rfl⟩ (hh r hmem)
    refine ⟨r, hmem, hr.1, ?_⟩
    simp only [Tbl.upsertConflict, hne, Bool.false_eq_true, if_false]
    congr 1
    -- a row carries nothing but its stamp, which is kept beside the table: the UPDATE leaves `beats` as it is
    rw [List.map_id'' (by intro r; split <;> rfl)]

theorem heartbeatsOf_beat (s : HState) (h : Inv0 s.db) (now : Int) (tid x : Nat) :
    heartbeatsOf (recordHeartbeat s now tid).1 x = if x = tid then [now] else heartbeatsOf s x := by
  rcases beat_cases s h now tid with ⟨hno, e⟩ | ⟨r, hr, hro, e⟩
  -- INSERT: the new row has id `nBeat`, above every id in the table (`hold`), so the old rows' stamps are read as before
  · rw [e]
    unfold heartbeatsOf
    simp only [Tbl.ofOwner_append, List.filterMap_append]
    have hold : ∀ l : List (KRow Unit Unit), (∀ b ∈ l, b ∈ s.db.beats) →
        l.filterMap (fun b => stampOf (setStamp s.stamps s.db.nBeat now) b.id) = l.filterMap (fun b => stampOf s.stamps b.id) := by
      intro l hl
      apply filterMap_congr'
      intro b hb
      have : b.id ≠ s.db.nBeat := by have := h.beats.below b (hl b hb); omega
      exact stampOf_setStamp_other _ _ _ _ this
    rw [hold _ (fun b hb => ((Tbl.mem_ofOwner _ _ _).mp hb).1)]
    by_cases hx : x = tid
    · subst hx
      have : Tbl.ofOwner s.db.beats x = [] := by
        unfold Tbl.ofOwner; rw [List.filter_eq_nil_iff]; intro b hb; simpa using hno b hb
      rw [this]
      simp [Tbl.ofOwner, stampOf_setStamp_same]
    · have : Tbl.ofOwner [({ id := s.db.nBeat, owner := tid, key := (), val := () } : KRow Unit Unit)] x = [] := by
        simp [Tbl.ofOwner, Ne.symm hx]
      simp [this, hx]
  -- UPDATE: `r` is the trial's only row (`trial_id` UNIQUE) and no other row has its id
  · rw [e]
    unfold heartbeatsOf
    by_cases hx : x = tid
    · subst hx
      rw [← hro, Tbl.ofOwner_unitKey_eq_singleton _ _ h.beats r hr]
      simp [stampOf_setStamp_same, hro]
    · simp only [hx, if_false]
      apply filterMap_congr'
      intro b hb
      rw [Tbl.mem_ofOwner] at hb
      refine stampOf_setStamp_other _ _ _ _ (fun e' => hx ?_)
      rw [← hb.2, eq_of_sorted (f := fun x : KRow Unit Unit => x.id) h.beats.sorted hb.1 hr e', hro]

theorem beat_db (s : HState) (h : Inv0 s.db) (now : Int) (tid : Nat) :
    (recordHeartbeat s now tid).1.db = (Rdb.recordHeartbeat s.db tid).1 := by
  unfold recordHeartbeat
  rw [Tbl.oneOrNone_atKey s.db.beats s.db.nBeat h.beats]
  cases s.db.beats.find? (fun r => r.owner == tid && decide (r.key = ())) <;> rfl

theorem beat_studyList (s : HState) (h : Inv0 s.db) (now : Int) (tid sid : Nat) :
    studyList (recordHeartbeat s now tid).1.db sid = studyList s.db sid ∧
    (recordHeartbeat s now tid).1.db.nTrial = s.db.nTrial := by
  rcases beat_cases s h now tid with ⟨_, e⟩ | ⟨r, _, _, e⟩ <;> rw [e] <;> exact ⟨rfl, rfl⟩

/-- the abstract counterpart of `record_heartbeat(tid)` -/
def beatActs (P : Params) (c : Cfg) (tid : Nat) : List Heartbeat.Act :=
  if tid ∈ (studyList c.hs.db P.sid).map (·.1) then [.env (.beat (numOf (studyList c.hs.db P.sid) tid))] else []

theorem beat_stamps (s : HState) (h : Inv0 s.db) (now : Int) (tid : Nat) :
    ∃ X, (recordHeartbeat s now tid).1.stamps = setStamp s.stamps X now ∧
      ∀ b ∈ (recordHeartbeat s now tid).1.db.beats, b.id = X ∨ b ∈ s.db.beats := by
  rcases beat_cases s h now tid with ⟨_, e⟩ | ⟨r, _, _, e⟩ <;> rw [e]
  · refine ⟨_, rfl, fun b hb => ?_⟩
    simp only [List.mem_append, List.mem_singleton] at hb
    rcases hb with hb | hb
    · exact Or.inr hb
    · exact Or.inl (by rw [hb])
  · exact ⟨_, rfl, fun b hb => Or.inr hb⟩

theorem beat_sim (P : Params) (c : Cfg) (h : RInv P c) (tid : Nat) (htid : tid ∈ c.hs.db.trialIds) :
    absCfg P (step P c (.beat tid)) = Heartbeat.run (absParams P) (absCfg P c) (beatActs P c tid) ∧ RInv P (step P c (.beat tid)) := by
  obtain ⟨a, ha, hlive⟩ := h.abs
  have hinv := ha.inv
  obtain ⟨hL, hnT⟩ := beat_studyList c.hs hinv.1 c.now tid P.sid
  have hsorted := studyList_sorted c.hs.db hinv.1 P.sid
  have hage : ∀ x, ageOf (recordHeartbeat c.hs c.now tid).1 c.now x = if x = tid then some 0 else ageOf c.hs c.now x := by
    intro x
    unfold ageOf
    rw [heartbeatsOf_beat c.hs hinv.1 c.now tid x]
    by_cases hx : x = tid
    · simp [hx]
    · simp [hx]
  -- the listing is the same, so phases and events are; the age of the trial, if listed, is reset
  have habs : absCfg P (step P c (.beat tid)) =
      { absCfg P c with trials := (studyList c.hs.db P.sid).map (fun p =>
          if p.1 = tid then (fun x : HTrial => { x with hb := some 0 }) (absTrial P.codec c.hs c.now p)
          else absTrial P.codec c.hs c.now p) } := by
    apply Heartbeat.Cfg.ext
    · show absTrialsL P.codec (recordHeartbeat c.hs c.now tid).1 c.now (studyList (recordHeartbeat c.hs c.now tid).1.db P.sid) = _
      rw [hL]
      apply List.map_congr_left
      intro p _
      simp only [absTrial, hage]
      split <;> rfl
    · show c.workers.map (absPhase P.codec (studyList (recordHeartbeat c.hs c.now tid).1.db P.sid)) = _
      rw [hL]; rfl
    · show c.events.filterMap (absEvent P.codec (studyList (recordHeartbeat c.hs c.now tid).1.db P.sid)) = _
      rw [hL]; rfl
  constructor
  · rw [habs, map_if_eq_updAt _ hsorted tid (absTrial P.codec c.hs c.now) (fun x : HTrial => { x with hb := some 0 })]
    unfold beatActs
    split
    · rename_i hm
      obtain ⟨q, hq, hqe⟩ := List.mem_map.mp hm
      have := trials_abs_get P c h q hq
      rw [hqe] at this
      simp only [Heartbeat.run, List.foldl_cons, List.foldl_nil, Heartbeat.step, Heartbeat.envStep, this]
      rfl
    · rfl
  · have habs' : Abs (recordHeartbeat c.hs c.now tid).1.db a := by
      rw [beat_db c.hs hinv.1]; exact (abs_recordHeartbeat c.hs.db a ha tid htid).1
    obtain ⟨X, hX, hmem⟩ := beat_stamps c.hs hinv.1 c.now tid
    refine ⟨⟨a, habs', hlive⟩, ?_, ?_, ?_, ?_, ?_, h.noRaise⟩
    · intro b hb
      show ∃ ts, stampOf (recordHeartbeat c.hs c.now tid).1.stamps b.id = some ts
      rw [hX]
      by_cases hid : b.id = X
      · rw [hid]; exact ⟨c.now, stampOf_setStamp_same _ _ _⟩
      · rw [stampOf_setStamp_other _ _ _ _ hid]
        exact h.stamped b ((hmem b hb).resolve_left hid)
    · intro p hp
      have hp' : p ∈ (recordHeartbeat c.hs c.now tid).1.stamps := hp
      show p.2 ≤ c.now
      rw [hX] at hp'
      rcases mem_setStamp _ _ _ _ hp' with hp' | hp'
      · exact h.past p hp'
      · rw [hp']; exact Int.le_refl _
    · intro q hq
      have hq' : q ∈ studyList (recordHeartbeat c.hs c.now tid).1.db P.sid := hq
      rw [hL] at hq'
      exact h.wf q hq'
    · intro w ph hw
      show PhaseOk _ _ (studyList (recordHeartbeat c.hs c.now tid).1.db P.sid) ph
      rw [hL]
      exact h.phases w ph hw
    · intro ev hev t ht
      show t ∈ (studyList (recordHeartbeat c.hs c.now tid).1.db P.sid).map (·.1)
      rw [hL]
      exact h.evIn ev hev t ht

end OptunaVerif.RdbHb
