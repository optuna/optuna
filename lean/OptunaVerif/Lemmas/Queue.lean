import OptunaVerif.Lemmas.Basic
import OptunaVerif.Model.Queue
/-! When `_should_skip_enqueue` takes a value as repeated
(`repeatedOne_iff`), and what one action of the system of pop loops does: `step_cases` lists it as a move `WMove` of the
worker the action belongs to (helpers for C04). -/
namespace OptunaVerif.Queue
open OptunaVerif.Storage

theorem repeatedOne_iff (v e : Dist.Tok) :
    repeatedOne v e = true ↔ isInstOfTypeOf v e = true ∧
      (if isReal v then isNaNTok v = true ∨ iscloseTok (1 / 100000) 0 v e = true else v.pyEq e = true) := by
  unfold repeatedOne
  cases isInstOfTypeOf v e <;> cases isReal v <;> simp

theorem step_beginPop_not_idle (sys : Sys) (w sid : Nat) (h : sys.workers[w]? ≠ some .idle) :
    Queue.step sys (.beginPop w sid) = sys := by
  simp only [Queue.step]

theorem step_beginPop_idle (sys : Sys) (w sid : Nat) (h : sys.workers[w]? = some .idle) :
    Queue.step sys (.beginPop w sid) = { sys with workers := updAt sys.workers w (fun _ =>
      if (sys.spec.study? sid).isSome then .scanning (waitingIds sys.spec sid) else .raised .keyError) } := by
  simp only [Queue.step, h]

theorem step_tryNext_not_scanning (sys : Sys) (w : Nat) (h : ∀ c, sys.workers[w]? ≠ some (.scanning c)) :
    Queue.step sys (.tryNext w) = sys := by
  cases hget : sys.workers[w]? with
  | none => simp only [Queue.step, hget]
  | some ws =>
    cases ws with
    | scanning c => exact absurd hget (h c)
    | _ => simp only [Queue.step, hget]

theorem step_tryNext_nil (sys : Sys) (w : Nat) (h : sys.workers[w]? = some (.scanning [])) :
    Queue.step sys (.tryNext w) = { sys with workers := updAt sys.workers w (fun _ => .empty) } := by
  simp only [Queue.step, h]

theorem claim_out (s : Spec) (t : Nat) :
    (∃ b, (Storage.step s (claimOp t)).2 = .bool b) ∨ ∃ e, (Storage.step s (claimOp t)).2 = .err e := by
  simp only [claimOp, Storage.step]
  split
  · exact .inr ⟨_, rfl⟩
  · split <;> exact .inl ⟨_, rfl⟩

/-- The action `a` as the worker `w` it belongs to sees it: from `ws`, with the storage at `s`, the worker goes to `ws'`,
the storage to `s'`, and `cl` is appended to the claims. -/
inductive WMove (w : Nat) (s : Spec) : Act → WState → Spec → WState → List (Nat × Nat) → Prop
  | list (sid : Nat) : WMove w s (.beginPop w sid) .idle s
      (if (s.study? sid).isSome then .scanning (waitingIds s sid) else .raised .keyError) []
  | none : WMove w s (.tryNext w) (.scanning []) s .empty []
  | claim (t : Nat) (rest : List Nat) : (Storage.step s (claimOp t)).2 = .bool true →
    WMove w s (.tryNext w) (.scanning (t :: rest)) (Storage.step s (claimOp t)).1 (.got t) [(w, t)]
  | pass (t : Nat) (rest : List Nat) (ws' : WState) : (Storage.step s (claimOp t)).2 ≠ .bool true →
    (ws' = .scanning rest ∨ ∃ e, ws' = .raised e) →
    WMove w s (.tryNext w) (.scanning (t :: rest)) (Storage.step s (claimOp t)).1 ws' []
  | reset (ws : WState) : WMove w s (.reset w) ws s .idle []

theorem step_tryNext_cons (sys : Sys) (w c : Nat) (rest : List Nat) (h : sys.workers[w]? = some (.scanning (c :: rest))) :
    ∃ s' ws' cl, WMove w sys.spec (.tryNext w) (.scanning (c :: rest)) s' ws' cl ∧
      Queue.step sys (.tryNext w) = ⟨s', updAt sys.workers w (fun _ => ws'), sys.claims ++ cl⟩ := by
  simp only [Queue.step, h]
  rcases claim_out sys.spec c with ⟨b, hb⟩ | ⟨e, he⟩
  · cases b
    · exact ⟨_, _, _, .pass c rest _ (by simp [hb]) (.inl rfl), by simp [hb]⟩
    · exact ⟨_, _, _, .claim c rest hb, by simp [hb]⟩
  · by_cases hu : e = .updateFinished
    · subst hu
      exact ⟨_, _, _, .pass c rest _ (by simp [he]) (.inl rfl), by simp [he]⟩
    · refine ⟨_, _, _, .pass c rest (.raised e) (by simp [he]) (.inr ⟨e, rfl⟩), ?_⟩
      rw [he]; cases e <;> first | exact absurd rfl hu | simp

theorem step_cases (sys : Sys) (a : Act) :
    Queue.step sys a = sys ∨
    (∃ op, a = .ext op ∧ Queue.step sys a = { sys with spec := (Storage.step sys.spec op).1 }) ∨
    ∃ w ws s' ws' cl, sys.workers[w]? = some ws ∧ WMove w sys.spec a ws s' ws' cl ∧
      Queue.step sys a = ⟨s', updAt sys.workers w (fun _ => ws'), sys.claims ++ cl⟩ := by
  cases a with
  | ext op => exact .inr (.inl ⟨op, rfl, rfl⟩)
  | beginPop w sid =>
    by_cases h : sys.workers[w]? = some .idle
    · exact .inr (.inr ⟨w, _, _, _, _, h, .list sid, by simp [step_beginPop_idle sys w sid h]⟩)
    · exact .inl (step_beginPop_not_idle sys w sid h)
  | reset w =>
    cases h : sys.workers[w]? with
    | none => left; simp only [Queue.step, updAt_of_none _ h]
    | some ws => exact .inr (.inr ⟨w, _, _, _, _, h, .reset ws, by simp [Queue.step]⟩)
  | tryNext w =>
    by_cases h : ∃ c, sys.workers[w]? = some (.scanning c)
    · obtain ⟨_ | ⟨c, rest⟩, h⟩ := h
      · exact .inr (.inr ⟨w, _, _, _, _, h, .none, by simp [step_tryNext_nil sys w h]⟩)
      · obtain ⟨s', ws', cl, hm, e⟩ := step_tryNext_cons sys w c rest h
        exact .inr (.inr ⟨w, _, _, _, _, h, hm, e⟩)
    · exact .inl (step_tryNext_not_scanning sys w fun c hc => h ⟨c, hc⟩)

end OptunaVerif.Queue
