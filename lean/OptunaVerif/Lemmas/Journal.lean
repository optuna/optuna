import OptunaVerif.Model.Journal
import OptunaVerif.Lemmas.StepAnswer
/-! Lemmas about the journal replay model: every handler factors through a worker-independent
transformer of the shared (public) part of the state and a change of the issuer's own bookkeeping (`apply_eq`);
one call of `apply_logs` is the error-swallowing replay of the batch or of its part up to the first record rejected
for the replaying worker (`applyLogs_cases`). -/
namespace OptunaVerif.Journal
open OptunaVerif.Storage

/-- The error the *issuer* of record `r` gets when it is replayed on public state `s` (if any). -/
def rejects (s : Spec) : Rec → Option Err
  | .createStudy _ name _ => if s.nameTaken name then some .duplicated else none
  | .deleteStudy _ sid | .setStudyUserAttr _ sid _ _ | .setStudySystemAttr _ sid _ _ | .createTrial _ sid _ =>
    match s.study? sid with | none => some .keyError | some _ => none
  | .setTrialParam _ tid name p =>
    match updatable s tid with
    | .error e => some e
    | .ok t =>
      match firstDistOf s t.study name with
      | some d0 => if d0.compat p.dist then none else some .valueError
      | none => none
  | .setTrialStateValues _ tid _ _ | .setTrialInter _ tid _ _ | .setTrialUserAttr _ tid _ _
  | .setTrialSystemAttr _ tid _ _ =>
    match updatable s tid with | .error e => some e | .ok _ => none

theorem rejects_err (s : Spec) (r : Rec) (e : Err) (h : rejects s r = some e) :
    e = .duplicated ∨ e = .keyError ∨ e = .updateFinished ∨ e = .valueError := by
  have hu : ∀ tid x, updatable s tid = .error x → x = .keyError ∨ x = .updateFinished := fun tid x =>
    Storage.writable_err s tid x
  cases r <;> simp only [rejects] at h <;> (repeat' split at h) <;> cases h <;>
    first | simp | (rcases hu _ _ ‹_› with rfl | rfl <;> simp)

/-- What replaying `r` does to the public state — the same for every worker. -/
def applySpec (s : Spec) (r : Rec) : Spec :=
  match rejects s r with
  | some _ => s
  | none =>
    match r with
    | .createStudy _ name dirs => { s with studies := s.studies ++ [some (StudyS.mk name dirs [] [] [])] }
    | .deleteStudy _ sid => { s with studies := updAt s.studies sid (fun _ => none) }
    | .setStudyUserAttr _ sid k v => s.updStudy sid (fun x => { x with userAttrs := x.userAttrs.set k v })
    | .setStudySystemAttr _ sid k v => s.updStudy sid (fun x => { x with systemAttrs := x.systemAttrs.set k v })
    | .createTrial _ sid tmpl => { s with trials := s.trials ++ [mkTrial sid (s.trialsOf sid).length tmpl] }
    | .setTrialParam _ tid name p =>
      match updatable s tid with
      | .ok t => setParam s tid t.study name p
      | .error _ => s
    | .setTrialStateValues _ tid state values =>
      match updatable s tid with
      | .ok t =>
        if state == .running && t.state == .running then s
        else s.updTrial tid (fun t => { t with
          state := state, values := values.or t.values,
          hasStart := t.hasStart || state == .running, hasComplete := t.hasComplete || state.isFinished })
      | .error _ => s
    | .setTrialInter _ tid stp v => s.updTrial tid (fun t => { t with inter := setInter t.inter stp v })
    | .setTrialUserAttr _ tid k v => s.updTrial tid (fun t => { t with userAttrs := t.userAttrs.set k v })
    | .setTrialSystemAttr _ tid k v => s.updTrial tid (fun t => { t with systemAttrs := t.systemAttrs.set k v })

/-- What replaying its own accepted record does to the issuer's bookkeeping (`owned`, `lastCreated`). -/
def issuerLocal (w : String) (st : JState) : Rec → AList Nat × Option Nat
  | .createTrial _ sid tmpl =>
    (if (mkTrial sid (st.spec.trialsOf sid).length tmpl).state == .running then st.owned.set w st.spec.trials.length
     else st.owned, some st.spec.trials.length)
  | .setTrialStateValues _ tid state _ =>
    (match updatable st.spec tid with
     | .ok t =>
       if state == .running && t.state == .running then erase st.owned w
       else if state == .running then st.owned.set w tid else st.owned
     | .error _ => st.owned, st.lastCreated)
  | _ => (st.owned, st.lastCreated)

attribute [local simp] apply applySpec rejects reject Rec.worker issuerLocal in
/-- Key fact, the normal form of a handler: its effect on the public state and the error it raises are determined by
the public state and the record; the worker identity only decides *whether* the error is raised, and the worker's own
bookkeeping changes only when it replays a record of its own that is accepted.  The cursor is not touched. -/
theorem apply_eq (w : String) (st : JState) (r : Rec) :
    apply w st r =
      (if (r.worker == w) = true ∧ rejects st.spec r = none then
         { st with spec := applySpec st.spec r, owned := (issuerLocal w st r).1, lastCreated := (issuerLocal w st r).2 }
       else { st with spec := applySpec st.spec r },
       if r.worker == w then rejects st.spec r else none) := by
  cases r with
  | createStudy w' name _ =>
    cases h : st.spec.nameTaken name <;> cases hw : w' == w <;> simp [h, hw]
  | deleteStudy w' sid | setStudyUserAttr w' sid _ _ | setStudySystemAttr w' sid _ _ | createTrial w' sid _ =>
    cases h : st.spec.study? sid <;> cases hw : w' == w <;> simp [h, hw]
  | setTrialParam w' tid name p =>
    cases h : updatable st.spec tid with
    | error e => cases hw : w' == w <;> simp [h, hw]
    | ok t =>
      cases hd : firstDistOf st.spec t.study name with
      | none => cases hw : w' == w <;> simp [h, hd, hw]
      | some d0 => cases hc : d0.compat p.dist <;> cases hw : w' == w <;> simp [h, hd, hc, hw]
  | setTrialStateValues w' tid state _ =>
    cases h : updatable st.spec tid with
    | error e => cases hw : w' == w <;> simp [h, hw]
    | ok t => cases hc : (state == .running && t.state == .running) <;> cases hw : w' == w <;> simp [h, hc, hw]
  | setTrialInter w' tid _ _ | setTrialUserAttr w' tid _ _ | setTrialSystemAttr w' tid _ _ =>
    cases h : updatable st.spec tid <;> cases hw : w' == w <;> simp [h, hw]

theorem apply_spec (w : String) (st : JState) (r : Rec) :
    (apply w st r).1.spec = applySpec st.spec r ∧
    (apply w st r).2 = (if r.worker == w then rejects st.spec r else none) := by
  rw [apply_eq]; exact ⟨by split <;> rfl, rfl⟩

theorem apply_cursor (w : String) (st : JState) (r : Rec) : (apply w st r).1.cursor = st.cursor := by
  rw [apply_eq]; split <;> rfl

theorem apply_err_own (w : String) (st : JState) (r : Rec) (hw : r.worker = w) : (apply w st r).2 = rejects st.spec r := by
  rw [(apply_spec w st r).2, hw]; simp

theorem apply_err_foreign (w : String) (st : JState) (r : Rec) (h : (r.worker == w) = false) : (apply w st r).2 = none := by
  rw [(apply_spec w st r).2, h]; rfl

theorem apply_own (w : String) (st : JState) (r : Rec) (hw : r.worker = w) (hacc : rejects st.spec r = none) :
    apply w st r =
      ({ st with spec := applySpec st.spec r, owned := (issuerLocal w st r).1, lastCreated := (issuerLocal w st r).2 },
       none) := by
  rw [apply_eq, if_pos ⟨by simp [hw], hacc⟩, hacc]; simp

theorem applyLogs_cons (w : String) (st : JState) (r : Rec) (rest : List Rec) :
    applyLogs w st (r :: rest) =
      match (apply w { st with cursor := st.cursor + 1 } r).2 with
      | some e => ((apply w { st with cursor := st.cursor + 1 } r).1, some e)
      | none => applyLogs w (apply w { st with cursor := st.cursor + 1 } r).1 rest := by
  simp only [applyLogs]
  split <;> (rename_i heq; simp only [heq])

theorem applyLogs_single (w : String) (st : JState) (r : Rec) :
    applyLogs w st [r] = apply w { st with cursor := st.cursor + 1 } r := by
  rw [applyLogs_cons]
  cases h : (apply w { st with cursor := st.cursor + 1 } r).2 <;> exact Prod.ext rfl h.symm

theorem applyAll_cons (w : String) (st : JState) (r : Rec) (rs : List Rec) :
    applyAll w st (r :: rs) = applyAll w (apply w { st with cursor := st.cursor + 1 } r).1 rs := rfl

/-- **What one call of `apply_logs` does**: it replays the whole batch as the error-swallowing replay does and raises
nothing, or it stops just past the first record that is rejected *and* was issued by the replaying worker, raising that
record's error; the records before it are replayed as by `applyAll`, those rejected for other workers included. -/
theorem applyLogs_cases (w : String) (st : JState) (rs : List Rec) :
    applyLogs w st rs = (applyAll w st rs, none) ∨
    ∃ a r b e, rs = a ++ r :: b ∧ r.worker = w ∧ rejects (applyAll w st a).spec r = some e ∧
      applyLogs w st rs = (applyAll w st (a ++ [r]), some e) := by
  induction rs generalizing st with
  | nil => exact .inl rfl
  | cons r rest ih =>
    rw [applyLogs_cons, applyAll_cons]
    cases he : (apply w { st with cursor := st.cursor + 1 } r).2 with
    | some e =>
      refine .inr ⟨[], r, rest, e, rfl, ?_⟩
      have h2 := (apply_spec w { st with cursor := st.cursor + 1 } r).2
      rw [he] at h2
      cases hw : r.worker == w with
      | false => rw [hw] at h2; cases h2
      | true => rw [hw] at h2; exact ⟨by simpa using hw, h2.symm, rfl⟩
    | none =>
      rcases ih (apply w { st with cursor := st.cursor + 1 } r).1 with h | ⟨a, r', b, e, hrs, hw, hrej, h⟩
      · exact .inl h
      · exact .inr ⟨r :: a, r', b, e, by rw [hrs]; rfl, hw, hrej, h⟩

theorem applyLogs_append_foreign (w : String) (st : JState) (pre rs : List Rec)
    (h : ∀ x ∈ pre, (x.worker == w) = false) :
    applyLogs w st (pre ++ rs) = applyLogs w (applyAll w st pre) rs := by
  induction pre generalizing st with
  | nil => rfl
  | cons r rest ih =>
    rw [List.cons_append, applyLogs_cons, apply_err_foreign w _ r (h r (by simp))]
    exact ih _ (fun x hx => h x (by simp [hx]))

theorem apply_foreign_local (w : String) (st : JState) (r : Rec) (h : (r.worker == w) = false) :
    (apply w st r).1.owned.get? w = st.owned.get? w ∧ (apply w st r).1.lastCreated = st.lastCreated := by
  rw [apply_eq, if_neg (by simp [h])]; exact ⟨rfl, rfl⟩

theorem applyAll_foreign_local (w : String) (st : JState) (rs : List Rec) (h : ∀ r ∈ rs, (r.worker == w) = false) :
    (applyAll w st rs).owned.get? w = st.owned.get? w ∧ (applyAll w st rs).lastCreated = st.lastCreated := by
  induction rs generalizing st with
  | nil => exact ⟨rfl, rfl⟩
  | cons r rs ih =>
    have h1 := apply_foreign_local w { st with cursor := st.cursor + 1 } r (h r (by simp))
    have h2 := ih (apply w { st with cursor := st.cursor + 1 } r).1 (fun x hx => h x (by simp [hx]))
    exact ⟨h2.1.trans h1.1, h2.2.trans h1.2⟩

end OptunaVerif.Journal
