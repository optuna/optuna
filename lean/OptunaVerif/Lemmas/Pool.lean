import OptunaVerif.Model.Pool
/-! Invariant of the thread-pool model (`Model/Pool.lean`) and its preservation by every event. -/
namespace OptunaVerif.Pool

theorem mem_raisedOf (ended : Nat → Option Res) (l : List Nat) (c : Nat) :
    c ∈ raisedOf ended l ↔ ∃ i ∈ l, ended i = some (.raised c) := by
  induction l with
  | nil => simp [raisedOf]
  | cons a t ih =>
    simp only [raisedOf]
    cases ha : ended a with
    | none => simp [ih, ha]
    | some r =>
      cases r with
      | ok => simp [ih, ha]
      | raised c' =>
        simp only [List.mem_cons, ih, exists_eq_or_imp, ha, Option.some.injEq, Res.raised.injEq]
        constructor
        · rintro (h | h)
          · exact Or.inl h.symm
          · exact Or.inr h
        · rintro (h | h)
          · exact Or.inl h.symm
          · exact Or.inr h

theorem raisedOf_nil (ended : Nat → Option Res) (l : List Nat) (h : raisedOf ended l = []) :
    ∀ i ∈ l, ∀ c, ended i ≠ some (.raised c) := by
  intro i hi c hc
  have : c ∈ raisedOf ended l := (mem_raisedOf ended l c).2 ⟨i, hi, hc⟩
  rw [h] at this
  cases this

theorem allEnded_mem (ended : Nat → Option Res) (l : List Nat) (h : allEnded ended l = true) :
    ∀ i ∈ l, (ended i).isSome = true := by
  simpa [allEnded] using h

theorem ended_ok_of (o : Option Res) (h1 : o.isSome = true) (h2 : ∀ c, o ≠ some (.raised c)) :
    o = some .ok := by
  cases o with
  | none => cases h1
  | some r =>
    cases r with
    | ok => rfl
    | raised c => exact absurd rfl (h2 c)

/-- The invariant of `_optimize`'s pool branch. -/
structure Inv (k : Nat) (n : Option Nat) (s : State) : Prop where
  fut_lt : ∀ i ∈ s.futures, i < s.submitted
  begun_lt : ∀ i, s.begun i = true → i < s.submitted
  ended_begun : ∀ i r, s.ended i = some r → s.begun i = true
  /-- while no exception has been met, every submitted future is still in `futures` or was seen
  to have returned normally -/
  tracked : (s.phase = .loop ∨ s.phase = .drained) → s.cands = [] →
    ∀ i, i < s.submitted → i ∈ s.futures ∨ s.ended i = some .ok
  cands_real : ∀ c ∈ s.cands, ∃ i, i < s.submitted ∧ s.ended i = some (.raised c)
  drained_empty : s.phase = .drained → s.futures = []
  exited : ∀ r, s.phase = .exited r →
    (∀ i, i < s.submitted → (s.ended i).isSome = true) ∧
    (r = .ok → ∀ i, i < s.submitted → s.ended i = some .ok) ∧
    (∀ c, r = .raised c → ∃ i, i < s.submitted ∧ s.ended i = some (.raised c))
  size : s.futures.length ≤ k
  unfinished_tracked : ∀ i, i < s.submitted → s.ended i = none → i ∈ s.futures
  quota : ∀ m, n = some m → s.submitted ≤ m
  /-- the submit loop is left without an exception only through one of its three `break`s:
  stop flag, `n_trials` reached, `timeout` elapsed -/
  drained_why : (s.phase = .drained ∨ s.phase = .exited .ok) →
    s.stop = true ∨ quotaReached n s.submitted = true ∨ s.timedOut = true

theorem Inv.exactly_n {k : Nat} {n : Option Nat} {s : State} (hi : Inv k n s) (hx : s.phase = .exited .ok)
    (hs : s.stop = false) (ht : s.timedOut = false) (m : Nat) (hm : n = some m) : s.submitted = m := by
  rcases hi.drained_why (Or.inr hx) with h1 | h1 | h1
  · rw [hs] at h1; cases h1
  · rw [hm] at h1
    simp only [quotaReached, decide_eq_true_eq] at h1
    exact Nat.le_antisymm (hi.quota m hm) h1
  · rw [ht] at h1; cases h1

theorem inv_init (k : Nat) (n : Option Nat) : Inv k n init := by
  constructor <;> simp [init]

theorem inv_submit (k : Nat) (n : Option Nat) (s s' : State) (hi : Inv k n s)
    (h : step k n s .submit = some s') : Inv k n s' := by
  simp only [step] at h
  split at h
  · rename_i hg
    obtain ⟨hph, hc, hq, hlen⟩ := hg
    cases h
    constructor
    · intro i hi'
      rcases List.mem_cons.1 hi' with rfl | hi'
      · simp
      · exact Nat.lt_succ_of_lt (hi.fut_lt i hi')
    · intro i hb; exact Nat.lt_succ_of_lt (hi.begun_lt i hb)
    · exact hi.ended_begun
    · intro _ _ i hlt
      rcases Nat.lt_succ_iff_lt_or_eq.1 hlt with h1 | rfl
      · rcases hi.tracked (Or.inl hph) hc i h1 with h2 | h2
        · exact Or.inl (List.mem_cons_of_mem _ h2)
        · exact Or.inr h2
      · exact Or.inl List.mem_cons_self
    · intro c hc'
      obtain ⟨i, h1, h2⟩ := hi.cands_real c hc'
      exact ⟨i, Nat.lt_succ_of_lt h1, h2⟩
    · intro hd; simp only [] at hd; rw [hph] at hd; cases hd
    · intro r hr; simp only [] at hr; rw [hph] at hr; cases hr
    · simp only [List.length_cons]; omega
    · intro i hlt hn
      rcases Nat.lt_succ_iff_lt_or_eq.1 hlt with h1 | rfl
      · exact List.mem_cons_of_mem _ (hi.unfinished_tracked i h1 hn)
      · exact List.mem_cons_self
    · intro m hm
      have := hi.quota m hm
      subst hm
      simp only [quotaReached, decide_eq_false_iff_not] at hq
      simp only []
      omega
    · intro hd; simp only [] at hd; rw [hph] at hd
      rcases hd with hd | hd <;> cases hd
  · cases h

theorem inv_begin (k : Nat) (n : Option Nat) (s s' : State) (i : Nat) (hi : Inv k n s)
    (h : step k n s (.begin i) = some s') : Inv k n s' := by
  simp only [step] at h
  split at h
  · rename_i hg
    cases h
    exact { hi with
      begun_lt := by
        intro j hb
        simp only [] at hb
        split at hb
        · rename_i hji; subst hji; exact hg.1
        · exact hi.begun_lt j hb
      ended_begun := by
        intro j r hr
        simp only []
        split
        · rfl
        · exact hi.ended_begun j r hr }
  · cases h

theorem inv_stop (k : Nat) (n : Option Nat) (s s' : State) (i : Nat) (hi : Inv k n s)
    (h : step k n s (.stopCalled i) = some s') : Inv k n s' := by
  simp only [step] at h
  split at h
  · cases h
    exact { hi with
      drained_why := by
        intro _; exact Or.inl rfl }
  · cases h

theorem inv_finish (k : Nat) (n : Option Nat) (s s' : State) (i : Nat) (r : Res) (hi : Inv k n s)
    (h : step k n s (.finish i r) = some s') : Inv k n s' := by
  simp only [step] at h
  split at h
  · rename_i hg
    obtain ⟨hb, he⟩ := hg
    have hlt : i < s.submitted := hi.begun_lt i hb
    cases h
    exact { hi with
      ended_begun := by
        intro j r' hr
        simp only [] at hr
        split at hr
        · rename_i hji; subst hji; exact hb
        · exact hi.ended_begun j r' hr
      tracked := by
        intro hph hc j hj
        simp only [] at hph hc ⊢
        rcases hi.tracked hph hc j hj with h1 | h1
        · exact Or.inl h1
        · right
          split
          · rename_i hji; subst hji; rw [he] at h1; cases h1
          · exact h1
      cands_real := by
        intro c hc
        obtain ⟨j, h1, h2⟩ := hi.cands_real c hc
        refine ⟨j, h1, ?_⟩
        simp only []
        split
        · rename_i hji; subst hji; rw [he] at h2; cases h2
        · exact h2
      exited := by
        intro r' hr
        -- impossible: after exit every submitted future has ended, but future i had not
        have := (hi.exited r' hr).1 i hlt
        rw [he] at this
        cases this
      unfinished_tracked := by
        intro j hj hn
        simp only [] at hn
        split at hn
        · cases hn
        · exact hi.unfinished_tracked j hj hn }
  · cases h

theorem inv_waitFirst (k : Nat) (n : Option Nat) (s s' : State) (c : List Nat) (hi : Inv k n s)
    (h : step k n s (.waitFirst c) = some s') : Inv k n s' := by
  simp only [step] at h
  split at h
  · rename_i hg
    obtain ⟨hph, hc, _, _, _, hsub, hend⟩ := hg
    have hsub' : ∀ i ∈ c, i ∈ s.futures := by simpa using hsub
    have hend' := allEnded_mem s.ended c hend
    cases h
    exact { hi with
      fut_lt := by
        intro i hi'
        exact hi.fut_lt i (List.mem_filter.1 hi').1
      tracked := by
        intro _ hc' j hj
        simp only [] at hc' ⊢
        rcases hi.tracked (Or.inl hph) hc j hj with h1 | h1
        -- a future this wait takes out of `futures` has ended, and normally: what it collected of exceptions is `[]` (`hc'`)
        · by_cases hjc : j ∈ c
          · exact Or.inr (ended_ok_of _ (hend' j hjc) (raisedOf_nil s.ended c hc' j hjc))
          · exact Or.inl (List.mem_filter.2 ⟨h1, by simpa using hjc⟩)
        · exact Or.inr h1
      cands_real := by
        intro x hx
        simp only [] at hx
        obtain ⟨j, hj, hr⟩ := (mem_raisedOf s.ended c x).1 hx
        exact ⟨j, hi.fut_lt j (hsub' j hj), hr⟩
      drained_empty := by
        intro hd; simp only [] at hd; rw [hph] at hd; cases hd
      exited := by
        intro r hr; simp only [] at hr; rw [hph] at hr; cases hr
      size := Nat.le_trans (List.length_filter_le _ _) hi.size
      unfinished_tracked := by
        intro j hj hn
        simp only [] at hn ⊢
        refine List.mem_filter.2 ⟨hi.unfinished_tracked j hj hn, ?_⟩
        have : j ∉ c := by
          intro hjc
          have := hend' j hjc
          rw [hn] at this
          cases this
        simpa using this
      drained_why := by
        intro hd; simp only [] at hd; rw [hph] at hd
        rcases hd with hd | hd <;> cases hd }
  · cases h

theorem inv_waitAll (k : Nat) (n : Option Nat) (s s' : State) (hi : Inv k n s)
    (h : step k n s .waitAll = some s') : Inv k n s' := by
  simp only [step] at h
  split at h
  · rename_i hg
    obtain ⟨hph, hc, hwhy, hend⟩ := hg
    have hend' := allEnded_mem s.ended s.futures hend
    cases h
    exact { hi with
      fut_lt := by
        intro i hi'; cases hi'
      tracked := by
        intro _ hc' j hj
        simp only [] at hc' ⊢
        rcases hi.tracked (Or.inl hph) hc j hj with h1 | h1
        · exact Or.inr (ended_ok_of _ (hend' j h1) (raisedOf_nil s.ended s.futures hc' j h1))
        · exact Or.inr h1
      cands_real := by
        intro x hx
        simp only [] at hx
        obtain ⟨j, hj, hr⟩ := (mem_raisedOf s.ended s.futures x).1 hx
        exact ⟨j, hi.fut_lt j hj, hr⟩
      drained_empty := by
        intro _; rfl
      exited := by
        intro r hr; cases hr
      size := by
        simp
      unfinished_tracked := by
        intro j hj hn
        exfalso
        have := hend' j (hi.unfinished_tracked j hj hn)
        rw [hn] at this
        cases this
      drained_why := by
        intro _; exact hwhy }
  · cases h

theorem inv_timeout (k : Nat) (n : Option Nat) (s s' : State) (hi : Inv k n s)
    (h : step k n s .timeout = some s') : Inv k n s' := by
  simp only [step] at h
  split at h
  · rename_i hph
    cases h
    exact { hi with
      drained_why := by
        intro hd; simp only [] at hd; rw [hph] at hd
        rcases hd with hd | hd <;> cases hd }
  · cases h

theorem inv_exit (k : Nat) (n : Option Nat) (s s' : State) (r : Res) (hi : Inv k n s)
    (h : step k n s (.exit r) = some s') : Inv k n s' := by
  simp only [step] at h
  split at h
  · rename_i hg
    obtain ⟨hph, hend, hallow⟩ := hg
    have hend' : ∀ i, i < s.submitted → (s.ended i).isSome = true := by
      intro i hlt
      exact allEnded_mem s.ended _ hend i (List.mem_range.2 hlt)
    cases h
    exact { hi with
      tracked := by
        intro hp; simp only [] at hp; rcases hp with hp | hp <;> cases hp
      drained_empty := by
        intro hd; cases hd
      exited := by
        intro r' hr
        simp only [Phase.exited.injEq] at hr
        subst hr
        refine ⟨hend', ?_, ?_⟩
        -- `exitAllowed`: `.ok` only once drained with no candidate, when `futures` is empty and `tracked` leaves "ended
        -- normally" alone; `.raised c` only for a candidate, which `cands_real` traces to a future
        · intro hr j hj
          subst hr
          simp only [exitAllowed, Bool.and_eq_true, decide_eq_true_eq] at hallow
          rcases hi.tracked (Or.inr hallow.1) hallow.2 j hj with h1 | h1
          · rw [hi.drained_empty hallow.1] at h1; cases h1
          · exact h1
        · intro c hr
          subst hr
          simp only [exitAllowed, List.contains_iff_mem] at hallow
          exact hi.cands_real c hallow
      drained_why := by
        intro hd
        simp only [] at hd
        rcases hd with hd | hd
        · cases hd
        · simp only [Phase.exited.injEq] at hd
          subst hd
          simp only [exitAllowed, Bool.and_eq_true, decide_eq_true_eq] at hallow
          exact hi.drained_why (Or.inl hallow.1) }
  · cases h

theorem inv_step (k : Nat) (n : Option Nat) (s s' : State) (e : Event) (hi : Inv k n s)
    (h : step k n s e = some s') : Inv k n s' := by
  cases e with
  | submit => exact inv_submit k n s s' hi h
  | begin i => exact inv_begin k n s s' i hi h
  | stopCalled i => exact inv_stop k n s s' i hi h
  | finish i r => exact inv_finish k n s s' i r hi h
  | waitFirst c => exact inv_waitFirst k n s s' c hi h
  | timeout => exact inv_timeout k n s s' hi h
  | waitAll => exact inv_waitAll k n s s' hi h
  | exit r => exact inv_exit k n s s' r hi h

theorem run_invariant {k : Nat} {n : Option Nat} {Q : State → Prop} {es : List Event}
    (hstep : ∀ s s' e, e ∈ es → Q s → step k n s e = some s' → Q s') {s s' : State} (hq : Q s)
    (h : run k n s es = some s') : Q s' := by
  induction es generalizing s with
  | nil => simp only [run, Option.some.injEq] at h; subst h; exact hq
  | cons e es ih =>
    simp only [run] at h
    cases hs : step k n s e with
    | none => rw [hs] at h; cases h
    | some s1 =>
      rw [hs] at h
      exact ih (fun s s' e he => hstep s s' e (List.mem_cons_of_mem _ he)) (hstep s s1 e List.mem_cons_self hq hs) h

theorem inv_run (k : Nat) (n : Option Nat) (s s' : State) (es : List Event) (hi : Inv k n s)
    (h : run k n s es = some s') : Inv k n s' :=
  run_invariant (fun s s' e _ hi h => inv_step k n s s' e hi h) hi h

theorem run_append (k : Nat) (n : Option Nat) (p0 p1 p2 : State) (es1 es2 : List Event)
    (h1 : run k n p0 es1 = some p1) (h2 : run k n p1 es2 = some p2) : run k n p0 (es1 ++ es2) = some p2 := by
  induction es1 generalizing p0 with
  | nil =>
    simp only [run, Option.some.injEq] at h1
    subst h1
    exact h2
  | cons a t ih =>
    simp only [run, List.cons_append] at h1 ⊢
    cases ha : step k n p0 a with
    | none => rw [ha] at h1; cases h1
    | some q =>
      rw [ha] at h1
      exact ih q h1

theorem step_frame (k : Nat) (n : Option Nat) (s s' : State) (e : Event) (h : step k n s e = some s') :
    ((∀ i, e ≠ .begin i) → s'.begun = s.begun) ∧ ((∀ i r, e ≠ .finish i r) → s'.ended = s.ended) ∧
    (e ≠ .timeout → s'.timedOut = s.timedOut) ∧ (s.stop = true → s'.stop = true) := by
  cases e <;> simp only [step] at h <;> split at h <;> cases h <;> simp

theorem stop_mono_run (k : Nat) (n : Option Nat) (s s' : State) (es : List Event)
    (h : run k n s es = some s') (hs : s.stop = true) : s'.stop = true :=
  run_invariant (fun s s' e _ hs h => (step_frame k n s s' e h).2.2.2 hs) hs h

end OptunaVerif.Pool
