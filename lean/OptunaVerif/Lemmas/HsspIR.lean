import OptunaVerif.Generated.HsspMethods
/-! The reference `solveHsspRef` of `_solve_hssp` and list lemmas (mask writes `setAll`, mask reads `selMask`, the lazy
loop) for the `hssp.py` part of `Props/C15Gen.lean` (core Lean only). -/
namespace OptunaVerif.HsspIR
open OptunaVerif.Hypervolume OptunaVerif.HvIR

/-- `_solve_hssp(vals, ids, k, ref)`: all of `ids` when `k = n`; with fewer unique rows than `k`, the first occurrence of every unique row plus
the first `k - n_unique` other positions, in position order; else what the solver for unique rows selects — always read through `ids` -/
def solveHsspRef (solver : List Pt → List Nat → Nat → List Nat) (vals : List Pt) (ids : List Nat) (k : Nat) : List Nat :=
  let n := ids.length
  if k = n then ids
  else
    let U := uniqueLex vals
    let firsts := U.map (fun p => vals.idxOf p)
    if U.length < k then
      let dups := (List.range n).filter (fun i => !firsts.contains i)
      let extra := dups.take (k - U.length)
      ((List.range n).filter (fun i => firsts.contains i || extra.contains i)).map (fun j => ids.getD j 0)
    else (solver U firsts k).map (fun j => ids.getD j 0)

theorem sget_cons (k : String) (v : SV) (env : List (String × SV)) (n : String) :
    sget ((k, v) :: env) n = if k == n then v else sget env n := by
  unfold sget
  simp only [List.find?_cons]
  cases h : (k == n) <;> simp

theorem eval_var (solver : List Pt → List Nat → Nat → List Nat) (env : List (String × SV)) (n : String) :
    SE.eval solver env (.var n) = sget env n := by simp only [SE.eval]

theorem heval_var (env : List (String × HVal)) (n : String) : HE.eval env (.var n) = hget env n := by simp only [HE.eval]

theorem setAll_length (M : List Bool) (js : List Nat) : (setAll M js).length = M.length := by
  induction js generalizing M with
  | nil => rfl
  | cons j js ih => simp [setAll, ih]

theorem setAll_get (M : List Bool) (js : List Nat) (i : Nat) :
    (setAll M js)[i]? = (M[i]?).map (fun b => b || js.contains i) := by
  induction js generalizing M with
  | nil => cases h : M[i]? <;> simp [setAll, h]
  | cons j js ih =>
    rw [setAll, ih, List.getElem?_set]
    by_cases hji : j = i
    · subst hji
      by_cases hlt : j < M.length
      · simp [hlt]
      · simp [hlt]
    · have hne : ¬ i = j := fun e => hji e.symm
      cases M[i]? <;> simp [hji, hne]

theorem setAll_replicate (n : Nat) (a : List Nat) :
    setAll (List.replicate n false) a = (List.range n).map (fun i => a.contains i) := by
  apply List.ext_getElem?
  intro i
  rw [setAll_get]
  by_cases h : i < n <;> simp [h]

theorem setAll_map (n : Nat) (p : Nat → Bool) (b : List Nat) :
    setAll ((List.range n).map p) b = (List.range n).map (fun i => p i || b.contains i) := by
  apply List.ext_getElem?
  intro i
  rw [setAll_get]
  by_cases h : i < n <;> simp [h]

theorem selMask_map_filter {α : Type} (l : List α) (p : α → Bool) : selMask l (l.map p) = l.filter p := by
  induction l with
  | nil => rfl
  | cons a t ih => cases h : p a <;> simp [selMask, h, ih]

theorem selMask_range_from (ids : List Nat) (p : Nat → Bool) (m : Nat) : ∀ o, o + m = ids.length →
    selMask (ids.drop o) ((List.range' o m).map p) = ((List.range' o m).filter p).map (fun j => ids.getD j 0) := by
  induction m with
  | zero => intro o _; simp [selMask]
  | succ m ih =>
    intro o h
    have hlt : o < ids.length := by omega
    rw [List.drop_eq_getElem_cons hlt, List.range'_succ, List.map_cons]
    have := ih (o + 1) (by omega)
    cases hp : p o
    · simp [selMask, hp, this]
    · simp [selMask, hp, this, List.getD_eq_getElem?_getD, List.getElem?_eq_getElem hlt]

theorem selMask_range (ids : List Nat) (p : Nat → Bool) :
    selMask ids ((List.range ids.length).map p) = ((List.range ids.length).filter p).map (fun j => ids.getD j 0) := by
  have := selMask_range_from ids p ids.length 0 (by simp)
  simpa [List.range_eq_range'] using this


/-! ## the greedy loop on parallel arrays vs the hand model's candidate records -/

open OptunaVerif.Hssp

abbrev Trip := Pt × Nat × Int

def toCand (lab : Nat → Nat) (t : Trip) : Cand := { pt := t.1, label := lab t.2.1, contrib := t.2.2 }

def repl : List Trip → List Int → List Trip
  | t :: ts, c :: cs => (t.1, t.2.1, c) :: repl ts cs
  | _, _ => []

theorem lazyGo_length (g : Nat → Int) (order : List Nat) (m : Int) (cs : List Int) : (lazyGo g order m cs).length = cs.length := by
  induction order generalizing m cs with
  | nil => rfl
  | cons i rest ih =>
    simp only [lazyGo]
    split
    · exact ih _ _
    · rw [ih]; simp

theorem lazyUpdate_length (r : Pt) (cs : List Int) (vs sel : List Pt) : (lazyUpdate r cs vs sel).length = cs.length := by
  unfold lazyUpdate; exact lazyGo_length _ _ _ _

theorem setContribs_map (lab : Nat → Nat) (T : List Trip) (cs : List Int) (h : cs.length = T.length) :
    setContribs (T.map (toCand lab)) cs = (repl T cs).map (toCand lab) := by
  induction T generalizing cs with
  | nil => cases cs <;> simp_all [setContribs, repl]
  | cons t T ih =>
    cases cs with
    | nil => simp at h
    | cons c cs =>
      simp only [List.length_cons, Nat.add_right_cancel_iff] at h
      simp [setContribs, repl, toCand, ih cs h]

theorem repl_proj (T : List Trip) (cs : List Int) (h : cs.length = T.length) :
    (repl T cs).map (fun t => t.2.2) = cs ∧ (repl T cs).map (fun t => t.2.1) = T.map (fun t => t.2.1) ∧
    (repl T cs).map (fun t => t.1) = T.map (fun t => t.1) := by
  induction T generalizing cs with
  | nil => cases cs <;> simp_all [repl]
  | cons t T ih =>
    cases cs with
    | nil => simp at h
    | cons c cs =>
      simp only [List.length_cons, Nat.add_right_cancel_iff] at h
      obtain ⟨h1, h2, h3⟩ := ih cs h
      simp [repl, h1, h2, h3]

end OptunaVerif.HsspIR
