import OptunaVerif.Lemmas.RdbAbs
/-! What the refinement claims of one call: which answers the contract allows (`Allowed`), which calls are well-formed
(`WfOp`), and the claim itself (`StepOk`).  Then part 1 of its proof: the reading calls of the relational model answer what
the contract model answers (for a reading call `StepOk` is `Allowed`: `stepOk_of_getter`).  Core Lean only. -/
namespace OptunaVerif.Rdb
open OptunaVerif.Storage

/-- Is the answer of the relational model one the contract allows?  `oneOf` = any of the listed
trials (U4); the `paramDist` book-keeping of the contract model is not part of an answer. -/
def Allowed (res : Res) (o : Out) : Prop :=
  match o with
  | .oneOf l => ∃ p ∈ l, res = .out (.trial p.1 p.2)
  | .studies l => res = .out (.studies (l.map (fun p => (p.1, erasePD p.2))))
  | o => res = .out o

def distinctKeys {κ ν : Type} (l : List (κ × ν)) : Prop := l.Pairwise (fun a b => a.1 ≠ b.1)

theorem distinct_set {α : Type} (l : AList α) (k : String) (v : α) (h : distinctKeys l) : distinctKeys (l.set k v) :=
  List.pairwise_map.1 (AList.nodup_keys_set (List.pairwise_map.2 h) k v)

theorem distinct_filter {α : Type} (l : AList α) (p : String × α → Bool) (h : distinctKeys l) : distinctKeys (l.filter p) :=
  List.Pairwise.sublist List.filter_sublist h

def WfValues (st : TState) : Option (List XVal) → Prop
  | none => True
  | some l => l ≠ [] ∧ st.isFinished = true ∧ ∀ v ∈ l, v ≠ XVal.nan

theorem WfValues.none_of_unfinished {st : TState} {vs : Option (List XVal)} (h : WfValues st vs)
    (hf : st.isFinished = false) : vs = none := by
  cases vs with
  | none => rfl
  | some l => exact absurd h.2.1 (by rw [hf]; simp)

theorem WfValues.nonan {st : TState} {vs : Option (List XVal)} (h : WfValues st vs) (l : List XVal)
    (hl : vs = some l) : ∀ v ∈ l, v ≠ XVal.nan := by
  subst hl; exact h.2.2

/-- What the Python signature of the call already guarantees (dict arguments have distinct keys), plus
the value conventions of `Study.tell` (`_check_values_are_feasible`, `FrozenTrial._validate`): see
`WfValues`; directions are a non-empty list of MINIMIZE / MAXIMIZE. -/
def WfOp : Op → Prop
  | .createStudy _ dirs => dirs ≠ [] ∧ ∀ d ∈ dirs, d = 1 ∨ d = 2
  | .createTrial _ (some t) _ =>
    distinctKeys t.params ∧ distinctKeys t.userAttrs ∧ distinctKeys t.systemAttrs ∧ distinctKeys t.inter ∧
    WfValues t.state t.values
  | .setTrialStateValues _ st vs => WfValues st vs
  | _ => True

/-- the contract call with its `implRaised` hint set (U1) -/
def withRaised : Op → Bool → Op
  | .createTrial sid t _, b => .createTrial sid t b
  | .setTrialParam tid n p _, b => .setTrialParam tid n p b
  | op, _ => op

def raisedValueError (res : Res) : Bool := res == .out (.err .valueError)

theorem withRaised_reads (op : Op) (h : op.reads = true) (b : Bool) : withRaised op b = op := by
  cases op <;> first | rfl | simp [Op.reads] at h

def StepOk (r : State) (a : Spec) (op : Op) : Prop :=
  let res := step r op
  let sp := Storage.step a (withRaised op (raisedValueError res.2))
  Abs res.1 sp.1 ∧ Allowed res.2 sp.2

theorem stepOk_of_getter (r : State) (a : Spec) (h : Abs r a) (op : Op) (hr : op.reads = true)
    (hal : Allowed (step r op).2 (Storage.step a op).2) : StepOk r a op := by
  unfold StepOk
  simp only [withRaised_reads op hr, step_reads r op hr, Storage.step_reads a op hr]
  exact ⟨h, hal⟩

theorem frozen_fields (r : State) (row : StudyRow) (st : StudyS) (h : (frozenStudy r row).2 = erasePD st) :
    row.name = st.name ∧ (Tbl.ofOwner r.dirs row.id).map (·.val) = st.directions ∧
    Tbl.toDict id (Tbl.ofOwner r.sUser row.id) = st.userAttrs ∧
    Tbl.toDict id (Tbl.ofOwner r.sSys row.id) = st.systemAttrs := by
  have h1 := congrArg StudyS.name h
  have h2 := congrArg StudyS.directions h
  have h3 := congrArg StudyS.userAttrs h
  have h4 := congrArg StudyS.systemAttrs h
  exact ⟨h1, h2, h3, h4⟩

theorem sim_studyFields (r : State) (a : Spec) (h : Abs r a) (sid : Nat) :
    Allowed (step r (.getStudyNameFromId sid)).2 (Storage.step a (.getStudyNameFromId sid)).2 ∧
    Allowed (step r (.getStudyDirections sid)).2 (Storage.step a (.getStudyDirections sid)).2 ∧
    Allowed (step r (.getStudyUserAttrs sid)).2 (Storage.step a (.getStudyUserAttrs sid)).2 ∧
    Allowed (step r (.getStudySystemAttrs sid)).2 (Storage.step a (.getStudySystemAttrs sid)).2 := by
  rcases findStudy_abs r a h sid with ⟨row, st, h1, h2, h3, h4⟩ | ⟨h1, h2, _⟩
  · obtain ⟨f1, f2, f3, f4⟩ := frozen_fields r row st h4
    rw [(studyRow?_some r sid row h2).2] at f2 f3 f4
    refine ⟨?_, ?_, ?_, ?_⟩ <;>
      simp [step, Storage.step, ro, commit, getDirections, studyAttrs, h1, h3, Except.map, Allowed, f1, f2, f3, f4]
  · refine ⟨?_, ?_, ?_, ?_⟩ <;>
      simp [step, Storage.step, ro, commit, getDirections, studyAttrs, h1, h2, Except.map, Allowed]

theorem sim_getAllStudies (r : State) (a : Spec) (h : Abs r a) :
    Allowed (step r .getAllStudies).2 (Storage.step a .getAllStudies).2 := by
  have := abs_liveStudies r a h
  unfold liveStudies at this
  simp [step, Storage.step, commit, Allowed, this]

theorem nameTaken_abs (r : State) (a : Spec) (h : Abs r a) (name : String) :
    a.nameTaken name = r.studies.any (fun x => x.name == name) := by
  rw [Bool.eq_iff_iff, nameTaken_iff]
  simp only [List.any_eq_true, beq_iff_eq]
  constructor
  · rintro ⟨i, st, hs, hn⟩
    obtain ⟨row, h1, h2⟩ := abs_study_some r a h i st hs
    exact ⟨row, (studyRow?_some r i row h1).1, (frozen_fields r row st h2).1.trans hn⟩
  · rintro ⟨row, hm, hn⟩
    obtain ⟨st, h1, h2⟩ := abs_study_row r a h row.id row (studyRow?_of_mem r h.inv.1 row hm)
    exact ⟨row.id, st, h1, by rw [← (frozen_fields r row st h2).1, hn]⟩

theorem sim_getStudyIdFromName (r : State) (a : Spec) (h : Abs r a) (name : String) :
    Allowed (step r (.getStudyIdFromName name)).2 (Storage.step a (.getStudyIdFromName name)).2 := by
  have huniq : r.studies.Pairwise (fun x y => ¬((x.name == name) = true ∧ (y.name == name) = true)) := by
    refine h.inv.1.namesUniq.imp ?_
    intro x y hxy ⟨hx, hy⟩
    simp only [beq_iff_eq] at hx hy
    exact hxy (hx.trans hy.symm)
  simp only [step, Storage.step, ro, commit, studyIdFromName, oneOrNone_filter _ _ huniq]
  cases hfi : findIdx (fun o => match o with | some st => st.name == name | none => false) a.studies 0 with
  | some i =>
    obtain ⟨j, x, e, hg, hp⟩ := findIdx_some _ _ _ _ hfi
    have : i = j := by omega
    subst this
    cases x with
    | none => simp at hp
    | some st =>
      simp only [beq_iff_eq] at hp
      have hs : a.study? i = some st := by simp [Spec.study?, hg]
      obtain ⟨row, h1, h2⟩ := abs_study_some r a h i st hs
      obtain ⟨hm, hid⟩ := studyRow?_some r i row h1
      have hn : row.name = name := (frozen_fields r row st h2).1.trans hp
      simp [find?_of_unique _ r.studies huniq row hm (by simpa using hn), Except.map, Allowed, hid]
  | none =>
    have hnt : a.nameTaken name = false :=
      (nameTaken_false_iff a name).2 fun i st hi hn => by
        simpa [hn] using findIdx_none _ _ _ hfi (some st) (List.mem_of_getElem? hi)
    rw [nameTaken_abs r a h name, List.any_eq_false] at hnt
    have hf : r.studies.find? (fun x => x.name == name) = none := by
      rw [List.find?_eq_none]
      intro x hx
      simpa using hnt x hx
    simp [hf, Except.map, Allowed]

theorem sim_getTrial (r : State) (a : Spec) (h : Abs r a) (tid : Nat) :
    Allowed (step r (.getTrial tid)).2 (Storage.step a (.getTrial tid)).2 ∧
    Allowed (step r (.getTrialNumberFromId tid)).2 (Storage.step a (.getTrialNumberFromId tid)).2 := by
  simp only [step, Storage.step, ro, commit, getTrial_eq r h.inv.1]
  cases hr : r.trialRow? tid with
  | none => simp [abs_trial_none r a h tid hr, Except.map, Allowed]
  | some row => simp [abs_trial_row r a h tid row hr, Except.map, Allowed]

theorem get?_kv {ν : Type} (t : List (KRow String ν)) (o : Nat) (k : String) :
    AList.get? (Tbl.kv id t o) k = (t.find? (fun x => x.owner == o && decide (x.key = k))).map (·.val) := by
  induction t with
  | nil => rfl
  | cons x rest ih =>
    unfold Tbl.kv Tbl.ofOwner at ih ⊢
    by_cases ho : x.owner = o
    · by_cases hk : x.key = k
      · simp [ho, hk, AList.get?]
      · simp [ho, hk, AList.get?]; exact ih
    · simp [ho]; exact ih

theorem sim_getTrialParam (r : State) (a : Spec) (h : Abs r a) (tid : Nat) (name : String) :
    Allowed (step r (.getTrialParam tid name)).2 (Storage.step a (.getTrialParam tid name)).2 := by
  simp only [step, Storage.step, ro, commit, findTrial_eq r h.inv.1,
    Tbl.oneOrNone_atKey r.params r.nParam h.inv.1.params]
  cases hr : r.trials.find? (fun x => x.id == tid) with
  | none =>
    have : r.trialRow? tid = none := hr
    simp [abs_trial_none r a h tid this, Allowed]
  | some row =>
    have hrow : r.trialRow? tid = some row := hr
    have hid := (trialRow?_some r tid row hrow).2
    simp only [abs_trial_row r a h tid row hrow, State.rowView, get?_kv, hid]
    cases r.params.find? (fun x => x.owner == tid && decide (x.key = name)) with
    | none => simp [Allowed]
    | some x => simp [Allowed]

/-- `states` filter of `get_all_trials` -/
def stateRows (states : Option (List TState)) (q : List TrialRow) : List TrialRow :=
  match states with
  | none => q
  | some l => q.filter (fun r => l.contains r.state)

theorem getTrials_all (r : State) (h : Inv0 r) (sid : Nat) (states : Option (List TState)) :
    getTrials r sid states [] (-1) =
      match findStudy r sid with
      | .error f => .error f
      | .ok _ => .ok ((stateRows states (r.trials.filter (fun x => x.study == sid))).map (fun x => (x.id, r.rowView x))) := by
  unfold getTrials
  cases findStudy r sid with
  | error f => rfl
  | ok row =>
    simp only [List.filter_nil, List.length_nil, Nat.lt_irrefl, decide_false, Bool.false_and, Bool.false_eq_true,
      if_false]
    have : ¬ ((-1 : Int) > -1) := by omega
    simp only [this, if_false, buildTrials_eq r h]
    cases states <;> rfl

theorem stateRows_view (r : State) (states : Option (List TState)) (q : List TrialRow) :
    (q.map (fun x => (x.id, r.rowView x))).filter (fun p => stateIn states p.2.state) =
      (stateRows states q).map (fun x => (x.id, r.rowView x)) := by
  rw [List.filter_map]
  congr 1
  cases states with
  | none => simp [stateRows, stateIn]
  | some l =>
    simp only [stateRows]
    apply List.filter_congr
    intro x _
    simp [stateIn, State.rowView]

theorem sim_getAllTrials (r : State) (a : Spec) (h : Abs r a) (sid : Nat) (states : Option (List TState)) :
    Allowed (step r (.getAllTrials sid states)).2 (Storage.step a (.getAllTrials sid states)).2 ∧
    Allowed (step r (.getNTrials sid states)).2 (Storage.step a (.getNTrials sid states)).2 := by
  simp only [step, Storage.step, ro, commit, getTrials_all r h.inv.1]
  rcases findStudy_abs r a h sid with ⟨row, st, h1, h2, h3, h4⟩ | ⟨h1, h2, _⟩
  · simp only [h1, h3, Except.map, Allowed]
    rw [abs_trialsOf r a h sid (by simp [h3]), stateRows_view]
    exact ⟨rfl, rfl⟩
  · simp [h1, h2, Except.map, Allowed]

end OptunaVerif.Rdb
