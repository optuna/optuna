import OptunaVerif.Model.Grid
import OptunaVerif.Lemmas.Basic
import OptunaVerif.Lemmas.OptimizeLoop
/-!
Lemmas about the grid sampler model (`Model/Grid.lean`, for Props/C14 and C14GridResume): the free cells
`free n V` (grid ids below `n` that no finished trial holds: `toVisit` of `Lemmas/OptimizeLoop.lean` over
`range n`) and their number `remainingG`; what `_get_unvisited_grid_ids`, `before_trial` and `after_trial` do in
terms of them; the invariant `GInv` of a sequential run, and `GInvCount` with the counters (queued WAITING trials,
finished trials) that give the number of trials a session takes; the two things one `_run_trial` can do to the
study (`GStep`: pop a queued trial, append a trial with a free cell), from which the invariants are read
(`GStep.ginv`, `GStep.effect`).  The loop is an instance of `runLoop` / `runSession` of
`Lemmas/OptimizeLoop.lean` (`session_eq`), so invariant and count come from its rules.  Last, the NaN-aware comparisons are
reflexive, so a study written with the sampler's own search space is read back as it was (`unvisitedR_store`).
-/
namespace OptunaVerif.Grid

/-- number of grid ids no finished trial holds -/
def remainingG (n : Nat) (V : List Nat) : Nat := ((List.range n).filter (fun g => !V.contains g)).length

abbrev free (n : Nat) (V : List Nat) : List Nat := toVisit (List.range n) V

theorem remainingG_eq (n : Nat) (V : List Nat) : remainingG n V = (free n V).length := rfl

theorem mem_free (n : Nat) (V : List Nat) (g : Nat) : g ∈ free n V ↔ g < n ∧ g ∉ V := by
  rw [mem_toVisit, List.mem_range]

theorem remainingG_nil (n : Nat) : remainingG n [] = n := by
  rw [remainingG_eq, free, toVisit_nil, List.length_range]

theorem remainingG_snoc (n : Nat) (V : List Nat) (g : Nat) (hg : g < n) (hgV : g ∉ V) :
    remainingG n (V ++ [g]) + 1 = remainingG n V :=
  length_toVisit_snoc List.nodup_range (List.mem_range.mpr hg) hgV

theorem remainingG_zero_iff (n : Nat) (V : List Nat) : remainingG n V = 0 ↔ ∀ g, g < n → g ∈ V := by
  rw [remainingG_eq, free, length_toVisit_eq_zero_iff]
  simp only [List.mem_range]

theorem unvisitedOf_eq (n : Nat) (V Rn : List Nat) :
    unvisitedOf n V Rn =
      if ((free n V).filter (fun g => !Rn.contains g)).isEmpty then free n V
      else (free n V).filter (fun g => !Rn.contains g) := by
  simp only [unvisitedOf, free, toVisit, List.filter_filter]
  have : (fun g => (!Rn.contains g) && !V.contains g) = (fun g => !V.contains g && !Rn.contains g) := by
    funext g; exact Bool.and_comm _ _
  rw [this]

theorem mem_unvisitedOf (n : Nat) (V Rn : List Nat) (g : Nat) (h : g ∈ unvisitedOf n V Rn) :
    g < n ∧ g ∉ V := by
  rw [unvisitedOf_eq] at h
  split at h
  · exact (mem_free n V g).mp h
  · exact (mem_free n V g).mp (List.mem_filter.mp h).1

theorem unvisitedOf_ne_nil (n : Nat) (V Rn : List Nat) (h : 0 < remainingG n V) :
    unvisitedOf n V Rn ≠ [] := by
  rw [unvisitedOf_eq]
  split
  · intro h0
    rw [remainingG_eq, h0] at h
    simp at h
  · rename_i hne
    intro h0
    rw [h0] at hne
    simp at hne

/-- `after_trial` of a grid trial whose (free) cell `g` is still marked RUNNING: the target list is
`[g]` exactly when `g` was the last free cell. -/
theorem unvisitedOf_last (n : Nat) (V Rn : List Nat) (g : Nat) (hg : g < n) (hgV : g ∉ V) (hgR : g ∈ Rn) :
    (unvisitedOf n V Rn = [g]) ↔ remainingG n (V ++ [g]) = 0 := by
  have hmem : g ∈ free n V := (mem_free n V g).mpr ⟨hg, hgV⟩
  have hstep := remainingG_snoc n V g hg hgV
  rw [remainingG_eq n V] at hstep
  constructor
  · intro h
    rw [unvisitedOf_eq] at h
    split at h
    · rw [h] at hstep; simp at hstep; omega
    · -- the target excludes running ids, so it cannot be `[g]`
      have : g ∈ (free n V).filter (fun g => !Rn.contains g) := by rw [h]; simp
      have := (List.mem_filter.mp this).2
      simp [hgR] at this
  · intro h
    have hlen : (free n V).length = 1 := by omega
    have hF : free n V = [g] := by
      obtain ⟨a, ha⟩ := List.length_eq_one_iff.mp hlen
      rw [ha] at hmem ⊢
      rw [List.mem_singleton.mp hmem]
    rw [unvisitedOf_eq, hF]
    simp [hgR]

theorem visitedIds_append (a b : List GTrial) : visitedIds (a ++ b) = visitedIds a ++ visitedIds b := by
  simp [visitedIds, List.filter_append]

theorem runningIds_append (a b : List GTrial) : runningIds (a ++ b) = runningIds a ++ runningIds b := by
  simp [runningIds, List.filter_append]

theorem visitedIds_snoc_finished (ts : List GTrial) (g : Nat) :
    visitedIds (ts ++ [⟨some g, .finished⟩]) = visitedIds ts ++ [g] :=
  visitedIds_append ts _

theorem visitedIds_snoc_running (ts : List GTrial) (g : Nat) :
    visitedIds (ts ++ [⟨some g, .running⟩]) = visitedIds ts :=
  (visitedIds_append ts _).trans (List.append_nil _)

theorem runningIds_snoc_running (ts : List GTrial) (g : Nat) :
    runningIds (ts ++ [⟨some g, .running⟩]) = runningIds ts ++ [g] :=
  runningIds_append ts _

theorem visitedIds_cons (a : GTrial) (ts : List GTrial) :
    visitedIds (a :: ts) =
      (if a.state = .finished then a.gridId.toList else []) ++ visitedIds ts := by
  rw [← List.singleton_append, visitedIds_append]
  obtain ⟨g, s⟩ := a
  cases g <;> cases s <;> rfl

theorem visitedIds_of_noIds (pre : List GTrial) (h : ∀ t ∈ pre, t.gridId = none) : visitedIds pre = [] := by
  simp only [visitedIds, List.filterMap_eq_nil_iff, List.mem_filter]
  intro t ht
  exact h t ht.1

theorem visitedIds_setState (ts : List GTrial) : ∀ (i : Nat) (t : GTrial) (s : TS),
    ts[i]? = some t → t.gridId = none → visitedIds (setState ts i s) = visitedIds ts := by
  induction ts with
  | nil => intro i t s _ _; rfl
  | cons a ts ih =>
    intro i t s hti hnoid
    cases i with
    | zero =>
      simp only [List.getElem?_cons_zero, Option.some.injEq] at hti
      subst hti
      simp only [setState, updAt]
      rw [visitedIds_cons, visitedIds_cons]
      simp [hnoid]
    | succ i =>
      have := ih i t s (by simpa using hti) hnoid
      simp only [setState, updAt] at this ⊢
      rw [visitedIds_cons, visitedIds_cons, this]

theorem firstWaiting_eq (ts : List GTrial) : firstWaiting ts = ts.findIdx? (fun t => t.state = .waiting) := by
  induction ts with
  | nil => rfl
  | cons a ts ih => simp [firstWaiting, List.findIdx?_cons, ih]

theorem firstWaiting_spec (ts : List GTrial) (i : Nat) (h : firstWaiting ts = some i) :
    ∃ t, ts[i]? = some t ∧ t.state = .waiting := by
  obtain ⟨hi, hw, _⟩ := List.findIdx?_eq_some_iff_getElem.mp (firstWaiting_eq ts ▸ h)
  exact ⟨ts[i], List.getElem?_eq_getElem hi, of_decide_eq_true hw⟩

theorem setState_getElem? (ts : List GTrial) (i j : Nat) (s : TS) :
    (setState ts i s)[j]? = if j = i then (ts[j]?).map (fun t => { t with state := s }) else ts[j]? := by
  simp only [setState]
  exact updAt_getElem? ts i j _

theorem mem_setState (ts : List GTrial) (i : Nat) (s : TS) (t : GTrial) (h : t ∈ setState ts i s) :
    ∃ t0 ∈ ts, t0.gridId = t.gridId ∧ (t.state = t0.state ∨ t.state = s) := by
  rcases mem_updAt h with h | ⟨y, hy, rfl⟩
  · exact ⟨t, h, rfl, Or.inl rfl⟩
  · exact ⟨y, List.mem_of_getElem? hy, rfl, Or.inr rfl⟩

/-- Invariant of a sequential grid run.  `idx`: a grid id held by the trial with number `i` is below `n`, and is
either `i` itself (number-based assignment) or the trial has number `≥ n`. -/
structure GInv (n : Nat) (st : St) : Prop where
  idx : ∀ (i : Nat) (t : GTrial) (g : Nat), st.trials[i]? = some t → t.gridId = some g → g < n ∧ (g = i ∨ n ≤ i)
  nodup : (visitedIds st.trials).Nodup
  waitingNoId : ∀ t ∈ st.trials, t.state = .waiting → t.gridId = none
  stop : st.stop = true ↔ remainingG n (visitedIds st.trials) = 0

theorem mem_visitedIds (ts : List GTrial) (g : Nat) (h : g ∈ visitedIds ts) :
    ∃ (i : Nat) (t : GTrial), ts[i]? = some t ∧ t.gridId = some g := by
  simp only [visitedIds, List.mem_filterMap, List.mem_filter] at h
  obtain ⟨t, ⟨ht, _⟩, hg⟩ := h
  obtain ⟨i, hi⟩ := List.mem_iff_getElem?.mp ht
  exact ⟨i, t, hi, hg⟩

theorem GInv.exhaustive {n : Nat} {st : St} (h : GInv n st) :
    (visitedIds st.trials).Nodup ∧ (∀ g ∈ visitedIds st.trials, g < n) ∧
    (st.stop = true ↔ ∀ g, g < n → g ∈ visitedIds st.trials) := by
  refine ⟨h.nodup, fun g hg => ?_, by rw [h.stop, remainingG_zero_iff]⟩
  obtain ⟨i, t, hi, hgid⟩ := mem_visitedIds _ _ hg
  exact (h.idx i t g hi hgid).1

theorem ginv_rem_pos {n : Nat} {st : St} (hinv : GInv n st) (hns : st.stop = false) :
    0 < remainingG n (visitedIds st.trials) := by
  rcases Nat.eq_zero_or_pos (remainingG n (visitedIds st.trials)) with h | h
  · have := hinv.stop.mpr h; rw [hns] at this; cases this
  · exact h

theorem ginv_popped {n : Nat} {st : St} (hinv : GInv n st) {i : Nat} (hfw : firstWaiting st.trials = some i) :
    ∃ t, st.trials[i]? = some t ∧ t.state = .waiting ∧ t.gridId = none := by
  obtain ⟨t, hti, htw⟩ := firstWaiting_spec _ _ hfw
  exact ⟨t, hti, htw, hinv.waitingNoId t (List.mem_of_getElem? hti) htw⟩

theorem ginv_setState {n : Nat} {st st' : St} (hinv : GInv n st) {i : Nat} {t : GTrial}
    (hti : st.trials[i]? = some t) (hnoid : t.gridId = none) {s : TS} (hs : s ≠ .waiting)
    (htr : st'.trials = setState st.trials i s) (hst : st'.stop = st.stop) : GInv n st' := by
  have hv := visitedIds_setState st.trials i t s hti hnoid
  constructor
  · intro j t' g hj hg
    rw [htr, setState_getElem?] at hj
    split at hj
    · simp only [Option.map_eq_some_iff] at hj
      obtain ⟨t0, ht0, rfl⟩ := hj
      exact hinv.idx j t0 g ht0 hg
    · exact hinv.idx j t' g hj hg
  · rw [htr, hv]; exact hinv.nodup
  · intro t' ht' hw
    rw [htr] at ht'
    obtain ⟨t0, ht0, hgid, hst⟩ := mem_setState _ _ _ _ ht'
    rcases hst with hst | hst
    · rw [← hgid]; exact hinv.waitingNoId t0 ht0 (by rw [← hst]; exact hw)
    · exact absurd (hst.symm.trans hw) hs
  · rw [hst, htr, hv]; exact hinv.stop

/-- appending a trial (not WAITING) whose grid id is a cell and fits the numbering keeps `idx` and
`waitingNoId`; the other two fields depend on the state of the new trial -/
theorem ginv_snoc {n : Nat} {st st' : St} (hinv : GInv n st) {g : Nat} {s : TS} (hlt : g < n)
    (hnum : g = st.trials.length ∨ n ≤ st.trials.length) (hs : s ≠ .waiting)
    (htr : st'.trials = st.trials ++ [⟨some g, s⟩]) (hnd : (visitedIds st'.trials).Nodup)
    (hstop : st'.stop = true ↔ remainingG n (visitedIds st'.trials) = 0) : GInv n st' := by
  refine ⟨?_, hnd, ?_, hstop⟩
  · intro i t g' hi hg
    rw [htr, getElem?_snoc] at hi
    split at hi
    · cases hi
      cases hg
      subst i
      exact ⟨hlt, hnum⟩
    · exact hinv.idx i t g' hi hg
  · intro t ht hw
    rw [htr] at ht
    rcases List.mem_append.mp ht with ht | ht
    · exact hinv.waitingNoId t ht hw
    · rw [List.mem_singleton.mp ht] at hw; exact absurd hw hs

theorem beforeTrial_free (n : Nat) (st : St) (hinv : GInv n st) (hns : st.stop = false) (proposal : Nat) :
    (beforeTrial n st.trials st.trials.length proposal).1 < n ∧
    (beforeTrial n st.trials st.trials.length proposal).1 ∉ visitedIds st.trials ∧
    ((beforeTrial n st.trials st.trials.length proposal).1 = st.trials.length ∨ n ≤ st.trials.length) := by
  have hrem := ginv_rem_pos hinv hns
  unfold beforeTrial
  by_cases hj : st.trials.length < n
  · rw [if_pos hj]
    refine ⟨hj, ?_, Or.inl rfl⟩
    intro hmem
    obtain ⟨i, t, hi, hg⟩ := mem_visitedIds _ _ hmem
    have := (hinv.idx i t _ hi hg).2
    have hlt := getElem?_lt_length hi
    -- a trial `i` that carries the id `length` would be trial `length` itself or have a number `≥ n` (`idx`); yet `i < length < n`
    omega
  · rw [if_neg hj]
    have hne := unvisitedOf_ne_nil n (visitedIds st.trials) (runningIds st.trials) hrem
    have hlen : ¬ ((unvisited n st.trials).length = 0) := by
      intro h
      exact hne (List.length_eq_zero_iff.mp h)
    simp only [hlen, if_false]
    show pick (unvisited n st.trials) proposal < n ∧ pick (unvisited n st.trials) proposal ∉ visitedIds st.trials ∧
      (pick (unvisited n st.trials) proposal = st.trials.length ∨ n ≤ st.trials.length)
    have hpick : pick (unvisited n st.trials) proposal ∈ unvisited n st.trials := by
      unfold pick
      split
      · rename_i h; simpa using h
      · cases hu : unvisited n st.trials with
        | nil => exact absurd hu hne
        | cons a l => simp
    have := mem_unvisitedOf n _ _ _ hpick
    exact ⟨this.1, this.2, Or.inr (by omega)⟩

theorem afterTrial_fresh (n : Nat) (ts : List GTrial) (g : Nat) (hg : g < n) (hgV : g ∉ visitedIds ts) :
    afterTrial n (ts ++ [⟨some g, .running⟩]) (some g) =
      decide (remainingG n (visitedIds ts ++ [g]) = 0) := by
  have hlast := unvisitedOf_last n (visitedIds ts) (runningIds ts ++ [g]) g hg hgV (by simp)
  have hrem : 0 < remainingG n (visitedIds ts) := by
    have := remainingG_snoc n (visitedIds ts) g hg hgV
    omega
  have hne := unvisitedOf_ne_nil n (visitedIds ts) (runningIds ts ++ [g]) hrem
  simp only [afterTrial, unvisited, visitedIds_snoc_running, runningIds_snoc_running]
  generalize hU : unvisitedOf n (visitedIds ts) (runningIds ts ++ [g]) = U at hlast hne
  -- on a non-empty target list the stop rule reads: the list is `[g]`
  rcases U with _ | ⟨a, _ | ⟨b, l⟩⟩
  · exact absurd rfl hne
  · simp only [← hlast, List.cons.injEq, and_true, eq_comm (a := a)]
    by_cases hga : g = a <;> simp [hga]
  · simp [← hlast]

/-- `after_trial` of a trial without grid id (an enqueued one) while something is still free:
never `study.stop()` -/
theorem afterTrial_noId (n : Nat) (ts : List GTrial) (hrem : 0 < remainingG n (visitedIds ts)) :
    afterTrial n ts none = false := by
  have hne : unvisited n ts ≠ [] := unvisitedOf_ne_nil n (visitedIds ts) (runningIds ts) hrem
  rcases hu : unvisited n ts with _ | ⟨a, _ | ⟨b, l⟩⟩
  · exact absurd hu hne
  all_goals simp [afterTrial, hu]

def freshId (cx : Ctx) (n : Nat) (st : St) : Nat :=
  (beforeTrial n st.trials st.trials.length (cx.ω st.calls)).1

def nWaiting (ts : List GTrial) : Nat := (ts.filter (fun t => t.state = .waiting)).length

/-- trials in a finished state, with or without grid id -/
def nDone (ts : List GTrial) : Nat := (ts.filter (fun t => t.state = .finished)).length

theorem nWaiting_zero_iff (ts : List GTrial) : nWaiting ts = 0 ↔ ∀ t ∈ ts, t.state ≠ .waiting := by
  simp [nWaiting, List.filter_eq_nil_iff]

theorem firstWaiting_none_iff (ts : List GTrial) : firstWaiting ts = none ↔ nWaiting ts = 0 := by
  simp [firstWaiting_eq, nWaiting_zero_iff]

theorem nWaiting_cons (a : GTrial) (ts : List GTrial) :
    nWaiting (a :: ts) = (if a.state = .waiting then 1 else 0) + nWaiting ts := by
  simp only [nWaiting, List.filter_cons]
  by_cases h : a.state = .waiting <;> simp [h] <;> omega

theorem nDone_cons (a : GTrial) (ts : List GTrial) :
    nDone (a :: ts) = (if a.state = .finished then 1 else 0) + nDone ts := by
  simp only [nDone, List.filter_cons]
  by_cases h : a.state = .finished <;> simp [h] <;> omega

theorem counts_setState (ts : List GTrial) : ∀ (i : Nat) (t : GTrial) (s : TS), ts[i]? = some t →
    t.state = .waiting → s ≠ .waiting →
    nWaiting (setState ts i s) + 1 = nWaiting ts ∧
    nDone (setState ts i s) = nDone ts + if s = .finished then 1 else 0 := by
  induction ts with
  | nil => intro i t s h; simp at h
  | cons a ts ih =>
    intro i t s h hw hs
    cases i with
    | zero =>
      simp only [List.getElem?_cons_zero, Option.some.injEq] at h
      subst h
      simp only [setState, updAt]
      rw [nWaiting_cons, nWaiting_cons, nDone_cons, nDone_cons]
      simp [hw, hs, Nat.add_comm]
    | succ i =>
      have := ih i t s (by simpa using h) hw hs
      simp only [setState, updAt] at this ⊢
      rw [nWaiting_cons, nWaiting_cons, nDone_cons, nDone_cons]
      omega

theorem counts_snoc (ts : List GTrial) (g : Option Nat) (s : TS) (hs : s ≠ .waiting) :
    nWaiting (ts ++ [⟨g, s⟩]) = nWaiting ts ∧
    nDone (ts ++ [⟨g, s⟩]) = nDone ts + if s = .finished then 1 else 0 := by
  cases s <;> simp [nWaiting, nDone, List.filter_append] at hs ⊢

/-- The run invariant with its counters: `L` = (number of trials + number of free cells), which a
run never changes; and once no cell is free nobody is WAITING (queued trials are popped first). -/
structure GInvCount (n L : Nat) (st : St) : Prop extends GInv n st where
  lenInv : st.trials.length + remainingG n (visitedIds st.trials) = L
  queueFirst : remainingG n (visitedIds st.trials) = 0 → nWaiting st.trials = 0

def todo (n : Nat) (st : St) : Nat := nWaiting st.trials + remainingG n (visitedIds st.trials)

/-- What one `_run_trial` does to a study that has not stopped, whether its worker survives (`s = .finished`) or is
killed while the objective runs (`s = .running`, Props/C14GridResume.lean): `Study.ask` pops the first queued trial,
or creates a trial to which `before_trial` gives a free cell; the trial is left in state `s`, and only a fresh trial
that finishes can set the flag. -/
inductive GStep (n : Nat) (st : St) (s : TS) (st' : St) : Prop
  | queued (i : Nat) (t : GTrial) (hti : st.trials[i]? = some t) (hw : t.state = .waiting) (hid : t.gridId = none)
      (htr : st'.trials = setState st.trials i s) (hst : st'.stop = st.stop)
  | fresh (g : Nat) (hlt : g < n) (hnv : g ∉ visitedIds st.trials)
      (hnum : g = st.trials.length ∨ n ≤ st.trials.length) (hq : nWaiting st.trials = 0)
      (htr : st'.trials = st.trials ++ [⟨some g, s⟩])
      (hst : st'.stop = if s = .finished then decide (remainingG n (visitedIds st.trials ++ [g]) = 0) else st.stop)

theorem runTrial_gstep (cx : Ctx) (n : Nat) (st : St) (hinv : GInv n st) (hns : st.stop = false) :
    GStep n st .finished (runTrial cx n st).1 := by
  cases hfw : firstWaiting st.trials with
  | some i =>
    obtain ⟨t, hti, htw, hnoid⟩ := ginv_popped hinv hfw
    have hafter := afterTrial_noId n (setState st.trials i .running)
      (by rw [visitedIds_setState _ _ _ _ hti hnoid]; exact ginv_rem_pos hinv hns)
    refine .queued i t hti htw hnoid ?_ ?_ <;>
      simp only [runTrial, hfw, hti, hnoid, Option.bind_some, hafter, Bool.or_false]
  | none =>
    obtain ⟨hlt, hnv, hnum⟩ := beforeTrial_free n st hinv hns (cx.ω st.calls)
    have hafter := afterTrial_fresh n st.trials (freshId cx n st) hlt hnv
    refine .fresh (freshId cx n st) hlt hnv hnum ((firstWaiting_none_iff _).mp hfw) ?_ ?_ <;>
      simp only [runTrial, hfw, hns, Bool.false_or, if_true]
    · rfl
    · exact hafter

theorem runTrial_raises (cx : Ctx) (n : Nat) (st : St) : ∃ i, (runTrial cx n st).2 = cx.raises i := by
  unfold runTrial
  split <;> exact ⟨_, rfl⟩

theorem GStep.ginv {n : Nat} {st st' : St} {s : TS} (hinv : GInv n st) (hs : s ≠ .waiting)
    (h : GStep n st s st') : GInv n st' := by
  cases h with
  | queued i t hti hw hid htr hst => exact ginv_setState hinv hti hid hs htr hst
  | fresh g hlt hnv hnum hq htr hst =>
    cases s with
    | waiting => exact absurd rfl hs
    | running =>
      refine ginv_snoc hinv hlt hnum hs htr ?_ ?_ <;> rw [htr, visitedIds_snoc_running]
      · exact hinv.nodup
      · rw [hst]; exact hinv.stop
    | finished =>
      refine ginv_snoc hinv hlt hnum hs htr ?_ ?_ <;> rw [htr, visitedIds_snoc_finished]
      · exact nodup_snoc hinv.nodup hnv
      · rw [hst]; simp

theorem GStep.effect {n : Nat} {st st' : St} {s : TS} (hs : s ≠ .waiting) (h : GStep n st s st') :
    nDone st'.trials = nDone st.trials + (if s = .finished then 1 else 0) ∧
    (nWaiting st'.trials + 1 = nWaiting st.trials ∧ st'.trials.length = st.trials.length ∧
        remainingG n (visitedIds st'.trials) = remainingG n (visitedIds st.trials) ∨
     nWaiting st.trials = 0 ∧ nWaiting st'.trials = 0 ∧ st'.trials.length = st.trials.length + 1 ∧
        remainingG n (visitedIds st'.trials) + (if s = .finished then 1 else 0) =
          remainingG n (visitedIds st.trials)) := by
  cases h with
  | queued i t hti hw hid htr hst =>
    obtain ⟨hc1, hc2⟩ := counts_setState st.trials i t s hti hw hs
    rw [htr]
    exact ⟨hc2, .inl ⟨hc1, by simp [setState], by rw [visitedIds_setState _ _ _ _ hti hid]⟩⟩
  | fresh g hlt hnv hnum hq htr hst =>
    obtain ⟨hc1, hc2⟩ := counts_snoc st.trials (some g) s hs
    rw [htr]
    refine ⟨hc2, .inr ⟨hq, hc1.trans hq, by simp, ?_⟩⟩
    cases s with
    | waiting => exact absurd rfl hs
    | running => rw [visitedIds_snoc_running]; rfl
    | finished => rw [visitedIds_snoc_finished]; exact remainingG_snoc n _ g hlt hnv

theorem runTrial_ginv (cx : Ctx) (n : Nat) (st : St) (hinv : GInv n st) (hns : st.stop = false) :
    GInv n (runTrial cx n st).1 :=
  (runTrial_gstep cx n st hinv hns).ginv hinv (by simp)

theorem reset_stop (st : St) (h : st.stop = false) : { st with stop := false } = st := by
  cases st
  simp only at h
  subst h
  rfl

theorem optimizeLoop_eq (cx : Ctx) (n k : Nat) : ∀ (st : St),
    optimizeLoop cx n k st = runLoop (·.stop) (runTrial cx n) k st :=
  eq_runLoop _ (fun _ => rfl) (fun _ _ => rfl) k

theorem session_eq (cx : Ctx) (n : Nat) (ks : List Nat) (st : St) :
    session cx n ks st = runSession (·.stop) (runTrial cx n) ks st := by
  simp only [session, optimize, optimizeLoop_eq]
  exact foldl_optimize_eq reset_stop ks st

theorem session_ginv (cx : Ctx) (n : Nat) (ks : List Nat) (st : St) (h : GInv n st) :
    GInv n (session cx n ks st) := by
  rw [session_eq]
  exact runSession_inv _ (runTrial_ginv cx n) ks st h

theorem runTrial_ginvCount (cx : Ctx) (n L : Nat) (st : St) (hinv : GInvCount n L st) (hns : st.stop = false) :
    GInvCount n L (runTrial cx n st).1 ∧
    todo n (runTrial cx n st).1 + 1 = todo n st ∧
    nDone (runTrial cx n st).1.trials = nDone st.trials + 1 ∧
    (∃ i, (runTrial cx n st).2 = cx.raises i) := by
  have hstep := runTrial_gstep cx n st hinv.toGInv hns
  have hrem := ginv_rem_pos hinv.toGInv hns
  have hL := hinv.lenInv
  obtain ⟨hd, he⟩ := hstep.effect (by simp)
  rw [if_pos rfl] at hd he
  refine ⟨⟨hstep.ginv hinv.toGInv (by simp), by omega, by omega⟩, ?_, hd, runTrial_raises cx n st⟩
  simp only [todo]
  omega

theorem session_ginvCount (cx : Ctx) (n L : Nat) (ks : List Nat) (st : St) (h : GInvCount n L st) :
    GInvCount n L (session cx n ks st) := by
  rw [session_eq]
  exact runSession_inv _ (fun st h hs => (runTrial_ginvCount cx n L st h hs).1) ks st h

theorem todo_zero_of_stop (n L : Nat) (st : St) (h : GInvCount n L st) (hs : st.stop = true) : todo n st = 0 := by
  have h0 := h.stop.mp hs
  have := h.queueFirst h0
  simp only [todo]; omega

theorem session_count (cx : Ctx) (n L : Nat) (hnr : ∀ i, cx.raises i = false) (ks : List Nat) (st : St)
    (h : GInvCount n L st) :
    nDone (session cx n ks st).trials = nDone st.trials + min ks.sum (todo n st) ∧
    todo n (session cx n ks st) = todo n st - min ks.sum (todo n st) := by
  rw [session_eq]
  refine runSession_count (GInvCount n L) (todo n) (fun st => nDone st.trials) ?_ (todo_zero_of_stop n L)
    ks st h
  intro st h hs
  obtain ⟨hinv', htodo, hdone, i, hraise⟩ := runTrial_ginvCount cx n L st h hs
  exact ⟨hinv', by rw [hraise, hnr], htodo, hdone⟩

theorem gridValueEqual_refl (a : GVal) : gridValueEqual a a = true := by
  cases a <;> simp [gridValueEqual, GVal.pyEq, GVal.num?, GVal.isNaN]

theorem valuesEqual_length (vs ws : List GVal) (h : vs.length ≠ ws.length) : valuesEqual vs ws = false := by
  induction vs generalizing ws with
  | nil => cases ws <;> simp_all [valuesEqual]
  | cons v vs ih =>
    cases ws with
    | nil => rfl
    | cons w ws =>
      simp only [valuesEqual]
      rw [ih ws (by simpa using h)]
      simp

theorem valuesEqual_refl (vs : List GVal) : valuesEqual vs vs = true := by
  induction vs with
  | nil => rfl
  | cons a vs ih => simp [valuesEqual, gridValueEqual_refl, ih]

theorem sameKeySets_refl (l : List String) : sameKeySets l l = true := by
  simp [sameKeySets]

/-- the sampler recognises its own search space — also when it contains NaN
(with `_grid_value_equal` by identity, seeded change C09-4, it would not after a storage round trip) -/
theorem sameSearchSpace_refl (mine : Space) : sameSearchSpace mine mine = true := by
  simp only [sameSearchSpace, sameKeySets_refl, Bool.true_and, List.all_eq_true]
  intro kv hkv
  obtain ⟨vs, hvs⟩ := AList.get?_isSome_of_mem mine kv.1 (List.mem_map_of_mem hkv)
  simp [entryEqual, hvs, valuesEqual_refl]
example : Grid.sameSearchSpace [("a", [.nan 0, .inf true]), ("b", [.str "x"])]
    [("b", [.str "x"]), ("a", [.nan 7, .inf true])] = true := by decide

theorem view_store (mine : Space) (t : GTrial) : (t.store mine).view mine = some t := by
  obtain ⟨gid, st⟩ := t
  cases gid <;> simp [GTrial.store, RTrial.view, sameSearchSpace_refl]

theorem viewAll_store (mine : Space) (ts : List GTrial) : viewAll mine (ts.map (GTrial.store mine)) = some ts := by
  induction ts with
  | nil => rfl
  | cons t rest ih => simp [viewAll, view_store, ih]

theorem unvisitedR_store (mine : Space) (n : Nat) (ts : List GTrial) :
    unvisitedR mine n (ts.map (GTrial.store mine)) = some (unvisited n ts) := by
  simp [unvisitedR, viewAll_store]

end OptunaVerif.Grid
