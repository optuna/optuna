import OptunaVerif.Model.JournalRedis
import OptunaVerif.Lemmas.Basic
/-!
Lemmas about the small-step model of the Redis journal backend (`Model/JournalRedis.lean`): the
invariant of the key space and of every worker's program counter, its preservation by every event (`step_cases`
lists what an event can do; the lemmas about events reason from that list).
The invariant is stated on `(db, pcs)` where `pcs w` is the program counter of worker `w`; whether a
worker is dead plays no role in it (a dead worker's pending `SET` stays pending for ever).
On top of it (`local_run`: what one worker's call maintains, the others cannot disturb): a `read_logs` returns a
slice of the store (`reader_returns_slice`), an `append_logs` that returns has stored its records under increasing
numbers (`writer_returns_stored`), a dead writer's gap is never filled, and the official log (the records up to the
first gap) only grows and has every read from 0 as a prefix.
-/
namespace OptunaVerif.JournalRedis
variable {ρ : Type}

def Stored (db : Redis ρ) (d : List (Int × ρ)) : Prop := ∀ p ∈ d, db.log p.1 = some p.2

/-- the keys `k, k+1, …, k+|acc|-1` hold exactly the records of `acc`, in order -/
def Slice (log : Int → Option ρ) (k : Int) (acc : List ρ) : Prop :=
  ∀ i (h : i < acc.length), log (k + (i : Nat)) = some acc[i]

/-- what holds of the store when a worker is at `pc` -/
def PcOk (cfg : Cfg) (db : Redis ρ) : PC ρ → Prop
  | .appEval d _ _ => cfg.cluster = false ∧ db.counter ≠ none ∧ Stored db d
  | .appIncr d _ _ => cfg.cluster = true ∧ db.counter ≠ none ∧ Stored db d
  | .appSet d n _ _ =>
    cfg.cluster = true ∧ (∃ c, db.counter = some c ∧ 0 ≤ n ∧ n ≤ c) ∧ db.log n = none ∧ Stored db d
  | .rdGet k cur max acc =>
    (k : Int) ≤ cur ∧ cur ≤ max ∧ (∃ c, db.counter = some c ∧ max ≤ c) ∧ Slice db.log k acc ∧
      (k : Int) + (acc.length : Nat) = cur
  | _ => True

abbrev Pcs (ρ : Type) := Nat → Option (PC ρ)

def upd (pcs : Pcs ρ) (w : Nat) (pc : PC ρ) : Pcs ρ := fun v => if v = w then some pc else pcs v

structure InvP (cfg : Cfg) (db : Redis ρ) (pcs : Pcs ρ) : Prop where
  /-- `SETNX` writes -1 and `INCR` only counts up -/
  cnt : ∀ c, db.counter = some c → -1 ≤ c
  range : ∀ n r, db.log n = some r → ∃ c, db.counter = some c ∧ 0 ≤ n ∧ n ≤ c
  loc : ∀ w pc, pcs w = some pc → PcOk cfg db pc
  /-- a number is handed to one worker only -/
  uniq : ∀ w w' d n r rest d' r' rest',
    pcs w = some (.appSet d n r rest) → pcs w' = some (.appSet d' n r' rest') → w = w'
  /-- every absent key within `0..counter` is the pending `SET` of some worker (alive or dead) -/
  owner : ∀ c n, db.counter = some c → 0 ≤ n → n ≤ c → db.log n = none →
    ∃ w d r rest, pcs w = some (.appSet d n r rest)

/-- the store only grows -/
structure Ext (db db' : Redis ρ) : Prop where
  cnt : ∀ c, db.counter = some c → ∃ c', db'.counter = some c' ∧ c ≤ c'
  log : ∀ n r, db.log n = some r → db'.log n = some r

theorem Ext.refl (db : Redis ρ) : Ext db db := ⟨fun c h => ⟨c, h, Int.le_refl c⟩, fun _ _ h => h⟩

theorem Ext.trans {a b c : Redis ρ} (h1 : Ext a b) (h2 : Ext b c) : Ext a c := by
  refine ⟨fun x hx => ?_, fun n r h => h2.log n r (h1.log n r h)⟩
  obtain ⟨y, hy, hxy⟩ := h1.cnt x hx
  obtain ⟨z, hz, hyz⟩ := h2.cnt y hy
  exact ⟨z, hz, by omega⟩

theorem Stored.mono {db db' : Redis ρ} {d : List (Int × ρ)} (h : Stored db d) (he : Ext db db') : Stored db' d :=
  fun p hp => he.log _ _ (h p hp)

theorem Slice.mono {l l' : Int → Option ρ} {k : Int} {acc : List ρ} (h : Slice l k acc)
    (he : ∀ n r, l n = some r → l' n = some r) : Slice l' k acc :=
  fun i hi => he _ _ (h i hi)

theorem PcOk.mono {cfg : Cfg} {db db' : Redis ρ} {pc : PC ρ} (h : PcOk cfg db pc) (he : Ext db db')
    (hn : ∀ d n r rest, pc = .appSet d n r rest → db'.log n = none) : PcOk cfg db' pc := by
  have hcnt : db.counter ≠ none → db'.counter ≠ none := by
    intro h2
    obtain ⟨c, hc⟩ := Option.ne_none_iff_exists'.1 h2
    obtain ⟨c', hc', _⟩ := he.cnt c hc
    simp [hc']
  cases pc with
  | appEval d r rest => exact ⟨h.1, hcnt h.2.1, h.2.2.mono he⟩
  | appIncr d r rest => exact ⟨h.1, hcnt h.2.1, h.2.2.mono he⟩
  | appSet d n r rest =>
    obtain ⟨h1, ⟨c, hc, h0, hle⟩, _, h3⟩ := h
    obtain ⟨c', hc', hcc⟩ := he.cnt c hc
    exact ⟨h1, ⟨c', hc', h0, by omega⟩, hn d n r rest rfl, h3.mono he⟩
  | rdGet k cur mx acc =>
    obtain ⟨h1, h2, ⟨c, hc, hle⟩, h4, h5⟩ := h
    obtain ⟨c', hc', hcc⟩ := he.cnt c hc
    exact ⟨h1, h2, ⟨c', hc', by omega⟩, h4.mono he.log, h5⟩
  | _ => trivial

theorem upd_self (pcs : Pcs ρ) (w : Nat) (pc : PC ρ) : upd pcs w pc w = some pc := by simp [upd]
theorem upd_other (pcs : Pcs ρ) (w v : Nat) (pc : PC ρ) (h : v ≠ w) : upd pcs w pc v = pcs v := by simp [upd, h]

/-- **the frame of every command**: worker `w` moves to `pc'` while the store grows to `db'`.  What the other
workers know survives the growth (`PcOk.mono`) as long as their pending keys stay absent and are not handed out
again (`hkeep`); what is left to show speaks of `db'`, `pc'` and the numbers involved only. -/
theorem InvP.frame {cfg : Cfg} {db db' : Redis ρ} {pcs : Pcs ρ} (h : InvP cfg db pcs) (w : Nat) (pc' : PC ρ)
    (hext : Ext db db') (hcnt : ∀ c, db'.counter = some c → -1 ≤ c)
    (hrange : ∀ n r, db'.log n = some r → ∃ c, db'.counter = some c ∧ 0 ≤ n ∧ n ≤ c)
    (hok : PcOk cfg db' pc')
    (hkeep : ∀ v d n r rest, v ≠ w → pcs v = some (.appSet d n r rest) →
      db'.log n = none ∧ ∀ d' r' rest', pc' ≠ .appSet d' n r' rest')
    (howner : ∀ c n, db'.counter = some c → 0 ≤ n → n ≤ c → db'.log n = none →
      (∃ d r rest, pc' = .appSet d n r rest) ∨ ∃ v d r rest, v ≠ w ∧ pcs v = some (.appSet d n r rest)) :
    InvP cfg db' (upd pcs w pc') := by
  refine ⟨hcnt, hrange, ?_, ?_, ?_⟩
  · intro v p hv
    by_cases hvw : v = w
    · subst hvw; rw [upd_self] at hv; cases hv; exact hok
    · rw [upd_other _ _ _ _ hvw] at hv
      exact (h.loc v p hv).mono hext (fun d n r rest e => (hkeep v d n r rest hvw (e ▸ hv)).1)
  · intro v v' d n r rest d' r' rest' hv hv'
    by_cases hvw : v = w <;> by_cases hvw' : v' = w
    · rw [hvw, hvw']
    · subst hvw; rw [upd_self] at hv; rw [upd_other _ _ _ _ hvw'] at hv'
      exact absurd (Option.some.inj hv) ((hkeep v' _ _ _ _ hvw' hv').2 d r rest)
    · subst hvw'; rw [upd_self] at hv'; rw [upd_other _ _ _ _ hvw] at hv
      exact absurd (Option.some.inj hv') ((hkeep v _ _ _ _ hvw hv).2 d' r' rest')
    · rw [upd_other _ _ _ _ hvw] at hv; rw [upd_other _ _ _ _ hvw'] at hv'
      exact h.uniq _ _ _ _ _ _ _ _ _ hv hv'
  · intro c n hc h0 hle hnone
    rcases howner c n hc h0 hle hnone with ⟨d, r, rest, e⟩ | ⟨v, d, r, rest, hvw, hv⟩
    · exact ⟨w, d, r, rest, by rw [upd_self, e]⟩
    · exact ⟨v, d, r, rest, by rw [upd_other _ _ _ _ hvw]; exact hv⟩

theorem InvP.upd_same {cfg : Cfg} {db db' : Redis ρ} {pcs : Pcs ρ} (h : InvP cfg db pcs) (w : Nat) (pc pc' : PC ρ)
    (hw : pcs w = some pc) (hok : PcOk cfg db' pc')
    (hold : ∀ d n r rest, pc ≠ .appSet d n r rest := by intros; simp)
    (hnew : ∀ d n r rest, pc' ≠ .appSet d n r rest := by intros; simp)
    (hc : db'.counter = db.counter := by rfl) (hl : db'.log = db.log := by rfl) :
    InvP cfg db' (upd pcs w pc') ∧ Ext db db' := by
  have hext : Ext db db' := ⟨fun c h => ⟨c, hc ▸ h, Int.le_refl c⟩, fun _ _ h => hl ▸ h⟩
  refine ⟨h.frame w pc' hext (hc ▸ h.cnt) (hc ▸ hl ▸ h.range) hok
    (fun v d n r rest _ hv => ⟨hl ▸ (h.loc v _ hv).2.2.1, fun d' r' rest' => hnew d' n r' rest'⟩) ?_, hext⟩
  intro c n hc' h0 hle hnone
  obtain ⟨v, d, r, rest, hv⟩ := h.owner c n (hc ▸ hc') h0 hle (hl ▸ hnone)
  exact .inr ⟨v, d, r, rest, fun e => hold d n r rest (Option.some.inj ((e ▸ hv).symm.trans hw).symm), hv⟩

theorem nextApp_not_appSet (cfg : Cfg) (d : List (Int × ρ)) (rest : List ρ) (d' : List (Int × ρ)) (n : Int) (r : ρ) (rest' : List ρ) :
    (nextApp cfg d rest).1 ≠ .appSet d' n r rest' := by
  cases rest with
  | nil => simp [nextApp]
  | cons a t => simp only [nextApp]; split <;> simp

theorem nextApp_ok (cfg : Cfg) (db : Redis ρ) (d : List (Int × ρ)) (rest : List ρ)
    (hc : db.counter ≠ none) (hd : Stored db d) : PcOk cfg db (nextApp cfg d rest).1 := by
  cases rest with
  | nil => simp [nextApp, PcOk]
  | cons a t =>
    simp only [nextApp]
    cases hcl : cfg.cluster with
    | true => simp [PcOk, hcl, hc, hd]
    | false => simp [PcOk, hcl, hc, hd]

theorem setLog_log (db : Redis ρ) (n : Int) (r : ρ) (k : Int) :
    (setLog db n r).log k = if k = n then some r else db.log k := rfl
theorem setLog_counter (db : Redis ρ) (n : Int) (r : ρ) : (setLog db n r).counter = db.counter := rfl

theorem stored_snoc {db : Redis ρ} {d : List (Int × ρ)} {n : Int} {r : ρ} (hd : Stored db d) (hn : db.log n = some r) :
    Stored db (d ++ [(n, r)]) := by
  intro p hp
  rcases List.mem_append.1 hp with h | h
  · exact hd p h
  · simp at h; subst h; exact hn

/-- with no counter key there is no log key and nobody is past `SETNX` -/
theorem InvP.setnx_new {cfg : Cfg} {db : Redis ρ} {pcs : Pcs ρ} (h : InvP cfg db pcs) (w : Nat) (recs : List ρ)
    (hc : db.counter = none) :
    InvP cfg { db with counter := some (-1) } (upd pcs w (nextApp cfg [] recs).1) ∧
      Ext db { db with counter := some (-1) } := by
  have hext : Ext db { db with counter := some (-1) } :=
    ⟨fun c hc' => (by rw [hc] at hc'; cases hc'), fun _ _ hk => hk⟩
  have hlog : ∀ n, db.log n = none := by
    intro n
    cases hn : db.log n with
    | none => rfl
    | some r => obtain ⟨c, hc', _⟩ := h.range n r hn; rw [hc] at hc'; cases hc'
  have hnoset : ∀ v d n r rest, pcs v ≠ some (.appSet d n r rest) := by
    intro v d n r rest hv
    obtain ⟨_, ⟨c, hc', _⟩, _⟩ := h.loc v _ hv
    rw [hc] at hc'; cases hc'
  refine ⟨h.frame w _ hext ?_ ?_ (nextApp_ok cfg _ [] recs (by simp) (by intro p hp; cases hp))
    (fun v d n r rest _ hv => absurd hv (hnoset v d n r rest)) ?_, hext⟩
  · intro c hc'; simp at hc'; omega
  · intro n r hn; simp [hlog] at hn
  · intro c n hc' h0 hle _; simp at hc'; omega


theorem InvP.fresh {cfg : Cfg} {db : Redis ρ} {pcs : Pcs ρ} (h : InvP cfg db pcs) (c : Int) (hc : db.counter = some c) :
    db.log (c + 1) = none := by
  cases hn : db.log (c + 1) with
  | none => rfl
  | some x =>
    obtain ⟨c', hc', _, hle⟩ := h.range _ _ hn
    rw [hc] at hc'; cases hc'; omega

/-- in non-cluster mode there is never a gap: an absent key would be a pending `SET`, which only cluster mode has -/
theorem InvP.no_gap {cfg : Cfg} {db : Redis ρ} {pcs : Pcs ρ} (h : InvP cfg db pcs) (hcl : cfg.cluster = false)
    (c k : Int) (hc : db.counter = some c) (h0 : 0 ≤ k) (hle : k ≤ c) : ∃ r, db.log k = some r := by
  cases hk : db.log k with
  | some r => exact ⟨r, rfl⟩
  | none =>
    obtain ⟨w, d, r, rest, hw⟩ := h.owner c k hc h0 hle hk
    have := (h.loc w _ hw).1
    rw [hcl] at this; cases this

theorem ext_setLog (db : Redis ρ) (n : Int) (r : ρ) (hn : db.log n = none) : Ext db (setLog db n r) := by
  refine ⟨fun c hc => ⟨c, hc, Int.le_refl c⟩, fun k x hk => ?_⟩
  rw [setLog_log]
  split
  · rename_i e; subst e; rw [hn] at hk; cases hk
  · exact hk

theorem ext_counter (db : Redis ρ) (c : Int) (hc : db.counter = some c) : Ext db { db with counter := some (c + 1) } :=
  ⟨fun x hx => ⟨c + 1, rfl, by rw [hc] at hx; cases hx; omega⟩, fun _ _ hk => hk⟩

/-- non-cluster mode: the script `INCR` + `SET` -/
theorem InvP.eval_step {cfg : Cfg} {db : Redis ρ} {pcs : Pcs ρ} (h : InvP cfg db pcs) (w : Nat)
    (d : List (Int × ρ)) (r : ρ) (rest : List ρ) (hw : pcs w = some (.appEval d r rest)) (c : Int) (hc : db.counter = some c) :
    InvP cfg (setLog { db with counter := some (c + 1) } (c + 1) r) (upd pcs w (nextApp cfg (d ++ [(c + 1, r)]) rest).1) ∧
      Ext db (setLog { db with counter := some (c + 1) } (c + 1) r) := by
  have hcm := h.cnt c hc
  obtain ⟨_, _, hd⟩ := h.loc w _ hw
  have hext : Ext db (setLog { db with counter := some (c + 1) } (c + 1) r) :=
    (ext_counter db c hc).trans (ext_setLog _ _ _ (h.fresh c hc))
  -- a pending `SET` of another worker has a number below the new one
  have hlow : ∀ v d' m r' rest', pcs v = some (.appSet d' m r' rest') → m ≠ c + 1 := by
    intro v d' m r' rest' hv
    obtain ⟨_, ⟨c', hc', _, hle⟩, _, _⟩ := h.loc v _ hv
    rw [hc] at hc'; cases hc'; omega
  refine ⟨h.frame w _ hext ?_ ?_
    (nextApp_ok cfg _ _ rest (by simp [setLog]) (stored_snoc (hd.mono hext) (by simp [setLog_log]))) ?_ ?_, hext⟩
  · intro x hx
    have : x = c + 1 := by simpa [setLog] using hx.symm
    omega
  · intro k x hk
    rw [setLog_log] at hk
    split at hk
    · rename_i e; exact ⟨c + 1, rfl, by omega, by omega⟩
    · obtain ⟨c', hc', h0, hle⟩ := h.range k x hk
      rw [hc] at hc'; cases hc'
      exact ⟨c + 1, rfl, h0, by omega⟩
  · intro v d' m r' rest' _ hv
    refine ⟨?_, fun _ _ _ => nextApp_not_appSet cfg _ _ _ _ _ _⟩
    rw [setLog_log, if_neg (hlow v _ _ _ _ hv)]; exact (h.loc v _ hv).2.2.1
  · intro x m hx h0 hle hnone
    have hx' : x = c + 1 := by simpa [setLog] using hx.symm
    rw [setLog_log] at hnone
    split at hnone
    · cases hnone
    · obtain ⟨v, d', r', rest', hv⟩ := h.owner c m hc h0 (by omega) hnone
      exact .inr ⟨v, d', r', rest', fun e => (by subst e; rw [hw] at hv; cases hv), hv⟩

/-- cluster mode: `INCR` -/
theorem InvP.incr_step {cfg : Cfg} {db : Redis ρ} {pcs : Pcs ρ} (h : InvP cfg db pcs) (w : Nat)
    (d : List (Int × ρ)) (r : ρ) (rest : List ρ) (hw : pcs w = some (.appIncr d r rest)) (c : Int) (hc : db.counter = some c) :
    InvP cfg { db with counter := some (c + 1) } (upd pcs w (.appSet d (c + 1) r rest)) ∧
      Ext db { db with counter := some (c + 1) } := by
  have hcm := h.cnt c hc
  obtain ⟨hcl, _, hd⟩ := h.loc w _ hw
  have hext : Ext db { db with counter := some (c + 1) } := ext_counter db c hc
  refine ⟨h.frame w _ hext ?_ ?_ ⟨hcl, ⟨c + 1, rfl, by omega, by omega⟩, h.fresh c hc, hd.mono hext⟩ ?_ ?_, hext⟩
  · intro x hx
    have : x = c + 1 := by simpa using hx.symm
    omega
  · intro k x hk
    obtain ⟨c', hc', h0, hle⟩ := h.range k x hk
    rw [hc] at hc'; cases hc'
    exact ⟨c + 1, rfl, h0, by omega⟩
  · -- the number handed out is above every pending one
    intro v d' m r' rest' _ hv
    obtain ⟨_, ⟨c', hc', _, hle⟩, hm, _⟩ := h.loc v _ hv
    rw [hc] at hc'; cases hc'
    exact ⟨hm, fun _ _ _ e => by injection e; omega⟩
  · intro x m hx h0 hle hnone
    have hx' : x = c + 1 := by simpa using hx.symm
    by_cases hm : m = c + 1
    · subst hm; exact .inl ⟨d, r, rest, rfl⟩
    · obtain ⟨v, d', r', rest', hv⟩ := h.owner c m hc h0 (by omega) hnone
      exact .inr ⟨v, d', r', rest', fun e => (by subst e; rw [hw] at hv; cases hv), hv⟩

/-- cluster mode: `SET log:n` -/
theorem InvP.set_step {cfg : Cfg} {db : Redis ρ} {pcs : Pcs ρ} (h : InvP cfg db pcs) (w : Nat)
    (d : List (Int × ρ)) (n : Int) (r : ρ) (rest : List ρ) (hw : pcs w = some (.appSet d n r rest)) :
    InvP cfg (setLog db n r) (upd pcs w (nextApp cfg (d ++ [(n, r)]) rest).1) ∧ Ext db (setLog db n r) := by
  obtain ⟨_, ⟨c, hc, hn0, hnc⟩, hnone, hd⟩ := h.loc w _ hw
  have hext : Ext db (setLog db n r) := ext_setLog db n r hnone
  refine ⟨h.frame w _ hext h.cnt ?_
    (nextApp_ok cfg _ _ rest (by rw [setLog_counter, hc]; simp) (stored_snoc (hd.mono hext) (by simp [setLog_log]))) ?_ ?_,
    hext⟩
  · intro k x hk
    rw [setLog_log] at hk
    split at hk
    · rename_i e; subst e; exact ⟨c, hc, hn0, hnc⟩
    · exact h.range k x hk
  · -- another worker's pending number is not `n`: a number is handed to one worker only
    intro v d' m r' rest' hvw hv
    refine ⟨?_, fun _ _ _ => nextApp_not_appSet cfg _ _ _ _ _ _⟩
    rw [setLog_log, if_neg (fun e => hvw (by subst e; exact h.uniq _ _ _ _ _ _ _ _ _ hv hw))]
    exact (h.loc v _ hv).2.2.1
  · intro x m hx h0 hle hnone'
    rw [setLog_log] at hnone'
    split at hnone'
    · cases hnone'
    · rename_i hne
      obtain ⟨v, d', r', rest', hv⟩ := h.owner x m hx h0 hle hnone'
      exact .inr ⟨v, d', r', rest', fun e => (by subst e; rw [hw] at hv; cases hv; exact hne rfl), hv⟩


theorem slice_nil (log : Int → Option ρ) (k : Int) : Slice log k [] := fun _ hi => absurd hi (Nat.not_lt_zero _)

theorem slice_cons {log : Int → Option ρ} {k : Int} {a : ρ} {t : List ρ} :
    Slice log k (a :: t) ↔ log k = some a ∧ Slice log (k + 1) t := by
  simp only [Slice, List.length_cons, Nat.forall_lt_succ_left', List.getElem_cons_zero, List.getElem_cons_succ,
    Int.natCast_zero, Int.add_zero, Int.natCast_add, Int.natCast_one, Int.add_assoc, Int.add_comm 1]

theorem slice_append {log : Int → Option ρ} {k : Int} {p l : List ρ} :
    Slice log k (p ++ l) ↔ Slice log k p ∧ Slice log (k + (p.length : Nat)) l := by
  induction p generalizing k with
  | nil => simp [slice_nil]
  | cons a t ih =>
    simp only [List.cons_append, slice_cons, ih, and_assoc, List.length_cons, Int.natCast_add, Int.natCast_one,
      Int.add_assoc, Int.add_comm 1]

theorem slice_snoc {log : Int → Option ρ} {k : Int} {acc : List ρ} {r : ρ} (h : Slice log k acc)
    (hr : log (k + (acc.length : Nat)) = some r) : Slice log k (acc ++ [r]) :=
  slice_append.2 ⟨h, slice_cons.2 ⟨hr, slice_nil _ _⟩⟩

theorem InvP.stepW {cfg : Cfg} {db : Redis ρ} {pcs : Pcs ρ} (h : InvP cfg db pcs) (w : Nat) (pc : PC ρ)
    (hw : pcs w = some pc) :
    InvP cfg (stepW cfg db pc).1 (upd pcs w (stepW cfg db pc).2.1) ∧ Ext db (stepW cfg db pc).1 := by
  -- the commands that write (`SETNX` on an empty store, `EVAL`, `INCR`, `SET`) have a lemma each; every other step leaves
  -- the store as it is and owes only `PcOk` of the pc it moves to (`upd_same`): for `rdGet`, the slice read so far and one more
  cases pc with
  | idle => exact h.upd_same w _ .idle hw trivial
  | appSetnx recs =>
    cases hc : db.counter with
    | none =>
      simp only [JournalRedis.stepW, hc]
      exact h.setnx_new w recs hc
    | some c =>
      simp only [JournalRedis.stepW, hc]
      exact h.upd_same w _ _ hw (nextApp_ok cfg db [] recs (by simp [hc]) (by intro p hp; cases hp))
        (hnew := nextApp_not_appSet cfg _ _)
  | appEval d r rest =>
    obtain ⟨c, hc⟩ := Option.ne_none_iff_exists'.1 (h.loc w _ hw).2.1
    simp only [JournalRedis.stepW, incrVal, hc, Option.getD_some]
    exact h.eval_step w d r rest hw c hc
  | appIncr d r rest =>
    obtain ⟨c, hc⟩ := Option.ne_none_iff_exists'.1 (h.loc w _ hw).2.1
    simp only [JournalRedis.stepW, incrVal, hc, Option.getD_some]
    exact h.incr_step w d r rest hw c hc
  | appSet d n r rest =>
    simp only [JournalRedis.stepW]
    exact h.set_step w d n r rest hw
  | rdCounter k =>
    cases hc : db.counter with
    | none =>
      simp only [JournalRedis.stepW, hc]
      exact h.upd_same w _ .idle hw trivial
    | some m =>
      simp only [JournalRedis.stepW, hc]
      split
      · rename_i hk
        refine h.upd_same w _ _ hw ?_
        exact ⟨Int.le_refl _, hk, ⟨m, hc, Int.le_refl _⟩, slice_nil _ _, by simp⟩
      · exact h.upd_same w _ .idle hw trivial
  | rdGet k cur mx acc =>
    have hok := h.loc w _ hw
    obtain ⟨h1, h2, h3, h4, h5⟩ := hok
    cases hl : db.log cur with
    | none =>
      simp only [JournalRedis.stepW, hl]
      exact h.upd_same w _ _ hw ⟨h1, h2, h3, h4, h5⟩
    | some r =>
      simp only [JournalRedis.stepW, hl]
      split
      · rename_i hle
        refine h.upd_same w _ _ hw ⟨by omega, hle, h3, slice_snoc h4 (by rw [h5]; exact hl), ?_⟩
        simp only [List.length_append, List.length_singleton]; omega
      · exact h.upd_same w _ .idle hw trivial
  | snapSet s =>
    simp only [JournalRedis.stepW]
    exact h.upd_same w _ .idle hw trivial
  | snapGet =>
    simp only [JournalRedis.stepW]
    exact h.upd_same w _ .idle hw trivial

def Inv (cfg : Cfg) (st : St ρ) : Prop := InvP cfg st.db (pcOf st)

theorem pcOf_updAt_pc (db db' : Redis ρ) (ws : List (Worker ρ)) (w : Nat) (wk : Worker ρ) (p : PC ρ) (hw : ws[w]? = some wk) :
    pcOf { db := db', ws := updAt ws w (fun x => { x with pc := p }) } = upd (pcOf { db := db, ws := ws }) w p := by
  funext v
  simp only [pcOf, upd, updAt_getElem?]
  by_cases hv : v = w
  · subst hv; simp [hw]
  · simp [hv]

theorem pcOf_updAt_dead (db : Redis ρ) (ws : List (Worker ρ)) (w : Nat) (b : Bool) :
    pcOf { db := db, ws := updAt ws w (fun x => { x with dead := b }) } = pcOf { db := db, ws := ws } := by
  funext v
  simp only [pcOf, updAt_getElem?]
  by_cases hv : v = w
  · subst hv; cases ws[v]? <;> simp
  · simp [hv]

theorem step_step_live (cfg : Cfg) (st : St ρ) (w : Nat) (wk : Worker ρ) (hw : st.ws[w]? = some wk) (hl : wk.dead = false) :
    step cfg st (.step w) =
      ({ db := (stepW cfg st.db wk.pc).1, ws := updAt st.ws w (fun x => { x with pc := (stepW cfg st.db wk.pc).2.1 }) },
       (stepW cfg st.db wk.pc).2.2) := by
  simp [step, hw, hl]

theorem pcOf_eq {st : St ρ} {w : Nat} {wk : Worker ρ} (hw : st.ws[w]? = some wk) : pcOf st w = some wk.pc := by
  simp [pcOf, hw]

/-- **what one event can do**; only the last case touches the store or returns a value. -/
theorem step_cases (cfg : Cfg) (st : St ρ) (e : Ev ρ) :
    step cfg st e = (st, ⟨.noop, none⟩) ∨
    ∃ w wk, st.ws[w]? = some wk ∧ wk.dead = false ∧
      ((∃ op, e = .call w op ∧ wk.pc = .idle ∧
          step cfg st e = ({ st with ws := updAt st.ws w (fun x => { x with pc := entry op }) }, ⟨.called, none⟩)) ∨
       (e = .crash w ∧
          step cfg st e = ({ st with ws := updAt st.ws w (fun x => { x with dead := true }) }, ⟨.crashed, none⟩)) ∨
       (e = .step w ∧
          step cfg st e = ({ db := (stepW cfg st.db wk.pc).1,
                             ws := updAt st.ws w (fun x => { x with pc := (stepW cfg st.db wk.pc).2.1 }) },
                           (stepW cfg st.db wk.pc).2.2))) := by
  cases e with
  | call w op =>
    cases hw : st.ws[w]? with
    | none => left; simp [step, hw]
    | some wk =>
      simp only [step, hw]
      split
      · rename_i hd hp; exact .inr ⟨w, wk, hw, hd, .inl ⟨op, rfl, hp, rfl⟩⟩
      · exact .inl rfl
  | crash w =>
    cases hw : st.ws[w]? with
    | none => left; simp [step, hw]
    | some wk =>
      simp only [step, hw]
      split
      · exact .inl rfl
      · rename_i hd; exact .inr ⟨w, wk, hw, by simpa using hd, .inr (.inl ⟨rfl, rfl⟩)⟩
  | step w =>
    cases hw : st.ws[w]? with
    | none => left; simp [step, hw]
    | some wk =>
      cases hl : wk.dead with
      | true => left; simp [step, hw, hl]
      | false => exact .inr ⟨w, wk, hw, hl, .inr (.inr ⟨rfl, step_step_live cfg st w wk hw hl⟩)⟩

theorem step_ok (cfg : Cfg) (st : St ρ) (e : Ev ρ) (h : Inv cfg st) :
    Inv cfg (step cfg st e).1 ∧ Ext st.db (step cfg st e).1.db := by
  rcases step_cases cfg st e with he | ⟨w, wk, hw, _, ⟨op, _, hp, he⟩ | ⟨_, he⟩ | ⟨_, he⟩⟩ <;> rw [he]
  · exact ⟨h, Ext.refl _⟩
  · show InvP cfg _ _ ∧ _
    rw [pcOf_updAt_pc st.db st.db st.ws w wk _ hw]
    exact InvP.upd_same h w .idle _ (by rw [pcOf_eq hw, hp]) (by cases op <;> simp [entry, PcOk])
      (hnew := by intro d n r rest; cases op <;> simp [entry])
  · show InvP cfg _ _ ∧ _
    rw [pcOf_updAt_dead]; exact ⟨h, Ext.refl _⟩
  · show InvP cfg _ _ ∧ _
    rw [pcOf_updAt_pc st.db _ st.ws w wk _ hw]
    exact InvP.stepW h w wk.pc (pcOf_eq hw)

theorem inv_step (cfg : Cfg) (st : St ρ) (e : Ev ρ) (h : Inv cfg st) : Inv cfg (step cfg st e).1 :=
  (step_ok cfg st e h).1

theorem ext_step (cfg : Cfg) (st : St ρ) (e : Ev ρ) (h : Inv cfg st) : Ext st.db (step cfg st e).1.db :=
  (step_ok cfg st e h).2

theorem inv_run (cfg : Cfg) (st : St ρ) (evs : List (Ev ρ)) (h : Inv cfg st) : Inv cfg (run cfg st evs) := by
  induction evs generalizing st with
  | nil => exact h
  | cons e es ih => exact ih _ (inv_step cfg st e h)

theorem ext_run (cfg : Cfg) (st : St ρ) (evs : List (Ev ρ)) (h : Inv cfg st) : Ext st.db (run cfg st evs).db := by
  induction evs generalizing st with
  | nil => exact Ext.refl _
  | cons e es ih => exact (ext_step cfg st e h).trans (ih _ (inv_step cfg st e h))

theorem inv_init (cfg : Cfg) (n : Nat) : Inv cfg (init n : St ρ) := by
  have hp : ∀ w pc, pcOf (init n : St ρ) w = some pc → pc = .idle := by
    intro w pc hw
    simp only [pcOf, init, List.getElem?_replicate] at hw
    split at hw <;> simp at hw
    exact hw.symm
  refine ⟨?_, ?_, ?_, ?_, ?_⟩
  · intro c hc; cases hc
  · intro k r hk; cases hk
  · intro w pc hw; rw [hp w pc hw]; trivial
  · intro w w' d k r rest d' r' rest' hw _; cases hp w _ hw
  · intro c k hc; cases hc

theorem run_append (cfg : Cfg) (st : St ρ) (a b : List (Ev ρ)) : run cfg st (a ++ b) = run cfg (run cfg st a) b := by
  induction a generalizing st with
  | nil => rfl
  | cons e es ih => exact ih _

theorem run_snoc (cfg : Cfg) (st : St ρ) (evs : List (Ev ρ)) (e : Ev ρ) :
    run cfg st (evs ++ [e]) = (step cfg (run cfg st evs) e).1 := by
  rw [run_append]; rfl

theorem inv_reachable (cfg : Cfg) (n : Nat) (evs : List (Ev ρ)) : Inv cfg (run cfg (init n) evs) :=
  inv_run cfg _ evs (inv_init cfg n)

def NoCall (w : Nat) (evs : List (Ev ρ)) : Prop := ∀ e ∈ evs, ∀ op, e ≠ .call w op

theorem NoCall.tail {w : Nat} {e : Ev ρ} {evs : List (Ev ρ)} (h : NoCall w (e :: evs)) : NoCall w evs :=
  fun x hx => h x (List.mem_cons_of_mem _ hx)

theorem pcOf_step_cases (cfg : Cfg) (st : St ρ) (e : Ev ρ) (w : Nat) :
    pcOf (step cfg st e).1 w = pcOf st w ∨
    (e = .step w ∧ ∃ wk, st.ws[w]? = some wk ∧ wk.dead = false ∧
        (step cfg st e).1.db = (stepW cfg st.db wk.pc).1 ∧
        pcOf (step cfg st e).1 w = some (stepW cfg st.db wk.pc).2.1) ∨
    (∃ op, e = .call w op) := by
  rcases step_cases cfg st e with he | ⟨v, wk, hv, hl, ⟨op, hc, _, he⟩ | ⟨_, he⟩ | ⟨hs, he⟩⟩ <;> rw [he]
  · exact .inl rfl
  · by_cases hvw : v = w
    · exact .inr (.inr ⟨op, hvw ▸ hc⟩)
    · left; simp only [pcOf, updAt_getElem?, if_neg (Ne.symm hvw)]
  · left; rw [pcOf_updAt_dead]
  · by_cases hvw : v = w
    · subst hvw
      exact .inr (.inl ⟨hs, wk, hv, hl, rfl, by simp [pcOf, updAt_getElem?, hv]⟩)
    · left; simp only [pcOf, updAt_getElem?, if_neg (Ne.symm hvw)]

/-- **a property of one worker's call that its own commands maintain and the others' cannot disturb**
holds until the call returns (no new call of that worker in between). -/
theorem local_run (cfg : Cfg) (w : Nat) (Q : Redis ρ → PC ρ → Prop)
    (hmono : ∀ db db' pc, Ext db db' → Q db pc → Q db' pc)
    (hstep : ∀ db pcs pc, InvP cfg db pcs → pcs w = some pc → Q db pc → Q (stepW cfg db pc).1 (stepW cfg db pc).2.1) :
    ∀ (mid : List (Ev ρ)) (st : St ρ), Inv cfg st → (∃ pc, pcOf st w = some pc ∧ Q st.db pc) → NoCall w mid →
      ∃ pc, pcOf (run cfg st mid) w = some pc ∧ Q (run cfg st mid).db pc := by
  intro mid
  induction mid with
  | nil => intro st _ h _; exact h
  | cons e es ih =>
    intro st hinv ⟨pc, hpc, hq⟩ hnc
    refine ih (step cfg st e).1 (inv_step cfg st e hinv) ?_ hnc.tail
    rcases pcOf_step_cases cfg st e w with h | ⟨_, wk, hw, _, hdb, hpc'⟩ | ⟨op, he⟩
    · exact ⟨pc, by rw [h]; exact hpc, hmono _ _ _ (ext_step cfg st e hinv) hq⟩
    · have : wk.pc = pc := by rw [pcOf_eq hw] at hpc; exact Option.some.inj hpc
      subst this
      exact ⟨_, hpc', by rw [hdb]; exact hstep st.db (pcOf st) wk.pc hinv (pcOf_eq hw) hq⟩
    · exact absurd he (hnc e (List.mem_cons_self ..) op)

theorem step_ret (cfg : Cfg) (st : St ρ) (w : Nat) (x : Ret ρ) (h : (step cfg st (.step w)).2.ret = some x) :
    ∃ wk, st.ws[w]? = some wk ∧ wk.dead = false ∧ (stepW cfg st.db wk.pc).2.2.ret = some x ∧
      (step cfg st (.step w)).1.db = (stepW cfg st.db wk.pc).1 := by
  rcases step_cases cfg st (.step w) with he | ⟨v, wk, hv, hl, ⟨op, hc, _, _⟩ | ⟨hc, _⟩ | ⟨hs, he⟩⟩
  · rw [he] at h; cases h
  · cases hc
  · cases hc
  · cases hs
    rw [he] at h ⊢
    exact ⟨wk, hv, hl, h, rfl⟩

/-- `local_run` up to the command that returns: what that command establishes of the value it returns -/
theorem local_ret (cfg : Cfg) (w : Nat) (Q : Redis ρ → PC ρ → Prop) (R : Redis ρ → Ret ρ → Prop)
    (hmono : ∀ db db' pc, Ext db db' → Q db pc → Q db' pc)
    (hstep : ∀ db pcs pc, InvP cfg db pcs → pcs w = some pc → Q db pc →
      Q (stepW cfg db pc).1 (stepW cfg db pc).2.1 ∧ ∀ x, (stepW cfg db pc).2.2.ret = some x → R (stepW cfg db pc).1 x)
    (mid : List (Ev ρ)) (st : St ρ) (hinv : Inv cfg st) (h0 : ∃ pc, pcOf st w = some pc ∧ Q st.db pc)
    (hnc : NoCall w mid) (x : Ret ρ) (hret : (step cfg (run cfg st mid) (.step w)).2.ret = some x) :
    R (step cfg (run cfg st mid) (.step w)).1.db x := by
  obtain ⟨pc, hpc, hq⟩ := local_run cfg w Q hmono (fun db pcs pc hi hw h => (hstep db pcs pc hi hw h).1) mid st hinv h0 hnc
  obtain ⟨wk, hwk, _, hr, hdb⟩ := step_ret cfg _ w _ hret
  have hpceq : wk.pc = pc := by rw [pcOf_eq hwk] at hpc; exact Option.some.inj hpc
  rw [hdb]
  rw [hpceq] at hr ⊢
  exact (hstep _ _ pc (inv_run cfg st mid hinv) hpc hq).2 x hr

/-- where a `read_logs(k)` call that began when the store was `db₀` can be: before its first command the store has
only grown; afterwards the counter value it fetched covers the counter of `db₀` -/
def RdOk (db₀ : Redis ρ) (k : Nat) (db : Redis ρ) : PC ρ → Prop
  | .rdCounter k' => k' = k ∧ Ext db₀ db
  | .rdGet k' _ m _ => k' = k ∧ ∀ c, db₀.counter = some c → c ≤ m
  | .idle => True
  | _ => False

/-- what a `read_logs(k)` that began when the store was `db₀` returns: it has fetched some counter value `m ≥` the
counter of `db₀` and returns exactly the records `k..m`, each as stored -/
def RdRet (db₀ : Redis ρ) (k : Nat) (db : Redis ρ) : Ret ρ → Prop
  | .read l => ∃ m : Int, (∀ c, db₀.counter = some c → c ≤ m) ∧ l.length = (m + 1 - k).toNat ∧ Slice db.log k l
  | _ => True

theorem rdOk_step (cfg : Cfg) (db₀ : Redis ρ) (k w : Nat) (db : Redis ρ) (pcs : Pcs ρ) (pc : PC ρ)
    (hinv : InvP cfg db pcs) (hw : pcs w = some pc) (h : RdOk db₀ k db pc) :
    RdOk db₀ k (stepW cfg db pc).1 (stepW cfg db pc).2.1 ∧
    ∀ x, (stepW cfg db pc).2.2.ret = some x → RdRet db₀ k (stepW cfg db pc).1 x := by
  cases pc with
  | rdCounter k' =>
    obtain ⟨rfl, hext⟩ := h
    cases hc : db.counter with
    | none =>
      simp only [stepW, hc]
      refine ⟨trivial, fun x hx => ?_⟩
      cases hx
      refine ⟨-1, fun c hc0 => ?_, by simp, slice_nil _ _⟩
      obtain ⟨c', hc', _⟩ := hext.cnt c hc0
      rw [hc] at hc'; cases hc'
    | some m =>
      have hcov : ∀ c, db₀.counter = some c → c ≤ m := by
        intro c hc0
        obtain ⟨c', hc', hle⟩ := hext.cnt c hc0
        rw [hc] at hc'; cases hc'; exact hle
      simp only [stepW, hc]
      split
      · exact ⟨⟨rfl, hcov⟩, fun x hx => by cases hx⟩
      · refine ⟨trivial, fun x hx => ?_⟩
        cases hx
        exact ⟨m, hcov, by simp; omega, slice_nil _ _⟩
  | rdGet k' cur m acc =>
    obtain ⟨rfl, hcov⟩ := h
    obtain ⟨h1, h2, _, h4, h5⟩ := hinv.loc w _ hw
    cases hl : db.log cur with
    | none => simp only [stepW, hl]; exact ⟨⟨rfl, hcov⟩, fun x h => by cases h⟩
    | some r =>
      simp only [stepW, hl]
      split
      · exact ⟨⟨rfl, hcov⟩, fun x h => by cases h⟩
      · refine ⟨trivial, fun x hx => ?_⟩
        cases hx
        exact ⟨m, hcov, by simp only [List.length_append, List.length_singleton]; omega,
          slice_snoc h4 (by rw [h5]; exact hl)⟩
  | idle => exact ⟨trivial, fun x h => by cases h⟩
  | _ => exact h.elim

/-- **the reader theorem**: `RdRet` holds of what a `read_logs(k)` returns whose first command is issued in `st` -/
theorem reader_returns_slice (cfg : Cfg) (w k : Nat) (mid : List (Ev ρ)) (st : St ρ)
    (hinv : Inv cfg st) (hpc : pcOf st w = some (.rdCounter k)) (hnc : NoCall w mid)
    (l : List ρ) (hret : (step cfg (run cfg st mid) (.step w)).2.ret = some (.read l)) :
    ∃ m : Int, (∀ c, st.db.counter = some c → c ≤ m) ∧ l.length = (m + 1 - k).toNat ∧
      Slice (step cfg (run cfg st mid) (.step w)).1.db.log k l := by
  refine local_ret cfg w (RdOk st.db k) (RdRet st.db k) (fun _ _ pc he h => ?_) (rdOk_step cfg st.db k w)
    mid st hinv ⟨_, hpc, rfl, Ext.refl _⟩ hnc _ hret
  cases pc with
  | rdCounter _ => exact ⟨h.1, h.2.trans he⟩
  | _ => exact h

theorem reader_covers (cfg : Cfg) (w k : Nat) (mid : List (Ev ρ)) (st : St ρ)
    (hinv : Inv cfg st) (hpc : pcOf st w = some (.rdCounter k)) (hnc : NoCall w mid)
    (l : List ρ) (hret : (step cfg (run cfg st mid) (.step w)).2.ret = some (.read l))
    (a c : Int) (hc : st.db.counter = some c) (hka : (k : Int) ≤ a) (hac : a ≤ c) :
    (a - k).toNat < l.length ∧ (run cfg st (mid ++ [.step w])).db.log a = l[(a - k).toNat]? := by
  obtain ⟨m, hcov, hlen, hsl⟩ := reader_returns_slice cfg w k mid st hinv hpc hnc l hret
  have hm := hcov c hc
  have hi : (a - k).toNat < l.length := by omega
  have h1 := hsl _ hi
  rw [show (k : Int) + ((a - k).toNat : Nat) = a by omega] at h1
  exact ⟨hi, by rw [run_snoc, h1, List.getElem?_eq_getElem hi]⟩

theorem dead_stays (cfg : Cfg) (st : St ρ) (e : Ev ρ) (v : Nat) (wk : Worker ρ) (hv : st.ws[v]? = some wk)
    (hd : wk.dead = true) : (step cfg st e).1.ws[v]? = some wk := by
  -- an event rewrites only the slot of a live worker
  rcases step_cases cfg st e with he | ⟨w, wk', hw, hl, h⟩
  · rw [he]; exact hv
  · have hne : v ≠ w := by
      intro e; subst e; rw [hv] at hw; cases hw; rw [hd] at hl; cases hl
    rcases h with ⟨_, _, _, he⟩ | ⟨_, he⟩ | ⟨_, he⟩ <;> rw [he] <;>
      simp only [updAt_getElem?, if_neg hne] <;> exact hv

theorem dead_stays_run (cfg : Cfg) (st : St ρ) (evs : List (Ev ρ)) (v : Nat) (wk : Worker ρ) (hv : st.ws[v]? = some wk)
    (hd : wk.dead = true) : (run cfg st evs).ws[v]? = some wk := by
  induction evs generalizing st with
  | nil => exact hv
  | cons e es ih => exact ih _ (dead_stays cfg st e v wk hv hd)

/-- the number a dead writer took with `INCR` and never `SET` stays absent for ever -/
theorem dead_gap_never_filled (cfg : Cfg) (st : St ρ) (hinv : Inv cfg st) (v : Nat) (wk : Worker ρ)
    (hv : st.ws[v]? = some wk) (hd : wk.dead = true) (d : List (Int × ρ)) (n : Int) (r : ρ) (rest : List ρ)
    (hpc : wk.pc = .appSet d n r rest) (evs : List (Ev ρ)) : (run cfg st evs).db.log n = none := by
  have h1 := dead_stays_run cfg st evs v wk hv hd
  have h2 := (inv_run cfg st evs hinv).loc v wk.pc (pcOf_eq h1)
  rw [hpc] at h2
  exact h2.2.2.1

/-- where an `append_logs(recs)` call can be: the records done so far (with their numbers, increasing) followed
by the records still to do are `recs` -/
def WrOk (recs : List ρ) (_db : Redis ρ) : PC ρ → Prop
  | .appSetnx recs' => recs' = recs
  | .appEval d r rest | .appIncr d r rest => d.map Prod.snd ++ r :: rest = recs ∧ d.Pairwise (fun a b => a.1 < b.1)
  | .appSet d n r rest =>
    d.map Prod.snd ++ r :: rest = recs ∧ d.Pairwise (fun a b => a.1 < b.1) ∧ ∀ p ∈ d, p.1 < n
  | .idle => True
  | _ => False

/-- what an `append_logs(recs)` returns: every record of `recs`, in order, stored under strictly increasing numbers -/
def WrRet (recs : List ρ) (db : Redis ρ) : Ret ρ → Prop
  | .appended d => d.map Prod.snd = recs ∧ d.Pairwise (fun a b => a.1 < b.1) ∧ Stored db d
  | _ => True

theorem nextApp_wrOk (cfg : Cfg) (recs : List ρ) (db : Redis ρ) (d : List (Int × ρ)) (rest : List ρ)
    (h1 : d.map Prod.snd ++ rest = recs) (h2 : d.Pairwise (fun a b => a.1 < b.1)) (hs : Stored db d) :
    WrOk recs db (nextApp cfg d rest).1 ∧ ∀ x, (nextApp cfg d rest).2 = some x → WrRet recs db x := by
  cases rest with
  | nil =>
    refine ⟨trivial, fun x h => ?_⟩
    cases h
    exact ⟨by simpa using h1, h2, hs⟩
  | cons a t =>
    refine ⟨?_, fun x h => by cases h⟩
    simp only [nextApp]
    split <;> exact ⟨h1, h2⟩

theorem stored_le {cfg : Cfg} {db : Redis ρ} {pcs : Pcs ρ} (h : InvP cfg db pcs) {d : List (Int × ρ)} (hd : Stored db d)
    (c : Int) (hc : db.counter = some c) : ∀ p ∈ d, p.1 < c + 1 := by
  intro p hp
  obtain ⟨c', hc', _, hle⟩ := h.range _ _ (hd p hp)
  rw [hc] at hc'; cases hc'; omega

theorem wrOk_step (cfg : Cfg) (recs : List ρ) (w : Nat) (db : Redis ρ) (pcs : Pcs ρ) (pc : PC ρ)
    (hinv : InvP cfg db pcs) (hw : pcs w = some pc) (h : WrOk recs db pc) :
    WrOk recs (stepW cfg db pc).1 (stepW cfg db pc).2.1 ∧
    ∀ x, (stepW cfg db pc).2.2.ret = some x → WrRet recs (stepW cfg db pc).1 x := by
  cases pc with
  | appSetnx recs' =>
    subst h
    cases hc : db.counter <;> simp only [stepW, hc] <;>
      exact nextApp_wrOk cfg recs' _ [] recs' (by simp) (by simp) (by intro p hp; cases hp)
  | appEval d r rest =>
    obtain ⟨h1, h2⟩ := h
    obtain ⟨_, hcn, hd⟩ := hinv.loc w _ hw
    obtain ⟨c, hc⟩ := Option.ne_none_iff_exists'.1 hcn
    have hext := (hinv.eval_step w d r rest hw c hc).2
    simp only [stepW, incrVal, hc, Option.getD_some]
    exact nextApp_wrOk cfg recs _ _ rest (by simp [← h1]) (pairwise_snoc h2 (stored_le hinv hd c hc))
      (stored_snoc (hd.mono hext) (by simp [setLog_log]))
  | appIncr d r rest =>
    obtain ⟨h1, h2⟩ := h
    obtain ⟨_, hcn, hd⟩ := hinv.loc w _ hw
    obtain ⟨c, hc⟩ := Option.ne_none_iff_exists'.1 hcn
    simp only [stepW, incrVal, hc, Option.getD_some]
    exact ⟨⟨h1, h2, stored_le hinv hd c hc⟩, fun x h => by cases h⟩
  | appSet d n r rest =>
    obtain ⟨h1, h2, h3⟩ := h
    obtain ⟨_, _, hnone, hd⟩ := hinv.loc w _ hw
    simp only [stepW]
    exact nextApp_wrOk cfg recs _ _ rest (by simp [← h1]) (pairwise_snoc h2 h3)
      (stored_snoc (hd.mono (ext_setLog _ _ _ hnone)) (by simp [setLog_log]))
  | idle => exact ⟨trivial, fun x h => by cases h⟩
  | _ => exact h.elim

/-- **an `append_logs(recs)` that returns** has stored every record of `recs`, in order, under strictly
increasing numbers -/
theorem writer_returns_stored (cfg : Cfg) (w : Nat) (recs : List ρ) (mid : List (Ev ρ)) (st : St ρ)
    (hinv : Inv cfg st) (hpc : pcOf st w = some (.appSetnx recs)) (hnc : NoCall w mid)
    (d : List (Int × ρ)) (hret : (step cfg (run cfg st mid) (.step w)).2.ret = some (.appended d)) :
    d.map Prod.snd = recs ∧ d.Pairwise (fun a b => a.1 < b.1) ∧
      Stored (step cfg (run cfg st mid) (.step w)).1.db d :=
  local_ret cfg w (WrOk recs) (WrRet recs) (fun _ _ _ _ h => h) (wrOk_step cfg recs w)
    mid st hinv ⟨_, hpc, rfl⟩ hnc _ hret

theorem collect_slice (log : Int → Option ρ) (k : Int) (f : Nat) : Slice log k (collect log k f) := by
  induction f generalizing k with
  | zero => exact slice_nil log k
  | succ f ih =>
    simp only [collect]
    cases hk : log k with
    | none => exact slice_nil log k
    | some r => exact slice_cons.2 ⟨hk, ih (k + 1)⟩

theorem slice_prefix_collect (log : Int → Option ρ) (l : List ρ) (k : Int) (h : Slice log k l) (f : Nat)
    (hf : l.length ≤ f) : l <+: collect log k f := by
  induction l generalizing k f with
  | nil => exact List.nil_prefix
  | cons a t ih =>
    obtain ⟨h0, ht⟩ := slice_cons.1 h
    obtain ⟨g, rfl⟩ : ∃ g, f = g + 1 := ⟨f - 1, by simp only [List.length_cons] at hf; omega⟩
    simp only [collect, h0]
    exact List.cons_prefix_cons.2 ⟨rfl, ih (k + 1) ht g (by simpa using hf)⟩

theorem officialLog_slice (db : Redis ρ) : Slice db.log 0 (officialLog db) := by
  unfold officialLog
  cases db.counter with
  | none => exact slice_nil _ _
  | some c => exact collect_slice db.log 0 _

theorem slice_prefix_official {cfg : Cfg} {db : Redis ρ} {pcs : Pcs ρ} (h : InvP cfg db pcs) (p : List ρ)
    (hp : Slice db.log 0 p) : p <+: officialLog db := by
  cases p with
  | nil => exact List.nil_prefix
  | cons a t =>
    -- the last key read is within `0..counter`
    obtain ⟨c, hc, _, hle⟩ := h.range _ _ (hp t.length (by simp))
    unfold officialLog
    rw [hc]
    exact slice_prefix_collect db.log _ 0 hp _ (by simp only [List.length_cons]; omega)

theorem officialLog_mono {cfg : Cfg} {db db' : Redis ρ} {pcs' : Pcs ρ} (h' : InvP cfg db' pcs') (he : Ext db db') :
    officialLog db <+: officialLog db' :=
  slice_prefix_official h' _ ((officialLog_slice db).mono he.log)

end OptunaVerif.JournalRedis
