import OptunaVerif.Lemmas.InMemoryMaps
import OptunaVerif.Lemmas.Storage
/-!
# The in-memory storage model refines the storage contract: the definitions (for `Props/C01InMem.lean`)

This file holds `Inv`, `Rel` and the lemmas that read the contract state through `Rel`; the frame lemmas are in
`InMemoryFrames`, the simulation one method at a time in `InMemorySteps` … `InMemorySteps4` (`sim_all`).

`Inv`  : what the redundant fields of `InMemoryStorage` (`_trial_id_to_study_id_and_number`,
         `_study_name_to_id`, `_prev_waiting_trial_number`, `best_trial_id`) promise about `_studies`.
`Rel`  : the abstraction — which contract state an in-memory state stands for.  The observable part
         of the contract state is a *function* of the in-memory state (`absStudies`, `absTrial?`, the
         per-study trial lists); what the contract model keeps of deleted studies' trials is not
         observable and not stored by the implementation, so `Rel` leaves it free.
-/
namespace OptunaVerif.InMemory
open OptunaVerif.Storage

/-- the studies of the contract state an in-memory state stands for: position = study id -/
def absStudies (m : State) : List (Option StudyS) :=
  (List.range m.nextStudyId).map (fun i => (m.studies.get? i).map StudyInfo.pub)

/-- the live trial behind an id, as the contract sees it -/
def absTrial? (m : State) (tid : Nat) : Option TrialS :=
  match getTrial m tid with
  | .ok f => some f.t
  | .error _ => none

/-- exactly one objective value, not NaN (what `Study.tell` / `add_trial` guarantee of a COMPLETE trial) -/
def goodVals : Option (List XVal) → Bool
  | some [v] => v != .nan
  | _ => false

/-- `StudyDirection.MINIMIZE` / `MAXIMIZE`, at least one -/
def dirsOk (dirs : List Nat) : Bool := dirs != [] && dirs.all (fun d => d == 1 || d == 2)

/-- the value of `t` is at least as good as that of every COMPLETE trial of `l`; position `ex` is
left out (the trial `_update_cache` is looking at). -/
def Dominates (d : Nat) (l : List (Nat × TrialS)) (ex : Option Nat) (t : TrialS) : Prop :=
  ∃ v : XVal, t.value0? = some v ∧
    ∀ (k : Nat) (q : Nat × TrialS) (w : XVal), some k ≠ ex → l[k]? = some q → q.2.state = .complete →
      q.2.value0? = some w → betterEq d v w = true

/-- the dictionaries agree with `_studies` -/
structure InvS (m : State) : Prop where
  sKeys : (m.studies.map (·.1)).Pairwise (· < ·)
  sBound : ∀ sid si, m.studies.get? sid = some si → sid < m.nextStudyId
  names : ∀ name sid, m.nameToId.get? name = some sid ↔ ∃ si, m.studies.get? sid = some si ∧ si.name = name
  tmap : ∀ tid sid num, m.tidMap.get? tid = some (sid, num) ↔
    ∃ si t, m.studies.get? sid = some si ∧ si.trials[num]? = some (tid, t)
  tfields : ∀ sid si (num tid : Nat) t, m.studies.get? sid = some si → si.trials[num]? = some (tid, t) →
    t.number = num ∧ t.study = sid ∧ tid < m.nextTrialId
  dirs : ∀ sid si, m.studies.get? sid = some si → dirsOk si.directions = true

/-- best-trial cache of one study, with position `ex` left out -/
structure BestOk (si : StudyInfo) (ex : Option Nat) : Prop where
  none_ : si.bestTrialId = none → ∀ (j : Nat) p, some j ≠ ex → si.trials[j]? = some p → p.2.state ≠ .complete
  some_ : ∀ b, si.bestTrialId = some b → ∃ (j : Nat) (t : TrialS), some j ≠ ex ∧ si.trials[j]? = some (b, t) ∧ t.state = .complete ∧
    ∀ d, si.directions = [d] → Dominates d si.trials ex t

/-- `_prev_waiting_trial_number[study_id]` exists, is a position of the list (or its length) and no
trial before it is WAITING -/
def PWOk (m : State) : Prop :=
  ∀ sid si, m.studies.get? sid = some si → ∃ c, m.prevWaiting.get? sid = some c ∧ c ≤ si.trials.length ∧
    ∀ (j : Nat) p, j < c → si.trials[j]? = some p → p.2.state ≠ .waiting

/-- COMPLETE trials of single-objective studies carry exactly one value, not NaN -/
def GoodOk (m : State) : Prop :=
  ∀ sid si d, m.studies.get? sid = some si → si.directions = [d] →
    ∀ (j : Nat) p, si.trials[j]? = some p → p.2.state = .complete → goodVals p.2.values = true

/-- the caches are sound -/
structure InvC (m : State) : Prop where
  pw : PWOk m
  good : GoodOk m
  best : ∀ sid si, m.studies.get? sid = some si → BestOk si none

def Inv (m : State) : Prop := InvS m ∧ InvC m

/-- The contract state `s` is one that the in-memory state `m` stands for. -/
structure Rel (m : State) (s : Spec) : Prop where
  studies : s.studies = absStudies m
  ntrials : s.trials.length = m.nextTrialId
  trialsOf : ∀ sid si, m.studies.get? sid = some si → s.trialsOf sid = si.trials
  bound : ∀ t ∈ s.trials, t.study < s.studies.length

theorem absStudies_length (m : State) : (absStudies m).length = m.nextStudyId := by
  simp [absStudies]

theorem absStudies_getElem? (m : State) (i : Nat) :
    (absStudies m)[i]? = if i < m.nextStudyId then some ((m.studies.get? i).map StudyInfo.pub) else none := by
  unfold absStudies
  rw [List.getElem?_map]
  by_cases h : i < m.nextStudyId
  · simp [h]
  · simp [h]

theorem Rel.nstudies {m : State} {s : Spec} (hR : Rel m s) : s.studies.length = m.nextStudyId :=
  hR.studies ▸ absStudies_length m

theorem study?_eq_get? (m : State) (s : Spec) (hS : InvS m) (hR : Rel m s) (sid : Nat) :
    s.study? sid = (m.studies.get? sid).map StudyInfo.pub := by
  unfold Spec.study?
  rw [hR.studies, absStudies_getElem?]
  by_cases h : sid < m.nextStudyId
  · simp [h]
  · simp only [h, if_false, Option.join_none]
    cases hg : m.studies.get? sid with
    | none => rfl
    | some si => exact absurd (hS.sBound sid si hg) h

theorem studies_eq_abs {m : State} {s : Spec} (hlen : s.studies.length = m.nextStudyId)
    (hst : ∀ i, i < m.nextStudyId → s.study? i = (m.studies.get? i).map StudyInfo.pub) : s.studies = absStudies m := by
  apply List.ext_getElem?
  intro i
  rw [absStudies_getElem?]
  split
  · next hi =>
    have := hst i hi
    unfold Spec.study? at this
    rw [List.getElem?_eq_getElem (hlen ▸ hi)] at this ⊢
    exact congrArg some this
  · next hi => exact List.getElem?_eq_none (by omega)

theorem study?_some (m : State) (s : Spec) (hS : InvS m) (hR : Rel m s) (sid : Nat) (si : StudyInfo)
    (h : m.studies.get? sid = some si) : s.study? sid = some si.pub := by
  rw [study?_eq_get? m s hS hR, h]; rfl

theorem study?_none (m : State) (s : Spec) (hS : InvS m) (hR : Rel m s) (sid : Nat)
    (h : m.studies.get? sid = none) : s.study? sid = none := by
  rw [study?_eq_get? m s hS hR, h]; rfl

theorem getTrial_ok (m : State) (s : Spec) (hS : InvS m) (hR : Rel m s) (tid : Nat) (f : Found)
    (h : getTrial m tid = .ok f) :
    f.id = tid ∧ (∃ si, m.studies.get? f.sid = some si ∧ si.trials[f.num]? = some (tid, f.t)) ∧
    m.tidMap.get? tid = some (f.sid, f.num) ∧
    f.t.study = f.sid ∧ f.t.number = f.num ∧ s.trials[tid]? = some f.t ∧ s.trial? tid = some f.t := by
  obtain ⟨hm, si, hsi, ht⟩ := (getTrial_ok_iff m tid f).1 h
  -- the id stored in the record is the key it was found under
  obtain ⟨si', t', hsi', ht'⟩ := (hS.tmap tid f.sid f.num).1 hm
  rw [hsi] at hsi'; cases hsi'
  have hid : f.id = tid := (Prod.mk.inj (Option.some.inj (ht.symm.trans ht'))).1
  rw [hid] at ht
  obtain ⟨hnum, hstudy, _⟩ := hS.tfields f.sid si f.num tid f.t hsi ht
  have hmem : (tid, f.t) ∈ s.trialsOf f.sid := by
    rw [hR.trialsOf f.sid si hsi]; exact List.mem_of_getElem? ht
  obtain ⟨hget, _⟩ := (mem_trialsOf s f.sid tid f.t).1 hmem
  refine ⟨hid, ⟨si, hsi, ht⟩, hm, hstudy, hnum, hget, ?_⟩
  rw [trial?_some_iff]
  refine ⟨hget, ?_⟩
  rw [hstudy, study?_some m s hS hR f.sid si hsi]; rfl

theorem getTrial_error (m : State) (s : Spec) (hS : InvS m) (hR : Rel m s) (tid : Nat) (e : Err)
    (h : getTrial m tid = .error e) : e = .keyError ∧ m.tidMap.get? tid = none ∧ s.trial? tid = none := by
  unfold getTrial at h
  cases hm : m.tidMap.get? tid with
  | some p =>
    obtain ⟨sid, num⟩ := p
    simp only [hm] at h
    obtain ⟨si, t, hsi, ht⟩ := (hS.tmap tid sid num).1 hm
    simp [hsi, ht] at h
  | none =>
    simp only [hm, Except.error.injEq] at h
    refine ⟨h.symm, rfl, ?_⟩
    cases ht : s.trial? tid with
    | none => rfl
    | some t =>
      exfalso
      obtain ⟨hget, hlive⟩ := (trial?_some_iff s tid t).1 ht
      rw [study?_eq_get? m s hS hR] at hlive
      cases hsi : m.studies.get? t.study with
      | none => simp [hsi] at hlive
      | some si =>
        have hmem : (tid, t) ∈ s.trialsOf t.study := (mem_trialsOf s t.study tid t).2 ⟨hget, rfl⟩
        rw [hR.trialsOf t.study si hsi] at hmem
        obtain ⟨j, hj⟩ := List.getElem?_of_mem hmem
        have := (hS.tmap tid t.study j).2 ⟨si, t, hsi, hj⟩
        rw [hm] at this; cases this

theorem getUpdatable_ok (m : State) (s : Spec) (hS : InvS m) (hR : Rel m s) (tid : Nat) (f : Found)
    (h : getUpdatable m tid = .ok f) :
    getTrial m tid = .ok f ∧ s.writable tid = .ok f.t ∧ f.t.state.isFinished = false := by
  obtain ⟨hg, hfin⟩ := (getUpdatable_ok_iff m tid f).1 h
  exact ⟨hg, (writable_ok_iff s tid f.t).2 ⟨(getTrial_ok m s hS hR tid f hg).2.2.2.2.2.2, hfin⟩, hfin⟩

theorem getUpdatable_error (m : State) (s : Spec) (hS : InvS m) (hR : Rel m s) (tid : Nat) (e : Err)
    (h : getUpdatable m tid = .error e) : s.writable tid = .error e := by
  rcases (getUpdatable_error_iff m tid e).1 h with hg | ⟨f, hg, hfin, rfl⟩
  · obtain ⟨he, _, hnone⟩ := getTrial_error m s hS hR tid e hg
    subst he
    simp [Spec.writable, hnone]
  · simp [Spec.writable, (getTrial_ok m s hS hR tid f hg).2.2.2.2.2.2, hfin]

end OptunaVerif.InMemory
