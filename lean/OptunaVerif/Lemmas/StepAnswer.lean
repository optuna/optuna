import OptunaVerif.Model.Storage
/-!
What `Storage.step` can answer to an operation: a value of the operation's own shape (`shapeOK`), or one of the operation's error
classes (`stepErrs`), and then the state is the one before.  `step_answer` is the one case analysis of `step` behind
`C01GrpcGen.step_shape`, `C01Grpc.step_err_raisable` and `C01.failed_op_changes_nothing`.
-/
namespace OptunaVerif.C01GrpcGen
open OptunaVerif.Storage

def shapeOK : Op → Out → Bool
  | _, .err _ => true
  | .createStudy .., .newId _ => true
  | .deleteStudy .., .unit => true
  | .setStudyUserAttr .., .unit => true
  | .setStudySystemAttr .., .unit => true
  | .createTrial .., .newId _ => true
  | .setTrialParam .., .unit => true
  | .setTrialStateValues .., .bool _ => true
  | .setTrialInter .., .unit => true
  | .setTrialUserAttr .., .unit => true
  | .setTrialSystemAttr .., .unit => true
  | .getStudyIdFromName .., .nat _ => true
  | .getStudyNameFromId .., .str _ => true
  | .getStudyDirections .., .nats _ => true
  | .getStudyUserAttrs .., .attrs _ => true
  | .getStudySystemAttrs .., .attrs _ => true
  | .getAllStudies, .studies _ => true
  | .getTrialIdFromNumber .., .nat _ => true
  | .getTrialNumberFromId .., .nat _ => true
  | .getTrialParam .., .str _ => true
  | .getTrial .., .trial .. => true
  | .getAllTrials .., .trials _ => true
  | .getNTrials .., .nat _ => true
  | .getBestTrial .., .oneOf _ => true
  | _, _ => false

end OptunaVerif.C01GrpcGen

namespace OptunaVerif.Storage
open OptunaVerif.C01GrpcGen

def stepErrs : Op → List Err
  | .createStudy .. => [.duplicated]
  | .getAllStudies => []
  | .createTrial .. => [.keyError, .valueError]
  | .setTrialParam .. => [.keyError, .updateFinished, .valueError]
  | .setTrialStateValues .. | .setTrialInter .. | .setTrialUserAttr .. | .setTrialSystemAttr .. => [.keyError, .updateFinished]
  | .getBestTrial .. => [.keyError, .valueError, .runtimeError]
  | _ => [.keyError]

theorem writable_err (s : Spec) (tid : Nat) (e : Err) (h : s.writable tid = .error e) :
    e = .keyError ∨ e = .updateFinished := by
  unfold Spec.writable at h
  split at h
  · cases h; exact Or.inl rfl
  · split at h
    · cases h; exact Or.inr rfl
    · cases h

structure Answer (s : Spec) (op : Op) (r : Spec × Out) : Prop where
  shape : shapeOK op r.2 = true
  err : ∀ e, r.2 = .err e → r.1 = s ∧ e ∈ stepErrs op

theorem Answer.ofErr (s : Spec) (op : Op) (e : Err) (h : (stepErrs op).elem e = true) : Answer s op (s, .err e) :=
  ⟨by cases op <;> rfl, fun _ h' => by cases h'; exact ⟨rfl, List.mem_of_elem_eq_true h⟩⟩

theorem Answer.ofValue (s s' : Spec) (op : Op) (o : Out) (h : shapeOK op o = true) (hne : ∀ e, o ≠ .err e) : Answer s op (s', o) :=
  ⟨h, fun e h' => absurd h' (hne e)⟩

theorem step_answer (s : Spec) (op : Op) : Answer s op (step s op) := by
  cases op <;> simp only [step]
  all_goals (repeat' split)
  -- every leaf of `step` is an error literal, a value, or the error of the `writable` guard
  all_goals first
    | exact .ofErr _ _ _ rfl
    | exact .ofValue _ _ _ _ rfl (fun _ h => Out.noConfusion h)
    | (rename_i heq; rcases writable_err _ _ _ heq with rfl | rfl <;> exact .ofErr _ _ _ rfl)

/-- a call whose method returns `None` answers `unit` or an error -/
theorem step_unit_or_err (s : Spec) (op : Op) (hu : shapeOK op .unit = true) :
    (step s op).2 = .unit ∨ ∃ e, (step s op).2 = .err e := by
  have h := (step_answer s op).shape
  generalize (step s op).2 = o at h ⊢
  cases op <;> first
    | exact Bool.noConfusion hu
    | (cases o <;> first | exact .inl rfl | exact .inr ⟨_, rfl⟩ | exact Bool.noConfusion h)

end OptunaVerif.Storage
