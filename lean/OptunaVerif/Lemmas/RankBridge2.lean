import OptunaVerif.Lemmas.RankBridge
/-! Bridge, constrained branch: the three-scatter reference `fastRef` of `_fast_non_domination_rank` (Lemmas/RankIR.lean) is the hand model
`Rank.fastRank` (Model/Rank.lean).  The one step that is not bookkeeping: the offset of the third group is a maximum over an INTERLEAVED selection of the
ranks of the first two groups (`np.max(ranks[~is_penalty_nan])`), the hand model's over their concatenation — equal because a maximum only
depends on the set of values (`Rank.topRank_congr`). -/
namespace OptunaVerif.RankIR
open OptunaVerif.Hypervolume OptunaVerif.Rank

theorem zipAnd_map {α : Type} (f g : α → Bool) (l : List α) : zipAnd (l.map f) (l.map g) = l.map (fun a => f a && g a) := by
  induction l with
  | nil => rfl
  | cons a t ih => simp only [List.map_cons, zipAnd, ih]

def qC (c : PClass) (e : Row) : Bool := classify e.2 == c

theorem mask_nan (rows : List Row) : isnanOf (rows.map (·.2)) = rows.map (qC .unknown) := by
  rw [isnanOf, List.map_map]
  apply List.map_congr_left
  rintro ⟨_, v⟩ _
  cases v with
  | none => rfl
  | some x => by_cases h : x ≤ 0 <;> simp [qC, classify, h]

theorem mask_notnan (rows : List Row) : (isnanOf (rows.map (·.2))).map (fun x => !x) = rows.map (fun e => !qC .unknown e) := by
  rw [mask_nan, List.map_map]; rfl

theorem mask_feas (rows : List Row) :
    zipAnd ((isnanOf (rows.map (·.2))).map (fun x => !x)) (penLe0Of (rows.map (·.2))) = rows.map (qC .feasible) := by
  rw [mask_notnan, penLe0Of, List.map_map, zipAnd_map]
  apply List.map_congr_left
  rintro ⟨_, v⟩ _
  cases v with
  | none => rfl
  | some x => by_cases h : x ≤ 0 <;> simp [qC, classify, h]

theorem mask_infeas (rows : List Row) :
    zipAnd ((isnanOf (rows.map (·.2))).map (fun x => !x)) (penGt0Of (rows.map (·.2))) = rows.map (qC .infeasible) := by
  rw [mask_notnan, penGt0Of, List.map_map, zipAnd_map]
  apply List.map_congr_left
  rintro ⟨_, v⟩ _
  cases v with
  | none => rfl
  | some x =>
    by_cases h : x ≤ 0
    · simp [qC, classify, h, Int.not_lt.mpr h]
    · simp [qC, classify, h, Int.not_le.mp h]

theorem scatterMask_map {α : Type} (q : α → Bool) (f g : α → Int) (L : List α) :
    scatterMask (L.map g) (L.map q) ((L.filter q).map f) = L.map (fun a => if q a then f a else g a) := by
  induction L with
  | nil => rfl
  | cons a t ih => cases hq : q a <;> simp [scatterMask, hq, ih]

theorem countTrue_map {α : Type} (q : α → Bool) (L : List α) : countTrueOf (L.map q) = ((L.filter q).length : Int) := by
  induction L with
  | nil => rfl
  | cons a t ih =>
    simp only [countTrueOf] at ih ⊢
    cases hq : q a <;> simp [hq] at ih ⊢ <;> omega

theorem maxInit_topRank_aux (A : List Nat) : ∀ m : Nat,
    (A.map Int.ofNat).foldl max ((m : Int) - 1) + 1 = ((A.foldl (fun m x => max m (x + 1)) m : Nat) : Int) := by
  induction A with
  | nil => intro m; simp
  | cons a t ih =>
    intro m
    simp only [List.map_cons, List.foldl_cons]
    have : max ((m : Int) - 1) (Int.ofNat a) = ((max m (a + 1) : Nat) : Int) - 1 := by
      simp only [Int.ofNat_eq_natCast]; omega
    rw [this, ih]

theorem maxInit_topRank (A : List Nat) : maxInitOf (A.map Int.ofNat) (-1) + 1 = ((topRank A : Nat) : Int) := by
  have := maxInit_topRank_aux A 0
  simpa [maxInitOf, topRank] using this

theorem maxInit_sel {α : Type} (q : α → Bool) (g : α → Int) (ρ : α → Nat) (L : List α) (h : ∀ a ∈ L, q a = true → g a = Int.ofNat (ρ a)) :
    maxInitOf (selMask (L.map g) (L.map q)) (-1) + 1 = ((topRank ((L.filter q).map ρ) : Nat) : Int) := by
  rw [selMask_map_map, ← maxInit_topRank, List.map_map]
  congr 2
  exact List.map_congr_left fun a ha => h a (List.mem_of_mem_filter ha) (List.mem_filter.1 ha).2

/-- the callee of `_fast_non_domination_rank` as the hand model has it -/
def cR : Nat → List Pt → Int → List Int := fun d m n => (calcRank d m (some n)).map Int.ofNat

theorem rowsOf_eq (c : PClass) (rows : List Row) : rowsOf c rows = rows.filter (qC c) := rfl

/-- **fast_core** — the three scatter writes of the constrained branch (masks = the classes of the hand model, callee = the hand model's
`calcRank`) produce, row by row, the hand model's `fastRankFn` -/
theorem fast_core (d : Nat) (rows : List Row) (nb : Int) :
    let mF := rows.map (qC .feasible)
    let mI := rows.map (qC .infeasible)
    let mN := rows.map (qC .unknown)
    let mNN := rows.map (fun e => !qC .unknown e)
    let r1 := scatterMask (List.replicate rows.length (-1)) mF (cR d ((rows.filter (qC .feasible)).map (·.1)) nb)
    let nb1 := nb - ((rows.filter (qC .feasible)).length : Int)
    let topI := maxInitOf (selMask r1 mF) (-1) + 1
    let r2 := scatterMask r1 mI ((cR 1 (newaxisOf ((rows.filter (qC .infeasible)).map (·.2))) nb1).map (fun v => topI + v))
    let nb2 := nb1 - ((rows.filter (qC .infeasible)).length : Int)
    let topN := maxInitOf (selMask r2 mNN) (-1) + 1
    scatterMask r2 mN ((cR d ((rows.filter (qC .unknown)).map (·.1)) nb2).map (fun v => topN + v)) = rows.map (fun e => Int.ofNat (fastRankFn d rows nb e)) := by
  intro mF mI mN mNN r1 nb1 topI r2 nb2 topN
  obtain ⟨hfe, hie, hue⟩ := fastRankFn_groups d rows nb
  set ρ := fastRankFn d rows nb
  -- after each write the array holds `ρ` at the rows written so far, so each offset is the top of `ρ` over those rows (`fastRankFn_groups`)
  have cls : ∀ {c e}, e ∈ rows.filter (qC c) → classify e.2 = c := fun h => by simpa [qC] using (List.mem_filter.1 h).2
  have hr1 : r1 = rows.map (fun e => if qC .feasible e then Int.ofNat (ρ e) else -1) := by
    rw [← scatterMask_map, List.map_const']
    show scatterMask _ _ (cR d _ nb) = _
    congr 1
    simp only [cR, calcRank, List.map_map]
    exact List.map_congr_left fun e he => by simp only [Function.comp, hfe e (cls he)]; rfl
  have htopI : topI = ((topRank ((rowsOf .feasible rows).map ρ) : Nat) : Int) := by
    simp only [topI, hr1]
    exact maxInit_sel _ _ ρ rows fun e _ h => by simp only [h, if_true]
  have hr2 : r2 = rows.map (fun e => if qC .infeasible e then Int.ofNat (ρ e) else if qC .feasible e then Int.ofNat (ρ e) else -1) := by
    rw [← scatterMask_map, ← hr1]
    show scatterMask _ _ ((cR 1 _ nb1).map fun v => topI + v) = _
    rw [htopI]
    congr 1
    simp only [cR, calcRank, newaxisOf, List.map_map]
    exact List.map_congr_left fun e he => by
      simp only [Function.comp, hie e (cls he), nb1, penaltyRows, rowsOf_eq, List.length_map]; rfl
  -- the offset of the third group: a maximum over the interleaved first two groups
  have htopN : topN = ((topRank ((rowsOf .feasible rows ++ rowsOf .infeasible rows).map ρ) : Nat) : Int) := by
    simp only [topN, hr2]
    rw [maxInit_sel _ _ ρ rows fun e _ h => by
      cases hc : classify e.2 <;> simp [qC, hc] at h ⊢]
    congr 1
    apply topRank_congr
    intro x
    simp only [List.mem_map, mem_ranked, List.mem_filter, qC]
    exact exists_congr fun e => by simp
  rw [hr2]
  show scatterMask _ _ ((cR d _ nb2).map fun v => topN + v) = _
  rw [htopN]
  have : (cR d ((rows.filter (qC .unknown)).map (·.1)) nb2).map (fun v => ((topRank ((rowsOf .feasible rows ++ rowsOf .infeasible rows).map ρ) : Nat) : Int) + v) =
      (rows.filter (qC .unknown)).map (fun e => Int.ofNat (ρ e)) := by
    simp only [cR, calcRank, List.map_map]
    exact List.map_congr_left fun e he => by
      simp only [Function.comp, hue e (cls he), nb2, nb1, penaltyRows, rowsOf_eq, List.length_map]; rfl
  rw [this, scatterMask_map]
  exact List.map_congr_left fun e _ => by cases hc : classify e.2 <;> simp [qC, hc]

/-- the callee as generated (array reference, loop bound `n_unique`) -/
def cH : Nat → List Pt → Int → List Int := fun d m n => calcRef frontH (uniqueLex m).length d m (some n)

theorem cH_eq_cR (d : Nat) (m : List Pt) (n : Int) (hm : ∀ q ∈ m, q.length = d) : cH d m n = cR d m n :=
  calcRef_eq_calcRank d m hm (some n)

theorem fastRef_rows (d : Nat) (rows : List Row) (hd : ∀ e ∈ rows, e.1.length = d) (nBelow : Option Int)
    (hne : rows ≠ []) (hpos : 0 < nbOr nBelow rows.length) :
    fastRef cH d (rows.map (·.1)) (some (rows.map (·.2))) nBelow =
      .ints (rows.map (fun e => Int.ofNat (fastRankFn d rows (nbOr nBelow rows.length) e))) := by
  have hlen0 : ¬ rows.length = 0 := fun h => hne (List.length_eq_zero_iff.mp h)
  unfold fastRef
  simp only [List.length_map, hlen0, if_false, hpos, not_true_eq_false, ne_eq]
  generalize nbOr nBelow rows.length = nb
  rw [mask_feas, mask_infeas, mask_notnan, mask_nan]
  simp only [countTrue_map, selMask_map_map]
  have hSd : ∀ c, ∀ q ∈ (rows.filter (qC c)).map (·.1), q.length = d := fun c q hq => by
    obtain ⟨e, he, rfl⟩ := List.mem_map.mp hq; exact hd e (List.mem_of_mem_filter he)
  rw [cH_eq_cR d _ _ (hSd _), cH_eq_cR d _ _ (hSd _),
    cH_eq_cR 1 _ _ (by intro r hr; simp only [newaxisOf, List.mem_map] at hr; obtain ⟨v, _, rfl⟩ := hr; rfl)]
  have core := fast_core d rows nb
  simp only [] at core
  rw [core]
  have hall : (rows.map (fun e => Int.ofNat (fastRankFn d rows nb e))).all (fun v => v != -1) = true := by
    rw [List.all_eq_true]
    intro v hv
    obtain ⟨e, _, rfl⟩ := List.mem_map.mp hv
    simp
  rw [if_pos hall]

/-- **fastRef_eq_fastRank** — the three-scatter reference of the constrained branch, with the callee as generated, is the hand model
`Rank.fastRank`: every array of rows with `d` columns (the empty array included), every penalty vector of that length (NaN entries, an empty feasible /
infeasible / NaN group), `n_below` `None` or any natural number (a negative one fails the `assert` of the source) -/
theorem fastRef_eq_fastRank (d : Nat) (S : List Pt) (hS : ∀ q ∈ S, q.length = d) (pen : List (Option Int)) (hlen : pen.length = S.length)
    (nBelow : Option Nat) :
    fastRef cH d S (some pen) (nBelow.map Int.ofNat) = .ints (((fastRank d S (some pen) nBelow).getD []).map Int.ofNat) := by
  by_cases hS0 : S = []
  · subst hS0
    simp [fastRef, fastRank]
  · have h1 : (S.zip pen).map (·.1) = S := List.map_fst_zip (by omega)
    have h2 : (S.zip pen).map (·.2) = pen := List.map_snd_zip (by omega)
    have hl : (S.zip pen).length = S.length := by simp [hlen]
    have key := fastRef_rows d (S.zip pen) (fun e he => hS e.1 (List.of_mem_zip he).1) (nBelow.map Int.ofNat)
      (fun h => hS0 (by rw [← h1, h]; rfl))
      (by rw [hl, nbOr_map_ofNat]; exact nbOf_pos nBelow (List.length_pos_iff.mpr hS0))
    rw [h1, h2, hl, nbOr_map_ofNat] at key
    rw [key, fastRank_some d S pen nBelow hlen, Option.getD_some, List.map_map]
    rfl

end OptunaVerif.RankIR
