import OptunaVerif.Model.InMemoryCursor
/-! The WAITING cursor of InMemoryStorage never hides a WAITING trial.  `waitingFrom` lists the positions of the WAITING
entries (`waitingFrom_eq`: a filter of `List.zipIdx`), so membership, order and append are core's lemmas about `zipIdx`. -/
namespace OptunaVerif.InMemoryCursor

theorem waitingFrom_eq (l : List TState) (i : Nat) :
    waitingFrom l i = ((l.zipIdx i).filter (·.1 = .waiting)).map (·.2) := by
  induction l generalizing i with
  | nil => rfl
  | cons a r ih => rw [waitingFrom, ih, List.zipIdx_cons, List.filter_cons]; split <;> simp [*]

theorem mem_waitingFrom (l : List TState) (i n : Nat) :
    n ∈ waitingFrom l i ↔ i ≤ n ∧ l[n - i]? = some .waiting := by
  simp [waitingFrom_eq, List.mem_zipIdx_iff_le_and_getElem?_sub]

theorem waitingFrom_sorted (l : List TState) (i : Nat) : (waitingFrom l i).Pairwise (· < ·) := by
  rw [waitingFrom_eq, List.pairwise_map]
  exact (List.pairwise_map.1 (List.zipIdx_map_snd i l ▸ List.pairwise_lt_range')).filter _

theorem waitingFrom_append (l1 l2 : List TState) (i : Nat) :
    waitingFrom (l1 ++ l2) i = waitingFrom l1 i ++ waitingFrom l2 (i + l1.length) := by
  simp [waitingFrom_eq, List.zipIdx_append]

def Inv (s : St) : Prop :=
  s.cursor ≤ s.states.length ∧ ∀ (j : Nat) (st : TState), j < s.cursor → s.states[j]? = some st → st ≠ TState.waiting

theorem inv_iff (s : St) : Inv s ↔ s.cursor ≤ s.states.length ∧ ∀ n, s.states[n]? = some .waiting → s.cursor ≤ n :=
  and_congr_right fun _ => ⟨fun h n hn => Nat.le_of_not_lt fun hlt => h n _ hlt hn rfl,
    fun h j _ hj hget hst => Nat.lt_irrefl _ (Nat.lt_of_lt_of_le hj (h j (hst ▸ hget)))⟩

theorem mem_scan (s : St) (n : Nat) : n ∈ scan s ↔ s.cursor ≤ n ∧ s.states[n]? = some .waiting := by
  rw [scan, mem_waitingFrom, List.getElem?_drop]
  exact and_congr_right fun h => by rw [show s.cursor + (n - s.cursor) = n by omega]

theorem scan_eq_all (s : St) (h : Inv s) : scan s = allWaiting s := by
  unfold scan allWaiting
  conv => rhs; rw [← List.take_append_drop s.cursor s.states]
  rw [waitingFrom_append]
  have hnil : waitingFrom (s.states.take s.cursor) 0 = [] :=
    List.eq_nil_iff_forall_not_mem.2 fun n hn => by
      rw [mem_waitingFrom, List.getElem?_take] at hn
      split at hn
      · exact absurd ((inv_iff s).1 h |>.2 n hn.2) (by omega)
      · simp at hn
  rw [hnil]
  simp [Nat.min_eq_left h.1]

theorem inv_step (s : St) (op : Op) (h : Inv s) : Inv (step s op).1 := by
  rw [inv_iff] at h ⊢
  obtain ⟨hc, hw⟩ := h
  fun_cases step s op
  next st =>
    -- a new trial is at `s.states.length`, which is not below the cursor
    refine ⟨by simp; omega, fun n hn => ?_⟩
    by_cases hl : n < s.states.length
    · exact hw n (by simpa [List.getElem?_append_left hl] using hn)
    · show s.cursor ≤ n; omega
  next => exact ⟨hc, hw⟩
  next => exact ⟨hc, hw⟩
  next => exact ⟨hc, hw⟩
  next n st _ _ _ _ =>
    refine ⟨by simp only [List.length_set]; split <;> omega, fun j hj => ?_⟩
    simp only [List.getElem?_set] at hj ⊢
    split at hj
    · -- trial `n` itself: it is WAITING only if it was set so, and then the cursor is at most `n`
      subst_vars
      split at hj
      · cases hj; exact Nat.min_le_right _ _
      · cases hj
    · have := hw j hj
      split <;> omega
  next found =>
    -- a WAITING trial is at or after the cursor, hence listed by the scan
    have listed : ∀ n, s.states[n]? = some .waiting → n ∈ scan s := fun n hn => (mem_scan s n).2 ⟨hw n hn, hn⟩
    cases hf : scan s with
    | nil => exact ⟨by simp [found, hf], fun n hn => by have := listed n hn; rw [hf] at this; cases this⟩
    | cons n rest =>
      have hs : (n :: rest).Pairwise (· < ·) := hf ▸ waitingFrom_sorted _ _
      have hn := (mem_scan s n).1 (hf ▸ List.mem_cons_self)
      simp only [found, hf]
      refine ⟨Nat.le_of_lt (List.getElem?_eq_some_iff.1 hn.2).1, fun m hm => ?_⟩
      rcases List.mem_cons.1 (hf ▸ listed m hm) with rfl | hm'
      · exact Nat.le_refl _
      · exact Nat.le_of_lt (List.rel_of_pairwise_cons hs hm')

end OptunaVerif.InMemoryCursor
