import OptunaVerif.Model.TruncNormQ
import Mathlib.Data.Real.Basic
import Mathlib.Order.Monotone.Basic
import Mathlib.Tactic.Linarith
import Mathlib.Tactic.Ring
import Mathlib.Tactic.FieldSimp
/-!
# C18 — `_bisect`: bracket invariants of the executable model `TruncNormQ.bisectLoop` / `bracket`

The loop runs on rationals (every float is one); the function being inverted is real valued and enters only
through the oracle `below m ↔ f m < c`, exactly as in the code (`if f(m) < c`).
-/
namespace OptunaVerif.TruncNormQ

theorem bracket_same (below : Rat → Bool) (n : Nat) (a : Rat) : bracket below n a a = (a, a) := by
  induction n with
  | zero => rfl
  | succ n ih =>
    have h : (a + a) / 2 = a := by ring
    simp only [bracket, h, ih, ite_self]

/-- The value returned by the loop is the midpoint of the final bracket (the early exit `a == m or b == m`
fires over `ℚ` only when the bracket is a single point, where it returns that point). -/
theorem bisectLoop_eq_mid (below : Rat → Bool) (n : Nat) (a b : Rat) :
    bisectLoop below n a b = ((bracket below n a b).1 + (bracket below n a b).2) / 2 := by
  induction n generalizing a b with
  | zero => rfl
  | succ n ih =>
    simp only [bisectLoop, bracket]
    by_cases hexit : (a == (a + b) / 2 || b == (a + b) / 2) = true
    · have hab : a = b := by
        simp only [Bool.or_eq_true, beq_iff_eq] at hexit
        rcases hexit with h | h <;> linarith
      subst hab
      have h : (a + a) / 2 = a := by ring
      simp only [h, bracket_same, ite_self, beq_self_eq_true, Bool.or_self, if_true]
    · simp only [hexit, Bool.false_eq_true, if_false]
      split <;> exact ih _ _

theorem bracket_width (below : Rat → Bool) (n : Nat) (a b : Rat) :
    (bracket below n a b).2 - (bracket below n a b).1 = (b - a) / 2 ^ n := by
  fun_induction bracket below n a b with
  | case1 => simp
  | case2 n a b m _ ih => rw [ih, pow_succ]; simp only [m]; field_simp; ring
  | case3 n a b m _ ih => rw [ih, pow_succ]; simp only [m]; field_simp; ring

theorem bracket_sandwich (f : ℚ → ℝ) (c : ℝ) (below : Rat → Bool) (hb : ∀ m, below m = true ↔ f m < c)
    (n : Nat) (a b : Rat) (ha : f a ≤ c) (hbc : c ≤ f b) :
    f (bracket below n a b).1 ≤ c ∧ c ≤ f (bracket below n a b).2 := by
  fun_induction bracket below n a b with
  | case1 => exact ⟨ha, hbc⟩
  | case2 n a b m h ih => exact ih ((hb _).mp h).le hbc
  | case3 n a b m h ih => exact ih ha (not_lt.mp fun hlt => h ((hb _).mpr hlt))

theorem bracket_contains_root_mono (f : ℝ → ℝ) (hf : StrictMono f) (c xs : ℝ) (hx : f xs = c)
    (below : Rat → Bool) (hb : ∀ m : ℚ, below m = true ↔ f m < c)
    (n : Nat) (a b : Rat) (ha : (a : ℝ) ≤ xs) (hbx : xs ≤ (b : ℝ)) :
    ((bracket below n a b).1 : ℝ) ≤ xs ∧ xs ≤ ((bracket below n a b).2 : ℝ) := by
  have h := bracket_sandwich (fun q => f q) c below hb n a b
    (by rw [← hx]; exact hf.monotone ha) (by rw [← hx]; exact hf.monotone hbx)
  rw [← hx] at h
  exact ⟨hf.le_iff_le.mp h.1, hf.le_iff_le.mp h.2⟩

/-- `_bisect` in the increasing case: the root lies right of the left end, so the orientation test `f(a) > c` fails and the
ends are not swapped. -/
theorem bisect_error_mono (f : ℝ → ℝ) (hf : StrictMono f) (c xs : ℝ) (hx : f xs = c)
    (above below : Rat → Bool) (ha : ∀ m : ℚ, above m = true ↔ c < f m) (hb : ∀ m : ℚ, below m = true ↔ f m < c)
    (n : Nat) (a b : Rat) (hax : (a : ℝ) ≤ xs) (hbx : xs ≤ (b : ℝ)) :
    |((bisect above below n a b : ℚ) : ℝ) - xs| ≤ ((b : ℝ) - a) / 2 ^ (n + 1) := by
  have hno : ¬ above a = true := fun h => absurd ((ha _).mp h) (not_lt.mpr (hx ▸ hf.monotone hax))
  have hr := bracket_contains_root_mono f hf c xs hx below hb n a b hax hbx
  have hw : (((bracket below n a b).2 : ℚ) : ℝ) - ((bracket below n a b).1 : ℝ) = ((b : ℝ) - a) / 2 ^ n := by
    exact_mod_cast bracket_width below n a b
  rw [bisect, if_neg hno, bisectLoop_eq_mid, pow_succ, ← div_div, ← hw, abs_le]
  push_cast
  constructor <;> linarith [hr.1, hr.2]

/-- While every test `f(m) < c` between the two ends fails, the loop only ever moves its second end.  (So when the target
lies *below* the bracket of an increasing function, where the orientation test `f(a) > c` has swapped the ends, the loop walks
to the *far* end: this is what makes `ppf` return `∓100` when the true quantile lies beyond `±100`, a reported finding.) -/
theorem bracket_fst_of_not_below (below : Rat → Bool) (n : Nat) (x : Rat) :
    ∀ y : Rat, y ≤ x → (∀ m, y ≤ m → m ≤ x → below m = false) → (bracket below n x y).1 = x := by
  induction n with
  | zero => intro y _ _; rfl
  | succ n ih =>
    intro y hyx h
    have hm1 : y ≤ (x + y) / 2 := by linarith
    have hm2 : (x + y) / 2 ≤ x := by linarith
    simp only [bracket, h _ hm1 hm2, Bool.false_eq_true, if_false]
    exact ih _ hm2 fun m h1 h2 => h m (hm1.trans h1) h2

end OptunaVerif.TruncNormQ
