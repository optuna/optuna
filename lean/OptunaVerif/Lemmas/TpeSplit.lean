import OptunaVerif.Model.TpeSplit
import OptunaVerif.Lemmas.Direction
import Mathlib.Data.Nat.Sqrt
/-! Helper lemmas for the TPE split (C13 / C09): permutation bookkeeping of the classification and of the
sub-splits; `splitTrials_map`: the split commutes with any relabelling of the trials that keeps what it reads, which the
negated trial of a single-objective study (`negT`) and the trial with a subset of objectives flipped (`flipT`) do; the
index computation of the multi-objective split (`indicesWhere`, `lastRank`, the tie set handed to HSSP), and bounds on
the weights (`ceilSqrt`, `linspaceAt`, `fill`: every weight lies in `[eps, 1]`). -/
namespace OptunaVerif.TpeSplit
open OptunaVerif.Direction (Dir sortBy sortBy_perm sortBy_map_of_le sortBy_pairwise)

theorem take_drop_sort_perm {α : Type} (le : α → α → Bool) (l : List α) (n : Nat) :
    ((sortBy le l).take n ++ (sortBy le l).drop n).Perm l := by
  rw [List.take_append_drop]; exact sortBy_perm le l

theorem take_drop_map {α β : Type} (f : α → β) (l : List α) (n : Nat) :
    ((l.map f).take n, (l.map f).drop n) = ((l.take n).map f, (l.drop n).map f) := by
  rw [List.map_take, List.map_drop]

theorem splitCompleteSingle_perm (d : Dir) (ts : List Trial) (n : Nat) :
    ((splitCompleteSingle d ts n).1 ++ (splitCompleteSingle d ts n).2).Perm ts := by
  unfold splitCompleteSingle
  cases d <;> exact take_drop_sort_perm _ _ _

theorem splitPruned_perm (d : Dir) (ts : List Trial) (n : Nat) :
    ((splitPruned d ts n).1 ++ (splitPruned d ts n).2).Perm ts := by
  unfold splitPruned; exact take_drop_sort_perm _ _ _

theorem splitInfeasible_perm (ts : List Trial) (n : Nat) :
    ((splitInfeasible ts n).1 ++ (splitInfeasible ts n).2).Perm ts := by
  unfold splitInfeasible; exact take_drop_sort_perm _ _ _

theorem byMembership_perm (ts : List Trial) (sel : List Nat) :
    ((byMembership ts sel).1 ++ (byMembership ts sel).2).Perm ts := by
  unfold byMembership
  simp only
  rw [← List.map_append]
  have h := (List.filter_append_perm (fun (e : Trial × Nat) => sel.contains e.2) ts.zipIdx).map Prod.fst
  rw [List.zipIdx_map_fst] at h
  exact h

theorem splitCompleteMulti_perm (K : Kernels) (dirs : List Dir) (ts : List Trial) (n : Nat) :
    ((splitCompleteMulti K dirs ts n).1 ++ (splitCompleteMulti K dirs ts n).2).Perm ts := by
  unfold splitCompleteMulti
  split
  · simp
  split
  · simp
  exact byMembership_perm _ _

theorem splitComplete_perm (K : Kernels) (dirs : List Dir) (ts : List Trial) (n : Nat) :
    ((splitComplete K dirs ts n).1 ++ (splitComplete K dirs ts n).2).Perm ts := by
  unfold splitComplete
  simp only
  split
  · exact splitCompleteSingle_perm _ _ _
  · exact splitCompleteMulti_perm _ _ _ _

theorem splitCompleteSingle_length (d : Dir) (ts : List Trial) (n : Nat) :
    (splitCompleteSingle d ts n).1.length = min n ts.length := by
  unfold splitCompleteSingle
  cases d <;> simp [List.length_take]

theorem splitPruned_length (d : Dir) (ts : List Trial) (n : Nat) :
    (splitPruned d ts n).1.length = min n ts.length := by
  unfold splitPruned; simp [List.length_take]

theorem splitInfeasible_length (ts : List Trial) (n : Nat) :
    (splitInfeasible ts n).1.length = min n ts.length := by
  unfold splitInfeasible; simp [List.length_take]

theorem ofClass_cons (ce : Bool) (c : Cls) (t : Trial) (rest : List Trial) :
    ofClass ce c (t :: rest) = if classify ce t = c then t :: ofClass ce c rest else ofClass ce c rest := by
  simp only [ofClass, List.filter_cons, decide_eq_true_eq]

theorem classes_perm (ce : Bool) (ts : List Trial) (h : ∀ t ∈ ts, classify ce t ≠ .bad) :
    (ofClass ce .complete ts ++ ofClass ce .pruned ts ++ ofClass ce .infeasible ts ++ ofClass ce .running ts).Perm ts := by
  induction ts with
  | nil => simp [ofClass]
  | cons t rest ih =>
    -- `t` joins exactly one of the four classes: compare the number of occurrences of any trial
    have ih' := ih (fun x hx => h x (List.mem_cons_of_mem _ hx))
    have ht := h t List.mem_cons_self
    rw [List.perm_iff_count] at ih' ⊢
    intro a
    have := ih' a
    simp only [ofClass_cons, List.count_append] at this ⊢
    cases hc : classify ce t with
    | bad => exact absurd hc ht
    | _ => simp only [reduceCtorEq, if_true, if_false, List.count_cons]; omega

theorem classify_running_iff (ce : Bool) (t : Trial) : classify ce t = .running ↔ t.state = .running := by
  unfold classify
  by_cases h : t.state = .running
  · simp [h]
  · simp only [h, if_false, iff_false]
    split_ifs <;> simp

theorem ofClass_running_eq (ce : Bool) (ts : List Trial) :
    ofClass ce .running ts = ts.filter (fun t => t.state = .running) := by
  unfold ofClass
  apply List.filter_congr
  intro t _
  simp only [decide_eq_decide]
  exact classify_running_iff ce t

theorem nFinished_add_running (ce : Bool) (ts : List Trial) :
    nFinished ts + (ofClass ce .running ts).length = ts.length := by
  rw [ofClass_running_eq]
  unfold nFinished
  have := List.length_eq_length_filter_add (l := ts) (fun t => decide (t.state = .running))
  have h2 : (ts.filter (fun t => decide (t.state ≠ .running))) = ts.filter (fun t => !decide (t.state = .running)) := by
    apply List.filter_congr; intro t _; simp
  rw [h2]; omega

theorem classes_length (ce : Bool) (ts : List Trial) (h : ∀ t ∈ ts, classify ce t ≠ .bad) :
    (ofClass ce .complete ts).length + (ofClass ce .pruned ts).length + (ofClass ce .infeasible ts).length = nFinished ts := by
  have h1 := (classes_perm ce ts h).length_eq
  have h2 := nFinished_add_running ce ts
  simp only [List.length_append] at h1
  omega

theorem ofClass_map (ce : Bool) (c : Cls) (f : Trial → Trial) (hf : ∀ t, classify ce (f t) = classify ce t) (ts : List Trial) :
    ofClass ce c (ts.map f) = (ofClass ce c ts).map f := by
  unfold ofClass
  rw [List.filter_map]
  congr 1
  apply List.filter_congr
  intro t _
  simp [hf]

theorem mem_ofClass {ce : Bool} {c : Cls} {ts : List Trial} {t : Trial} (h : t ∈ ofClass ce c ts) : classify ce t = c := by
  unfold ofClass at h
  simpa using (List.mem_filter.mp h).2

theorem not_running_of_class {ce : Bool} {c : Cls} {t : Trial} (h : classify ce t = c) (hc : c ≠ .running) :
    t.state ≠ .running := by
  intro hs
  exact hc (h ▸ (classify_running_iff ce t).mpr hs)

theorem ofClass_filter_notRunning (ce : Bool) (c : Cls) (hc : c ≠ .running) (ts : List Trial) :
    ofClass ce c (ts.filter (fun t => t.state ≠ .running)) = ofClass ce c ts := by
  unfold ofClass
  rw [List.filter_filter]
  apply List.filter_congr
  intro t _
  by_cases h : classify ce t = c
  · have := not_running_of_class h hc
    simp [h, this]
  · simp [h]

/-- the pruned trials may be scored under another direction after the relabelling, as long as every score stays the same -/
theorem splitPruned_map (d d' : Dir) (f : Trial → Trial) (ts : List Trial) (n : Nat)
    (hf : ∀ t ∈ ts, prunedScore d' (f t) = prunedScore d t) :
    splitPruned d' (ts.map f) n = ((splitPruned d ts n).1.map f, (splitPruned d ts n).2.map f) := by
  unfold splitPruned
  simp only [List.length_map]
  rw [sortBy_map_of_le _ _ f ts (fun a ha b hb => by rw [hf a ha, hf b hb]), take_drop_map]

theorem splitInfeasible_map (f : Trial → Trial) (hf : ∀ t, infeasibleScore (f t) = infeasibleScore t) (ts : List Trial) (n : Nat) :
    splitInfeasible (ts.map f) n = ((splitInfeasible ts n).1.map f, (splitInfeasible ts n).2.map f) := by
  unfold splitInfeasible
  simp only [List.length_map]
  rw [sortBy_map_of_le _ _ f ts (fun a _ b _ => by rw [hf, hf]), take_drop_map]

theorem sortByNumber_map (f : Trial → Trial) (hf : ∀ t, (f t).number = t.number) (ts : List Trial) :
    sortByNumber (ts.map f) = (sortByNumber ts).map f :=
  sortBy_map_of_le _ _ f ts (fun a _ b _ => by rw [hf, hf])

theorem filter_zipIdx_map (f : Trial → Trial) (p : Nat → Bool) (ts : List Trial) (k : Nat) :
    (((ts.map f).zipIdx k).filter (fun e => p e.2)).map (·.1) = (((ts.zipIdx k).filter (fun e => p e.2)).map (·.1)).map f := by
  rw [List.zipIdx_map, List.filter_map, List.map_map, List.map_map]
  rfl

theorem byMembership_map (f : Trial → Trial) (ts : List Trial) (sel : List Nat) :
    byMembership (ts.map f) sel = ((byMembership ts sel).1.map f, (byMembership ts sel).2.map f) := by
  unfold byMembership
  rw [filter_zipIdx_map f (fun i => sel.contains i), filter_zipIdx_map f (fun i => !sel.contains i)]

theorem moSelect_congr (K : Kernels) (dirs dirs' : List Dir) (ts ts' : List Trial) (n : Nat)
    (h : lossMatrix dirs' ts' = lossMatrix dirs ts) : moSelect K dirs' ts' n = moSelect K dirs ts n := by
  unfold moSelect
  rw [h]

theorem splitCompleteMulti_map (K : Kernels) (dirs dirs' : List Dir) (f : Trial → Trial) (ts : List Trial) (n : Nat)
    (h : lossMatrix dirs' (ts.map f) = lossMatrix dirs ts) :
    splitCompleteMulti K dirs' (ts.map f) n =
      ((splitCompleteMulti K dirs ts n).1.map f, (splitCompleteMulti K dirs ts n).2.map f) := by
  unfold splitCompleteMulti
  simp only [List.length_map]
  split
  · rfl
  split
  · rfl
  rw [moSelect_congr K dirs dirs' ts _ n h, byMembership_map]

/-- Both direction mirrors of `Props/C13Tpe.lean` are instances. -/
theorem splitTrials_map (K : Kernels) (dirs dirs' : List Dir) (ce : Bool) (f : Trial → Trial) (ts : List Trial) (nBelow : Nat)
    (hcls : ∀ t, classify ce (f t) = classify ce t) (hnum : ∀ t, (f t).number = t.number)
    (hinf : ∀ t, infeasibleScore (f t) = infeasibleScore t)
    (hcomp : ∀ l n, splitComplete K dirs' (l.map f) n = ((splitComplete K dirs l n).1.map f, (splitComplete K dirs l n).2.map f))
    (hpr : ∀ t ∈ ofClass ce .pruned ts, prunedScore (dir0 dirs') (f t) = prunedScore (dir0 dirs) t) :
    splitTrials K dirs' ce (ts.map f) nBelow =
      ((splitTrials K dirs ce ts nBelow).1.map f, (splitTrials K dirs ce ts nBelow).2.map f) := by
  unfold splitTrials
  simp only [ofClass_map ce _ f hcls, hcomp, List.length_map, splitPruned_map _ _ f _ _ hpr, splitInfeasible_map f hinf,
    ← List.map_append, sortByNumber_map f hnum]

/-- the trial of the mirrored single-objective run -/
def negT (t : Trial) : Trial :=
  { t with values := t.values.map xneg, iv := t.iv.map (fun p => (p.1, xneg p.2)) }

@[simp] theorem xneg_xneg (v : XVal) : xneg (xneg v) = v := by cases v <;> simp [xneg]

theorem xle_neg (a b : XVal) : xle (xneg a) (xneg b) = xle b a := by
  cases a <;> cases b <;> simp [xle, xneg, XVal.le]

theorem value0_negT (t : Trial) : value0 (negT t) = xneg (value0 t) := by
  unfold value0 negT
  cases t.values <;> simp [xneg]

theorem classify_negT (ce : Bool) (t : Trial) : classify ce (negT t) = classify ce t := rfl

theorem lastEntry_map (f : XVal → XVal) (iv : List (Int × XVal)) :
    lastEntry (iv.map (fun p => (p.1, f p.2))) = (lastEntry iv).map (fun p => (p.1, f p.2)) := by
  induction iv with
  | nil => rfl
  | cons p t ih =>
    simp only [List.map_cons, lastEntry, ih]
    cases lastEntry t with
    | none => rfl
    | some m => simp only [Option.map_some]; split <;> rfl

theorem prunedScore_negT (t : Trial) : prunedScore .minimize (negT t) = prunedScore .maximize t := by
  unfold prunedScore negT
  simp only [lastEntry_map]
  cases lastEntry t.iv with
  | none => rfl
  | some p =>
    obtain ⟨s, v⟩ := p
    cases v <;> simp [xneg]

theorem infeasibleScore_negT (t : Trial) : infeasibleScore (negT t) = infeasibleScore t := rfl

theorem splitCompleteSingle_negT (ts : List Trial) (n : Nat) :
    splitCompleteSingle .minimize (ts.map negT) n =
      ((splitCompleteSingle .maximize ts n).1.map negT, (splitCompleteSingle .maximize ts n).2.map negT) := by
  unfold splitCompleteSingle
  simp only
  rw [sortBy_map_of_le _ _ negT ts (fun a _ b _ => by rw [value0_negT, value0_negT, xle_neg]), take_drop_map]

theorem splitComplete_single_negT (K : Kernels) (ts : List Trial) (n : Nat) :
    splitComplete K [.minimize] (ts.map negT) n =
      ((splitComplete K [.maximize] ts n).1.map negT, (splitComplete K [.maximize] ts n).2.map negT) := by
  unfold splitComplete
  simp only [List.length_map, List.length_singleton, Nat.le_refl, if_true, dir0, List.headD_cons]
  exact splitCompleteSingle_negT ts _

def flipX : List Bool → List XVal → List XVal
  | m :: ms, v :: vs => (if m then xneg v else v) :: flipX ms vs
  | _, vs => vs

/-- the trial of the run in which the objectives marked in `mask` are negated -/
def flipT (mask : List Bool) (t : Trial) : Trial := { t with values := flipX mask t.values }

theorem flipDirs_length (mask : List Bool) (dirs : List Dir) (h : mask.length = dirs.length) :
    (Direction.flipDirs mask dirs).length = dirs.length := by
  induction mask generalizing dirs with
  | nil => cases dirs <;> simp_all [Direction.flipDirs]
  | cons m ms ih =>
    cases dirs with
    | nil => simp at h
    | cons d ds => simp only [Direction.flipDirs, List.length_cons]; rw [ih ds (by simpa using h)]

theorem lossRow_flip (mask : List Bool) (dirs : List Dir) (vs : List XVal) (h : mask.length = dirs.length) :
    lossRow (Direction.flipDirs mask dirs) (flipX mask vs) = lossRow dirs vs := by
  induction mask generalizing dirs vs with
  | nil => cases dirs <;> simp_all [Direction.flipDirs, flipX, lossRow]
  | cons m ms ih =>
    cases dirs with
    | nil => simp at h
    | cons d ds =>
      cases vs with
      | nil => simp [Direction.flipDirs, flipX, lossRow]
      | cons v vs =>
        simp only [Direction.flipDirs, flipX, lossRow]
        rw [ih ds vs (by simpa using h)]
        cases m <;> cases d <;> simp [Direction.Dir.flip]

theorem lossMatrix_flip (mask : List Bool) (dirs : List Dir) (ts : List Trial) (h : mask.length = dirs.length) :
    lossMatrix (Direction.flipDirs mask dirs) (ts.map (flipT mask)) = lossMatrix dirs ts := by
  unfold lossMatrix
  rw [List.map_map]
  apply List.map_congr_left
  intro t _
  simp only [Function.comp, flipT]
  exact lossRow_flip mask dirs t.values h

theorem splitComplete_flip (K : Kernels) (mask : List Bool) (dirs : List Dir) (ts : List Trial) (n : Nat)
    (hd : 1 < dirs.length) (h : mask.length = dirs.length) :
    splitComplete K (Direction.flipDirs mask dirs) (ts.map (flipT mask)) n =
      ((splitComplete K dirs ts n).1.map (flipT mask), (splitComplete K dirs ts n).2.map (flipT mask)) := by
  unfold splitComplete
  simp only [flipDirs_length mask dirs h, show ¬ dirs.length ≤ 1 by omega, if_false, List.length_map]
  exact splitCompleteMulti_map K dirs _ (flipT mask) ts _ (lossMatrix_flip mask dirs ts h)

theorem prunedScore_indep (d d' : Dir) (t : Trial) (h : needsDirection t = false) : prunedScore d t = prunedScore d' t := by
  unfold prunedScore
  unfold needsDirection at h
  cases hl : lastEntry t.iv with
  | none => rfl
  | some p =>
    obtain ⟨s, v⟩ := p
    rw [hl] at h
    cases v <;> simp at h
    rfl

theorem mem_indicesWhere (p : Nat → Bool) (ranks : List Nat) (i : Nat) :
    i ∈ indicesWhere p ranks ↔ ∃ r, ranks[i]? = some r ∧ p r = true := by
  unfold indicesWhere
  simp only [List.mem_map, List.mem_filter, Prod.exists]
  constructor
  · rintro ⟨r, j, ⟨hm, hp⟩, rfl⟩
    exact ⟨r, List.mk_mem_zipIdx_iff_getElem?.mp hm, hp⟩
  · rintro ⟨r, hr, hp⟩
    exact ⟨r, i, ⟨List.mk_mem_zipIdx_iff_getElem?.mpr hr, hp⟩, rfl⟩

theorem indicesWhere_nodup (p : Nat → Bool) (ranks : List Nat) : (indicesWhere p ranks).Nodup := by
  unfold indicesWhere
  have hs : ((ranks.zipIdx.filter (fun e => p e.1)).map (·.2)).Sublist (ranks.zipIdx.map (·.2)) :=
    (List.filter_sublist).map _
  have : ranks.zipIdx.map (·.2) = List.range' 0 ranks.length := List.zipIdx_map_snd 0 ranks
  rw [this] at hs
  exact hs.nodup (List.nodup_range' (step := 1) (by omega))

theorem indicesWhere_length (p : Nat → Bool) (ranks : List Nat) :
    (indicesWhere p ranks).length = (ranks.filter p).length := by
  unfold indicesWhere
  rw [List.length_map]
  have h : (ranks.zipIdx.filter (fun e => p e.1)).map (·.1) = ranks.filter p := by
    have := List.filter_map (f := (Prod.fst : Nat × Nat → Nat)) (p := p) (l := ranks.zipIdx)
    rw [List.zipIdx_map_fst] at this
    rw [this]; rfl
  rw [← h, List.length_map]

theorem indicesWhere_lt (p : Nat → Bool) (ranks : List Nat) (i : Nat) (h : i ∈ indicesWhere p ranks) : i < ranks.length := by
  obtain ⟨r, hr, _⟩ := (mem_indicesWhere p ranks i).mp h
  exact (List.getElem?_eq_some_iff.mp hr).1

theorem foldl_max_spec (l : List Nat) (m M : Int) (h : l.foldl (fun (m : Int) (r : Nat) => max m (r : Int)) m = M) :
    m ≤ M ∧ (∀ r ∈ l, (r : Int) ≤ M) ∧ (M = m ∨ ∃ r ∈ l, M = (r : Int)) := by
  induction l generalizing m with
  | nil => exact ⟨h ▸ Int.le_refl _, by simp, Or.inl h.symm⟩
  | cons x t ih =>
    obtain ⟨h1, h2, h3⟩ := ih (max m (x : Int)) h
    refine ⟨by omega, fun r hr => (List.mem_cons.mp hr).elim (fun e => by omega) (h2 r), ?_⟩
    rcases h3 with h3 | ⟨r, hr, h3⟩
    · rcases Int.le_total m (x : Int) with hmx | hmx
      · exact Or.inr ⟨x, List.mem_cons_self, by omega⟩
      · exact Or.inl (by omega)
    · exact Or.inr ⟨r, List.mem_cons_of_mem _ hr, h3⟩

theorem lastRank_spec (ranks : List Nat) (n : Nat) :
    -1 ≤ lastRank ranks n ∧ (∀ r ∈ ranks, countLe ranks r ≤ n → (r : Int) ≤ lastRank ranks n) ∧
    (lastRank ranks n = -1 ∨ ∃ r ∈ ranks, countLe ranks r ≤ n ∧ lastRank ranks n = (r : Int)) := by
  obtain ⟨h1, h2, h3⟩ := foldl_max_spec (ranks.filter (fun r => decide (countLe ranks r ≤ n))) (-1) _ rfl
  refine ⟨h1, fun r hr hc => h2 r (List.mem_filter.mpr ⟨hr, by simpa using hc⟩), h3.imp id ?_⟩
  rintro ⟨r, hr, h⟩
  exact ⟨r, (List.mem_filter.mp hr).1, by simpa using (List.mem_filter.mp hr).2, h⟩

/-- `len(indices_below) ≤ n_below`, by the definition of `last_rank_before_tiebreak` -/
theorem idxBelow_length_le (ranks : List Nat) (n : Nat) :
    (indicesWhere (fun r => decide ((r : Int) ≤ lastRank ranks n)) ranks).length ≤ n := by
  rw [indicesWhere_length]
  rcases (lastRank_spec ranks n).2.2 with h | ⟨r, _, hc, h⟩
  · rw [h, List.filter_eq_nil_iff.mpr (by intro a _; simp; omega)]
    exact Nat.zero_le _
  · rw [h]
    simpa only [Int.ofNat_le, countLe] using hc

/-- the tie set is large enough for the HSSP call: `subset_size < #{rank = last + 1}` -/
theorem tie_large_enough (ranks : List Nat) (n : Nat)
    (hcont : ∀ r ∈ ranks, ∀ r' < r, r' ∈ ranks)
    (hlt : (indicesWhere (fun r => decide ((r : Int) ≤ lastRank ranks n)) ranks).length < n) (hn : n < ranks.length) :
    n - (indicesWhere (fun r => decide ((r : Int) ≤ lastRank ranks n)) ranks).length <
      (indicesWhere (fun r => decide ((r : Int) = lastRank ranks n + 1)) ranks).length := by
  simp only [indicesWhere_length] at hlt ⊢
  obtain ⟨hL, hmax, _⟩ := lastRank_spec ranks n
  obtain ⟨m, hm⟩ : ∃ m : Nat, (m : Int) = lastRank ranks n + 1 := ⟨(lastRank ranks n + 1).toNat, by omega⟩
  -- some rank exceeds `last`
  obtain ⟨r0, hr0, hr0L⟩ := List.length_filter_lt_length_iff_exists.mp (Nat.lt_trans hlt hn)
  simp only [decide_eq_true_eq, Int.not_le] at hr0L
  -- so `last + 1` is a rank, the ranks being contiguous
  have hmem : m ∈ ranks := (Nat.lt_or_eq_of_le (by omega : m ≤ r0)).elim (hcont r0 hr0 m) (fun e => e ▸ hr0)
  -- `m` is not among the ranks whose cumulative count fits
  have hbig : n < countLe ranks m := by
    by_contra hle
    have := hmax m hmem (by omega)
    omega
  unfold countLe at hbig
  -- the rows of rank `≤ m` are those of rank `≤ last` and those of rank `last + 1`
  have hsplit := List.length_eq_length_filter_add (l := ranks.filter (fun x => decide (x ≤ m)))
    (fun (r : Nat) => decide ((r : Int) ≤ lastRank ranks n))
  have e1 : ∀ x : Nat, (decide ((x : Int) ≤ lastRank ranks n) && decide (x ≤ m)) = decide ((x : Int) ≤ lastRank ranks n) :=
    fun x => by rw [← Bool.decide_and]; exact decide_eq_decide.mpr (by omega)
  have e2 : ∀ x : Nat, (!decide ((x : Int) ≤ lastRank ranks n) && decide (x ≤ m)) = decide ((x : Int) = lastRank ranks n + 1) :=
    fun x => by rw [← decide_not, ← Bool.decide_and]; exact decide_eq_decide.mpr (by omega)
  simp only [List.filter_filter, e1, e2] at hsplit
  omega

theorem byMembership_length (ts : List Trial) (sel : List Nat) (hnd : sel.Nodup) (hlt : ∀ i ∈ sel, i < ts.length) :
    (byMembership ts sel).1.length = sel.length := by
  unfold byMembership
  simp only [List.length_map]
  have h1 : ((ts.zipIdx.filter (fun e => sel.contains e.2)).map Prod.snd) =
      (List.range' 0 ts.length).filter (fun i => sel.contains i) := by
    rw [← List.zipIdx_map_snd 0 ts, List.filter_map]
    rfl
  have h2 := congrArg List.length h1
  rw [List.length_map] at h2
  rw [h2]
  apply List.Perm.length_eq
  rw [List.perm_ext_iff_of_nodup ((List.nodup_range' (step := 1) (by omega)).filter _) hnd]
  intro a
  simp only [List.mem_filter, List.mem_range'_1, List.contains_iff_mem]
  constructor
  · intro h; exact h.2
  · intro h; exact ⟨⟨by omega, by have := hlt a h; omega⟩, h⟩

theorem sortByNumber_pairwise (l : List Trial) : (sortByNumber l).Pairwise (fun a b => a.number ≤ b.number) := by
  have := sortBy_pairwise (fun (a b : Trial) => decide (a.number ≤ b.number))
    (by intro a b c h1 h2; simp at *; omega) (by intro a b; simp; omega) l
  unfold sortByNumber
  exact this.imp (by intro a b h; simpa using h)

theorem ceilSqrt_le_iff (x m : Nat) : ceilSqrt x ≤ m ↔ x ≤ m * m := by
  unfold ceilSqrt
  simp only
  have h1 := Nat.sqrt_le x
  have h2 := Nat.lt_succ_sqrt x
  split
  · rename_i he
    constructor
    · intro h; rw [← he]; exact Nat.mul_self_le_mul_self h
    · intro h; rw [← he] at h; exact Nat.mul_self_le_mul_self_iff.mp h
  · rename_i hne
    have hlt : Nat.sqrt x * Nat.sqrt x < x := Nat.lt_of_le_of_ne h1 hne
    constructor
    · intro h
      have := Nat.mul_self_le_mul_self h
      simp only [Nat.succ_eq_add_one] at h2
      omega
    · intro h
      have : Nat.sqrt x * Nat.sqrt x < m * m := by omega
      have := Nat.mul_self_lt_mul_self_iff.mp this
      omega

theorem ceilSqrt_le_self (x : Nat) : ceilSqrt x ≤ x := (ceilSqrt_le_iff x x).mpr (Nat.le_mul_self x)

theorem linspaceAt_mono (a : Rat) (num i j : Nat) (ha1 : a ≤ 1) (hij : i ≤ j) :
    linspaceAt a 1 num i ≤ linspaceAt a 1 num j := by
  unfold linspaceAt
  split
  · exact le_refl _
  · rename_i hn
    have hn' : (1 : Rat) < (num : Rat) := by exact_mod_cast (by omega : 1 < num)
    have ht : 0 ≤ (1 - a) / ((num : Rat) - 1) := div_nonneg (by linarith) (by linarith)
    have : (i : Rat) ≤ (j : Rat) := by exact_mod_cast hij
    have := mul_le_mul_of_nonneg_right this ht
    linarith

theorem linspaceAt_zero (a b : Rat) (num : Nat) : linspaceAt a b num 0 = a := by
  unfold linspaceAt
  split <;> simp

theorem linspaceAt_last (a b : Rat) (num : Nat) (h : 1 < num) : linspaceAt a b num (num - 1) = b := by
  unfold linspaceAt
  have hc : ((num - 1 : Nat) : Rat) = (num : Rat) - 1 := by rw [Nat.cast_sub (by omega)]; simp
  have hne : (num : Rat) - 1 ≠ 0 := by
    have : (1 : Rat) < (num : Rat) := by exact_mod_cast h
    linarith
  rw [if_neg (by omega), hc, mul_div_cancel₀ _ hne]
  ring

theorem linspaceAt_bounds (a : Rat) (num i : Nat) (ha1 : a ≤ 1) (hi : i < num) :
    a ≤ linspaceAt a 1 num i ∧ linspaceAt a 1 num i ≤ 1 := by
  rcases Nat.lt_or_ge 1 num with h | h
  · have h0 := linspaceAt_mono a num 0 i ha1 (Nat.zero_le _)
    have h1 := linspaceAt_mono a num i (num - 1) ha1 (by omega)
    rw [linspaceAt_zero] at h0
    rw [linspaceAt_last a 1 num h] at h1
    exact ⟨h0, h1⟩
  · unfold linspaceAt
    rw [if_pos h]
    exact ⟨le_refl _, ha1⟩
theorem eps_pos : (0 : Rat) < eps := by unfold eps; norm_num
theorem eps_le_one : eps ≤ 1 := by unfold eps; norm_num

theorem fill_spec (m : List Bool) (vs : List Rat) (h : ∀ v ∈ vs, eps ≤ v ∧ v ≤ 1) :
    (fill m vs).length = m.length ∧ (∀ w ∈ fill m vs, eps ≤ w ∧ w ≤ 1) ∧
    (∀ p ∈ List.zip m (fill m vs), p.1 = false → p.2 = eps) := by
  induction m generalizing vs with
  | nil => exact ⟨rfl, by simp [fill], by simp [fill]⟩
  | cons b ms ih =>
    match b, vs with
    | false, vs =>
      obtain ⟨h1, h2, h3⟩ := ih vs h
      exact ⟨congrArg (· + 1) h1, List.forall_mem_cons.mpr ⟨⟨le_refl _, eps_le_one⟩, h2⟩,
        List.forall_mem_cons.mpr ⟨fun _ => rfl, h3⟩⟩
    | true, [] =>
      obtain ⟨h1, h2, h3⟩ := ih [] h
      exact ⟨congrArg (· + 1) h1, List.forall_mem_cons.mpr ⟨⟨eps_le_one, le_refl _⟩, h2⟩,
        List.forall_mem_cons.mpr ⟨(fun e => nomatch e), h3⟩⟩
    | true, v :: vs =>
      obtain ⟨h1, h2, h3⟩ := ih vs (fun x hx => h x (List.mem_cons_of_mem _ hx))
      exact ⟨congrArg (· + 1) h1, List.forall_mem_cons.mpr ⟨h v List.mem_cons_self, h2⟩,
        List.forall_mem_cons.mpr ⟨(fun e => nomatch e), h3⟩⟩
theorem le_maxR (cs : List Rat) (c : Rat) (h : c ∈ cs) : c ≤ maxR cs := by
  induction cs with
  | nil => simp at h
  | cons x t ih =>
    cases t with
    | nil => simp at h; rw [h]; exact le_refl _
    | cons y t' =>
      simp only [maxR, Direction.rmax_eq_max]
      rcases List.mem_cons.mp h with rfl | h'
      · exact le_max_left _ _
      · exact (ih h').trans (le_max_right _ _)

theorem rmax_eps_bounds (a : Rat) (h : a ≤ 1) : eps ≤ Direction.rmax a eps ∧ Direction.rmax a eps ≤ 1 := by
  rw [Direction.rmax_eq_max]
  exact ⟨le_max_right _ _, max_le h eps_le_one⟩

end OptunaVerif.TpeSplit
