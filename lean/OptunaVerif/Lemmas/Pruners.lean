import OptunaVerif.Model.Pruners
import OptunaVerif.Lemmas.Basic
import OptunaVerif.Lemmas.SortBasic
/-!
# Helper lemmas for C16 (pruners)

Order facts about `XVal`; `xneg` reverses the order and commutes with the arithmetic, with `lerp` and with
`nanMin`/`nanMax`, so every upper-bound fact is the lower-bound fact of the negated values.  The numpy percentile lies
between any lower and upper bound of the non-NaN inputs, or is NaN.  What one call of the successive-halving and of the
Hyperband pruner does is listed by cases (`shPrune_cases`, `hbPrune_cases`): the theorems about these two reason from the
listed cases.  `interGet` / `rungGet` are core's `List.lookup`, and the study machine's `step` is "rewrite the trial the
call is aimed at" (`act`, `step_eq`).  Hyperband's budgets are the ceilings of the source and, for `n_brackets ≥ 1` and `η ≥ 1`,
positive, so the walk over them assigns every hash a bracket (`budget_is_ceil`, `bracketWalk_lt`, `bracketId_lt`).  Core Lean only.
-/
namespace OptunaVerif.Pruners

theorem xle_refl {a : XVal} (h : xisNan a = false) : XVal.le a a = true :=
  OptunaVerif.xle_refl a (by rintro rfl; cases h)

theorem xle_total {a b : XVal} (ha : xisNan a = false) (hb : xisNan b = false) :
    XVal.le a b = true ∨ XVal.le b a = true :=
  OptunaVerif.xle_total a b (by rintro rfl; cases ha) (by rintro rfl; cases hb)

theorem xle_not_xlt {a b : XVal} (h : XVal.le a b = true) : xlt b a = false := by
  cases a <;> cases b <;> simp_all [XVal.le, xlt]
  exact Rat.not_lt.2 h

theorem xlt_xle {a b : XVal} (h : xlt a b = true) : XVal.le a b = true := by
  cases a <;> cases b <;> simp_all [XVal.le, xlt]
  exact Rat.le_of_lt h

theorem xle_notNan {a b : XVal} (h : XVal.le a b = true) : xisNan a = false ∧ xisNan b = false := by
  cases a <;> cases b <;> simp_all [XVal.le, xisNan]

theorem xlt_nan_left (b : XVal) : xlt .nan b = false := by cases b <;> rfl
theorem xlt_nan_right (a : XVal) : xlt a .nan = false := by cases a <;> rfl

theorem xisNan_nan : xisNan XVal.nan = true := rfl

theorem xisNan_eq_true {a : XVal} : xisNan a = true ↔ a = .nan := by
  cases a <;> simp [xisNan]

@[simp] theorem xneg_xneg (v : XVal) : xneg (xneg v) = v := by cases v <;> simp [xneg]

@[simp] theorem xisNan_xneg (v : XVal) : xisNan (xneg v) = xisNan v := by cases v <;> rfl

theorem xlt_xneg (a b : XVal) : xlt (xneg a) (xneg b) = xlt b a := by
  cases a <;> cases b <;> simp [xlt, xneg]

theorem xle_xneg (a b : XVal) : XVal.le (xneg a) (xneg b) = XVal.le b a := by
  cases a <;> cases b <;> simp [XVal.le, xneg]

theorem xneg_xadd (a b : XVal) : xneg (xadd a b) = xadd (xneg a) (xneg b) := by
  cases a <;> cases b <;> simp [xadd, xneg, Rat.neg_add]

theorem nanMin_spec (l : List XVal) :
    (nanMin l = .nan ∧ ∀ u ∈ l, xisNan u = true) ∨
    (xisNan (nanMin l) = false ∧ nanMin l ∈ l ∧
      ∀ u ∈ l, xisNan u = false → XVal.le (nanMin l) u = true) := by
  -- the paths of `nanMin`: empty (1); a NaN head, skipped (2); else the head when the tail has only NaN (3) or the head is
  -- below the tail's minimum (4), else the tail's minimum (5)
  fun_induction nanMin l with
  | case1 => exact Or.inl ⟨rfl, nofun⟩
  | case2 v t r hv ih =>
    exact ih.imp (fun h => ⟨h.1, List.forall_mem_cons.2 ⟨hv, h.2⟩⟩) fun h =>
      ⟨h.1, List.mem_cons_of_mem _ h.2.1, List.forall_mem_cons.2 ⟨fun hn => absurd hv (by simp [hn]), h.2.2⟩⟩
  | case3 v t r hv hr ih =>
    have hv := Bool.eq_false_iff.2 hv
    obtain ⟨_, h⟩ | ⟨h, _⟩ := ih
    · exact Or.inr ⟨hv, List.mem_cons_self, List.forall_mem_cons.2
        ⟨fun _ => xle_refl hv, fun u hu hn => absurd (h u hu) (by simp [hn])⟩⟩
    · cases h.symm.trans hr
  | case4 v t r hv hr hle ih =>
    have hv := Bool.eq_false_iff.2 hv
    obtain ⟨h, _⟩ | ⟨_, _, h⟩ := ih
    · exact absurd (xisNan_eq_true.2 h) hr
    · exact Or.inr ⟨hv, List.mem_cons_self, List.forall_mem_cons.2
        ⟨fun _ => xle_refl hv, fun u hu hn => xle_trans hle (h u hu hn)⟩⟩
  | case5 v t r hv hr hle ih =>
    obtain ⟨h, _⟩ | ⟨h1, h2, h3⟩ := ih
    · exact absurd (xisNan_eq_true.2 h) hr
    · exact Or.inr ⟨h1, List.mem_cons_of_mem _ h2, List.forall_mem_cons.2
        ⟨fun hn => (xle_total hn h1).resolve_left hle, h3⟩⟩

theorem nanMin_neg (l : List XVal) : nanMin (l.map xneg) = xneg (nanMax l) := by
  induction l with
  | nil => rfl
  | cons v t ih =>
    simp only [List.map_cons, nanMin, nanMax, ih, xisNan_xneg, xle_xneg]
    split
    · rfl
    · split
      · rfl
      · split <;> rfl

theorem nanMax_neg (l : List XVal) : nanMax (l.map xneg) = xneg (nanMin l) := by
  have := nanMin_neg (l.map xneg)
  rw [List.map_map] at this
  have h : (xneg ∘ xneg) = id := by funext v; simp
  rw [h, List.map_id] at this
  rw [this, xneg_xneg]

/-- the maximum is the negated minimum of the negated list -/
theorem nanMax_spec (l : List XVal) :
    (nanMax l = .nan ∧ ∀ u ∈ l, xisNan u = true) ∨
    (xisNan (nanMax l) = false ∧ nanMax l ∈ l ∧
      ∀ u ∈ l, xisNan u = false → XVal.le u (nanMax l) = true) := by
  have e : nanMax l = xneg (nanMin (l.map xneg)) := by rw [nanMin_neg, xneg_xneg]
  have hm : ∀ u ∈ l, xneg u ∈ l.map xneg := fun u hu => List.mem_map_of_mem hu
  rcases nanMin_spec (l.map xneg) with ⟨h1, h2⟩ | ⟨h1, h2, h3⟩
  · left
    refine ⟨by rw [e, h1]; rfl, fun u hu => ?_⟩
    rw [← xisNan_xneg]; exact h2 _ (hm u hu)
  · right
    obtain ⟨w, hw, hwe⟩ := List.mem_map.mp h2
    have e' : nanMax l = w := by rw [e, ← hwe, xneg_xneg]
    refine ⟨by rw [e, xisNan_xneg]; exact h1, e' ▸ hw, fun u hu hn => ?_⟩
    rw [← xle_xneg, e, xneg_xneg]
    exact h3 _ (hm u hu) (by rw [xisNan_xneg]; exact hn)

theorem nanMin_le {l : List XVal} {u : XVal} (hu : u ∈ l) (hn : xisNan u = false) :
    XVal.le (nanMin l) u = true := by
  rcases nanMin_spec l with ⟨_, h2⟩ | ⟨_, _, h3⟩
  · simp [h2 u hu] at hn
  · exact h3 u hu hn

theorem le_nanMax {l : List XVal} {u : XVal} (hu : u ∈ l) (hn : xisNan u = false) :
    XVal.le u (nanMax l) = true := by
  rcases nanMax_spec l with ⟨_, h2⟩ | ⟨_, _, h3⟩
  · simp [h2 u hu] at hn
  · exact h3 u hu hn

def AsGood (d : Dir) (v u : XVal) : Prop :=
  match d with
  | .minimize => XVal.le v u = true
  | .maximize => XVal.le u v = true

theorem bestOverSteps_spec {t : PTrial} (d : Dir) {v : XVal} (hv : v ∈ interValues t) (hn : xisNan v = false) :
    xisNan (bestOverSteps t d) = false ∧ bestOverSteps t d ∈ interValues t ∧
      ∀ u ∈ interValues t, xisNan u = false → AsGood d (bestOverSteps t d) u := by
  cases d with
  | minimize =>
    rcases nanMin_spec (interValues t) with ⟨_, h⟩ | h
    · simp [h v hv] at hn
    · exact h
  | maximize =>
    rcases nanMax_spec (interValues t) with ⟨_, h⟩ | h
    · simp [h v hv] at hn
    · exact h

theorem insertBy_isInsert {α : Type} (le : α → α → Bool) :
    SortBasic.IsInsert (insertBy le) (fun x y => le x y = true) := ⟨fun _ => rfl, fun _ _ _ => rfl⟩

theorem sortBy_isSort {α : Type} (le : α → α → Bool) : SortBasic.IsSort (sortBy le) (insertBy le) := ⟨rfl, fun _ _ => rfl⟩

theorem sortBy_perm {α : Type} (le : α → α → Bool) (l : List α) : (sortBy le l).Perm l :=
  (insertBy_isInsert le).sort_perm (sortBy_isSort le) l

theorem mem_sortBy {α : Type} (le : α → α → Bool) (y : α) (l : List α) : y ∈ sortBy le l ↔ y ∈ l :=
  (sortBy_perm le l).mem_iff

theorem length_sortBy {α : Type} (le : α → α → Bool) (l : List α) : (sortBy le l).length = l.length :=
  (sortBy_perm le l).length_eq

theorem mem_of_sortX_getElem? {l : List XVal} {i : Nat} {a : XVal} (h : (sortX l)[i]? = some a) :
    a ∈ l :=
  (mem_sortBy XVal.le a l).1 (List.mem_of_getElem? h)

theorem xle_ninf (r : XVal) : xisNan r = true ∨ XVal.le .ninf r = true := by
  cases r <;> simp [XVal.le, xisNan]

theorem lerp_lower {m a b : XVal} {t : Rat} (h0 : 0 ≤ t) (h1 : t ≤ 1)
    (ha : XVal.le m a = true) (hb : XVal.le m b = true) :
    xisNan (lerp a b t) = true ∨ XVal.le m (lerp a b t) = true := by
  cases m with
  | nan => simp [XVal.le] at ha
  | ninf => exact xle_ninf _
  | pinf =>
    cases a <;> cases b <;> simp [XVal.le] at ha hb
    left
    simp [lerp, xsub, xadd, xneg, xscale, xisNan]
  | fin m =>
    -- finite neighbours: `lerp - m = (a - m)·(1 - t) + (b - m)·t` in either of numpy's two formulas; with a neighbour `+inf`
    -- (the three cases after) the result is `+inf`, or NaN where `inf·0` or `inf - inf` comes up
    cases a <;> cases b <;> simp [XVal.le] at ha hb
    · rename_i a b
      right
      have h2 : 0 ≤ (b - m) * t := Rat.mul_nonneg (by grind) h0
      have h3 : 0 ≤ (a - m) * (1 - t) := Rat.mul_nonneg (by grind) (by grind)
      simp only [lerp, xsub, xadd, xneg, xscale]
      split
      · simp only [XVal.le, decide_eq_true_eq]; grind
      · simp only [XVal.le, decide_eq_true_eq]; grind
    · rename_i a
      have h1t : ¬ (1 - t < 0) := by grind
      have htp : ¬ (t < 0) := by grind
      simp only [lerp, xsub, xadd, xneg, xscale]
      by_cases ht : (1:Rat)/2 ≤ t <;> by_cases h1 : 0 < 1 - t <;> by_cases h2 : 0 < t <;>
        simp [ht, h1, h2, h1t, htp, xisNan, XVal.le]
    · rename_i b
      have h1t : ¬ (1 - t < 0) := by grind
      have htp : ¬ (t < 0) := by grind
      simp only [lerp, xsub, xadd, xneg, xscale]
      by_cases ht : (1:Rat)/2 ≤ t <;> by_cases h1 : 0 < 1 - t <;> by_cases h2 : 0 < t <;>
        simp [ht, h1, h2, h1t, htp, xisNan, XVal.le]
    · left
      simp [lerp, xsub, xadd, xneg, xscale, xisNan]

theorem xneg_xscale (a : XVal) (t : Rat) : xneg (xscale a t) = xscale (xneg a) t := by
  cases a <;> by_cases h : 0 < t <;> by_cases h' : t < 0 <;> simp [xscale, xneg, h, h', Rat.neg_mul]

theorem lerp_neg (a b : XVal) (t : Rat) : lerp (xneg a) (xneg b) t = xneg (lerp a b t) := by
  simp only [lerp, xsub, ← xneg_xadd, ← xneg_xscale]
  split <;> rfl

theorem lerp_upper {m a b : XVal} {t : Rat} (h0 : 0 ≤ t) (h1 : t ≤ 1)
    (ha : XVal.le a m = true) (hb : XVal.le b m = true) :
    xisNan (lerp a b t) = true ∨ XVal.le (lerp a b t) m = true := by
  rw [← xle_xneg] at ha hb
  have := lerp_lower h0 h1 ha hb
  rwa [lerp_neg, xisNan_xneg, xle_xneg] at this

theorem lerp_same (l : XVal) (t : Rat) : xisNan (lerp l l t) = true ∨ lerp l l t = l := by
  cases l with
  | nan => left; simp [lerp, xsub, xadd, xisNan]
  | pinf => left; simp [lerp, xsub, xadd, xneg, xscale, xisNan]
  | ninf => left; simp [lerp, xsub, xadd, xneg, xscale, xisNan]
  | fin a =>
    right
    simp only [lerp, xsub, xadd, xneg, xscale]
    split
    · congr 1; grind
    · congr 1; grind

theorem floor_toNat_bounds {v : Rat} (h : 0 ≤ v) :
    ((v.floor.toNat : Nat) : Rat) ≤ v ∧ v < ((v.floor.toNat : Nat) : Rat) + 1 := by
  have h0 : 0 ≤ v.floor := Rat.le_floor_iff.2 (by simpa using h)
  have e : ((v.floor.toNat : Nat) : Rat) = ((v.floor : Int) : Rat) := by
    rw [← Rat.intCast_natCast]; congr 1; omega
  rw [e]
  refine ⟨Rat.floor_le v, ?_⟩
  have := Rat.lt_floor_add_one v
  rw [Rat.intCast_add] at this
  simpa using this

theorem mem_filter_notNan {vals : List XVal} {a : XVal}
    (h : a ∈ vals.filter (fun v => !xisNan v)) : a ∈ vals ∧ xisNan a = false := by
  simpa using h

theorem npPercentile_cases (vals : List XVal) {q : Rat} (hq0 : 0 ≤ q) :
    xisNan (npPercentile vals q) = true ∨
    ∃ a b, (a ∈ vals ∧ xisNan a = false) ∧ (b ∈ vals ∧ xisNan b = false) ∧
      (npPercentile vals q = a ∨ ∃ t, 0 ≤ t ∧ t ≤ 1 ∧ npPercentile vals q = lerp a b t) := by
  have hmem : ∀ {i : Nat} {a : XVal}, (sortX (vals.filter (fun v => !xisNan v)))[i]? = some a →
      a ∈ vals ∧ xisNan a = false :=
    fun h => mem_filter_notNan (mem_of_sortX_getElem? h)
  -- the paths of `npPercentile` that read the sorted values: at or above the last index (2), between two neighbours (4)
  fun_cases npPercentile vals q with
  | case2 _ m _ _ v _ l hl => exact (lerp_same l (v + 1)).imp_right fun h => ⟨l, l, hmem hl, hmem hl, Or.inl h⟩
  | case4 _ m _ _ v _ p a b hb ha =>
    have := floor_toNat_bounds (v := v) (Rat.mul_nonneg Rat.natCast_nonneg (by grind))
    exact Or.inr ⟨a, b, hmem ha, hmem hb, Or.inr ⟨_, by grind, by grind, rfl⟩⟩
  | _ => exact Or.inl rfl

theorem npPercentile_lower {m : XVal} {vals : List XVal} {q : Rat} (hq0 : 0 ≤ q)
    (hm : ∀ u ∈ vals, xisNan u = false → XVal.le m u = true) :
    xisNan (npPercentile vals q) = true ∨ XVal.le m (npPercentile vals q) = true := by
  rcases npPercentile_cases vals hq0 with h | ⟨a, b, ha, hb, h | ⟨t, h0, h1, h⟩⟩
  · exact Or.inl h
  · rw [h]; exact Or.inr (hm a ha.1 ha.2)
  · rw [h]; exact lerp_lower h0 h1 (hm a ha.1 ha.2) (hm b hb.1 hb.2)

theorem npPercentile_upper {m : XVal} {vals : List XVal} {q : Rat} (hq0 : 0 ≤ q)
    (hm : ∀ u ∈ vals, xisNan u = false → XVal.le u m = true) :
    xisNan (npPercentile vals q) = true ∨ XVal.le (npPercentile vals q) m = true := by
  rcases npPercentile_cases vals hq0 with h | ⟨a, b, ha, hb, h | ⟨t, h0, h1, h⟩⟩
  · exact Or.inl h
  · rw [h]; exact Or.inr (hm a ha.1 ha.2)
  · rw [h]; exact lerp_upper h0 h1 (hm a ha.1 ha.2) (hm b hb.1 hb.2)

theorem secondLast_foldl_lt (step b : Int) (steps : List Int) (acc : Int) :
    steps.foldl (fun acc s => if s > acc ∧ s ≠ step then s else acc) acc < b ↔
      acc < b ∧ ∀ s ∈ steps, s ≠ step → s < b := by
  induction steps generalizing acc with
  | nil => simp
  | cons x t ih =>
    have : (if x > acc ∧ x ≠ step then x else acc) < b ↔ acc < b ∧ (x ≠ step → x < b) := by split <;> omega
    rw [List.foldl_cons, ih, List.forall_mem_cons, this, and_assoc]

theorem isFirstInIntervalStep_iff (step : Int) (steps : List Int) (w i : Int) :
    isFirstInIntervalStep step steps w i = true ↔
      -1 < nearestLowerPruningStep step w i ∧
      ∀ s ∈ steps, s ≠ step → s < nearestLowerPruningStep step w i := by
  unfold isFirstInIntervalStep secondLastStep
  rw [decide_eq_true_eq]
  exact secondLast_foldl_lt step _ steps (-1)

theorem nearestLower_spec {step : Int} {w i : Nat} (hi : 1 ≤ i) (hw : (w : Int) ≤ step) :
    ∃ k : Nat, nearestLowerPruningStep step w i = w + k * i ∧ (w : Int) + k * i ≤ step ∧
      step < (w : Int) + (k + 1) * i ∧
      ∀ k' : Nat, (w : Int) + k' * i ≤ step → step < (w : Int) + (k' + 1) * i → k' = k := by
  have hi' : (0 : Int) < i := by omega
  have hq : 0 ≤ (step - w) / (i : Int) := Int.ediv_nonneg (by omega) (by omega)
  have h1 := Int.ediv_mul_le (step - w) (Int.ne_of_gt hi')
  have h2 := Int.lt_ediv_add_one_mul_self (step - w) hi'
  refine ⟨((step - w) / (i : Int)).toNat, ?_, ?_, ?_, fun k' h3 h4 => ?_⟩
  · rw [nearestLowerPruningStep, Int.fdiv_eq_ediv_of_nonneg _ (Int.le_of_lt hi'), Int.toNat_of_nonneg hq]; omega
  · rw [Int.toNat_of_nonneg hq]; omega
  · rw [Int.toNat_of_nonneg hq]; omega
  · have a : (k' : Int) ≤ (step - w) / i := Int.le_ediv_of_mul_le hi' (by omega)
    have b : (step - w) / i < (k' : Int) + 1 := Int.ediv_lt_of_lt_mul hi' (by omega)
    omega

theorem percentilePrune_guards {c : PercentileCfg} {d : Dir} {trials : List PTrial} {t : PTrial}
    (h : percentilePrune c d trials t = true) :
    (completedTrials trials).length ≠ 0 ∧ c.nStartup ≤ (completedTrials trials).length ∧
    ∃ stp, lastStep t.inter = some stp ∧ (c.nWarmup : Int) ≤ stp ∧
      isFirstInIntervalStep stp (interSteps t) c.nWarmup c.interval = true ∧
      (xisNan (bestOverSteps t d) = true ∨
        (d = .maximize ∧
          xlt (bestOverSteps t d) (percentileOverTrials (completedTrials trials) d stp c.q c.nMin) = true) ∨
        (d = .minimize ∧
          xlt (percentileOverTrials (completedTrials trials) d stp c.q c.nMin) (bestOverSteps t d) = true)) := by
  revert h
  -- the definition answers True on three of its nine paths: a NaN best report (6), and a best report worse than the
  -- percentile under maximize (8) and under minimize (9)
  fun_cases percentilePrune c d trials t with
  | case6 _ _ _ h0 h1 stp hs h2 h3 _ hb =>
    exact fun _ => ⟨h0, Nat.le_of_not_lt h1, stp, hs, Int.not_lt.mp h2, by simpa using h3, Or.inl hb⟩
  | case8 _ _ h0 h1 stp hs h2 h3 =>
    exact fun h => ⟨h0, Nat.le_of_not_lt h1, stp, hs, Int.not_lt.mp h2, by simpa using h3, Or.inr (Or.inl ⟨rfl, h⟩)⟩
  | case9 _ _ h0 h1 stp hs h2 h3 =>
    exact fun h => ⟨h0, Nat.le_of_not_lt h1, stp, hs, Int.not_lt.mp h2, by simpa using h3, Or.inr (Or.inr ⟨rfl, h⟩)⟩
  | _ => exact nofun

theorem thresholdChecked_guards {c : ThresholdCfg} {t : PTrial} {v : XVal} (h : thresholdChecked c t = some v) :
    ∃ stp, lastStep t.inter = some stp ∧ (c.nWarmup : Int) ≤ stp ∧
      isFirstInIntervalStep stp (interSteps t) c.nWarmup c.interval = true ∧ interGet t.inter stp = some v := by
  revert h
  fun_cases thresholdChecked c t with
  | case4 stp hs h2 h3 => exact fun h => ⟨stp, hs, Int.not_lt.mp h2, by simpa using h3, h⟩
  | _ => exact nofun

theorem thresholdPrune_checked {c : ThresholdCfg} {t : PTrial} (h : thresholdPrune c t = true) :
    ∃ v, thresholdChecked c t = some v := by
  unfold thresholdPrune at h
  split at h
  · cases h
  · exact ⟨_, ‹_›⟩

theorem promotableIdx_lt {n eta : Nat} (hn : 1 ≤ n) : promotableIdx n eta < n := by
  unfold promotableIdx
  have : n / eta ≤ n := Nat.div_le_self n eta
  simp only
  split <;> omega

theorem competingValues_length_pos (trials : List PTrial) (rung : Nat) (value : XVal) :
    1 ≤ (competingValues trials rung value).length := by
  simp [competingValues]

theorem mem_competingValues {trials : List PTrial} {rung : Nat} {value u : XVal}
    (h : u ∈ competingValues trials rung value) :
    u = value ∨ ∃ t ∈ trials, rungGet t.rungs rung = some u := by
  simp only [competingValues, List.mem_append, List.mem_filterMap, List.mem_singleton] at h
  rcases h with ⟨t, ht, h⟩ | h
  · exact Or.inr ⟨t, ht, h⟩
  · exact Or.inl h

/-- the index `_is_trial_promotable_to_next_rung` reads is always inside the sorted list -/
theorem isPromotable?_eq (value : XVal) (competing : List XVal) (eta : Nat) (d : Dir) (hn : 1 ≤ competing.length) :
    ∃ c ∈ competing, isPromotable? value competing eta d =
      some (match d with
        | .minimize => XVal.le value c
        | .maximize => XVal.le c value) := by
  have hi := promotableIdx_lt (eta := eta) hn
  have hl : (sortX competing).length = competing.length := length_sortBy _ _
  unfold isPromotable?
  cases d with
  | minimize =>
    have h : promotableIdx competing.length eta < (sortX competing).length := by omega
    exact ⟨_, mem_of_sortX_getElem? (List.getElem?_eq_getElem h), by simp only [List.getElem?_eq_getElem h, Option.map_some]⟩
  | maximize =>
    have h1 : promotableIdx competing.length eta + 1 ≤ (sortX competing).length := by omega
    have h : (sortX competing).length - (promotableIdx competing.length eta + 1) < (sortX competing).length := by omega
    exact ⟨_, mem_of_sortX_getElem? (List.getElem?_eq_getElem h),
      by simp only [h1, if_true, List.getElem?_eq_getElem h, Option.map_some]⟩

theorem isPromotable?_isSome (value : XVal) (competing : List XVal) (eta : Nat) (d : Dir)
    (hn : 1 ≤ competing.length) : (isPromotable? value competing eta d).isSome = true := by
  obtain ⟨_, _, h⟩ := isPromotable?_eq value competing eta d hn
  rw [h]; rfl

theorem isPromotable?_best (value : XVal) (competing : List XVal) (eta : Nat) (d : Dir)
    (hn : 1 ≤ competing.length)
    (hbest : ∀ u ∈ competing, AsGood d value u) :
    isPromotable? value competing eta d = some true := by
  obtain ⟨c, hc, h⟩ := isPromotable?_eq value competing eta d hn
  have := hbest c hc
  rw [h]
  cases d <;> exact congrArg some this

/-- `min_resource * reduction_factor ** (min_early_stopping_rate + rung)` over Python's integers -/
theorem promotionStep_cast (m eta rate rung : Nat) :
    (m : Int) * (eta : Int) ^ ((rate : Int) + (rung : Int)).toNat = ((promotionStep m eta rate rung : Nat) : Int) := by
  have : ((rate : Int) + (rung : Int)).toNat = rate + rung := by omega
  rw [this, promotionStep, Int.natCast_mul, Int.natCast_pow]

theorem lt_promotionStep {m eta : Nat} (rate rung : Nat) (hm : 1 ≤ m) (he : 2 ≤ eta) :
    rung < promotionStep m eta rate rung := by
  unfold promotionStep
  have h1 : rung < 2 ^ rung := Nat.lt_two_pow_self
  have h2 : 2 ^ rung ≤ 2 ^ (rate + rung) := Nat.pow_le_pow_right (by omega) (by omega)
  have h3 : 2 ^ (rate + rung) ≤ eta ^ (rate + rung) := Nat.pow_le_pow_left he _
  have h4 : eta ^ (rate + rung) ≤ m * eta ^ (rate + rung) := Nat.le_mul_of_pos_left _ (by omega)
  omega

/-- The `while True:` loop of successive halving ends: with `m ≥ 1` and `η ≥ 2` the promotion step
outgrows the trial's step, so the fuel `prune` passes is never exhausted. -/
theorem shLoop_isSome (c : SHCfg) (m : Nat) (d : Dir) (trials : List PTrial) (step : Int) (value : XVal)
    (hm : 1 ≤ m) (he : 2 ≤ c.eta) (fuel rung : Nat) (h1 : 1 ≤ fuel) (h2 : step.toNat < rung + fuel) :
    (shLoop c m d trials step value fuel rung).isSome = true := by
  -- the paths of one pass, here and below: out of fuel (1), below the promotion step (2), NaN (3), within the bootstrap
  -- count (4), promoted and on to the next rung (5), not promoted (6)
  fun_induction shLoop c m d trials step value fuel rung with
  | case1 => omega
  | case5 fuel rung _ _ _ _ _ ih =>
    have := lt_promotionStep (m := m) (eta := c.eta) c.rate rung hm he
    exact ih (by omega) (by omega)
  | _ => rfl

theorem shLoop_hi (c : SHCfg) (m : Nat) (d : Dir) (trials : List PTrial) (step : Int) (value : XVal)
    (fuel rung : Nat) (b : Bool) (hi : Nat) (h : shLoop c m d trials step value fuel rung = some (b, hi)) :
    rung ≤ hi ∧ (rung < hi → xisNan value = false) := by
  fun_induction shLoop c m d trials step value fuel rung with
  | case1 => cases h
  | case2 | case3 => cases h; omega
  | case5 _ _ _ hn _ _ _ ih => exact ⟨by have := ih h; omega, fun _ => by simpa using hn⟩
  | case4 _ _ _ hn | case6 _ _ _ hn => cases h; exact ⟨by omega, fun _ => by simpa using hn⟩

theorem shLoop_best (c : SHCfg) (m : Nat) (d : Dir) (trials : List PTrial) (step : Int) (value : XVal)
    (hboot : c.bootstrap = 0) (hval : xisNan value = false) (fuel rung : Nat)
    (hbest : ∀ r, rung ≤ r → ∀ t ∈ trials, ∀ u, rungGet t.rungs r = some u → AsGood d value u)
    (b : Bool) (hi : Nat) (h : shLoop c m d trials step value fuel rung = some (b, hi)) : b = false := by
  fun_induction shLoop c m d trials step value fuel rung with
  | case1 => cases h
  | case2 => cases h; rfl
  | case3 _ _ _ hn => rw [hval] at hn; cases hn
  | case4 _ rung _ _ _ hb =>
    have hb : (competingValues trials rung value).length ≤ c.bootstrap := hb
    have := competingValues_length_pos trials rung value
    omega
  | case5 _ _ _ _ _ _ _ ih => exact ih (fun r hr => hbest r (by omega)) h
  | case6 _ rung _ _ _ _ hp =>
    refine absurd (isPromotable?_best _ _ _ _ (competingValues_length_pos trials rung value) fun u hu => ?_) hp
    rcases mem_competingValues hu with rfl | ⟨t, ht, hr⟩
    · cases d <;> exact xle_refl hval
    · exact hbest rung (Nat.le_refl _) t ht u hr

theorem shPrune_cases (c : SHCfg) (d : Dir) (trials : List PTrial) (t : PTrial) :
    shPrune c d trials t = noWrite false ∨
    ∃ stp value m b hi, lastStep t.inter = some stp ∧ interGet t.inter stp = some value ∧
      resolveMinResource c trials = some m ∧
      shLoop c m d trials stp value (stp.toNat + 1) (currentRung t.rungs) = some (b, hi) ∧
      shPrune c d trials t = ⟨b, currentRung t.rungs, hi, value⟩ := by
  fun_cases shPrune c d trials t with
  | case4 stp hs _ v hv m hm b hi hl => exact Or.inr ⟨stp, v, m, b, hi, hs, hv, hm, hl, rfl⟩
  | _ => exact Or.inl rfl

theorem hbPrune_cases (c : HBCfg) (crc : Nat → Nat) (d : Dir) (trials : List PTrial) (n : Nat) (t : PTrial) :
    hbPrune c crc d trials n t = noWrite false ∨
    ∃ nb b, c.nBrackets = some nb ∧ nb ≠ 0 ∧ bracketId nb c.eta (crc n) = some b ∧
      hbPrune c crc d trials n t =
        shPrune { minResource := some c.minResource, eta := c.eta, rate := b, bootstrap := c.bootstrap }
          d (bracketTrials nb c.eta crc b trials) t := by
  fun_cases hbPrune c crc d trials n t with
  | case4 nb hnb h0 b hb => exact Or.inr ⟨nb, b, hnb, h0, hb, rfl⟩
  | _ => exact Or.inl rfl

theorem hbPrune_not_pruned {c : HBCfg} {crc : Nat → Nat} {d : Dir} {trials : List PTrial} {n : Nat} {t : PTrial}
    (h : ∀ nb b, c.nBrackets = some nb → bracketId nb c.eta (crc n) = some b →
      (shPrune { minResource := some c.minResource, eta := c.eta, rate := b, bootstrap := c.bootstrap }
        d (bracketTrials nb c.eta crc b trials) t).prune = false) :
    (hbPrune c crc d trials n t).prune = false := by
  rcases hbPrune_cases c crc d trials n t with e | ⟨nb, b, hnb, _, hb, e⟩
  · rw [e]; rfl
  · rw [e]; exact h nb b hnb hb

/-- membership, definedness and what an appended pair does then come from core -/
theorem interGet_eq_lookup (l : List (Int × XVal)) (k : Int) : interGet l k = l.lookup k :=
  eq_lookup (fun _ => rfl) (fun _ _ _ _ => rfl) l k

theorem rungGet_eq_lookup (l : List (Nat × XVal)) (k : Nat) : rungGet l k = l.lookup k :=
  eq_lookup (fun _ => rfl) (fun _ _ _ _ => rfl) l k

theorem interGet_mem {l : List (Int × XVal)} {k : Int} {v : XVal} (h : interGet l k = some v) :
    (k, v) ∈ l := by
  rw [interGet_eq_lookup, List.lookup_eq_some_iff] at h
  obtain ⟨l₁, l₂, rfl, _⟩ := h
  simp

theorem interGet_mem_values {t : PTrial} {k : Int} {v : XVal} (h : interGet t.inter k = some v) :
    v ∈ interValues t := by
  have := interGet_mem h
  exact List.mem_map.2 ⟨(k, v), this, rfl⟩

theorem interGet_isSome_of_mem {l : List (Int × XVal)} {k : Int} (h : k ∈ l.map (·.1)) :
    ∃ v, interGet l k = some v := by
  rw [interGet_eq_lookup, ← Option.isSome_iff_exists, List.lookup_isSome_iff]
  obtain ⟨p, hp, rfl⟩ := List.mem_map.1 h
  exact ⟨p, hp, beq_self_eq_true _⟩

theorem lastStep_none {l : List (Int × XVal)} (h : lastStep l = none) : l = [] := by
  cases l with
  | nil => rfl
  | cons q t =>
    obtain ⟨k, w⟩ := q
    simp only [lastStep] at h
    split at h <;> simp at h

theorem lastStep_spec {l : List (Int × XVal)} {s : Int} (h : lastStep l = some s) :
    s ∈ l.map (·.1) ∧ ∀ s' ∈ l.map (·.1), s' ≤ s := by
  fun_induction lastStep l generalizing s with
  | case1 => cases h
  | case2 k w t ht =>
    cases h; cases lastStep_none ht
    simp
  | case3 k w t m ht ih =>
    cases h
    have ⟨h1, h2⟩ := ih ht
    rw [List.map_cons, List.forall_mem_cons, List.mem_cons]
    split
    · exact ⟨Or.inl rfl, Int.le_refl _, fun s' hs' => by have := h2 s' hs'; omega⟩
    · exact ⟨Or.inr h1, by omega, h2⟩

theorem mem_valuesAtStep {trials : List PTrial} {step : Int} {u : XVal}
    (h : u ∈ valuesAtStep trials step) : ∃ t ∈ trials, interGet t.inter step = some u := by
  simpa [valuesAtStep] using h

theorem mem_completedTrials {trials : List PTrial} {t : PTrial} (h : t ∈ completedTrials trials) :
    t ∈ trials ∧ t.state = .complete := by
  simpa [completedTrials] using h

theorem rungGet_mem {l : List (Nat × XVal)} {k : Nat} {v : XVal} (h : rungGet l k = some v) :
    (k, v) ∈ l := by
  rw [rungGet_eq_lookup, List.lookup_eq_some_iff] at h
  obtain ⟨l₁, l₂, rfl, _⟩ := h
  simp

theorem rungGet_isSome_range {l : List (Nat × XVal)} (h : l.map (·.1) = List.range l.length) (k : Nat) :
    (rungGet l k).isSome = true ↔ k < l.length := by
  rw [rungGet_eq_lookup, List.lookup_isSome_iff, ← List.mem_range, ← h, List.mem_map]
  simp only [beq_iff_eq, @eq_comm _ k]

theorem currentRung_of_range {l : List (Nat × XVal)} (h : l.map (·.1) = List.range l.length) :
    currentRung l = l.length := by
  have key : ∀ fuel k, k ≤ l.length → l.length - k ≤ fuel → currentRungFrom l fuel k = l.length := by
    intro fuel k
    fun_induction currentRungFrom l fuel k with
    | case1 k => omega
    | case2 fuel k hr ih => exact fun h1 h2 => ih (by have := (rungGet_isSome_range h k).1 hr; omega) (by omega)
    | case3 fuel k hr => exact fun h1 _ => by have := mt (rungGet_isSome_range h k).2 hr; omega
  exact key _ 0 (by omega) (by omega)

theorem rungGet_none_of_range {l : List (Nat × XVal)} (h : l.map (·.1) = List.range l.length)
    {k : Nat} (hk : l.length ≤ k) : rungGet l k = none :=
  Option.not_isSome_iff_eq_none.1 fun hs => by have := (rungGet_isSome_range h k).1 hs; omega

theorem mem_bracketTrials {nb eta : Nat} {crc : Nat → Nat} {b : Nat} {trials : List PTrial} {t : PTrial}
    (h : t ∈ bracketTrials nb eta crc b trials) :
    ∃ i : Nat, trials[i]? = some t ∧ bracketId nb eta (crc i) = some b := by
  simp only [bracketTrials, List.mem_map, List.mem_filter] at h
  obtain ⟨⟨t', i⟩, ⟨hm, hf⟩, rfl⟩ := h
  refine ⟨i, List.mem_zipIdx_iff_getElem?.1 hm, ?_⟩
  simpa using hf

theorem ceilDiv_spec (N s : Nat) :
    N ≤ (s + 1) * ((N + s) / (s + 1)) ∧ (s + 1) * ((N + s) / (s + 1)) < N + (s + 1) := by
  have h1 := Nat.div_add_mod (N + s) (s + 1)
  have h2 := Nat.mod_lt (N + s) (Nat.succ_pos s)
  generalize (N + s) / (s + 1) = d at *
  generalize (N + s) % (s + 1) = r at *
  generalize (s + 1) * d = e at *
  constructor <;> omega

/-- `budget` is the ceiling of `n_brackets · η^s / (s+1)`, `s = n_brackets - 1 - bracket_id`. -/
theorem budget_is_ceil (nb eta b : Nat) :
    nb * eta ^ (nb - 1 - b) ≤ (nb - 1 - b + 1) * budget nb eta b ∧
    (nb - 1 - b + 1) * budget nb eta b < nb * eta ^ (nb - 1 - b) + (nb - 1 - b + 1) := by
  unfold budget
  exact ceilDiv_spec _ _

theorem budget_pos {nb eta : Nat} (b : Nat) (hnb : 1 ≤ nb) (he : 1 ≤ eta) : 1 ≤ budget nb eta b := by
  have h := (budget_is_ceil nb eta b).1
  have hp : 1 ≤ eta ^ (nb - 1 - b) := Nat.one_le_pow _ _ he
  have : 1 ≤ nb * eta ^ (nb - 1 - b) := Nat.mul_le_mul hnb hp
  cases hb : budget nb eta b with
  | zero => rw [hb] at h; omega
  | succ k => omega

theorem budgets_length (nb eta : Nat) : (budgets nb eta).length = nb := by simp [budgets]

theorem budgets_sum_pos {nb eta : Nat} (hnb : 1 ≤ nb) (he : 1 ≤ eta) : 1 ≤ (budgets nb eta).sum := by
  -- the first bracket's budget alone is positive
  have := budget_pos 0 hnb he
  obtain ⟨k, rfl⟩ : ∃ k, nb = k + 1 := ⟨nb - 1, by omega⟩
  rw [budgets, List.range_succ_eq_map, List.map_cons, List.sum_cons]
  omega

/-- Python's `%` on non-negative integers -/
theorem fmod_natCast (a b : Nat) : Int.fmod (a : Int) (b : Int) = ((a % b : Nat) : Int) := by
  rw [Int.fmod_eq_emod_of_nonneg _ (Int.natCast_nonneg b)]; rfl

/-- so the `assert False` after the loop is unreachable -/
theorem bracketWalk_lt (bs : List Nat) (n : Int) (i : Nat) (h0 : 0 ≤ n) (h1 : n < (bs.sum : Nat)) :
    ∃ j, bracketWalk bs n i = some j ∧ i ≤ j ∧ j < i + bs.length := by
  fun_induction bracketWalk bs n i with
  | case1 => simp at h1; omega
  | case2 b bs n i n' hn => exact ⟨i, rfl, Nat.le_refl _, by simp⟩
  | case3 b bs n i n' hn ih =>
    rw [List.sum_cons] at h1
    obtain ⟨j, hj, h2, h3⟩ := ih (by omega) (by omega)
    exact ⟨j, hj, by omega, by rw [List.length_cons]; omega⟩

theorem bracketId_lt {nb eta : Nat} (h : Nat) (hnb : 1 ≤ nb) (he : 1 ≤ eta) :
    ∃ j, bracketId nb eta h = some j ∧ j < nb := by
  unfold bracketId
  simp only
  have hs := budgets_sum_pos hnb he
  have hm : h % (budgets nb eta).sum < (budgets nb eta).sum := Nat.mod_lt _ (by omega)
  obtain ⟨j, hj, _, h3⟩ := bracketWalk_lt (budgets nb eta) ((h % (budgets nb eta).sum : Nat) : Int) 0
    (by omega) (by omega)
  exact ⟨j, hj, by rw [budgets_length] at h3; omega⟩


/-- the trial number a call is aimed at (`ask` creates a trial instead) -/
def Op.target : Op → Option Nat
  | .ask => none
  | .report n _ _ | .shouldPrune n _ | .tell n _ => some n

/-- what a call does to the trial `t` it is aimed at: `none` when it is refused (the trial is not running, the step is
negative or already reported, the new state is not final), else the trial afterwards and the answer -/
def act (crc : Nat → Nat) (s : Study) (t : PTrial) : Op → Option (PTrial × Option Bool)
  | .ask => none
  | .report _ st v =>
    if t.state != .running || st < 0 || (interGet t.inter st).isSome then none
    else some ({ t with inter := t.inter ++ [(st, v)] }, none)
  | .shouldPrune n p =>
    if t.state != .running then none else some (applyWrites t (prune crc s n t p), some (prune crc s n t p).prune)
  | .tell _ st => if t.state != .running || !st.isFinished then none else some ({ t with state := st }, none)

/-- What holds of every `step` (the direction stays, well-formedness stays, the mirrored call mirrors) is read off this
form: a fact about `act`, per call, and one about `updAt`. -/
theorem step_eq (crc : Nat → Nat) (s : Study) (op : Op) :
    step crc s op =
      match op.target with
      | none => ({ s with trials := s.trials ++ [{ state := .running, inter := [], rungs := [] }] }, none)
      | some n =>
        match (s.trials[n]?).bind (act crc s · op) with
        | none => (s, none)
        | some (t', o) => ({ s with trials := updAt s.trials n (fun _ => t') }, o) := by
  cases op with
  | ask => rfl
  | report n _ _ | shouldPrune n _ | tell n _ =>
    simp only [step, Op.target, act]
    cases h : s.trials[n]? with
    | none => rfl
    | some t =>
      simp only [Option.bind_some]
      split
      · rfl
      · exact congrArg (fun l => (({ s with trials := l } : Study), _)) (updAt_const _ _ _ _ h).symm

end OptunaVerif.Pruners
