import OptunaVerif.Lemmas.TruncNormGaussian
import Mathlib.MeasureTheory.Integral.IntegralEqImproper
/-!
# C18 — a tail bound for the standard normal cdf: `Φ(-x) ≤ exp(-x²/2)` for `x ≥ 1`

Used to show that for the standard normal the quantity `Φ(-100)` of `C18Inst.ppf_in_interval_bisect_tpe_partial` is below
`2⁻⁵⁰⁰⁰`, hence below every positive double and every `1 − q` of a double `q < 1`.
Proof: `Φ(-x) = ∫_{t > x} φ(t) dt ≤ ∫_{t > x} t·exp(-t²/2) dt = exp(-x²/2)` (`φ ≤ exp(-t²/2)` and `t ≥ 1`).
-/
namespace OptunaVerif.TruncNorm
open MeasureTheory Set Filter

theorem hasDerivAt_neg_kernel (t : ℝ) :
    HasDerivAt (fun s : ℝ => -Real.exp (-(1 / 2) * s ^ 2)) (t * Real.exp (-(1 / 2) * t ^ 2)) t := by
  have h1 : HasDerivAt (fun s : ℝ => -(1 / 2) * s ^ 2) (-(1 / 2) * (2 * t)) t := by
    have := (hasDerivAt_pow 2 t).const_mul (-(1 / 2) : ℝ)
    simpa using this
  exact h1.exp.neg.congr_deriv (by ring)

theorem tendsto_neg_kernel : Tendsto (fun s : ℝ => -Real.exp (-(1 / 2) * s ^ 2)) atTop (nhds 0) := by
  have h1 : Tendsto (fun s : ℝ => -(1 / 2) * s ^ 2) atTop atBot :=
    (tendsto_pow_atTop (two_ne_zero)).const_mul_atTop_of_neg (by norm_num)
  have h2 := (Real.tendsto_exp_atBot.comp h1).neg
  simpa using h2

theorem integral_Ioi_mul_kernel (x : ℝ) :
    ∫ t in Ioi x, t * Real.exp (-(1 / 2) * t ^ 2) = Real.exp (-(1 / 2) * x ^ 2) := by
  have := integral_Ioi_of_hasDerivAt_of_tendsto' (a := x) (fun t _ => hasDerivAt_neg_kernel t)
    (integrable_mul_exp_neg_mul_sq (b := 1 / 2) (by norm_num)).integrableOn tendsto_neg_kernel
  rw [this]; ring

theorem gaussCdf_neg_le (x : ℝ) (hx : 1 ≤ x) : gaussCdf (-x) ≤ Real.exp (-(1 / 2) * x ^ 2) := by
  rw [gaussCdf_neg_eq_integral_Ioi x (by linarith), ← integral_Ioi_mul_kernel x]
  refine setIntegral_mono_on integrable_gaussPdf.integrableOn
    (integrable_mul_exp_neg_mul_sq (b := 1 / 2) (by norm_num)).integrableOn measurableSet_Ioi ?_
  intro t ht
  have ht1 : (1 : ℝ) ≤ t := le_trans hx (le_of_lt ht)
  have hk := Real.exp_pos (-(1 / 2) * t ^ 2)
  calc gaussPdf t ≤ Real.exp (-(1 / 2) * t ^ 2) := gaussPdf_le_kernel t
    _ ≤ t * Real.exp (-(1 / 2) * t ^ 2) := by nlinarith

theorem gaussCdf_neg_100_le : gaussCdf (-100) ≤ 1 / 2 ^ 5000 := by
  have h := gaussCdf_neg_le 100 (by norm_num)
  have e : Real.exp (-(1 / 2) * (100 : ℝ) ^ 2) = Real.exp (-1) ^ 5000 := by
    rw [← Real.exp_nat_mul]; congr 1; norm_num
  have h1 : Real.exp (-1) ≤ 1 / 2 := by
    rw [Real.exp_neg, inv_eq_one_div]
    apply one_div_le_one_div_of_le (by norm_num)
    have := Real.add_one_le_exp (1 : ℝ)
    linarith
  have h2 : Real.exp (-1) ^ 5000 ≤ (1 / 2 : ℝ) ^ 5000 := pow_le_pow_left₀ (Real.exp_pos _).le h1 5000
  rw [e] at h
  have e2 : (1 / 2 : ℝ) ^ 5000 = 1 / 2 ^ 5000 := by rw [one_div_pow]
  exact le_trans h (le_trans h2 (le_of_eq e2))

end OptunaVerif.TruncNorm
