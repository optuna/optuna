import OptunaVerif.Model.Hypervolume
import OptunaVerif.Lemmas.SortBasic
import Mathlib.Data.Finset.NAry
import Mathlib.Data.Int.Interval
import Mathlib.Data.Finset.Card
import Mathlib.Data.List.Forall2
import Mathlib.Tactic.Ring
import Mathlib.Tactic.Linarith
import Mathlib.Data.Set.Card
import Mathlib.Data.List.Nodup

/-!
# Lemmas for C15 (hypervolume): the specification as a finite set of unit cells

`boxF p r` is the set of lattice cells `c` with `p ≤ c < r` (pointwise), `unionF r S` the union of the
boxes of the points of `S`; `hvSpec S r` is its cardinality = the dominated volume of a lattice point
set.  The WFG recursion of the model is proved equal to it for every dimension and every list of points `≤ r` sorted by
column 0 (`computeHv_eq_spec`), the 2-D sweep likewise (`compute2d_eq_spec`); `compute_hypervolume`, which sorts and
filters first, for every list of points `≤ r` (`computeHypervolumeFin_eq_spec`); the model with ±inf and the
reference-point check gives the same on finite inputs `≤ r` and an error on the other finite inputs
(`computeHypervolume_eq_spec`, `computeHypervolume_lift_error`).  Last, the driver's brute force (`hvBrute_eq_spec`).
-/
namespace OptunaVerif.Hypervolume
open List

def Le (p q : Pt) : Prop := List.Forall₂ (· ≤ ·) p q
def Lt (p q : Pt) : Prop := List.Forall₂ (· < ·) p q

def boxF : Pt → Pt → Finset Pt
  | a :: p, b :: r => Finset.image₂ List.cons (Finset.Ico a b) (boxF p r)
  | [], [] => {[]}
  | _, _ => ∅

theorem mem_boxF (p r c : Pt) : c ∈ boxF p r ↔ Le p c ∧ Lt c r := by
  induction p generalizing r c with
  | nil =>
    cases r with
    | nil => simp [boxF, Le, Lt]
    | cons b r => simp [boxF, Le, Lt]; intro h; subst h; simp
  | cons a p ih =>
    cases r with
    | nil => simp [boxF, Le, Lt]; intro h h2; subst h2; cases h
    | cons b r =>
      simp only [boxF, Finset.mem_image₂, Finset.mem_Ico, Le, Lt]
      constructor
      · rintro ⟨x, ⟨h1, h2⟩, c', hc', rfl⟩
        have := (ih r c').1 hc'
        exact ⟨Forall₂.cons h1 this.1, Forall₂.cons h2 this.2⟩
      · rintro ⟨h1, h2⟩
        cases h1 with
        | cons hx hp =>
          cases h2 with
          | cons hx2 hp2 =>
            exact ⟨_, ⟨hx, hx2⟩, _, (ih _ _).2 ⟨hp, hp2⟩, rfl⟩

theorem card_boxF (p r : Pt) (h : Le p r) : ((boxF p r).card : Int) = vol r p := by
  induction h with
  | nil => simp [boxF, vol]
  | cons hab _ ih =>
    rename_i a b p r
    simp only [boxF, vol]
    rw [Finset.card_image₂ (fun _ _ _ _ h => by simpa using h)]
    rw [Int.card_Ico]
    push_cast
    rw [ih, Int.toNat_of_nonneg (by linarith)]

theorem Le.refl (p : Pt) : Le p p := List.forall₂_refl p

theorem Le.trans {p q s : Pt} (h1 : Le p q) (h2 : Le q s) : Le p s := by
  induction h1 generalizing s with
  | nil => exact h2
  | cons hab _ ih =>
    cases h2 with
    | cons hbc h2' => exact Forall₂.cons (le_trans hab hbc) (ih h2')

theorem Le.antisymm {p q : Pt} (h1 : Le p q) (h2 : Le q p) : p = q := by
  induction h1 with
  | nil => rfl
  | cons hab _ ih =>
    cases h2 with
    | cons hba h2' => rw [le_antisymm hab hba, ih h2']

theorem Le.length_eq {p q : Pt} (h : Le p q) : p.length = q.length := Forall₂.length_eq h

/-- `np.maximum` of two points below `r` is the join. -/
theorem le_pmax_iff {p q r : Pt} (hp : Le p r) (hq : Le q r) (c : Pt) :
    Le (pmax p q) c ↔ Le p c ∧ Le q c := by
  induction hp generalizing q c with
  | nil =>
    cases hq
    simp [pmax, Le]
  | cons hab _ ih =>
    cases hq with
    | cons hcb hq' =>
      cases c with
      | nil => simp [pmax, Le]
      | cons x c =>
        simp only [pmax, Le, forall₂_cons] at *
        rw [ih hq' c]
        constructor
        · rintro ⟨h1, h2, h3⟩
          exact ⟨⟨le_trans (le_max_left _ _) h1, h2⟩, ⟨le_trans (le_max_right _ _) h1, h3⟩⟩
        · rintro ⟨⟨h1, h2⟩, ⟨h3, h4⟩⟩
          exact ⟨max_le h1 h3, h2, h4⟩

theorem pmax_le {p q r : Pt} (hp : Le p r) (hq : Le q r) : Le (pmax p q) r :=
  (le_pmax_iff hp hq r).2 ⟨hp, hq⟩

theorem boxF_inter {p q r : Pt} (hp : Le p r) (hq : Le q r) :
    boxF p r ∩ boxF q r = boxF (pmax p q) r := by
  ext c
  simp only [Finset.mem_inter, mem_boxF, le_pmax_iff hp hq]
  tauto

def unionF (r : Pt) : List Pt → Finset Pt
  | [] => ∅
  | p :: S => boxF p r ∪ unionF r S

theorem mem_unionF (r : Pt) (S : List Pt) (c : Pt) :
    c ∈ unionF r S ↔ ∃ p ∈ S, Le p c ∧ Lt c r := by
  induction S with
  | nil => simp [unionF]
  | cons p S ih => simp [unionF, ih, mem_boxF]

theorem inter_unionF {p r : Pt} (hp : Le p r) (S : List Pt) (hS : ∀ q ∈ S, Le q r) :
    boxF p r ∩ unionF r S = unionF r (S.map (pmax p)) := by
  induction S with
  | nil => simp [unionF]
  | cons q S ih =>
    rw [unionF, Finset.inter_union_distrib_left, boxF_inter hp (hS q List.mem_cons_self),
      ih fun q hq => hS q (List.mem_cons_of_mem _ hq)]
    rfl

theorem unionF_subset_of_cover (r : Pt) {S S' : List Pt} (hcov : ∀ q ∈ S, ∃ p ∈ S', Le p q) :
    unionF r S ⊆ unionF r S' := by
  intro c hc
  rw [mem_unionF] at hc ⊢
  obtain ⟨q, hq, h1, h2⟩ := hc
  obtain ⟨p, hp, hpq⟩ := hcov q hq
  exact ⟨p, hp, hpq.trans h1, h2⟩

theorem unionF_mono (r : Pt) (T T' : List Pt) (h : ∀ x ∈ T, x ∈ T') : unionF r T ⊆ unionF r T' :=
  unionF_subset_of_cover r fun x hx => ⟨x, h x hx, Le.refl x⟩

theorem unionF_eq_of_cover (r : Pt) (S S' : List Pt) (hsub : ∀ p ∈ S', p ∈ S)
    (hcov : ∀ q ∈ S, ∃ p ∈ S', Le p q) : unionF r S' = unionF r S :=
  (unionF_mono r S' S hsub).antisymm (unionF_subset_of_cover r hcov)

theorem unionF_congr (r : Pt) (S S' : List Pt) (h : ∀ q, q ∈ S' ↔ q ∈ S) : unionF r S' = unionF r S :=
  (unionF_mono r S' S fun p => (h p).1).antisymm (unionF_mono r S S' fun p => (h p).2)

/-- dominated volume of a lattice point set = number of dominated unit cells below `r` -/
def hvSpec (S : List Pt) (r : Pt) : Nat := (unionF r S).card

theorem hvSpec_nil (r : Pt) : hvSpec [] r = 0 := rfl

theorem hvSpec_eq_ncard (S : List Pt) (r : Pt) :
    hvSpec S r = Set.ncard {c : Pt | Lt c r ∧ ∃ p ∈ S, Le p c} := by
  have : {c : Pt | Lt c r ∧ ∃ p ∈ S, Le p c} = ↑(unionF r S) := by
    ext c
    simp only [Set.mem_ofPred_eq, Finset.mem_coe, mem_unionF]
    constructor
    · rintro ⟨h1, p, hp, h2⟩; exact ⟨p, hp, h2, h1⟩
    · rintro ⟨p, hp, h2, h1⟩; exact ⟨h1, p, hp, h2⟩
  rw [this, Set.ncard_coe_finset]
  rfl

theorem hvSpec_single {p r : Pt} (hp : Le p r) : (hvSpec [p] r : Int) = vol r p := by
  rw [← card_boxF p r hp]; simp [hvSpec, unionF]

theorem hvSpec_mono (r : Pt) (T T' : List Pt) (h : ∀ x ∈ T, x ∈ T') : hvSpec T r ≤ hvSpec T' r :=
  Finset.card_le_card (unionF_mono r T T' h)

theorem hvSpec_eq_of_cover (r : Pt) (S S' : List Pt) (hsub : ∀ p ∈ S', p ∈ S)
    (hcov : ∀ q ∈ S, ∃ p ∈ S', Le p q) : hvSpec S' r = hvSpec S r :=
  congrArg Finset.card (unionF_eq_of_cover r S S' hsub hcov)

theorem hvSpec_congr (r : Pt) (S S' : List Pt) (h : ∀ q, q ∈ S' ↔ q ∈ S) : hvSpec S' r = hvSpec S r :=
  congrArg Finset.card (unionF_congr r S S' h)

/-- adding a row `p` adds its box minus what the other rows, clipped to that box, dominate (inclusion–exclusion:
the step of WFG) -/
theorem hvSpec_cons {p r : Pt} (hp : Le p r) (S : List Pt) (hS : ∀ q ∈ S, Le q r) :
    (hvSpec (p :: S) r : Int) = vol r p - hvSpec (S.map (pmax p)) r + hvSpec S r := by
  have := Finset.card_union_add_card_inter (boxF p r) (unionF r S)
  rw [inter_unionF hp S hS] at this
  simp only [hvSpec, unionF, ← card_boxF p r hp]
  omega

/-- sorted by column 0 ("quasi-lexsorted" in the source comments) -/
def Sorted0 (S : List Pt) : Prop := S.Pairwise (fun p q => x0 p ≤ x0 q)

theorem anyLt_false {q h : Pt} (hlen : q.length = h.length) (hf : anyLt q h = false) : Le h q := by
  induction q generalizing h with
  | nil => cases h with
    | nil => exact Forall₂.nil
    | cons _ _ => simp at hlen
  | cons a q ih =>
    cases h with
    | nil => simp at hlen
    | cons b h =>
      simp only [anyLt, Bool.or_eq_false_iff, decide_eq_false_iff_not, not_lt] at hf
      exact Forall₂.cons hf.1 (ih (by simpa using hlen) hf.2)

theorem anyLt_not_le {a b : Pt} (h : anyLt b a = true) : ¬ Le a b := by
  intro hle
  induction hle with
  | nil => simp [anyLt] at h
  | cons hab _ ih =>
    simp only [anyLt, Bool.or_eq_true, decide_eq_true_eq] at h
    rcases h with h | h
    · omega
    · exact ih h

theorem Le.tail {p q : Pt} (h : Le p q) : Le p.tail q.tail := by
  cases h with
  | nil => exact Forall₂.nil
  | cons _ h => exact h

theorem Le.y1 {a b : Pt} (h : Le a b) : y1 a ≤ y1 b := by
  cases h with
  | nil => simp [Hypervolume.y1]
  | cons _ h =>
    cases h with
    | nil => simp [Hypervolume.y1]
    | cons h _ => simpa [Hypervolume.y1] using h

theorem le_of_x0_tail {h q : Pt} (hlen : h.length = q.length) (h0 : x0 h ≤ x0 q)
    (ht : Le h.tail q.tail) : Le h q := by
  match h, q, hlen with
  | [], [], _ => exact Forall₂.nil
  | _ :: _, _ :: _, _ => exact Forall₂.cons (by simpa [x0] using h0) ht

theorem frontNdFuel_irrelevant {α : Type} (key : α → Pt) :
    ∀ (n m : Nat) (l : List α), l.length ≤ n → l.length ≤ m → frontNdFuel key n l = frontNdFuel key m l := by
  intro n
  induction n with
  | zero =>
    intro m l hn _
    have : l = [] := by simpa using hn
    subst this
    cases m <;> simp [frontNdFuel]
  | succ n ih =>
    intro m l hn hm
    cases l with
    | nil => cases m <;> simp [frontNdFuel]
    | cons h t =>
      cases m with
      | zero => simp at hm
      | succ m =>
        simp only [frontNdFuel]
        congr 1
        have := List.length_filter_le (fun q => anyLt (key q).tail (key h).tail) t
        simp only [List.length_cons] at hn hm
        exact ih m _ (by omega) (by omega)

@[simp] theorem frontNd_nil {α : Type} (key : α → Pt) : frontNd key ([] : List α) = [] := rfl

theorem frontNd_cons {α : Type} (key : α → Pt) (h : α) (t : List α) :
    frontNd key (h :: t) = h :: frontNd key (t.filter (fun q => anyLt (key q).tail (key h).tail)) := by
  unfold frontNd
  simp only [List.length_cons, frontNdFuel]
  congr 1
  exact frontNdFuel_irrelevant key _ _ _ (List.length_filter_le _ _) (le_refl _)

theorem frontNd_induct {α : Type} (key : α → Pt) {P : List α → Prop} (nil : P [])
    (cons : ∀ h t, P (t.filter (fun q => anyLt (key q).tail (key h).tail)) → P (h :: t)) : ∀ L, P L := by
  intro L
  induction hn : L.length using Nat.strong_induction_on generalizing L with
  | _ n ih =>
    cases L with
    | nil => exact nil
    | cons h t =>
      subst hn
      exact cons h t (ih _ (Nat.lt_succ_of_le (List.length_filter_le _ _)) _ rfl)

theorem frontNd_sublist {α : Type} (key : α → Pt) (L : List α) : (frontNd key L).Sublist L := by
  induction L using frontNd_induct key with
  | nil => simp
  | cons h t ih =>
    rw [frontNd_cons]
    exact Sublist.cons_cons h (ih.trans filter_sublist)

theorem frontNd_cover (d : Nat) (L : List Pt) (hL : ∀ q ∈ L, q.length = d) (hs : Sorted0 L) :
    ∀ q ∈ L, ∃ p ∈ frontNd id L, Le p q := by
  induction L using frontNd_induct id with
  | nil => intro q hq; cases hq
  | cons h t ih =>
    intro q hq
    rw [frontNd_cons]
    simp only [id] at *
    rcases List.mem_cons.1 hq with rfl | hqt
    · exact ⟨q, List.mem_cons_self, Le.refl q⟩
    · by_cases hf : anyLt q.tail h.tail = true
      · have hs' : Sorted0 (t.filter (fun q => anyLt q.tail h.tail)) :=
          (List.Pairwise.sublist filter_sublist (List.pairwise_cons.1 hs).2)
        obtain ⟨p, hp, hpq⟩ := ih (fun q hq => hL q (List.mem_cons_of_mem _ (List.mem_filter.1 hq).1)) hs' q
          (List.mem_filter.2 ⟨hqt, hf⟩)
        exact ⟨p, List.mem_cons_of_mem _ hp, hpq⟩
      · have hf' : anyLt q.tail h.tail = false := by simpa using hf
        have hlen : h.length = q.length := (hL h List.mem_cons_self).trans (hL q hq).symm
        refine ⟨h, List.mem_cons_self, le_of_x0_tail hlen ((List.pairwise_cons.1 hs).1 q hqt) ?_⟩
        exact anyLt_false (by simp [hlen]) hf'

theorem front2dGo_sublist (m : Int) (L : List Pt) : (front2dGo id m L).Sublist L := by
  induction L generalizing m with
  | nil => exact Sublist.slnil
  | cons q t ih =>
    simp only [front2dGo]
    split
    · exact Sublist.cons_cons q (ih _)
    · exact Sublist.cons q (ih _)

theorem front2dGo_cover (m : Int) (L : List Pt) (hs : Sorted0 L) :
    ∀ q ∈ L, y1 q < m → ∃ p ∈ front2dGo id m L, x0 p ≤ x0 q ∧ y1 p ≤ y1 q := by
  induction L generalizing m with
  | nil => intro q hq; cases hq
  | cons q0 t ih =>
    intro q hq hqm
    have hs' := (List.pairwise_cons.1 hs)
    simp only [front2dGo, id]
    by_cases h0 : y1 q0 < m
    · simp only [h0, if_true]
      rcases List.mem_cons.1 hq with rfl | hqt
      · exact ⟨q, List.mem_cons_self, le_refl _, le_refl _⟩
      · by_cases h1 : y1 q < y1 q0
        · obtain ⟨p, hp, h⟩ := ih (y1 q0) hs'.2 q hqt h1
          exact ⟨p, List.mem_cons_of_mem _ hp, h⟩
        · exact ⟨q0, List.mem_cons_self, hs'.1 q hqt, not_lt.1 h1⟩
    · simp only [h0, if_false]
      rcases List.mem_cons.1 hq with rfl | hqt
      · exact absurd hqm h0
      · exact ih m hs'.2 q hqt hqm

theorem le_of_x0_y1 {p q : Pt} (hp : p.length = 2) (hq : q.length = 2)
    (h0 : x0 p ≤ x0 q) (h1 : y1 p ≤ y1 q) : Le p q := by
  match p, hp, q, hq with
  | [a, b], _, [c, d], _ =>
    exact Forall₂.cons (by simpa [x0] using h0) (Forall₂.cons (by simpa [y1] using h1) Forall₂.nil)

theorem le_of_x0 {p q : Pt} (hp : p.length = 1) (hq : q.length = 1)
    (h0 : x0 p ≤ x0 q) : Le p q := by
  match p, hp, q, hq with
  | [a], _, [c], _ =>
    exact Forall₂.cons (by simpa [x0] using h0) Forall₂.nil

theorem frontSorted_sublist (d : Nat) (L : List Pt) : (frontSorted id d L).Sublist L := by
  unfold frontSorted
  split
  · cases L with
    | nil => exact Sublist.slnil
    | cons h t => simp [front1d]
  · split
    · cases L with
      | nil => exact Sublist.slnil
      | cons h t => exact Sublist.cons_cons h (front2dGo_sublist _ _)
    · exact frontNd_sublist id L

/-- `filter_weakly_dominated`: every row of a column-0-sorted array is weakly dominated by a row that
`_is_pareto_front(…, assume_unique_lexsorted=True)` keeps (duplicates and unsorted ties included). -/
theorem frontSorted_cover (d : Nat) (L : List Pt) (hL : ∀ q ∈ L, q.length = d) (hs : Sorted0 L) :
    ∀ q ∈ L, ∃ p ∈ frontSorted id d L, Le p q := by
  unfold frontSorted
  split
  · rename_i h1
    intro q hq
    cases L with
    | nil => cases hq
    | cons h t =>
      refine ⟨h, by simp [front1d], ?_⟩
      rcases List.mem_cons.1 hq with rfl | hqt
      · exact Le.refl _
      · exact le_of_x0 ((hL h List.mem_cons_self).trans h1) ((hL q hq).trans h1) ((List.pairwise_cons.1 hs).1 q hqt)
  · split
    · rename_i _ h2
      intro q hq
      cases L with
      | nil => cases hq
      | cons h t =>
        simp only [front2d, id]
        rcases List.mem_cons.1 hq with rfl | hqt
        · exact ⟨q, List.mem_cons_self, Le.refl _⟩
        · by_cases h1 : y1 q < y1 h
          · obtain ⟨p, hp, hx, hy⟩ := front2dGo_cover (y1 h) t (List.pairwise_cons.1 hs).2 q hqt h1
            have hpt : p ∈ t := (front2dGo_sublist _ _).subset hp
            exact ⟨p, List.mem_cons_of_mem _ hp,
              le_of_x0_y1 ((hL p (List.mem_cons_of_mem _ hpt)).trans h2) ((hL q hq).trans h2) hx hy⟩
          · exact ⟨h, List.mem_cons_self, le_of_x0_y1 ((hL h List.mem_cons_self).trans h2) ((hL q hq).trans h2)
              ((List.pairwise_cons.1 hs).1 q hqt) (not_lt.1 h1)⟩
    · exact frontNd_cover d L hL hs

theorem x0_pmax {p q r : Pt} (hp : Le p r) (hq : Le q r) : x0 (pmax p q) = max (x0 p) (x0 q) := by
  cases hp with
  | nil => cases hq; simp [pmax, x0]
  | cons _ _ => cases hq with | cons _ _ => simp [pmax, x0]

theorem sorted0_map_pmax {p r : Pt} (hp : Le p r) (S : List Pt) (hS : ∀ q ∈ S, Le q r)
    (hs : Sorted0 S) : Sorted0 (S.map (pmax p)) := by
  unfold Sorted0 at *
  rw [List.pairwise_map]
  refine hs.imp_of_mem ?_
  intro a b ha hb hab
  rw [x0_pmax hp (hS a ha), x0_pmax hp (hS b hb)]
  exact max_le_max (le_refl _) hab

theorem frontSorted_length_le (d : Nat) (L : List Pt) : (frontSorted id d L).length ≤ L.length :=
  (frontSorted_sublist d L).length_le

theorem exclusiveHv_eq (r : Pt) (rec : List Pt → Int) (p : Pt) (rest : List Pt)
    (hp : Le p r) (hrest : ∀ q ∈ rest, Le q r) (hs : Sorted0 rest)
    (hrec : ∀ L : List Pt, L.length ≤ rest.length → (∀ q ∈ L, Le q r) → Sorted0 L → rec L = hvSpec L r) :
    exclusiveHv r.length rec (rest.map (pmax p)) (vol r p) = vol r p - hvSpec (rest.map (pmax p)) r := by
  have hlim : ∀ q ∈ rest.map (pmax p), Le q r := by
    intro q hq
    obtain ⟨q', hq', rfl⟩ := List.mem_map.1 hq
    exact pmax_le hp (hrest q' hq')
  have hslim := sorted0_map_pmax hp rest hrest hs
  unfold exclusiveHv
  split
  · rename_i he
    have : rest = [] := by simpa using he
    subst this
    simp [hvSpec_nil]
  · have hsub := frontSorted_sublist r.length (rest.map (pmax p))
    rw [hrec _ (by simpa using hsub.length_le) (fun q hq => hlim q (hsub.subset hq))
      (List.Pairwise.sublist hsub hslim),
      hvSpec_eq_of_cover r _ _ (fun q hq => hsub.subset hq) (frontSorted_cover r.length _ (fun q hq => (hlim q hq).length_eq) hslim)]

theorem sumExcl_eq (r : Pt) (rec : List Pt → Int) (T : List Pt)
    (hT : ∀ q ∈ T, Le q r) (hs : Sorted0 T)
    (hrec : ∀ L : List Pt, L.length < T.length → (∀ q ∈ L, Le q r) → Sorted0 L → rec L = hvSpec L r) :
    sumExcl r.length r rec T = hvSpec T r := by
  induction T with
  | nil => simp [sumExcl, hvSpec_nil]
  | cons p rest ih =>
    have hs' := List.pairwise_cons.1 hs
    have hrest : ∀ q ∈ rest, Le q r := fun q hq => hT q (List.mem_cons_of_mem _ hq)
    rw [sumExcl, exclusiveHv_eq r rec p rest (hT p List.mem_cons_self) hrest hs'.2
        (fun L hL => hrec L (by simpa using Nat.lt_succ_of_le hL)),
      ih hrest hs'.2 (fun L hL => hrec L (by simp only [List.length_cons]; omega)),
      hvSpec_cons (hT p List.mem_cons_self) rest hrest]

theorem vol_two_eq_spec {r p q : Pt} (hp : Le p r) (hq : Le q r) :
    vol r p + vol r q - vol r (pmax p q) = hvSpec [p, q] r := by
  rw [hvSpec_cons hp [q] (by simpa using hq), hvSpec_single hq]
  simp only [List.map_cons, List.map_nil, hvSpec_single (pmax_le hp hq)]
  ring

theorem hvFuel_eq_spec (r : Pt) (n : Nat) (S : List Pt) (hn : S.length ≤ n)
    (hS : ∀ q ∈ S, Le q r) (hs : Sorted0 S) :
    hvFuel r.length r n S = hvSpec S r := by
  induction n generalizing S with
  | zero =>
    have : S = [] := by simpa using hn
    subst this
    simp [hvFuel, hvSpec_nil]
  | succ n ih =>
    match S, hn, hS, hs with
    | [], _, _, _ => simp [hvFuel, hvSpec_nil]
    | [p], _, hS, _ => exact (hvSpec_single (hS p List.mem_cons_self)).symm
    | [p, q], _, hS, _ => exact vol_two_eq_spec (hS p List.mem_cons_self) (hS q (by simp))
    | p :: q :: s :: t, hn, hS, hs =>
      exact sumExcl_eq r _ _ hS hs (fun L hL hL2 hL3 => ih L (by simp only [List.length_cons] at hn hL; omega) hL2 hL3)

theorem computeHv_eq_spec (r : Pt) (S : List Pt) (hS : ∀ q ∈ S, Le q r) (hs : Sorted0 S) :
    computeHv r.length r S = hvSpec S r :=
  hvFuel_eq_spec r _ S (le_refl _) hS hs

theorem sumExcl_congr (d : Nat) (r : Pt) (rec1 rec2 : List Pt → Int) (T : List Pt)
    (h : ∀ L : List Pt, L.length < T.length → rec1 L = rec2 L) :
    sumExcl d r rec1 T = sumExcl d r rec2 T := by
  induction T with
  | nil => rfl
  | cons p rest ih =>
    simp only [sumExcl, exclusiveHv]
    rw [ih (fun L hL => h L (by simp only [List.length_cons]; omega))]
    congr 1
    split
    · rfl
    · rw [h _ (by
        have := frontSorted_length_le d (rest.map (pmax p))
        simp only [List.length_map] at this
        simp only [List.length_cons]; omega)]

theorem hvFuel_fuel_irrelevant (d : Nat) (r : Pt) :
    ∀ (n m : Nat) (S : List Pt), S.length ≤ n → S.length ≤ m → hvFuel d r n S = hvFuel d r m S := by
  intro n
  induction n with
  | zero =>
    intro m S hn _
    have : S = [] := by simpa using hn
    subst this
    cases m <;> simp [hvFuel]
  | succ n ih =>
    intro m S hn hm
    cases m with
    | zero =>
      have : S = [] := by simpa using hm
      subst this
      simp [hvFuel]
    | succ m =>
      match S, hn, hm with
      | [], _, _ => simp [hvFuel]
      | [p], _, _ => simp [hvFuel]
      | [p, q], _, _ => simp [hvFuel]
      | p :: q :: s :: t, hn, hm =>
        simp only [hvFuel]
        apply sumExcl_congr
        intro L hL
        simp only [List.length_cons] at hn hm hL
        exact ih m L (by omega) (by omega)

/-- `computeHv` satisfies the recursion of `_compute_hv` literally (no budget involved). -/
theorem computeHv_unfold (d : Nat) (r : Pt) (S : List Pt) :
    computeHv d r S =
      match S with
      | [] => 0
      | [p] => vol r p
      | [p, q] => vol r p + vol r q - vol r (pmax p q)
      | _ => sumExcl d r (computeHv d r) S := by
  match S with
  | [] => simp [computeHv, hvFuel]
  | [p] => simp [computeHv, hvFuel]
  | [p, q] => simp [computeHv, hvFuel]
  | p :: q :: s :: t =>
    simp only [computeHv, List.length_cons, hvFuel]
    apply sumExcl_congr
    intro L hL
    simp only [List.length_cons] at hL
    show hvFuel d r (t.length + 1 + 1) L = hvFuel d r L.length L
    exact hvFuel_fuel_irrelevant d r (t.length + 1 + 1) L.length L (by omega) (le_refl _)

theorem le_two_right {p : Pt} {a b : Int} : Le p [a, b] ↔ ∃ x y, p = [x, y] ∧ x ≤ a ∧ y ≤ b := by
  constructor
  · intro h
    match p, h with
    | [x, y], h =>
      simp only [Le, forall₂_cons] at h
      exact ⟨x, y, rfl, h.1, h.2.1⟩
  · rintro ⟨x, y, rfl, h1, h2⟩
    exact Forall₂.cons h1 (Forall₂.cons h2 Forall₂.nil)

theorem lt_two_right {c : Pt} {a b : Int} : Lt c [a, b] ↔ ∃ x y, c = [x, y] ∧ x < a ∧ y < b := by
  constructor
  · intro h
    match c, h with
    | [x, y], h =>
      simp only [Lt, forall₂_cons] at h
      exact ⟨x, y, rfl, h.1, h.2.1⟩
  · rintro ⟨x, y, rfl, h1, h2⟩
    exact Forall₂.cons h1 (Forall₂.cons h2 Forall₂.nil)

theorem le_two {x y cx cy : Int} : Le [x, y] [cx, cy] ↔ x ≤ cx ∧ y ≤ cy := by
  simp [Le]

theorem compute2dGo_eq (r0 : Int) (prevY : Int) (S : List Pt)
    (hS : ∀ p ∈ S, ∃ x y, p = [x, y] ∧ x ≤ r0) (hs : Sorted0 S) :
    compute2dGo r0 prevY S = (unionF [r0, prevY] S).card := by
  induction S generalizing prevY with
  | nil => simp [compute2dGo, unionF]
  | cons p t ih =>
    have hs' := List.pairwise_cons.1 hs
    obtain ⟨x, y, rfl, hx⟩ := hS p List.mem_cons_self
    have ht : ∀ q ∈ t, ∃ x y, q = [x, y] ∧ x ≤ r0 := fun q hq => hS q (List.mem_cons_of_mem _ hq)
    simp only [compute2dGo, unionF, x0, y1, List.headD_cons, List.tail_cons]
    rw [ih (min prevY y) ht hs'.2]
    have hmin : min prevY y ≤ prevY := min_le_left _ _
    have hbox : boxF [x, y] [r0, prevY] = boxF [x, min prevY y] [r0, prevY] := by
      ext c
      simp only [mem_boxF]
      constructor
      · rintro ⟨h1, h2⟩
        obtain ⟨cx, cy, rfl, _, _⟩ := lt_two_right.1 h2
        have := le_two.1 h1
        exact ⟨le_two.2 ⟨this.1, le_trans (min_le_right _ _) this.2⟩, h2⟩
      · rintro ⟨h1, h2⟩
        obtain ⟨cx, cy, rfl, _, hcy⟩ := lt_two_right.1 h2
        have := le_two.1 h1
        refine ⟨le_two.2 ⟨this.1, ?_⟩, h2⟩
        rcases le_total prevY y with h | h
        · rw [min_eq_left h] at this; omega
        · rw [min_eq_right h] at this; exact this.2
    have hunion : boxF [x, y] [r0, prevY] ∪ unionF [r0, prevY] t
        = boxF [x, min prevY y] [r0, prevY] ∪ unionF [r0, min prevY y] t := by
      rw [hbox]
      ext c
      simp only [Finset.mem_union, mem_unionF, mem_boxF]
      constructor
      · rintro (h | ⟨q, hq, hqc, hc⟩)
        · exact Or.inl h
        · obtain ⟨cx, cy, rfl, hcx, hcy⟩ := lt_two_right.1 hc
          obtain ⟨qx, qy, rfl, _⟩ := ht q hq
          have hqc' := le_two.1 hqc
          by_cases hlow : cy < min prevY y
          · exact Or.inr ⟨_, hq, hqc, lt_two_right.2 ⟨cx, cy, rfl, hcx, hlow⟩⟩
          · have h0 := hs'.1 _ hq
            simp only [x0, List.headD_cons] at h0
            exact Or.inl ⟨le_two.2 ⟨le_trans h0 hqc'.1, not_lt.1 hlow⟩, hc⟩
      · rintro (h | ⟨q, hq, hqc, hc⟩)
        · exact Or.inl h
        · obtain ⟨cx, cy, rfl, hcx, hcy⟩ := lt_two_right.1 hc
          exact Or.inr ⟨q, hq, hqc, lt_two_right.2 ⟨cx, cy, rfl, hcx, lt_of_lt_of_le hcy hmin⟩⟩
    have hdisj : Disjoint (boxF [x, min prevY y] [r0, prevY]) (unionF [r0, min prevY y] t) := by
      rw [Finset.disjoint_left]
      intro c hc1 hc2
      simp only [mem_unionF, mem_boxF] at hc1 hc2
      obtain ⟨q, _, _, hc⟩ := hc2
      obtain ⟨cx, cy, rfl, _, hcy⟩ := lt_two_right.1 hc
      have := (le_two.1 hc1.1).2
      omega
    rw [hunion, Finset.card_union_of_disjoint hdisj]
    have := card_boxF [x, min prevY y] [r0, prevY] (le_two.2 ⟨hx, hmin⟩)
    simp only [vol, mul_one] at this
    push_cast
    rw [this]

/-- `_compute_2d` (running minimum) on rows `≤ r` sorted by column 0 — in ANY order of the ties in column 0, with
dominated rows and duplicates — is the dominated area. -/
theorem compute2d_eq_spec (r : Pt) (hr : r.length = 2) (S : List Pt)
    (hS : ∀ p ∈ S, Le p r) (hs : Sorted0 S) :
    compute2d r S = hvSpec S r := by
  match r, hr with
  | [r0, r1], _ =>
    have hS' : ∀ p ∈ S, ∃ x y, p = [x, y] ∧ x ≤ r0 := by
      intro p hp
      obtain ⟨x, y, rfl, hx, _⟩ := le_two_right.1 (hS p hp)
      exact ⟨x, y, rfl, hx⟩
    have hgo : compute2d [r0, r1] S = compute2dGo r0 r1 S := by
      cases S with
      | nil => rfl
      | cons p t =>
        obtain ⟨x, y, rfl, _, hy⟩ := le_two_right.1 (hS p List.mem_cons_self)
        simp only [compute2d, compute2dGo, x0, y1, List.headD_cons, List.tail_cons, min_eq_right hy]
    rw [hgo]
    simp only [hvSpec]
    exact compute2dGo_eq r0 r1 S hS' hs

/-- the 2-D sweep does not depend on the order `argsort` gives to rows with equal first coordinate -/
theorem compute2d_any_tie_order (r : Pt) (hr : r.length = 2) (S S' : List Pt) (hS : ∀ p ∈ S, Le p r)
    (hp : S'.Perm S) (hs : Sorted0 S') : compute2d r S' = hvSpec S r := by
  rw [compute2d_eq_spec r hr S' (fun p h => hS p (hp.subset h)) hs,
    hvSpec_congr r S S' fun p => ⟨fun h => hp.subset h, fun h => hp.symm.subset h⟩]

theorem lexLt_irrefl (a : Pt) : lexLt a a = false := by
  induction a with
  | nil => rfl
  | cons x a ih => simp [lexLt, ih]

theorem lexLt_trans {a b c : Pt} (h1 : lexLt a b = true) (h2 : lexLt b c = true) : lexLt a c = true := by
  induction a generalizing b c with
  | nil => cases b <;> simp [lexLt] at h1
  | cons x a ih =>
    cases b with
    | nil => simp [lexLt] at h1
    | cons y b =>
      cases c with
      | nil => simp [lexLt] at h2
      | cons z c =>
        simp only [lexLt, Bool.or_eq_true, decide_eq_true_eq, Bool.and_eq_true, beq_iff_eq] at *
        rcases h1 with h1 | ⟨rfl, h1⟩
        · rcases h2 with h2 | ⟨rfl, h2⟩
          · exact Or.inl (lt_trans h1 h2)
          · exact Or.inl h1
        · rcases h2 with h2 | ⟨rfl, h2⟩
          · exact Or.inl h2
          · exact Or.inr ⟨rfl, ih h1 h2⟩

theorem lexLt_total {a b : Pt} (hl : a.length = b.length) (h1 : lexLt a b = false) (hne : a ≠ b) :
    lexLt b a = true := by
  induction a generalizing b with
  | nil => cases b with
    | nil => exact absurd rfl hne
    | cons _ _ => simp at hl
  | cons x a ih =>
    cases b with
    | nil => simp at hl
    | cons y b =>
      simp only [lexLt, Bool.or_eq_false_iff, decide_eq_false_iff_not, not_lt, Bool.and_eq_false_imp,
        beq_iff_eq, Bool.or_eq_true, decide_eq_true_eq, Bool.and_eq_true] at *
      rcases lt_or_eq_of_le h1.1 with h | h
      · exact Or.inl h
      · subst h
        refine Or.inr ⟨rfl, ih (by simpa using hl) (h1.2 rfl) ?_⟩
        intro hab; exact hne (by rw [hab])

theorem lexLt_x0 {a b : Pt} (h : lexLt a b = true) : x0 a ≤ x0 b := by
  cases a with
  | nil => cases b <;> simp [lexLt] at h
  | cons x a =>
    cases b with
    | nil => simp [lexLt] at h
    | cons y b =>
      simp only [lexLt, Bool.or_eq_true, decide_eq_true_eq, Bool.and_eq_true, beq_iff_eq] at h
      simp only [x0, List.headD_cons]
      rcases h with h | ⟨h, _⟩
      · exact le_of_lt h
      · exact le_of_eq h

theorem lexLt_not_le {a b : Pt} (h : lexLt a b = true) : ¬ Le b a := by
  induction a generalizing b with
  | nil => cases b <;> simp [lexLt] at h
  | cons x a ih =>
    cases b with
    | nil => simp [lexLt] at h
    | cons y b =>
      simp only [lexLt, Bool.or_eq_true, decide_eq_true_eq, Bool.and_eq_true, beq_iff_eq] at h
      intro hle
      cases hle with
      | cons hyx hle' =>
        rcases h with h | ⟨_, h⟩
        · omega
        · exact ih h hle'

theorem insertLex_isInsertU : SortBasic.IsInsertU insertLex (fun p q => lexLt p q = true) (fun p q => (p == q) = true) :=
  ⟨fun _ => rfl, fun _ _ _ => rfl, fun _ _ h => by simpa using h⟩

theorem uniqueLex_isSort : SortBasic.IsSort uniqueLex insertLex := ⟨rfl, fun _ _ => rfl⟩

theorem mem_uniqueLex (S : List Pt) (q : Pt) : q ∈ uniqueLex S ↔ q ∈ S := insertLex_isInsertU.mem_sort uniqueLex_isSort

def LexSorted (L : List Pt) : Prop := L.Pairwise (fun p q => lexLt p q = true)

theorem lexSorted_uniqueLex (d : Nat) (S : List Pt) (hS : ∀ q ∈ S, q.length = d) :
    LexSorted (uniqueLex S) :=
  insertLex_isInsertU.sort_pairwise (M := fun q => q.length = d) (fun _ _ _ _ h => h) (fun _ _ _ _ _ _ h h' => lexLt_trans h h')
    (fun x y hx hy h hne => lexLt_total (hx.trans hy.symm) (by simpa using h) (by simpa using hne)) uniqueLex_isSort hS

theorem LexSorted.sorted0 {L : List Pt} (h : LexSorted L) : Sorted0 L :=
  List.Pairwise.imp (fun h => lexLt_x0 h) h

theorem LexSorted.nodup {L : List Pt} (h : LexSorted L) : L.Nodup :=
  List.Pairwise.imp (fun hlt heq => by subst heq; simp [lexLt_irrefl] at hlt) h

theorem uniqueLex_length_le (d : Nat) (S : List Pt) (hS : ∀ q ∈ S, q.length = d) :
    (uniqueLex S).length ≤ S.length := by
  have hnd := LexSorted.nodup (lexSorted_uniqueLex d S hS)
  have : (uniqueLex S).Subperm S :=
    List.Nodup.subperm hnd (fun p hp => (mem_uniqueLex S p).1 hp)
  exact this.length_le

theorem lexLt_iff_idxOf {U : List Pt} (hU : LexSorted U) {p q : Pt} (hp : p ∈ U) (hq : q ∈ U) :
    lexLt q p = true ↔ U.idxOf q < U.idxOf p := by
  have hip := List.idxOf_lt_length_of_mem hp
  have hiq := List.idxOf_lt_length_of_mem hq
  have hgp : U[U.idxOf p] = p := List.getElem_idxOf hip
  have hgq : U[U.idxOf q] = q := List.getElem_idxOf hiq
  have hpw := List.pairwise_iff_getElem.1 hU
  constructor
  · intro hlt
    by_contra hc
    rcases Nat.lt_or_ge (U.idxOf p) (U.idxOf q) with h | h
    · have := hpw _ _ hip hiq h
      rw [hgp, hgq] at this
      have := lexLt_trans this hlt
      simp [lexLt_irrefl] at this
    · have : U.idxOf p = U.idxOf q := by omega
      have : p = q := by rw [← hgp, ← hgq]; simp [this]
      subst this
      simp [lexLt_irrefl] at hlt
  · intro h
    have := hpw _ _ hiq hip h
    rwa [hgp, hgq] at this

theorem insert0_isInsert : SortBasic.IsInsert insert0 (fun p q => x0 p ≤ x0 q) := ⟨fun _ => rfl, fun _ _ _ => rfl⟩

theorem sort0_isSort : SortBasic.IsSort sort0 insert0 := ⟨rfl, fun _ _ => rfl⟩

theorem mem_sort0 (S : List Pt) (q : Pt) : q ∈ sort0 S ↔ q ∈ S := insert0_isInsert.toU.mem_sort sort0_isSort

theorem sorted0_sort0 (S : List Pt) : Sorted0 (sort0 S) :=
  insert0_isInsert.toU.sort_pairwise (M := fun _ => True) (fun _ _ _ _ h => h) (fun _ _ _ _ _ _ h h' => le_trans h h')
    (fun _ _ _ _ h _ => le_of_lt (not_le.1 h)) sort0_isSort (fun _ _ => trivial)

/-- mutually non-dominated rows, duplicates allowed: what a caller of `assume_pareto=True` promises.  The theorems about
`assume_pareto` here do not need it; the 2-D subset selection (`Lemmas/Hssp.lean`) does. -/
def Antichain (S : List Pt) : Prop := ∀ p ∈ S, ∀ q ∈ S, Le p q → p = q

theorem frontNd_pairwise (L : List Pt) : (frontNd id L).Pairwise (fun a b => ¬ Le a b) := by
  induction L using frontNd_induct id with
  | nil => simp
  | cons h t ih =>
    rw [frontNd_cons]
    refine List.pairwise_cons.2 ⟨?_, ih⟩
    intro b hb
    have := (frontNd_sublist id _).subset hb
    have := (List.mem_filter.1 this).2
    exact fun hle => anyLt_not_le this hle.tail

theorem front2dGo_pairwise (m : Int) (L : List Pt) :
    (front2dGo id m L).Pairwise (fun a b => y1 b < y1 a) ∧ ∀ p ∈ front2dGo id m L, y1 p < m := by
  induction L generalizing m with
  | nil => simp [front2dGo]
  | cons q t ih =>
    simp only [front2dGo, id]
    split
    · rename_i h
      obtain ⟨h1, h2⟩ := ih (y1 q)
      refine ⟨List.pairwise_cons.2 ⟨fun p hp => h2 p hp, h1⟩, ?_⟩
      intro p hp
      rcases List.mem_cons.1 hp with rfl | hp
      · exact h
      · exact lt_trans (h2 p hp) h
    · exact ih m

theorem frontSorted_pairwise (d : Nat) (L : List Pt) :
    (frontSorted id d L).Pairwise (fun a b => ¬ Le a b) := by
  unfold frontSorted
  split
  · cases L <;> simp [front1d]
  · split
    · cases L with
      | nil => simp [front2d]
      | cons h t =>
        obtain ⟨h1, h2⟩ := front2dGo_pairwise (y1 h) t
        refine List.pairwise_cons.2 ⟨fun p hp hle => ?_, h1.imp (fun hlt hle => ?_)⟩
        · have := h2 p hp; have := Le.y1 hle; simp only [id] at *; omega
        · have := Le.y1 hle; omega
    · exact frontNd_pairwise L

theorem frontSorted_antichain (d : Nat) (L : List Pt) (hL : LexSorted L) :
    Antichain (frontSorted id d L) := by
  have hsub := frontSorted_sublist d L
  have h1 := frontSorted_pairwise d L
  have h2 : (frontSorted id d L).Pairwise (fun a b => ¬ Le b a) :=
    (List.Pairwise.sublist hsub hL).imp (fun h => lexLt_not_le h)
  intro a ha b hb hle
  exact List.Pairwise.forall_of_forall_of_flip (R := fun a b => Le a b → a = b)
    (fun a _ _ => rfl) (h1.imp (fun h hh => absurd hh h)) (h2.imp (fun h hh => absurd hh h)) ha hb hle

theorem computeSorted_eq_spec (r : Pt) (L : List Pt) (hL : ∀ p ∈ L, Le p r) (hs : Sorted0 L) :
    (if r.length = 2 then compute2d r L else computeHv r.length r L) = hvSpec L r := by
  split
  · rename_i h2
    exact compute2d_eq_spec r h2 L hL hs
  · exact computeHv_eq_spec r L hL hs

/-- `compute_hypervolume` on finite inputs that passed the reference-point check, default path:
exact for every dimension and every point list. -/
theorem computeHypervolumeFin_eq_spec (S : List Pt) (r : Pt) (hS : ∀ p ∈ S, Le p r) :
    computeHypervolumeFin S r false = hvSpec S r := by
  have hU : ∀ p ∈ uniqueLex S, Le p r := fun p hp => hS p ((mem_uniqueLex S p).1 hp)
  have hsU : Sorted0 (uniqueLex S) :=
    (lexSorted_uniqueLex r.length S (fun q hq => (hS q hq).length_eq)).sorted0
  have hsub := frontSorted_sublist r.length (uniqueLex S)
  simp only [computeHypervolumeFin, Bool.false_eq_true, if_false]
  rw [computeSorted_eq_spec r _ (fun p hp => hU p (hsub.subset hp)) (List.Pairwise.sublist hsub hsU),
    hvSpec_eq_of_cover r _ _ (fun q hq => hsub.subset hq) (frontSorted_cover r.length _ (fun q hq => (hU q hq).length_eq) hsU),
    hvSpec_congr r S _ (mem_uniqueLex S)]

/-- `assume_pareto=True`: exact in every dimension whether or not the rows `≤ r` are mutually non-dominated (2-D: the sweep
takes the running minimum) -/
theorem computeHypervolumeFin_assumePareto_eq_spec (S : List Pt) (r : Pt) (hS : ∀ p ∈ S, Le p r) :
    computeHypervolumeFin S r true = hvSpec S r := by
  simp only [computeHypervolumeFin, if_true]
  rw [computeSorted_eq_spec r _ (fun p hp => hS p ((mem_sort0 S p).1 hp)) (sorted0_sort0 S), hvSpec_congr r S _ (mem_sort0 S)]

def liftPt (p : Pt) : List EInt := p.map EInt.fin

theorem allLeE_lift (p r : Pt) : allLeE (liftPt p) (liftPt r) = true ↔ Le p r := by
  induction p generalizing r with
  | nil => cases r <;> simp [liftPt, allLeE, Le]
  | cons a p ih =>
    cases r with
    | nil => simp [liftPt, allLeE, Le]
    | cons b r =>
      simp only [liftPt, List.map_cons, allLeE, EInt.le, Bool.and_eq_true, decide_eq_true_eq, Le,
        forall₂_cons] at *
      rw [ih r]

theorem lift_all_finite (p : Pt) : (liftPt p).all EInt.isFinite = true := by
  simp [liftPt, EInt.isFinite]

theorem lift_toInt (p : Pt) : (liftPt p).map EInt.toInt = p := by
  simp [liftPt, Function.comp_def, EInt.toInt]

theorem all_allLeE_lift (S : List Pt) (r : Pt) :
    (S.map liftPt).all (fun p => allLeE p (liftPt r)) = true ↔ ∀ p ∈ S, Le p r := by
  simp only [List.all_map, List.all_eq_true, Function.comp_apply, allLeE_lift]

theorem allLt_iff (p r : Pt) : allLt p r = true ↔ Lt p r := by
  induction p generalizing r with
  | nil => cases r <;> simp [allLt, Lt]
  | cons a p ih =>
    cases r with
    | nil => simp [allLt, Lt]
    | cons b r => simp only [allLt, Bool.and_eq_true, decide_eq_true_eq, Lt, forall₂_cons, ih r]

theorem allLtE_lift (p r : Pt) : allLtE (liftPt p) (liftPt r) = allLt p r := by
  induction p generalizing r with
  | nil => cases r <;> simp [liftPt, allLtE, allLt]
  | cons a p ih =>
    cases r with
    | nil => simp [liftPt, allLtE, allLt]
    | cons b r =>
      have := ih r
      simp only [liftPt, List.map_cons] at this ⊢
      simp only [allLtE, allLt, this, EInt.lt, EInt.le]
      congr 1
      by_cases h : a < b
      · simp [h, le_of_lt h, not_le.2 h]
      · have h' : b ≤ a := not_lt.1 h
        simp [h, h']

theorem filter_lift (S : List Pt) (r : Pt) :
    (S.map liftPt).filter (fun p => allLtE p (liftPt r)) = (dropTouching S r).map liftPt := by
  induction S with
  | nil => rfl
  | cons p S ih =>
    simp only [List.map_cons, List.filter_cons, dropTouching, allLtE_lift] at ih ⊢
    split <;> simp [ih]

/-- a row that touches the reference point dominates no cell -/
theorem unionF_dropTouching (S : List Pt) (r : Pt) : unionF r (dropTouching S r) = unionF r S := by
  ext c
  simp only [mem_unionF, dropTouching, List.mem_filter, allLt_iff]
  constructor
  · rintro ⟨p, ⟨hp, _⟩, h⟩
    exact ⟨p, hp, h⟩
  · rintro ⟨p, hp, h1, h2⟩
    refine ⟨p, ⟨hp, ?_⟩, h1, h2⟩
    -- `p ≤ c < r` coordinatewise
    clear hp
    induction h1 generalizing r with
    | nil => cases h2; exact Forall₂.nil
    | cons hab _ ih =>
      cases h2 with
      | cons hbc h2 => exact Forall₂.cons (lt_of_le_of_lt hab hbc) (ih _ h2)

theorem hvSpec_dropTouching (S : List Pt) (r : Pt) : hvSpec (dropTouching S r) r = hvSpec S r :=
  congrArg Finset.card (unionF_dropTouching S r)

theorem computeHypervolume_lift (S : List Pt) (r : Pt) (ap : Bool) (h : ∀ p ∈ S, Le p r) :
    computeHypervolume (S.map liftPt) (liftPt r) ap =
      HvOut.fin (if (dropTouching S r).isEmpty then 0 else computeHypervolumeFin (dropTouching S r) r ap) := by
  unfold computeHypervolume
  have h2 : ((dropTouching S r).map liftPt).any (fun p => p.any (fun c => !c.isFinite)) = false := by
    simp only [List.any_map, List.any_eq_false, Function.comp_apply, Bool.not_eq_true]
    intro p _
    simp [liftPt, EInt.isFinite]
  have h3 : ((dropTouching S r).map liftPt).map (·.map EInt.toInt) = dropTouching S r := by
    simp only [List.map_map]
    conv => rhs; rw [← List.map_id (dropTouching S r)]
    apply List.map_congr_left
    intro p _
    simp [lift_toInt]
  simp only [(all_allLeE_lift S r).2 h, lift_all_finite, filter_lift, h2, h3, lift_toInt, Bool.not_true,
    Bool.false_eq_true, if_false, List.isEmpty_map]
  split <;> rfl

theorem computeHypervolume_lift_error (S : List Pt) (r : Pt) (ap : Bool) (h : ¬ ∀ p ∈ S, Le p r) :
    computeHypervolume (S.map liftPt) (liftPt r) ap = HvOut.error := by
  unfold computeHypervolume
  have : (S.map liftPt).all (fun p => allLeE p (liftPt r)) = false := by
    by_contra hc
    exact h ((all_allLeE_lift S r).1 (by simpa using hc))
  simp [this]

/-- `compute_hypervolume` is exact on finite inputs that pass the check, with and without `assume_pareto`,
rows touching the reference point included -/
theorem computeHypervolume_eq_spec (S : List Pt) (r : Pt) (ap : Bool) (h : ∀ p ∈ S, Le p r) :
    computeHypervolume (S.map liftPt) (liftPt r) ap = HvOut.fin (hvSpec S r) := by
  rw [computeHypervolume_lift S r ap h]
  have hD : ∀ p ∈ dropTouching S r, Le p r := fun p hp => h p (List.mem_filter.1 hp).1
  congr 1
  split
  · rename_i he
    rw [← hvSpec_dropTouching, List.isEmpty_iff.1 he, hvSpec_nil]
    rfl
  · cases ap
    · rw [computeHypervolumeFin_eq_spec _ r hD, hvSpec_dropTouching]
    · rw [computeHypervolumeFin_assumePareto_eq_spec _ r hD, hvSpec_dropTouching]

theorem EInt.lt_of_le_ne {a b : EInt} (h : a.le b = true) (hne : a ≠ b) : a.lt b = true := by
  cases a <;> cases b <;> simp_all [EInt.lt, EInt.le]
  omega

theorem allLtE_of_forall₂ {p r : List EInt} (h : List.Forall₂ (fun a b => a.le b = true ∧ a ≠ b) p r) :
    allLtE p r = true := by
  induction h with
  | nil => rfl
  | cons hab _ ih => simp [allLtE, EInt.lt_of_le_ne hab.1 hab.2, ih]

theorem allLe_iff (p c : Pt) : allLe p c = true ↔ Le p c := by
  induction p generalizing c with
  | nil => cases c <;> simp [allLe, Le]
  | cons a p ih =>
    cases c with
    | nil => simp [allLe, Le]
    | cons b c => simp only [allLe, Bool.and_eq_true, decide_eq_true_eq, Le, forall₂_cons] at *; rw [ih c]

theorem mem_cellsBetween (lo r c : Pt) : c ∈ cellsBetween lo r ↔ Le lo c ∧ Lt c r := by
  induction lo generalizing r c with
  | nil =>
    cases r with
    | nil => simp [cellsBetween, Le, Lt]
    | cons b r => simp [cellsBetween, Le, Lt]; intro h; subst h; simp
  | cons a lo ih =>
    cases r with
    | nil => simp [cellsBetween, Le, Lt]; intro h h2; subst h2; cases h
    | cons b r =>
      simp only [cellsBetween, List.mem_flatMap, List.mem_range, List.mem_map, ih, Le, Lt]
      constructor
      · rintro ⟨k, hk, c', ⟨h1, h2⟩, rfl⟩
        refine ⟨Forall₂.cons (by omega) h1, Forall₂.cons ?_ h2⟩
        have : (k : Int) < (b - a).toNat := by exact_mod_cast hk
        omega
      · rintro ⟨h1, h2⟩
        cases h1 with
        | cons hx hp =>
          cases h2 with
          | cons hx2 hp2 =>
            rename_i x c'
            refine ⟨(x - a).toNat, ?_, c', ⟨hp, hp2⟩, ?_⟩
            · omega
            · congr 1; omega

theorem nodup_cellsBetween (lo r : Pt) : (cellsBetween lo r).Nodup := by
  induction lo generalizing r with
  | nil => cases r <;> simp [cellsBetween]
  | cons a lo ih =>
    cases r with
    | nil => simp [cellsBetween]
    | cons b r =>
      simp only [cellsBetween]
      rw [List.nodup_flatMap]
      refine ⟨fun k _ => (ih r).map (fun c c' h => by simpa using h), ?_⟩
      refine List.Pairwise.imp_of_mem ?_ (List.nodup_range (n := (b - a).toNat))
      intro k k' _ _ hne
      simp only [Function.onFun, List.disjoint_left, List.mem_map]
      rintro c ⟨c1, _, rfl⟩ ⟨c2, _, h⟩
      simp only [List.cons.injEq] at h
      exact hne (by omega)

theorem pmin_le {p q : Pt} (h : p.length = q.length) : Le (pmin p q) p ∧ Le (pmin p q) q := by
  induction p generalizing q with
  | nil => cases q with
    | nil => exact ⟨Forall₂.nil, Forall₂.nil⟩
    | cons _ _ => simp at h
  | cons a p ih =>
    cases q with
    | nil => simp at h
    | cons b q =>
      obtain ⟨h1, h2⟩ := ih (q := q) (by simpa using h)
      exact ⟨Forall₂.cons (min_le_left _ _) h1, Forall₂.cons (min_le_right _ _) h2⟩

theorem foldl_pmin_le (S : List Pt) (acc r : Pt) (hacc : acc.length = r.length) (hS : ∀ p ∈ S, Le p r) :
    Le (S.foldl pmin acc) acc ∧ ∀ p ∈ S, Le (S.foldl pmin acc) p := by
  induction S generalizing acc with
  | nil => exact ⟨Le.refl _, fun p hp => by cases hp⟩
  | cons q S ih =>
    have hq := hS q List.mem_cons_self
    have hl : acc.length = q.length := by rw [hacc, hq.length_eq]
    have hl2 : (pmin acc q).length = r.length := by
      have := (pmin_le hl).1.length_eq; omega
    obtain ⟨h1, h2⟩ := ih (pmin acc q) hl2 (fun p hp => hS p (List.mem_cons_of_mem _ hp))
    simp only [List.foldl_cons]
    refine ⟨h1.trans (pmin_le hl).1, ?_⟩
    intro p hp
    rcases List.mem_cons.1 hp with rfl | hp
    · exact h1.trans (pmin_le hl).2
    · exact h2 p hp

/-- The executable brute force used by the driver (`hvBrute`: enumerate the cells of the bounding box, count
the dominated ones) computes `hvSpec`. -/
theorem hvBrute_eq_spec (S : List Pt) (r : Pt) (hS : ∀ p ∈ S, Le p r) : hvBrute S r = hvSpec S r := by
  unfold hvBrute hvSpec
  simp only
  set lo := S.foldl pmin r with hlo
  obtain ⟨_, hlo2⟩ := foldl_pmin_le S r r rfl hS
  rw [← hlo] at hlo2
  have hnd := (nodup_cellsBetween lo r).filter (fun c => S.any (fun p => allLe p c))
  rw [← List.toFinset_card_of_nodup hnd]
  congr 1
  ext c
  simp only [List.mem_toFinset, List.mem_filter, mem_cellsBetween, List.any_eq_true, allLe_iff, mem_unionF]
  constructor
  · rintro ⟨⟨_, h2⟩, p, hp, h3⟩
    exact ⟨p, hp, h3, h2⟩
  · rintro ⟨p, hp, h3, h2⟩
    exact ⟨⟨(hlo2 p hp).trans h3, h2⟩, p, hp, h3⟩

end OptunaVerif.Hypervolume
