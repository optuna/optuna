import OptunaVerif.Lemmas.InMemoryRefine
/-! Frame lemmas for the in-memory refinement: what each kind of state change keeps of `InvS`, `InvC` and `Rel`.
Every writing call replaces the record of ONE study (creates it, rewrites it in place, appends a trial to it, deletes it)
and leaves the others: the changed `_studies` reads `if k = sid then new? else old` (`NMap.get?_set`, `get?_upd_at`,
`get?_erase`; inverted by `NMap.point_cases`).  `InvS.point` is `InvS` after such a change, `invS_upd` its in-place
instance.  `InvC` is a statement about every study record by itself (`CacheOk`, with the study's cursor entry): a call
argues about the record it writes (`CacheOk.write`, `CacheOk.close`) and hands the others on
(`OthersOk`).  `Rel.studies` is checked study by study (`studies_eq_abs`, against the contract's `study?_append`,
`study?_delete`, `study?_updStudy`). -/
namespace OptunaVerif.InMemory
open OptunaVerif.Storage

/-- `InvS` after the record of ONE study has been replaced by `new?` (created, rewritten in place, deleted) while the
counters have not gone down: the new record is checked by itself; the two index dictionaries are checked at `sid`, and away
from `sid` they say what they said. -/
theorem InvS.point {m m' : State} {sid : Nat} {new? : Option StudyInfo} (hS : InvS m)
    (hget : ∀ k, m'.studies.get? k = if k = sid then new? else m.studies.get? k)
    (hkeys : (m'.studies.map (·.1)).Pairwise (· < ·))
    (hnS : m.nextStudyId ≤ m'.nextStudyId) (hnT : m.nextTrialId ≤ m'.nextTrialId)
    (hnew : ∀ x, new? = some x → sid < m'.nextStudyId ∧ dirsOk x.directions = true ∧
      ∀ (num tid : Nat) t, x.trials[num]? = some (tid, t) → t.number = num ∧ t.study = sid ∧ tid < m'.nextTrialId)
    (hname : ∀ name, m'.nameToId.get? name = some sid ↔ ∃ x, new? = some x ∧ x.name = name)
    (hnames : ∀ name k, k ≠ sid → (m'.nameToId.get? name = some k ↔ m.nameToId.get? name = some k))
    (htid : ∀ tid num, m'.tidMap.get? tid = some (sid, num) ↔ ∃ x t, new? = some x ∧ x.trials[num]? = some (tid, t))
    (htids : ∀ tid k num, k ≠ sid → (m'.tidMap.get? tid = some (k, num) ↔ m.tidMap.get? tid = some (k, num))) :
    InvS m' := by
  refine ⟨hkeys, fun k x hx => ?_, fun name k => ?_, fun tid k num => ?_, fun k x num tid t hx ht => ?_, fun k x hx => ?_⟩
  · rcases NMap.point_cases hget hx with ⟨rfl, e⟩ | ⟨_, hx'⟩
    · exact (hnew x e).1
    · exact Nat.lt_of_lt_of_le (hS.sBound k x hx') hnS
  · rw [hget]
    split
    · next e => exact e ▸ hname name
    · next hk => exact (hnames name k hk).trans (hS.names name k)
  · rw [hget]
    split
    · next e => exact e ▸ htid tid num
    · next hk => exact (htids tid k num hk).trans (hS.tmap tid k num)
  · rcases NMap.point_cases hget hx with ⟨rfl, e⟩ | ⟨_, hx'⟩
    · exact (hnew x e).2.2 num tid t ht
    · obtain ⟨h1, h2, h3⟩ := hS.tfields k x num tid t hx' ht
      exact ⟨h1, h2, Nat.lt_of_lt_of_le h3 hnT⟩
  · rcases NMap.point_cases hget hx with ⟨rfl, e⟩ | ⟨_, hx'⟩
    · exact (hnew x e).2.1
    · exact hS.dirs k x hx'

theorem invS_upd {m : State} {sid : Nat} {si : StudyInfo} (h : StudyInfo → StudyInfo) (hS : InvS m)
    (hsi : m.studies.get? sid = some si) (ht : (h si).trials = si.trials) (hn : (h si).name = si.name)
    (hd : (h si).directions = si.directions) : InvS { m with studies := m.studies.upd sid h } := by
  refine hS.point (sid := sid) (new? := some (h si)) (NMap.get?_upd_at hsi h) ?_ (Nat.le_refl _) (Nat.le_refl _) ?_ ?_
    (fun _ _ _ => Iff.rfl) ?_ (fun _ _ _ _ => Iff.rfl)
  · show ((NMap.upd m.studies sid h).map (·.1)).Pairwise (· < ·)
    rw [NMap.keys_upd]; exact hS.sKeys
  · rintro x ⟨⟩
    rw [ht, hd]
    exact ⟨hS.sBound sid si hsi, hS.dirs sid si hsi, fun num tid t => hS.tfields sid si num tid t hsi⟩
  · intro name
    show m.nameToId.get? name = some sid ↔ _
    rw [hS.names, hsi]; simp [hn]
  · intro tid num
    show m.tidMap.get? tid = some (sid, num) ↔ _
    rw [hS.tmap, hsi]; simp [ht]

/-- What `InvC` says of one study record, `c?` being the study's entry in `_prev_waiting_trial_number`.  The best-trial
cache disregards position `ex`: the record just written there, which `_update_cache` has not looked at yet. -/
structure CacheOk (c? : Option Nat) (si : StudyInfo) (ex : Option Nat) : Prop where
  cursor : ∃ c, c? = some c ∧ c ≤ si.trials.length ∧
    ∀ (j : Nat) p, j < c → si.trials[j]? = some p → p.2.state ≠ .waiting
  good : ∀ d, si.directions = [d] → ∀ (j : Nat) p, si.trials[j]? = some p → p.2.state = .complete →
    goodVals p.2.values = true
  best : BestOk si ex

theorem InvC.cacheOk {m : State} (h : InvC m) {sid : Nat} {si : StudyInfo} (hsi : m.studies.get? sid = some si) :
    CacheOk (m.prevWaiting.get? sid) si none :=
  ⟨h.pw sid si hsi, fun d hd => h.good sid si d hsi hd, h.best sid si hsi⟩

theorem invC_of_cacheOk {m : State}
    (h : ∀ sid si, m.studies.get? sid = some si → CacheOk (m.prevWaiting.get? sid) si none) : InvC m :=
  ⟨fun sid si hsi => (h sid si hsi).cursor, fun sid si d hsi hd => (h sid si hsi).good d hd,
    fun sid si hsi => (h sid si hsi).best⟩

def OthersOk (m : State) (sid : Nat) : Prop :=
  ∀ k x, k ≠ sid → m.studies.get? k = some x → CacheOk (m.prevWaiting.get? k) x none

theorem InvC.othersOk {m : State} (h : InvC m) (sid : Nat) : OthersOk m sid := fun _ _ _ hx => h.cacheOk hx

theorem invC_of_here {m : State} {sid : Nat} {x : StudyInfo} (hoth : OthersOk m sid)
    (hx : m.studies.get? sid = some x) (hhere : CacheOk (m.prevWaiting.get? sid) x none) : InvC m :=
  invC_of_cacheOk fun k y hy => by
    by_cases hk : k = sid
    · rw [hk, hx] at hy; cases hy; exact hk ▸ hhere
    · exact hoth k y hk hy

theorem OthersOk.frame {m m' : State} {sid : Nat} (hoth : OthersOk m sid)
    (hst : ∀ k, k ≠ sid → m'.studies.get? k = m.studies.get? k)
    (hpw : ∀ k, k ≠ sid → m'.prevWaiting.get? k = m.prevWaiting.get? k) : OthersOk m' sid := by
  intro k x hk hx
  rw [hst k hk] at hx
  rw [hpw k hk]; exact hoth k x hk hx

theorem OthersOk.upd {m m' : State} {sid : Nat} {h : StudyInfo → StudyInfo} (hoth : OthersOk m sid)
    (hst : m'.studies = m.studies.upd sid h)
    (hpw : ∀ k, k ≠ sid → m'.prevWaiting.get? k = m.prevWaiting.get? k) : OthersOk m' sid :=
  hoth.frame (fun k hk => by rw [hst, NMap.get?_upd, if_neg hk]) hpw

theorem CacheOk.of_eq {c? : Option Nat} {x y : StudyInfo} {ex : Option Nat} (ht : x.trials = y.trials)
    (hd : x.directions = y.directions) (hb : x.bestTrialId = y.bestTrialId) (h : CacheOk c? y ex) : CacheOk c? x ex := by
  cases x; cases y
  cases ht; cases hd; cases hb
  exact ⟨h.cursor, h.good, h.best.none_, h.best.some_⟩

theorem invC_upd {m : State} {sid : Nat} {si : StudyInfo} (h : StudyInfo → StudyInfo) (hC : InvC m)
    (hsi : m.studies.get? sid = some si) (ht : (h si).trials = si.trials) (hd : (h si).directions = si.directions)
    (hb : (h si).bestTrialId = si.bestTrialId) : InvC { m with studies := m.studies.upd sid h } :=
  invC_of_here ((hC.othersOk sid).upd rfl fun _ _ => rfl) (NMap.get?_upd_self hsi h) ((hC.cacheOk hsi).of_eq ht hd hb)

theorem bestOk_drop_ex (x : StudyInfo) (num : Nat) (h : BestOk x (some num))
    (hnc : ∀ p, x.trials[num]? = some p → p.2.state ≠ .complete) : BestOk x none := by
  constructor
  · intro hn j p _ hp
    by_cases hj : j = num
    · subst hj; exact hnc p hp
    · exact h.none_ hn j p (fun e => hj (Option.some.inj e)) hp
  · intro b hb
    obtain ⟨j, t, _, hjt, hc, hdom⟩ := h.some_ b hb
    refine ⟨j, t, by simp, hjt, hc, ?_⟩
    intro d hd
    obtain ⟨v, hv, hall⟩ := hdom d hd
    refine ⟨v, hv, ?_⟩
    intro k q w _ hq hqc hqw
    by_cases hk : k = num
    · subst hk; exact absurd hqc (hnc q hq)
    · exact hall k q w (fun e => hk (Option.some.inj e)) hq hqc hqw

theorem CacheOk.close {c? : Option Nat} {si : StudyInfo} {n : Nat} (h : CacheOk c? si (some n))
    (hnc : ∀ p, si.trials[n]? = some p → p.2.state ≠ .complete) : CacheOk c? si none :=
  ⟨h.cursor, h.good, bestOk_drop_ex si n h.best hnc⟩

theorem bestOk_except (si : StudyInfo) (l : List (Nat × TrialS)) (n : Nat) (h : BestOk si none)
    (hl : ∀ j : Nat, j ≠ n → l[j]? = si.trials[j]?)
    (hn : ∀ p, si.trials[n]? = some p → p.2.state ≠ .complete) :
    BestOk { si with trials := l } (some n) := by
  have off : ∀ j : Nat, some j ≠ some n → l[j]? = si.trials[j]? := fun j hj => hl j (fun e => hj (by rw [e]))
  constructor
  · intro hb j q hj hq
    have hq' : l[j]? = some q := hq
    rw [off j hj] at hq'
    exact h.none_ hb j q (by simp) hq'
  · intro b hb
    obtain ⟨j, t, _, hjt, hc, hdom⟩ := h.some_ b hb
    have hjn : j ≠ n := fun e => hn (b, t) (by rw [← e]; exact hjt) hc
    refine ⟨j, t, fun e => hjn (Option.some.inj e), ?_, hc, ?_⟩
    · show l[j]? = some (b, t)
      rw [hl j hjn]; exact hjt
    · intro d hd
      obtain ⟨v, hv, hall⟩ := hdom d hd
      refine ⟨v, hv, ?_⟩
      intro k q w hk hq hqc hqw
      have hq' : l[k]? = some q := hq
      rw [off k hk] at hq'
      exact hall k q w (by simp) hq' hqc hqw

/-- One record is written at position `n` (replaced, or appended when `n` is the length) where no COMPLETE trial
stood, and the cursor entry goes from `c` to `c' ≤ c`. -/
theorem CacheOk.write {c c' : Nat} {si : StudyInfo} {l : List (Nat × TrialS)} {n : Nat}
    (h : CacheOk (some c) si none) (hl : ∀ j : Nat, j ≠ n → l[j]? = si.trials[j]?)
    (hlen : si.trials.length ≤ l.length) (hold : ∀ p, si.trials[n]? = some p → p.2.state ≠ .complete)
    (hc : c' ≤ c)
    (hnew : ∀ p, l[n]? = some p → (p.2.state = .waiting → c' ≤ n) ∧
      ∀ d, si.directions = [d] → p.2.state = .complete → goodVals p.2.values = true) :
    CacheOk (some c') { si with trials := l } (some n) := by
  obtain ⟨c0, e, hle, hall⟩ := h.cursor
  cases e
  refine ⟨⟨c', rfl, Nat.le_trans hc (Nat.le_trans hle hlen), ?_⟩, ?_, bestOk_except si l n h.best hl hold⟩
  · intro j p hj hp hw
    have hp' : l[j]? = some p := hp
    by_cases hjn : j = n
    · subst hjn; have := (hnew p hp').1 hw; omega
    · rw [hl j hjn] at hp'; exact hall j p (by omega) hp' hw
  · intro d hd j p hp hpc
    have hp' : l[j]? = some p := hp
    by_cases hjn : j = n
    · subst hjn; exact (hnew p hp').2 d hd hpc
    · rw [hl j hjn] at hp'; exact h.good d hd j p hp' hpc

theorem studies_upd_same {m : State} {s : Spec} {sid : Nat} {si : StudyInfo} (h : StudyInfo → StudyInfo) (hS : InvS m)
    (hR : Rel m s) (hsi : m.studies.get? sid = some si) (hp : (h si).pub = si.pub) :
    s.studies = absStudies { m with studies := m.studies.upd sid h } :=
  studies_eq_abs hR.nstudies fun i _ => by
    show _ = (NMap.get? (NMap.upd m.studies sid h) i).map StudyInfo.pub
    rw [NMap.get?_upd_at hsi, study?_eq_get? m s hS hR]
    split
    · next e => rw [e, hsi]; exact congrArg some hp.symm
    · rfl

/-- `Rel` does not look at the dictionaries other than `_studies`, and of a study object only at its public fields and
its trials: the storage rewrites the record of `sid` by `h` without touching its trials, the contract its view of it by `h'`. -/
theorem rel_upd {m : State} {s : Spec} {sid : Nat} {si : StudyInfo} (h : StudyInfo → StudyInfo) (h' : StudyS → StudyS)
    (hS : InvS m) (hR : Rel m s) (hsi : m.studies.get? sid = some si) (ht : (h si).trials = si.trials)
    (hp : (h si).pub = h' si.pub) :
    Rel { m with studies := m.studies.upd sid h } (s.updStudy sid h') := by
  refine ⟨studies_eq_abs ?_ fun i _ => ?_, hR.ntrials, fun k x hx => ?_, fun t ht' => ?_⟩
  · show (updAt s.studies sid _).length = _
    rw [updAt_length]; exact hR.nstudies
  · show _ = (NMap.get? (NMap.upd m.studies sid h) i).map StudyInfo.pub
    rw [study?_updStudy, NMap.get?_upd_at hsi, study?_eq_get? m s hS hR]
    split
    · next e => rw [e, hsi]; exact congrArg some hp.symm
    · rfl
  · show s.trialsOf k = _
    rcases NMap.point_cases (NMap.get?_upd_at hsi h) hx with ⟨rfl, ⟨⟩⟩ | ⟨_, hx'⟩
    · rw [hR.trialsOf k si hsi, ht]
    · exact hR.trialsOf k x hx'
  · show t.study < (updAt s.studies sid _).length
    rw [updAt_length]; exact hR.bound t ht'

theorem rel_upd_same {m : State} {s : Spec} {sid : Nat} {si : StudyInfo} (h : StudyInfo → StudyInfo) (hS : InvS m)
    (hR : Rel m s) (hsi : m.studies.get? sid = some si) (ht : (h si).trials = si.trials) (hp : (h si).pub = si.pub) :
    Rel { m with studies := m.studies.upd sid h } s := by
  simpa [Spec.updStudy, updAt_id] using rel_upd h (fun st => st) hS hR hsi ht hp

theorem invS_prevWaiting (m : State) (pw : NMap Nat) (hS : InvS m) : InvS { m with prevWaiting := pw } :=
  ⟨hS.sKeys, hS.sBound, hS.names, hS.tmap, hS.tfields, hS.dirs⟩

theorem rel_prevWaiting (m : State) (s : Spec) (pw : NMap Nat) (hR : Rel m s) :
    Rel { m with prevWaiting := pw } s :=
  ⟨hR.studies, hR.ntrials, hR.trialsOf, hR.bound⟩

theorem invS_setTrial (m : State) (hS : InvS m) (sid num tid : Nat) (si : StudyInfo) (t0 t' : TrialS)
    (hsi : m.studies.get? sid = some si) (h0 : si.trials[num]? = some (tid, t0))
    (hn : t'.number = t0.number) (hs : t'.study = t0.study) :
    InvS (setTrial m sid num (tid, t')) := by
  have hset : ∀ j : Nat, (si.trials.set num (tid, t'))[j]? = if j = num then some (tid, t') else si.trials[j]? := by
    intro j
    rw [List.getElem?_set]
    by_cases hj : num = j
    · subst hj; simp [getElem?_lt_length h0]
    · simp [hj, Ne.symm hj]
  obtain ⟨h1, h2, h3⟩ := hS.tfields sid si num tid t0 hsi h0
  refine hS.point (sid := sid) (new? := some { si with trials := si.trials.set num (tid, t') }) (NMap.get?_upd_at hsi _) ?_
    (Nat.le_refl _) (Nat.le_refl _) ?_ ?_ (fun _ _ _ => Iff.rfl) ?_ (fun _ _ _ _ => Iff.rfl)
  · show ((NMap.upd m.studies sid _).map (·.1)).Pairwise (· < ·)
    rw [NMap.keys_upd]; exact hS.sKeys
  · rintro x ⟨⟩
    refine ⟨hS.sBound sid si hsi, hS.dirs sid si hsi, fun j tid' t ht => ?_⟩
    rw [hset] at ht
    split at ht
    · next e => cases ht; exact ⟨hn ▸ e ▸ h1, hs ▸ h2, h3⟩
    · exact hS.tfields sid si j tid' t hsi ht
  · intro name
    show m.nameToId.get? name = some sid ↔ _
    rw [hS.names, hsi]; simp
  · intro tid' j
    show m.tidMap.get? tid' = some (sid, j) ↔ _
    rw [hS.tmap, hsi]
    simp only [Option.some.injEq, exists_and_left, exists_eq_left', hset]
    split
    · next e =>
      subst e
      rw [h0]
      exact ⟨fun ⟨t, e⟩ => ⟨t', by cases e; rfl⟩, fun ⟨t, e⟩ => ⟨t0, by cases e; rfl⟩⟩
    · exact Iff.rfl

/-- a write at position `num` (`CacheOk.write`) that `_update_cache` need not look at (`CacheOk.close`) -/
theorem invC_setTrial_same (m : State) (hC : InvC m) (sid num tid : Nat) (si : StudyInfo) (t0 t' : TrialS)
    (hsi : m.studies.get? sid = some si) (h0 : si.trials[num]? = some (tid, t0))
    (hn : t'.state = t0.state) (hnc : t0.state ≠ .complete) :
    InvC (setTrial m sid num (tid, t')) := by
  obtain ⟨c, hc, _, hall⟩ := (hC.cacheOk hsi).cursor
  have hget : (si.trials.set num (tid, t'))[num]? = some (tid, t') := by
    rw [List.getElem?_set]; simp [getElem?_lt_length h0]
  refine invC_of_here ((hC.othersOk sid).upd rfl fun _ _ => rfl) (NMap.get?_upd_self hsi _) ?_
  show CacheOk (m.prevWaiting.get? sid) { si with trials := si.trials.set num (tid, t') } none
  rw [hc]
  refine (CacheOk.write (n := num) (hc ▸ hC.cacheOk hsi) (fun j hj => by rw [List.getElem?_set]; simp [Ne.symm hj])
    (by simp) ?_ (Nat.le_refl c) ?_).close ?_
  · intro p hp
    rw [h0] at hp; cases hp; exact hnc
  · intro p hp
    rw [hget] at hp; cases hp
    -- a WAITING record stands at or above the cursor
    exact ⟨fun hw => Nat.le_of_not_lt fun hlt => hall num (tid, t0) hlt h0 (hn ▸ hw), fun _ _ hcm => absurd (hn ▸ hcm) hnc⟩
  · intro p hp
    rw [hget] at hp; cases hp; exact hn ▸ hnc

theorem rel_setTrial (m : State) (s : Spec) (hS : InvS m) (hR : Rel m s) (tid : Nat) (f : Found)
    (hf : getTrial m tid = .ok f) (g : TrialS → TrialS) (hg : ∀ t, (g t).study = t.study) :
    Rel (setTrial m f.sid f.num (f.id, g f.t)) (s.updTrial tid g) := by
  obtain ⟨hid, ⟨si, hsi, ht⟩, hmap, _, _, _, _⟩ := getTrial_ok m s hS hR tid f hf
  rw [hid]
  have uniq : ∀ k y (j : Nat) q, m.studies.get? k = some y → y.trials[j]? = some q → q.1 = tid → k = f.sid ∧ j = f.num := by
    intro k y j q hy hq hq1
    have := (hS.tmap tid k j).2 ⟨y, q.2, hy, by rw [hq]; congr 1; exact Prod.ext hq1 rfl⟩
    rw [hmap] at this
    simp only [Option.some.injEq, Prod.mk.injEq] at this
    exact ⟨this.1.symm, this.2.symm⟩
  refine ⟨studies_upd_same (s := s) _ hS hR hsi rfl, ?_, ?_, ?_⟩
  · show (updAt s.trials tid g).length = m.nextTrialId
    rw [updAt_length]; exact hR.ntrials
  · intro k x hx
    rw [Storage.trialsOf_updTrial s tid k g hg]
    rcases NMap.point_cases (NMap.get?_upd_at hsi _) hx with ⟨rfl, ⟨⟩⟩ | ⟨hk, hx'⟩
    · rw [hR.trialsOf f.sid si hsi]
      exact map_upd_eq_set si.trials f.num tid f.t g ht fun j q hq hq1 => (uniq f.sid si j q hsi hq hq1).2
    · rw [hR.trialsOf k x hx']
      apply map_upd_eq_self
      intro q hq hq1
      obtain ⟨j, hj⟩ := List.getElem?_of_mem hq
      exact hk (uniq k x j q hx' hj hq1).1
  · intro t ht'
    show t.study < s.studies.length
    rcases mem_updAt ht' with h1 | ⟨y, hy, e⟩
    · exact hR.bound t h1
    · rw [e, hg]; exact hR.bound y (List.mem_of_getElem? hy)

end OptunaVerif.InMemory
