import OptunaVerif.Model.DistIR
import OptunaVerif.Lemmas.SimpAttr
import OptunaVerif.Lemmas.Basic
/-!
# The interpreter of `Model/DistIR.lean`, as a simp set

`dist_ir` holds the defining equations of `eval`, `exec`, `evalCond`, `block`, `runFn` (one per constructor), the
store operations on literal association lists, and the value primitives on the constructor forms that the generated bodies of
`distributions.py` reach.  `simp [dist_ir, …]` executes a body (`d_simp` of `Props/C11DistGen.lean`).

A long body is not run in one piece: the end of the file gives the rules by which it is cut — a call is its body (`runFn_of_exec`, the way the
body ended as a value: `Flow.result`), a sequence goes on after a first statement that fell through (`exec_seq_next`), a validation in front
is an `if` on its test (`exec_guard`) — and what `==` does on the objects of two distributions (`eqV_instV`).
-/
namespace OptunaVerif.DistIR
open OptunaVerif.Dist

-- `bind1` is unfolded, not rewritten by `bind1_ok` / `bind1_error`: as `match r with …` its discriminant is reduced first and only the arm
-- taken is visited; kept folded, `simp` would first simplify the continuation under its binders (unknown value and state) at every step.
attribute [dist_ir] eval exec evalCond block runFn bind1 getLocal setLocal errOf boolV Except.map

attribute [dist_ir] AList.get?_nil AList.get?_cons AList.set_nil AList.set_cons
attribute [dist_ir] jget

@[dist_ir] theorem pyEq_int (a b : Int) : Tok.pyEq (.int a) (.int b) = decide (a = b) := by
  by_cases h : a = b <;> simp [Tok.pyEq, Tok.num?, h]
@[dist_ir] theorem pyEq_flt (a b : Rat) : Tok.pyEq (.flt a) (.flt b) = decide (a = b) := by
  by_cases h : a = b <;> simp [Tok.pyEq, Tok.num?, h]
@[dist_ir] theorem pyEq_flt_int (a : Rat) (b : Int) : Tok.pyEq (.flt a) (.int b) = decide (a = (b : Rat)) := by
  by_cases h : a = (b : Rat) <;> simp [Tok.pyEq, Tok.num?, h]
@[dist_ir] theorem pyEq_bool (a b : Bool) : Tok.pyEq (.bool a) (.bool b) = decide (a = b) := by
  cases a <;> cases b <;> rfl
@[dist_ir] theorem pyEq_str (a b : String) : Tok.pyEq (.str a) (.str b) = decide (a = b) := by
  by_cases h : a = b <;> simp [Tok.pyEq, h]

-- `eqV` stays written out: on two objects it has to stay folded for `eqV_instV`
@[dist_ir] theorem eqV_tok (a b : Tok) : eqV (.tok a) (.tok b) = .ok (a.pyEq b) := rfl
@[dist_ir] theorem eqV_dec (a b : Rat) : eqV (.dec a) (.dec b) = .ok (a == b) := rfl
@[dist_ir] theorem eqV_cls (a b : Cls) : eqV (.cls a) (.cls b) = .ok (a == b) := rfl

attribute [dist_ir] truthy Tok.truthy isV cmpV numOf arith

@[dist_ir] theorem isSub_eq (c base : Cls) : c.isSub base = (c == base || base == c.base) := by
  cases c with
  | flt c => cases c <;> cases base with | flt b => cases b <;> rfl | int b => cases b <;> rfl | cat => rfl
  | int c => cases c <;> cases base with | flt b => cases b <;> rfl | int b => cases b <;> rfl | cat => rfl
  | cat => cases base with | flt b => cases b <;> rfl | int b => cases b <;> rfl | cat => rfl
attribute [dist_ir] Cls.base

attribute [dist_ir] absV roundV floatOfV intOfV isnanV lenV indexV isInV tupleIndexV attrV jv1V valJV1 Tok.num?

theorem Program.initD_eq (G : Program) (c : Cls) (args : List (String × Val)) (s : MSt) :
    G.initD c args s =
      (let r := G.runInitBody G.superD c args { locals := [], self := some (c, []), warns := s.warns }
       ({ s with warns := r.1.warns },
        match r.2 with
        | .raised e => .error e
        | _ => match r.1.self with | some (c', d) => .ok (.inst c' d) | none => .error .unrep)) := by
  unfold Program.initD
  rcases G.runInitBody G.superD c args { locals := [], self := some (c, []), warns := s.warns } with ⟨s', fl⟩
  cases fl <;> rfl

theorem ofInst_instV (d : Dist) : ofInst (instV d) = some d := by
  cases d with
  | flt c low high log step => cases step <;> rfl
  | int c low high log step => rfl
  | cat cs => rfl

theorem instV_inj {a b : Dist} (h : instV a = instV b) : a = b :=
  Option.some.inj (by rw [← ofInst_instV a, h, ofInst_instV])

theorem eqV_instV (a b : Dist) : eqV (instV a) (instV b) = .ok (a.pyEq b) := by
  -- unless both are categorical, `__eq__` compares class and `__dict__`, which determine the distribution
  have key : eqV (instV a) (instV b) = .ok (clsOf a == clsOf b && instDict a == instDict b) →
      eqV (instV a) (instV b) = .ok (a == b) := by
    intro h
    rw [h, Except.ok.injEq, Bool.eq_iff_iff]
    simp only [Bool.and_eq_true, beq_iff_eq]
    exact ⟨fun ⟨h1, h2⟩ => instV_inj (by rw [instV, instV, h1, h2]), fun h => by rw [h]; exact ⟨rfl, rfl⟩⟩
  cases a with
  | cat x =>
    cases b with
    | cat y => rfl
    | _ => exact key rfl
  | _ => cases b <;> exact key rfl

/-- what a call returns when its body ended this way -/
def Flow.result : Flow → Except Exn Val
  | .next => .ok (.tok .none)
  | .ret v => .ok v
  | .raised e => .error e

/-- how `return e` ends, `e` evaluated -/
def flowOf : Except Exn Val → Flow
  | .ok v => .ret v
  | .error e => .raised e

theorem result_flowOf (r : Except Exn Val) : (flowOf r).result = r := by cases r <;> rfl

theorem runFn_of_exec {C : CallD} {I : InitD} {body : Stmt} {params : List String} {self : Option (Cls × JObj)} {args : List Val}
    {s s' : MSt} {fl : Flow} (hl : params.length = args.length)
    (h : exec C I noSuper body { locals := params.zip args, self := self, warns := s.warns } = (s', fl)) :
    runFn C I body params self args s = ({ s with warns := s'.warns }, fl.result) := by
  rw [runFn, if_neg (fun hne => hne hl), h]
  cases fl <;> rfl

theorem runFn_snd {C : CallD} {I : InitD} {body : Stmt} {params : List String} {self : Option (Cls × JObj)} {args : List Val}
    {s : MSt} {fl : Flow} (hl : params.length = args.length)
    (h : (exec C I noSuper body { locals := params.zip args, self := self, warns := s.warns }).2 = fl) :
    (runFn C I body params self args s).2 = fl.result := by
  rw [runFn_of_exec hl (s' := (exec C I noSuper body _).1) (fl := (exec C I noSuper body _).2) rfl, h]

theorem exec_guard {C : CallD} {I : InitD} {S : SuperD} {c : Expr} {e : Err} {rest : Stmt} {s : MSt} (b : Bool)
    (h : evalCond C I c s = (s, .ok b)) :
    exec C I S (.seq (.ite c (.raise e) .skip) rest) s = if b then (s, .raised (.err e)) else exec C I S rest s := by
  cases b <;> simp [exec, h]

theorem exec_seq_next {C : CallD} {I : InitD} {S : SuperD} {a b : Stmt} {s s1 : MSt} (h : exec C I S a s = (s1, .next)) :
    exec C I S (.seq a b) s = exec C I S b s1 := by rw [exec, h]

end OptunaVerif.DistIR
