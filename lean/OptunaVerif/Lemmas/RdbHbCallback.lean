import OptunaVerif.Model.RdbHeartbeat
import OptunaVerif.Model.Heartbeat
import OptunaVerif.Lemmas.RdbMut1
/-! `RetryFailedTrialCallback.__call__` on the relational model (`retryTemplate`, built from the *generated*
definitions of `Generated/StaleGen.lean`) against the abstract `retryOf` / `exceeds` of
`Model/Heartbeat.lean`.  Core Lean only. -/
namespace OptunaVerif.RdbHb
open OptunaVerif.Storage OptunaVerif.Rdb
open OptunaVerif.Generated

theorem dictUpdate_cons (d : AList String) (k v : String) (l : AList String) :
    dictUpdate d ((k, v) :: l) = dictUpdate (d.set k v) l := rfl

theorem get?_dictUpdate (d l : AList String) (hl : distinctKeys l) (k : String) :
    (dictUpdate d l).get? k = match l.get? k with | some v => some v | none => d.get? k := by
  induction l generalizing d with
  | nil => rfl
  | cons hd t ih =>
    obtain ⟨k', v'⟩ := hd
    unfold distinctKeys at hl
    rw [List.pairwise_cons] at hl
    rw [dictUpdate_cons, ih _ hl.2]
    by_cases hk : k' = k
    · subst hk
      have : AList.get? t k' = none := AList.get?_none_of_not_mem t k' (fun p hp => (hl.1 p hp).symm)
      simp [AList.get?, this, AList.get?_set_same]
    · simp only [AList.get?, hk, if_false]
      cases AList.get? t k with
      | some v => rfl
      | none => simp only; exact AList.get?_set_other d k' k v' (Ne.symm hk)

theorem filter_dictUpdate (d l : AList String) (p : String → Bool) :
    (dictUpdate d l).filter (fun x => p x.1) = dictUpdate (d.filter (fun x => p x.1)) (l.filter (fun x => p x.1)) := by
  induction l generalizing d with
  | nil => rfl
  | cons hd t ih =>
    obtain ⟨k', v'⟩ := hd
    rw [dictUpdate_cons, ih, AList.filter_set]
    by_cases hp : p k'
    · simp [hp, dictUpdate_cons]
    · simp [hp]

theorem dictUpdate_append (d l : AList String) (hl : distinctKeys l) (hdl : ∀ p ∈ d, ∀ q ∈ l, p.1 ≠ q.1) :
    dictUpdate d l = d ++ l := by
  induction l generalizing d with
  | nil => simp [dictUpdate]
  | cons hd t ih =>
    obtain ⟨k', v'⟩ := hd
    unfold distinctKeys at hl
    rw [List.pairwise_cons] at hl
    rw [dictUpdate_cons, AList.set_of_not_mem d k' v' (fun p hp => hdl p hp (k', v') (by simp))]
    rw [ih _ hl.2]
    · simp
    · intro p hp q hq
      rcases List.mem_append.mp hp with hp | hp
      · exact hdl p hp q (List.mem_cons_of_mem _ hq)
      · simp only [List.mem_singleton] at hp; subst hp; exact hl.1 q hq

theorem distinct_dictUpdate (d l : AList String) (hd : distinctKeys d) : distinctKeys (dictUpdate d l) := by
  induction l generalizing d with
  | nil => exact hd
  | cons hd' t ih => obtain ⟨k', v'⟩ := hd'; rw [dictUpdate_cons]; exact ih _ (distinct_set d k' v' hd)

theorem rowView_distinct (db : Rdb.State) (h : Inv0 db) (row : TrialRow) :
    distinctKeys (db.rowView row).params ∧ distinctKeys (db.rowView row).userAttrs ∧
    distinctKeys (db.rowView row).systemAttrs ∧ distinctKeys (db.rowView row).inter := by
  refine ⟨Tbl.kv_keys_distinct id db.params db.nParam h.params row.id, Tbl.kv_keys_distinct id db.tUser db.nTUser h.tUser row.id,
    Tbl.kv_keys_distinct id db.tSys db.nTSys h.tSys row.id, ?_⟩
  show distinctKeys (db.interView row.id)
  rw [interView_eq]
  exact distinct_decoded _ (Tbl.kv_keys_distinct decI db.inters db.nInter h.inters row.id)

structure Codec.Lawful (C : Codec) : Prop where
  nat : ∀ n, C.decNat (C.encNat n) = some n
  list : ∀ l, C.decList (C.encList l) = some l

/-- the two keys `RetryFailedTrialCallback` owns -/
def reserved (k : String) : Bool := k == StaleGen.retriedKey || k == StaleGen.historyKey

/-- a parameter as an opaque token of the abstract model -/
def ptok (p : Param) : String := p.internal ++ " " ++ p.dist.body

/-- what `Model/Heartbeat.lean` sees of a trial -/
def recOf (C : Codec) (t : TrialS) : Heartbeat.Rec :=
  { state := t.state,
    params := t.params.map (fun p => (p.1, ptok p.2)),
    userAttrs := t.userAttrs,
    failedTrial := (t.systemAttrs.get? StaleGen.retriedKey).bind C.decNat,
    retryHistory := (t.systemAttrs.get? StaleGen.historyKey).bind C.decList,
    otherSys := t.systemAttrs.filter (fun p => !reserved p.1) }

/-- the payloads under the two reserved keys are a number / a list of numbers (nobody but the callback
writes them) -/
structure WfSys (C : Codec) (sys : AList String) : Prop where
  keys : distinctKeys sys
  failed : ∀ tok, sys.get? StaleGen.retriedKey = some tok → ∃ n, tok = C.encNat n
  history : ∀ tok, sys.get? StaleGen.historyKey = some tok → ∃ l, tok = C.encList l

/-- the history the callback starts from -/
def histOf (C : Codec) (sys : AList String) : List Nat := ((sys.get? StaleGen.historyKey).bind C.decList).getD []

theorem recOf_hist (C : Codec) (t : TrialS) : (recOf C t).hist = histOf C t.systemAttrs := rfl

theorem appendKey_eq : StaleGen.appendKey = StaleGen.historyKey := by decide
theorem keys_ne : StaleGen.retriedKey ≠ StaleGen.historyKey := by decide

theorem initDict_eq (C : Codec) (n : Nat) :
    initDict C n = [(StaleGen.retriedKey, C.encNat n), (StaleGen.historyKey, C.encList [])] := by
  simp [initDict, StaleGen.callbackInit, StaleGen.retriedKey, StaleGen.historyKey, dictUpdate, AList.set]

theorem displayDict_eq (C : Codec) (n : Nat) (sys : AList String) :
    displayDict C n sys = dictUpdate [(StaleGen.retriedKey, C.encNat n), (StaleGen.historyKey, C.encList [])] sys := by
  simp only [displayDict, StaleGen.spread, initDict_eq]

theorem givesUp_exceeds (m : Option Int) (r : Heartbeat.Rec) :
    StaleGen.givesUp m ((r.hist.length + 1 : Nat) : Int) = Heartbeat.exceeds (m.map Int.toNat) r := by
  cases m with
  | none => rfl
  | some m =>
    simp only [StaleGen.givesUp, Heartbeat.exceeds, Option.map_some]
    congr 1
    apply propext
    omega

theorem givesUp_iff (m : Option Int) (len : Nat) :
    StaleGen.givesUp m ((len + 1 : Nat) : Int) = Heartbeat.exceeds (m.map Int.toNat) { (default : Heartbeat.Rec) with retryHistory := some (List.replicate len 0) } := by
  have := givesUp_exceeds m { (default : Heartbeat.Rec) with retryHistory := some (List.replicate len 0) }
  rwa [show ({ (default : Heartbeat.Rec) with retryHistory := some (List.replicate len 0) } : Heartbeat.Rec).hist.length = len from
    List.length_replicate] at this

/-- the system attributes the callback hands to `create_trial` -/
def retrySys (C : Codec) (t : TrialS) : AList String :=
  (dictUpdate [(StaleGen.retriedKey, C.encNat t.number), (StaleGen.historyKey, C.encList [])] t.systemAttrs).set
    StaleGen.historyKey (C.encList (histOf C t.systemAttrs ++ [t.number]))

/-- the template the callback hands to `add_trial` -/
def retryTmpl (C : Codec) (cb : CbCfg) (t : TrialS) : Template :=
  { state := .waiting, values := none, params := t.params, userAttrs := t.userAttrs, systemAttrs := retrySys C t,
    inter := if cb.inherit then t.inter else [], hasStart := false, hasComplete := false }

theorem history_token (C : Codec) (hC : C.Lawful) (t : TrialS) (hw : WfSys C t.systemAttrs) :
    ∃ tok, (displayDict C t.number t.systemAttrs).get? StaleGen.historyKey = some tok ∧
      C.decList tok = some (histOf C t.systemAttrs) := by
  rw [displayDict_eq, get?_dictUpdate _ _ hw.keys]
  cases hg : t.systemAttrs.get? StaleGen.historyKey with
  | some tok =>
    obtain ⟨l, hl⟩ := hw.history tok hg
    refine ⟨tok, rfl, ?_⟩
    simp [histOf, hg, hl, hC.list]
  | none =>
    refine ⟨C.encList [], ?_, ?_⟩
    · simp [AList.get?, keys_ne]
    · simp [histOf, hg, hC.list]

theorem retryTemplate_eq (C : Codec) (hC : C.Lawful) (cb : CbCfg) (t : TrialS) (hw : WfSys C t.systemAttrs) :
    retryTemplate C cb t =
      if Heartbeat.exceeds (cb.maxRetry.map Int.toNat) (recOf C t) then .gaveUp else .enqueue (retryTmpl C cb t) := by
  obtain ⟨tok, htok, hdec⟩ := history_token C hC t hw
  unfold retryTemplate appendNumber
  rw [appendKey_eq, htok]
  simp only [hdec]
  have hlen : ((histOf C t.systemAttrs ++ [t.number]).length : Int) = (((recOf C t).hist.length + 1 : Nat) : Int) := by
    rw [recOf_hist]; simp
  rw [hlen, givesUp_exceeds]
  split
  · rfl
  · simp only [retryTmpl, retrySys, StaleGen.retryState, StaleGen.copiesParams, StaleGen.copiesUserAttrs,
      StaleGen.sysAttrsSource, StaleGen.interMode, displayDict_eq, if_true, TState.isFinished]
    rfl

theorem retrySys_get_failed (C : Codec) (t : TrialS) (hw : WfSys C t.systemAttrs) :
    (retrySys C t).get? StaleGen.retriedKey =
      match t.systemAttrs.get? StaleGen.retriedKey with
      | some tok => some tok
      | none => some (C.encNat t.number) := by
  unfold retrySys
  rw [AList.get?_set_other _ _ _ _ keys_ne, get?_dictUpdate _ _ hw.keys]
  cases t.systemAttrs.get? StaleGen.retriedKey with
  | some tok => rfl
  | none => simp [AList.get?]

theorem retrySys_get_history (C : Codec) (t : TrialS) :
    (retrySys C t).get? StaleGen.historyKey = some (C.encList (histOf C t.systemAttrs ++ [t.number])) := by
  unfold retrySys
  exact AList.get?_set_same _ _ _

theorem reserved_retried : reserved StaleGen.retriedKey = true := by decide
theorem reserved_history : reserved StaleGen.historyKey = true := by decide

theorem retrySys_other (C : Codec) (t : TrialS) (hw : WfSys C t.systemAttrs) :
    (retrySys C t).filter (fun p => !reserved p.1) = t.systemAttrs.filter (fun p => !reserved p.1) := by
  unfold retrySys
  rw [AList.filter_set _ _ _ (fun k => !reserved k)]
  simp only [reserved_history, Bool.not_true, Bool.false_eq_true, if_false]
  rw [filter_dictUpdate _ _ (fun k => !reserved k)]
  have : List.filter (fun (x : String × String) => !reserved x.1)
      [(StaleGen.retriedKey, C.encNat t.number), (StaleGen.historyKey, C.encList [])] = [] := by
    simp [reserved_retried, reserved_history]
  rw [this, dictUpdate_append [] _ (distinct_filter _ _ hw.keys) (by intro p hp; simp at hp)]
  simp

theorem retrySys_wf (C : Codec) (t : TrialS) (hw : WfSys C t.systemAttrs) : WfSys C (retrySys C t) := by
  refine ⟨?_, ?_, ?_⟩
  · unfold retrySys
    apply distinct_set
    apply distinct_dictUpdate
    unfold distinctKeys
    simp [keys_ne]
  · intro tok h
    rw [retrySys_get_failed C t hw] at h
    cases hg : t.systemAttrs.get? StaleGen.retriedKey with
    | some tok' => rw [hg] at h; simp at h; subst h; exact hw.failed tok' hg
    | none => rw [hg] at h; simp at h; exact ⟨t.number, h.symm⟩
  · intro tok h
    rw [retrySys_get_history] at h
    simp at h
    exact ⟨_, h.symm⟩

theorem recOf_retry (C : Codec) (hC : C.Lawful) (cb : CbCfg) (t : TrialS) (hw : WfSys C t.systemAttrs) (sid n : Nat) :
    recOf C (mkTrial sid n (some (retryTmpl C cb t))) = Heartbeat.retryOf t.number (recOf C t) := by
  have hf : ((retrySys C t).get? StaleGen.retriedKey).bind C.decNat
      = some (((t.systemAttrs.get? StaleGen.retriedKey).bind C.decNat).getD t.number) := by
    rw [retrySys_get_failed C t hw]
    cases hg : t.systemAttrs.get? StaleGen.retriedKey with
    | some tok => obtain ⟨m, hm⟩ := hw.failed tok hg; simp [hm, hC.nat]
    | none => simp [hC.nat]
  simp only [recOf, mkTrial, retryTmpl, Heartbeat.retryOf, Heartbeat.Rec.hist, hf, retrySys_get_history, retrySys_other C t hw,
    Option.bind_some, hC.list, histOf]

end OptunaVerif.RdbHb
