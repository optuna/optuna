import OptunaVerif.Lemmas.TruncNormIntegral
import Mathlib.Analysis.SpecialFunctions.Gaussian.GaussianIntegral
import Mathlib.Analysis.Calculus.Deriv.MeanValue
/-!
# C18 — the genuine standard normal satisfies the hypothesis bundle

`gaussPdf x = exp(_norm_logpdf x) = exp(-x²/2)/√(2π)` and `gaussCdf x = 1/2 + ∫₀ˣ gaussPdf` satisfy
`StdNormalLike` (uses the Gaussian integral `∫₀^∞ exp(-x²/2) = √(2π)/2` from Mathlib).  Hence every theorem of
`Props/C18.lean` that assumes the bundle — including the ones that also assume `φ = exp ∘ _norm_logpdf` —
applies to the distribution the code is about.
-/
namespace OptunaVerif.TruncNorm
open MeasureTheory

noncomputable def gaussPdf (x : ℝ) : ℝ := Real.exp (normLogpdf x)

noncomputable def gaussCdf (x : ℝ) : ℝ := 1 / 2 + ∫ t in (0 : ℝ)..x, gaussPdf t

theorem sqrt_two_pos : 0 < Real.sqrt 2 := Real.sqrt_pos.mpr two_pos

theorem sqrt_two_pi_pos : 0 < Real.sqrt (2 * Real.pi) := Real.sqrt_pos.mpr (by positivity)

theorem one_le_sqrt_two_pi : 1 ≤ Real.sqrt (2 * Real.pi) := by
  rw [Real.one_le_sqrt]; linarith [Real.two_le_pi]

theorem gaussPdf_eq (x : ℝ) : gaussPdf x = Real.exp (-(1 / 2) * x ^ 2) / Real.sqrt (2 * Real.pi) := by
  unfold gaussPdf normLogpdf
  rw [Real.exp_sub, Real.exp_log sqrt_two_pi_pos]
  congr 2; ring

theorem gaussPdf_pos (x : ℝ) : 0 < gaussPdf x := Real.exp_pos _

theorem gaussPdf_le_kernel (t : ℝ) : gaussPdf t ≤ Real.exp (-(1 / 2) * t ^ 2) := by
  rw [gaussPdf_eq]
  exact div_le_self (Real.exp_pos _).le one_le_sqrt_two_pi

theorem gaussPdf_le_one (x : ℝ) : gaussPdf x ≤ 1 :=
  (gaussPdf_le_kernel x).trans (Real.exp_le_one_iff.mpr (by linarith [sq_nonneg x]))

theorem integral_zero_neg_of_even {f : ℝ → ℝ} (hf : ∀ t, f (-t) = f t) (x : ℝ) :
    ∫ t in (0 : ℝ)..(-x), f t = -∫ t in (0 : ℝ)..x, f t := by
  have h := intervalIntegral.integral_comp_neg (a := x) (b := 0) f
  simp only [neg_zero, hf] at h
  rw [← h, intervalIntegral.integral_symm]

theorem gaussPdf_neg (x : ℝ) : gaussPdf (-x) = gaussPdf x := by
  simp [gaussPdf, normLogpdf]

theorem continuous_gaussPdf : Continuous gaussPdf := by
  unfold gaussPdf
  exact Real.continuous_exp.comp continuous_normLogpdf

theorem gaussCdf_hasDerivAt (x : ℝ) : HasDerivAt gaussCdf (gaussPdf x) x := by
  have hc := continuous_gaussPdf
  exact (intervalIntegral.integral_hasDerivAt_right (hc.intervalIntegrable _ _)
    (hc.stronglyMeasurableAtFilter _ _) hc.continuousAt).const_add (1 / 2)

theorem gaussCdf_neg (x : ℝ) : gaussCdf (-x) = 1 - gaussCdf x := by
  unfold gaussCdf
  rw [integral_zero_neg_of_even gaussPdf_neg]; ring

theorem gaussCdf_strictMono : StrictMono gaussCdf :=
  strictMono_of_deriv_pos fun x => by
    rw [(gaussCdf_hasDerivAt x).deriv]; exact gaussPdf_pos x

theorem integrable_gaussPdf : Integrable gaussPdf := by
  have h := (integrable_exp_neg_mul_sq (b := 1 / 2) (by norm_num)).div_const (Real.sqrt (2 * Real.pi))
  refine h.congr (Filter.Eventually.of_forall fun x => ?_)
  simp only [gaussPdf_eq]

theorem integral_Ioi_gaussPdf : ∫ t in Set.Ioi (0 : ℝ), gaussPdf t = 1 / 2 := by
  have e : (fun t => gaussPdf t) = fun t => Real.exp (-(1 / 2) * t ^ 2) / Real.sqrt (2 * Real.pi) :=
    funext gaussPdf_eq
  rw [e, integral_div, integral_gaussian_Ioi]
  have : Real.pi / (1 / 2) = 2 * Real.pi := by ring
  rw [this]
  field_simp

theorem gaussCdf_neg_eq_integral_Ioi (x : ℝ) (hx : 0 ≤ x) : gaussCdf (-x) = ∫ t in Set.Ioi x, gaussPdf t := by
  have hsplit : ∫ t in Set.Ioi (0 : ℝ), gaussPdf t = (∫ t in Set.Ioc 0 x, gaussPdf t) + ∫ t in Set.Ioi x, gaussPdf t := by
    rw [← Set.Ioc_union_Ioi_eq_Ioi hx]
    exact setIntegral_union (Set.disjoint_left.mpr fun t h1 h2 => not_lt.mpr h1.2 h2) measurableSet_Ioi
      integrable_gaussPdf.integrableOn integrable_gaussPdf.integrableOn
  rw [gaussCdf_neg]
  unfold gaussCdf
  rw [intervalIntegral.integral_of_le hx]
  have := integral_Ioi_gaussPdf
  linarith

theorem gaussCdf_pos (x : ℝ) : 0 < gaussCdf x := by
  -- left of `x` lies a point `-y`, `y ≥ 0`, where `Φ` is an integral of the density
  have h1 : gaussCdf (-(|x| + 1)) < gaussCdf x := gaussCdf_strictMono (by linarith [neg_abs_le x])
  rw [gaussCdf_neg_eq_integral_Ioi _ (by positivity)] at h1
  exact (setIntegral_nonneg measurableSet_Ioi fun t _ => (gaussPdf_pos t).le).trans_lt h1

theorem gaussCdf_lt_one (x : ℝ) : gaussCdf x < 1 := by
  have := gaussCdf_pos (-x)
  rw [gaussCdf_neg] at this
  linarith

theorem gauss_stdNormalLike : StdNormalLike gaussCdf gaussPdf where
  strictMono := gaussCdf_strictMono
  pos := gaussCdf_pos
  lt_one := gaussCdf_lt_one
  symm := gaussCdf_neg
  hasDeriv := gaussCdf_hasDerivAt

end OptunaVerif.TruncNorm
