import OptunaVerif.Model.Heartbeat
import OptunaVerif.Lemmas.Basic
/-! Helper lemmas about the heartbeat / stale-trial sweep model (used by Props/C19 and the Lemmas/RdbHb files): the stale query, how a step may change
the trials (`TrStep`), `run` over an appended schedule or one environment action, counting in the event log, and `SweepMove` - the ten moves a sweep step can be (`sweepStep_cases`),
with what each does to the quantities of the invariant, so that nothing above unfolds `sweepStep` case by case. -/
namespace OptunaVerif.Heartbeat

theorem staleFrom_eq (g : Nat) (l : List HTrial) (i : Nat) :
    staleFrom g l i = ((l.zipIdx i).filter (·.1.isStale g)).map (·.2) := by
  induction l generalizing i with
  | nil => rfl
  | cons x r ih => rw [staleFrom, ih, List.zipIdx_cons, List.filter_cons]; split <;> rfl

theorem mem_staleIds (g : Nat) (l : List HTrial) (t : Nat) :
    t ∈ staleIds g l ↔ ∃ x, l[t]? = some x ∧ x.isStale g = true := by
  simp [staleIds, staleFrom_eq, List.mem_zipIdx_iff_getElem?]

theorem mem_orderBy (ord stale : List Nat) (t : Nat) : t ∈ orderBy ord stale ↔ t ∈ stale := by
  simp only [orderBy, List.mem_append, List.mem_filter, List.contains_iff_mem, Bool.not_eq_true']
  by_cases h : t ∈ ord <;> simp [h]

theorem orderBy_nil (s : List Nat) : orderBy [] s = s := by
  simp [orderBy]

theorem isStale_iff (g : Nat) (x : HTrial) :
    x.isStale g = true ↔ x.core.state = .running ∧ ∃ a, x.hb = some a ∧ g < a := by
  unfold HTrial.isStale
  cases h : x.hb <;> simp

/-- What every step guarantees about an existing trial: the two retry attributes never change, and
a finished trial's record is frozen (the storage contract, C01 `finished_frozen`). -/
def Stable (x x' : HTrial) : Prop :=
  x'.core.retryHistory = x.core.retryHistory ∧ x'.core.failedTrial = x.core.failedTrial ∧
    (x.core.state.isFinished = true → x'.core = x.core)

theorem Stable.refl (x : HTrial) : Stable x x := ⟨rfl, rfl, fun _ => rfl⟩

structure TrStep (tr tr' : List HTrial) : Prop where
  old : ∀ (t : Nat) (x : HTrial), tr[t]? = some x → ∃ x', tr'[t]? = some x' ∧ Stable x x'

/-- New trials created by anybody but the retry callback carry no retry attributes. -/
def EnvNew (tr tr' : List HTrial) : Prop :=
  ∀ (t : Nat) (x' : HTrial), tr'[t]? = some x' → tr.length ≤ t → x'.core.retryHistory = none ∧ x'.core.failedTrial = none

theorem trstep_rfl (tr : List HTrial) : TrStep tr tr ∧ EnvNew tr tr :=
  ⟨⟨fun _ x h => ⟨x, h, .refl x⟩⟩, fun _ _ h hl => absurd (getElem?_lt_length h) (Nat.not_lt.2 hl)⟩

theorem trstep_updAt {tr : List HTrial} {t : Nat} {x : HTrial} (f : HTrial → HTrial) (hx : tr[t]? = some x)
    (hf : Stable x (f x)) : TrStep tr (updAt tr t f) ∧ EnvNew tr (updAt tr t f) := by
  refine ⟨⟨fun t' x' hx' => ?_⟩, fun t' x' h hl => ?_⟩
  · by_cases he : t' = t
    · subst he; cases hx.symm.trans hx'; exact ⟨_, updAt_self _ _ _ _ hx, hf⟩
    · exact ⟨x', (updAt_other _ _ _ _ he).trans hx', .refl x'⟩
  · have := getElem?_lt_length h
    simp at this; omega

theorem trstep_append (tr : List HTrial) (y : HTrial) : TrStep tr (tr ++ [y]) :=
  ⟨fun _ x hx => ⟨x, (List.getElem?_append_left (getElem?_lt_length hx)).trans hx, .refl x⟩⟩

theorem envnew_append (tr : List HTrial) (y : HTrial) (h1 : y.core.retryHistory = none)
    (h2 : y.core.failedTrial = none) : EnvNew tr (tr ++ [y]) := by
  intro t x' h hl
  rw [getElem?_snoc] at h
  split at h
  · simp at h; subst h; exact ⟨h1, h2⟩
  · have := getElem?_lt_length h; omega

theorem trstep_map (tr : List HTrial) (g : HTrial → HTrial) (hg : ∀ x, Stable x (g x)) :
    TrStep tr (tr.map g) ∧ EnvNew tr (tr.map g) := by
  refine ⟨⟨fun t x hx => ⟨g x, by simp [hx], hg x⟩⟩, fun t x' h hl => ?_⟩
  have := getElem?_lt_length h
  simp at this; omega

theorem guarded_trstep (tr : List HTrial) (t : Nat) (f : HTrial → HTrial)
    (hf : ∀ x, (f x).core.retryHistory = x.core.retryHistory ∧ (f x).core.failedTrial = x.core.failedTrial) :
    TrStep tr (guarded tr t f).1 ∧ EnvNew tr (guarded tr t f).1 := by
  fun_cases guarded tr t f
  · exact trstep_rfl tr
  · exact trstep_rfl tr
  next x hx hnf => exact trstep_updAt f hx ⟨(hf x).1, (hf x).2, fun h => absurd h hnf⟩

theorem envStep_trstep (tr : List HTrial) (op : EnvOp) :
    TrStep tr (envStep tr op).1 ∧ EnvNew tr (envStep tr op).1 := by
  -- one case for each branch of `envStep`; the branches that write nothing are `trstep_rfl`
  fun_cases envStep tr op <;> try exact trstep_rfl tr
  -- `create`, `enqueue`
  iterate 2 exact ⟨trstep_append tr _, envnew_append tr _ rfl rfl⟩
  -- `claim` of an unfinished trial, `beat`
  next t x hx hnf _ => exact trstep_updAt _ hx ⟨rfl, rfl, fun h => absurd h hnf⟩
  next t x hx => exact trstep_updAt _ hx ⟨rfl, rfl, fun _ => rfl⟩
  -- `finish` (accepted, refused) and the three attribute writes are guarded writes
  next t st _ tr' h => exact (congrArg Prod.fst h) ▸ guarded_trstep tr t (setState st) fun _ => ⟨rfl, rfl⟩
  iterate 4 exact guarded_trstep tr _ _ fun _ => ⟨rfl, rfl⟩
  -- `tick`
  exact trstep_map tr _ fun _ => ⟨rfl, rfl, fun _ => rfl⟩

theorem guarded_unfinished (tr : List HTrial) (n : Nat) (G : HTrial → HTrial) (x : HTrial) (hx : tr[n]? = some x)
    (hf : x.core.state.isFinished = false) : guarded tr n G = (updAt tr n G, .unit) := by
  simp [guarded, hx, hf]

theorem Cfg.ext (a b : Cfg) (h1 : a.trials = b.trials) (h2 : a.workers = b.workers) (h3 : a.events = b.events) :
    a = b := by
  cases a; cases b; simp only at h1 h2 h3; subst h1 h2 h3; rfl

theorem run_cons (P : Params) (c : Cfg) (a : Act) (as : List Act) : run P c (a :: as) = run P (step P c a) as := rfl

theorem run_append (P : Params) (c : Cfg) (l1 l2 : List Act) : run P c (l1 ++ l2) = run P (run P c l1) l2 := by
  simp [run, List.foldl_append]

theorem run_env1 (P : Params) (c : Cfg) (e : EnvOp) :
    run P c [.env e] = { c with trials := (envStep c.trials e).1 } := rfl

theorem run_guarded (P : Params) (c : Cfg) (e : EnvOp) (n : Nat) (G : HTrial → HTrial) (x : HTrial)
    (he : envStep c.trials e = guarded c.trials n G) (hx : c.trials[n]? = some x)
    (hf : x.core.state.isFinished = false) : run P c [.env e] = { c with trials := updAt c.trials n G } := by
  rw [run_env1, he, guarded_unfinished _ _ _ x hx hf]

def Event.isWon (t : Nat) : Event → Bool
  | .won _ t' => t' == t
  | _ => false

def Event.isCb (t : Nat) : Event → Bool
  | .callback _ t' _ => t' == t
  | _ => false

def Event.isCbRetry (t : Nat) : Event → Bool
  | .callback _ t' true => t' == t
  | _ => false

def Event.isEnq (t : Nat) : Event → Bool
  | .enqueued _ t' _ _ => t' == t
  | _ => false

def cnt (p : Event → Bool) (l : List Event) : Nat := l.countP p

theorem cnt_cons (p : Event → Bool) (e : Event) (l : List Event) :
    cnt p (e :: l) = cnt p l + if p e then 1 else 0 := by
  simp [cnt, List.countP_cons]

/-- `cnt` for the at most one event a step logs -/
def cntO (p : Event → Bool) : Option Event → Nat
  | none => 0
  | some e => if p e then 1 else 0

theorem cnt_toList (p : Event → Bool) (e : Option Event) (l : List Event) :
    cnt p (e.toList ++ l) = cnt p l + cntO p e := by
  cases e with
  | none => simp [cntO]
  | some e => simp [cntO, cnt_cons]

theorem cnt_pos_mem (p : Event → Bool) (l : List Event) (h : 0 < cnt p l) : ∃ e ∈ l, p e = true := by
  simpa [cnt, List.countP_pos_iff] using h

theorem cnt_le_of_imp (p q : Event → Bool) (l : List Event) (h : ∀ e, p e = true → q e = true) :
    cnt p l ≤ cnt q l :=
  List.countP_mono_left fun e _ => h e

/-- Ids for which the worker still owes a callback. -/
def Phase.cbList : Phase → List Nat
  | .failing _ won => won
  | .calling todo => todo
  | .enqueue _ _ todo => todo
  | _ => []

/-- Ids the worker has read as stale and not yet tried to fail. -/
def Phase.failTodo : Phase → List Nat
  | .failing todo _ => todo
  | _ => []

def potCb (t : Nat) (p : Phase) : Nat := p.cbList.count t

def potEnq (t : Nat) : Phase → Nat
  | .enqueue t' _ _ => if t' = t then 1 else 0
  | _ => 0

def total (f : Phase → Nat) : List Phase → Nat
  | [] => 0
  | p :: r => f p + total f r

theorem total_updAt (f : Phase → Nat) (l : List Phase) (w : Nat) (ph ph' : Phase) (h : l[w]? = some ph) :
    total f (updAt l w (fun _ => ph')) + f ph = total f l + f ph' := by
  induction l generalizing w with
  | nil => simp at h
  | cons a r ih =>
    cases w with
    | zero => simp at h; subst h; simp [updAt, total]; omega
    | succ w =>
      simp at h
      have := ih w h
      simp [updAt, total]; omega

theorem total_replicate_zero (f : Phase → Nat) (n : Nat) (p : Phase) (h : f p = 0) :
    total f (List.replicate n p) = 0 := by
  induction n with
  | zero => rfl
  | succ n ih => simp [List.replicate_succ, total, h, ih]

theorem norm_cbList (b : Bool) (ph : Phase) : (Phase.norm b ph).cbList.Sublist ph.cbList := by
  unfold Phase.norm
  split
  · split
    · exact List.Sublist.refl _
    · exact List.nil_sublist _
  · exact List.Sublist.refl _
  · exact List.Sublist.refl _

theorem norm_failTodo (b : Bool) (ph : Phase) : (Phase.norm b ph).failTodo.Sublist ph.failTodo := by
  unfold Phase.norm
  split
  · split <;> exact List.Sublist.refl _
  · exact List.Sublist.refl _
  · exact List.Sublist.refl _

/-- normalisation never enters a callback -/
theorem norm_eq_enqueue {b : Bool} {ph : Phase} {t : Nat} {s : Rec} {td : List Nat}
    (h : Phase.norm b ph = .enqueue t s td) : ph = .enqueue t s td := by
  unfold Phase.norm at h
  split at h
  · split at h <;> cases h
  · cases h
  · exact h

/-- One storage call of a sweep as its worker `w` sees it: in phase `ph`, with the trials at `tr`, it logs `e`, leaves the
trials at `tr'` and goes on in phase `Phase.norm _ ph'`. -/
inductive SweepMove (P : Params) (w : Nat) (ord : List Nat) (tr : List HTrial) :
    Phase → Option Event → List HTrial → Phase → Prop
  | read : SweepMove P w ord tr .idle (some (.read w (orderBy ord (staleIds P.grace tr)))) tr
      (.failing (orderBy ord (staleIds P.grace tr)) [])
  | failDone (won : List Nat) : SweepMove P w ord tr (.failing [] won) none tr (.failing [] won)
  | failSkip (t : Nat) (todo won : List Nat) : tr[t]? = none →
    SweepMove P w ord tr (.failing (t :: todo) won) none tr (.failing todo won)
  | lost (t : Nat) (todo won : List Nat) (x : HTrial) : tr[t]? = some x → x.core.state.isFinished = true →
    SweepMove P w ord tr (.failing (t :: todo) won) (some (.lost w t)) tr (.failing todo won)
  | won (t : Nat) (todo won : List Nat) (x : HTrial) : tr[t]? = some x → ¬ x.core.state.isFinished = true →
    SweepMove P w ord tr (.failing (t :: todo) won) (some (.won w t)) (updAt tr t (setState .fail))
      (.failing todo (won ++ [t]))
  | callDone : SweepMove P w ord tr (.calling []) none tr (.calling [])
  | callSkip (t : Nat) (todo : List Nat) : tr[t]? = none →
    SweepMove P w ord tr (.calling (t :: todo)) none tr (.calling todo)
  | giveUp (t : Nat) (todo : List Nat) (x : HTrial) : tr[t]? = some x → exceeds P.maxRetry x.core = true →
    SweepMove P w ord tr (.calling (t :: todo)) (some (.callback w t false)) tr (.calling todo)
  | retry (t : Nat) (todo : List Nat) (x : HTrial) : tr[t]? = some x → ¬ exceeds P.maxRetry x.core = true →
    SweepMove P w ord tr (.calling (t :: todo)) (some (.callback w t true)) tr (.enqueue t x.core todo)
  | enqueue (t : Nat) (snap : Rec) (todo : List Nat) :
    SweepMove P w ord tr (.enqueue t snap todo) (some (.enqueued w t tr.length (retryOf t snap)))
      (tr ++ [⟨retryOf t snap, none⟩]) (.calling todo)

theorem sweepStep_cases (P : Params) (c : Cfg) (w : Nat) (ord : List Nat) :
    sweepStep P c w ord = c ∨ ∃ ph e tr' ph', c.workers[w]? = some ph ∧ SweepMove P w ord c.trials ph e tr' ph' ∧
      sweepStep P c w ord = ⟨tr', updAt c.workers w (fun _ => Phase.norm P.hasCb ph'), e.toList ++ c.events⟩ := by
  -- one case for each branch of `sweepStep`, with what the branch has tested in the context
  fun_cases sweepStep P c w ord
  · exact .inl rfl
  · exact .inl rfl
  · exact .inr ⟨_, _, _, _, ‹_›, .read, rfl⟩
  · exact .inr ⟨_, _, _, _, ‹_›, .failDone _, rfl⟩
  · exact .inr ⟨_, _, _, _, ‹_›, .failSkip _ _ _ ‹_›, rfl⟩
  · exact .inr ⟨_, _, _, _, ‹_›, .lost _ _ _ _ ‹_› ‹_›, rfl⟩
  · exact .inr ⟨_, _, _, _, ‹_›, .won _ _ _ _ ‹_› ‹_›, rfl⟩
  · exact .inr ⟨_, _, _, _, ‹_›, .callDone, rfl⟩
  · exact .inr ⟨_, _, _, _, ‹_›, .callSkip _ _ ‹_›, rfl⟩
  · exact .inr ⟨_, _, _, _, ‹_›, .giveUp _ _ _ ‹_› ‹_›, rfl⟩
  · exact .inr ⟨_, _, _, _, ‹_›, .retry _ _ _ ‹_› ‹_›, rfl⟩
  · exact .inr ⟨_, _, _, _, ‹_›, .enqueue _ _ _, rfl⟩

theorem sweepStep_of_move {P : Params} {c : Cfg} {w : Nat} {ord : List Nat} {ph ph' : Phase} {e : Option Event}
    {tr' : List HTrial} (hw : c.workers[w]? = some ph) (hm : SweepMove P w ord c.trials ph e tr' ph') :
    sweepStep P c w ord = ⟨tr', updAt c.workers w (fun _ => Phase.norm P.hasCb ph'), e.toList ++ c.events⟩ := by
  cases hm <;> simp [sweepStep, Cfg.setPhase, *] <;> rfl

namespace SweepMove
variable {P : Params} {w : Nat} {ord : List Nat} {tr tr' : List HTrial} {ph ph' : Phase} {e : Option Event}
  (hm : SweepMove P w ord tr ph e tr' ph')
include hm

theorem trstep : TrStep tr tr' := by
  cases hm with
  | won t todo won x hx hnf =>
    exact (trstep_updAt _ hx ⟨rfl, rfl, fun hh => absurd hh hnf⟩).1
  | enqueue => exact trstep_append tr _
  | _ => exact (trstep_rfl tr).1

/-- a callback is paid for from the worker's list of won ids, a win adds to it -/
theorem cb (t : Nat) : cntO (Event.isCb t) e + potCb t ph' ≤ potCb t ph + cntO (Event.isWon t) e := by
  cases hm <;>
    simp only [cntO, Event.isCb, Event.isWon, potCb, Phase.cbList, List.count_cons, List.count_append, List.count_nil,
      beq_iff_eq, Bool.false_eq_true, ↓reduceIte] <;> (repeat' split) <;> omega

/-- an `add_trial` is paid for by the phase `enqueue`, which a retrying callback enters -/
theorem enq (t : Nat) : cntO (Event.isEnq t) e + potEnq t ph' ≤ potEnq t ph + cntO (Event.isCbRetry t) e := by
  cases hm <;> simp only [cntO, Event.isEnq, Event.isCbRetry, potEnq, beq_iff_eq, Bool.false_eq_true, ↓reduceIte] <;>
    (repeat' split) <;> omega

theorem own {t : Nat} (ht : t ∈ ph'.cbList) : t ∈ ph.cbList ∨ e = some (.won w t) := by
  cases hm with
  | won t' todo won x _ _ =>
    rcases List.mem_append.mp ht with h | h
    · exact .inl h
    · exact .inr (by rw [List.mem_singleton.mp h])
  | read | callDone => cases ht
  | failDone | failSkip | lost | enqueue => exact .inl ht
  | callSkip | giveUp | retry => exact .inl (List.mem_cons_of_mem _ ht)

theorem failTodo : ph'.failTodo.Sublist ph.failTodo ∨
    (ph = .idle ∧ ph' = .failing (orderBy ord (staleIds P.grace tr)) []) := by
  cases hm <;> first
    | exact .inr ⟨rfl, rfl⟩
    | exact .inl (List.Sublist.refl _)
    | exact .inl (List.sublist_cons_self _ _)
    | exact .inl (List.nil_sublist _)

end SweepMove

end OptunaVerif.Heartbeat
