/-!
# The sequential optimize loop over an arbitrary study state

`BruteForce.session`, `Grid.session` and the run with killed workers of `Props/C14GridResume.lean` are one loop
over three different `_run_trial`s.  Here is that loop (`runLoop`, `runSession`) with its proof rules: an invariant
of `_run_trial` is an invariant of the session (`runSession_inv`); when no trial raises a session is one call with
the summed budget (`runSession_eq_runLoop`), which gives the number of trials it runs (`runSession_count`); a measure
that every trial lowers is lowered by every call (`runSession_progress`).  Last, what both exhaustive samplers count
with: the points of a finite space that are still to visit (`toVisit`).
-/
namespace OptunaVerif

variable {σ : Type}

/-- `_optimize_sequential` with `n_trials = fuel`; `step` is `_run_trial`, its Boolean says that an exception
leaves `optimize`. -/
def runLoop (stop : σ → Bool) (step : σ → σ × Bool) : Nat → σ → σ
  | 0, st => st
  | k + 1, st =>
    if stop st then st
    else if (step st).2 then (step st).1 else runLoop stop step k (step st).1

/-- several `optimize` calls, one after the other -/
def runSession (stop : σ → Bool) (step : σ → σ × Bool) (ks : List Nat) (st : σ) : σ :=
  ks.foldl (fun st k => runLoop stop step k st) st

variable {stop : σ → Bool} {step : σ → σ × Bool}

theorem runLoop_stopped (k : Nat) (st : σ) (h : stop st = true) : runLoop stop step k st = st := by
  cases k <;> simp [runLoop, h]

theorem runLoop_succ (k : Nat) (st : σ) (h : stop st = false) :
    runLoop stop step (k + 1) st =
      if (step st).2 then (step st).1 else runLoop stop step k (step st).1 := by
  simp [runLoop, h]

theorem eq_runLoop (loop : Nat → σ → σ) (h0 : ∀ st, loop 0 st = st)
    (hs : ∀ k st, loop (k + 1) st =
      if stop st then st else if (step st).2 then (step st).1 else loop k (step st).1) :
    ∀ k st, loop k st = runLoop stop step k st := by
  intro k
  induction k with
  | zero => exact h0
  | succ k ih => intro st; rw [hs, runLoop]; simp only [ih]

/-- `optimize` resets the stop flag first (`reset`), and the user makes no further call once one has ended with the
flag.  Resetting a flag that is not set changes nothing and a stopped loop does nothing, so such a run is the plain
iteration of the loop. -/
theorem foldl_optimize_eq {reset : σ → σ} (hreset : ∀ st, stop st = false → reset st = st) (ks : List Nat) (st : σ) :
    ks.foldl (fun st k => if stop st then st else runLoop stop step k (reset st)) st =
      runSession stop step ks st := by
  refine congrArg (fun f => ks.foldl f st) (funext fun st => funext fun k => ?_)
  cases h : stop st with
  | true => rw [runLoop_stopped k st h]; rfl
  | false => rw [hreset st h]; rfl

theorem runSession_cons (k : Nat) (ks : List Nat) (st : σ) :
    runSession stop step (k :: ks) st = runSession stop step ks (runLoop stop step k st) := rfl

theorem runSession_stopped (ks : List Nat) (st : σ) (h : stop st = true) : runSession stop step ks st = st := by
  induction ks with
  | nil => rfl
  | cons k ks ih => rw [runSession_cons, runLoop_stopped k st h, ih]

theorem runLoop_inv (P : σ → Prop) (hstep : ∀ st, P st → stop st = false → P (step st).1) (k : Nat) :
    ∀ st, P st → P (runLoop stop step k st) := by
  induction k with
  | zero => intro st h; exact h
  | succ k ih =>
    intro st h
    cases hs : stop st with
    | true => rw [runLoop_stopped _ st hs]; exact h
    | false =>
      rw [runLoop_succ k st hs]
      split
      · exact hstep st h hs
      · exact ih _ (hstep st h hs)

theorem runSession_inv (P : σ → Prop)
    (hstep : ∀ st, P st → stop st = false → P (step st).1) (ks : List Nat) :
    ∀ st, P st → P (runSession stop step ks st) := by
  induction ks with
  | nil => intro st h; exact h
  | cons k ks ih => intro st h; rw [runSession_cons]; exact ih _ (runLoop_inv P hstep k st h)

/-! ## when no trial raises

Then an `optimize` call ends only because its budget is used up or the flag is set, so it does not matter how the
budget is split into calls. -/

section noRaise
variable (P : σ → Prop) (hstep : ∀ st, P st → stop st = false → P (step st).1 ∧ (step st).2 = false)
include hstep

theorem runLoop_add (k k' : Nat) : ∀ st, P st →
    runLoop stop step (k + k') st = runLoop stop step k' (runLoop stop step k st) := by
  induction k with
  | zero => intro st _; rw [Nat.zero_add]; rfl
  | succ k ih =>
    intro st h
    cases hs : stop st with
    | true => simp only [runLoop_stopped _ st hs]
    | false =>
      obtain ⟨h', hnr⟩ := hstep st h hs
      rw [Nat.succ_add, runLoop_succ _ st hs, runLoop_succ k st hs, hnr, if_neg Bool.false_ne_true,
        if_neg Bool.false_ne_true, ih _ h']

theorem runSession_eq_runLoop (ks : List Nat) : ∀ st, P st →
    runSession stop step ks st = runLoop stop step ks.sum st := by
  induction ks with
  | nil => intro st _; rfl
  | cons k ks ih =>
    intro st h
    rw [runSession_cons, List.sum_cons, runLoop_add P hstep k ks.sum st h,
      ih _ (runLoop_inv P (fun st h hs => (hstep st h hs).1) k st h)]

end noRaise

section count
variable (P : σ → Prop) (todo done : σ → Nat)
  (hstep : ∀ st, P st → stop st = false →
    P (step st).1 ∧ (step st).2 = false ∧ todo (step st).1 + 1 = todo st ∧ done (step st).1 = done st + 1)
  (hstop : ∀ st, P st → stop st = true → todo st = 0)
include hstep hstop

theorem runLoop_count (k : Nat) : ∀ st, P st →
    done (runLoop stop step k st) = done st + min k (todo st) ∧
    todo (runLoop stop step k st) = todo st - min k (todo st) := by
  induction k with
  | zero => intro st _; simp [runLoop]
  | succ k ih =>
    intro st h
    cases hs : stop st with
    | true => rw [runLoop_stopped _ st hs, hstop st h hs]; simp
    | false =>
      obtain ⟨h', hnr, htodo, hdone⟩ := hstep st h hs
      obtain ⟨h1, h2⟩ := ih _ h'
      rw [runLoop_succ k st hs, hnr, if_neg Bool.false_ne_true, h1, h2]
      omega

theorem runSession_count (ks : List Nat) (st : σ) (h : P st) :
    done (runSession stop step ks st) = done st + min ks.sum (todo st) ∧
    todo (runSession stop step ks st) = todo st - min ks.sum (todo st) := by
  rw [runSession_eq_runLoop P (fun st h hs => ⟨(hstep st h hs).1, (hstep st h hs).2.1⟩) ks st h]
  exact runLoop_count P todo done hstep hstop ks.sum st h

end count

section progress
variable (P : σ → Prop) (μ : σ → Nat)
  (hstep : ∀ st, P st → stop st = false → P (step st).1 ∧ μ (step st).1 + 1 ≤ μ st)
include hstep

theorem runLoop_progress (k : Nat) : ∀ st, P st →
    μ (runLoop stop step k st) ≤ μ st ∧
    (1 ≤ k → stop st = false → μ (runLoop stop step k st) + 1 ≤ μ st) := by
  induction k with
  | zero => intro st _; exact ⟨Nat.le_refl _, fun h => by omega⟩
  | succ k ih =>
    intro st h
    cases hs : stop st with
    | true => rw [runLoop_stopped _ st hs]; exact ⟨Nat.le_refl _, fun _ hf => by cases hf⟩
    | false =>
      obtain ⟨h', hμ⟩ := hstep st h hs
      rw [runLoop_succ k st hs]
      split
      · exact ⟨by omega, fun _ _ => hμ⟩
      · have := (ih _ h').1
        exact ⟨by omega, fun _ _ => by omega⟩

/-- so after more than `μ st` calls with a positive budget the flag is set (after `μ st` of them, where `μ = 0`
sets it) -/
theorem runSession_progress (ks : List Nat)
    (hks : ∀ k ∈ ks, 1 ≤ k) : ∀ st, P st →
    stop (runSession stop step ks st) = true ∨
      μ (runSession stop step ks st) + ks.length ≤ μ st := by
  induction ks with
  | nil => intro st _; right; simp [runSession]
  | cons k ks ih =>
    intro st h
    cases hs : stop st with
    | true => left; rw [runSession_stopped _ st hs]; exact hs
    | false =>
      rw [runSession_cons]
      have hk := (runLoop_progress P μ hstep k st h).2 (hks k (by simp)) hs
      rcases ih (fun k' hk' => hks k' (by simp [hk'])) _
        (runLoop_inv P (fun st h hs => (hstep st h hs).1) k st h) with h1 | h1
      · exact Or.inl h1
      · right; simp only [List.length_cons]; omega

end progress

/-! ## the part of a finite space that is still to visit

Both exhaustive samplers walk through a finite duplicate-free list `U` (the cells of the grid, the root-to-leaf
paths of the program); `V` lists what has been visited. -/

section toVisit
variable {α : Type} [BEq α] [LawfulBEq α] {U V : List α} {x : α}

def toVisit (U V : List α) : List α := U.filter (fun x => !V.contains x)

theorem mem_toVisit : x ∈ toVisit U V ↔ x ∈ U ∧ x ∉ V := by
  simp [toVisit]

theorem toVisit_nil (U : List α) : toVisit U [] = U := by
  simp [toVisit]

omit [LawfulBEq α] in
theorem toVisit_nodup (V : List α) (hU : U.Nodup) : (toVisit U V).Nodup :=
  List.Pairwise.filter _ hU

theorem length_toVisit_eq_zero_iff : (toVisit U V).length = 0 ↔ ∀ x ∈ U, x ∈ V := by
  simp [toVisit, List.filter_eq_nil_iff]

omit [BEq α] [LawfulBEq α] in
theorem nodup_snoc (hV : V.Nodup) (hx : x ∉ V) : (V ++ [x]).Nodup := by
  rw [List.nodup_append]
  exact ⟨hV, by simp, fun a ha b hb hab => hx (List.mem_singleton.mp hb ▸ hab ▸ ha)⟩

theorem length_toVisit_snoc (hU : U.Nodup) (hx : x ∈ U) (hV : x ∉ V) :
    (toVisit U (V ++ [x])).length + 1 = (toVisit U V).length := by
  have hmem : x ∈ toVisit U V := mem_toVisit.mpr ⟨hx, hV⟩
  have : toVisit U (V ++ [x]) = (toVisit U V).erase x := by
    rw [(toVisit_nodup V hU).erase_eq_filter, toVisit, toVisit, List.filter_filter]
    exact List.filter_congr fun y _ => by by_cases hy : y = x <;> simp [hy]
  rw [this, List.length_erase_of_mem hmem]
  have := List.length_pos_of_mem hmem
  omega

end toVisit

end OptunaVerif
