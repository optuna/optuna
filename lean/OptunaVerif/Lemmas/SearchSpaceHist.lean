import OptunaVerif.Lemmas.SearchSpace
/-!
# C17: the cursor invariant and its preservation along histories
-/
namespace OptunaVerif.SearchSpace

/-- What the storage contract guarantees of the trial list of one study (`Props/C01.lean`:
`numbers_dense`; parameter dicts are dicts): the trial at position `i` has number `i`. -/
def WF (trials : List Trial) : Prop :=
  ∀ (i : Nat) (t : Trial), trials[i]? = some t → t.number = i ∧ NodupKeys t.dists

theorem WF.get {trials : List Trial} (h : WF trials) {i : Nat} {t : Trial} (hi : trials[i]? = some t) :
    t.number = i ∧ NodupKeys t.dists := by unfold WF at h; exact h i t hi

theorem WF.intro {trials : List Trial} (h : ∀ (i : Nat) (t : Trial), trials[i]? = some t → t.number = i ∧ NodupKeys t.dists) :
    WF trials := by unfold WF; exact h

theorem wf_nil : WF [] := WF.intro (by intro i t h; simp at h)

theorem wf_mem {trials : List Trial} (h : WF trials) {t : Trial} (ht : t ∈ trials) :
    trials[t.number]? = some t ∧ t.number < trials.length ∧ NodupKeys t.dists := by
  obtain ⟨i, hi⟩ := List.mem_iff_getElem?.mp ht
  obtain ⟨h1, h2⟩ := h.get hi
  subst h1
  exact ⟨hi, getElem?_lt_length hi, h2⟩

theorem desc_reverse_of_wf {trials : List Trial} (h : WF trials) : Desc trials.reverse := by
  unfold Desc
  rw [List.pairwise_reverse, List.pairwise_iff_getElem]
  intro i j hi hj hij
  have h1 := (h.get (i := i) (t := trials[i]) (by simp [hi])).1
  have h2 := (h.get (i := j) (t := trials[j]) (by simp [hj])).1
  omega

/-- How the trial list of a study can change between two observations: it only grows, finished
trials stay as they are (`finished_frozen`), and whatever else is in the new list is either new (a
number beyond the old length) or a rewrite of a trial that was not finished. -/
structure Evolves (old new : List Trial) : Prop where
  len : old.length ≤ new.length
  frozen : ∀ t ∈ old, t.state.isFinished = true → t ∈ new
  origin : ∀ t' ∈ new, t' ∈ old ∨ (∃ t ∈ old, t.state.isFinished = false ∧ t.number = t'.number)
    ∨ old.length ≤ t'.number

theorem Evolves.refl (l : List Trial) : Evolves l l :=
  ⟨Nat.le_refl _, fun _ h _ => h, fun _ h => Or.inl h⟩

theorem evolves_updAt {trials : List Trial} (hwf : WF trials) (i : Nat) (t : Trial) (f : Trial → Trial)
    (hi : trials[i]? = some t) (hun : t.state.isFinished = false)
    (hnum : (f t).number = t.number) (hnd : NodupKeys (f t).dists) :
    Evolves trials (updAt trials i f) ∧ WF (updAt trials i f) := by
  refine ⟨⟨by simp, ?_, ?_⟩, ?_⟩
  · intro u hu hfu
    obtain ⟨j, hj⟩ := List.mem_iff_getElem?.mp hu
    have hji : j ≠ i := by
      intro e; subst e; rw [hi] at hj; simp only [Option.some.injEq] at hj; subst hj
      rw [hun] at hfu; exact absurd hfu (by decide)
    exact List.mem_iff_getElem?.mpr ⟨j, by rw [updAt_getElem?, if_neg hji]; exact hj⟩
  · intro u' hu'
    rcases mem_updAt hu' with h | ⟨y, hy, rfl⟩
    · exact Or.inl h
    · obtain rfl : t = y := Option.some.inj (hi.symm.trans hy)
      exact Or.inr (Or.inl ⟨t, List.mem_of_getElem? hi, hun, hnum.symm⟩)
  · refine WF.intro (fun j u' hj => ?_)
    rw [updAt_getElem?] at hj
    split at hj
    · rename_i e; subst e
      rw [hi] at hj; simp only [Option.map_some, Option.some.injEq] at hj; subst hj
      exact ⟨hnum.trans (hwf.get hi).1, hnd⟩
    · exact hwf.get hj

theorem evolves_append {trials : List Trial} (hwf : WF trials) (t : Trial) (hn : t.number = trials.length)
    (hnd : NodupKeys t.dists) : Evolves trials (trials ++ [t]) ∧ WF (trials ++ [t]) := by
  refine ⟨⟨by simp, fun u hu _ => List.mem_append_left _ hu, ?_⟩, ?_⟩
  · intro u' hu'
    rcases List.mem_append.mp hu' with h | h
    · exact Or.inl h
    · simp only [List.mem_singleton] at h; subst h; exact Or.inr (Or.inr (by omega))
  · refine WF.intro (fun j u' hj => ?_)
    rw [getElem?_snoc] at hj
    split at hj
    · obtain rfl := Option.some.inj hj
      exact ⟨by omega, hnd⟩
    · exact hwf.get hj

theorem step_evolves (sid : Nat) (s : Sys) (st : Step) (hwf : WF s.trials) :
    Evolves s.trials (step sid s st).1.trials ∧ WF (step sid s st).1.trials := by
  cases st with
  | create st params =>
    exact evolves_append hwf _ rfl (nodupKeys_mkDists params)
  | setParam i name tok =>
    simp only [step]
    cases hi : s.trials[i]? with
    | none => exact ⟨Evolves.refl _, hwf⟩
    | some t =>
      by_cases hf : t.state.isFinished = true
      · simp only [hf, if_true]; exact ⟨Evolves.refl _, hwf⟩
      · simp only [hf, Bool.false_eq_true, if_false]
        exact evolves_updAt hwf i t _ hi (by simpa using hf) rfl (nodupKeys_set (hwf.get hi).2 _ _)
  | setState i st =>
    simp only [step]
    cases hi : s.trials[i]? with
    | none => exact ⟨Evolves.refl _, hwf⟩
    | some t =>
      by_cases hf : t.state.isFinished = true
      · simp only [hf, if_true]; exact ⟨Evolves.refl _, hwf⟩
      · simp only [hf, Bool.false_eq_true, if_false]
        exact evolves_updAt hwf i t _ hi (by simpa using hf) rfl (hwf.get hi).2
  | callI => exact ⟨Evolves.refl _, hwf⟩
  | callForeign sid' trials' =>
    simp only [step]
    split
    · exact ⟨Evolves.refl _, hwf⟩
    · exact ⟨Evolves.refl _, hwf⟩
  | callG => exact ⟨Evolves.refl _, hwf⟩

/-- The cursor invariant: every unfinished trial has a number `≥ cursor` (and so will every future trial:
`cursor ≤ length`), and the stored space is the intersection over a set `P` of trials with
{finished of interest below the cursor} ⊆ P ⊆ {finished of interest}. -/
structure CursorInv (ip : Bool) (trials : List Trial) (sp : Option Dists) (cur : Int) : Prop where
  unfinished_ge : ∀ t ∈ trials, t.state.isFinished = false → cur ≤ (t.number : Int)
  le_len : cur ≤ (trials.length : Int)
  rep : ∃ P : Trial → Prop, (∀ t ∈ trials, FOI ip t → (t.number : Int) < cur → P t) ∧
    (∀ t, P t → t ∈ trials ∧ FOI ip t) ∧ Rep sp P

theorem cursorInv_init (ip : Bool) (trials : List Trial) {cur : Int} (h : cur ≤ 0) : CursorInv ip trials none cur :=
  ⟨fun _ _ _ => by omega, by omega,
    ⟨fun _ => False, fun _ _ _ h => by omega, fun _ h => h.elim, fun _ h => h⟩⟩

theorem cursorInv_evolves {ip : Bool} {old new : List Trial} {sp : Option Dists} {cur : Int}
    (h : CursorInv ip old sp cur) (he : Evolves old new) : CursorInv ip new sp cur := by
  obtain ⟨h1, h2, P, hP1, hP2, hP3⟩ := h
  -- what is in the new list was in the old one, or it is a rewritten unfinished trial or a new one: at or above the cursor
  have key : ∀ t' ∈ new, t' ∈ old ∨ cur ≤ (t'.number : Int) := fun t' ht' => by
    rcases he.origin t' ht' with h | ⟨t, ht, hf, hn⟩ | h
    · exact Or.inl h
    · have := h1 t ht hf; exact Or.inr (by omega)
    · exact Or.inr (by omega)
  refine ⟨fun t' ht' hf' => (key t' ht').elim (fun h => h1 t' h hf') id, by have := he.len; omega, P,
    fun t' ht' hfoi hlt => (key t' ht').elim (fun h => hP1 t' h hfoi hlt) fun h => by omega,
    fun t hPt => ?_, hP3⟩
  obtain ⟨a, b⟩ := hP2 t hPt
  exact ⟨he.frozen t a b.1, b⟩

theorem calcRaw_correct {ip : Bool} {trials : List Trial} {sp : Option Dists} {cur : Int}
    (hwf : WF trials) (h : CursorInv ip trials sp cur) :
    CursorInv ip trials (calcRaw trials ip sp cur).1 (calcRaw trials ip sp cur).2 ∧
      Rep (calcRaw trials ip sp cur).1 (fun t => t ∈ trials ∧ FOI ip t) := by
  obtain ⟨h1, h2, P, hP1, hP2, hP3⟩ := h
  have hdesc := desc_reverse_of_wf hwf
  have hrep : Rep (calcRaw trials ip sp cur).1 (fun t => t ∈ trials ∧ FOI ip t) := by
    unfold calcRaw
    rw [scan_space ip cur _ sp _ hdesc]
    have := rep_interAll (trials.reverse.filter (fun t => foiB ip t && decide (cur ≤ (t.number : Int)))) hP3
      (fun t ht => (wf_mem hwf (List.mem_reverse.mp (List.mem_filter.mp ht).1)).2.2)
    refine this.congr (fun u => ?_)
    simp only [List.mem_filter, List.mem_reverse, Bool.and_eq_true, decide_eq_true_eq, foiB_iff]
    constructor
    · rintro (hu | ⟨hu, hfoi, _⟩)
      · exact hP2 u hu
      · exact ⟨hu, hfoi⟩
    · rintro ⟨hu, hfoi⟩
      by_cases hc : cur ≤ (u.number : Int)
      · exact Or.inr ⟨hu, hfoi, hc⟩
      · exact Or.inl (hP1 u hu hfoi (by omega))
  refine ⟨?_, hrep⟩
  obtain ⟨n1, n2⟩ := scan_next ip cur trials.reverse sp SearchSpaceCode.nextInit hdesc
    (fun t ht hf => h1 t (List.mem_reverse.mp ht) hf)
  refine ⟨fun t ht hf => n1 t (List.mem_reverse.mpr ht) hf, ?_,
    ⟨fun t => t ∈ trials ∧ FOI ip t, fun t ht hfoi _ => ⟨ht, hfoi⟩, fun t ht => ht, hrep⟩⟩
  show (scan ip cur trials.reverse sp SearchSpaceCode.nextInit).2 ≤ _
  rcases n2 with e | ⟨t, ht, e⟩
  · have := nextInit_eq; omega
  · have := (wf_mem hwf (List.mem_reverse.mp ht)).2.1; omega

theorem scratch_rep {ip : Bool} {trials : List Trial} (hwf : WF trials) :
    Rep (calcRaw trials ip none SearchSpaceCode.cachedDefault).1 (fun t => t ∈ trials ∧ FOI ip t) := by
  exact (calcRaw_correct hwf (cursorInv_init ip trials (cachedDefault_eq.trans_le (by decide)))).2

theorem calcRaw_eq_scratch {ip : Bool} {trials : List Trial} {sp : Option Dists} {cur : Int}
    (hwf : WF trials) (h : CursorInv ip trials sp cur) :
    output (calcRaw trials ip sp cur).1 = intersectionSearchSpace trials ip :=
  output_congr (calcRaw_correct hwf h).2 (scratch_rep hwf)

end OptunaVerif.SearchSpace
