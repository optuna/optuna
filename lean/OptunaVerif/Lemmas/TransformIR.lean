import OptunaVerif.Model.TransformIR
import OptunaVerif.Lemmas.Dist
/-!
The hand model's `transform` / `untransform` rewritten as "raw columns, then ONE column-wise scaling pass over all raw
bounds" (which is how the code is written, whereas `Model/Dist.lean` scales parameter by parameter), with the round
trip and the domain property of the raw columns of a whole configuration (`encodeAll_ok`, `decodeAll_in_domain`):
`Props/C11.lean` adds the scaling pass to these, `Props/C11Gen.lean` proves the generated loops equal to this form.
Also, for C11Gen, what does not mention the generated program: the closed forms of the column bookkeeping (`colsOf`,
`backOf`, `totalWidth`) and list plumbing of the interpreters (`gather`, `window`).
-/
namespace OptunaVerif.TransformIR
open OptunaVerif.Dist

theorem half_mul (s : Rat) : (2 : Rat)⁻¹ * s = s / 2 := by ring

/-- `column_to_encoded_columns`: consecutive index ranges, one per parameter -/
def colsOf : Nat → List Dist → List (List Nat)
  | _, [] => []
  | off, d :: ds => List.range' off d.width :: colsOf (off + d.width) ds

/-- `encoded_column_to_column`: the parameter index of every column -/
def backOf : Nat → List Dist → List Nat
  | _, [] => []
  | i, d :: ds => List.replicate d.width i ++ backOf (i + 1) ds

def totalWidth : List Dist → Nat
  | [] => 0
  | d :: ds => d.width + totalWidth ds

theorem flatMap_boundsOf_length (E : Env) (c : TCfg) (space : List Dist) :
    (space.flatMap (boundsOf E c)).length = totalWidth space := by
  induction space with
  | nil => rfl
  | cons d ds ih => simp [List.flatMap_cons, boundsOf_length, totalWidth, ih]

theorem backOf_length (i : Nat) (space : List Dist) : (backOf i space).length = totalWidth space := by
  induction space generalizing i with
  | nil => rfl
  | cons d ds ih => simp [backOf, totalWidth, ih]

theorem colsOf_length (off : Nat) (space : List Dist) : (colsOf off space).length = space.length := by
  induction space generalizing off with
  | nil => rfl
  | cons d ds ih => simp [colsOf, ih]

/-- the un-scaled columns of a whole configuration (the loop of `transform` before the 0-1 block) -/
def encodeAll (E : Env) (c : TCfg) : List Dist → List Tok → R (List Rat)
  | [], [] => .ok []
  | d :: ds, v :: vs =>
    match encode E c d v with
    | .ok a =>
      match encodeAll E c ds vs with
      | .ok b => .ok (a ++ b)
      | .error e => .error e
    | .error e => .error e
  | [], _ :: _ => .error .keyError
  | _ :: _, [] => .error .keyError

theorem encode_length (E : Env) (c : TCfg) (d : Dist) (v : Tok) (raw : List Rat) (h : encode E c d v = .ok raw) :
    raw.length = d.width := by
  cases d with
  | cat cs =>
    simp only [encode] at h
    cases hi : catIndex cs v with
    | error e => simp [hi, Except.map] at h
    | ok i => simp [hi, Except.map] at h; subst h; simp [oneHot_length, Dist.width]
  | flt cl low high log step | int cl low high log step =>
    simp only [encode] at h
    cases hn : v.num? with
    | none => simp [hn] at h
    | some q => simp [hn] at h; subst h; simp [Dist.width]

theorem transform_eq_encodeAll (E : Env) (c : TCfg) (space : List Dist) (params : List Tok) :
    Dist.transform E c space params =
      (encodeAll E c space params).map
        (fun raw => if c.t01 then List.zipWith scale01 (space.flatMap (boundsOf E c)) raw else raw) := by
  induction space generalizing params with
  | nil => cases params <;> simp [Dist.transform, encodeAll, Except.map]
  | cons d ds ih =>
    cases params with
    | nil => simp [Dist.transform, encodeAll, Except.map]
    | cons v vs =>
      simp only [Dist.transform, encodeAll, tcols, ih]
      cases he : encode E c d v with
      | error e => simp [Except.map, bind, Except.bind]
      | ok a =>
        have hl := encode_length E c d v a he
        cases hr : encodeAll E c ds vs with
        | error e => simp [Except.map, bind, Except.bind]
        | ok b =>
          cases ht : c.t01
          · simp [Except.map, bind, Except.bind, pure, Except.pure]
          · simp only [Except.map, bind, Except.bind, pure, Except.pure, if_true, List.flatMap_cons]
            rw [List.zipWith_append (by rw [boundsOf_length, hl])]

theorem catIndex_lt (cs : List Tok) (v : Tok) (i : Nat) (h : catIndex cs v = .ok i) : i < cs.length := by
  unfold catIndex at h
  cases hf : firstIdx (fun c => v.catEq c) cs with
  | none => simp [hf] at h
  | some j =>
    simp [hf] at h
    subst h
    obtain ⟨a, ha, _⟩ := firstIdx_some _ cs j hf
    exact (List.getElem?_eq_some_iff.mp ha).1

theorem window_hot (n i : Nat) (q : Rat) :
    (List.range n).map (window 0 [(i, q)]) = (List.range n).map (fun j => if j = i then q else 0) := by
  apply List.map_congr_left
  intro j _
  by_cases h : j = i
  · simp [window, h]
  · have h' : ¬ i = j := fun e => h e.symm
    simp [window, h, h']

/-- `untransform` on already un-scaled columns -/
def decodeAll (E : Env) (c : TCfg) : List Dist → List Rat → Option (List Tok)
  | [], [] => some []
  | [], _ :: _ => none
  | d :: ds, ys =>
    if ys.length < d.width then none
    else (decode E c d (ys.take d.width)).bind (fun v =>
      (decodeAll E c ds (ys.drop d.width)).bind (fun rest => some (v :: rest)))

theorem untransform_wrong_length (E : Env) (c : TCfg) (space : List Dist) (xs : List Rat)
    (h : xs.length ≠ totalWidth space) : untransform E c space xs = none := by
  induction space generalizing xs with
  | nil =>
    cases xs with
    | nil => simp [totalWidth] at h
    | cons x t => simp [untransform]
  | cons d ds ih =>
    rw [untransform_cons]
    split
    · rfl
    · rename_i hlt
      have : (xs.drop d.width).length ≠ totalWidth ds := by
        simp only [List.length_drop]; simp only [totalWidth] at h; omega
      rw [ih _ this]
      cases ucols E c d (xs.take d.width) <;> rfl

theorem untransform_eq_decodeAll (E : Env) (c : TCfg) (space : List Dist) (xs : List Rat)
    (h : xs.length = totalWidth space) :
    untransform E c space xs =
      decodeAll E c space (if c.t01 then List.zipWith unscale01 (space.flatMap (boundsOf E c)) xs else xs) := by
  induction space generalizing xs with
  | nil =>
    cases xs with
    | nil => cases c.t01 <;> simp [untransform, decodeAll]
    | cons x t => simp [totalWidth] at h
  | cons d ds ih =>
    simp only [totalWidth] at h
    have hlen : (xs.drop d.width).length = totalWidth ds := by simp only [List.length_drop]; omega
    have hnlt : ¬ xs.length < d.width := by omega
    have hbl := boundsOf_length E c d
    have hfl := flatMap_boundsOf_length E c ds
    rw [untransform_cons, if_neg hnlt, ih _ hlen]
    cases ht : c.t01
    · simp only [decodeAll, if_neg hnlt, ucols, ht, Bool.false_eq_true, if_false]
    · simp only [if_true, List.flatMap_cons, decodeAll, ucols, ht]
      have h1 : (List.zipWith unscale01 (boundsOf E c d ++ ds.flatMap (boundsOf E c)) xs).length = xs.length := by
        simp [List.length_zipWith, hbl, hfl]; omega
      rw [if_neg (by rw [h1]; exact hnlt), List.take_zipWith, List.drop_zipWith,
        List.take_left' hbl, List.drop_left' hbl]

theorem encodeAll_ok (E : Env) (c : TCfg) (hE : EnvOK E) (space : List Dist) (params : List Tok)
    (hwf : ∀ d ∈ space, WF d) (hv : List.Forall₂ (Canon E) space params) :
    ∃ raw, encodeAll E c space params = .ok raw ∧ List.Forall₂ InB (space.flatMap (boundsOf E c)) raw ∧
      decodeAll E c space raw = some params := by
  induction hv with
  | nil => exact ⟨[], rfl, List.Forall₂.nil, rfl⟩
  | @cons d v ds vs hdv _ ih =>
    obtain ⟨a, ha, hba, hda⟩ := encode_ok E c d v hE (hwf d (by simp)) hdv
    obtain ⟨b, hb, hbb, hdb⟩ := ih (fun d' hd' => hwf d' (by simp [hd']))
    have hlen : a.length = d.width := by rw [← hba.length_eq, boundsOf_length]
    refine ⟨a ++ b, by simp [encodeAll, ha, hb], List.rel_append hba hbb, ?_⟩
    have h1 : ¬ (a ++ b).length < d.width := by simp [hlen]
    have h2 : (a ++ b).take d.width = a := by rw [← hlen]; simp
    have h3 : (a ++ b).drop d.width = b := by rw [← hlen]; simp
    rw [decodeAll, if_neg h1, h2, h3, hda, hdb]; rfl

theorem decodeAll_in_domain (E : Env) (c : TCfg) (hE : EnvOK E) (space : List Dist) (raw : List Rat)
    (hwf : ∀ d ∈ space, WF d) (hhc : ∀ d ∈ space, HC E d) (hcfg : c.tlog = true ∨ c.tstep = false)
    (hb : List.Forall₂ InB (space.flatMap (boundsOf E c)) raw) :
    ∃ params, decodeAll E c space raw = some params ∧ List.Forall₂ Member space params := by
  induction space generalizing raw with
  | nil =>
    cases hb
    exact ⟨[], rfl, List.Forall₂.nil⟩
  | cons d ds ih =>
    rw [List.flatMap_cons] at hb
    have hw := boundsOf_length E c d
    have h1 : ¬ raw.length < d.width := by rw [← hb.length_eq]; simp [hw]
    have hb1 : List.Forall₂ InB (boundsOf E c d) (raw.take d.width) := by
      have := List.forall₂_take d.width hb
      rwa [List.take_left' hw] at this
    have hb2 : List.Forall₂ InB (ds.flatMap (boundsOf E c)) (raw.drop d.width) := by
      have := List.forall₂_drop d.width hb
      rwa [List.drop_left' hw] at this
    obtain ⟨v, hv, hm⟩ := decode_in_domain E c d _ hE (hwf d (by simp)) (hhc d (by simp)) hcfg hb1
    obtain ⟨ps, hps, hms⟩ := ih _ (fun d' hd' => hwf d' (by simp [hd'])) (fun d' hd' => hhc d' (by simp [hd'])) hb2
    exact ⟨v :: ps, by rw [decodeAll, if_neg h1, hv, hps]; rfl, List.Forall₂.cons hm hms⟩

theorem flatMap_boundsOf_le (E : Env) (c : TCfg) (hE : EnvOK E) (space : List Dist) (hwf : ∀ d ∈ space, WF d) :
    ∀ b ∈ space.flatMap (boundsOf E c), b.1 ≤ b.2 := by
  intro b hb
  obtain ⟨d, hd, hbd⟩ := List.mem_flatMap.mp hb
  exact boundsOf_le E c d hE (hwf d hd) b hbd

theorem gather_range (ys : List Rat) (off w : Nat) (h : off + w ≤ ys.length) :
    gather ys (List.range' off w) = some ((ys.drop off).take w) := by
  induction w generalizing off with
  | zero => simp [gather]
  | succ w ih =>
    have hlt : off < ys.length := by omega
    have := ih (off + 1) (by omega)
    rw [List.range'_succ, gather, List.getElem?_eq_getElem hlt, this, List.drop_eq_getElem_cons hlt, List.take_succ_cons]

/-- the column ranges tile `0 .. n_bounds - 1` in order, without gap or overlap -/
theorem colsOf_flatten (off : Nat) (space : List Dist) :
    (colsOf off space).flatten = List.range' off (totalWidth space) := by
  induction space generalizing off with
  | nil => simp [colsOf, totalWidth]
  | cons d ds ih => simp [colsOf, totalWidth, ih]
example : (colsOf 0 [.cat [.none, .nan], .int .int 1 9 false 4, .cat [.none]]).flatten = [0, 1, 2, 3] := by decide

theorem backOf_colsOf_aux (space : List Dist) (off k i : Nat) (cols : List Nat)
    (h : (colsOf off space)[i]? = some cols) (j : Nat) (hj : j ∈ cols) :
    off ≤ j ∧ (backOf k space)[j - off]? = some (k + i) := by
  induction space generalizing off k i with
  | nil => simp [colsOf] at h
  | cons d ds ih =>
    cases i with
    | zero =>
      simp only [colsOf, List.getElem?_cons_zero, Option.some.injEq] at h
      subst h
      obtain ⟨h1, h2⟩ := List.mem_range'_1.mp hj
      refine ⟨h1, ?_⟩
      have hlt : j - off < (List.replicate d.width k).length := by simp; omega
      simp only [backOf, List.getElem?_append_left hlt, Nat.add_zero]
      rw [List.getElem?_eq_getElem hlt]; simp
    | succ i =>
      simp only [colsOf, List.getElem?_cons_succ] at h
      obtain ⟨h1, h2⟩ := ih (off + d.width) (k + 1) i h
      refine ⟨by omega, ?_⟩
      have hge : (List.replicate d.width k).length ≤ j - off := by simp; omega
      simp only [backOf, List.getElem?_append_right hge, List.length_replicate]
      have : j - off - d.width = j - (off + d.width) := by omega
      rw [this, h2]; congr 1; omega

/-- the back map inverts the column ranges: every column of the `i`-th parameter maps back to `i` -/
theorem backOf_colsOf (space : List Dist) (i : Nat) (cols : List Nat) (h : (colsOf 0 space)[i]? = some cols)
    (j : Nat) (hj : j ∈ cols) : (backOf 0 space)[j]? = some i := by
  have := (backOf_colsOf_aux space 0 0 i cols h j hj).2
  simpa using this
example : (colsOf 0 [.cat [.none, .nan], .int .int 1 9 false 4, .cat [.none]])[1]? = some [2] ∧
    (backOf 0 [.cat [.none, .nan], .int .int 1 9 false 4, .cat [.none]])[2]? = some 1 := by decide

end OptunaVerif.TransformIR
