import OptunaVerif.Model.Repro
import OptunaVerif.Lemmas.Storage
/-! Helper lemmas for C09: the generic simulation argument for the optimisation loop; the id-erased view of the
contract model after each kind of state change, with which the contract model refines the canonical id-free storage
(`specSim`) and `copy_study` is followed call by call (`Lemmas/ReproCopy`). -/
namespace OptunaVerif.Repro
open OptunaVerif.Storage

/-- An id-renaming simulation between two storages: `R` relates states that show the same
id-erased study, `C` additionally relates a handle of each side that names the same trial. -/
structure Sim (S₁ S₂ : Store) where
  R : S₁.σ → S₂.σ → Prop
  C : S₁.σ → S₁.H → S₂.σ → S₂.H → Prop
  C_R : ∀ {s₁ h₁ s₂ h₂}, C s₁ h₁ s₂ h₂ → R s₁ s₂
  view_eq : ∀ {s₁ s₂}, R s₁ s₂ → S₁.view s₁ = S₂.view s₂
  cur_eq : ∀ {s₁ h₁ s₂ h₂}, C s₁ h₁ s₂ h₂ → S₁.cur s₁ h₁ = S₂.cur s₂ h₂
  ask_sim : ∀ {s₁ s₂}, R s₁ s₂ →
    (∃ h₁ h₂, (S₁.ask s₁).2 = some h₁ ∧ (S₂.ask s₂).2 = some h₂ ∧
        C (S₁.ask s₁).1 h₁ (S₂.ask s₂).1 h₂) ∨
    ((S₁.ask s₁).2 = none ∧ (S₂.ask s₂).2 = none ∧ R (S₁.ask s₁).1 (S₂.ask s₂).1)
  setParam_sim : ∀ {s₁ h₁ s₂ h₂}, C s₁ h₁ s₂ h₂ → ∀ (n : String) (p : Param),
    (S₁.setParam s₁ h₁ n p).2 = (S₂.setParam s₂ h₂ n p).2 ∧
      C (S₁.setParam s₁ h₁ n p).1 h₁ (S₂.setParam s₂ h₂ n p).1 h₂
  setInter_sim : ∀ {s₁ h₁ s₂ h₂}, C s₁ h₁ s₂ h₂ → ∀ (stp : Int) (v : XVal),
    C (S₁.setInter s₁ h₁ stp v) h₁ (S₂.setInter s₂ h₂ stp v) h₂
  setUserAttr_sim : ∀ {s₁ h₁ s₂ h₂}, C s₁ h₁ s₂ h₂ → ∀ (k v : String),
    C (S₁.setUserAttr s₁ h₁ k v) h₁ (S₂.setUserAttr s₂ h₂ k v) h₂
  write_sim : ∀ {s₁ h₁ s₂ h₂}, C s₁ h₁ s₂ h₂ → ∀ (w : Write),
    C (S₁.write s₁ h₁ w) h₁ (S₂.write s₂ h₂ w) h₂
  finish_sim : ∀ {s₁ h₁ s₂ h₂}, C s₁ h₁ s₂ h₂ → ∀ (st : TState) (vals : Option (List XVal)),
    R (S₁.finish s₁ h₁ st vals) (S₂.finish s₂ h₂ st vals)

variable {S₁ S₂ : Store} {ρ : Type}

theorem applyWrites_sim (sim : Sim S₁ S₂) (ws : List Write) {s₁ h₁ s₂ h₂}
    (hc : sim.C s₁ h₁ s₂ h₂) : sim.C (applyWrites S₁ s₁ h₁ ws) h₁ (applyWrites S₂ s₂ h₂ ws) h₂ := by
  induction ws generalizing s₁ s₂ with
  | nil => exact hc
  | cons w ws ih => exact ih (sim.write_sim hc w)

theorem runProg_sim (sim : Sim S₁ S₂) (A : Algo ρ) (h₁ : S₁.H) (h₂ : S₂.H) (prog : Prog) :
    ∀ (s₁ : S₁.σ) (s₂ : S₂.σ) (r : ρ), sim.C s₁ h₁ s₂ h₂ →
      sim.C (runProg S₁ A h₁ prog s₁ r).1 h₁ (runProg S₂ A h₂ prog s₂ r).1 h₂ ∧
      (runProg S₁ A h₁ prog s₁ r).2 = (runProg S₂ A h₂ prog s₂ r).2 := by
  -- objective and algorithm see a storage only through `cur` and `view`, which `C` makes equal: they decide alike on both
  -- sides, and each write they then make keeps `C` (the `_sim` fields)
  induction prog with
  | suggest name d k ih =>
    intro s₁ s₂ r hc
    simp only [runProg]
    rw [sim.cur_eq hc, sim.view_eq (sim.C_R hc)]
    cases S₂.cur s₂ h₂ with
    | none => exact ⟨hc, rfl⟩
    | some cur =>
      cases S₂.view s₂ with
      | none => exact ⟨hc, rfl⟩
      | some vw =>
        simp only []
        cases cur.params.get? name with
        | some p =>
          simp only []
          split
          · exact ih _ s₁ s₂ r hc
          · exact ⟨hc, rfl⟩
        | none =>
          simp only []
          obtain ⟨hb, hc'⟩ := sim.setParam_sim (applyWrites_sim sim (A.sample r vw cur name d).2.1 hc) name
            ⟨(A.sample r vw cur name d).2.2, d⟩
          rw [hb]
          split
          · exact ih _ _ _ _ hc'
          · exact ⟨hc', rfl⟩
  | report stp v k ih =>
    intro s₁ s₂ r hc
    simp only [runProg]
    rw [sim.cur_eq hc]
    cases S₂.cur s₂ h₂ with
    | none => exact ⟨hc, rfl⟩
    | some cur =>
      simp only []
      split
      · exact ih s₁ s₂ r hc
      · exact ih _ _ r (sim.setInter_sim hc stp v)
  | shouldPrune k ih =>
    intro s₁ s₂ r hc
    simp only [runProg]
    rw [sim.cur_eq hc, sim.view_eq (sim.C_R hc)]
    cases S₂.cur s₂ h₂ with
    | none => exact ⟨hc, rfl⟩
    | some cur =>
      cases S₂.view s₂ with
      | none => exact ⟨hc, rfl⟩
      | some vw => exact ih _ _ _ _ (applyWrites_sim sim _ hc)
  | setUserAttr key val k ih =>
    intro s₁ s₂ r hc
    exact ih _ _ r (sim.setUserAttr_sim hc key val)
  | ret vs => intro s₁ s₂ r hc; exact ⟨hc, rfl⟩
  | prune => intro s₁ s₂ r hc; exact ⟨hc, rfl⟩
  | fail => intro s₁ s₂ r hc; exact ⟨hc, rfl⟩

theorem runTrial_sim (sim : Sim S₁ S₂) (A : Algo ρ) (obj : Nat → Prog) (s₁ : S₁.σ) (s₂ : S₂.σ)
    (r : ρ) (hr : sim.R s₁ s₂) :
    sim.R (runTrial S₁ A obj s₁ r).1 (runTrial S₂ A obj s₂ r).1 ∧
      (runTrial S₁ A obj s₁ r).2 = (runTrial S₂ A obj s₂ r).2 := by
  unfold runTrial
  -- `ask` hands out a trial on both sides (related by `C`, so the trial runs in step: `runProg_sim`) or on neither
  rcases sim.ask_sim hr with ⟨h₁, h₂, e₁, e₂, hc⟩ | ⟨e₁, e₂, hr'⟩
  · rw [show S₁.ask s₁ = ((S₁.ask s₁).1, some h₁) from Prod.ext rfl e₁,
      show S₂.ask s₂ = ((S₂.ask s₂).1, some h₂) from Prod.ext rfl e₂]
    simp only []
    rw [sim.cur_eq hc, sim.view_eq (sim.C_R hc)]
    cases S₂.cur (S₂.ask s₂).1 h₂ with
    | none => exact ⟨sim.C_R hc, rfl⟩
    | some cur =>
      cases S₂.view (S₂.ask s₂).1 with
      | none => exact ⟨sim.C_R hc, rfl⟩
      | some vw =>
        simp only []
        obtain ⟨hc3, heq3⟩ := runProg_sim sim A h₁ h₂ (obj cur.number) _ _ (A.beforeTrial r vw cur).1
          (applyWrites_sim sim (A.beforeTrial r vw cur).2 hc)
        generalize runProg S₁ A h₁ _ _ _ = o₁ at hc3 heq3 ⊢
        generalize runProg S₂ A h₂ _ _ _ = o₂ at hc3 heq3 ⊢
        rw [sim.cur_eq hc3, sim.view_eq (sim.C_R hc3), heq3]
        cases S₂.cur o₂.1 h₂ with
        | none => exact ⟨sim.C_R hc3, rfl⟩
        | some cur3 =>
          cases S₂.view o₂.1 with
          | none => exact ⟨sim.C_R hc3, rfl⟩
          | some vw3 => exact ⟨sim.finish_sim (applyWrites_sim sim _ hc3) _ _, rfl⟩
  · rw [show S₁.ask s₁ = ((S₁.ask s₁).1, none) from Prod.ext rfl e₁,
      show S₂.ask s₂ = ((S₂.ask s₂).1, none) from Prod.ext rfl e₂]
    exact ⟨hr', rfl⟩

theorem runTrials_sim (sim : Sim S₁ S₂) (A : Algo ρ) (obj : Nat → Prog) (n : Nat) (s₁ : S₁.σ)
    (s₂ : S₂.σ) (r : ρ) (hr : sim.R s₁ s₂) :
    sim.R (runTrials S₁ A obj n s₁ r).1 (runTrials S₂ A obj n s₂ r).1 ∧
      (runTrials S₁ A obj n s₁ r).2 = (runTrials S₂ A obj n s₂ r).2 := by
  induction n with
  | zero => exact ⟨hr, rfl⟩
  | succ n ih =>
    simp only [runTrials]
    obtain ⟨h1, h2⟩ := ih
    rw [h2]
    exact runTrial_sim sim A obj _ _ _ h1

theorem optimizeSeq_eq_runTrials (S : Store) (A : Algo ρ) (obj : Nat → Prog) (reseed : Bool) (n : Nat) (s : S.σ) (r : ρ) :
    optimizeSeq S A obj reseed n s r = runTrials S A obj n s (if reseed then A.reseed r else r) := by
  induction n with
  | zero => rfl
  | succ n ih => simp only [optimizeSeq, runTrials, ih]

theorem runCalls_sim (sim : Sim S₁ S₂) (A : Algo ρ) (obj : Nat → Prog) (reseed : Bool)
    (calls : List Nat) (s₁ : S₁.σ) (s₂ : S₂.σ) (r : ρ) (hr : sim.R s₁ s₂) :
    sim.R (runCalls S₁ A obj reseed calls s₁ r).1 (runCalls S₂ A obj reseed calls s₂ r).1 ∧
      (runCalls S₁ A obj reseed calls s₁ r).2 = (runCalls S₂ A obj reseed calls s₂ r).2 := by
  induction calls generalizing s₁ s₂ r with
  | nil => exact ⟨hr, rfl⟩
  | cons n rest ih =>
    simp only [runCalls, optimizeSeq_eq_runTrials]
    obtain ⟨h1, h2⟩ := runTrials_sim sim A obj n s₁ s₂ _ hr
    rw [h2]
    exact ih _ _ _ h1

theorem updAt_map_fst {α β : Type} (l : List (α × β)) (n : Nat) (g : β → β) :
    (updAt l n (fun p => (p.1, g p.2))).map Prod.fst = l.map Prod.fst :=
  (map_updAt Prod.fst l n _ _ fun _ => rfl).trans (updAt_id _ n)

theorem specView_some {sid : Nat} {s : Spec} {v : View} (h : specView sid s = some v) :
    s.study? sid = some v.study ∧ v.trials = (s.trialsOf sid).map (fun p => eraseT p.2) := by
  unfold specView at h
  cases hs : s.study? sid with
  | none => simp [hs] at h
  | some st =>
    simp only [hs, Option.map_some, Option.some.injEq] at h
    subst h
    exact ⟨rfl, rfl⟩

theorem specView_updStudy {sid : Nat} {s : Spec} {v : View} (g : StudyS → StudyS) (h : specView sid s = some v) :
    specView sid (s.updStudy sid g) = some { v with study := g v.study } := by
  obtain ⟨hst, htr⟩ := specView_some h
  unfold specView
  rw [updStudy_study? s sid g _ hst, htr]
  rfl

theorem specView_appendTrial {sid : Nat} {s : Spec} {v : View} (h : specView sid s = some v) (t : TrialS)
    (ht : t.study = sid) :
    specView sid { s with trials := s.trials ++ [t] } = some { v with trials := v.trials ++ [eraseT t] } := by
  obtain ⟨hst, htr⟩ := specView_some h
  unfold specView
  rw [trialsOf_appendTrial, ht, beq_self_eq_true, if_pos rfl, List.map_append, ← htr]
  exact congrArg (Option.map _) hst

/-- `hwf` is true of every reachable state. -/
theorem specView_appendStudy (s : Spec) (st : StudyS) (hwf : ∀ t ∈ s.trials, t.study ≠ s.studies.length) :
    specView s.studies.length { s with studies := s.studies ++ [some st] } = some ⟨st, []⟩ := by
  unfold specView
  rw [study?_append, if_pos rfl]
  show some (View.mk st ((trialsFrom _ s.trials 0).map _)) = _
  rw [trialsFrom_nil _ _ _ hwf]
  rfl

def Cur (sid : Nat) (s : Spec) (tid : Nat) (v : View) (n : Nat) : Prop :=
  specView sid s = some v ∧ ((s.trialsOf sid)[n]?).map Prod.fst = some tid

theorem cur_facts {sid : Nat} {s : Spec} {tid : Nat} {v : View} {n : Nat} (h : Cur sid s tid v n) :
    ∃ t, (s.trialsOf sid)[n]? = some (tid, t) ∧ t.study = sid ∧
      s.study? sid = some v.study ∧ v.trials = (s.trialsOf sid).map (fun p => eraseT p.2) ∧
      s.trial? tid = some t ∧ v.trials[n]? = some (eraseT t) := by
  obtain ⟨hv, hp⟩ := h
  obtain ⟨hst, htr⟩ := specView_some hv
  cases hn : (s.trialsOf sid)[n]? with
  | none => simp [hn] at hp
  | some p =>
    obtain ⟨j, t⟩ := p
    simp only [hn, Option.map_some, Option.some.injEq] at hp
    subst hp
    obtain ⟨hget, hstudy⟩ := (mem_trialsOf s sid j t).mp (List.mem_of_getElem? hn)
    refine ⟨t, rfl, hstudy, hst, htr, ?_, ?_⟩
    · rw [trial?_some_iff]; exact ⟨hget, by rw [hstudy, hst]; rfl⟩
    · rw [htr, List.getElem?_map, hn]; rfl

theorem Cur_updTrial {sid : Nat} {s : Spec} {tid : Nat} {v : View} {n : Nat} (f : TrialS → TrialS)
    (hf : ∀ t, (f t).study = t.study) (hc : ∀ t, eraseT (f t) = f (eraseT t))
    (h : Cur sid s tid v n) : Cur sid (s.updTrial tid f) tid (v.updTrial n f) n := by
  obtain ⟨t, hn, _, hst, htr, _, _⟩ := cur_facts h
  -- ids increase along `trialsOf`, so the entry with id `tid` is the one at position `n`
  have htO : (s.updTrial tid f).trialsOf sid = updAt (s.trialsOf sid) n (fun p => (p.1, f p.2)) := by
    rw [trialsOf_updTrial s tid sid f hf]
    simpa using map_ite_eq_updAt Prod.fst (s.trialsOf sid) (trialsFrom_sorted sid s.trials 0) n _ hn id (fun p => (p.1, f p.2))
  refine ⟨?_, ?_⟩
  · unfold specView
    rw [updTrial_study?, hst, htO]
    simp only [Option.map_some, Option.some.injEq]
    rw [map_updAt (fun p : Nat × TrialS => eraseT p.2) (s.trialsOf sid) n (fun p => (p.1, f p.2)) f
      (fun a => hc a.2)]
    simp only [View.updTrial, htr]
  · rw [htO, ← List.getElem?_map, updAt_map_fst, List.getElem?_map]
    exact h.2

theorem Cur_updStudy {sid : Nat} {s : Spec} {tid : Nat} {v : View} {n : Nat} (g : StudyS → StudyS)
    (h : Cur sid s tid v n) : Cur sid (s.updStudy sid g) tid { v with study := g v.study } n :=
  ⟨specView_updStudy g h.1, h.2⟩

theorem templateConflict_view {sid : Nat} {s : Spec} {v : View}
    (htr : v.trials = (s.trialsOf sid).map (fun p => eraseT p.2)) (name : String) (d : Dist) :
    s.templateConflict sid name d = v.templateConflict name d := by
  unfold Spec.templateConflict View.templateConflict
  rw [htr, List.any_map]
  rfl

theorem writable_of_facts {s : Spec} {tid : Nat} {t : TrialS} (h : s.trial? tid = some t) :
    s.writable tid = if t.state.isFinished then .error .updateFinished else .ok t := by
  simp [Spec.writable, h]

theorem view_writable {v : View} {n : Nat} {t : TrialS} (h : v.trials[n]? = some (eraseT t)) :
    v.writable n = if t.state.isFinished then none else some (eraseT t) := by
  simp only [View.writable, h]
  rfl

/-- Every setter of the current trial starts with the guard `writable`, in `Storage.step` and in `viewStore`. -/
theorem Cur_writable {sid : Nat} {s : Spec} {tid : Nat} {v : View} {n : Nat} (h : Cur sid s tid v n)
    {k₁ : TrialS → Spec × Out} {k₂ : TrialS → View} (hk : ∀ t, Cur sid (k₁ t).1 tid (k₂ (eraseT t)) n) :
    Cur sid (match s.writable tid with | .error e => (s, Out.err e) | .ok t => k₁ t).1 tid
      (match v.writable n with | none => v | some t => k₂ t) n := by
  obtain ⟨t, _, _, _, _, htrial, hvn⟩ := cur_facts h
  rw [writable_of_facts htrial, view_writable hvn]
  cases t.state.isFinished
  · exact hk t
  · exact h

theorem sim_write {sid : Nat} {ir : Bool} {s : Spec} {tid : Nat} {v : View} {n : Nat}
    (h : Cur sid s tid v n) (w : Write) :
    Cur sid ((specStore sid ir).write s tid w) tid ((viewStore ir).write v n w) n := by
  cases w with
  | trialSys k x => exact Cur_writable h fun _ => Cur_updTrial _ (fun _ => rfl) (fun _ => rfl) h
  | studySys k x =>
    obtain ⟨_, _, _, hst, _, _, _⟩ := cur_facts h
    simp only [specStore, viewStore, step, hst]
    exact Cur_updStudy (fun st => { st with systemAttrs := st.systemAttrs.set k x }) h

theorem sim_finish {sid : Nat} {ir : Bool} {s : Spec} {tid : Nat} {v : View} {n : Nat}
    (h : Cur sid s tid v n) (st : TState) (vals : Option (List XVal)) :
    Cur sid ((specStore sid ir).finish s tid st vals) tid ((viewStore ir).finish v n st vals) n := by
  refine Cur_writable h fun t => ?_
  -- a refused claim (`RUNNING` asked of a trial that is not `WAITING`) writes nothing on either side
  rw [show (eraseT t).state = t.state from rfl]
  split
  · exact h
  · exact Cur_updTrial (finishUpd st vals) (fun _ => rfl) (fun _ => rfl) h

theorem sim_setParam {sid : Nat} {ir : Bool} {s : Spec} {tid : Nat} {v : View} {n : Nat}
    (h : Cur sid s tid v n) (name : String) (p : Param) :
    ((specStore sid ir).setParam s tid name p).2 = ((viewStore ir).setParam v n name p).2 ∧
    Cur sid ((specStore sid ir).setParam s tid name p).1 tid
      ((viewStore ir).setParam v n name p).1 n := by
  obtain ⟨t, _, hstudy, hst, htr, htrial, hvn⟩ := cur_facts h
  have hst' : s.study? t.study = some v.study := by rw [hstudy]; exact hst
  simp only [specStore, viewStore, step, writable_of_facts htrial, view_writable hvn]
  cases hfin : t.state.isFinished
  · simp only [Bool.false_eq_true, ↓reduceIte, hst']
    cases hfc : v.study.fixedConflict name p.dist
    · simp only [Bool.false_eq_true, ↓reduceIte]
      rw [hstudy, templateConflict_view htr]
      cases htc : (v.templateConflict name p.dist && ir)
      · simp only [Bool.false_eq_true, ↓reduceIte]
        refine ⟨trivial, ?_⟩
        have h1 := Cur_updTrial (fun t => { t with params := t.params.set name p })
          (fun _ => rfl) (fun _ => rfl) h
        exact Cur_updStudy (fun st => { st with paramDist := st.paramDist.set name p.dist }) h1
      · simp only [↓reduceIte]; exact ⟨trivial, h⟩
    · simp only [↓reduceIte]; exact ⟨trivial, h⟩
  · simp only [↓reduceIte]; exact ⟨trivial, h⟩

theorem firstWaiting_spec (L : List (Nat × TrialS)) (i : Nat) :
    match firstWaiting L with
    | some tid => ∃ n t, firstWaitingIdx (L.map (fun p => eraseT p.2)) i = some (i + n) ∧
        L[n]? = some (tid, t) ∧ t.state = .waiting
    | none => firstWaitingIdx (L.map (fun p => eraseT p.2)) i = none := by
  fun_induction firstWaiting L generalizing i with
  | case1 => rfl
  | case2 j t rest hw => exact ⟨0, t, if_pos hw, rfl, by simpa using hw⟩
  | case3 j t rest hw ih =>
    have := ih (i + 1)
    simp only [List.map_cons, firstWaitingIdx, show (eraseT t).state = t.state from rfl, if_neg hw]
    cases hf : firstWaiting rest with
    | none => simpa only [hf] using this
    | some tid =>
      simp only [hf] at this ⊢
      obtain ⟨n, t', h1, h2, h3⟩ := this
      exact ⟨n + 1, t', by rw [h1]; congr 1; omega, by simpa using h2, h3⟩

theorem sim_ask {sid : Nat} {ir : Bool} {s : Spec} {v : View} (h : specView sid s = some v) :
    ∃ tid n, ((specStore sid ir).ask s).2 = some tid ∧ ((viewStore ir).ask v).2 = some n ∧
      Cur sid ((specStore sid ir).ask s).1 tid ((viewStore ir).ask v).1 n := by
  obtain ⟨hst, htr⟩ := specView_some h
  have hfw := firstWaiting_spec (s.trialsOf sid) 0
  simp only [specStore, viewStore]
  rw [htr]
  -- `ask` pops the first WAITING trial, the same one by id there and by number here (`firstWaiting_spec`), and its claim is
  -- granted; with none queued it appends a fresh trial: id `s.trials.length` there, the next number of the study here
  cases hf : firstWaiting (s.trialsOf sid) with
  | some tid =>
    simp only [hf] at hfw
    obtain ⟨n, t, h1, h2, h3⟩ := hfw
    rw [Nat.zero_add] at h1
    have hcur : Cur sid s tid v n := ⟨h, by rw [h2]; rfl⟩
    obtain ⟨t', hn', _, _, _, htrial, _⟩ := cur_facts hcur
    rw [h2] at hn'
    simp only [Option.some.injEq, Prod.mk.injEq, true_and] at hn'
    subst hn'
    have hnf : t.state.isFinished = false := by rw [h3]; rfl
    have hb : (TState.running == TState.running && t.state != TState.waiting) = false := by
      rw [h3]; rfl
    simp only [h1, step, writable_of_facts htrial, hnf, hb, Bool.false_eq_true, ↓reduceIte]
    refine ⟨tid, n, rfl, rfl, ?_⟩
    exact Cur_updTrial (finishUpd .running none) (fun _ => rfl) (fun _ => rfl) hcur
  | none =>
    simp only [hf] at hfw
    simp only [hfw, step, hst, Bool.false_and, Bool.false_eq_true, ↓reduceIte]
    refine ⟨s.trials.length, ((s.trialsOf sid).map (fun p => eraseT p.2)).length, rfl, rfl, ?_⟩
    refine ⟨?_, by rw [trialsOf_appendTrial]; simp [mkTrial_study]⟩
    rw [specView_appendTrial h (mkTrial sid (s.trialsOf sid).length none) rfl, htr, List.length_map]
    rfl

def specSim (sid : Nat) (ir : Bool) : Sim (specStore sid ir) (viewStore ir) where
  R := fun s v => specView sid s = some v
  C := fun s tid v n => Cur sid s tid v n
  C_R := fun h => h.1
  view_eq := fun h => h
  cur_eq := @fun (s : Spec) (tid : Nat) (v : View) (n : Nat) h => by
    obtain ⟨t, _, _, _, _, htrial, hvn⟩ := cur_facts h
    show (s.trial? tid).map eraseT = v.trials[n]?
    rw [htrial, hvn]; rfl
  ask_sim := fun h => Or.inl (sim_ask h)
  setParam_sim := sim_setParam
  setInter_sim := fun h stp x =>
    Cur_writable h fun _ => Cur_updTrial _ (fun _ => rfl) (fun _ => rfl) h
  setUserAttr_sim := fun h k x =>
    Cur_writable h fun _ => Cur_updTrial _ (fun _ => rfl) (fun _ => rfl) h
  write_sim := sim_write
  finish_sim := fun h st vals => (sim_finish h st vals).1

end OptunaVerif.Repro
