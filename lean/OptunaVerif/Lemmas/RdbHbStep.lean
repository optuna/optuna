import OptunaVerif.Lemmas.RdbHbInv
import OptunaVerif.Lemmas.RdbRefine
/-! How the abstraction (`absCfg`) and the invariant (`RInv`) follow one step of the relational heartbeat model.

A step is a storage call that replaces the tables (`Cfg.setDb`), after which a worker may change phase and log an
event (`Cfg.move`, on the new tables).  Of a storage call other than `delete_study` only `CallFacts` is used (the
refinement of the storage contract, the study stays live, `trial_heartbeats` is untouched, the listing of the study
only grows and every trial keeps its number in it).  The listing then changes in one of three ways: not at all (`frame_sim`), one listed trial is rewritten
(`upd_sim`), one trial is appended (`append_sim`); `move_sim` adds the worker's move.  Core Lean only. -/
namespace OptunaVerif.RdbHb
open OptunaVerif.Storage OptunaVerif.Rdb
open OptunaVerif.Heartbeat (HTrial)

theorem absPhase_norm (C : Codec) (L : List (Nat × TrialS)) (b : Bool) (ph : Phase) :
    absPhase C L (Phase.norm b ph) = Heartbeat.Phase.norm b (absPhase C L ph) := by
  cases ph with
  | idle => rfl
  | dead => rfl
  | failing todo won =>
    cases todo with
    | nil =>
      cases won with
      | nil => cases b <;> rfl
      | cons x r => cases b <;> rfl
    | cons t r => rfl
  | calling todo =>
    cases todo with
    | nil => rfl
    | cons t r => rfl
  | enqueue t s todo => rfl

theorem PhaseOk.norm {C : Codec} {m : Option Nat} {L : List (Nat × TrialS)} {b : Bool} {ph : Phase}
    (h : PhaseOk C m L ph) : PhaseOk C m L (Phase.norm b ph) := by
  fun_cases Phase.norm b ph
  · exact h.2
  · trivial
  · trivial
  · exact h

theorem workers_abs_get (P : Params) (c : Cfg) (w : Nat) :
    (absCfg P c).workers[w]? = (c.workers[w]?).map (absPhase P.codec (studyList c.hs.db P.sid)) := by
  simp [absCfg]

theorem trials_abs_get (P : Params) (c : Cfg) (h : RInv P c) (p : Nat × TrialS) (hp : p ∈ studyList c.hs.db P.sid) :
    (absCfg P c).trials[numOf (studyList c.hs.db P.sid) p.1]? = some (absTrial P.codec c.hs c.now p) := by
  simp only [absCfg, absTrialsL, List.getElem?_map]
  rw [getElem?_numOf _ (studyList_sorted c.hs.db h.inv.1 P.sid) p hp]
  rfl

theorem listed_cases (P : Params) (c : Cfg) (h : RInv P c) (a : Spec) (ha : Abs c.hs.db a) (hlive : (a.study? P.sid).isSome = true)
    (tid : Nat) :
    tid ∉ (studyList c.hs.db P.sid).map (·.1) ∨
    ∃ p ∈ studyList c.hs.db P.sid, p.1 = tid ∧
      (absCfg P c).trials[numOf (studyList c.hs.db P.sid) tid]? = some (absTrial P.codec c.hs c.now p) ∧
      (p.2.state.isFinished = true ∧ a.writable tid = .error .updateFinished ∨
        p.2.state.isFinished = false ∧ a.writable tid = .ok p.2) := by
  by_cases hm : tid ∈ (studyList c.hs.db P.sid).map (·.1)
  · obtain ⟨p, hp, hpt⟩ := List.mem_map.mp hm
    subst hpt
    have hp' : (p.1, p.2) ∈ a.trialsOf P.sid := by rw [← studyList_abs c.hs.db a ha P.sid hlive]; exact hp
    have ht := ((mem_trialsOf_live a P.sid hlive p.1 p.2).mp hp').1
    refine Or.inr ⟨p, hp, rfl, trials_abs_get P c h p hp, ?_⟩
    cases hfin : p.2.state.isFinished with
    | true => exact Or.inl ⟨rfl, by simp [Spec.writable, ht, hfin]⟩
    | false => exact Or.inr ⟨rfl, by simp [Spec.writable, ht, hfin]⟩
  · exact Or.inl hm

theorem change_evolves (a a' : Spec) (sid : Nat) (hch : TrialsChange a a') (hl : (a.study? sid).isSome = true) :
    Evolves (a.trialsOf sid) (a'.trialsOf sid) ∧
    ∀ x ∈ (a'.trialsOf sid).map (·.1), numOf (a'.trialsOf sid) x = numOf (a.trialsOf sid) x := by
  rcases hch with h | ⟨t, h, _, _⟩ | ⟨tid, f, t0, h, hw, hf⟩
  · rw [trialsOf_of_trials _ _ h]; exact ⟨Evolves.refl _, fun _ _ => rfl⟩
  -- a trial appended: its id is `a.trials.length`, above every id there is, so no count of smaller ids (`numOf`) moves
  · have : a'.trialsOf sid = a.trialsOf sid ++ (if t.study == sid then [(a.trials.length, t)] else []) :=
      (trialsOf_of_trials { a with trials := a.trials ++ [t] } a' h sid).trans (trialsOf_appendTrial a t sid)
    rw [this]
    refine ⟨⟨fun x hx => by rw [List.map_append]; exact List.mem_append_left _ hx, fun q hq _ => List.mem_append_left _ hq⟩, ?_⟩
    intro x hx
    by_cases hts : (t.study == sid) = true
    · simp only [hts, if_true] at hx ⊢
      apply numOf_append
      simp only [List.map_append, List.mem_append, List.map_cons, List.map_nil, List.mem_singleton] at hx
      rcases hx with hx | hx
      · obtain ⟨q, hq, e⟩ := List.mem_map.mp hx
        have := getElem?_lt_length ((mem_trialsOf a sid q.1 q.2).1 hq).1
        simp only; omega
      · simp only; omega
    · simp only [hts, Bool.false_eq_true, if_false, List.append_nil]
  -- a trial rewritten in place: the ids stay; it was writable (`hw`), so not finished, and `frozen` speaks of the others only
  · have := trialsOf_of_updAt a a' tid f (fun t => (hf t).1) h sid
    have hids : (a'.trialsOf sid).map (·.1) = (a.trialsOf sid).map (·.1) := by
      rw [this, List.map_map]
      apply List.map_congr_left
      intro q _
      simp only [Function.comp]
      split <;> rfl
    refine ⟨⟨fun x hx => by rw [hids]; exact hx, ?_⟩, fun x _ => numOf_congr _ _ x hids⟩
    intro q hq hqf
    rw [this]
    refine List.mem_map.mpr ⟨q, hq, ?_⟩
    have hne : q.1 ≠ tid := by
      intro e
      have h1 := (mem_trialsOf_live a sid hl q.1 q.2).mp hq
      rw [e] at h1
      obtain ⟨h2, h3⟩ := (writable_ok_iff a tid t0).mp hw
      rw [h2] at h1
      simp only [Option.some.injEq] at h1
      rw [← h1.1, h3] at hqf
      exact Bool.false_ne_true hqf
    simp [hne]

structure CallFacts (P : Params) (c : Cfg) (db' : Rdb.State) (a a' : Spec) : Prop where
  abs : Abs c.hs.db a
  abs' : Abs db' a'
  live : (a.study? P.sid).isSome = true
  live' : (a'.study? P.sid).isSome = true
  beats : db'.beats = c.hs.db.beats
  evolves : Evolves (studyList c.hs.db P.sid) (studyList db' P.sid)
  num : ∀ x ∈ (studyList db' P.sid).map (·.1), numOf (studyList db' P.sid) x = numOf (studyList c.hs.db P.sid) x

theorem CallFacts.L {P : Params} {c : Cfg} {db' : Rdb.State} {a a' : Spec} (f : CallFacts P c db' a a') :
    studyList c.hs.db P.sid = a.trialsOf P.sid := studyList_abs _ _ f.abs _ f.live
theorem CallFacts.L' {P : Params} {c : Cfg} {db' : Rdb.State} {a a' : Spec} (f : CallFacts P c db' a a') :
    studyList db' P.sid = a'.trialsOf P.sid := studyList_abs _ _ f.abs' _ f.live'

theorem allowed_plain (res : Res) (o : Out) (h : Allowed res o) (h1 : ∀ l, o ≠ .oneOf l) (h2 : ∀ l, o ≠ .studies l) :
    res = .out o := by
  unfold Allowed at h
  split at h
  · exact absurd rfl (h1 _)
  · exact absurd rfl (h2 _)
  · exact h

theorem call_facts (P : Params) (c : Cfg) (a : Spec) (ha : Abs c.hs.db a) (hlive : (a.study? P.sid).isSome = true) (op : Op)
    (hwf : WfOp op) (hnd : ∀ s, op ≠ .deleteStudy s) :
    CallFacts P c (Rdb.step c.hs.db op).1 a (Storage.step a (withRaised op (raisedValueError (Rdb.step c.hs.db op).2))).1 ∧
    Allowed (Rdb.step c.hs.db op).2 (Storage.step a (withRaised op (raisedValueError (Rdb.step c.hs.db op).2))).2 := by
  obtain ⟨h1, h2⟩ := step_sim c.hs.db a op ha hwf
  have hnd' : ∀ s, withRaised op (raisedValueError (Rdb.step c.hs.db op).2) ≠ .deleteStudy s := by
    intro s; cases op <;> simp [withRaised] <;> exact absurd rfl (hnd _)
  have hlive' := step_study_live a _ P.sid (hnd' P.sid) hlive
  obtain ⟨hev, hnum⟩ := change_evolves a _ P.sid (step_trials a _) hlive
  rw [← studyList_abs _ _ ha _ hlive, ← studyList_abs _ _ h1 _ hlive'] at hev hnum
  exact ⟨⟨ha, h1, hlive, hlive', (beats_step c.hs.db ha.inv.1 op hnd).beats, hev, hnum⟩, h2⟩

theorem create_append (P : Params) (c : Cfg) (a : Spec) (h : Abs c.hs.db a) (st : StudyS) (hs : a.study? P.sid = some st)
    (tmpl : Option Template) (ir : Bool) (hwf : WfOp (.createTrial P.sid tmpl ir)) (hnc : a.tmplConflict P.sid st tmpl = false) :
    ∃ a', CallFacts P c (Rdb.step c.hs.db (.createTrial P.sid tmpl ir)).1 a a' ∧
      a'.trialsOf P.sid = a.trialsOf P.sid ++ [(a.trials.length, mkTrial P.sid (a.trialsOf P.sid).length tmpl)] ∧
      (Rdb.step c.hs.db (.createTrial P.sid tmpl ir)).2 = .out (.newId a.trials.length) := by
  obtain ⟨F, hal⟩ := call_facts P c a h (by rw [hs]; rfl) (.createTrial P.sid tmpl ir) hwf (by intro s; simp)
  rw [withRaised, Wrote.step_eq (.createTrial P.sid tmpl _ st hs (by rw [hnc, Bool.and_false]))] at F hal
  exact ⟨_, F, (trialsOf_appendTrial a _ P.sid).trans (by rw [mkTrial_study, beq_self_eq_true, if_pos rfl]), hal⟩

theorem absCfg_setDb (P : Params) (c : Cfg) (h : RInv P c) (db' : Rdb.State) (a a' : Spec) (f : CallFacts P c db' a a') :
    absCfg P (c.setDb db') =
      { absCfg P c with trials := absTrialsL P.codec c.hs c.now (studyList db' P.sid) } := by
  have hnum : ∀ t ∈ (studyList c.hs.db P.sid).map (·.1), numOf (studyList db' P.sid) t = numOf (studyList c.hs.db P.sid) t :=
    fun t ht => f.num t (f.evolves.ids t ht)
  apply Heartbeat.Cfg.ext
  · simp only [absCfg, Cfg.setDb, absTrialsL]
    apply List.map_congr_left
    intro p _
    simp only [absTrial]
    rw [ageOf_eq_of_beats c.hs { c.hs with db := db' } c.now p.1 f.beats rfl]
  · simp only [absCfg, Cfg.setDb]
    apply List.map_congr_left
    intro ph' hph'
    obtain ⟨w', hw'⟩ := List.getElem?_of_mem hph'
    exact absPhase_congr _ _ _ _ (fun t ht => hnum t (Phase.ids_mem (h.phases w' ph' hw') t ht))
  · simp only [absCfg, Cfg.setDb]
    apply filterMap_congr'
    intro ev hev
    exact absEvent_congr _ _ _ _ (fun t ht => hnum t (h.evIn ev hev t ht))

theorem RInv.setDb {P : Params} {c : Cfg} (h : RInv P c) (db' : Rdb.State) (a a' : Spec) (f : CallFacts P c db' a a')
    (hwf : ∀ q ∈ studyList db' P.sid, WfSys P.codec q.2.systemAttrs) : RInv P (c.setDb db') := by
  refine ⟨⟨a', f.abs', f.live'⟩, ?_, h.past, hwf, ?_, ?_, h.noRaise⟩
  · intro b hb
    have : b ∈ c.hs.db.beats := by rw [← f.beats]; exact hb
    exact h.stamped b this
  · intro w ph hw
    exact (h.phases w ph hw).evolve f.evolves
  · intro ev hm t ht
    exact f.evolves.ids t (h.evIn ev hm t ht)

theorem frame_sim (P : Params) (c : Cfg) (h : RInv P c) (db' : Rdb.State) (a a' : Spec) (f : CallFacts P c db' a a')
    (hsame : a'.trialsOf P.sid = a.trialsOf P.sid) :
    absCfg P (c.setDb db') = absCfg P c ∧ RInv P (c.setDb db') := by
  have hL' : studyList db' P.sid = studyList c.hs.db P.sid := by rw [f.L', f.L, hsame]
  exact ⟨by rw [absCfg_setDb P c h db' a a' f, hL']; rfl, h.setDb db' a a' f (by rw [hL']; exact h.wf)⟩

theorem upd_sim (P : Params) (c : Cfg) (h : RInv P c) (db' : Rdb.State) (a a' : Spec) (f : CallFacts P c db' a a')
    (p : Nat × TrialS) (hp : p ∈ studyList c.hs.db P.sid) (g : TrialS → TrialS)
    (hL' : a'.trialsOf P.sid = (a.trialsOf P.sid).map (fun q => if q.1 = p.1 then (q.1, g q.2) else q))
    (G : HTrial → HTrial) (hG : ∀ q, absTrial P.codec c.hs c.now (q.1, g q.2) = G (absTrial P.codec c.hs c.now q))
    (hwf : WfSys P.codec p.2.systemAttrs → WfSys P.codec (g p.2).systemAttrs) :
    absCfg P (c.setDb db') =
      { absCfg P c with trials := updAt (absCfg P c).trials (numOf (studyList c.hs.db P.sid) p.1) G } ∧
    RInv P (c.setDb db') := by
  have hsorted := studyList_sorted c.hs.db h.inv.1 P.sid
  have hL2 : studyList db' P.sid = (studyList c.hs.db P.sid).map (fun q => if q.1 = p.1 then (q.1, g q.2) else q) := by
    rw [f.L', hL', ← f.L]
  constructor
  · rw [absCfg_setDb P c h db' a a' f, hL2]
    apply Heartbeat.Cfg.ext
    · have : absTrialsL P.codec c.hs c.now ((studyList c.hs.db P.sid).map (fun q => if q.1 = p.1 then (q.1, g q.2) else q)) =
          (studyList c.hs.db P.sid).map
            (fun q => if q.1 = p.1 then G (absTrial P.codec c.hs c.now q) else absTrial P.codec c.hs c.now q) := by
        simp only [absTrialsL, List.map_map]
        apply List.map_congr_left
        intro q _
        simp only [Function.comp]
        split
        · exact hG q
        · rfl
      -- the listing is sorted by id and `absTrialsL` maps it in order: "the entry with id `p.1`" is position `numOf … p.1`
      exact this.trans ((map_if_eq_updAt _ hsorted p.1 _ G).trans (if_pos (List.mem_map.mpr ⟨p, hp, rfl⟩)))
    · rfl
    · rfl
  · apply h.setDb db' a a' f
    intro q hq
    rw [hL2] at hq
    obtain ⟨q0, hq0, e⟩ := List.mem_map.mp hq
    rw [← e]
    split
    · rename_i e1
      rw [sorted_fst_inj _ hsorted q0 p hq0 hp e1]
      exact hwf (h.wf p hp)
    · exact h.wf q0 hq0

theorem append_sim (P : Params) (c : Cfg) (h : RInv P c) (db' : Rdb.State) (a a' : Spec) (f : CallFacts P c db' a a')
    (t : TrialS) (hL' : a'.trialsOf P.sid = a.trialsOf P.sid ++ [(a.trials.length, t)]) (hwf : WfSys P.codec t.systemAttrs) :
    absCfg P (c.setDb db') = { absCfg P c with trials := (absCfg P c).trials ++ [⟨recOf P.codec t, none⟩] } ∧
    RInv P (c.setDb db') := by
  have hL2 : studyList db' P.sid = studyList c.hs.db P.sid ++ [(c.hs.db.nTrial, t)] := by
    rw [f.L', hL', ← f.L, f.abs.nTrials]
  constructor
  · rw [absCfg_setDb P c h db' a a' f, hL2]
    apply Heartbeat.Cfg.ext
    · simp only [absCfg, absTrialsL, List.map_append, List.map_cons, List.map_nil, absTrial, ageOf_next c.hs f.abs.inv.1 c.now]
    · rfl
    · rfl
  · apply h.setDb db' a a' f
    intro q hq
    rw [hL2] at hq
    rcases List.mem_append.mp hq with hq | hq
    · exact h.wf q hq
    · simp only [List.mem_singleton] at hq
      rw [hq]; exact hwf

def Cfg.move (c : Cfg) (db' : Rdb.State) (w : Nat) (ph : Phase) (e : Option Event) : Cfg :=
  { hs := { c.hs with db := db' }, now := c.now, workers := updAt c.workers w (fun _ => ph), events := e.toList ++ c.events }

theorem move_eq_log (c : Cfg) (db' : Rdb.State) (w : Nat) (ph : Phase) (e : Event) :
    ((c.setDb db').setPhase w ph).log e = c.move db' w ph (some e) := rfl
theorem move_eq_set (c : Cfg) (db' : Rdb.State) (w : Nat) (ph : Phase) :
    (c.setDb db').setPhase w ph = c.move db' w ph none := rfl
theorem move_eq_log' (c : Cfg) (w : Nat) (ph : Phase) (e : Event) :
    (c.setPhase w ph).log e = c.move c.hs.db w ph (some e) := rfl
theorem move_eq_set' (c : Cfg) (w : Nat) (ph : Phase) : c.setPhase w ph = c.move c.hs.db w ph none := rfl

theorem move_same_sim (P : Params) (c : Cfg) (h : RInv P c) (w : Nat) (ph : Phase) (e : Option Event)
    (hph : PhaseOk P.codec (P.cb.maxRetry.map Int.toNat) (studyList c.hs.db P.sid) ph)
    (hev : ∀ ev, e = some ev → (∀ t ∈ ev.ids, t ∈ (studyList c.hs.db P.sid).map (·.1)) ∧ ev.isRaised = false) :
    absCfg P (c.move c.hs.db w ph e) =
      { absCfg P c with
        workers := updAt (absCfg P c).workers w (fun _ => absPhase P.codec (studyList c.hs.db P.sid) ph),
        events := (e.bind (absEvent P.codec (studyList c.hs.db P.sid))).toList ++ (absCfg P c).events } ∧
    RInv P (c.move c.hs.db w ph e) := by
  constructor
  · apply Heartbeat.Cfg.ext
    · rfl
    · exact map_updAt_const _ _ _ _
    · cases e with
      | none => rfl
      | some ev =>
        simp only [absCfg, Cfg.move, Option.toList_some, List.cons_append, List.nil_append, List.filterMap_cons, Option.bind_some]
        cases absEvent P.codec (studyList c.hs.db P.sid) ev <;> rfl
  · have hmem : ∀ ev ∈ (c.move c.hs.db w ph e).events, ev ∈ c.events ∨ e = some ev := by
      intro ev hm
      cases e with
      | none => exact Or.inl hm
      | some ev' =>
        simp only [Cfg.move, Option.toList_some, List.cons_append, List.nil_append, List.mem_cons] at hm
        rcases hm with hm | hm
        · exact Or.inr (by rw [hm])
        · exact Or.inl hm
    refine ⟨h.abs, h.stamped, h.past, h.wf, ?_, ?_, ?_⟩
    · intro w' ph' hw'
      simp only [Cfg.move, updAt_getElem?] at hw'
      split at hw'
      · cases hg : c.workers[w']? with
        | none => simp [hg] at hw'
        | some x => simp [hg] at hw'; subst hw'; exact hph
      · exact h.phases w' ph' hw'
    · intro ev hm
      rcases hmem ev hm with hm | hm
      · exact h.evIn ev hm
      · exact (hev ev hm).1
    · intro ev hm
      rcases hmem ev hm with hm | hm
      · exact h.noRaise ev hm
      · exact (hev ev hm).2

/-- phase and event can be read in the old listing, because every id listed afterwards has the number it had -/
theorem move_sim (P : Params) (c : Cfg) (db' : Rdb.State) (a a' : Spec) (f : CallFacts P c db' a a') (tr' : List HTrial)
    (h1 : absCfg P (c.setDb db') = { absCfg P c with trials := tr' }) (h2 : RInv P (c.setDb db'))
    (w : Nat) (ph : Phase) (e : Option Event)
    (hph : PhaseOk P.codec (P.cb.maxRetry.map Int.toNat) (studyList db' P.sid) ph)
    (hev : ∀ ev, e = some ev → (∀ t ∈ ev.ids, t ∈ (studyList db' P.sid).map (·.1)) ∧ ev.isRaised = false) :
    absCfg P (c.move db' w ph e) =
      { trials := tr',
        workers := updAt (absCfg P c).workers w (fun _ => absPhase P.codec (studyList c.hs.db P.sid) ph),
        events := (e.bind (absEvent P.codec (studyList c.hs.db P.sid))).toList ++ (absCfg P c).events } ∧
    RInv P (c.move db' w ph e) := by
  obtain ⟨m1, m2⟩ := move_same_sim P (c.setDb db') h2 w ph e hph hev
  refine ⟨?_, m2⟩
  have e1 : absCfg P (c.move db' w ph e) = absCfg P ((c.setDb db').move (c.setDb db').hs.db w ph e) := rfl
  rw [e1, m1, h1]
  apply Heartbeat.Cfg.ext
  · rfl
  · show updAt (absCfg P c).workers w (fun _ => absPhase P.codec (studyList db' P.sid) ph) = _
    rw [absPhase_congr P.codec _ _ ph (fun t ht => f.num t (Phase.ids_mem hph t ht))]
  · show (e.bind (absEvent P.codec (studyList db' P.sid))).toList ++ (absCfg P c).events = _
    cases e with
    | none => rfl
    | some ev => simp only [Option.bind_some]; rw [absEvent_congr P.codec _ _ ev (fun t ht => f.num t ((hev ev rfl).1 t ht))]

end OptunaVerif.RdbHb
