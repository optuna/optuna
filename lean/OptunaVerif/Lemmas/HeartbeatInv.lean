import OptunaVerif.Lemmas.Heartbeat
/-! The inductive invariant of the sweep model and its preservation by every step (used by Props/C19).  Part 1 (`InvT`)
follows any step through `invT_step`: old trials keep their facts because the step is a `TrStep`, so only the logged event
and the new trials are to be checked (`RetryOk`).  Part 2 (`InvW`) follows a move of one worker through `invW_move`, whose
hypotheses are the lemmas of `SweepMove`. -/
namespace OptunaVerif.Heartbeat

/-- What a logged event asserts about the shared state — true when it is logged and for ever after. -/
def EvOk (tr : List HTrial) (evs : List Event) : Event → Prop
  | .read _ _ => True
  | .won _ t => ∃ x, tr[t]? = some x ∧ x.core.state = .fail
  | .lost _ t => ∃ x, tr[t]? = some x ∧ x.core.state.isFinished = true
  | .callback w t _ => Event.won w t ∈ evs
  | .enqueued _ t n r =>
    t < n ∧ (∃ x, tr[t]? = some x ∧ x.core.state = .fail ∧ r = retryOf t x.core) ∧
      (∃ y, tr[n]? = some y ∧ y.core.retryHistory = r.retryHistory ∧ y.core.failedTrial = r.failedTrial)

structure InvT (P : Params) (c : Cfg) : Prop where
  evOk : ∀ e ∈ c.events, EvOk c.trials c.events e
  wonOnce : ∀ t, cnt (Event.isWon t) c.events ≤ 1
  born : ∀ (n : Nat) (y : HTrial) (h : List Nat), c.trials[n]? = some y → y.core.retryHistory = some h →
    ∃ w t r, Event.enqueued w t n r ∈ c.events ∧ r.retryHistory = some h
  noHist : ∀ (n : Nat) (y : HTrial), c.trials[n]? = some y → y.core.retryHistory = none → y.core.failedTrial = none
  headOk : ∀ (n : Nat) (y : HTrial) (h : List Nat), c.trials[n]? = some y → y.core.retryHistory = some h →
    y.core.failedTrial = h.head? ∧ h ≠ []
  bounded : ∀ m, P.maxRetry = some m → ∀ (n : Nat) (y : HTrial), c.trials[n]? = some y → y.core.hist.length ≤ m

structure InvW (P : Params) (c : Cfg) : Prop where
  cbPot : ∀ t, cnt (Event.isCb t) c.events + total (potCb t) c.workers ≤ cnt (Event.isWon t) c.events
  enqPot : ∀ t, cnt (Event.isEnq t) c.events + total (potEnq t) c.workers ≤ cnt (Event.isCbRetry t) c.events
  snapOk : ∀ (w t : Nat) (snap : Rec) (todo : List Nat), c.workers[w]? = some (.enqueue t snap todo) →
    (∃ x, c.trials[t]? = some x ∧ x.core = snap) ∧ snap.state = .fail ∧ exceeds P.maxRetry snap = false
  own : ∀ (w : Nat) (ph : Phase), c.workers[w]? = some ph → ∀ t ∈ ph.cbList, Event.won w t ∈ c.events

def Inv (P : Params) (c : Cfg) : Prop := InvT P c ∧ InvW P c

theorem fail_isFinished {r : Rec} (h : r.state = .fail) : r.state.isFinished = true := by
  rw [h]; rfl

theorem evOk_mono {tr tr' : List HTrial} {evs evs' : List Event} {e : Event} (h : EvOk tr evs e)
    (hs : TrStep tr tr') (hsub : ∀ e, e ∈ evs → e ∈ evs') : EvOk tr' evs' e := by
  cases e with
  | read w ids => trivial
  | won w t =>
    obtain ⟨x, hx, hf⟩ := h
    obtain ⟨x', hx', hst⟩ := hs.old t x hx
    exact ⟨x', hx', by rw [hst.2.2 (fail_isFinished hf)]; exact hf⟩
  | lost w t =>
    obtain ⟨x, hx, hf⟩ := h
    obtain ⟨x', hx', hst⟩ := hs.old t x hx
    exact ⟨x', hx', by rw [hst.2.2 hf]; exact hf⟩
  | callback w t b => exact hsub _ h
  | enqueued w t n r =>
    obtain ⟨hlt, ⟨x, hx, hf, hr⟩, ⟨y, hy, h1, h2⟩⟩ := h
    obtain ⟨x', hx', hst⟩ := hs.old t x hx
    obtain ⟨y', hy', hsty⟩ := hs.old n y hy
    refine ⟨hlt, ⟨x', hx', ?_, ?_⟩, ⟨y', hy', ?_, ?_⟩⟩
    · rw [hst.2.2 (fail_isFinished hf)]; exact hf
    · rw [hst.2.2 (fail_isFinished hf)]; exact hr
    · rw [hsty.1]; exact h1
    · rw [hsty.2.1]; exact h2

/-- What part 1 says of the trial `y` with number `n`: its retry attributes are those of a logged `enqueued` event. -/
structure RetryOk (P : Params) (evs : List Event) (n : Nat) (y : HTrial) : Prop where
  born : ∀ h, y.core.retryHistory = some h → ∃ w t r, Event.enqueued w t n r ∈ evs ∧ r.retryHistory = some h
  noHist : y.core.retryHistory = none → y.core.failedTrial = none
  headOk : ∀ h, y.core.retryHistory = some h → y.core.failedTrial = h.head? ∧ h ≠ []
  bounded : ∀ m, P.maxRetry = some m → y.core.hist.length ≤ m

theorem InvT.retryOk {P : Params} {c : Cfg} (h : InvT P c) {n : Nat} {y : HTrial} (hy : c.trials[n]? = some y) :
    RetryOk P c.events n y :=
  ⟨fun hh => h.born n y hh hy, h.noHist n y hy, fun hh => h.headOk n y hh hy, fun m hm => h.bounded m hm n y hy⟩

namespace RetryOk
variable {P : Params} {evs evs' : List Event} {n : Nat} {y y' : HTrial}

theorem fresh (h1 : y.core.retryHistory = none) (h2 : y.core.failedTrial = none) : RetryOk P evs n y :=
  ⟨fun h hh => (by rw [h1] at hh; cases hh), fun _ => h2, fun h hh => (by rw [h1] at hh; cases hh),
    fun m _ => (by simp [Rec.hist, h1])⟩

theorem stable (h : RetryOk P evs n y) (hst : Stable y y') (hsub : ∀ e ∈ evs, e ∈ evs') : RetryOk P evs' n y' := by
  obtain ⟨h1, h2, -⟩ := hst
  refine ⟨fun hh he => ?_, fun he => ?_, fun hh he => ?_, fun m hm => ?_⟩
  · obtain ⟨w, t, r, hm, hr⟩ := h.born hh (h1 ▸ he)
    exact ⟨w, t, r, hsub _ hm, hr⟩
  · rw [h2]; exact h.noHist (h1 ▸ he)
  · rw [h2]; exact h.headOk hh (h1 ▸ he)
  · have := h.bounded m hm
    simp only [Rec.hist] at this ⊢
    rw [h1]; exact this

/-- the retry of trial `t`, once its `enqueued` event is logged: `failed_trial` stays the head of the history, which grows
by `t` and was short enough for the callback to retry -/
theorem retry {t w : Nat} {x : HTrial} (hx : RetryOk P evs t x) (hex : exceeds P.maxRetry x.core = false)
    (hev : Event.enqueued w t n (retryOf t x.core) ∈ evs) : RetryOk P evs n ⟨retryOf t x.core, none⟩ := by
  refine ⟨fun h hh => ⟨w, t, _, hev, hh⟩, fun hh => by simp [retryOf] at hh, fun h hh => ?_, fun m hm => ?_⟩
  · simp only [retryOf, Option.some.injEq] at hh
    subst hh
    refine ⟨?_, by simp⟩
    simp only [retryOf, Rec.hist]
    cases hrh : x.core.retryHistory with
    | none => simp [hx.noHist hrh]
    | some h' =>
      obtain ⟨h1, h2⟩ := hx.headOk h' hrh
      cases h' with
      | nil => exact absurd rfl h2
      | cons a r => simp [h1]
  · simp only [exceeds, hm] at hex
    simp only [Rec.hist, retryOf, Option.getD_some, List.length_append, List.length_singleton]
    simp only [Rec.hist] at hex
    have := of_decide_eq_false hex
    omega

end RetryOk

theorem isWon_eq {t : Nat} {e : Event} (h : e.isWon t = true) : ∃ w, e = .won w t := by
  cases e <;> simp [Event.isWon] at h
  subst h; exact ⟨_, rfl⟩

theorem invT_step {P : Params} {c : Cfg} (h : InvT P c) (tr' : List HTrial) (ws : List Phase) (e : Option Event)
    (hs : TrStep c.trials tr') (hev : ∀ e' ∈ e, EvOk tr' (e.toList ++ c.events) e')
    (hwon : ∀ w t, e = some (.won w t) → cnt (Event.isWon t) c.events = 0)
    (hnew : ∀ n y, tr'[n]? = some y → c.trials.length ≤ n → RetryOk P (e.toList ++ c.events) n y) :
    InvT P { trials := tr', workers := ws, events := e.toList ++ c.events } := by
  have hsub : ∀ x ∈ c.events, x ∈ e.toList ++ c.events := fun x hx => List.mem_append_right _ hx
  -- an old trial keeps its retry attributes through a `TrStep`, and the event that accounts for them stays logged; a new
  -- trial is `hnew`
  have key : ∀ n y, tr'[n]? = some y → RetryOk P (e.toList ++ c.events) n y := by
    intro n y' hy'
    by_cases hl : n < c.trials.length
    · obtain ⟨y'', hy'', hst⟩ := hs.old n c.trials[n] (List.getElem?_eq_getElem hl)
      rw [hy'] at hy''; cases hy''
      exact (h.retryOk (List.getElem?_eq_getElem hl)).stable hst hsub
    · exact hnew n y' hy' (by omega)
  refine ⟨fun e' he' => ?_, fun t => ?_, fun n y hh hy => (key n y hy).born hh, fun n y hy => (key n y hy).noHist,
    fun n y hh hy => (key n y hy).headOk hh, fun m hm n y hy => (key n y hy).bounded m hm⟩
  · rcases List.mem_append.mp he' with he' | he'
    · exact hev e' (by simpa using he')
    · exact evOk_mono (h.evOk e' he') hs hsub
  · show cnt _ (e.toList ++ c.events) ≤ 1
    rw [cnt_toList]
    have := h.wonOnce t
    cases e with
    | none => exact this
    | some e' =>
      simp only [cntO]
      split
      · rename_i hp
        obtain ⟨w, rfl⟩ := isWon_eq hp
        have := hwon w t rfl
        omega
      · exact this

theorem invW_frame {P : Params} {c : Cfg} (h : InvW P c) (tr' : List HTrial) (hs : TrStep c.trials tr') :
    InvW P { trials := tr', workers := c.workers, events := c.events } := by
  refine ⟨h.cbPot, h.enqPot, ?_, h.own⟩
  intro w t snap todo hw
  obtain ⟨⟨x, hx, hxs⟩, hf, hex⟩ := h.snapOk w t snap todo hw
  obtain ⟨x', hx', hst⟩ := hs.old t x hx
  refine ⟨⟨x', hx', ?_⟩, hf, hex⟩
  rw [hst.2.2 (by rw [hxs]; exact fail_isFinished hf)]; exact hxs

theorem potEnq_norm_le (b : Bool) (t : Nat) (ph : Phase) : potEnq t (Phase.norm b ph) ≤ potEnq t ph := by
  cases h : Phase.norm b ph with
  | enqueue t' s td => rw [norm_eq_enqueue h]; exact Nat.le_refl _
  | _ => exact Nat.zero_le _

/-- Counting with a potential: events of kind `a` are paid for by events of kind `b`, what is paid and not yet spent being
the potential `f` of the workers.  It stays so when one worker moves, if the event logged and the change of that worker's
potential balance. -/
theorem pot_move {a b : Event → Bool} {f : Phase → Nat} {evs : List Event} {ws : List Phase} {w : Nat} {ph ph' : Phase}
    {e : Option Event} (h : cnt a evs + total f ws ≤ cnt b evs) (hw : ws[w]? = some ph)
    (hm : cntO a e + f ph' ≤ f ph + cntO b e) :
    cnt a (e.toList ++ evs) + total f (updAt ws w fun _ => ph') ≤ cnt b (e.toList ++ evs) := by
  rw [cnt_toList, cnt_toList]
  have := total_updAt f ws w ph ph' hw
  omega

theorem invW_move {P : Params} {c : Cfg} (h : InvW P c) (w : Nat) (ph ph' : Phase) (e : Option Event)
    (hw : c.workers[w]? = some ph)
    (hcb : ∀ t, cntO (Event.isCb t) e + potCb t ph' ≤ potCb t ph + cntO (Event.isWon t) e)
    (henq : ∀ t, cntO (Event.isEnq t) e + potEnq t ph' ≤ potEnq t ph + cntO (Event.isCbRetry t) e)
    (hsnap : ∀ t snap todo, ph' = .enqueue t snap todo →
      (∃ x, c.trials[t]? = some x ∧ x.core = snap) ∧ snap.state = .fail ∧ exceeds P.maxRetry snap = false)
    (hown : ∀ t ∈ ph'.cbList, Event.won w t ∈ e.toList ++ c.events) :
    InvW P { trials := c.trials, workers := updAt c.workers w (fun _ => Phase.norm P.hasCb ph'),
             events := e.toList ++ c.events } := by
  have hsub : ∀ x, x ∈ c.events → x ∈ e.toList ++ c.events := fun x hx => List.mem_append_right _ hx
  -- normalisation only lowers the potentials
  refine ⟨fun t => pot_move (h.cbPot t) hw (Nat.le_trans (Nat.add_le_add_left ((norm_cbList _ ph').count_le t) _) (hcb t)),
    fun t => pot_move (h.enqPot t) hw (Nat.le_trans (Nat.add_le_add_left (potEnq_norm_le _ t ph') _) (henq t)), ?_, ?_⟩
  · intro w' t snap todo hw'
    simp only [updAt_getElem?] at hw'
    by_cases he : w' = w
    · subst he
      simp [hw] at hw'
      exact hsnap t snap todo (norm_eq_enqueue hw')
    · simp [he] at hw'
      exact h.snapOk w' t snap todo hw'
  · intro w' ph1 hw' t ht
    simp only [updAt_getElem?] at hw'
    by_cases he : w' = w
    · subst he
      simp [hw] at hw'
      subst hw'
      exact hown t ((norm_cbList P.hasCb ph').subset ht)
    · simp [he] at hw'
      exact hsub _ (h.own w' ph1 hw' t ht)

theorem invT_workers {P : Params} {c : Cfg} (h : InvT P c) (ws : List Phase) :
    InvT P { trials := c.trials, workers := ws, events := c.events } :=
  ⟨h.evOk, h.wonOnce, h.born, h.noHist, h.headOk, h.bounded⟩

theorem not_finished_not_won {P : Params} {c : Cfg} (h : InvT P c) (t : Nat) (x : HTrial)
    (hx : c.trials[t]? = some x) (hnf : ¬ x.core.state.isFinished = true) :
    cnt (Event.isWon t) c.events = 0 := by
  by_cases hz : cnt (Event.isWon t) c.events = 0
  · exact hz
  · obtain ⟨e, he, hp⟩ := cnt_pos_mem _ _ (Nat.pos_of_ne_zero hz)
    obtain ⟨w, rfl⟩ := isWon_eq hp
    obtain ⟨x', hx', hf⟩ := h.evOk _ he
    rw [hx] at hx'; cases hx'
    exact absurd (fail_isFinished hf) hnf

theorem inv_env {P : Params} {c : Cfg} (h : Inv P c) (op : EnvOp) :
    Inv P { c with trials := (envStep c.trials op).1 } := by
  obtain ⟨hs, hn⟩ := envStep_trstep c.trials op
  exact ⟨invT_step h.1 _ _ none hs (fun _ he => nomatch he) (fun _ _ he => nomatch he)
    fun n y hy hl => .fresh (hn n y hy hl).1 (hn n y hy hl).2, invW_frame h.2 _ hs⟩

theorem inv_die {P : Params} {c : Cfg} (h : Inv P c) (w : Nat) : Inv P (c.setPhase w .dead) := by
  cases hw : c.workers[w]? with
  | none => unfold Cfg.setPhase; rw [updAt_of_none _ hw]; exact h
  | some ph =>
    exact ⟨invT_workers h.1 _, invW_move h.2 w ph .dead none hw (fun _ => Nat.zero_le _) (fun _ => Nat.zero_le _)
      (fun _ _ _ he => nomatch he) (fun _ ht => nomatch ht)⟩

theorem inv_sweep {P : Params} {c : Cfg} (h : Inv P c) (w : Nat) (ord : List Nat) :
    Inv P (sweepStep P c w ord) := by
  rcases sweepStep_cases P c w ord with he | ⟨ph, e, tr', ph', hw, hm, he⟩ <;> rw [he]
  · exact h
  obtain ⟨hT, hW⟩ := h
  -- a callback is owed only for a trial this worker has won, and such a trial is FAIL
  have hwon : ∀ t ∈ ph.cbList, Event.won w t ∈ c.events := hW.own w ph hw
  have failed : ∀ t ∈ ph.cbList, ∀ x, c.trials[t]? = some x → x.core.state = .fail := fun t ht x hx => by
    obtain ⟨x', hx', hf⟩ := hT.evOk _ (hwon t ht)
    rw [hx] at hx'; cases hx'; exact hf
  refine ⟨?_, invW_move (invW_frame hW tr' hm.trstep) w ph ph' e hw hm.cb hm.enq ?_ fun t ht => ?_⟩
  · refine invT_step hT tr' _ e hm.trstep (fun e' he' => ?_) (fun w' t' he' => ?_) fun n y hy hl => ?_
    · -- what the logged event says is true
      cases hm with
      | read => cases he'; trivial
      | lost t todo won x hx hf => cases he'; exact ⟨x, hx, hf⟩
      | won t todo won x hx hnf => cases he'; exact ⟨_, updAt_self _ _ _ _ hx, rfl⟩
      | giveUp t todo x hx _ => cases he'; exact List.mem_cons_of_mem _ (hwon t List.mem_cons_self)
      | retry t todo x hx _ => cases he'; exact List.mem_cons_of_mem _ (hwon t List.mem_cons_self)
      | enqueue t snap todo =>
        cases he'
        obtain ⟨⟨x, hx, rfl⟩, hf, -⟩ := hW.snapOk w t _ todo hw
        have hlt := getElem?_lt_length hx
        exact ⟨hlt, ⟨x, by rw [List.getElem?_append_left hlt]; exact hx, hf, rfl⟩,
          ⟨⟨retryOf t x.core, none⟩, by simp, rfl, rfl⟩⟩
      | _ => cases he'
    · cases hm with
      | won t todo won x hx hnf => cases he'; exact not_finished_not_won hT t' x hx hnf
      | _ => cases he'
    · -- the one new trial is the retry
      have hlt := getElem?_lt_length hy
      cases hm with
      | enqueue t snap todo =>
        obtain ⟨⟨x, hx, rfl⟩, -, hex⟩ := hW.snapOk w t _ todo hw
        obtain rfl : n = c.trials.length := by simp at hlt; omega
        obtain rfl : y = ⟨retryOf t x.core, none⟩ := by simpa using hy.symm
        exact ((hT.retryOk hx).stable (Stable.refl x) fun _ he => List.mem_cons_of_mem _ he).retry hex
          List.mem_cons_self
      | won => simp at hlt; omega
      | _ => omega
  · -- only a retrying callback enters the phase `enqueue`
    intro t snap todo hph'
    cases hm with
    | retry t' todo' x hx hex =>
      cases hph'
      exact ⟨⟨x, hx, rfl⟩, failed t List.mem_cons_self x hx, by simpa using hex⟩
    | _ => cases hph'
  · rcases hm.own ht with h | rfl
    · exact List.mem_append_right _ (hwon t h)
    · exact List.mem_cons_self

theorem inv_step {P : Params} {c : Cfg} (h : Inv P c) (a : Act) : Inv P (step P c a) := by
  cases a with
  | sweep w ord => exact inv_sweep h w ord
  | die w => exact inv_die h w
  | env op => exact inv_env h op

theorem init_workers {n w : Nat} {ph : Phase} (h : (init n).workers[w]? = some ph) : ph = .idle := by
  simp only [init, List.getElem?_replicate] at h
  split at h <;> simp at h
  exact h.symm

theorem inv_init (P : Params) (n : Nat) : Inv P (init n) := by
  refine ⟨⟨?_, ?_, ?_, ?_, ?_, ?_⟩, ⟨?_, ?_, ?_, ?_⟩⟩
  · intro e he; simp [init] at he
  · intro t; simp [init, cnt]
  · intro n' y h hy; simp [init] at hy
  · intro n' y hy; simp [init] at hy
  · intro n' y h hy; simp [init] at hy
  · intro m _ n' y hy; simp [init] at hy
  · intro t
    simp only [init, cnt, List.countP_nil]
    rw [total_replicate_zero _ _ _ (by simp [potCb, Phase.cbList])]
    exact Nat.le_refl _
  · intro t
    simp only [init, cnt, List.countP_nil]
    rw [total_replicate_zero _ _ _ (by simp [potEnq])]
    exact Nat.le_refl _
  · intro w t snap todo hw
    cases init_workers hw
  · intro w ph hw t ht
    cases init_workers hw
    simp [Phase.cbList] at ht

theorem inv_run {P : Params} {c : Cfg} (h : Inv P c) (as : List Act) : Inv P (run P c as) :=
  List.foldlRecOn as _ h fun _ hc a _ => inv_step hc a

end OptunaVerif.Heartbeat
