import OptunaVerif.Lemmas.RdbMut5
/-! Refinement, part 8: `create_new_trial`, with and without a template trial.  Core Lean only. -/
namespace OptunaVerif.Rdb
open OptunaVerif.Storage

/-- A failure of the parameter loop of `_get_prepared_new_trial` is caused (the names being distinct) by a row
that was in the table before the loop. -/
theorem param_loop (tid : Nat) (row : TrialRow) (l : List (String × Param)) (s : State)
    (ht : TblInv s.params s.nParam) (hu : updatableTrial s tid = .ok row) :
    match forEachNC (fun s k p => setParamNC s tid k p) s l with
    | .ok _ =>
      s.trialRow? tid = some row → PC s →
        PC { s with params := (Tbl.bulk s.params s.nParam tid l).1, nParam := (Tbl.bulk s.params s.nParam tid l).2 } ∧
        ∀ sid nm d1, PDist s sid nm d1 →
          PDist { s with params := (Tbl.bulk s.params s.nParam tid l).1, nParam := (Tbl.bulk s.params s.nParam tid l).2 } sid nm d1
    | .error f =>
      l.Pairwise (fun a b => a.1 ≠ b.1) →
        f = .api .valueError ∧ ∃ kp ∈ l, ∃ x, s.paramRowOf row.study kp.1 x ∧ x.val.dist.compat kp.2.dist = false := by
  induction l generalizing s with
  | nil => exact fun _ hpc => ⟨hpc, fun _ _ _ hp => hp⟩
  | cons a rest ih =>
    obtain ⟨k, p⟩ := a
    rw [param_loop_cons tid row k p rest s ht hu]
    rcases checkCompat_cases s row.study k p.dist with ⟨hcc, hall⟩ | ⟨hcc, x, hx, hc⟩
    · have ih' := ih { s with params := (Tbl.upsertConflict s.params s.nParam tid k p).1,
                              nParam := (Tbl.upsertConflict s.params s.nParam tid k p).2 }
        (Tbl.tblInv_upsertConflict _ _ ht _ _ _) hu
      simp only [hcc]
      generalize forEachNC (fun s k p => setParamNC s tid k p) _ rest = m at ih' ⊢
      cases m with
      | ok s' =>
        intro hrow hpc0
        obtain ⟨h1, h2, _⟩ := param_step s tid row hrow k p hpc0 (hall hpc0)
        obtain ⟨i1, i2⟩ := ih' hrow h1
        exact ⟨i1, fun sid nm d1 hp => i2 sid nm d1 (h2 sid nm d1 hp)⟩
      | error f =>
        intro hd
        rw [List.pairwise_cons] at hd
        obtain ⟨ef, kp, hkp, x, hx, hc⟩ := ih' hd.2
        refine ⟨ef, kp, List.mem_cons_of_mem _ hkp, x, ?_, hc⟩
        obtain ⟨hm, hk, hst⟩ := hx
        rcases Tbl.mem_upsertConflict s.params s.nParam tid k p x hm with ⟨_, hk2, _⟩ | ⟨hm0, _⟩
        · exact absurd (hk2.symm.trans hk) (hd.1 kp hkp)
        · exact ⟨hm0, hk, hst⟩
    · rw [hcc]
      exact fun _ => ⟨rfl, (k, p), by simp, x, hx, hc⟩

theorem find?_ins (r : State) (h : Inv0 r) (row1 : TrialRow) (hid : row1.id = r.nTrial) (i : Nat) :
    (r.trials ++ [row1]).find? (fun x => x.id == i) = if i = r.nTrial then some row1 else r.trialRow? i :=
  find?_snoc (fun x : TrialRow => x.id) r.trials r.nTrial h.trialsBelow row1 hid i

/-- the number `count_past_trials` gives the new trial is the number the contract gives it -/
theorem count_eq (r : State) (a : Spec) (h : Abs r a) (sid : Nat) (hlive : (a.study? sid).isSome = true) :
    (r.trials.filter (fun x => x.study == sid)).length = (a.trialsOf sid).length := by
  rw [abs_trialsOf r a h sid hlive]; simp

theorem paramRowOf_ins (r r' : State) (h : Inv0 r) (row1 : TrialRow) (hid : row1.id = r.nTrial)
    (hp : r'.params = r.params) (ht : r'.trials = r.trials ++ [row1]) (sid : Nat) (nm : String)
    (x : KRow String Param) : r'.paramRowOf sid nm x ↔ r.paramRowOf sid nm x := by
  unfold State.paramRowOf State.trialStudy?
  rw [hp, ht]
  refine and_congr_right fun hm => and_congr_right fun _ => ?_
  rw [find?_ins r h row1 hid, if_neg fun e : x.owner = r.nTrial => h.nTrial_fresh (e ▸ h.paramsFk x hm)]
  rfl

theorem pdist_ins (r r' : State) (h : Inv0 r) (row1 : TrialRow) (hid : row1.id = r.nTrial)
    (hp : r'.params = r.params) (ht : r'.trials = r.trials ++ [row1]) :
    (∀ sid nm d1, PDist r sid nm d1 → PDist r' sid nm d1) ∧ (PC r → PC r') :=
  pdist_of_iff r r' (paramRowOf_ins r r' h row1 hid hp ht)

theorem raised_newId (n : Nat) : raisedValueError (.out (.newId n)) = false := by
  simp [raisedValueError]

theorem decoded_map_some {κ β : Type} (l : List (κ × β)) :
    decoded (l.map (fun p => (p.1, some p.2))) = l := by
  induction l with
  | nil => rfl
  | cons a t ih =>
    simp only [decoded, List.map_cons, List.filterMap_cons, Option.map_some] at ih ⊢
    rw [ih]

theorem trialStudy?_withTemplate (r : State) (hr : Inv0 r) (sid : Nat) (t : Template) (i : Nat) :
    (withTemplate r sid t).trialStudy? i = if i = r.nTrial then some sid else r.trialStudy? i := by
  unfold State.trialStudy?
  show ((r.trials ++ [newRow r sid t]).find? _).map _ = _
  rw [find?_ins r hr _ rfl]
  split <;> rfl

theorem prepare_template (r : State) (hr : Inv0 r) (sid : Nat) (hsid : sid ∈ r.studyIds) (t : Template)
    (hd : distinctKeys t.params) (hne : t.values ≠ some []) :
    (prepareNewTrial r sid (some t) = .error (.api .valueError) ∧
      ∃ kp ∈ t.params, ∃ x, r.paramRowOf sid kp.1 x ∧ x.val.dist.compat kp.2.dist = false) ∨
    (prepareNewTrial r sid (some t) = .ok (withTemplate r sid t, r.nTrial) ∧
      (PC r → PC (withTemplate r sid t) ∧
        ∀ sid' nm d1, PDist r sid' nm d1 → PDist (withTemplate r sid t) sid' nm d1)) := by
  obtain ⟨_, hrow1, hu1⟩ := updatable_ins r hr sid hsid t
  -- `trial_params` rows and their studies across the INSERT of the trial row and the value rows
  have hins := paramRowOf_ins r (valuesState r sid t) hr (insRow r sid t) rfl rfl rfl
  have hl := param_loop r.nTrial (insRow r sid t) t.params (valuesState r sid t) hr.params hu1
  rw [prepareNewTrial_some r hr sid hsid t, if_neg hne]
  cases h3 : forEachNC (fun s k p => setParamNC s r.nTrial k p) (valuesState r sid t) t.params with
  | error f =>
    rw [h3] at hl
    obtain ⟨ef, kp, hkp, x, hx, hc⟩ := hl hd
    exact .inl ⟨by rw [ef], kp, hkp, x, (hins sid kp.1 x).mp hx, hc⟩
  | ok s3 =>
    rw [h3] at hl
    refine .inr ⟨rfl, fun hpc0 => ?_⟩
    obtain ⟨l1, l2⟩ := hl hrow1 ((pdist_of_iff r _ hins).2 hpc0)
    -- … and across the final UPDATE of the trial row
    have hts : ∀ i, (withTemplate r sid t).trialStudy? i =
        ((r.trials ++ [insRow r sid t]).find? (fun x => x.id == i)).map (·.study) := by
      intro i
      rw [trialStudy?_withTemplate r hr sid t i, find?_ins r hr _ rfl]
      split <;> rfl
    exact ⟨(pdist_congr _ _ (by rfl) (by exact hts)).2 l1, fun sid' nm d1 hp =>
      (pdist_congr _ _ (by rfl) (by exact hts)).1 sid' nm d1 (l2 sid' nm d1 ((pdist_of_iff r _ hins).1 sid' nm d1 hp))⟩

theorem withTemplate_old (r : State) (hr : Inv0 r) (sid : Nat) (t : Template) (row : TrialRow) (hrow : row ∈ r.trials) :
    (withTemplate r sid t).rowView row = r.rowView row := by
  have hne : row.id ≠ r.nTrial := by have := hr.trialsBelow row hrow; omega
  exact rowView_congr r _ row
    ((Tbl.bulk_frame _ _ hr.values _ _).2.1 row.id hne)
    ((Tbl.bulk_frame _ _ hr.params _ _).2.1 row.id hne) ((Tbl.bulk_frame _ _ hr.tUser _ _).2.1 row.id hne)
    ((Tbl.bulk_frame _ _ hr.tSys _ _).2.1 row.id hne) ((Tbl.bulk_frame _ _ hr.inters _ _).2.1 row.id hne)

theorem withTemplate_new (r : State) (hr : Inv0 r) (sid : Nat) (t : Template)
    (hdp : distinctKeys t.params) (hdu : distinctKeys t.userAttrs) (hds : distinctKeys t.systemAttrs)
    (hdi : distinctKeys t.inter) (hne : t.values ≠ some []) :
    (withTemplate r sid t).rowView (newRow r sid t) = mkTrial sid (r.trials.filter (fun x => x.study == sid)).length (some t) := by
  have p2 := Tbl.kv_bulk_new id r.params r.nParam hr.params r.nTrial t.params hdp (hr.paramsFk.ofOwner_eq_nil hr.nTrial_fresh)
  have u2 := Tbl.kv_bulk_new id r.tUser r.nTUser hr.tUser r.nTrial t.userAttrs hdu (hr.tUserFk.ofOwner_eq_nil hr.nTrial_fresh)
  have y2 := Tbl.kv_bulk_new id r.tSys r.nTSys hr.tSys r.nTrial t.systemAttrs hds (hr.tSysFk.ofOwner_eq_nil hr.nTrial_fresh)
  have i2 := Tbl.kv_bulk_new decI r.inters r.nInter hr.inters r.nTrial (t.inter.map (fun p => (p.1, encI p.2)))
    (by rw [List.pairwise_map]; exact hdi) (hr.intersFk.ofOwner_eq_nil hr.nTrial_fresh)
  have hv : (withTemplate r sid t).valuesView r.nTrial = t.values :=
    valuesView_written r _ hr.values r.nTrial (hr.valuesFk.ofOwner_eq_nil hr.nTrial_fresh) t.values hne rfl
  have hi : (withTemplate r sid t).interView r.nTrial = t.inter := by
    rw [interView_eq]
    show decoded (Tbl.kv decI (Tbl.bulk r.inters r.nInter r.nTrial _).1 r.nTrial) = _
    rw [i2, List.map_map]
    have : (fun p : Int × SIVal => (p.1, decI p.2)) ∘ (fun p : Int × XVal => (p.1, encI p.2)) = fun p => (p.1, some p.2) := by
      funext p; simp [Function.comp, decI_encI]
    rw [this, decoded_map_some]
  simp only [State.rowView, newRow, hv, hi]
  simp only [withTemplate, mkTrial, p2, u2, y2, id_eq]
  simp

theorem trialView_withTemplate (r : State) (hr : Inv0 r) (sid : Nat) (t : Template)
    (hdp : distinctKeys t.params) (hdu : distinctKeys t.userAttrs) (hds : distinctKeys t.systemAttrs)
    (hdi : distinctKeys t.inter) (hne : t.values ≠ some []) (i : Nat) :
    (withTemplate r sid t).trialView i =
      if i = r.nTrial then some (mkTrial sid (r.trials.filter (fun x => x.study == sid)).length (some t)) else r.trialView i := by
  show ((r.trials ++ [newRow r sid t]).find? _).map _ = _
  rw [find?_ins r hr _ rfl i]
  split
  · exact congrArg some (withTemplate_new r hr sid t hdp hdu hds hdi hne)
  · show (r.trialRow? i).map _ = (r.trialRow? i).map _
    cases hq : r.trialRow? i with
    | none => rfl
    | some row => exact congrArg some (withTemplate_old r hr sid t row (trialRow?_some r i row hq).1)

theorem abs_withTemplate (r : State) (a : Spec) (h : Abs r a) (sid : Nat) (hlive : (a.study? sid).isSome = true)
    (hsid : sid ∈ r.studyIds) (t : Template)
    (hdp : distinctKeys t.params) (hdu : distinctKeys t.userAttrs) (hds : distinctKeys t.systemAttrs)
    (hdi : distinctKeys t.inter) (hwv : WfValues t.state t.values)
    (hpc : PC (withTemplate r sid t))
    (hpd : ∀ sid' nm d1, PDist r sid' nm d1 → PDist (withTemplate r sid t) sid' nm d1) :
    Abs (withTemplate r sid t) { a with trials := a.trials ++ [mkTrial sid (a.trialsOf sid).length (some t)] } := by
  have htr : ∀ i, ({ a with trials := a.trials ++ [mkTrial sid (a.trialsOf sid).length (some t)] } : Spec).trial? i =
      if i = a.trials.length then some (mkTrial sid (a.trialsOf sid).length (some t)) else a.trial? i :=
    fun i => trial?_appendTrial a _ i hlive
  have hall : ∀ i t', ({ a with trials := a.trials ++ [mkTrial sid (a.trialsOf sid).length (some t)] } : Spec).trial? i = some t' →
      WfTrial t' := by
    intro i t' hi
    rw [htr i] at hi
    split at hi
    · exact Option.some.inj hi ▸ ⟨fun hfin => hwv.none_of_unfinished hfin, fun l hl => hwv.nonan l hl⟩
    · exact h.wfTrial i t' hi
  refine ⟨inv_withTemplate r h.inv sid hsid t, h.nStudies, ?_, h.study, ?_, ?_,
    fun i st nm d1 hs hp => hpd i nm d1 (h.pdist i st nm d1 hs hp), hpc,
    fun i t' hi => (hall i t' hi).1, fun i t' l hi => (hall i t' hi).2 l, h.dirsOk⟩
  · show (a.trials ++ [_]).length = r.nTrial + 1
    simp [h.nTrials]
  · intro i
    rw [htr i, trialView_withTemplate r h.inv.1 sid t hdp hdu hds hdi (fun e => by rw [e] at hwv; exact hwv.1 rfl) i,
      h.nTrials, count_eq r a h sid hlive, h.trial i]
  · intro i t' hi
    rw [show ({ a with trials := a.trials ++ [mkTrial sid (a.trialsOf sid).length (some t)] } : Spec).trials = _ from rfl,
      getElem?_snoc] at hi
    split at hi
    · exact Option.some.inj hi ▸ study?_lt hlive
    · exact h.bound i t' hi

theorem sim_createTrial (r : State) (a : Spec) (h : Abs r a) (sid : Nat) (tmpl : Option Template) (ir : Bool)
    (hwf : WfOp (.createTrial sid tmpl ir)) : StepOk r a (.createTrial sid tmpl ir) := by
  unfold StepOk
  simp only [withRaised]
  simp only [step, createTrial, Storage.step]
  rcases findStudy_abs r a h sid with ⟨srow, st, h1, h2, h3, h4⟩ | ⟨h1, h2, _⟩
  rotate_left
  · simp only [h1, h2, commit]; exact ⟨h, by simp [Allowed]⟩
  have hlive : (a.study? sid).isSome = true := by simp [h3]
  have hsid : sid ∈ r.studyIds := (findStudy_mem r h.inv.1 sid srow h1).2.2
  simp only [h1, h3]
  cases tmpl with
  | none =>
    simp only [prepareNewTrial_none r h.inv.1, commit, raised_newId, Bool.false_and, Bool.false_eq_true, if_false]
    rw [h.nTrials]
    have hp := pdist_ins r (withTemplate r sid freshTemplate) h.inv.1 (newRow r sid freshTemplate) rfl rfl rfl
    exact ⟨abs_withTemplate r a h sid hlive hsid freshTemplate .nil .nil .nil .nil trivial (hp.2 h.pc) hp.1,
      by simp [Allowed]⟩
  | some t =>
    obtain ⟨hdp, hdu, hds, hdi, hwv⟩ := hwf
    rcases prepare_template r h.inv.1 sid hsid t hdp (fun e => by rw [e] at hwv; exact hwv.1 rfl) with ⟨hp, kp, hkp, x, hx, hc⟩ | ⟨hp, hacc⟩
    · -- rejected with ValueError: one of the template's distributions conflicts with a row of the study
      have htc : a.tmplConflict sid st (some t) = true := by
        unfold Spec.tmplConflict
        simp only [List.any_eq_true]
        exact ⟨kp, hkp, by simp [templateConflict_of_row r a h sid kp.1 kp.2.dist hlive x hx hc]⟩
      simp only [hp, commit, raisedValueError, beq_self_eq_true, htc, Bool.and_self, if_true]
      exact ⟨h, by simp [Allowed]⟩
    · simp only [hp, commit, raised_newId, Bool.false_and, Bool.false_eq_true, if_false]
      rw [h.nTrials]
      exact ⟨abs_withTemplate r a h sid hlive hsid t hdp hdu hds hdi hwv (hacc h.pc).1 (hacc h.pc).2, by simp [Allowed]⟩

end OptunaVerif.Rdb
