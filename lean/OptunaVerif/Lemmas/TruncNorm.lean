import OptunaVerif.Model.TruncNormIR
import Mathlib.Analysis.SpecialFunctions.Log.Basic
import Mathlib.Analysis.SpecialFunctions.Exp
import Mathlib.Analysis.SpecialFunctions.Trigonometric.Basic
import Mathlib.Analysis.Calculus.Deriv.Basic
import Mathlib.Tactic.Linarith
import Mathlib.Tactic.Ring
import Mathlib.Tactic.FieldSimp
import Mathlib.Algebra.BigOperators.Field
/-!
# C18 — real-analysis layer of the TPE numerical kernels

`Float` is opaque to Lean's kernel, so the formulas of `optuna/samplers/_tpe/_truncnorm.py` are restated over
`ℝ` here (those of `_MixtureOfProductDistribution.log_pdf` in `Lemmas/TruncNormMixture.lean`).  The standard normal cdf `Φ` and its
density `φ` are *parameters* constrained by the hypothesis bundle `StdNormalLike` (no axiom is added); the
bundle is shown to be satisfiable in `Props/C18.lean`.

Python name                      | here
---------------------------------|------------------------------------------
`np.log1p`                       | `log1p`
`np.logaddexp` / `_log_sum`      | `logaddexp`
`_log_diff`                      | `logDiff`
`_log_ndtr` (its specification)  | `fun a => Real.log (Φ a)`
`_ndtr`                          | `Φ`
`mass_case_left/right/central`   | `massLeft`, `massRight`, `massCentral`
`_log_gauss_mass`                | `logGaussMass`
`ppf_left`/`ppf_right` targets   | `ppfLeftTarget`, `ppfRightTarget`
`_norm_logpdf`                   | `normLogpdf`
`logpdf`, its finite branch      | `logpdfIn`
a translated formula (`TruncNormIR.E`) and its callees | `eval`, `Interp`; `ErfLike`: what `_ndtr` needs of `erf`
-/
namespace OptunaVerif.TruncNorm

/-- The facts about the standard normal cdf `Φ` / density `φ` that the formulas rely on. -/
structure StdNormalLike (Φ φ : ℝ → ℝ) : Prop where
  strictMono : StrictMono Φ
  pos : ∀ x, 0 < Φ x
  lt_one : ∀ x, Φ x < 1
  symm : ∀ x, Φ (-x) = 1 - Φ x
  hasDeriv : ∀ x, HasDerivAt Φ (φ x) x

noncomputable section

/-- `np.log1p`. -/
def log1p (x : ℝ) : ℝ := Real.log (1 + x)

/-- `np.logaddexp` (`_log_sum`). -/
def logaddexp (x y : ℝ) : ℝ := Real.log (Real.exp x + Real.exp y)

/-- `_log_diff(log_p, log_q) = log_p + log1p(-exp(log_q - log_p))`. -/
def logDiff (lp lq : ℝ) : ℝ := lp + log1p (-Real.exp (lq - lp))

/-- `mass_case_left(a, b) = _log_diff(_log_ndtr(b), _log_ndtr(a))`. -/
def massLeft (Φ : ℝ → ℝ) (a b : ℝ) : ℝ := logDiff (Real.log (Φ b)) (Real.log (Φ a))

/-- `mass_case_right(a, b) = mass_case_left(-b, -a)`. -/
def massRight (Φ : ℝ → ℝ) (a b : ℝ) : ℝ := massLeft Φ (-b) (-a)

/-- `mass_case_central(a, b) = log1p(-_ndtr(a) - _ndtr(-b))`. -/
def massCentral (Φ : ℝ → ℝ) (a b : ℝ) : ℝ := log1p (-Φ a - Φ (-b))

/-- `_log_gauss_mass`: `case_left = b <= 0`, `case_right = a > 0`, central otherwise; the right case is
assigned after the left one, so it wins where both masks hold (only possible for `b < a`). -/
def logGaussMass (Φ : ℝ → ℝ) (a b : ℝ) : ℝ :=
  if 0 < a then massRight Φ a b else if b ≤ 0 then massLeft Φ a b else massCentral Φ a b

/-- `ppf_left`: the value handed to `_ndtri_exp`, i.e. the claimed `log Φ(x)`. -/
def ppfLeftTarget (Φ : ℝ → ℝ) (q a b : ℝ) : ℝ :=
  logaddexp (Real.log (Φ a)) (Real.log q + logGaussMass Φ a b)

/-- `ppf_right`: the value handed to `_ndtri_exp`, i.e. the claimed `log Φ(-x)`. -/
def ppfRightTarget (Φ : ℝ → ℝ) (q a b : ℝ) : ℝ :=
  logaddexp (Real.log (Φ (-b))) (log1p (-q) + logGaussMass Φ a b)

/-- `_norm_logpdf(x) = -(x**2) / 2.0 - log(sqrt(2 pi))`. -/
def normLogpdf (x : ℝ) : ℝ := -(x ^ 2) / 2 - Real.log (Real.sqrt (2 * Real.pi))

/-- The finite branch of `logpdf`: `_norm_logpdf(z) - _log_gauss_mass(a, b) - log(scale)`, `z = (x-loc)/scale`. -/
def logpdfIn (Φ : ℝ → ℝ) (x a b loc scale : ℝ) : ℝ :=
  normLogpdf ((x - loc) / scale) - logGaussMass Φ a b - Real.log scale

end

theorem logDiff_arg_pos {lp lq : ℝ} (h : lq < lp) : 0 < 1 + -Real.exp (lq - lp) := by
  have h1 : Real.exp (lq - lp) < 1 := by
    rw [Real.exp_lt_one_iff]; linarith
  linarith

theorem logDiff_eq {lp lq : ℝ} (h : lq < lp) :
    logDiff lp lq = Real.log (Real.exp lp - Real.exp lq) := by
  unfold logDiff log1p
  have h2 := logDiff_arg_pos h
  have e : Real.exp lp - Real.exp lq = Real.exp lp * (1 + -Real.exp (lq - lp)) := by
    have : Real.exp lp * Real.exp (lq - lp) = Real.exp lq := by
      rw [← Real.exp_add]; congr 1; ring
    rw [mul_add, mul_neg, this]; ring
  rw [e, Real.log_mul (Real.exp_pos lp).ne' h2.ne', Real.log_exp]

theorem logDiff_log {p q : ℝ} (hq : 0 < q) (h : q < p) :
    logDiff (Real.log p) (Real.log q) = Real.log (p - q) := by
  have hp : 0 < p := lt_trans hq h
  rw [logDiff_eq (Real.log_lt_log hq h), Real.exp_log hp, Real.exp_log hq]

theorem logaddexp_log {p q : ℝ} (hp : 0 < p) (hq : 0 < q) :
    logaddexp (Real.log p) (Real.log q) = Real.log (p + q) := by
  unfold logaddexp
  rw [Real.exp_log hp, Real.exp_log hq]

theorem logaddexp_arg_pos (x y : ℝ) : 0 < Real.exp x + Real.exp y :=
  add_pos (Real.exp_pos x) (Real.exp_pos y)

/-- The `a > 6` branch of `_log_ndtr_single` returns `-_ndtr_single(-a)` instead of `log(1 - _ndtr_single(-a))`. -/
theorem log_one_sub_approx {x : ℝ} (h1 : x ≤ 1 / 2) :
    -x - 2 * x ^ 2 ≤ Real.log (1 - x) ∧ Real.log (1 - x) ≤ -x := by
  have hpos : 0 < 1 - x := by linarith
  constructor
  · have h2 := Real.one_sub_inv_le_log_of_pos hpos
    have h3 : (1 - x)⁻¹ ≤ 1 + x + 2 * x ^ 2 := by
      rw [inv_le_iff_one_le_mul₀ hpos]
      linarith [mul_nonneg (sq_nonneg x) (show (0:ℝ) ≤ 1 - 2 * x by linarith)]
    linarith
  · have := Real.log_le_sub_one_of_pos hpos
    linarith

section mass
variable {Φ φ : ℝ → ℝ}

theorem massLeft_eq (h : StdNormalLike Φ φ) {a b : ℝ} (hab : a < b) :
    massLeft Φ a b = Real.log (Φ b - Φ a) := by
  unfold massLeft
  exact logDiff_log (h.pos a) (h.strictMono hab)

theorem massRight_eq (h : StdNormalLike Φ φ) {a b : ℝ} (hab : a < b) :
    massRight Φ a b = Real.log (Φ b - Φ a) := by
  unfold massRight
  rw [massLeft_eq h (neg_lt_neg hab), h.symm a, h.symm b]
  congr 1; ring

theorem massCentral_eq (h : StdNormalLike Φ φ) (a b : ℝ) :
    massCentral Φ a b = Real.log (Φ b - Φ a) := by
  unfold massCentral log1p
  rw [h.symm b]
  congr 1; ring

theorem mass_pos (h : StdNormalLike Φ φ) {a b : ℝ} (hab : a < b) : 0 < Φ b - Φ a :=
  sub_pos.mpr (h.strictMono hab)

/-- The argument range `log_q < log_p` of `_log_diff` in the left and right case. -/
theorem log_cdf_strictMono (h : StdNormalLike Φ φ) : StrictMono fun x => Real.log (Φ x) :=
  fun x _ hxy => Real.log_lt_log (h.pos x) (h.strictMono hxy)

/-- The `log1p` argument of the central case. -/
theorem massCentral_arg_pos (h : StdNormalLike Φ φ) {a b : ℝ} (hab : a < b) : 0 < 1 + (-Φ a - Φ (-b)) := by
  linarith [h.symm b, h.strictMono hab]

theorem logGaussMass_eq (h : StdNormalLike Φ φ) {a b : ℝ} (hab : a < b) :
    logGaussMass Φ a b = Real.log (Φ b - Φ a) := by
  unfold logGaussMass
  split_ifs
  · exact massRight_eq h hab
  · exact massLeft_eq h hab
  · exact massCentral_eq h a b

end mass

section ppf
variable {Φ φ : ℝ → ℝ}

theorem ppfLeftTarget_eq (h : StdNormalLike Φ φ) {q a b : ℝ} (hab : a < b) (hq : 0 < q) :
    ppfLeftTarget Φ q a b = Real.log (Φ a + q * (Φ b - Φ a)) := by
  unfold ppfLeftTarget
  have hM := mass_pos h hab
  rw [logGaussMass_eq h hab, ← Real.log_mul hq.ne' hM.ne',
    logaddexp_log (h.pos a) (mul_pos hq hM)]

theorem ppfRightTarget_eq (h : StdNormalLike Φ φ) {q a b : ℝ} (hab : a < b) (hq : q < 1) :
    ppfRightTarget Φ q a b = Real.log (Φ (-b) + (1 - q) * (Φ b - Φ a)) := by
  unfold ppfRightTarget log1p
  have hM := mass_pos h hab
  have hq' : 0 < 1 + -q := by linarith
  rw [logGaussMass_eq h hab, ← Real.log_mul hq'.ne' hM.ne',
    logaddexp_log (h.pos (-b)) (mul_pos hq' hM)]
  congr 2

theorem lerp_mem {x y q : ℝ} (hxy : x ≤ y) (hq0 : 0 ≤ q) (hq1 : q ≤ 1) :
    x ≤ x + q * (y - x) ∧ x + q * (y - x) ≤ y := by
  have h1 := mul_nonneg hq0 (sub_nonneg.mpr hxy)
  have h2 := mul_le_of_le_one_left (sub_nonneg.mpr hxy) hq1
  constructor <;> linarith

theorem quantile_mem (h : StdNormalLike Φ φ) {q a b x : ℝ} (hab : a < b) (hq0 : 0 ≤ q) (hq1 : q ≤ 1)
    (hx : Φ x = Φ a + q * (Φ b - Φ a)) : a ≤ x ∧ x ≤ b := by
  have hm := lerp_mem (h.strictMono hab).le hq0 hq1
  rw [← hx] at hm
  exact ⟨h.strictMono.le_iff_le.mp hm.1, h.strictMono.le_iff_le.mp hm.2⟩

theorem quantile_mem_strict (h : StdNormalLike Φ φ) {q a b x : ℝ} (hab : a < b) (hq0 : 0 < q) (hq1 : q < 1)
    (hx : Φ x = Φ a + q * (Φ b - Φ a)) : a < x ∧ x < b := by
  have h1 := mul_pos hq0 (mass_pos h hab)
  have h2 := mul_lt_of_lt_one_left (mass_pos h hab) hq1
  constructor <;> rw [← h.strictMono.lt_iff_lt, hx] <;> linarith

theorem cdf_zero (h : StdNormalLike Φ φ) : Φ 0 = 1 / 2 := by
  have := h.symm 0
  rw [neg_zero] at this
  linarith

/-- What `ppf_right` bisects for. -/
theorem quantile_neg (h : StdNormalLike Φ φ) {q a b x : ℝ} (hx : Φ x = Φ a + q * (Φ b - Φ a)) :
    Φ (-x) = Φ (-b) + (1 - q) * (Φ b - Φ a) := by
  rw [h.symm x, h.symm b, hx]; ring

/-- For `b ≥ 0` the quantile stays above `-t`, however far to the left `a` is, as soon as
`q (1/2 − Φ(-t)) ≥ Φ(-t)`: the part `q (Φ b − Φ a)` of the target alone reaches `Φ(-t)`. -/
theorem quantile_ge_of_nonneg_right (h : StdNormalLike Φ φ) {q a b x t : ℝ} (hab : a < b) (hq0 : 0 ≤ q) (hq1 : q ≤ 1)
    (hb : 0 ≤ b) (hx : Φ x = Φ a + q * (Φ b - Φ a)) (hq : Φ (-t) ≤ q * (1 / 2 - Φ (-t))) : -t ≤ x := by
  by_cases hc : -t ≤ a
  · exact hc.trans (quantile_mem h hab hq0 hq1 hx).1
  · rw [← h.strictMono.le_iff_le, hx]
    have h1 : Φ a < Φ (-t) := h.strictMono (not_le.mp hc)
    have h2 : 1 / 2 ≤ Φ b := cdf_zero h ▸ h.strictMono.monotone hb
    have h3 : q * (1 / 2 - Φ (-t)) ≤ q * (Φ b - Φ a) := mul_le_mul_of_nonneg_left (by linarith) hq0
    linarith [h.pos a]

theorem quantile_le_of_nonpos_left (h : StdNormalLike Φ φ) {q a b x t : ℝ} (hab : a < b) (hq0 : 0 ≤ q) (hq1 : q ≤ 1)
    (ha : a ≤ 0) (hx : Φ x = Φ a + q * (Φ b - Φ a)) (hq : Φ (-t) ≤ (1 - q) * (1 / 2 - Φ (-t))) : x ≤ t := by
  have hx' : Φ (-x) = Φ (-b) + (1 - q) * (Φ (-a) - Φ (-b)) := by
    rw [quantile_neg h hx, h.symm a, h.symm b]; ring
  have := quantile_ge_of_nonneg_right h (neg_lt_neg hab) (sub_nonneg.mpr hq1) (sub_le_self 1 hq0)
    (neg_nonneg.mpr ha) hx' hq
  linarith

theorem continuous_cdf (h : StdNormalLike Φ φ) : Continuous Φ :=
  continuous_iff_continuousAt.mpr fun x => (h.hasDeriv x).continuousAt

theorem quantile_existsUnique (h : StdNormalLike Φ φ) {q a b : ℝ} (hab : a < b) (hq0 : 0 ≤ q) (hq1 : q ≤ 1) :
    ∃! x, Φ x = Φ a + q * (Φ b - Φ a) := by
  obtain ⟨x, _, hx⟩ := intermediate_value_Icc hab.le (continuous_cdf h).continuousOn
    (lerp_mem (h.strictMono hab).le hq0 hq1)
  exact ⟨x, hx, fun y hy => h.strictMono.injective (hy.trans hx.symm)⟩

end ppf

section logpdf
variable {Φ φ : ℝ → ℝ}

theorem exp_logpdfIn (h : StdNormalLike Φ φ) {a b : ℝ} (hab : a < b) {scale : ℝ} (hs : 0 < scale) (x loc : ℝ) :
    Real.exp (logpdfIn Φ x a b loc scale) =
      Real.exp (normLogpdf ((x - loc) / scale)) / (scale * (Φ b - Φ a)) := by
  unfold logpdfIn
  have hM := mass_pos h hab
  rw [logGaussMass_eq h hab, Real.exp_sub, Real.exp_sub, Real.exp_log hM, Real.exp_log hs]
  field_simp

end logpdf

section discrete
variable {Φ φ : ℝ → ℝ}

/-- Any increasing chain of cut points: the normalised cell masses, computed as the code does
(`exp(log_gauss_mass(cell) - log_gauss_mass(whole))`), sum to one (telescoping). -/
theorem cell_masses_sum_to_one (h : StdNormalLike Φ φ) (u : ℕ → ℝ) (hu : StrictMono u) (n : ℕ) :
    ∑ k ∈ Finset.range (n + 1),
      Real.exp (logGaussMass Φ (u k) (u (k + 1)) - logGaussMass Φ (u 0) (u (n + 1))) = 1 := by
  have h0 : u 0 < u (n + 1) := hu (Nat.succ_pos n)
  have hM := mass_pos h h0
  have e : ∀ k, Real.exp (logGaussMass Φ (u k) (u (k + 1)) - logGaussMass Φ (u 0) (u (n + 1)))
      = (Φ (u (k + 1)) - Φ (u k)) / (Φ (u (n + 1)) - Φ (u 0)) := by
    intro k
    have hk : u k < u (k + 1) := hu (Nat.lt_succ_self k)
    rw [logGaussMass_eq h hk, logGaussMass_eq h h0, Real.exp_sub, Real.exp_log (mass_pos h hk), Real.exp_log hM]
  simp only [e]
  rw [← Finset.sum_div, Finset.sum_range_sub (fun k => Φ (u k)) (n + 1)]
  exact div_self hM.ne'

end discrete

section ir
open OptunaVerif.TruncNormIR

/-- What the callees stand for when a translated formula is evaluated: `Φ` for `_ndtr`/`_ndtr_single`,
`log ∘ Φ` for `_log_ndtr`, the abstract `erf`/`erfc`, and `inv` for `_ndtri_exp`. -/
structure Interp where
  Φ : ℝ → ℝ
  erf : ℝ → ℝ
  erfc : ℝ → ℝ
  inv : ℝ → ℝ

noncomputable def fn1 (I : Interp) : Fn1 → ℝ → ℝ
  | .log => Real.log
  | .log1p => log1p
  | .exp => Real.exp
  | .sqrt => Real.sqrt
  | .erf => I.erf
  | .erfc => I.erfc
  | .ndtr => I.Φ
  | .ndtrSingle => I.Φ
  | .logNdtr => fun a => Real.log (I.Φ a)
  | .ndtriExp => I.inv
  | .normLogpdf => normLogpdf

noncomputable def fn2 (I : Interp) : Fn2 → ℝ → ℝ → ℝ
  | .logaddexp => logaddexp
  | .logSum => logaddexp
  | .logDiff => logDiff
  | .massLeft => massLeft I.Φ
  | .logGaussMass => logGaussMass I.Φ

noncomputable def eval (I : Interp) (env : String → ℝ) : E → ℝ
  | .var n => env n
  | .num q => (q : ℝ)
  | .pi => Real.pi
  | .neg e => -eval I env e
  | .add x y => eval I env x + eval I env y
  | .sub x y => eval I env x - eval I env y
  | .mul x y => eval I env x * eval I env y
  | .div x y => eval I env x / eval I env y
  | .sq e => eval I env e ^ 2
  | .call1 f x => fn1 I f (eval I env x)
  | .call2 f x y => fn2 I f (eval I env x) (eval I env y)

/-- The relations between `Φ`, `erf` and `erfc` that `_ndtr` and `_ndtr_single` rely on. -/
structure ErfLike (I : Interp) : Prop where
  erfc_eq : ∀ x, I.erfc x = 1 - I.erf x
  erf_neg : ∀ x, I.erf (-x) = -I.erf x
  ndtr_eq : ∀ a, I.Φ a = 1 / 2 + 1 / 2 * I.erf (a / Real.sqrt 2)

end ir

end OptunaVerif.TruncNorm
