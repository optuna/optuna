import OptunaVerif.Lemmas.Nsga2Crowd
/-! C13 for the crowding distance: negating objectives (what `maximize f` vs `minimize -f` does to the raw
`trial.values` the crowding code reads) leaves every individual's distance unchanged when no objective has ties, no value is
NaN and the numbers are distinct (`calcCrowding_mirror`), hence the order of `_crowding_distance_sort` (`crowdingSort_mirror`).  Under the
same conditions distances, sort and elite selection do not depend on the order in which the population is handed
over (`crowdingSort_perm_invariant`, `eliteWith_perm_invariant`). -/
namespace OptunaVerif.Nsga2
open List

def flipOne (m : Bool) (v : XVal) : XVal := if m then xneg v else v

theorem flipVals_length (mask : List Bool) (vs : List XVal) : (flipVals mask vs).length = vs.length := by
  induction mask generalizing vs with
  | nil => rfl
  | cons m ms ih => cases vs <;> simp [flipVals, ih]

theorem flipVals_getD (mask : List Bool) (vs : List XVal) (i : Nat) :
    (flipVals mask vs).getD i (.fin 0) = flipOne (mask.getD i false) (vs.getD i (.fin 0)) := by
  induction mask generalizing vs i with
  | nil => simp [flipVals, flipOne]
  | cons m ms ih =>
    cases vs with
    | nil =>
      simp only [flipVals, getD_nil]
      unfold flipOne
      split <;> simp [xneg]
    | cons v vs =>
      cases i with
      | zero => simp [flipVals, flipOne]
      | succ i => simpa [flipVals] using ih vs i

theorem flipInd_val (mask : List Bool) (x : Ind XVal) (i : Nat) :
    (flipInd mask x).val xnum i = flipOne (mask.getD i false) (x.val xnum i) := by
  unfold Ind.val flipInd
  exact flipVals_getD mask x.values i

@[simp] theorem flipInd_number (mask : List Bool) (x : Ind XVal) : (flipInd mask x).number = x.number := rfl

theorem flipOne_inj (m : Bool) {a b : XVal} (h : flipOne m a = flipOne m b) : a = b := by
  unfold flipOne at h
  cases m
  · simpa using h
  · have := congrArg xneg h
    simpa using this

theorem notNaN_flipOne (m : Bool) {a : XVal} (h : NotNaN a) : NotNaN (flipOne m a) := by
  unfold flipOne; split
  · exact notNaN_xneg h
  · exact h

def TieFree (pop : List (Ind XVal)) (i : Nat) : Prop := (pop.map (fun x => x.val xnum i)).Nodup

section Step
variable (mask : List Bool) (i : Nat)

theorem sorted_mirror (lA lB : List (Ind XVal)) (hp : lB.Perm (lA.map (flipInd mask)))
    (hn : ∀ z ∈ lA, NotNaN (z.val xnum i)) (htf : (lA.map (fun z => z.val xnum i)).Nodup) :
    sortByKey xlt (fun z => z.val xnum i) lB =
      if mask.getD i false then ((sortByKey xlt (fun z => z.val xnum i) lA).map (flipInd mask)).reverse
      else (sortByKey xlt (fun z => z.val xnum i) lA).map (flipInd mask) := by
  -- both sides are permutations of one list (`hpAB`) and strictly ascending in the key, which determines a list
  -- (`eq_of_strict_perm`): ascending as the sort leaves them, strictly as no two keys tie (`htf`; the flip is injective);
  -- negating the column turns the order round (`xlt_xneg`), hence the `reverse`.  How the sort breaks ties never enters
  set key : Ind XVal → XVal := fun z => z.val xnum i with hkey
  set m := mask.getD i false with hm
  have hkF : ∀ w, key (flipInd mask w) = flipOne m (key w) := fun w => flipInd_val mask w i
  have hnB : ∀ z ∈ lB, NotNaN (key z) := by
    intro z hz
    obtain ⟨w, hw, rfl⟩ := mem_map.1 (hp.subset hz)
    rw [hkF]; exact notNaN_flipOne m (hn w hw)
  have hndB : (lB.map key).Nodup := by
    have h1 : (lB.map key).Perm ((lA.map key).map (flipOne m)) := by
      refine (hp.map key).trans ?_
      simp only [map_map]
      exact Perm.of_eq (map_congr_left (fun w _ => hkF w))
    exact h1.nodup_iff.2 (htf.map (fun a b h => flipOne_inj m h))
  have hsA := sorted_pop lA i hn
  have hsB := sorted_pop lB i hnB
  have hpA := sortByKey_perm xlt key lA
  have hpB := sortByKey_perm xlt key lB
  have hstA := strict_of_sorted_nodup _ key (fun z hz => hn z (hpA.subset hz)) hsA ((hpA.map key).nodup_iff.2 htf)
  have hstB := strict_of_sorted_nodup _ key (fun z hz => hnB z (hpB.subset hz)) hsB ((hpB.map key).nodup_iff.2 hndB)
  have hpAB : (sortByKey xlt key lB).Perm ((sortByKey xlt key lA).map (flipInd mask)) :=
    hpB.trans (hp.trans (hpA.map _).symm)
  cases hmv : m with
  | false =>
    simp only [Bool.false_eq_true, if_false]
    apply eq_of_strict_perm _ _ key hstB _ hpAB
    rw [pairwise_map]
    refine hstA.imp ?_
    intro a b hab
    rw [hkF, hkF, hmv]; simpa [flipOne] using hab
  | true =>
    simp only [if_true]
    apply eq_of_strict_perm _ _ key hstB _ (hpAB.trans (reverse_perm _).symm)
    rw [pairwise_reverse, pairwise_map]
    refine hstA.imp ?_
    intro a b hab
    rw [hkF, hkF, hmv]
    simp only [flipOne, if_true]
    rw [xlt_xneg]; exact hab

end Step

/-- the relation between the run on `pop` (state `A`) and the run on the mirrored population (state `B`) -/
structure Rel (mask : List Bool) (A B : CSt) : Prop where
  perm : B.1.Perm (A.1.map (flipInd mask))
  look : ∀ n, lookupD xnum n B.2 = lookupD xnum n A.2

theorem crowdStep_rel (mask : List Bool) (pop : List (Ind XVal)) (hnn : NoNaNPop pop)
    (hnum : (pop.map (·.number)).Nodup) (i : Nat) (htf : TieFree pop i)
    (A B : CSt) (hA : A.1.Perm pop) (h : Rel mask A B) :
    Rel mask (crowdStep xnum A i) (crowdStep xnum B i) := by
  rw [crowdStep_eq i A, crowdStep_eq i B]
  have hn : ∀ z ∈ A.1, NotNaN (z.val xnum i) := fun z hz => hnn z (hA.subset hz) i
  have htfA : (A.1.map (fun z => z.val xnum i)).Nodup := (hA.map _).nodup_iff.2 htf
  have hs := sorted_mirror mask i A.1 B.1 h.perm hn htfA
  have hpA := sortByKey_perm xlt (fun z : Ind XVal => z.val xnum i) A.1
  constructor
  · simp only
    exact (sortByKey_perm _ _ _).trans (h.perm.trans (hpA.map _).symm)
  · intro n
    simp only
    rw [hs]
    generalize sortByKey xlt (fun z => z.val xnum i) A.1 = sA at hpA ⊢
    have hnumA : (sA.map (·.number)).Nodup := ((hpA.trans hA).map _).nodup_iff.2 hnum
    have hcol : (sA.map (flipInd mask)).map (fun z => z.val xnum i) = (sA.map (fun z => z.val xnum i)).map (flipOne (mask.getD i false)) := by
      rw [map_map, map_map]; exact map_congr_left fun w _ => flipInd_val mask w i
    have hnums : (sA.map (flipInd mask)).map (·.number) = sA.map (·.number) := by rw [map_map]; rfl
    cases hmv : mask.getD i false with
    | false =>
      rw [hmv, show flipOne false = id from rfl, map_id] at hcol
      simp only [Bool.false_eq_true, if_false, hcol, hnums]
      exact stepCol_congr _ _ _ _ h.look (by simp) hnumA n
    | true =>
      rw [hmv, show flipOne true = xneg from rfl] at hcol
      simp only [if_true, map_reverse, hcol, hnums]
      exact stepCol_mirror _ _ _ _ h.look (by simp) hnumA n

theorem fold_rel (mask : List Bool) (pop : List (Ind XVal)) (hnn : NoNaNPop pop)
    (hnum : (pop.map (·.number)).Nodup) (is : List Nat) (htf : ∀ i ∈ is, TieFree pop i)
    (A B : CSt) (hA : A.1.Perm pop) (h : Rel mask A B) :
    Rel mask (is.foldl (crowdStep xnum) A) (is.foldl (crowdStep xnum) B) := by
  induction is generalizing A B with
  | nil => exact h
  | cons i is ih =>
    simp only [foldl_cons]
    apply ih (fun j hj => htf j (by simp [hj]))
    · exact (crowdStep_perm xnum A i).trans hA
    · exact crowdStep_rel mask pop hnn hnum i (htf i (by simp)) A B hA h

theorem noNaN_flip (mask : List Bool) (pop : List (Ind XVal)) (hnn : NoNaNPop pop) : NoNaNPop (pop.map (flipInd mask)) := by
  intro z hz i
  obtain ⟨w, hw, rfl⟩ := mem_map.1 hz
  rw [flipInd_val]; exact notNaN_flipOne _ (hnn w hw i)

theorem calcCrowding_mirror (mask : List Bool) (p0 : Ind XVal) (t : List (Ind XVal)) (hnn : NoNaNPop (p0 :: t))
    (hnum : ((p0 :: t).map (·.number)).Nodup) (htf : ∀ i < p0.values.length, TieFree (p0 :: t) i) (n : Nat) :
    lookupD xnum n (calcCrowding xnum ((p0 :: t).map (flipInd mask))).2 = lookupD xnum n (calcCrowding xnum (p0 :: t)).2 := by
  unfold calcCrowding
  simp only [map_cons]
  have hlen : (flipInd mask p0).values.length = p0.values.length := flipVals_length mask p0.values
  rw [hlen]
  have := fold_rel mask (p0 :: t) hnn hnum (List.range p0.values.length)
    (fun i hi => htf i (by simpa using hi)) (p0 :: t, []) ((p0 :: t).map (flipInd mask), [])
    (Perm.refl _) ⟨Perm.refl _, fun _ => rfl⟩
  simpa using this.look n

theorem calcCrowding_perm_invariant (p0 p0' : Ind XVal) (t t' : List (Ind XVal)) (hp : (p0' :: t').Perm (p0 :: t))
    (hlen : p0'.values.length = p0.values.length) (hnn : NoNaNPop (p0 :: t))
    (hnum : ((p0 :: t).map (·.number)).Nodup) (htf : ∀ i < p0.values.length, TieFree (p0 :: t) i) (n : Nat) :
    lookupD xnum n (calcCrowding xnum (p0' :: t')).2 = lookupD xnum n (calcCrowding xnum (p0 :: t)).2 := by
  unfold calcCrowding
  simp only
  rw [hlen]
  have hid : (p0 :: t).map (flipInd []) = p0 :: t := map_id'' (fun x => by cases x; simp [flipInd, flipVals]) _
  have := fold_rel [] (p0 :: t) hnn hnum (List.range p0.values.length)
    (fun i hi => htf i (by simpa using hi)) (p0 :: t, []) (p0' :: t', [])
    (Perm.refl _) ⟨by rw [hid]; exact hp, fun _ => rfl⟩
  exact this.look n

theorem before_congr (d d' : Dists XVal) (h : ∀ n, lookupD xnum n d' = lookupD xnum n d) (a b : Ind XVal) :
    Before d' a b ↔ Before d a b := by
  unfold Before BeforeN
  rw [h a.number, h b.number]

theorem sorted_numbers_unique (d : Dists XVal) (hd : GoodD d) (l1 l2 : List (Ind XVal))
    (h1 : l1.Pairwise (Before d)) (h2 : l2.Pairwise (Before d))
    (hp : (l1.map (·.number)).Perm (l2.map (·.number))) : l1.map (·.number) = l2.map (·.number) := by
  apply hp.eq_of_pairwise (le := BeforeN d)
  · exact fun n m _ _ => beforeN_antisymm d hd
  · rw [pairwise_map]; exact h1
  · rw [pairwise_map]; exact h2

theorem crowdingSort_mirror (mask : List Bool) (p0 : Ind XVal) (t : List (Ind XVal)) (hnn : NoNaNPop (p0 :: t))
    (hnum : ((p0 :: t).map (·.number)).Nodup) (htf : ∀ i < p0.values.length, TieFree (p0 :: t) i) :
    (crowdingSort xnum ((p0 :: t).map (flipInd mask))).map (·.number) = (crowdingSort xnum (p0 :: t)).map (·.number) := by
  obtain ⟨hpA, hgA, hsA⟩ := crowdingSort_desc (p0 :: t) hnn
  obtain ⟨hpB, _, hsB⟩ := crowdingSort_desc ((p0 :: t).map (flipInd mask)) (noNaN_flip mask _ hnn)
  have hd := calcCrowding_mirror mask p0 t hnn hnum htf
  apply sorted_numbers_unique _ hgA
  · exact hsB.imp (fun {a b} h => (before_congr _ _ hd a b).1 h)
  · exact hsA
  · refine (hpB.map _).trans (Perm.trans ?_ (hpA.map _).symm)
    rw [map_map]
    exact Perm.of_eq (map_congr_left (fun w _ => rfl))

theorem crowdingSort_perm_invariant_cons (p0 p0' : Ind XVal) (t t' : List (Ind XVal)) (hp : (p0' :: t').Perm (p0 :: t))
    (hlen : p0'.values.length = p0.values.length) (hnn : NoNaNPop (p0 :: t))
    (hnum : ((p0 :: t).map (·.number)).Nodup) (htf : ∀ i < p0.values.length, TieFree (p0 :: t) i) :
    crowdingSort xnum (p0' :: t') = crowdingSort xnum (p0 :: t) := by
  have hnn' : NoNaNPop (p0' :: t') := fun x hx i => hnn x (hp.subset hx) i
  obtain ⟨hpA, hgA, hsA⟩ := crowdingSort_desc (p0 :: t) hnn
  obtain ⟨hpB, _, hsB⟩ := crowdingSort_desc (p0' :: t') hnn'
  have hd := calcCrowding_perm_invariant p0 p0' t t' hp hlen hnn hnum htf
  have hsB' : (crowdingSort xnum (p0' :: t')).Pairwise (Before (calcCrowding xnum (p0 :: t)).2) :=
    hsB.imp (fun {a b} h => (before_congr _ _ hd a b).1 h)
  apply (hpB.trans (hp.trans hpA.symm)).eq_of_pairwise _ hsB' hsA
  intro a b ha hb hab hba
  have hn := beforeN_antisymm _ hgA hab hba
  exact inj_on_of_nodup_map hnum (hp.subset (hpB.subset ha)) (hpA.subset hb) hn

/-- what makes the crowding sort of a front independent of the order it is handed over in -/
structure FrontOK (d : Nat) (f : List (Ind XVal)) : Prop where
  nn : NoNaNPop f
  num : (f.map (·.number)).Nodup
  len : ∀ x ∈ f, x.values.length = d
  tf : ∀ i < d, TieFree f i

theorem FrontOK.sublist {d : Nat} {f g : List (Ind XVal)} (h : FrontOK d f) (hs : g.Sublist f) : FrontOK d g :=
  ⟨fun x hx i => h.nn x (hs.subset hx) i, h.num.sublist (hs.map _), fun x hx => h.len x (hs.subset hx),
    fun i hi => (h.tf i hi).sublist (hs.map _)⟩

theorem crowdingSort_perm_invariant (d : Nat) (f f' : List (Ind XVal)) (hp : f'.Perm f) (hok : FrontOK d f) :
    crowdingSort xnum f' = crowdingSort xnum f := by
  cases f with
  | nil => rw [hp.eq_nil]
  | cons p0 t =>
    cases f' with
    | nil => exact absurd hp.symm.eq_nil (by simp)
    | cons p0' t' =>
      have h0 : p0.values.length = d := hok.len p0 (by simp)
      have h0' : p0'.values.length = d := hok.len p0' (hp.subset (by simp))
      exact crowdingSort_perm_invariant_cons p0 p0' t t' hp (by omega) hok.nn hok.num (fun i hi => hok.tf i (by omega))

theorem selectLoop_perm_invariant (d k : Nat) (fs fs' : List (List (Ind XVal)))
    (hf : Forall₂ (fun f' f => f'.Perm f) fs' fs) (hok : ∀ f ∈ fs, FrontOK d f) (e e' : List (Ind XVal))
    (he : e'.Perm e) : (selectLoop xnum k fs' e').Perm (selectLoop xnum k fs e) := by
  induction hf generalizing e e' with
  | nil => simpa [selectLoop] using he
  | @cons f' f fs' fs hpf _ ih =>
    simp only [selectLoop]
    rw [he.length_eq, hpf.length_eq]
    split
    · exact ih (fun g hg => hok g (by simp [hg])) _ _ (he.append hpf)
    · rw [crowdingSort_perm_invariant d f f' hpf (hok f (by simp))]
      exact he.append_right _

theorem maxRank_perm {l1 l2 : List Nat} (h : l1.Perm l2) : maxRank l1 = maxRank l2 := by
  unfold maxRank
  apply h.foldl_eq'
  intro x _ y _ z
  omega

theorem forall₂_map_same {γ δ : Type} (R : δ → δ → Prop) (g' g : γ → δ) (h : ∀ r, R (g' r) (g r)) (l : List γ) :
    Forall₂ R (l.map g') (l.map g) := by
  induction l with
  | nil => exact Forall₂.nil
  | cons a l ih => exact Forall₂.cons (h a) ih

theorem eliteWith_perm_invariant (d k : Nat) (ranks ranks' : List Nat) (pop pop' : List (Ind XVal))
    (hz : (pop'.zip ranks').Perm (pop.zip ranks)) (hl : ranks.length = pop.length) (hl' : ranks'.length = pop'.length)
    (hok : FrontOK d pop) : (eliteWith xnum k ranks' pop').Perm (eliteWith xnum k ranks pop) := by
  have hpop : pop'.Perm pop := by
    have := hz.map Prod.fst
    rwa [map_fst_zip (by omega), map_fst_zip (by omega)] at this
  have hr : ranks'.Perm ranks := by
    have := hz.map Prod.snd
    rwa [map_snd_zip (by omega), map_snd_zip (by omega)] at this
  unfold eliteWith
  cases pop with
  | nil => rw [hpop.eq_nil]
  | cons p t =>
    cases pop' with
    | nil => exact absurd hpop.symm.eq_nil (by simp)
    | cons p' t' =>
      simp only
      apply selectLoop_perm_invariant d k
      · unfold perRank
        rw [maxRank_perm hr]
        apply forall₂_map_same
        intro r
        exact (hz.filter _).map _
      · intro f hf
        unfold perRank at hf
        obtain ⟨r, _, rfl⟩ := mem_map.1 hf
        apply hok.sublist
        have h1 : ((((p :: t).zip ranks).filter (fun q => q.2 == r)).map (·.1)).Sublist (((p :: t).zip ranks).map (·.1)) :=
          (filter_sublist).map _
        rwa [map_fst_zip (by omega)] at h1
      · exact Perm.refl _

end OptunaVerif.Nsga2
