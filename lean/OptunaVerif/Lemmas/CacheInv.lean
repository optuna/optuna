import OptunaVerif.Lemmas.Cache
/-! The cache invariant of C08 and its preservation by backend steps and by the absorption of a
fetched batch. -/
namespace OptunaVerif.Cache
open OptunaVerif.Storage OptunaVerif.C01

theorem get_lt {α : Type} {l : List α} {i : Nat} {a : α} (h : l[i]? = some a) : i < l.length :=
  getElem?_lt_length h

theorem step_get_back (s : Spec) (op : Op) (tid : Nat) (t' : TrialS)
    (h : (step s op).1.trials[tid]? = some t') :
    s.trials.length ≤ tid ∨
      ∃ t, s.trials[tid]? = some t ∧ t.study = t'.study ∧ t.number = t'.number ∧
        (t.state.isFinished = true → t' = t) := by
  rcases Nat.lt_or_ge tid s.trials.length with hlt | hge
  · obtain ⟨t1, h1, hs, hn, hc⟩ := trial_step s op tid _ (List.getElem?_eq_getElem hlt)
    cases h.symm.trans h1
    exact .inr ⟨_, List.getElem?_eq_getElem hlt, hs.symm, hn.symm, fun hf =>
      hc.resolve_right fun hw => by rw [(writable_ok s tid _ hw).2] at hf; cases hf⟩
  · exact .inl hge

def Current (s : Spec) (sid : Nat) (p : Nat × TrialS) : Prop :=
  s.trials[p.1]? = some p.2 ∧ p.2.study = sid

/-- The trial is re-read on the next sync, or the cache already holds its final record. -/
def Covered (e : Entry) (tid : Nat) (t : TrialS) : Prop :=
  tid ∈ e.unfinished ∨ (find e.trials t.number = some (tid, t) ∧ t.state.isFinished = true)

structure EntryCore (s : Spec) (sid : Nat) (e : Entry) : Prop where
  keys : (e.trials.map (·.1)).Nodup
  static : ∀ n tid t, find e.trials n = some (tid, t) →
    ∃ t', s.trials[tid]? = some t' ∧ t'.study = sid ∧ t'.number = n ∧ t.number = n
  /-- a cached snapshot that is not scheduled for re-reading is final and equals the backend's record -/
  fresh : ∀ n tid t, find e.trials n = some (tid, t) → tid ∉ e.unfinished →
    s.trials[tid]? = some t ∧ t.state.isFinished = true
  uOfStudy : ∀ tid, tid ∈ e.unfinished → ∃ t', s.trials[tid]? = some t' ∧ t'.study = sid
  /-- the watermark is −1 or below the next id the backend will hand out -/
  wBound : e.watermark < (s.trials.length : Int)
  memoName : ∀ nm, e.name = some nm →
    ∃ o, s.studies[sid]? = some o ∧ ∀ st, o = some st → st.name = nm
  memoDirs : ∀ d, e.directions = some d →
    ∃ o, s.studies[sid]? = some o ∧ ∀ st, o = some st → st.directions = d

/-- The invariant of the `C08.cache_covers_*` theorems for one entry: every backend trial of the study at or below the watermark is in
the unfinished set or cached in its final state. -/
structure EntryInv (s : Spec) (sid : Nat) (e : Entry) : Prop extends EntryCore s sid e where
  covers : ∀ (tid : Nat) (t : TrialS), s.trials[tid]? = some t → t.study = sid → ((tid : Nat) : Int) ≤ e.watermark →
    Covered e tid t

structure AllFresh (s : Spec) (sid : Nat) (e : Entry) : Prop where
  sound : ∀ n tid t, find e.trials n = some (tid, t) → s.trials[tid]? = some t ∧ t.study = sid
  complete : ∀ tid t, s.trials[tid]? = some t → t.study = sid → find e.trials t.number = some (tid, t)

theorem entryInv_empty (s : Spec) (sid : Nat) : EntryInv s sid Entry.empty := by
  refine ⟨⟨by simp [Entry.empty], ?_, ?_, ?_, by simp only [Entry.empty]; omega, ?_, ?_⟩, ?_⟩
  case refine_6 =>
    intro tid t _ _ h
    simp only [Entry.empty] at h
    omega
  all_goals intros; simp_all [Entry.empty, find]

/-- a memoised name or direction list stays right: a study that is live after the call was live before, with both -/
theorem memo_step {β : Type} (proj : StudyS → β) (s : Spec) (op : Op) (sid : Nat) (v : β)
    (hp : ∀ a a0 : StudyS, a0.name = a.name → a0.directions = a.directions → proj a = proj a0)
    (h : ∃ o, s.studies[sid]? = some o ∧ ∀ st, o = some st → proj st = v) :
    ∃ o, (step s op).1.studies[sid]? = some o ∧ ∀ st, o = some st → proj st = v := by
  obtain ⟨o, ho, hv⟩ := h
  have hlt := Nat.lt_of_lt_of_le (get_lt ho) (studies_length_mono s op)
  refine ⟨_, List.getElem?_eq_getElem hlt, fun a e => ?_⟩
  rcases live_study_back s op sid a (by rw [List.getElem?_eq_getElem hlt, e]) with ⟨a0, h0, hn, hd⟩ | ⟨rfl, -⟩
  · rw [hp a a0 hn hd]; exact hv a0 (Option.some.inj (ho.symm.trans h0))
  · exact absurd (get_lt ho) (Nat.lt_irrefl _)

/-- **Every** backend step — a write by this client, by any other client of the database, by a raw
writer — keeps the entry invariant (this is where `finished_frozen` and "new ids are larger than all
earlier ones" are used). -/
theorem entryInv_step (s : Spec) (op : Op) (sid : Nat) (e : Entry) (h : EntryInv s sid e) :
    EntryInv (step s op).1 sid e := by
  refine ⟨⟨h.keys, ?_, ?_, ?_, ?_, ?_, ?_⟩, ?_⟩
  · intro n tid t hf
    obtain ⟨t', h1, h2, h3, h4⟩ := h.static n tid t hf
    obtain ⟨t1, g1, g2, g3⟩ := trial_study_step s op tid t' h1
    exact ⟨t1, g1, g2.trans h2, g3.trans h3, h4⟩
  · intro n tid t hf hu
    obtain ⟨h1, h2⟩ := h.fresh n tid t hf hu
    exact ⟨finished_frozen_step s op tid t h1 h2, h2⟩
  · intro tid hu
    obtain ⟨t', h1, h2⟩ := h.uOfStudy tid hu
    obtain ⟨t1, g1, g2, _⟩ := trial_study_step s op tid t' h1
    exact ⟨t1, g1, g2.trans h2⟩
  · have := trials_length_mono s op
    have := h.wBound
    omega
  · intro nm hn
    exact memo_step (·.name) s op sid nm (fun _ _ hn _ => hn.symm) (h.memoName nm hn)
  · intro d hd
    exact memo_step (·.directions) s op sid d (fun _ _ _ hd => hd.symm) (h.memoDirs d hd)
  · intro tid t' ht' hs hw
    rcases step_get_back s op tid t' ht' with hnew | ⟨t, ht, hst, hnum, hfro⟩
    · have := h.wBound
      omega
    · rcases h.covers tid t ht (hst.trans hs) hw with hu | ⟨hc, hfin⟩
      · exact Or.inl hu
      · have := hfro hfin
        subst this
        exact Or.inr ⟨hc, hfin⟩

@[simp] theorem addTrial_trials (e : Entry) (p : Nat × TrialS) :
    (e.addTrial p).trials = insert e.trials p.2.number p := rfl
@[simp] theorem addTrial_unfinished (e : Entry) (p : Nat × TrialS) : (e.addTrial p).unfinished = e.unfinished := rfl
@[simp] theorem addTrial_watermark (e : Entry) (p : Nat × TrialS) : (e.addTrial p).watermark = e.watermark := rfl
@[simp] theorem addTrial_name (e : Entry) (p : Nat × TrialS) : (e.addTrial p).name = e.name := rfl
@[simp] theorem addTrial_directions (e : Entry) (p : Nat × TrialS) : (e.addTrial p).directions = e.directions := rfl

@[simp] theorem noteState_trials (e : Entry) (p : Nat × TrialS) : (e.noteState p).trials = e.trials := by
  unfold Entry.noteState; split <;> rfl
@[simp] theorem noteState_name (e : Entry) (p : Nat × TrialS) : (e.noteState p).name = e.name := by
  unfold Entry.noteState; split <;> rfl
@[simp] theorem noteState_directions (e : Entry) (p : Nat × TrialS) : (e.noteState p).directions = e.directions := by
  unfold Entry.noteState; split <;> rfl

theorem noteState_unfinished (e : Entry) (p : Nat × TrialS) :
    (e.noteState p).unfinished =
      if p.2.state.isFinished then uremove e.unfinished p.1 else uadd e.unfinished p.1 := by
  unfold Entry.noteState; split <;> rfl

theorem noteState_watermark (e : Entry) (p : Nat × TrialS) :
    (e.noteState p).watermark = if p.2.state.isFinished then max e.watermark (p.1 : Int) else e.watermark := by
  unfold Entry.noteState; split <;> rfl

theorem mem_noteState_unfinished (e : Entry) (p : Nat × TrialS) (j : Nat) :
    j ∈ (e.noteState p).unfinished ↔
      if p.2.state.isFinished then (j ∈ e.unfinished ∧ j ≠ p.1) else (j ∈ e.unfinished ∨ j = p.1) := by
  rw [noteState_unfinished]
  split
  · simp [mem_uremove]
  · simp [mem_uadd]

theorem noteState_addTrial_comm (e : Entry) (p q : Nat × TrialS) :
    (e.addTrial p).noteState q = (e.noteState q).addTrial p := by
  unfold Entry.noteState Entry.addTrial
  split <;> rfl

theorem foldl_addTrial_noteState (e : Entry) (q : Nat × TrialS) (l : List (Nat × TrialS)) :
    l.foldl Entry.addTrial (e.noteState q) = (l.foldl Entry.addTrial e).noteState q := by
  induction l generalizing e with
  | nil => rfl
  | cons p r ih =>
    simp only [List.foldl_cons]
    rw [← noteState_addTrial_comm, ih]

/-- The two-pass loop of `_CachedStorage` computes the same entry as the one-pass loop of
`GrpcClientCache`. -/
theorem absorb2_eq_absorb (e : Entry) (l : List (Nat × TrialS)) : e.absorb2 l = e.absorb l := by
  unfold Entry.absorb2 Entry.absorb
  induction l generalizing e with
  | nil => rfl
  | cons p r ih =>
    simp only [List.foldl_cons, Entry.absorb1]
    rw [← ih, foldl_addTrial_noteState]

/-- static part of an entry (survives the first pass of the two-pass loop) -/
def Static (s : Spec) (sid : Nat) (e : Entry) : Prop :=
  ∀ n tid t, find e.trials n = some (tid, t) →
    ∃ t', s.trials[tid]? = some t' ∧ t'.study = sid ∧ t'.number = n ∧ t.number = n

theorem static_addTrial (s : Spec) (sid : Nat) (e : Entry) (p : Nat × TrialS) (tb : TrialS) (h : Static s sid e)
    (h1 : s.trials[p.1]? = some tb) (h2 : tb.study = sid) (h3 : tb.number = p.2.number) : Static s sid (e.addTrial p) :=
  fun n tid t hf => forall_find_insert
    (P := fun n v => ∃ t', s.trials[v.1]? = some t' ∧ t'.study = sid ∧ t'.number = n ∧ v.2.number = n)
    _ _ _ ⟨tb, h1, h2, h3, rfl⟩ (fun n v => h n v.1 v.2) n (tid, t) hf

theorem core_file (s : Spec) (sid : Nat) (e : Entry) (p : Nat × TrialS) (u : List Nat) (w : Int) (h : EntryCore s sid e)
    (tb : TrialS) (h1 : s.trials[p.1]? = some tb) (h2 : tb.study = sid) (h3 : tb.number = p.2.number)
    (hu : ∀ j, j ∈ u → j ∈ e.unfinished ∨ j = p.1) (hkeep : ∀ j, j ∈ e.unfinished → j ≠ p.1 → j ∈ u)
    (hp : p.1 ∉ u → tb = p.2 ∧ p.2.state.isFinished = true) (hw : w < (s.trials.length : Int)) :
    EntryCore s sid { e.addTrial p with unfinished := u, watermark := w } := by
  refine ⟨keys_insert_nodup _ _ _ h.keys, static_addTrial s sid e p tb h.static h1 h2 h3, ?_, ?_, hw, h.memoName, h.memoDirs⟩
  · intro n2 tid2 t2 hf hnu
    simp only [addTrial_trials, find_insert] at hf
    split at hf
    · cases hf
      obtain ⟨e1, e2⟩ := hp hnu
      subst e1
      exact ⟨h1, e2⟩
    · rename_i hn
      refine h.fresh n2 tid2 t2 hf (fun hmem => ?_)
      by_cases hid : tid2 = p.1
      · obtain ⟨t', g1, _, g3, _⟩ := h.static n2 tid2 t2 hf
        rw [hid, h1] at g1
        cases g1
        exact hn (g3.symm.trans h3)
      · exact hnu (hkeep tid2 hmem hid)
  · intro j hj
    rcases hu j hj with hj | hj
    · exact h.uOfStudy j hj
    · exact ⟨tb, hj ▸ h1, h2⟩

theorem core_absorb1 (s : Spec) (sid : Nat) (e : Entry) (p : Nat × TrialS)
    (h : EntryCore s sid e) (hp : Current s sid p) : EntryCore s sid (e.absorb1 p) := by
  have hlt : ((p.1 : Nat) : Int) < (s.trials.length : Int) := by exact_mod_cast get_lt hp.1
  have hb := h.wBound
  unfold Entry.absorb1 Entry.noteState
  split
  · rename_i hfin
    exact core_file s sid e p _ _ h p.2 hp.1 hp.2 rfl (fun j hj => Or.inl ((mem_uremove _ _ _).1 hj).1)
      (fun j hj hne => (mem_uremove _ _ _).2 ⟨hj, hne⟩) (fun _ => ⟨rfl, hfin⟩) (by simp only [addTrial_watermark]; omega)
  · exact core_file s sid e p _ _ h p.2 hp.1 hp.2 rfl (fun j hj => (mem_uadd _ _ _).1 hj)
      (fun j hj _ => (mem_uadd _ _ _).2 (Or.inl hj)) (fun hn => absurd ((mem_uadd _ _ _).2 (Or.inr rfl)) hn) hb

/-- The loop invariant of a sync: every backend record of the study is still pending, or is cached as it is now and, if
unfinished, scheduled for re-reading. -/
def Synced (s : Spec) (sid : Nat) (e : Entry) (rem : List (Nat × TrialS)) : Prop :=
  ∀ tid t, s.trials[tid]? = some t → t.study = sid →
    (tid, t) ∈ rem ∨ (find e.trials t.number = some (tid, t) ∧ (t.state.isFinished = true ∨ tid ∈ e.unfinished))

theorem synced_absorb1 (s : Spec) (hN : Numbered s) (sid : Nat) (e : Entry) (p : Nat × TrialS)
    (rem : List (Nat × TrialS)) (hp : Current s sid p) (h : Synced s sid e (p :: rem)) :
    Synced s sid (e.absorb1 p) rem := by
  obtain ⟨tid, t⟩ := p
  obtain ⟨hcur, hsid⟩ := hp
  simp only at hcur hsid
  intro tid2 t2 ht2 hs2
  unfold Entry.absorb1
  rw [mem_noteState_unfinished]
  simp only [addTrial_unfinished, noteState_trials, addTrial_trials]
  by_cases hid : tid2 = tid
  · -- the absorbed record itself
    subst hid
    rw [hcur] at ht2
    cases ht2
    refine Or.inr ⟨find_insert_same _ _ _, ?_⟩
    by_cases hfin : t.state.isFinished = true
    · exact Or.inl hfin
    · exact Or.inr (by simp [hfin])
  · -- another record of the study: it has another number, and stays in the unfinished set if it was there
    rcases h tid2 t2 ht2 hs2 with hm | ⟨hc, hfu⟩
    · rcases List.mem_cons.1 hm with e1 | e1
      · exact absurd (Prod.mk.inj e1).1 hid
      · exact Or.inl e1
    · have hnum : t2.number ≠ t.number := fun hn => hid (numbered_unique s hN ht2 hcur (hs2.trans hsid.symm) hn)
      refine Or.inr ⟨by rw [find_insert_other _ _ _ _ hnum]; exact hc, hfu.imp id fun hu => ?_⟩
      split
      · exact ⟨hu, hid⟩
      · exact Or.inl hu

theorem absorb_fold (s : Spec) (hN : Numbered s) (sid : Nat) (rem : List (Nat × TrialS)) (e : Entry)
    (hcur : ∀ p, p ∈ rem → Current s sid p) (hc : EntryCore s sid e) (hq : Synced s sid e rem) :
    EntryCore s sid (e.absorb rem) ∧ Synced s sid (e.absorb rem) [] := by
  induction rem generalizing e with
  | nil => exact ⟨hc, hq⟩
  | cons p r ih =>
    have hp := hcur p List.mem_cons_self
    exact ih (e.absorb1 p) (fun q hq => hcur q (List.mem_cons_of_mem _ hq))
      (core_absorb1 s sid e p hc hp) (synced_absorb1 s hN sid e p r hp hq)

/-- **sync, entry level**: absorbing a batch that consists of current records of the study and
contains every record whose id is in the unfinished set or above the watermark re-establishes the
invariant and leaves the entry equal to the backend. -/
theorem absorb_spec (s : Spec) (hN : Numbered s) (sid : Nat) (e : Entry) (l : List (Nat × TrialS))
    (h : EntryInv s sid e)
    (hcur : ∀ p, p ∈ l → Current s sid p)
    (hall : ∀ (tid : Nat) (t : TrialS), s.trials[tid]? = some t → t.study = sid →
      (tid ∈ e.unfinished ∨ ((tid : Nat) : Int) > e.watermark) → (tid, t) ∈ l) :
    EntryInv s sid (e.absorb l) ∧ AllFresh s sid (e.absorb l) := by
  -- what is not fetched is at or below the watermark and not in the unfinished set: cached in its final state
  have h0 : Synced s sid e l := by
    intro tid t ht hs
    by_cases hu : tid ∈ e.unfinished
    · exact Or.inl (hall tid t ht hs (Or.inl hu))
    · by_cases hw : ((tid : Nat) : Int) ≤ e.watermark
      · rcases h.covers tid t ht hs hw with hu' | ⟨hc, hfin⟩
        · exact absurd hu' hu
        · exact Or.inr ⟨hc, Or.inl hfin⟩
      · exact Or.inl (hall tid t ht hs (Or.inr (by omega)))
  obtain ⟨c, q⟩ := absorb_fold s hN sid l e hcur h.toEntryCore h0
  have hq : ∀ tid t, s.trials[tid]? = some t → t.study = sid →
      find (e.absorb l).trials t.number = some (tid, t) ∧ (t.state.isFinished = true ∨ tid ∈ (e.absorb l).unfinished) := by
    intro tid t ht hs
    rcases q tid t ht hs with h1 | h1
    · simp at h1
    · exact h1
  refine ⟨⟨c, fun tid t ht hs _ => ?_⟩, fun n tid t hf => ?_, fun tid t ht hs => (hq tid t ht hs).1⟩
  · obtain ⟨hc, hf | hu⟩ := hq tid t ht hs
    · exact Or.inr ⟨hc, hf⟩
    · exact Or.inl hu
  · obtain ⟨t', k1, k2, k3, _⟩ := c.static n tid t hf
    have := (hq tid t' k1 k2).1
    rw [k3, hf] at this
    cases this
    exact ⟨k1, k2⟩

theorem mem_servicerFilter (inc : List Nat) (w : Int) (l : List (Nat × TrialS)) (x : Nat × TrialS) :
    x ∈ servicerFilter inc w l ↔ x ∈ l ∧ ((x.1 : Int) > w ∨ x.1 ∈ inc) := by
  simp [servicerFilter]

/-- For `C08.servicer_filter_eq_rdb_filter`: the comprehension in the servicer's `GetTrials` and the SQL
query built by `RDBStorage._get_trials` select the same trials, for every watermark (−1 included)
and every included-id set (empty, or holding ids above the watermark or of other studies). -/
theorem rdbFilter_eq_servicerFilter (inc : List Nat) (w : Int) (l : List (Nat × TrialS)) :
    rdbFilter inc w l = servicerFilter inc w l := by
  unfold rdbFilter servicerFilter
  simp only
  -- the three queries: some included id is at or below the watermark (cutting `inc` down to those loses nothing, an id above
  -- it is selected anyway); none is (the inclusion adds nothing); the watermark is below every id (no filter)
  split
  · apply List.filter_congr
    intro x _
    by_cases hx : (x.1 : Int) ≤ w
    · have : ¬ ((x.1 : Int) > w) := by omega
      simp [hx, this]
    · have : (x.1 : Int) > w := by omega
      simp [this]
  · rename_i hA
    split
    · rename_i hw
      have hemp : inc.filter (fun (i : Nat) => decide ((i : Int) ≤ w)) = [] := by
        cases hh : inc.filter (fun (i : Nat) => decide ((i : Int) ≤ w)) with
        | nil => rfl
        | cons a r => exact absurd ⟨by simp [hh], hw⟩ hA
      apply List.filter_congr
      intro x _
      by_cases hx : (x.1 : Int) > w
      · simp [hx]
      · have hnot : x.1 ∉ inc := by
          intro hm
          have : x.1 ∈ inc.filter (fun (i : Nat) => decide ((i : Int) ≤ w)) := by
            simp only [List.mem_filter, decide_eq_true_eq]
            exact ⟨hm, by omega⟩
          rw [hemp] at this
          simp at this
        simp [hx, hnot]
    · rename_i hw
      symm
      rw [List.filter_eq_self]
      intro x _
      have : (x.1 : Int) > w := by
        have : (0 : Int) ≤ (x.1 : Int) := Int.natCast_nonneg _
        omega
      simp [this]

end OptunaVerif.Cache
