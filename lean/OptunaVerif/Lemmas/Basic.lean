import OptunaVerif.Model.Basic
/-! Lemmas about the vocabulary of `Model/Basic.lean` that every model uses (`updAt`, `XVal.le`, `AList`, `TState`), with a few
facts about core list functions and `Except` in the form the models need them.  Core Lean only. -/
namespace OptunaVerif

variable {α β : Type}

theorem getElem?_lt_length {l : List α} {i : Nat} {a : α} (h : l[i]? = some a) : i < l.length :=
  (List.getElem?_eq_some_iff.1 h).1

theorem getElem?_snoc (l : List α) (x : α) (i : Nat) :
    (l ++ [x])[i]? = if i = l.length then some x else l[i]? := by
  rcases Nat.lt_trichotomy i l.length with h | h | h
  · rw [List.getElem?_append_left h, if_neg (Nat.ne_of_lt h)]
  · subst h; simp
  · rw [if_neg (Nat.ne_of_gt h), List.getElem?_eq_none (by simp; omega), List.getElem?_eq_none (by omega)]

theorem updAt_self (l : List α) (i : Nat) (a : α) (f : α → α) (h : l[i]? = some a) :
    (updAt l i f)[i]? = some (f a) := by
  rw [updAt_getElem?, if_pos rfl, h]; rfl

theorem updAt_other (l : List α) (i j : Nat) (f : α → α) (h : j ≠ i) : (updAt l i f)[j]? = l[j]? := by
  rw [updAt_getElem?, if_neg h]

theorem mem_updAt {l : List α} {i : Nat} {f : α → α} {x : α} (h : x ∈ updAt l i f) :
    x ∈ l ∨ ∃ y, l[i]? = some y ∧ x = f y := by
  obtain ⟨j, hj⟩ := List.mem_iff_getElem?.1 h
  rw [updAt_getElem?] at hj
  split at hj
  · subst_vars
    cases hl : l[j]? with
    | none => simp [hl] at hj
    | some y => simp only [hl, Option.map_some, Option.some.injEq] at hj; exact .inr ⟨y, rfl, hj.symm⟩
  · exact .inl (List.mem_of_getElem? hj)

theorem updAt_id (l : List α) (i : Nat) : updAt l i (fun x => x) = l :=
  List.ext_getElem? fun j => by rw [updAt_getElem?]; split <;> simp

theorem updAt_of_none {l : List α} {i : Nat} (f : α → α) (h : l[i]? = none) : updAt l i f = l :=
  List.ext_getElem? fun j => by
    rw [updAt_getElem?]
    split
    · subst_vars; simp [h]
    · rfl

theorem updAt_const (l : List α) (i : Nat) (a : α) (f : α → α) (h : l[i]? = some a) :
    updAt l i (fun _ => f a) = updAt l i f :=
  List.ext_getElem? fun j => by
    rw [updAt_getElem?, updAt_getElem?]
    split
    · subst_vars; simp [h]
    · rfl

theorem updAt_id_of_get (l : List α) (i : Nat) (a : α) (h : l[i]? = some a) : updAt l i (fun _ => a) = l :=
  (updAt_const l i a (fun x => x) h).trans (updAt_id l i)

theorem updAt_updAt (l : List α) (i : Nat) (f g : α → α) :
    updAt (updAt l i f) i g = updAt l i (fun x => g (f x)) := by
  induction l generalizing i with
  | nil => rfl
  | cons a t ih => cases i <;> simp [updAt, ih]

theorem updAt_append_last (l : List α) (a : α) (f : α → α) : updAt (l ++ [a]) l.length f = l ++ [f a] := by
  induction l with
  | nil => rfl
  | cons x t ih => simp [updAt, ih]

theorem map_updAt (f : α → β) (l : List α) (i : Nat) (g : α → α) (g' : β → β) (h : ∀ a, f (g a) = g' (f a)) :
    (updAt l i g).map f = updAt (l.map f) i g' := by
  induction l generalizing i with
  | nil => rfl
  | cons a t ih => cases i <;> simp [updAt, h, ih]

theorem map_updAt_const (f : α → β) (l : List α) (i : Nat) (a : α) :
    (updAt l i (fun _ => a)).map f = updAt (l.map f) i (fun _ => f a) :=
  map_updAt f l i _ _ fun _ => rfl

theorem zipIdx_updAt (l : List α) (j i : Nat) (f : α → α) :
    (updAt l j f).zipIdx i = (l.zipIdx i).map (fun p => if p.2 = i + j then (f p.1, p.2) else p) := by
  refine List.ext_getElem? fun n => ?_
  simp only [List.getElem?_zipIdx, List.getElem?_map, updAt_getElem?]
  split
  · subst_vars; cases l[n]? <;> simp
  · cases l[n]? <;> simp [*]

theorem map_ite_eq_updAt (key : α → Nat) (L : List α) (hs : L.Pairwise (fun x y => key x < key y))
    (n : Nat) (a : α) (h : L[n]? = some a) (f : α → β) (G : β → β) :
    L.map (fun p => if key p = key a then G (f p) else f p) = updAt (L.map f) n G := by
  refine List.ext_getElem? fun m => ?_
  rw [List.getElem?_map, updAt_getElem?, List.getElem?_map]
  by_cases hm : m = n
  · subst hm; simp [h]
  · cases hq : L[m]? with
    | none => simp [hm]
    | some q =>
      obtain ⟨hm', em⟩ := List.getElem?_eq_some_iff.1 hq
      obtain ⟨hn', en⟩ := List.getElem?_eq_some_iff.1 h
      have : key q ≠ key a := by
        rcases Nat.lt_or_gt_of_ne hm with lt | lt
        · have := List.pairwise_iff_getElem.1 hs m n hm' hn' lt; rw [em, en] at this; omega
        · have := List.pairwise_iff_getElem.1 hs n m hn' hm' lt; rw [em, en] at this; omega
      simp [hm, this]

theorem pairwise_snoc {R : α → α → Prop} {l : List α} {x : α} (h : l.Pairwise R)
    (hx : ∀ a ∈ l, R a x) : (l ++ [x]).Pairwise R := by
  rw [List.pairwise_append]
  exact ⟨h, by simp, fun a ha b hb => List.mem_singleton.1 hb ▸ hx a ha⟩

theorem map_getD_range (l : List α) (d : α) : (List.range l.length).map (fun i => l.getD i d) = l := by
  apply List.ext_getElem?
  intro i
  by_cases h : i < l.length <;> simp [h]

theorem zipIdx_pairwise (l : List α) (i : Nat) : (l.zipIdx i).Pairwise (fun a b => a.2 < b.2) := by
  have := List.pairwise_lt_range' (s := i) (n := l.length)
  rwa [← List.zipIdx_map_snd i l, List.pairwise_map] at this

theorem take_succ_append_cons (a b : List α) (r : α) : (a ++ r :: b).take (a.length + 1) = a ++ [r] := by
  rw [List.take_append, List.take_of_length_le (Nat.le_succ _), Nat.add_sub_cancel_left]; rfl

theorem Except.bind_eq_ok {ε : Type} {x : Except ε α} {f : α → Except ε β} {b : β} :
    (x >>= f) = .ok b ↔ ∃ a, x = .ok a ∧ f a = .ok b := by
  cases x <;> simp [bind, Except.bind]

theorem sorted_ext (l1 l2 : List (Nat × α))
    (h1 : l1.Pairwise (fun x y => x.1 < y.1)) (h2 : l2.Pairwise (fun x y => x.1 < y.1))
    (hm : ∀ x, x ∈ l1 ↔ x ∈ l2) : l1 = l2 :=
  have nodup : ∀ {l : List (Nat × α)}, l.Pairwise (fun x y => x.1 < y.1) → l.Nodup :=
    fun h => List.Pairwise.imp (S := (· ≠ ·)) (fun {a b} hab (e : a = b) => Nat.lt_irrefl b.1 (e ▸ hab)) h
  List.Perm.eq_of_pairwise (fun _ _ _ _ hab hba => absurd hab (Nat.lt_asymm hba)) h1 h2
    ((List.perm_ext_iff_of_nodup (nodup h1) (nodup h2)).mpr hm)

theorem xle_trans {a b c : XVal} (h1 : a.le b = true) (h2 : b.le c = true) : a.le c = true := by
  cases a <;> cases b <;> cases c <;> simp_all [XVal.le]
  exact Rat.le_trans h1 h2

theorem xle_refl (a : XVal) (h : a ≠ .nan) : a.le a = true := by
  cases a <;> simp [XVal.le] at h ⊢

theorem xle_total (a b : XVal) (ha : a ≠ .nan) (hb : b ≠ .nan) : a.le b = true ∨ b.le a = true := by
  cases a <;> cases b <;> simp [XVal.le] at ha hb ⊢
  exact Rat.le_total

theorem xle_antisymm {a b : XVal} (h1 : a.le b = true) (h2 : b.le a = true) : a = b := by
  cases a <;> cases b <;> simp_all [XVal.le]
  exact Rat.le_antisymm h1 h2

theorem tstate_beq (a b : TState) : (a == b) = decide (a = b) := by
  cases a <;> cases b <;> rfl

theorem filterMap_congr' {f g : α → Option β} {l : List α} (h : ∀ x ∈ l, f x = g x) :
    l.filterMap f = l.filterMap g := by
  induction l with
  | nil => rfl
  | cons a t ih =>
    rw [List.filterMap_cons, List.filterMap_cons, h a (by simp), ih fun x hx => h x (List.mem_cons_of_mem a hx)]

theorem zipIdx_filterMap_range (f : Nat → Option β) (n : Nat) :
    (((List.range n).map f).zipIdx).filterMap (fun p => p.1.map (fun st => (p.2, st))) =
      (List.range n).filterMap (fun i => (f i).map (fun st => (i, st))) := by
  induction n with
  | zero => rfl
  | succ n ih =>
    rw [List.range_succ, List.map_append, List.zipIdx_append, List.filterMap_append, List.filterMap_append, ih]
    cases hf : f n <;> simp [hf]

theorem filter_drop_of_prefix_false (P : α → Bool) (l : List α) (c : Nat)
    (h : ∀ (j : Nat) (a : α), j < c → l[j]? = some a → P a = false) :
    (l.drop c).filter P = l.filter P := by
  conv => rhs; rw [← List.take_append_drop c l]
  rw [List.filter_append]
  have : (l.take c).filter P = [] := by
    rw [List.filter_eq_nil_iff]
    intro a ha
    obtain ⟨j, hj⟩ := List.getElem?_of_mem ha
    rw [List.getElem?_take] at hj
    split at hj
    · rename_i hlt
      simp [h j a hlt hj]
    · cases hj
  rw [this, List.nil_append]

theorem filter_head_index (P : α → Bool) (l : List α) (p : α) (rest : List α)
    (h : l.filter P = p :: rest) :
    ∃ i : Nat, l[i]? = some p ∧ ∀ (j : Nat) (a : α), j < i → l[j]? = some a → P a = false := by
  induction l with
  | nil => simp at h
  | cons a r ih =>
    rw [List.filter_cons] at h
    split at h
    · simp only [List.cons.injEq] at h
      obtain ⟨h1, _⟩ := h
      subst h1
      exact ⟨0, by simp, by intro j b hj; omega⟩
    · rename_i hp
      obtain ⟨i, hi, hall⟩ := ih h
      refine ⟨i + 1, by simpa using hi, ?_⟩
      intro j b hj hb
      cases j with
      | zero => simp at hb; subst hb; simpa using hp
      | succ j => exact hall j b (by omega) (by simpa using hb)

/-- the counting form in which C19 says that a trial is failed, called back for and retried once, and which
`List.nodup_iff_count` makes of C04's duplicate-free claims -/
theorem eq_of_countP_le_one {p : α → Bool} {l : List α} (h : l.countP p ≤ 1) {a b : α}
    (ha : a ∈ l) (hb : b ∈ l) (pa : p a = true) (pb : p b = true) : a = b := by
  have ma : a ∈ l.filter p := List.mem_filter.2 ⟨ha, pa⟩
  have mb : b ∈ l.filter p := List.mem_filter.2 ⟨hb, pb⟩
  rw [List.countP_eq_length_filter] at h
  match l.filter p, ma, mb, h with
  | [c], ma, mb, _ => exact (List.mem_singleton.1 ma).trans (List.mem_singleton.1 mb).symm
  | _ :: _ :: _, _, _, h => simp at h

theorem eq_lookup {κ β : Type} [DecidableEq κ] {f : List (κ × β) → κ → Option β} (h0 : ∀ k, f [] k = none)
    (h1 : ∀ s v t k, f ((s, v) :: t) k = if s = k then some v else f t k) (l : List (κ × β)) (k : κ) :
    f l k = l.lookup k := by
  induction l with
  | nil => exact h0 k
  | cons p t ih =>
    obtain ⟨s, v⟩ := p
    rw [h1, List.lookup_cons, ih]
    by_cases h : s = k
    · rw [if_pos h, h, beq_self_eq_true]
    · rw [if_neg h, beq_false_of_ne (Ne.symm h)]

namespace AList

theorem get?_nil (k : String) : get? ([] : AList α) k = none := rfl
theorem get?_cons (k' : String) (v : α) (t : AList α) (k : String) :
    get? ((k', v) :: t) k = if k' = k then some v else get? t k := rfl
theorem set_nil (k : String) (v : α) : set ([] : AList α) k v = [(k, v)] := rfl
theorem set_cons (k' : String) (v' : α) (t : AList α) (k : String) (v : α) :
    set ((k', v') :: t) k v = if k' = k then (k, v) :: t else (k', v') :: set t k v := rfl

theorem get?_eq_lookup (l : AList α) (k : String) : l.get? k = l.lookup k :=
  eq_lookup (fun _ => rfl) (fun _ _ _ _ => rfl) l k

theorem mem_of_get? {l : AList α} {k : String} {v : α} (h : l.get? k = some v) : (k, v) ∈ l := by
  rw [get?_eq_lookup, List.lookup_eq_some_iff] at h
  obtain ⟨l₁, l₂, rfl, _⟩ := h
  simp

theorem get?_isSome_of_mem (l : AList α) (k : String) (h : k ∈ l.map (·.1)) : ∃ v, get? l k = some v := by
  rw [get?_eq_lookup, ← Option.isSome_iff_exists, List.lookup_isSome_iff]
  obtain ⟨p, hp, rfl⟩ := List.mem_map.1 h
  exact ⟨p, hp, beq_self_eq_true _⟩

theorem get?_none_of_not_mem (l : AList α) (k : String) (h : ∀ p ∈ l, p.1 ≠ k) : l.get? k = none := by
  rw [get?_eq_lookup, List.lookup_eq_none_iff]
  exact fun p hp => by simpa [bne_iff_ne] using (h p hp).symm

theorem set_of_not_mem (l : AList α) (k : String) (v : α) (h : ∀ p ∈ l, p.1 ≠ k) : l.set k v = l ++ [(k, v)] := by
  induction l with
  | nil => rfl
  | cons hd t ih =>
    obtain ⟨k', v'⟩ := hd
    rw [set_cons, if_neg (h (k', v') (List.mem_cons_self ..)), ih fun p hp => h p (List.mem_cons_of_mem _ hp)]
    rfl

theorem keys_set (l : AList α) (k : String) (v : α) :
    (l.set k v).map Prod.fst = if k ∈ l.map Prod.fst then l.map Prod.fst else l.map Prod.fst ++ [k] := by
  induction l with
  | nil => rfl
  | cons hd t ih =>
    obtain ⟨k', v'⟩ := hd
    by_cases hk : k' = k
    · subst hk; simp [set_cons]
    · have hk' : ¬ k = k' := fun e => hk e.symm
      simp only [set_cons, if_neg hk, List.map_cons, List.mem_cons, hk', false_or, ih]
      split <;> rfl

theorem nodup_keys_set {l : AList α} (h : (l.map Prod.fst).Nodup) (k : String) (v : α) :
    ((l.set k v).map Prod.fst).Nodup := by
  rw [keys_set]
  split
  · exact h
  · rename_i hk
    exact List.nodup_append.mpr ⟨h, List.pairwise_singleton _ k, fun a ha b hb e =>
      hk (List.mem_singleton.1 hb ▸ e ▸ ha)⟩

end AList

theorem AList.filter_set (l : AList α) (k : String) (v : α) (p : String → Bool) :
    (l.set k v).filter (fun x => p x.1) =
      if p k then AList.set (l.filter (fun x => p x.1)) k v else l.filter (fun x => p x.1) := by
  fun_induction AList.set l k v <;> by_cases hp : p k <;> simp_all [AList.set, List.filter_cons]
  split <;> simp [AList.set, *]

theorem length_le_one_of_pairwise_false {α : Type} (l : List α) (R : α → α → Prop) (h : l.Pairwise R)
    (hf : ∀ a ∈ l, ∀ b ∈ l, ¬ R a b) : l.length ≤ 1 := by
  match l, h with
  | [], _ => simp
  | [_], _ => simp
  | a :: b :: t, h =>
    have := (List.pairwise_cons.mp h).1 b (by simp)
    exact absurd this (hf a (by simp) b (by simp))

end OptunaVerif
