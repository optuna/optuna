import OptunaVerif.Lemmas.CacheInv
/-! The invariant of a whole `_CachedStorage` object (entries + the two memo dicts) and its
preservation by a backend step and by the sync section (`sync_ok`, `sync_err`); the other critical sections follow in
`Lemmas/CacheCalls.lean`. -/
namespace OptunaVerif.Cache
open OptunaVerif.Storage OptunaVerif.C01

theorem find_entryD_trials (m : List (Nat × Entry)) (sid n : Nat) (v : Nat × TrialS) :
    find (entryD m sid).trials n = some v ↔ ∃ e, find m sid = some e ∧ find e.trials n = some v := by
  unfold entryD; cases find m sid <;> simp [Entry.empty, find]

/-- The two memo dicts index ONE table, `sid, n ↦ find (entryD c.studies sid).trials n` (a critical section is followed through
what it does to that table and to each dict): what the table holds are snapshots of backend records of that study and number,
each filed in the number memo; the id memo points into the table, the number memo at backend records. -/
structure Maps (s : Spec) (c : Client) : Prop where
  static : ∀ sid, Static s sid (entryD c.studies sid)
  nums : ∀ sid n tid t, find (entryD c.studies sid).trials n = some (tid, t) → find c.sn2id (sid, n) = some tid
  ids : ∀ tid sid n, find c.id2sn tid = some (sid, n) → ∃ t, find (entryD c.studies sid).trials n = some (tid, t)
  m3 : ∀ sid n tid, find c.sn2id (sid, n) = some tid →
    ∃ t', s.trials[tid]? = some t' ∧ t'.study = sid ∧ t'.number = n

/-- The invariant of the `C08.cache_covers_*` theorems for a `_CachedStorage`: every entry satisfies `EntryInv`, and the memo dicts
are consistent with the entries and the backend. -/
structure Inv (s : Spec) (c : Client) : Prop where
  entries : ∀ sid e, find c.studies sid = some e → EntryInv s sid e
  m1 : ∀ tid sid n, find c.id2sn tid = some (sid, n) →
    ∃ e t, find c.studies sid = some e ∧ find e.trials n = some (tid, t)
  m2 : ∀ sid e n tid t, find c.studies sid = some e → find e.trials n = some (tid, t) →
    find c.sn2id (sid, n) = some tid
  m3 : ∀ sid n tid, find c.sn2id (sid, n) = some tid →
    ∃ t', s.trials[tid]? = some t' ∧ t'.study = sid ∧ t'.number = n

theorem Inv.maps {s : Spec} {c : Client} (h : Inv s c) : Maps s c := by
  refine ⟨fun sid n tid t hf => ?_, fun sid n tid t hf => ?_, fun tid sid n hf => ?_, h.m3⟩
  · obtain ⟨e, he, hf⟩ := (find_entryD_trials _ _ _ _).1 hf
    exact (h.entries sid e he).static n tid t hf
  · obtain ⟨e, he, hf⟩ := (find_entryD_trials _ _ _ _).1 hf
    exact h.m2 sid e n tid t he hf
  · obtain ⟨e, t, g1, g2⟩ := h.m1 tid sid n hf
    exact ⟨t, (find_entryD_trials _ _ _ _).2 ⟨e, g1, g2⟩⟩

theorem Maps.m1 {s : Spec} {c : Client} (h : Maps s c) (tid sid n : Nat) (hf : find c.id2sn tid = some (sid, n)) :
    ∃ e t, find c.studies sid = some e ∧ find e.trials n = some (tid, t) :=
  let ⟨t, g⟩ := h.ids tid sid n hf
  let ⟨e, g1, g2⟩ := (find_entryD_trials _ _ _ _).1 g
  ⟨e, t, g1, g2⟩

theorem Maps.m2 {s : Spec} {c : Client} (h : Maps s c) (sid : Nat) (e : Entry) (n tid : Nat) (t : TrialS)
    (he : find c.studies sid = some e) (hf : find e.trials n = some (tid, t)) : find c.sn2id (sid, n) = some tid :=
  h.nums sid n tid t ((find_entryD_trials _ _ _ _).2 ⟨e, he, hf⟩)

theorem inv_init (s : Spec) : Inv s Client.init := by
  refine ⟨?_, ?_, ?_, ?_⟩ <;> intros <;> simp_all [Client.init, find]

theorem inv_step (s : Spec) (op : Op) (c : Client) (h : Inv s c) : Inv (step s op).1 c := by
  refine ⟨fun sid e he => entryInv_step s op sid e (h.entries sid e he), h.m1, h.m2, ?_⟩
  intro sid n tid hf
  obtain ⟨t', h1, h2, h3⟩ := h.m3 sid n tid hf
  obtain ⟨t1, g1, g2, g3⟩ := trial_study_step s op tid t' h1
  exact ⟨t1, g1, g2.trans h2, g3.trans h3⟩

theorem entryInv_entryD (s : Spec) (c : Client) (h : Inv s c) (sid : Nat) :
    EntryInv s sid (entryD c.studies sid) := by
  unfold entryD
  cases hf : find c.studies sid with
  | none => exact entryInv_empty s sid
  | some e => exact h.entries sid e hf

theorem maps_upsert (s : Spec) (c : Client) (sid : Nat) (f : Entry → Entry)
    (hf : ∀ n, find (f (entryD c.studies sid)).trials n = find (entryD c.studies sid).trials n) (h : Maps s c) :
    Maps s { c with studies := upsert c.studies sid f } := by
  have hv : ∀ sid2 n, find (entryD (upsert c.studies sid f) sid2).trials n = find (entryD c.studies sid2).trials n := by
    intro sid2 n
    rw [entryD_upsert]; split
    · subst_vars; exact hf n
    · rfl
  exact ⟨fun sid2 n => by rw [hv]; exact h.static sid2 n, by simpa only [hv] using h.nums,
    by simpa only [hv] using h.ids, h.m3⟩

theorem maps_upsert_sameTrials (s : Spec) (c : Client) (sid : Nat) (f : Entry → Entry)
    (hf : ∀ e, (f e).trials = e.trials) (h : Maps s c) :
    Maps s { c with studies := upsert c.studies sid f } :=
  maps_upsert s c sid f (fun n => by rw [hf]) h

/-- `if study_id not in self._studies: self._studies[study_id] = _StudyInfo()` keeps everything. -/
theorem maps_touch (s : Spec) (c : Client) (sid : Nat) (h : Maps s c) :
    Maps s { c with studies := upsert c.studies sid id } :=
  maps_upsert_sameTrials s c sid id (fun _ => rfl) h

theorem Inv.rewrite {s : Spec} {c c' : Client} (h : Inv s c) (hm : Maps s c') (sid : Nat) (e' : Entry)
    (he : EntryInv s sid e')
    (hfind : ∀ sid2, find c'.studies sid2 = if sid2 = sid then some e' else find c.studies sid2) : Inv s c' := by
  refine ⟨fun sid2 e hf => ?_, hm.m1, hm.m2, hm.m3⟩
  rw [hfind] at hf
  split at hf
  · cases hf; subst_vars; exact he
  · exact h.entries sid2 e hf

theorem inv_touch (s : Spec) (c : Client) (sid : Nat) (h : Inv s c) :
    Inv s { c with studies := upsert c.studies sid id } :=
  h.rewrite (maps_touch s c sid h.maps) sid _ (entryInv_entryD s c h sid) (fun _ => find_upsert ..)

/-- `p` is a (possibly out-of-date) snapshot of the backend record `p.1`, which belongs to study `sid`
and carries the number the snapshot shows (study and number of a record never change). -/
def Filed (s : Spec) (sid : Nat) (p : Nat × TrialS) : Prop :=
  ∃ t', s.trials[p.1]? = some t' ∧ t'.study = sid ∧ t'.number = p.2.number

theorem Current.filed {s : Spec} {sid : Nat} {p : Nat × TrialS} (h : Current s sid p) : Filed s sid p :=
  ⟨p.2, h.1, h.2, rfl⟩

theorem addOne_entryD (c : Client) (sid sid2 : Nat) (p : Nat × TrialS) :
    entryD (c.addOne sid p).studies sid2 =
      if sid2 = sid then (entryD c.studies sid).addTrial p else entryD c.studies sid2 :=
  entryD_upsert c.studies sid sid2 (fun e => e.addTrial p)

/-- `_add_trials_to_cache` writes one place of the table and one key of each memo dict; a number of the study that was cached
before belongs to another record (`numbered_unique`), so the id memo of every other id still points at its own snapshot. -/
theorem maps_addOne (s : Spec) (hN : Numbered s) (c : Client) (sid : Nat) (p : Nat × TrialS)
    (h : Maps s c) (hp : Filed s sid p) : Maps s (c.addOne sid p) := by
  obtain ⟨tb, hcur, hsid, hnum⟩ := hp
  have hv : ∀ sid2 n2, find (entryD (c.addOne sid p).studies sid2).trials n2 =
      if sid2 = sid ∧ n2 = p.2.number then some p else find (entryD c.studies sid2).trials n2 := by
    intro sid2 n2
    rw [addOne_entryD]
    by_cases hs : sid2 = sid
    · subst hs; simp [find_insert]
    · simp [hs]
  refine ⟨fun sid2 => ?_, fun sid2 n2 tid2 t2 hf => ?_, fun tid2 sid2 n2 hf => ?_, fun sid2 n2 tid2 hf => ?_⟩
  · rw [addOne_entryD]; split
    · rename_i hs
      rw [hs]
      exact static_addTrial s sid _ p tb (h.static sid) hcur hsid hnum
    · exact h.static sid2
  · rw [hv] at hf
    simp only [Client.addOne, find_insert, Prod.mk.injEq]
    split at hf
    · rename_i hk
      cases hf
      rw [if_pos hk]
    · rename_i hk
      rw [if_neg hk]
      exact h.nums sid2 n2 tid2 t2 hf
  · rw [hv]
    simp only [Client.addOne, find_insert] at hf
    split at hf
    · cases hf; subst_vars
      exact ⟨p.2, by simp⟩
    · rename_i ht
      obtain ⟨t2, g⟩ := h.ids tid2 sid2 n2 hf
      refine ⟨t2, ?_⟩
      rw [if_neg, g]
      rintro ⟨rfl, rfl⟩
      obtain ⟨t', k1, k2, k3, _⟩ := h.static _ _ _ _ g
      exact ht (numbered_unique s hN k1 hcur (k2.trans hsid.symm) (k3.trans hnum.symm))
  · exact forall_find_insert (P := fun k v => ∃ t', s.trials[v]? = some t' ∧ t'.study = k.1 ∧ t'.number = k.2)
      _ _ _ ⟨tb, hcur, hsid, hnum⟩ (fun k v => h.m3 k.1 k.2 v) (sid2, n2) tid2 hf

theorem addOne_studies_other (c : Client) (sid sid2 : Nat) (p : Nat × TrialS) (h : sid2 ≠ sid) :
    find (c.addOne sid p).studies sid2 = find c.studies sid2 := by
  simp [Client.addOne, find_upsert, h]

theorem foldl_addOne (s : Spec) (hN : Numbered s) (sid : Nat) (l : List (Nat × TrialS)) (c : Client)
    (h : Maps s c) (hcur : ∀ p, p ∈ l → Current s sid p) :
    Maps s (l.foldl (Client.addOne sid) c) ∧
      entryD (l.foldl (Client.addOne sid) c).studies sid = l.foldl Entry.addTrial (entryD c.studies sid) ∧
      ∀ sid2, sid2 ≠ sid → find (l.foldl (Client.addOne sid) c).studies sid2 = find c.studies sid2 := by
  induction l generalizing c with
  | nil => exact ⟨h, rfl, fun _ _ => rfl⟩
  | cons p r ih =>
    have hp := hcur p List.mem_cons_self
    obtain ⟨i1, i2, i3⟩ := ih (c.addOne sid p) (maps_addOne s hN c sid p h hp.filed)
      (fun q hq => hcur q (List.mem_cons_of_mem _ hq))
    refine ⟨i1, ?_, ?_⟩
    · simp only [List.foldl_cons]
      rw [i2, addOne_entryD, if_pos rfl]
    · intro sid2 hne
      simp only [List.foldl_cons]
      rw [i3 sid2 hne, addOne_studies_other c sid sid2 p hne]

theorem fetchRdb_ok (s : Spec) (sid : Nat) (inc : List Nat) (w : Int) (l : List (Nat × TrialS))
    (h : fetchRdb s sid inc w = .ok l) :
    (s.study? sid).isSome = true ∧ l = servicerFilter inc w (s.trialsOf sid) := by
  unfold fetchRdb at h
  split at h
  · simp at h
  · rename_i st hst
    simp only [Except.ok.injEq] at h
    rw [rdbFilter_eq_servicerFilter] at h
    exact ⟨by simp [hst], h.symm⟩

theorem fetchRdb_error (s : Spec) (sid : Nat) (inc : List Nat) (w : Int) (err : Err)
    (h : fetchRdb s sid inc w = .error err) : s.study? sid = none ∧ err = .keyError := by
  unfold fetchRdb at h
  split at h
  · rename_i hst
    simp only [Except.error.injEq] at h
    exact ⟨hst, h.symm⟩
  · simp at h

theorem fetched_current (s : Spec) (sid : Nat) (inc : List Nat) (w : Int) :
    ∀ p, p ∈ servicerFilter inc w (s.trialsOf sid) → Current s sid p := by
  intro p hp
  obtain ⟨h1, _⟩ := (mem_servicerFilter inc w _ p).1 hp
  exact (mem_trialsOf s sid p.1 p.2).1 h1

theorem fetched_all (s : Spec) (sid : Nat) (inc : List Nat) (w : Int) :
    ∀ (tid : Nat) (t : TrialS), s.trials[tid]? = some t → t.study = sid →
      (tid ∈ inc ∨ ((tid : Nat) : Int) > w) → (tid, t) ∈ servicerFilter inc w (s.trialsOf sid) := by
  intro tid t ht hs hc
  rw [mem_servicerFilter]
  exact ⟨(mem_trialsOf s sid tid t).2 ⟨ht, hs⟩, hc.symm⟩

theorem foldl_noteState_trials (l : List (Nat × TrialS)) (e : Entry) :
    (l.foldl Entry.noteState e).trials = e.trials := by
  induction l generalizing e with
  | nil => rfl
  | cons q r ih => simp only [List.foldl_cons]; rw [ih]; simp

theorem foldl_addOne_isSome (sid : Nat) (r : List (Nat × TrialS)) (c : Client)
    (h : (find c.studies sid).isSome = true) :
    (find (r.foldl (Client.addOne sid) c).studies sid).isSome = true := by
  induction r generalizing c with
  | nil => exact h
  | cons q r ih => exact ih _ (by simp [Client.addOne, find_upsert])

theorem sync_ok (s : Spec) (hN : Numbered s) (c : Client) (sid : Nat) (c' : Client) (h : Inv s c)
    (hs : c.sync s sid = (c', none)) :
    (s.study? sid).isSome = true ∧ Inv s c' ∧ AllFresh s sid (entryD c'.studies sid) ∧
      ∀ sid2, sid2 ≠ sid → find c'.studies sid2 = find c.studies sid2 := by
  unfold Client.sync at hs
  simp only [entryD_upsert_id] at hs
  split at hs
  · simp at hs
  · rename_i l hl
    obtain ⟨hlive, hleq⟩ := fetchRdb_ok s sid _ _ l hl
    cases hs
    have hcur : ∀ p, p ∈ l → Current s sid p := hleq ▸ fetched_current s sid _ _
    obtain ⟨f1, f2, f3⟩ := foldl_addOne s hN sid l _ (maps_touch s c sid h.maps) hcur
    rw [entryD_upsert_id] at f2
    obtain ⟨a1, a2⟩ := absorb_spec s hN sid (entryD c.studies sid) l (entryInv_entryD s c h sid) hcur
      (hleq ▸ fetched_all s sid _ _)
    -- the section has rewritten the entry of `sid` to the absorbed one and no other
    have hentry : ∀ sid2, find (upsert (l.foldl (Client.addOne sid) { c with studies := upsert c.studies sid id }).studies
        sid (fun e => l.foldl Entry.noteState e)) sid2 =
        if sid2 = sid then some ((entryD c.studies sid).absorb l) else find c.studies sid2 := by
      intro sid2
      rw [find_upsert]
      split
      · rw [f2, ← absorb2_eq_absorb]; rfl
      · rename_i hne
        rw [f3 sid2 hne, find_upsert, if_neg hne]
    refine ⟨hlive, h.rewrite (maps_upsert_sameTrials s _ sid _ (foldl_noteState_trials l) f1) sid _ a1 hentry, ?_,
      fun sid2 hne => by rw [hentry, if_neg hne]⟩
    rw [entryD, hentry, if_pos rfl]
    exact a2

theorem sync_err (s : Spec) (c : Client) (sid : Nat) (c' : Client) (err : Err) (h : Inv s c)
    (hs : c.sync s sid = (c', some err)) :
    s.study? sid = none ∧ err = .keyError ∧ Inv s c' := by
  unfold Client.sync at hs
  simp only [entryD_upsert_id] at hs
  split at hs
  · rename_i e he
    simp only [Prod.mk.injEq, Option.some.injEq] at hs
    obtain ⟨h1, h2⟩ := fetchRdb_error s sid _ _ e he
    rw [← hs.1, ← hs.2]
    exact ⟨h1, h2, inv_touch s c sid h⟩
  · simp at hs

theorem sync_err_key (s : Spec) (c : Client) (sid : Nat) (e : Err) (h : (c.sync s sid).2 = some e) : e = .keyError := by
  unfold Client.sync at h
  simp only [] at h
  split at h
  · rename_i err hf
    cases h
    exact (fetchRdb_error _ _ _ _ _ hf).2
  · cases h

theorem sync_ok_entry (s : Spec) (c : Client) (sid : Nat) (h : (c.sync s sid).2 = none) :
    ∃ e', find (c.sync s sid).1.studies sid = some e' := by
  unfold Client.sync at h ⊢
  simp only [] at h ⊢
  split
  · rename_i err hf; rw [hf] at h; simp at h
  · exact ⟨_, by simp only []; exact find_upsert_same _ _ _⟩

end OptunaVerif.Cache
