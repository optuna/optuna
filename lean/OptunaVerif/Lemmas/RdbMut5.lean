import OptunaVerif.Lemmas.RdbMut4
/-! Refinement, part 7: `set_trial_state_values` (values written objective by objective, then the single
conditional UPDATE).  Core Lean only. -/
namespace OptunaVerif.Rdb
open OptunaVerif.Storage

theorem valuesView_kv (s : State) (tid : Nat) :
    s.valuesView tid = match Tbl.kv id s.values tid with
      | [] => none
      | l => some (l.filterMap (fun p => decV p.2)) := by
  unfold State.valuesView Tbl.kv
  cases Tbl.ofOwner s.values tid with
  | nil => rfl
  | cons x rest =>
    show some ((x :: rest).filterMap (fun r => decV r.val)) =
      some (((x :: rest).map (fun r => (r.key, id r.val))).filterMap (fun p => decV p.2))
    rw [List.filterMap_map]
    rfl

theorem decode_written (l : List XVal) (i : Nat) :
    ((l.zipIdx i).map (fun p => (p.2, encV p.1))).filterMap (fun p => decV p.2) = l := by
  induction l generalizing i with
  | nil => rfl
  | cons v t ih => simp [List.zipIdx_cons, decV_encV, ih (i + 1)]

/-- an empty list writes no row, and no row reads back as `None` -/
theorem valuesView_written (s s' : State) (ht : TblInv s.values s.nValue) (tid : Nat)
    (hempty : Tbl.ofOwner s.values tid = []) (vs : Option (List XVal)) (hne : vs ≠ some [])
    (hs' : s'.values = (Tbl.bulk s.values s.nValue tid (writtenValues vs)).1) : s'.valuesView tid = vs := by
  have hd : (writtenValues vs).Pairwise (fun a b => a.1 ≠ b.1) := by
    cases vs with
    | none => exact List.Pairwise.nil
    | some l =>
      unfold writtenValues
      rw [List.pairwise_map]
      exact (zipIdx_pairwise l 0).imp (fun hab => Nat.ne_of_lt hab)
  rw [valuesView_kv, hs', Tbl.kv_bulk_new id _ _ ht tid _ hd hempty,
    show (writtenValues vs).map (fun p => (p.1, id p.2)) = writtenValues vs from List.map_id' _]
  cases vs with
  | none => rfl
  | some l =>
    cases l with
    | nil => exact absurd rfl hne
    | cons v rest =>
      have := decode_written (v :: rest) 0
      simp only [writtenValues, List.zipIdx_cons, List.map_cons] at this ⊢
      rw [this]

theorem trialStudy?_map (s : State) (g : TrialRow → TrialRow) (hg : ∀ x, (g x).id = x.id ∧ (g x).study = x.study) (i : Nat) :
    ({ s with trials := s.trials.map g } : State).trialStudy? i = s.trialStudy? i := by
  unfold State.trialStudy?
  simp only [find?_map_id _ _ (fun x => (hg x).1)]
  cases s.trials.find? (fun x => x.id == i) with
  | none => rfl
  | some x => simp [(hg x).2]

theorem paramRowOf_congr (s s' : State) (hp : s'.params = s.params) (ht : ∀ i, s'.trialStudy? i = s.trialStudy? i)
    (sid : Nat) (nm : String) (x : KRow String Param) : s'.paramRowOf sid nm x ↔ s.paramRowOf sid nm x := by
  unfold State.paramRowOf; rw [hp, ht]

theorem pdist_congr (s s' : State) (hp : s'.params = s.params) (ht : ∀ i, s'.trialStudy? i = s.trialStudy? i) :
    (∀ sid nm d1, PDist s sid nm d1 → PDist s' sid nm d1) ∧ (PC s → PC s') :=
  pdist_of_iff s s' (paramRowOf_congr s s' hp ht)

theorem sim_setTrialStateValues (r : State) (a : Spec) (h : Abs r a) (tid : Nat) (st : TState)
    (values : Option (List XVal)) (hwf : WfOp (.setTrialStateValues tid st values)) :
    StepOk r a (.setTrialStateValues tid st values) := by
  unfold StepOk
  simp only [withRaised]
  simp only [step, Storage.step]
  rcases updatable_abs r a h tid with ⟨row, h1, h2, h3⟩ | ⟨e, h1, h2⟩
  rotate_left
  · simp only [setTrialStateValues, h1, h2, commit]; exact ⟨h, by simp [Allowed]⟩
  rw [setTrialStateValues_eq r h.inv.1 tid st values row h1]
  obtain ⟨hrm, hrid⟩ := trialRow?_some r tid row h2
  have hnf : row.state.isFinished = false := (updatableTrial_ok r h.inv.1 tid row h1).2.1
  have hat : a.trial? tid = some (r.rowView row) := abs_trial_row r a h tid row h2
  have hnov : r.valuesView tid = none := by
    simpa [State.rowView, hrid] using h.unfin tid _ hat hnf
  have hempty : Tbl.ofOwner r.values tid = [] := by
    cases hq : Tbl.ofOwner r.values tid with
    | nil => rfl
    | cons x t => simp [State.valuesView, hq] at hnov
  have hstate : (r.rowView row).state = row.state := rfl
  have hne : values ≠ some [] := fun e' => by subst e'; exact hwf.1 rfl
  obtain ⟨V, N, hV, hI, hvv, hoth⟩ : ∃ V N, writeValuesNC r tid values = Except.ok { r with values := V, nValue := N } ∧
      Inv0 { r with values := V, nValue := N } ∧
      (∀ s' : State, s'.values = V → s'.valuesView tid = values) ∧ ∀ o, o ≠ tid → Tbl.ofOwner V o = Tbl.ofOwner r.values o :=
    ⟨_, _, writeValuesNC_eq r h.inv.1.values tid row h1 values,
      inv0_writtenValues r h.inv.1 tid (mem_trialIds_of_updatable r h.inv.1 tid row h1) values,
      fun s' e => valuesView_written r s' h.inv.1.values tid hempty values hne e,
      (Tbl.bulk_frame _ _ h.inv.1.values tid _).2.1⟩
  simp only [hV, h3, hstate]
  by_cases hA : (st == .running && row.state != .waiting) = true
  · -- refused claim: under the calling convention no values come with RUNNING
    have hvn : values = none := by
      simp only [Bool.and_eq_true, beq_iff_eq] at hA
      exact WfValues.none_of_unfinished hwf (by rw [hA.1]; rfl)
    subst hvn
    simp only [writeValuesNC, Except.ok.injEq] at hV
    simp only [hA, if_true, commit, ← hV]
    exact ⟨h, by simp [Allowed]⟩
  · simp only [hA, Bool.false_eq_true, if_false, commit]
    refine ⟨?_, by simp [Allowed]⟩
    have hgid : ∀ x : TrialRow, (if (x.id == tid) = true then claimRow st x else x).id = x.id ∧
        (if (x.id == tid) = true then claimRow st x else x).study = x.study := by
      intro x; split <;> exact ⟨rfl, rfl⟩
    have hcg := pdist_congr r _ (rfl : ({ r with values := V, nValue := N, trials := r.trials.map (fun x =>
        if (x.id == tid) = true then claimRow st x else x) } : State).params = r.params)
      (fun i => trialStudy?_map { r with values := V, nValue := N } _ hgid i)
    refine abs_updTrial r _ a h
      (by exact ⟨inv0_mapTrials _ hI _ hgid, numbers_mapTrials _ h.inv.2 _ (by intro x; split <;> exact ⟨rfl, rfl⟩)⟩)
      tid (fun t => { t with state := st, values := values.or t.values, hasStart := t.hasStart || st == .running, hasComplete := t.hasComplete || st.isFinished }) (fun _ => rfl)
      (fun _ => rfl) ⟨rfl, rfl⟩ hcg.1 (hcg.2 h.pc) ?_ ?_
    · refine trialView_of_map r _ tid _ _ (by rfl) (fun x => (hgid x).1) ?_
      intro row' hrow'
      by_cases e : row'.id = tid
      · simp only [e, beq_self_eq_true, if_true]
        simp only [State.rowView, State.interView, claimRow, e, hnov, Option.or_none]
        rw [hvv _ rfl]
      · have hb : (row'.id == tid) = false := by simpa using e
        simp only [hb, Bool.false_eq_true, if_false, e]
        exact rowView_congr r _ row' (hoth row'.id e) rfl rfl rfl rfl
    · intro t ht
      rw [hat] at ht
      obtain rfl := Option.some.inj ht
      refine ⟨fun hfin => ?_, fun l hl => ?_⟩
      · simp only at hfin ⊢
        rw [WfValues.none_of_unfinished hwf hfin]
        exact h.unfin tid _ hat hnf
      · simp only at hl
        cases values with
        | none => exact h.nonan tid _ l hat hl
        | some l' =>
          have hl' : l' = l := by simpa [Option.or] using hl
          subst hl'
          exact hwf.2.2

end OptunaVerif.Rdb
