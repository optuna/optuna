import OptunaVerif.Model.Proto
/-!
Helper lemmas for the wire model of the gRPC proxy (Props/C01Grpc.lean): protobuf maps (`ofList`),
the parameter join of `_from_proto_trial`, lists of trials.
-/
namespace OptunaVerif.Proto
open OptunaVerif.Storage OptunaVerif.Generated

section Map
variable {κ α : Type} [DecidableEq κ]

theorem lookup_insertBy (lt : κ → κ → Bool) (k : κ) (v : α) (l : List (κ × α)) (x : κ) :
    lookup (insertBy lt k v l) x = if k = x then some v else lookup l x := by
  induction l with
  | nil => simp [insertBy, lookup]
  | cons hd t ih =>
    obtain ⟨k', v'⟩ := hd
    simp only [insertBy]
    by_cases h1 : k' = k
    · subst h1
      simp only [if_true, lookup]
      by_cases h2 : k' = x <;> simp [h2]
    · simp only [h1, if_false]
      by_cases h2 : lt k k' = true
      · simp only [h2, if_true, lookup]
      · rw [if_neg h2]
        simp only [lookup, ih]
        by_cases h3 : k' = x
        · subst h3
          have : ¬ k = k' := fun h => h1 h.symm
          simp [this]
        · simp [h3]

theorem lookup_ofList (lt : κ → κ → Bool) (l : List (κ × α)) (x : κ) :
    lookup (ofList lt l) x = lookup l x := by
  induction l with
  | nil => rfl
  | cons hd t ih =>
    obtain ⟨k, v⟩ := hd
    show lookup (insertBy lt k v (ofList lt t)) x = lookup ((k, v) :: t) x
    rw [lookup_insertBy, ih]
    simp [lookup]

theorem mem_insertBy (lt : κ → κ → Bool) (k : κ) (v : α) (l : List (κ × α)) (p : κ × α)
    (h : p ∈ insertBy lt k v l) : p = (k, v) ∨ p ∈ l := by
  induction l with
  | nil => simp [insertBy] at h; exact Or.inl h
  | cons hd t ih =>
    obtain ⟨k', v'⟩ := hd
    simp only [insertBy] at h
    split at h
    · rcases List.mem_cons.1 h with h | h
      · exact Or.inl h
      · exact Or.inr (List.mem_cons_of_mem _ h)
    · split at h
      · exact List.mem_cons.1 h
      · rcases List.mem_cons.1 h with h | h
        · exact Or.inr (h ▸ List.mem_cons_self ..)
        · exact (ih h).imp_right (List.mem_cons_of_mem _)

theorem mem_ofList_key (lt : κ → κ → Bool) (l : List (κ × α)) (p : κ × α) (h : p ∈ ofList lt l) :
    p.1 ∈ l.map (·.1) := by
  induction l with
  | nil => simp [ofList] at h
  | cons hd t ih =>
    have h' : p ∈ insertBy lt hd.1 hd.2 (ofList lt t) := h
    rcases mem_insertBy lt _ _ _ _ h' with h | h
    · simp [h]
    · simp only [List.map_cons, List.mem_cons]
      exact Or.inr (ih h)

/-- the order a map's representative is sorted by -/
structure StrictOrder (lt : κ → κ → Bool) : Prop where
  irrefl : ∀ a, lt a a = false
  trans : ∀ a b c, lt a b = true → lt b c = true → lt a c = true
  tri : ∀ a b, lt a b = true ∨ a = b ∨ lt b a = true

def Sorted (lt : κ → κ → Bool) (l : List (κ × α)) : Prop := l.Pairwise (fun a b => lt a.1 b.1 = true)

theorem insertBy_sorted {lt : κ → κ → Bool} (ho : StrictOrder lt) (k : κ) (v : α) (l : List (κ × α))
    (h : Sorted lt l) : Sorted lt (insertBy lt k v l) := by
  induction l with
  | nil => simp [insertBy, Sorted]
  | cons hd t ih =>
    obtain ⟨k', v'⟩ := hd
    unfold Sorted at h ⊢
    rw [List.pairwise_cons] at h
    obtain ⟨hhd, ht⟩ := h
    simp only [insertBy]
    by_cases h1 : k' = k
    · subst h1
      simp only [if_true]
      exact List.pairwise_cons.2 ⟨hhd, ht⟩
    · simp only [h1, if_false]
      by_cases h2 : lt k k' = true
      · simp only [h2, if_true]
        refine List.pairwise_cons.2 ⟨?_, List.pairwise_cons.2 ⟨hhd, ht⟩⟩
        intro b hb
        rcases List.mem_cons.1 hb with hb | hb
        · subst hb; exact h2
        · exact ho.trans _ _ _ h2 (hhd b hb)
      · simp only [h2]
        have hlt : lt k' k = true := by
          rcases ho.tri k k' with h | h | h
          · exact absurd h h2
          · exact absurd h.symm h1
          · exact h
        refine List.pairwise_cons.2 ⟨?_, ih ht⟩
        intro b hb
        rcases mem_insertBy lt _ _ _ _ hb with hb | hb
        · subst hb; exact hlt
        · exact hhd b hb

theorem ofList_sorted {lt : κ → κ → Bool} (ho : StrictOrder lt) (l : List (κ × α)) : Sorted lt (ofList lt l) := by
  induction l with
  | nil => simp [ofList, Sorted]
  | cons hd t ih => exact insertBy_sorted ho hd.1 hd.2 _ ih

theorem ofList_of_sorted {lt : κ → κ → Bool} (ho : StrictOrder lt) (l : List (κ × α)) (h : Sorted lt l) :
    ofList lt l = l := by
  induction l with
  | nil => rfl
  | cons hd t ih =>
    obtain ⟨k, v⟩ := hd
    unfold Sorted at h
    rw [List.pairwise_cons] at h
    show insertBy lt k v (ofList lt t) = (k, v) :: t
    rw [ih h.2]
    cases t with
    | nil => rfl
    | cons hd2 t2 =>
      obtain ⟨k2, v2⟩ := hd2
      have hlt : lt k k2 = true := h.1 (k2, v2) (by simp)
      have hne : ¬ k2 = k := by
        intro he; subst he
        rw [ho.irrefl] at hlt; exact Bool.noConfusion hlt
      simp [insertBy, hne, hlt]

theorem ofList_idem {lt : κ → κ → Bool} (ho : StrictOrder lt) (l : List (κ × α)) :
    ofList lt (ofList lt l) = ofList lt l := ofList_of_sorted ho _ (ofList_sorted ho l)

omit [DecidableEq κ] in
theorem sorted_keys_nodup {lt : κ → κ → Bool} (ho : StrictOrder lt) (l : List (κ × α)) (h : Sorted lt l) :
    (l.map (·.1)).Nodup := by
  unfold Sorted at h
  rw [List.Nodup, List.pairwise_map]
  refine h.imp ?_
  intro a b hab he
  rw [he, ho.irrefl] at hab
  exact Bool.noConfusion hab

theorem lookup_of_mem_sorted {lt : κ → κ → Bool} (ho : StrictOrder lt) (l : List (κ × α)) (h : Sorted lt l)
    (k : κ) (v : α) (hm : (k, v) ∈ l) : lookup l k = some v := by
  induction l with
  | nil => simp at hm
  | cons hd t ih =>
    obtain ⟨k', v'⟩ := hd
    unfold Sorted at h
    rw [List.pairwise_cons] at h
    rcases List.mem_cons.1 hm with hm | hm
    · cases hm; simp [lookup]
    · have hlt : lt k' k = true := h.1 (k, v) hm
      have hne : ¬ k' = k := by
        intro he; subst he
        rw [ho.irrefl] at hlt; exact Bool.noConfusion hlt
      simp only [lookup, hne, if_false]
      exact ih h.2 hm

theorem insertBy_mapVal {β : Type} (lt : κ → κ → Bool) (g : α → β) (k : κ) (v : α) (l : List (κ × α)) :
    insertBy lt k (g v) (l.map (fun p => (p.1, g p.2))) = (insertBy lt k v l).map (fun p => (p.1, g p.2)) := by
  induction l with
  | nil => rfl
  | cons hd t ih =>
    obtain ⟨k', v'⟩ := hd
    simp only [List.map_cons, insertBy]
    by_cases h1 : k' = k
    · simp [h1]
    · simp only [h1, if_false]
      by_cases h2 : lt k k' = true
      · simp [h2]
      · simp [h2, ih]

theorem ofList_mapVal {β : Type} (lt : κ → κ → Bool) (g : α → β) (l : List (κ × α)) :
    ofList lt (l.map (fun p => (p.1, g p.2))) = (ofList lt l).map (fun p => (p.1, g p.2)) := by
  induction l with
  | nil => rfl
  | cons hd t ih =>
    show insertBy lt hd.1 (g hd.2) (ofList lt (t.map _)) = (insertBy lt hd.1 hd.2 (ofList lt t)).map _
    rw [ih, insertBy_mapVal]

theorem insertBy_perm (lt : κ → κ → Bool) (k : κ) (v : α) (l : List (κ × α)) (h : k ∉ l.map (·.1)) :
    (insertBy lt k v l).Perm ((k, v) :: l) := by
  induction l with
  | nil => simp [insertBy]
  | cons hd t ih =>
    obtain ⟨k', v'⟩ := hd
    simp only [List.map_cons, List.mem_cons, not_or] at h
    have hne : ¬ k' = k := fun he => h.1 he.symm
    simp only [insertBy, hne, if_false]
    split
    · exact List.Perm.refl _
    · exact ((ih h.2).cons (k', v')).trans (List.Perm.swap _ _ _)

theorem ofList_perm (lt : κ → κ → Bool) (l : List (κ × α)) (h : (l.map (·.1)).Nodup) :
    (ofList lt l).Perm l := by
  induction l with
  | nil => exact List.Perm.refl _
  | cons hd t ih =>
    simp only [List.map_cons, List.nodup_cons] at h
    have hk : hd.1 ∉ (ofList lt t).map (·.1) := by
      intro hm
      obtain ⟨p, hp, hpk⟩ := List.mem_map.1 hm
      exact h.1 (hpk ▸ mem_ofList_key lt t p hp)
    exact (insertBy_perm lt hd.1 hd.2 _ hk).trans ((ih h.2).cons hd)

end Map

theorem strLt_order : StrictOrder strLt where
  irrefl a := by simp [strLt]
  trans a b c h1 h2 := by
    simp only [strLt, decide_eq_true_eq] at *
    exact String.lt_trans h1 h2
  tri a b := by
    simp only [strLt, decide_eq_true_eq]
    by_cases h1 : a < b
    · exact Or.inl h1
    · by_cases h2 : b < a
      · exact Or.inr (Or.inr h2)
      · exact Or.inr (Or.inl (String.le_antisymm (String.not_lt.1 h2) (String.not_lt.1 h1)))

theorem intLt_order : StrictOrder intLt where
  irrefl a := by simp [intLt]
  trans a b c h1 h2 := by
    simp only [intLt, decide_eq_true_eq] at *
    omega
  tri a b := by
    simp only [intLt, decide_eq_true_eq]
    omega

theorem get?_eq_lookup {α : Type} (l : AList α) (k : String) : AList.get? l k = lookup l k := by
  induction l with
  | nil => rfl
  | cons hd t ih =>
    obtain ⟨k', v⟩ := hd
    simp only [AList.get?, lookup, ih]

theorem get?_smap {α : Type} (l : AList α) (k : String) : AList.get? (smap l) k = AList.get? l k := by
  rw [get?_eq_lookup, get?_eq_lookup]; exact lookup_ofList strLt l k

theorem smap_idem {α : Type} (l : AList α) : smap (smap l) = smap l := ofList_idem strLt_order l
theorem imap_idem (l : List (Int × XVal)) : imap (imap l) = imap l := ofList_idem intLt_order l

theorem joinParams_of_lookup (ds : AList Dist) (n : AList Param)
    (h : ∀ p ∈ n, lookup ds p.1 = some p.2.dist) :
    joinParams ds (n.map (fun p => (p.1, p.2.internal))) = some n := by
  induction n with
  | nil => rfl
  | cons hd t ih =>
    obtain ⟨k, p⟩ := hd
    have h1 : lookup ds k = some p.dist := h (k, p) (by simp)
    have h2 := ih (fun q hq => h q (List.mem_cons_of_mem _ hq))
    simp only [List.map_cons, joinParams, h1, h2]

theorem joinParams_smap (ps : AList Param) :
    joinParams (smap (ps.map (fun p => (p.1, p.2.dist)))) (smap (ps.map (fun p => (p.1, p.2.internal)))) = some (smap ps) := by
  unfold smap
  rw [ofList_mapVal strLt (fun (p : Param) => p.dist), ofList_mapVal strLt (fun (p : Param) => p.internal)]
  apply joinParams_of_lookup
  intro p hp
  have hs : Sorted strLt ((ofList strLt ps).map (fun q => (q.1, q.2.dist))) := by
    have := ofList_sorted strLt_order ps
    unfold Sorted at this ⊢
    rw [List.pairwise_map]
    exact this
  exact lookup_of_mem_sorted strLt_order _ hs p.1 p.2.dist (List.mem_map.2 ⟨p, hp, rfl⟩)

theorem filter_stateIn_none (l : List (Nat × TrialS)) : l.filter (fun p => stateIn none p.2.state) = l :=
  List.filter_eq_self.2 fun _ _ => rfl

theorem decodeDt_encodeDt (b : Bool) : decodeDt (encodeDt b) = b := by cases b <;> decide

theorem decode_encodeValues (v : Option (List XVal)) : decodeValues .emptyIsNone (encodeValues v) = normValues v := by
  cases v with
  | none => rfl
  | some l => cases l <;> rfl

theorem values_roundtrip (v : Option (List XVal)) :
    decodeValues GrpcTables.trialValuesDecode (encodeValues v) = normValues v := decode_encodeValues v

theorem setStateValues_roundtrip (v : Option (List XVal)) :
    decodeValues GrpcTables.setStateValuesDecode (encodeValues v) = normValues v := decode_encodeValues v

theorem state_roundtrip (s : TState) : ∃ c, stateToProto s = some c ∧ stateFromProto c = some s := by
  cases s <;> (refine ⟨_, rfl, ?_⟩; decide)

end OptunaVerif.Proto
