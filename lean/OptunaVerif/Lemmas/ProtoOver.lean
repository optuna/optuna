import OptunaVerif.Lemmas.ProtoRefine
import OptunaVerif.Lemmas.StepAnswer
/-!
The wire model of `Model/Proto.lean` with the backend abstracted (`proxyStepOver B`; `proxyStepOver ideal = proxyStep`), and the one
theorem about it that the refinements of Props/C01Grpc.lean (ideal backend) and Props/C01GrpcCompose.lean (any backend that
refines the contract) both rest on: `proxyStepOver_primary`, the wire is transparent over any backend whose answers have the shape
of the operation (`fetchTrialOver_eq` / `fetchAllOver_eq`: its two reads, which the `BaseStorage` defaults also go through).
-/

namespace OptunaVerif.C01GrpcCompose
open OptunaVerif.Storage OptunaVerif.Proto OptunaVerif.Generated
open OptunaVerif.Generated.GrpcTables (Rpc)

/-- a storage backend behind the servicer: a state and what one `BaseStorage` call does to it / answers -/
structure Backend where
  σ : Type
  step : σ → Op → σ × Out

/-- the contract model itself as a backend (what `Proto.proxyStep` hard-wires) -/
def ideal : Backend := { σ := Spec, step := Storage.step }

/-! ## the wire model over any backend (`Proto.servicer` / `fetchAll` / `fetchTrial` / `proxyStep` with `Storage.step` abstracted) -/

/-- `Proto.finish` over any state type -/
def finishO {σ : Type} (rpc : Rpc) (r : σ × Out) (f : Out → Option Reply) : σ × Resp :=
  match r.2 with
  | .err e => (r.1, .abort (abortStatus rpc e))
  | o =>
    match f o with
    | some rep => (r.1, .ok rep)
    | none => (r.1, .abort .unknown)

/-- `Proto.recv` over any state type -/
def recvO {σ : Type} (rpc : Rpc) (r : σ × Resp) (g : Reply → Option POut) : σ × POut :=
  match r.2 with
  | .abort c => (r.1, clientError rpc c)
  | .ok rep =>
    match g rep with
    | some o => (r.1, o)
    | none => (r.1, .raised .exception)

def servicerOver (B : Backend) (s : B.σ) (ir : Bool) : Req → B.σ × Resp
  | .createNewStudy dirs name =>
    finishO .createNewStudy (B.step s (.createStudy name (dirs.map dirFromProto)))
      (fun | .newId n => some (.studyId n) | _ => none)
  | .deleteStudy sid => finishO .deleteStudy (B.step s (.deleteStudy sid)) replyEmpty
  | .setStudyUserAttribute sid k v => finishO .setStudyUserAttribute (B.step s (.setStudyUserAttr sid k v)) replyEmpty
  | .setStudySystemAttribute sid k v => finishO .setStudySystemAttribute (B.step s (.setStudySystemAttr sid k v)) replyEmpty
  | .getStudyIdFromName name =>
    finishO .getStudyIdFromName (B.step s (.getStudyIdFromName name)) (fun | .nat n => some (.studyId n) | _ => none)
  | .getStudyNameFromId sid =>
    finishO .getStudyNameFromId (B.step s (.getStudyNameFromId sid)) (fun | .str n => some (.studyName n) | _ => none)
  | .getStudyDirections sid =>
    finishO .getStudyDirections (B.step s (.getStudyDirections sid))
      (fun | .nats l => some (.directions (l.map dirToProto)) | _ => none)
  | .getStudyUserAttributes sid =>
    finishO .getStudyUserAttributes (B.step s (.getStudyUserAttrs sid)) (fun | .attrs l => some (.attrs (smap l)) | _ => none)
  | .getStudySystemAttributes sid =>
    finishO .getStudySystemAttributes (B.step s (.getStudySystemAttrs sid)) (fun | .attrs l => some (.attrs (smap l)) | _ => none)
  | .getAllStudies =>
    finishO .getAllStudies (B.step s .getAllStudies) (fun | .studies l => some (.studies (l.map toProtoStudy)) | _ => none)
  | .createNewTrial sid pt isNone =>
    if isNone then
      finishO .createNewTrial (B.step s (.createTrial sid none ir)) (fun | .newId n => some (.trialId n) | _ => none)
    else
      match fromProtoTrial pt with
      | .error _ => (s, .abort .unknown)      -- `_from_proto_trial` is outside the `try`
      | .ok f =>
        finishO .createNewTrial (B.step s (.createTrial sid (some f.body) ir)) (fun | .newId n => some (.trialId n) | _ => none)
  | .setTrialParameter tid name internal dist =>
    finishO .setTrialParameter (B.step s (.setTrialParam tid name { internal := internal, dist := dist } ir)) replyEmpty
  | .getTrialIdFromStudyIdTrialNumber sid n =>
    finishO .getTrialIdFromStudyIdTrialNumber (B.step s (.getTrialIdFromNumber sid n)) (fun | .nat n => some (.trialId n) | _ => none)
  | .setTrialStateValues tid st values =>
    match stateFromProto st with
    | none => (s, .abort .unknown)            -- ValueError inside the try, no clause for it
    | some st' =>
      finishO .setTrialStateValues
        (B.step s (.setTrialStateValues tid st' (decodeValues GrpcTables.setStateValuesDecode values)))
        (fun | .bool b => some (.trialUpdated b) | _ => none)
  | .setTrialIntermediateValue tid stp v => finishO .setTrialIntermediateValue (B.step s (.setTrialInter tid stp v)) replyEmpty
  | .setTrialUserAttribute tid k v => finishO .setTrialUserAttribute (B.step s (.setTrialUserAttr tid k v)) replyEmpty
  | .setTrialSystemAttribute tid k v => finishO .setTrialSystemAttribute (B.step s (.setTrialSystemAttr tid k v)) replyEmpty
  | .getTrial tid =>
    finishO .getTrial (B.step s (.getTrial tid))
      (fun | .trial id t => (toProtoTrial (frozenOf (id, t))).map .trial | _ => none)
  | .getTrials sid inc w =>
    finishO .getTrials (B.step s (.getAllTrials sid none))
      (fun | .trials l => (toProtoTrials ((Cache.servicerFilter inc w l).map frozenOf)).map .trials | _ => none)

def fetchAllOver (B : Backend) (s : B.σ) (sid : Nat) : B.σ × Except POut (List (Nat × TrialS)) :=
  let r := servicerOver B s false (.getTrials sid [] (-1))
  match r.2 with
  | .abort c => (r.1, .error (clientError .getTrials c))
  | .ok (.trials l) =>
    match fromProtoTrials l with
    | .ok fs => (r.1, .ok (fs.map trialOfFrozen))
    | .error e => (r.1, .error (.ok (.err e)))
  | .ok _ => (r.1, .error (.raised .exception))

/-- `self.get_trial(trial_id)` through the wire -/
def fetchTrialOver (B : Backend) (s : B.σ) (tid : Nat) : B.σ × Except POut (Nat × TrialS) :=
  let r := servicerOver B s false (.getTrial tid)
  match r.2 with
  | .abort c => (r.1, .error (clientError .getTrial c))
  | .ok (.trial p) =>
    match fromProtoTrial p with
    | .ok f => (r.1, .ok (trialOfFrozen f))
    | .error e => (r.1, .error (.ok (.err e)))
  | .ok _ => (r.1, .error (.raised .exception))

def proxyStepOver (B : Backend) (s : B.σ) (uuid : String) (op : Op) : B.σ × POut :=
  match op with
  | .createStudy name dirs =>
    recvO .createNewStudy (servicerOver B s false (.createNewStudy (dirs.map dirToProto) (clientStudyName uuid name)))
      (fun | .studyId n => some (.ok (.newId n)) | _ => none)
  | .deleteStudy sid => recvO .deleteStudy (servicerOver B s false (.deleteStudy sid)) recvEmpty
  | .setStudyUserAttr sid k v => recvO .setStudyUserAttribute (servicerOver B s false (.setStudyUserAttribute sid k v)) recvEmpty
  | .setStudySystemAttr sid k v => recvO .setStudySystemAttribute (servicerOver B s false (.setStudySystemAttribute sid k v)) recvEmpty
  | .createTrial sid tmpl ir =>
    match tmpl with
    | none =>
      recvO .createNewTrial (servicerOver B s ir (.createNewTrial sid PTrial.empty true))
        (fun | .trialId n => some (.ok (.newId n)) | _ => none)
    | some t =>
      match toProtoTrial { id := -1, number := -1, body := t } with
      | none => (s, .ok (.err .valueError))
      | some pt =>
        recvO .createNewTrial (servicerOver B s ir (.createNewTrial sid pt false))
          (fun | .trialId n => some (.ok (.newId n)) | _ => none)
  | .setTrialParam tid name p ir =>
    recvO .setTrialParameter (servicerOver B s ir (.setTrialParameter tid name p.internal p.dist)) recvEmpty
  | .setTrialStateValues tid st values =>
    match stateToProto st with
    | none => (s, .ok (.err .valueError))
    | some c =>
      recvO .setTrialStateValues (servicerOver B s false (.setTrialStateValues tid c (encodeValues values)))
        (fun | .trialUpdated b => some (.ok (.bool b)) | _ => none)
  | .setTrialInter tid stp v => recvO .setTrialIntermediateValue (servicerOver B s false (.setTrialIntermediateValue tid stp v)) recvEmpty
  | .setTrialUserAttr tid k v => recvO .setTrialUserAttribute (servicerOver B s false (.setTrialUserAttribute tid k v)) recvEmpty
  | .setTrialSystemAttr tid k v => recvO .setTrialSystemAttribute (servicerOver B s false (.setTrialSystemAttribute tid k v)) recvEmpty
  | .getStudyIdFromName name =>
    recvO .getStudyIdFromName (servicerOver B s false (.getStudyIdFromName name)) (fun | .studyId n => some (.ok (.nat n)) | _ => none)
  | .getStudyNameFromId sid =>
    recvO .getStudyNameFromId (servicerOver B s false (.getStudyNameFromId sid)) (fun | .studyName n => some (.ok (.str n)) | _ => none)
  | .getStudyDirections sid =>
    recvO .getStudyDirections (servicerOver B s false (.getStudyDirections sid))
      (fun | .directions l => some (.ok (.nats (l.map dirFromProto))) | _ => none)
  | .getStudyUserAttrs sid =>
    recvO .getStudyUserAttributes (servicerOver B s false (.getStudyUserAttributes sid)) (fun | .attrs m => some (.ok (.attrs m)) | _ => none)
  | .getStudySystemAttrs sid =>
    recvO .getStudySystemAttributes (servicerOver B s false (.getStudySystemAttributes sid)) (fun | .attrs m => some (.ok (.attrs m)) | _ => none)
  | .getAllStudies =>
    recvO .getAllStudies (servicerOver B s false .getAllStudies) (fun | .studies l => some (.ok (.studies (l.map fromProtoStudy))) | _ => none)
  | .getTrialIdFromNumber sid n =>
    recvO .getTrialIdFromStudyIdTrialNumber (servicerOver B s false (.getTrialIdFromStudyIdTrialNumber sid n))
      (fun | .trialId n => some (.ok (.nat n)) | _ => none)
  | .getTrial tid =>
    match fetchTrialOver B s tid with
    | (s', .ok p) => (s', .ok (.trial p.1 p.2))
    | (s', .error o) => (s', o)
  | .getTrialNumberFromId tid =>            -- BaseStorage: `self.get_trial(trial_id).number`
    match fetchTrialOver B s tid with
    | (s', .ok p) => (s', .ok (.nat p.2.number))
    | (s', .error o) => (s', o)
  | .getTrialParam tid name =>              -- BaseStorage: via `self.get_trial(trial_id)`
    match fetchTrialOver B s tid with
    | (s', .ok p) => (s', .ok (Cache.trialParamOut p.2 name))
    | (s', .error o) => (s', o)
  | .getAllTrials sid states =>
    match fetchAllOver B s sid with
    | (s', .ok l) => (s', .ok (.trials (l.filter (fun p => stateIn states p.2.state))))
    | (s', .error o) => (s', o)
  | .getNTrials sid states =>               -- BaseStorage: `len(self.get_all_trials(...))`
    match fetchAllOver B s sid with
    | (s', .ok l) => (s', .ok (.nat (l.filter (fun p => stateIn states p.2.state)).length))
    | (s', .error o) => (s', o)
  | .getBestTrial sid =>                    -- BaseStorage: get_all_trials, then get_study_directions
    match fetchAllOver B s sid with
    | (s', .error o) => (s', o)
    | (s', .ok l) =>
      recvO .getStudyDirections (servicerOver B s' false (.getStudyDirections sid))
        (fun | .directions ds => some (.ok (bestOut (ds.map dirFromProto) l)) | _ => none)

theorem servicerOver_ideal (s : Spec) (ir : Bool) (rq : Req) : servicerOver ideal s ir rq = servicer s ir rq := by
  cases rq <;> rfl

theorem fetchAllOver_ideal (s : Spec) (sid : Nat) : fetchAllOver ideal s sid = fetchAll s sid := rfl
theorem fetchTrialOver_ideal (s : Spec) (tid : Nat) : fetchTrialOver ideal s tid = fetchTrial s tid := rfl

theorem proxyStepOver_ideal (s : Spec) (u : String) (op : Op) : proxyStepOver ideal s u op = proxyStep s u op := by
  cases op with
  | getTrial tid | getTrialNumberFromId tid | getTrialParam tid _ =>
    simp only [proxyStepOver, proxyStep, fetchTrialOver_ideal]
    generalize fetchTrial s tid = r; obtain ⟨s', x⟩ := r; cases x <;> rfl
  | getAllTrials sid _ | getNTrials sid _ | getBestTrial sid =>
    simp only [proxyStepOver, proxyStep, fetchAllOver_ideal]
    generalize fetchAll s sid = r; obtain ⟨s', x⟩ := r; cases x <;> rfl
  | _ => rfl

end OptunaVerif.C01GrpcCompose

namespace OptunaVerif.C01Grpc
open OptunaVerif.Storage OptunaVerif.Proto
open OptunaVerif.Generated.GrpcTables (Rpc)

/-- what the caller sees for the backend's answer `out` inside `rpc`: an exception goes through the two error
tables, a return value comes back in normal form -/
def wireOut (rpc : Rpc) : Out → POut
  | .err e => transport rpc e
  | o => .ok (normOut o)

end OptunaVerif.C01Grpc

namespace OptunaVerif.C01GrpcCompose
open OptunaVerif.Storage OptunaVerif.Proto OptunaVerif.C01Grpc
open OptunaVerif.Generated.GrpcTables (Rpc)

open OptunaVerif.C01GrpcGen (shapeOK)

/-- the call the backend performs for a proxied `op`: the operation in normal form; `get_all_trials` is always asked for all
states (`GetTrials` has no state filter: the client cache filters) -/
def backendOp (u : String) : Op → Op
  | .getAllTrials sid _ => .getAllTrials sid none
  | op => normOp u op

/-- what the client does to the backend's answer: the state filter of `GrpcClientCache.get_all_trials` -/
def clientPost : Op → Out → Out
  | .getAllTrials _ sts, .trials l => .trials (l.filter (fun p => stateIn sts p.2.state))
  | _, o => o

theorem fetchTrialOver_eq (B : Backend) (b : B.σ) (tid : Nat) (hs : shapeOK (.getTrial tid) (B.step b (.getTrial tid)).2 = true) :
    fetchTrialOver B b tid = ((B.step b (.getTrial tid)).1,
      match (B.step b (.getTrial tid)).2 with
      | .trial id t => .ok (id, normTrial t)
      | o => .error (wireOut .getTrial o)) := by
  simp only [fetchTrialOver, servicerOver]
  generalize B.step b (.getTrial tid) = r at hs ⊢
  obtain ⟨b', o⟩ := r
  cases o with
  | err e => rfl
  | trial id tr =>
    obtain ⟨q, f, h1, h2, h3⟩ := trial_roundtrip (id, tr)
    simp only [finishO, h1, Option.map_some, h2, h3, normIdTrial]
  | _ => exact Bool.noConfusion hs

theorem fetchAllOver_eq (B : Backend) (b : B.σ) (sid : Nat)
    (hs : shapeOK (.getAllTrials sid none) (B.step b (.getAllTrials sid none)).2 = true) :
    fetchAllOver B b sid = ((B.step b (.getAllTrials sid none)).1,
      match (B.step b (.getAllTrials sid none)).2 with
      | .trials l => .ok (l.map normIdTrial)
      | o => .error (wireOut .getTrials o)) := by
  simp only [fetchAllOver, servicerOver]
  generalize B.step b (.getAllTrials sid none) = r at hs ⊢
  obtain ⟨b', o⟩ := r
  cases o with
  | err e => rfl
  | trials l =>
    obtain ⟨ps, fs, h1, h2, h3⟩ := trials_roundtrip l
    simp only [finishO, servicerFilter_all, h1, Option.map_some, h2, h3]
  | _ => exact Bool.noConfusion hs

/-- `C01Grpc.proxy_primary` with the backend abstracted -/
theorem proxyStepOver_primary (B : Backend) (b : B.σ) (u : String) (op : Op) (rpc : Rpc) (h : rpcOf op = some rpc)
    (hs : shapeOK (backendOp u op) (B.step b (backendOp u op)).2 = true) :
    proxyStepOver B b u op = ((B.step b (backendOp u op)).1, wireOut rpc (clientPost op (B.step b (backendOp u op)).2)) := by
  cases op <;> simp only [rpcOf, Option.some.injEq, reduceCtorEq] at h <;> subst h
  case createStudy name dirs =>
    simp only [proxyStepOver, servicerOver, normOp, backendOp, clientPost, List.map_map] at hs ⊢
    rw [show (dirFromProto ∘ dirToProto) = normDir from rfl]
    generalize B.step b (.createStudy (clientStudyName u name) (dirs.map normDir)) = r at hs ⊢
    obtain ⟨b', o⟩ := r
    cases o <;> first | exact Bool.noConfusion hs | rfl
  case createTrial sid tmpl ir =>
    cases tmpl with
    | none =>
      simp only [proxyStepOver, servicerOver, normOp, backendOp, clientPost, if_true] at hs ⊢
      generalize B.step b (.createTrial sid none ir) = r at hs ⊢
      obtain ⟨b', o⟩ := r
      cases o <;> first | exact Bool.noConfusion hs | rfl
    | some tm =>
      obtain ⟨p, h1, h2⟩ := frozen_roundtrip { id := -1, number := -1, body := tm }
      simp only [proxyStepOver, h1, servicerOver, Bool.false_eq_true, if_false, h2, normOp, backendOp, clientPost, normFrozen] at hs ⊢
      generalize B.step b (.createTrial sid (some (normTemplate tm)) ir) = r at hs ⊢
      obtain ⟨b', o⟩ := r
      cases o <;> first | exact Bool.noConfusion hs | rfl
  case setTrialStateValues tid st values =>
    obtain ⟨c, h1, h2⟩ := state_roundtrip st
    simp only [proxyStepOver, h1, servicerOver, h2, setStateValues_roundtrip, normOp, backendOp, clientPost] at hs ⊢
    generalize B.step b (.setTrialStateValues tid st (normValues values)) = r at hs ⊢
    obtain ⟨b', o⟩ := r
    cases o <;> first | exact Bool.noConfusion hs | rfl
  case getTrial tid =>
    simp only [proxyStepOver, fetchTrialOver_eq B b tid hs, normOp, backendOp, clientPost] at hs ⊢
    generalize B.step b (.getTrial tid) = r at hs ⊢
    obtain ⟨b', o⟩ := r
    cases o <;> first | exact Bool.noConfusion hs | rfl
  case getAllTrials sid states =>
    simp only [proxyStepOver, fetchAllOver_eq B b sid hs, backendOp] at hs ⊢
    generalize B.step b (.getAllTrials sid none) = r at hs ⊢
    obtain ⟨b', o⟩ := r
    cases o with
    | err e => rfl
    | trials l => simp [clientPost, wireOut, normOut, List.filter_map, Function.comp_def, normIdTrial, normTrial]
    | _ => exact Bool.noConfusion hs
  -- the remaining operations: the reply is a constructor applied to the backend's value, decoded by the matching constructor
  -- (directions and studies: through the two conversions, which compose to the normal form)
  all_goals
    simp only [proxyStepOver, servicerOver, normOp, backendOp, clientPost] at hs ⊢
    generalize B.step b _ = r at hs ⊢
    obtain ⟨b', o⟩ := r
    cases o <;> first | exact Bool.noConfusion hs | rfl | simp [finishO, recvO, wireOut, normOut, List.map_map, normDir, Function.comp_def, study_roundtrip]

end OptunaVerif.C01GrpcCompose
