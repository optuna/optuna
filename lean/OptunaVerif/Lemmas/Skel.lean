import OptunaVerif.Model.Skel
import OptunaVerif.Lemmas.SimpAttr
/-!
# Equations of the skeleton interpreter (`Model/Skel.lean`)

One equation per statement constructor of `execWith`, the unfolding of `interp`, and the defining equations of
`loopsOf` and of the value operations, under the simp set `skel_ir`: `simp only [skel_ir, <the generated function>,
<its environment>]` runs a loop-free skeleton and leaves the `if` chain of its tests, with the stores written out.
A loop statement is handed to `loopsOf`; its body is run by `execFlat_eq`, which is not in the set.
-/
namespace OptunaVerif.Skel

section
variable (env : Env) (loops : Prog → St → Res) (st : St)

@[skel_ir] theorem execWith_ret (idx : Nat) (e : Exp) :
    execWith env loops (.ret idx e) st = .ret idx (evalE env st e) st := rfl

@[skel_ir] theorem execWith_raise (idx : Nat) (s : String) :
    execWith env loops (.raise idx s) st = .raise idx st := rfl

@[skel_ir] theorem execWith_set (k : Nat) (e : Exp) (rest : Prog) :
    execWith env loops (.set k e rest) st = execWith env loops rest (setLocal st k (evalE env st e)) := rfl

@[skel_ir] theorem execWith_effect (k : Nat) (rest : Prog) :
    execWith env loops (.effect k rest) st =
      execWith env loops rest { st with effects := st.effects ++ [(k, st.locals)] } := rfl

/-- an `if` whose test has been evaluated.  A run turns `.ite` into this first, so that the test is worked out before
either branch is touched, and only the branch taken is run when the test is decided -/
def execIte (v : Option Bool) (th el : Prog) : Res :=
  match v with
  | some true => execWith env loops th st
  | some false => execWith env loops el st
  | none => .stuck

@[skel_ir] theorem execWith_ite (c : Exp) (th el : Prog) :
    execWith env loops (.ite c th el) st = execIte env loops st (truthy (evalE env st c)) th el := by
  rw [execWith]
  rfl

@[skel_ir high] theorem execIte_true (th el : Prog) : execIte env loops st (some true) th el = execWith env loops th st := rfl

@[skel_ir high] theorem execIte_false (th el : Prog) : execIte env loops st (some false) th el = execWith env loops el st := rfl

/-- an open test becomes an `if` on that boolean, not a `match` on its truthiness -/
@[skel_ir] theorem execIte_some (v : Bool) (th el : Prog) :
    execIte env loops st (some v) th el = if v then execWith env loops th st else execWith env loops el st := by
  cases v <;> rfl

@[skel_ir] theorem execIte_none (th el : Prog) : execIte env loops st none th el = .stuck := rfl

@[skel_ir] theorem execWith_seq (a b : Prog) :
    execWith env loops (.seq a b) st =
      match execWith env loops a st with
      | .fall st' => execWith env loops b st'
      | r => r := by
  rw [execWith]
  rfl

@[skel_ir] theorem execWith_skip : execWith env loops .skip st = .fall st := rfl

theorem set_getD_self {α : Type} (l : List α) (k : Nat) (d : α) : l.set k (l.getD k d) = l := by
  induction l generalizing k with
  | nil => rfl
  | cons a t ih =>
    cases k with
    | zero => rfl
    | succ k => simp only [List.set_cons_succ, List.getD_cons_succ, ih]

/-- `if c: x = e` followed by `rest` is `x = (e if c else x)` followed by `rest`: the two ways through the `if` meet in
one store and `rest` is run once, also while the test is open -/
@[skel_ir high] theorem execWith_condSet (c e : Exp) (k : Nat) (rest : Prog) :
    execWith env loops (.seq (.ite c (.set k e .skip) .skip) rest) st =
      match truthy (evalE env st c) with
      | some v => execWith env loops rest (setLocal st k (if v then evalE env st e else st.locals.getD k .err))
      | none => .stuck := by
  rw [execWith_seq, execWith_ite]
  rcases truthy (evalE env st c) with _ | _ | _
  · rfl
  · simp only [execIte_false, execWith_skip, setLocal, Bool.false_eq_true, if_false, set_getD_self]
  · rfl

@[skel_ir] theorem execWith_whileTrue (body : Prog) :
    execWith env loops (.whileTrue body) st = loops (.whileTrue body) st := rfl

@[skel_ir] theorem execWith_whileC (c : Exp) (body after : Prog) :
    execWith env loops (.whileC c body after) st = loops (.whileC c body after) st := rfl

@[skel_ir] theorem execWith_forRange (k : Nat) (bound : Exp) (body after : Prog) :
    execWith env loops (.forRange k bound body after) st = loops (.forRange k bound body after) st := rfl

/-- not in `skel_ir`: a loop body is run where the proof says so -/
theorem execFlat_eq (p : Prog) : execFlat env p st = execWith env (fun _ _ => .stuck) p st := rfl

@[skel_ir] theorem interp_eq (fuel : Nat) (f : Fn) :
    interp env fuel f =
      execWith env (loopsOf env fuel (execWith env fun _ _ => .stuck)) f.body
        ⟨f.init.map (evalE env ⟨[], []⟩), []⟩ := rfl

end

@[skel_ir] theorem Res.val_ret (idx : Nat) (v : Val) (st : St) : (Res.ret idx v st).val = some v := rfl

@[skel_ir] theorem Res.val_ite (p : Prop) [Decidable p] (a b : Res) :
    (if p then a else b).val = if p then a.val else b.val := apply_ite Res.val p a b

/-- a model function that is an `if` chain meets the skeleton's chain of returns leaf by leaf -/
@[skel_ir] theorem some_b_ite (p : Prop) [Decidable p] (x y : Bool) :
    some (Val.b (if p then x else y)) = if p then some (Val.b x) else some (Val.b y) :=
  apply_ite (fun v => some (Val.b v)) p x y

/-- a local assigned under an open test holds one integer -/
@[skel_ir] theorem i_ite (p : Prop) [Decidable p] (a b : Int) : (if p then Val.i a else Val.i b) = Val.i (if p then a else b) :=
  (apply_ite Val.i p a b).symm

@[skel_ir] theorem some_x_ite (p : Prop) [Decidable p] (x y : XVal) :
    some (Val.x (if p then x else y)) = if p then some (Val.x x) else some (Val.x y) :=
  apply_ite (fun v => some (Val.x v)) p x y

/-! comparisons of lengths and counts, which the environments hand over as integers -/

@[skel_ir] theorem natCast_eq_zero (a : Nat) : ((a : Int) = 0) = (a = 0) := propext Int.natCast_eq_zero

@[skel_ir] theorem natCast_lt (a b : Nat) : ((a : Int) < b) = (a < b) := propext Int.ofNat_lt

@[skel_ir] theorem natCast_le (a b : Nat) : ((a : Int) ≤ b) = (a ≤ b) := propext Int.ofNat_le

attribute [skel_ir] evalE truthy varith vcmp veq vnot setLocal loopsOf
  List.map_cons List.map_nil List.getD_cons_zero List.getD_cons_succ List.set_cons_zero List.set_cons_succ
  Int.toNat_natCast decide_eq_true_eq decide_true Bool.not_eq_true' Bool.false_eq_true Bool.true_eq_false
  if_true if_false

end OptunaVerif.Skel
