import OptunaVerif.Lemmas.RdbHbEnv
import OptunaVerif.Lemmas.RdbHbEnvCalls
import OptunaVerif.Lemmas.RdbHbCall
/-! Whole histories of the relational heartbeat model: every action is a (possibly empty) list of actions of the
abstract sweep model on the abstraction; starting configurations; and the way back from the abstract model:
membership and counts in the event log, trials by number.  Core Lean only. -/
namespace OptunaVerif.RdbHb
open OptunaVerif.Storage OptunaVerif.Rdb
open OptunaVerif.Heartbeat (HTrial)

def ActOk (P : Params) (c : Cfg) : Act → Prop
  | .call op => WfOp op ∧ EnvOk P c op
  | .beat tid => tid ∈ c.hs.db.trialIds
  | _ => True

def absActs (P : Params) (c : Cfg) : Act → List Heartbeat.Act
  | .sweep w => [.sweep w []]
  | .die w => [.die w]
  | .call op => callActs P c op
  | .beat tid => beatActs P c tid
  | .tick d => [.env (.tick d)]

theorem act_sim (P : Params) (hP : POk P) (c : Cfg) (h : RInv P c) (a : Act) (hok : ActOk P c a) :
    absCfg P (step P c a) = Heartbeat.run (absParams P) (absCfg P c) (absActs P c a) ∧ RInv P (step P c a) := by
  cases a with
  | sweep w =>
    obtain ⟨h1, h2⟩ := sweep_sim P hP c h w
    exact ⟨by rw [show step P c (.sweep w) = sweepStep P c w from rfl, h1]; rfl, h2⟩
  | die w =>
    obtain ⟨h1, h2⟩ := die_sim P c h w
    exact ⟨by rw [h1]; rfl, h2⟩
  | call op => exact call_sim P c h op hok.1 hok.2
  | beat tid => exact beat_sim P c h tid hok
  | tick d =>
    obtain ⟨h1, h2⟩ := tick_sim P c h d
    exact ⟨by rw [h1]; rfl, h2⟩

def RunOk (P : Params) : Cfg → List Act → Prop
  | _, [] => True
  | c, a :: rest => ActOk P c a ∧ RunOk P (step P c a) rest

def absRun (P : Params) : Cfg → List Act → List Heartbeat.Act
  | _, [] => []
  | c, a :: rest => absActs P c a ++ absRun P (step P c a) rest

theorem absRun_sim (P : Params) (hP : POk P) (c : Cfg) (h : RInv P c) (as : List Act) (hok : RunOk P c as) :
    absCfg P (run P c as) = Heartbeat.run (absParams P) (absCfg P c) (absRun P c as) ∧ RInv P (run P c as) := by
  induction as generalizing c with
  | nil => exact ⟨rfl, h⟩
  | cons a rest ih =>
    obtain ⟨h1, h2⟩ := act_sim P hP c h a hok.1
    obtain ⟨i1, i2⟩ := ih (step P c a) h2 hok.2
    refine ⟨?_, i2⟩
    show absCfg P (run P (step P c a) rest) = _
    rw [i1, h1]
    simp only [absRun]
    rw [Heartbeat.run_append]

def startCfg (db : Rdb.State) (now : Int) (n : Nat) : Cfg :=
  { hs := { db := db, stamps := [] }, now := now, workers := List.replicate n .idle, events := [] }

theorem start_ok (P : Params) (db : Rdb.State) (a : Spec) (habs : Abs db a) (hlive : (a.study? P.sid).isSome = true)
    (hempty : studyList db P.sid = []) (hbeats : db.beats = []) (now : Int) (n : Nat) :
    RInv P (startCfg db now n) ∧ absCfg P (startCfg db now n) = Heartbeat.init n := by
  constructor
  · refine ⟨⟨a, habs, hlive⟩, ?_, ?_, ?_, ?_, ?_, ?_⟩
    · intro b hb
      have hb' : b ∈ db.beats := hb
      rw [hbeats] at hb'; simp at hb'
    · intro p hp; simp [startCfg] at hp
    · intro p hp
      have hp' : p ∈ studyList db P.sid := hp
      rw [hempty] at hp'; simp at hp'
    · intro w ph hw
      simp only [startCfg] at hw
      rw [List.getElem?_replicate] at hw
      split at hw
      · simp at hw; subst hw; trivial
      · simp at hw
    · intro e he; simp [startCfg] at he
    · intro e he; simp [startCfg] at he
  · apply Heartbeat.Cfg.ext
    · show absTrialsL P.codec _ _ (studyList db P.sid) = []
      rw [hempty]; rfl
    · show (List.replicate n Phase.idle).map _ = List.replicate n Heartbeat.Phase.idle
      simp [absPhase]
    · rfl

def Event.isWon (t : Nat) : Event → Bool
  | .won _ t' => t' == t
  | _ => false

def Event.isCb (t : Nat) : Event → Bool
  | .callback _ t' _ => t' == t
  | _ => false

def Event.isEnq (t : Nat) : Event → Bool
  | .enqueued _ t' _ _ => t' == t
  | _ => false

theorem count_transfer (C : Codec) (L : List (Nat × TrialS)) (evs : List Event)
    (hin : ∀ e ∈ evs, ∀ x ∈ e.ids, x ∈ L.map (·.1))
    (p : Event → Bool) (q : Heartbeat.Event → Bool)
    (hpq : ∀ e ∈ evs, (∀ x ∈ e.ids, x ∈ L.map (·.1)) → p e = match absEvent C L e with | some e' => q e' | none => false) :
    evs.countP p = Heartbeat.cnt q (evs.filterMap (absEvent C L)) := by
  rw [Heartbeat.cnt, List.countP_filterMap]
  refine List.countP_congr fun e he => ?_
  rw [hpq e he (hin e he)]
  cases absEvent C L e <;> exact Iff.rfl

theorem mem_abs_events (P : Params) (c : Cfg) (e : Event) (e' : Heartbeat.Event) (he : e ∈ c.events)
    (ha : absEvent P.codec (studyList c.hs.db P.sid) e = some e') : e' ∈ (absCfg P c).events :=
  List.mem_filterMap.mpr ⟨e, he, ha⟩

theorem abs_trial_of_listed (P : Params) (c : Cfg) (h : RInv P c) (t : Nat) (ht : t ∈ (studyList c.hs.db P.sid).map (·.1))
    (x : HTrial) (hx : (absCfg P c).trials[numOf (studyList c.hs.db P.sid) t]? = some x) :
    ∃ p ∈ studyList c.hs.db P.sid, p.1 = t ∧ x = absTrial P.codec c.hs c.now p := by
  obtain ⟨p, hp, hpt⟩ := List.mem_map.mp ht
  have := trials_abs_get P c h p hp
  rw [hpt, hx] at this
  simp only [Option.some.injEq] at this
  exact ⟨p, hp, hpt, this⟩

theorem count_le_abs (P : Params) (c : Cfg) (h : RInv P c) (t : Nat) (p : Event → Bool) (q : Nat → Heartbeat.Event → Bool)
    (hp_ids : ∀ e, p e = true → t ∈ e.ids)
    (hpq : ∀ L : List (Nat × TrialS), Sorted L → t ∈ L.map (·.1) → ∀ e, (∀ x ∈ e.ids, x ∈ L.map (·.1)) →
      p e = match absEvent P.codec L e with | some e' => q (numOf L t) e' | none => false)
    (bound : Nat) (hb : ∀ n, Heartbeat.cnt (q n) (absCfg P c).events ≤ bound) :
    c.events.countP p ≤ bound := by
  by_cases ht : t ∈ (studyList c.hs.db P.sid).map (·.1)
  · have hs := studyList_sorted c.hs.db h.inv.1 P.sid
    rw [count_transfer P.codec (studyList c.hs.db P.sid) c.events h.evIn p (q (numOf (studyList c.hs.db P.sid) t))
      (fun e _ hin => hpq _ hs ht e hin)]
    exact hb _
  · have : c.events.countP p = 0 := by
      rw [List.countP_eq_zero]
      intro e he hpe
      exact ht (h.evIn e he t (hp_ids e hpe))
    omega

theorem won_count (P : Params) (c : Cfg) (h : RInv P c) (t : Nat) (bound : Nat)
    (hb : ∀ n, Heartbeat.cnt (Heartbeat.Event.isWon n) (absCfg P c).events ≤ bound) : c.events.countP (Event.isWon t) ≤ bound := by
  apply count_le_abs P c h t _ (fun n => Heartbeat.Event.isWon n) _ _ bound hb
  · intro e he; cases e <;> simp [Event.isWon, Event.ids] at he ⊢; exact he.symm
  · intro L hs ht e hin
    cases e with
    | won w t' =>
      simp only [Event.isWon, absEvent, Heartbeat.Event.isWon]
      exact (beq_numOf L hs t t' ht (hin t' (by simp [Event.ids]))).symm
    | _ => simp [Event.isWon, absEvent, Heartbeat.Event.isWon]

theorem cb_count (P : Params) (c : Cfg) (h : RInv P c) (t : Nat) (bound : Nat)
    (hb : ∀ n, Heartbeat.cnt (Heartbeat.Event.isCb n) (absCfg P c).events ≤ bound) : c.events.countP (Event.isCb t) ≤ bound := by
  apply count_le_abs P c h t _ (fun n => Heartbeat.Event.isCb n) _ _ bound hb
  · intro e he; cases e <;> simp [Event.isCb, Event.ids] at he ⊢; exact he.symm
  · intro L hs ht e hin
    cases e with
    | callback w t' b =>
      simp only [Event.isCb, absEvent, Heartbeat.Event.isCb]
      exact (beq_numOf L hs t t' ht (hin t' (by simp [Event.ids]))).symm
    | _ => simp [Event.isCb, absEvent, Heartbeat.Event.isCb]

theorem enq_count (P : Params) (c : Cfg) (h : RInv P c) (t : Nat) (bound : Nat)
    (hb : ∀ n, Heartbeat.cnt (Heartbeat.Event.isEnq n) (absCfg P c).events ≤ bound) : c.events.countP (Event.isEnq t) ≤ bound := by
  apply count_le_abs P c h t _ (fun n => Heartbeat.Event.isEnq n) _ _ bound hb
  · intro e he; cases e <;> simp [Event.isEnq, Event.ids] at he ⊢; exact Or.inl he.symm
  · intro L hs ht e hin
    cases e with
    | enqueued w t' k tmpl =>
      simp only [Event.isEnq, absEvent, Heartbeat.Event.isEnq]
      exact (beq_numOf L hs t t' ht (hin t' (by simp [Event.ids]))).symm
    | _ => simp [Event.isEnq, absEvent, Heartbeat.Event.isEnq]

end OptunaVerif.RdbHb
