import OptunaVerif.Model.JournalFile
/-! The byte-level journal reader (`Model/JournalFile.lean`): the offset cache as a finite map (`get?_del`, `get?_set`);
one line of the loop (`readLoop_cons`, with the bookkeeping of the cache named `noteNext`); and the two notions the
reader's result is stated with in `Props/C05C07Bridge.lean` and `Props/C07FileGen.lean`: `offsetOf` (the byte offset of
a line) and `Complete` (a line that is terminated and valid). -/
namespace OptunaVerif.JournalFile

theorem get?_del (c : Cache) (k k' : Nat) :
    (c.del k).get? k' = if k' = k then none else c.get? k' := by
  unfold Cache.del Cache.get?
  induction c with
  | nil => simp
  | cons a r ih => by_cases ha : a.1 = k <;> by_cases h : k' = k <;> by_cases h2 : a.1 = k' <;> simp_all

/-- `set` puts the new entry in front of the cache without the old one -/
theorem get?_set (c : Cache) (k o k' : Nat) :
    (c.set k o).get? k' = if k' = k then some o else c.get? k' := by
  have hdel := get?_del c k k'
  unfold Cache.set Cache.get? Cache.del at *
  by_cases h : k' = k
  · simp [h]
  · have h2 : ¬ k = k' := fun e => h e.symm
    simpa [List.find?_cons, h, h2] using hdel

/-- the bookkeeping of line `n` (`len` bytes long): the offset of line `n + 1` is entered unless it is known already;
`none`: it would have to be computed from the offset of line `n`, which is missing (`KeyError`) -/
def noteNext (c : Cache) (n len : Nat) : Option Cache :=
  if (c.get? (n + 1)).isSome then some c else (c.get? n).map (fun o => c.set (n + 1) (o + len))

theorem noteNext_get? {c c1 : Cache} {n len k : Nat} (h : noteNext c n len = some c1) (hk : k ≠ n + 1) :
    c1.get? k = c.get? k := by
  unfold noteNext at h
  split at h
  · rw [← Option.some.inj h]
  · cases ho : c.get? n with
    | none => simp [ho] at h
    | some o => simp [ho] at h; rw [← h, get?_set, if_neg hk]

/-- the loop on one more line; its four ways of going on are two: the line is a record (returned, or skipped because it
lies before `from_`), or it is dropped with the error pending and the offset behind it forgotten -/
theorem readLoop_cons (from_ : Nat) (ln : Line) (rest : List Line) (n : Nat) (rem : Int) (pend : Bool) (c : Cache)
    (acc : List Nat) :
    readLoop from_ (ln :: rest) n rem pend c acc =
      if rem - ln.len < 0 then .ok acc.reverse c
      else if pend then .raised c
      else match noteNext c n ln.len with
        | none => .keyError c
        | some c1 =>
          if ln.terminated && (decide (n < from_) || ln.valid) then
            readLoop from_ rest (n + 1) (rem - ln.len) false c1 (if n < from_ then acc else n :: acc)
          else readLoop from_ rest (n + 1) (rem - ln.len) true (c1.del (n + 1)) acc := by
  rw [readLoop]
  unfold noteNext
  -- the two sides differ behind the bookkeeping only
  generalize (if (c.get? (n + 1)).isSome then some c else (c.get? n).map fun o => c.set (n + 1) (o + ln.len)) = x
  cases x with
  | none => rfl
  | some c1 => cases ln.terminated <;> by_cases h : n < from_ <;> cases ln.valid <;> simp [h]

def Res.cacheOf : Res → Cache
  | .ok _ c => c
  | .raised c => c
  | .keyError c => c

/-- the reader never touches the entry of log number 0 (`_log_number_offset = {0: 0}` initially) -/
theorem readLoop_keeps_zero (from_ : Nat) : ∀ (lines : List Line) (n : Nat) (rem : Int) (pend : Bool) (cache : Cache) (acc : List Nat),
    (readLoop from_ lines n rem pend cache acc).cacheOf.get? 0 = cache.get? 0 := by
  intro lines
  induction lines with
  | nil => intro n rem pend cache acc; rfl
  | cons ln rest ih =>
    intro n rem pend cache acc
    rw [readLoop_cons]
    split
    · rfl
    split
    · rfl
    split
    · rfl
    · rename_i c1 hc1
      have h1 : c1.get? 0 = cache.get? 0 := noteNext_get? hc1 (Nat.succ_ne_zero n).symm
      split
      · rw [ih, h1]
      · rw [ih, get?_del, if_neg (Nat.succ_ne_zero n).symm, h1]

theorem readLogs_keeps_zero {size : Nat} {cache : Cache} {from_ : Nat} {linesFrom : Nat → List Line} {res : Res}
    (h : readLogs size cache from_ linesFrom = res) : res.cacheOf.get? 0 = cache.get? 0 := by
  subst h
  unfold readLogs
  split <;> exact readLoop_keeps_zero ..

def offsetOf (all : List Line) (k : Nat) : Nat := ((all.take k).map (·.len)).sum

theorem offsetOf_succ (all : List Line) (k : Nat) (ln : Line) (h : all[k]? = some ln) :
    offsetOf all (k + 1) = offsetOf all k + ln.len := by
  unfold offsetOf
  rw [List.take_add_one, h]
  simp

def Complete (ln : Line) : Bool := ln.terminated && ln.valid

end OptunaVerif.JournalFile
