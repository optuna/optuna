import OptunaVerif.Model.SpaceIR
/-! Equations of the interpreter of `Model/SpaceIR.lean` and of its two control operators (`andThen`, `loopAux`), for
the statement forms the generated bodies are executed through in `Props/C17Gen.lean`. -/
namespace OptunaVerif.SpaceIR

variable {C A L R E V : Type}

theorem block_cons_cons (s t : Stmt C A L R) (rest : List (Stmt C A L R)) :
    block (s :: t :: rest) = .seq s (block (t :: rest)) := rfl
theorem block_one (s : Stmt C A L R) : block [s] = s := rfl

theorem andThen_next (env : E) (k : E → E × Flow V) : andThen (env, .next) k = k env := rfl
theorem andThen_cont (env : E) (k : E → E × Flow V) : andThen (env, .cont) k = (env, .cont) := rfl

section exec
variable (sem : Sem C A L R E V) (env : E)

theorem exec_skip : exec sem .skip env = (env, .next) := rfl
theorem exec_seq (a b : Stmt C A L R) :
    exec sem (.seq a b) env = andThen (exec sem a env) (fun e => exec sem b e) := rfl
theorem exec_ite (c : C) (t e : Stmt C A L R) :
    exec sem (.ite c t e) env =
      match sem.cond env c with
      | .error x => (env, .raised x)
      | .ok true => exec sem t env
      | .ok false => exec sem e env := rfl
theorem exec_ite_ok {c : C} {b : Bool} (h : sem.cond env c = .ok b) (t e : Stmt C A L R) :
    exec sem (.ite c t e) env = if b then exec sem t env else exec sem e env := by
  cases b <;> simp only [exec_ite, h, if_true, if_false, Bool.false_eq_true]
theorem exec_act (a : A) :
    exec sem (.act a) env =
      match sem.act env a with
      | .error x => (env, .raised x)
      | .ok env' => (env', .next) := rfl
theorem exec_ret (r : R) :
    exec sem (.ret r) env =
      match sem.retv env r with
      | .error x => (env, .raised x)
      | .ok v => (env, .ret v) := rfl
theorem exec_cont : exec sem (.cont : Stmt C A L R) env = (env, .cont) := rfl

end exec

section loopAux
variable (f : E → E × Flow V) (b : E → E) (rest : List (E → E)) (env : E) {env' : E}

theorem loopAux_nil : loopAux f [] env = (env, .next) := rfl
theorem loopAux_cons_next (h : f (b env) = (env', .next)) : loopAux f (b :: rest) env = loopAux f rest env' := by
  simp only [loopAux, h]
theorem loopAux_cons_cont (h : f (b env) = (env', .cont)) : loopAux f (b :: rest) env = loopAux f rest env' := by
  simp only [loopAux, h]
theorem loopAux_cons_brk (h : f (b env) = (env', .brk)) : loopAux f (b :: rest) env = (env', .next) := by
  simp only [loopAux, h]

end loopAux

end OptunaVerif.SpaceIR
