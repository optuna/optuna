import OptunaVerif.Lemmas.RdbHbCallback
/-! The abstraction from a configuration of the relational heartbeat model (`Model/RdbHeartbeat.lean`) to a
configuration of the abstract sweep model (`Model/Heartbeat.lean`), and the list lemmas it rests on.

A trial of the study is seen as `⟨recOf (its FrozenTrial), age of its heartbeat row⟩`; its *number* (the index in
the abstract model) is the count of earlier trials of the study — what `count_past_trials` computes.  The time
unit of the abstract model (its comments say seconds; it compares ages with the grace period and uses nothing else of the
unit) is taken to be the microsecond: `absParams` scales the grace period.  Core Lean only. -/
namespace OptunaVerif.RdbHb
open OptunaVerif.Storage OptunaVerif.Rdb
open OptunaVerif.Generated
open OptunaVerif.Heartbeat (HTrial)

def studyList (db : Rdb.State) (sid : Nat) : List (Nat × TrialS) :=
  (db.trials.filter (fun x => x.study == sid)).map (fun x => (x.id, db.rowView x))

theorem studyList_abs (r : Rdb.State) (a : Spec) (h : Abs r a) (sid : Nat) (hl : (a.study? sid).isSome = true) :
    studyList r sid = a.trialsOf sid := (abs_trialsOf r a h sid hl).symm

/-- `count_past_trials`: how many trials of the study have a smaller id -/
def numOf (L : List (Nat × TrialS)) (tid : Nat) : Nat := (L.filter (fun p => decide (p.1 < tid))).length

def Sorted (L : List (Nat × TrialS)) : Prop := L.Pairwise (fun x y => x.1 < y.1)

theorem studyList_sorted (db : Rdb.State) (h : Inv0 db) (sid : Nat) : Sorted (studyList db sid) := by
  unfold Sorted studyList
  rw [List.pairwise_map]
  exact (h.trialsSorted.sublist List.filter_sublist).imp (by intro x y hxy; exact hxy)

theorem numOf_of_getElem? (L : List (Nat × TrialS)) (hs : Sorted L) (i : Nat) (p : Nat × TrialS) (h : L[i]? = some p) :
    numOf L p.1 = i := by
  induction L generalizing i with
  | nil => simp at h
  | cons q t ih =>
    obtain ⟨hq, ht⟩ := List.pairwise_cons.mp hs
    cases i with
    | zero =>
      cases h
      simp [numOf]
      exact fun a b hm => Nat.le_of_lt (hq (a, b) hm)
    | succ i =>
      have hlt := hq p (List.mem_of_getElem? (by simpa using h))
      have := ih ht i (by simpa using h)
      simp only [numOf, List.filter_cons, hlt, decide_true, if_true, List.length_cons] at this ⊢
      omega

theorem numOf_eq_length (L : List (Nat × TrialS)) (tid : Nat) (h : ∀ p ∈ L, p.1 < tid) : numOf L tid = L.length := by
  unfold numOf
  rw [List.filter_eq_self.mpr]
  intro p hp
  simpa using h p hp

theorem numOf_congr (L L' : List (Nat × TrialS)) (tid : Nat) (h : L'.map (·.1) = L.map (·.1)) : numOf L' tid = numOf L tid := by
  have : ∀ (M : List (Nat × TrialS)), numOf M tid = ((M.map (·.1)).filter (fun i => decide (i < tid))).length := by
    intro M
    unfold numOf
    rw [List.filter_map, List.length_map]
    rfl
  rw [this L', this L, h]

theorem numOf_append (L : List (Nat × TrialS)) (p : Nat × TrialS) (tid : Nat) (h : tid ≤ p.1) : numOf (L ++ [p]) tid = numOf L tid := by
  unfold numOf
  rw [List.filter_append]
  have : ¬ p.1 < tid := by omega
  simp [this]

theorem getElem?_numOf (L : List (Nat × TrialS)) (hs : Sorted L) (p : Nat × TrialS) (h : p ∈ L) : L[numOf L p.1]? = some p := by
  obtain ⟨i, hi⟩ := List.getElem?_of_mem h
  rw [numOf_of_getElem? L hs i p hi]
  exact hi

theorem numOf_inj (L : List (Nat × TrialS)) (hs : Sorted L) (t t' : Nat) (ht : t ∈ L.map (·.1)) (ht' : t' ∈ L.map (·.1))
    (e : numOf L t = numOf L t') : t = t' := by
  obtain ⟨p, hp, hpt⟩ := List.mem_map.mp ht
  obtain ⟨q, hq, hqt⟩ := List.mem_map.mp ht'
  have h1 := getElem?_numOf L hs p hp
  have h2 := getElem?_numOf L hs q hq
  rw [hpt, e] at h1
  rw [hqt, h1] at h2
  simp only [Option.some.injEq] at h2
  rw [← hpt, ← hqt, h2]

theorem beq_numOf (L : List (Nat × TrialS)) (hs : Sorted L) (t t' : Nat) (ht : t ∈ L.map (·.1)) (ht' : t' ∈ L.map (·.1)) :
    (numOf L t' == numOf L t) = (t' == t) := by
  by_cases e : t' = t
  · subst e; rw [beq_self_eq_true, beq_self_eq_true]
  · have : numOf L t' ≠ numOf L t := fun e' => e (numOf_inj L hs t' t ht' ht e')
    rw [beq_eq_false_iff_ne.mpr this, beq_eq_false_iff_ne.mpr e]

theorem sorted_fst_inj (L : List (Nat × TrialS)) (hs : Sorted L) (p q : Nat × TrialS) (hp : p ∈ L) (hq : q ∈ L) (e : p.1 = q.1) :
    p = q := eq_of_sorted (f := fun x : Nat × TrialS => x.1) hs hp hq e

theorem map_if_unlisted {β : Type} (L : List (Nat × TrialS)) (tid : Nat) (F f : Nat × TrialS → β) (hn : tid ∉ L.map (·.1)) :
    L.map (fun p => if p.1 = tid then F p else f p) = L.map f :=
  List.map_congr_left fun p hp => if_neg fun e => hn (List.mem_map.mpr ⟨p, hp, e⟩)

theorem trialsOf_studies_irrelevant (a : Spec) (st : List (Option StudyS)) (sid : Nat) :
    ({ a with studies := st } : Spec).trialsOf sid = a.trialsOf sid := trialsOf_of_trials a _ rfl sid

theorem map_if_eq_updAt {β : Type} (L : List (Nat × TrialS)) (hs : Sorted L) (tid : Nat) (f : Nat × TrialS → β) (G : β → β) :
    L.map (fun p => if p.1 = tid then G (f p) else f p) =
      if tid ∈ L.map (·.1) then updAt (L.map f) (numOf L tid) G else L.map f := by
  split
  · rename_i hm
    obtain ⟨q, hq, rfl⟩ := List.mem_map.mp hm
    exact map_ite_eq_updAt (fun x : Nat × TrialS => x.1) L hs _ q (getElem?_numOf L hs q hq) f G
  · rename_i hm
    exact map_if_unlisted L tid _ f hm

/-- the age (µs, truncated at 0) of the trial's heartbeat row on the database clock; `none`: no row (a trial has at most
one: `heartbeatsOf_le_one`) -/
def ageOf (hs : HState) (now : Int) (tid : Nat) : Option Nat :=
  match heartbeatsOf hs tid with
  | [ts] => some (now - ts).toNat
  | _ => none

def absTrial (C : Codec) (hs : HState) (now : Int) (p : Nat × TrialS) : HTrial := ⟨recOf C p.2, ageOf hs now p.1⟩

def absTrialsL (C : Codec) (hs : HState) (now : Int) (L : List (Nat × TrialS)) : List HTrial := L.map (absTrial C hs now)

def absPhase (C : Codec) (L : List (Nat × TrialS)) : Phase → Heartbeat.Phase
  | .idle => .idle
  | .dead => .dead
  | .failing todo won => .failing (todo.map (numOf L)) (won.map (numOf L))
  | .calling todo => .calling (todo.map (numOf L))
  | .enqueue t snap todo => .enqueue (numOf L t) (recOf C snap) (todo.map (numOf L))

/-- an exception leaving the sweep has no counterpart in the abstract model (it is shown not to happen) -/
def absEvent (C : Codec) (L : List (Nat × TrialS)) : Event → Option Heartbeat.Event
  | .read w ids => some (.read w (ids.map (numOf L)))
  | .won w t => some (.won w (numOf L t))
  | .lost w t => some (.lost w (numOf L t))
  | .callback w t b => some (.callback w (numOf L t) b)
  | .enqueued w t n tmpl => some (.enqueued w (numOf L t) (numOf L n) (recOf C (mkTrial 0 0 (some tmpl))))
  | .raised _ _ => none

/-- the abstract model's parameters; its time unit is the microsecond -/
def absParams (P : Params) : Heartbeat.Params :=
  { grace := (StaleGen.effectiveGrace P.hbInterval P.gracePeriod * 1000000).toNat,
    hasCb := P.hasCb,
    maxRetry := P.cb.maxRetry.map Int.toNat }

def absCfg (P : Params) (c : Cfg) : Heartbeat.Cfg :=
  { trials := absTrialsL P.codec c.hs c.now (studyList c.hs.db P.sid),
    workers := c.workers.map (absPhase P.codec (studyList c.hs.db P.sid)),
    events := c.events.filterMap (absEvent P.codec (studyList c.hs.db P.sid)) }

def Phase.ids : Phase → List Nat
  | .idle => []
  | .dead => []
  | .failing todo won => todo ++ won
  | .calling todo => todo
  | .enqueue t _ todo => t :: todo

def Event.ids : Event → List Nat
  | .read _ ids => ids
  | .won _ t => [t]
  | .lost _ t => [t]
  | .callback _ t _ => [t]
  | .enqueued _ t n _ => [t, n]
  | .raised _ _ => []

theorem absPhase_congr (C : Codec) (L L' : List (Nat × TrialS)) (ph : Phase) (h : ∀ t ∈ ph.ids, numOf L' t = numOf L t) :
    absPhase C L' ph = absPhase C L ph := by
  cases ph with
  | idle => rfl
  | dead => rfl
  | failing todo won =>
    simp only [absPhase, Phase.ids, List.mem_append] at h ⊢
    rw [List.map_congr_left (fun t ht => h t (Or.inl ht)), List.map_congr_left (fun t ht => h t (Or.inr ht))]
  | calling todo =>
    simp only [absPhase, Phase.ids] at h ⊢
    rw [List.map_congr_left h]
  | enqueue t snap todo =>
    simp only [absPhase, Phase.ids, List.mem_cons] at h ⊢
    rw [h t (Or.inl rfl), List.map_congr_left (fun x hx => h x (Or.inr hx))]

theorem absEvent_congr (C : Codec) (L L' : List (Nat × TrialS)) (e : Event) (h : ∀ t ∈ e.ids, numOf L' t = numOf L t) :
    absEvent C L' e = absEvent C L e := by
  cases e with
  | read w ids => simp only [absEvent, Event.ids] at h ⊢; rw [List.map_congr_left h]
  | won w t => simp only [absEvent, Event.ids, List.mem_singleton, forall_eq] at h ⊢; rw [h]
  | lost w t => simp only [absEvent, Event.ids, List.mem_singleton, forall_eq] at h ⊢; rw [h]
  | callback w t b => simp only [absEvent, Event.ids, List.mem_singleton, forall_eq] at h ⊢; rw [h]
  | enqueued w t n tmpl =>
    simp only [absEvent, Event.ids, List.mem_cons] at h ⊢
    rw [h t (Or.inl rfl), h n (Or.inr (Or.inl rfl))]
  | raised w s => rfl

end OptunaVerif.RdbHb
