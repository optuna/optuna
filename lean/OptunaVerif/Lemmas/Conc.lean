import OptunaVerif.Model.Conc
import OptunaVerif.Lemmas.Basic
/-! Lock atomicity: the invariant that ties an interleaved execution to the sequential one. -/
namespace OptunaVerif.Conc

variable {σ L ρ : Type}

theorem map_todo_updAt_cs (ths : List (Thread σ L ρ)) (t : Nat) (x : Option (Nat × L)) :
    (updAt ths t (fun th => { th with cs := x })).map (·.todo) = ths.map (·.todo) :=
  (map_updAt (·.todo) ths t (fun th => { th with cs := x }) (fun p => p) fun _ => rfl).trans (updAt_id _ t)

theorem lockFree_iff (sys : Sys σ L ρ) :
    lockFree sys = true ↔ ∀ (t : Nat) (th : Thread σ L ρ), sys.threads[t]? = some th → th.cs = none := by
  unfold lockFree
  simp only [List.all_eq_true, Option.isNone_iff_eq_none]
  constructor
  · intro h t th hget
    exact h th (List.mem_of_getElem? hget)
  · intro h th hmem
    obtain ⟨t, ht⟩ := List.getElem?_of_mem hmem
    exact h t th ht

variable [DecidableEq ρ]

theorem seqRun_append (progs : List (List (Call σ L ρ))) (h : List (Nat × ρ)) (t : Nat) (r : ρ) (s : σ) :
    seqRun progs (h ++ [(t, r)]) s =
      (seqRun progs h s).bind (fun p =>
        match p.2[t]? with
        | some (c :: cs) => if (c.run p.1).2 = r then some ((c.run p.1).1, updAt p.2 t (fun _ => cs)) else none
        | _ => none) := by
  induction h generalizing progs s with
  | nil =>
    simp only [List.nil_append, seqRun, Option.bind_some]
    split <;> simp_all
  | cons a h ih =>
    obtain ⟨t', r'⟩ := a
    simp only [List.cons_append, seqRun]
    split
    · split
      · exact ih _ _
      · simp
    · simp

theorem seqRun_invariant (P : σ → Prop) (progs : List (List (Call σ L ρ))) (hist : List (Nat × ρ)) (s s' : σ)
    (rem : List (List (Call σ L ρ))) (hP : ∀ p ∈ progs, ∀ c ∈ p, ∀ s, P s → P (c.run s).1)
    (hn : P s) (h : seqRun progs hist s = some (s', rem)) : P s' := by
  induction hist generalizing progs s with
  | nil => cases h; exact hn
  | cons a hist ih =>
    obtain ⟨t, r⟩ := a
    simp only [seqRun] at h
    split at h
    · rename_i c cs hget
      have hmem : (c :: cs) ∈ progs := List.mem_of_getElem? hget
      split at h
      · refine ih _ _ (fun p hp c' hc' => ?_) (hP _ hmem c (List.mem_cons_self ..) s hn) h
        -- the programs left are the old ones, thread `t`'s without its first call
        rcases mem_updAt hp with hm | ⟨_, _, rfl⟩
        · exact hP p hm c' hc'
        · exact hP _ hmem c' (List.mem_cons_of_mem _ hc')
      · cases h
    · cases h

/-- The invariant: the interleaved system is the sequential execution of the completed calls (in
completion order) followed by the first `k` micro-steps of the unique thread inside its critical
section, if any. -/
def Inv (s0 : σ) (progs0 : List (List (Call σ L ρ))) (sys : Sys σ L ρ) : Prop :=
  ∃ σseq, seqRun progs0 sys.hist s0 = some (σseq, sys.threads.map (·.todo)) ∧
    ((∀ (t : Nat) (th : Thread σ L ρ), sys.threads[t]? = some th → th.cs = none) → sys.shared = σseq) ∧
    (∀ (t : Nat) (th : Thread σ L ρ) (k : Nat) (l : L), sys.threads[t]? = some th → th.cs = some (k, l) →
      (∃ (c : Call σ L ρ) (rest : List (Call σ L ρ)), th.todo = c :: rest ∧ k ≤ c.n ∧
        (sys.shared, l) = c.iter k σseq) ∧
      (∀ (t' : Nat) (th' : Thread σ L ρ), t' ≠ t → sys.threads[t']? = some th' → th'.cs = none))

theorem inv_init (s0 : σ) (progs : List (List (Call σ L ρ))) : Inv s0 progs (initSys s0 progs) := by
  refine ⟨s0, ?_, fun _ => rfl, ?_⟩
  · simp [initSys, seqRun, List.map_map, Function.comp_def]
  · intro t th k l hget hcs
    simp only [initSys, List.getElem?_map] at hget
    cases hp : progs[t]? with
    | none => simp [hp] at hget
    | some p => simp [hp] at hget; subst hget; simp at hcs

theorem inv_of_holder (s0 : σ) (progs0 : List (List (Call σ L ρ))) (ths : List (Thread σ L ρ)) (t : Nat)
    (th : Thread σ L ρ) (g : Thread σ L ρ → Thread σ L ρ) (sh σseq : σ) (hist : List (Nat × ρ)) (hth : ths[t]? = some th)
    (hseq : seqRun progs0 hist s0 = some (σseq, (updAt ths t g).map (·.todo)))
    (hoth : ∀ (t' : Nat) (th' : Thread σ L ρ), t' ≠ t → ths[t']? = some th' → th'.cs = none)
    (hout : (g th).cs = none → sh = σseq)
    (hin : ∀ k l, (g th).cs = some (k, l) → ∃ (c : Call σ L ρ) (rest : List (Call σ L ρ)), (g th).todo = c :: rest ∧
      k ≤ c.n ∧ (sh, l) = c.iter k σseq) :
    Inv s0 progs0 { shared := sh, threads := updAt ths t g, hist := hist } := by
  have hoth' : ∀ (t' : Nat) (th' : Thread σ L ρ), t' ≠ t → (updAt ths t g)[t']? = some th' → th'.cs = none :=
    fun t' th' hne h => hoth t' th' hne (by rwa [updAt_other _ _ _ _ hne] at h)
  refine ⟨σseq, hseq, fun hnone => hout (hnone t _ (updAt_self _ _ _ _ hth)), fun t' th' k l hget hcs' => ?_⟩
  by_cases ht : t' = t
  · subst ht
    cases (updAt_self _ _ _ g hth).symm.trans hget
    exact ⟨hin k l hcs', hoth'⟩
  · rw [hoth' t' th' ht hget] at hcs'; cases hcs'

theorem inv_step (s0 : σ) (progs0 : List (List (Call σ L ρ))) (sys : Sys σ L ρ) (t : Nat)
    (h : Inv s0 progs0 sys) : Inv s0 progs0 (step sys t) := by
  obtain ⟨σseq, hseq, hfree, hcs⟩ := h
  unfold step
  cases hth : sys.threads[t]? with
  | none => exact ⟨σseq, hseq, hfree, hcs⟩
  | some th =>
    simp only
    cases hc : th.cs with
    | none =>
      cases htodo : th.todo with
      | nil => exact ⟨σseq, hseq, hfree, hcs⟩
      | cons c rest =>
        simp only
        by_cases hl : lockFree sys = true
        · -- acquire
          simp only [hl, if_true]
          have hall := (lockFree_iff sys).1 hl
          exact inv_of_holder s0 progs0 _ t th _ _ σseq _ hth (by simpa [map_todo_updAt_cs] using hseq)
            (fun t' th' _ h => hall t' th' h) nofun
            (fun k l e => by cases e; exact ⟨c, rest, htodo, Nat.zero_le _, by simp [Call.iter, hfree hall]⟩)
        · simp only [hl]
          exact ⟨σseq, hseq, hfree, hcs⟩
    | some kl =>
      obtain ⟨k, l⟩ := kl
      cases htodo : th.todo with
      | nil => exact ⟨σseq, hseq, hfree, hcs⟩
      | cons c rest =>
        simp only
        obtain ⟨⟨c', rest', htodo', hk, hiter⟩, hothers⟩ := hcs t th k l hth hc
        cases htodo.symm.trans htodo'
        by_cases hlt : k < c.n
        · -- one micro-step inside the critical section
          simp only [hlt, if_true]
          exact inv_of_holder s0 progs0 _ t th _ _ σseq _ hth (by simpa [map_todo_updAt_cs] using hseq)
            hothers nofun
            (fun k' l' e => by cases e; exact ⟨c, rest, htodo, hlt, by simp only [Call.iter, ← hiter]⟩)
        · -- release: the call completes, and the sequential run is one call longer
          simp only [hlt, if_false]
          have hkn : k = c.n := by omega
          subst hkn
          have hrun : c.run σseq = (sys.shared, c.result l) := by
            simp only [Call.run, ← hiter]
          refine inv_of_holder s0 progs0 _ t th _ _ sys.shared _ hth ?_ hothers (fun _ => rfl) nofun
          rw [seqRun_append, hseq]
          simp only [Option.bind_some, List.getElem?_map, hth, Option.map_some, htodo, hrun, if_true,
            map_updAt_const]

end OptunaVerif.Conc
