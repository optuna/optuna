import OptunaVerif.Model.Best
import OptunaVerif.Lemmas.Basic
import OptunaVerif.Lemmas.SortBasic
/-! The order on `EVal` (a linear order, registered so that `grind` decides order goals), the componentwise and the
lexicographic order of points, dominance, and the model of `np.unique(axis=0)`.  Nothing here depends on the operators
and flags of `Generated/Best.lean`, so `Lemmas/BestIR.lean` may import it.  Core Lean only. -/
namespace OptunaVerif.Best

-- the order of `EVal` is that of `XVal` on the NaN-free values
theorem EVal.le_refl' (a : EVal) : a ≤ a := by
  cases a <;> simp [LE.le, EVal.le, EVal.toX, XVal.le]
  exact Rat.le_refl
theorem EVal.le_trans' {a b c : EVal} : a ≤ b → b ≤ c → a ≤ c := xle_trans
theorem EVal.le_antisymm' {a b : EVal} : a ≤ b → b ≤ a → a = b := by
  cases a <;> cases b <;> simp [LE.le, EVal.le, EVal.toX, XVal.le]
  exact Rat.le_antisymm
theorem EVal.le_total' (a b : EVal) : a ≤ b ∨ b ≤ a := by
  cases a <;> cases b <;> simp [LE.le, EVal.le, EVal.toX, XVal.le]
  exact Rat.le_total

instance : Std.IsPreorder EVal where
  le_refl := EVal.le_refl'
  le_trans _ _ _ := EVal.le_trans'
instance : Std.IsPartialOrder EVal where
  le_antisymm _ _ := EVal.le_antisymm'
instance : Std.IsLinearOrder EVal where
  le_total := EVal.le_total'
instance : Std.LawfulOrderLT EVal where
  lt_iff a b := by
    show EVal.le b a = false ↔ (EVal.le a b = true ∧ ¬ EVal.le b a = true)
    have := EVal.le_total' a b
    simp only [LE.le] at this
    cases h : EVal.le b a <;> simp_all

@[simp] theorem EVal.le_iff (a b : EVal) : EVal.le a b = true ↔ a ≤ b := Iff.rfl
@[simp] theorem EVal.le_false_iff (a b : EVal) : EVal.le a b = false ↔ b < a := Iff.rfl
@[simp] theorem EVal.lt_iff (a b : EVal) : EVal.lt a b = true ↔ a < b := by
  show (!EVal.le b a) = true ↔ EVal.le b a = false
  cases EVal.le b a <;> decide
@[simp] theorem EVal.lt_false_iff (a b : EVal) : EVal.lt a b = false ↔ b ≤ a := by
  show (!EVal.le b a) = false ↔ EVal.le b a = true
  cases EVal.le b a <;> decide

theorem EVal.beq_iff (a b : EVal) : (a == b) = true ↔ a = b := by simp

/-- On NaN-free values Python's `<` and `>` are the strict order (`cmpE .le a b` is `a.le b` by definition). -/
theorem cmpE_lt (a b : EVal) : cmpE .lt a b = a.lt b := by
  show (a.le b && !(b.le a)) = !(b.le a)
  cases h : b.le a
  · simp [(EVal.le_total' a b).resolve_right (Bool.eq_false_iff.mp h)]
  · simp
theorem cmpE_gt (a b : EVal) : cmpE .gt a b = b.lt a := cmpE_lt b a

theorem rat_lt_decide (a b : Rat) : decide (a < b) = !decide (b ≤ a) := by
  by_cases h : b ≤ a
  · simp [h, Rat.not_lt.mpr h]
  · simp [h, Rat.not_le.mp h]

theorem allLe_refl (a : Point) : allLe a a = true := by
  induction a with
  | nil => rfl
  | cons x t ih => simp only [allLe, ih, Bool.and_true, EVal.le_iff]; grind

theorem anyLt_eq_not_allLe (a b : Point) : anyLt a b = !allLe b a := by
  induction a generalizing b with
  | nil => cases b <;> rfl
  | cons x t ih =>
    cases b with
    | nil => rfl
    | cons y s => simp only [anyLt, allLe, ih s, Bool.not_and]; rfl

theorem allLe_trans (a b c : Point) (h1 : a.length = b.length) (h2 : b.length = c.length)
    (hab : allLe a b = true) (hbc : allLe b c = true) : allLe a c = true := by
  induction a generalizing b c with
  | nil => cases c <;> simp [allLe]
  | cons x t ih =>
    cases b with
    | nil => simp at h1
    | cons y s =>
      cases c with
      | nil => simp at h2
      | cons z r =>
        simp only [List.length_cons, Nat.add_right_cancel_iff] at h1 h2
        simp only [allLe, Bool.and_eq_true, EVal.le_iff] at *
        exact ⟨by grind, ih s r h1 h2 hab.2 hbc.2⟩

theorem allLe_antisymm (a b : Point) (h : a.length = b.length)
    (hab : allLe a b = true) (hba : allLe b a = true) : a = b := by
  induction a generalizing b with
  | nil => cases b <;> simp at h ⊢
  | cons x t ih =>
    cases b with
    | nil => simp at h
    | cons y s =>
      simp only [List.length_cons, Nat.add_right_cancel_iff] at h
      simp only [allLe, Bool.and_eq_true, EVal.le_iff] at *
      have : x = y := by grind
      rw [this, ih s h hab.2 hba.2]

theorem dominates_iff (a b : Point) (h : a.length = b.length) :
    dominates a b = true ↔ allLe a b = true ∧ a ≠ b := by
  simp only [dominates, Bool.and_eq_true, anyLt_eq_not_allLe a b, Bool.not_eq_true']
  constructor
  · rintro ⟨h1, h2⟩
    refine ⟨h1, ?_⟩
    rintro rfl
    rw [allLe_refl] at h2; cases h2
  · rintro ⟨h1, h2⟩
    refine ⟨h1, ?_⟩
    cases hba : allLe b a with
    | false => rfl
    | true => exact absurd (allLe_antisymm a b h h1 hba) h2

theorem dominates_irrefl (a : Point) : dominates a a = false := by
  cases h : dominates a a with
  | false => rfl
  | true => exact absurd rfl ((dominates_iff a a rfl).mp h).2

theorem dominates_trans (a b c : Point) (h1 : a.length = b.length) (h2 : b.length = c.length)
    (hab : dominates a b = true) (hbc : dominates b c = true) : dominates a c = true := by
  rw [dominates_iff a b h1] at hab
  rw [dominates_iff b c h2] at hbc
  rw [dominates_iff a c (h1.trans h2)]
  refine ⟨allLe_trans a b c h1 h2 hab.1 hbc.1, ?_⟩
  rintro rfl
  exact hab.2 (allLe_antisymm a b h1 hab.1 hbc.1)

theorem normRow_length (dirs : List Dir) (a : List EVal) (h : a.length = dirs.length) :
    (normRow dirs a).length = dirs.length := by
  induction dirs generalizing a with
  | nil => simp [normRow]
  | cons d ds ih =>
    cases a with
    | nil => simp at h
    | cons x xs =>
      simp only [List.length_cons, Nat.add_right_cancel_iff] at h
      simp only [normRow, List.length_cons, ih xs h]

theorem len2 (r : Point) (h : r.length = 2) : ∃ x y, r = [x, y] := by
  match r, h with
  | [x, y], _ => exact ⟨x, y, rfl⟩

/-- `lexLt` is core's lexicographic order of lists over the order of `EVal`; that order is linear because the order of `EVal` is
(`List.instIsLinearOrder`), so `grind` decides its order goals too. -/
theorem lexLt_iff (a b : Point) : lexLt a b = true ↔ a < b := by
  induction a generalizing b with
  | nil => cases b <;> simp [lexLt]
  | cons x t ih => cases b <;> simp [lexLt, List.cons_lt_cons_iff, ih]

theorem lexLt_irrefl (a : Point) : lexLt a a = false := by
  have := lexLt_iff a a; grind

theorem lexLt_trans (a b c : Point) (hab : lexLt a b = true) (hbc : lexLt b c = true) : lexLt a c = true := by
  rw [lexLt_iff] at *; exact List.lt_trans hab hbc

theorem lexLt_trichotomy (a b : Point) : lexLt a b = true ∨ a = b ∨ lexLt b a = true := by
  simp only [lexLt_iff]; grind

theorem lexLt_asymm (a b : Point) (hab : lexLt a b = true) : lexLt b a = false := by
  have := lexLt_iff a b; have := lexLt_iff b a; grind

/-- at the first coordinate where the two differ the dominating point is smaller -/
theorem lexLt_of_dominates (a b : Point) (hd : dominates a b = true) : lexLt a b = true := by
  induction a generalizing b with
  | nil => simp [dominates, anyLt] at hd
  | cons x t ih =>
    cases b with
    | nil => simp [dominates, anyLt] at hd
    | cons y s =>
      simp only [dominates, allLe, anyLt, Bool.and_eq_true, Bool.or_eq_true, EVal.le_iff, EVal.lt_iff] at hd
      simp only [lexLt, Bool.or_eq_true, Bool.and_eq_true, EVal.lt_iff, beq_iff_eq]
      by_cases hxy : x < y
      · exact Or.inl hxy
      · have hxy' : x = y := by grind
        refine Or.inr ⟨hxy', ih s ?_⟩
        simp only [dominates, Bool.and_eq_true]
        exact ⟨hd.1.2, hd.2.resolve_left hxy⟩

theorem head_le_of_lexLt (x y : EVal) (t s : Point) (h : lexLt (x :: t) (y :: s) = true) : x ≤ y := by
  simp only [lexLt, Bool.or_eq_true, Bool.and_eq_true, EVal.lt_iff, beq_iff_eq] at h
  grind

def Rect (n : Nat) (rows : List Point) : Prop := ∀ r ∈ rows, r.length = n

instance (n : Nat) (rows : List Point) : Decidable (Rect n rows) :=
  inferInstanceAs (Decidable (∀ r ∈ rows, r.length = n))

/-- Strictly increasing in the lexicographic order (hence without duplicates). -/
def LexSorted (u : List Point) : Prop := u.Pairwise (fun a b => lexLt a b = true)

theorem insertU_isInsertU : SortBasic.IsInsertU insertU (fun r h => lexLt r h = true) (fun r h => (r == h) = true) :=
  ⟨fun _ => rfl, fun _ _ _ => rfl, fun _ _ h => by simpa using h⟩

theorem uniqueLexsort_isSort : SortBasic.IsSort uniqueLexsort insertU := ⟨rfl, fun _ _ => rfl⟩

theorem mem_uniqueLexsort (rows : List Point) (x : Point) : x ∈ uniqueLexsort rows ↔ x ∈ rows :=
  insertU_isInsertU.mem_sort uniqueLexsort_isSort

theorem uniqueLexsort_rect (n : Nat) (rows : List Point) (h : Rect n rows) : Rect n (uniqueLexsort rows) :=
  fun r hr => h r ((mem_uniqueLexsort rows r).mp hr)

/-- whatever the lengths of the rows: the lexicographic order is a strict total order on all lists -/
theorem uniqueLexsort_sorted (rows : List Point) : LexSorted (uniqueLexsort rows) :=
  insertU_isInsertU.sort_pairwise (M := fun _ => True) (fun _ _ _ _ h => h) (fun x y z _ _ _ h h' => lexLt_trans x y z h h')
    (fun x y _ _ hxy hne => by
      rcases lexLt_trichotomy x y with h1 | h1 | h1
      · exact absurd h1 hxy
      · subst h1; simp at hne
      · exact h1) uniqueLexsort_isSort (fun _ _ => trivial)

/-- `on_front[order_inv]`: looking a row up through its position in the unique list. -/
theorem getD_idxOf_map (u : List Point) (f : Point → Bool) (r : Point) (hr : r ∈ u) :
    (u.map f).getD (u.idxOf r) false = f r := by
  induction u with
  | nil => simp at hr
  | cons h t ih =>
    rw [List.idxOf_cons]
    by_cases heq : h = r
    · subst heq; simp
    · have : (h == r) = false := by simpa using heq
      rcases List.mem_cons.mp hr with h1 | h1
      · exact absurd h1.symm heq
      · simp only [this, cond_false, List.map_cons, List.getD_cons_succ]
        exact ih h1

theorem peel_cons (p : Nat × Point) (rest : List (Nat × Point)) :
    peel (p :: rest) = p.1 :: peel (rest.filter (fun q => anyLt q.2 p.2)) := by
  rw [peel]

end OptunaVerif.Best
