import OptunaVerif.Lemmas.CacheClient
/-! C08: the remaining critical sections of `_CachedStorage` (create, delete, memo), what is served
from the cache, and the list returned after a sync. -/
namespace OptunaVerif.Cache
open OptunaVerif.Storage OptunaVerif.C01

/-- what `create_new_trial` does to the entry of the study -/
def Entry.created (e : Entry) (p : Nat × TrialS) : Entry :=
  { e.addTrial p with unfinished := if p.2.state.isFinished then e.unfinished else uadd e.unfinished p.1 }

/-- What the locked part of `create_new_trial` may be handed when other threads / workers run between
the backend call and the critical section: a snapshot of the new record that is final if it shows a
finished state, and possibly out of date otherwise. -/
def Snapshot (s : Spec) (sid : Nat) (p : Nat × TrialS) : Prop :=
  ∃ t', s.trials[p.1]? = some t' ∧ t'.study = sid ∧ t'.number = p.2.number ∧
    (p.2.state.isFinished = true → t' = p.2)

theorem Current.snapshot {s : Spec} {sid : Nat} {p : Nat × TrialS} (h : Current s sid p) : Snapshot s sid p :=
  ⟨p.2, h.1, h.2, rfl, fun _ => rfl⟩

theorem Snapshot.filed {s : Spec} {sid : Nat} {p : Nat × TrialS} (h : Snapshot s sid p) : Filed s sid p := by
  obtain ⟨t', h1, h2, h3, _⟩ := h
  exact ⟨t', h1, h2, h3⟩

theorem mem_created_unfinished (e : Entry) (p : Nat × TrialS) (j : Nat) :
    j ∈ (e.created p).unfinished ↔ j ∈ e.unfinished ∨ (j = p.1 ∧ p.2.state.isFinished = false) := by
  simp only [Entry.created]
  split <;> simp_all [mem_uadd]

/-- **create keeps the invariant**, even with an out-of-date (unfinished) snapshot: a finished record is final and is filed
as it is (the watermark is not touched; the F6 repair), an unfinished one is scheduled for re-reading. -/
theorem entryInv_created_snapshot (s : Spec) (hN : Numbered s) (sid : Nat) (e : Entry) (p : Nat × TrialS)
    (h : EntryInv s sid e) (hp : Snapshot s sid p) : EntryInv s sid (e.created p) := by
  obtain ⟨tb, h1, h2, h3, h4⟩ := hp
  have hsub : ∀ j, j ∈ e.unfinished → j ∈ (e.created p).unfinished := fun j hj =>
    (mem_created_unfinished e p j).2 (.inl hj)
  have hnew : p.2.state.isFinished = true ∨ p.1 ∈ (e.created p).unfinished := by
    cases hfin : p.2.state.isFinished
    · exact .inr ((mem_created_unfinished e p p.1).2 (.inr ⟨rfl, hfin⟩))
    · exact .inl rfl
  refine ⟨core_file s sid e p _ _ h.toEntryCore tb h1 h2 h3 ?_ (fun j hj _ => hsub j hj)
    (fun hn => ⟨h4 (hnew.resolve_right hn), hnew.resolve_right hn⟩) h.wBound, ?_⟩
  · exact fun j hj => ((mem_created_unfinished e p j).1 hj).imp id (·.1)
  · intro tid2 t2 ht2 hs2 hw
    rcases h.covers tid2 t2 ht2 hs2 hw with hu | ⟨c1, c2⟩
    · exact Or.inl (hsub tid2 hu)
    · by_cases hn : t2.number = p.2.number
      · -- the record under the new trial's number is the new trial
        have hid := numbered_unique s hN ht2 h1 (hs2.trans h2.symm) (hn.trans h3.symm)
        subst hid
        rw [h1] at ht2
        cases ht2
        rcases hnew with hfin | hu
        · exact Or.inr ⟨by rw [h4 hfin]; exact find_insert_same _ _ _, c2⟩
        · exact Or.inl hu
      · exact Or.inr ⟨by simp only [Entry.created, addTrial_trials]; rw [find_insert_other _ _ _ _ hn]; exact c1, c2⟩

theorem noteCreated_entry (c : Client) (sid : Nat) (p : Nat × TrialS) :
    (∀ sid2, find (c.noteCreated sid p).studies sid2 =
      if sid2 = sid then some ((entryD c.studies sid).created p) else find c.studies sid2) := by
  intro sid2
  unfold Client.noteCreated Entry.created
  simp only
  split
  · simp only [Client.addOne, find_upsert, entryD_upsert_id]
    split <;> rfl
  · simp only [Client.addOne, find_upsert, entryD_upsert_same]
    split <;> rfl

theorem inv_noteCreated (s : Spec) (hN : Numbered s) (c : Client) (sid : Nat) (p : Nat × TrialS)
    (h : Inv s c) (hp : Snapshot s sid p) : Inv s (c.noteCreated sid p) := by
  have hm1 := maps_addOne s hN _ sid p (maps_touch s c sid h.maps) hp.filed
  have hm : Maps s (c.noteCreated sid p) := by
    unfold Client.noteCreated
    simp only
    split
    · exact hm1
    · exact maps_upsert_sameTrials s _ sid _ (fun e => rfl) hm1
  exact h.rewrite hm sid _ (entryInv_created_snapshot s hN sid _ p (entryInv_entryD s c h sid) hp) (noteCreated_entry c sid p)

/-- one iteration of the loop in `delete_study` -/
def dropStep (sid : Nat) (c : Client) (kv : Nat × (Nat × TrialS)) : Client :=
  let id2sn := match find c.sn2id (sid, kv.1) with
    | some tid => erase c.id2sn tid
    | none => c.id2sn
  { c with id2sn := id2sn, sn2id := erase c.sn2id (sid, kv.1) }

theorem dropStudy_eq (c : Client) (sid : Nat) :
    c.dropStudy sid = match find c.studies sid with
      | none => c
      | some e => { e.trials.foldl (dropStep sid) c with
          studies := erase (e.trials.foldl (dropStep sid) c).studies sid } := rfl

theorem foldl_dropStep_studies (sid : Nat) (kvs : List (Nat × (Nat × TrialS))) (c : Client) :
    (kvs.foldl (dropStep sid) c).studies = c.studies := by
  induction kvs generalizing c with
  | nil => rfl
  | cons kv r ih => simp only [List.foldl_cons]; rw [ih]; rfl

theorem foldl_dropStep (sid : Nat) (kvs : List (Nat × (Nat × TrialS))) (c : Client)
    (hk : (kvs.map (·.1)).Nodup)
    (hm : ∀ kv, kv ∈ kvs → find c.sn2id (sid, kv.1) = some kv.2.1) :
    kvs.foldl (dropStep sid) c =
      { c with id2sn := (kvs.map (·.2.1)).foldl erase c.id2sn,
               sn2id := (kvs.map (fun kv => (sid, kv.1))).foldl erase c.sn2id } := by
  induction kvs generalizing c with
  | nil => rfl
  | cons kv r ih =>
    simp only [List.map_cons, List.nodup_cons] at hk
    rw [List.foldl_cons, ih _ hk.2]
    · simp [dropStep, hm kv List.mem_cons_self]
    · -- the later numbers are other numbers: their memo is still there
      intro kv' hkv'
      have hne : kv'.1 ≠ kv.1 := fun e => hk.1 (e ▸ List.mem_map.2 ⟨kv', hkv', rfl⟩)
      simp [dropStep, find_erase, hne, hm kv' (List.mem_cons_of_mem _ hkv')]

theorem inv_dropStudy (s : Spec) (c : Client) (sid : Nat) (h : Inv s c) : Inv s (c.dropStudy sid) := by
  rw [dropStudy_eq]
  cases he : find c.studies sid with
  | none => exact h
  | some e =>
    simp only
    have hE := h.entries sid e he
    have hmem : ∀ kv, kv ∈ e.trials → find c.sn2id (sid, kv.1) = some kv.2.1 := by
      intro kv hkv
      obtain ⟨n, tid, t⟩ := kv
      exact h.m2 sid e n tid t he (mem_find_of_nodup _ _ _ hE.keys hkv)
    rw [foldl_dropStep sid e.trials c hE.keys hmem]
    refine ⟨forall_find_erase _ _ h.entries, fun tid2 sid2 n2 hf => ?_, fun sid2 e2 n2 tid2 t2 he2 hf => ?_,
      fun sid2 n2 tid2 hf => ?_⟩
    · -- an id that is still in the id memo is not one of the dropped entry, so it points into another study
      simp only [find_foldl_erase] at hf
      split at hf
      · cases hf
      · rename_i hnot
        obtain ⟨e2, t2, g1, g2⟩ := h.m1 tid2 sid2 n2 hf
        have hne : sid2 ≠ sid := by
          rintro rfl
          cases he.symm.trans g1
          exact hnot (List.mem_map.2 ⟨(n2, (tid2, t2)), find_some_mem _ _ _ g2, rfl⟩)
        exact ⟨e2, t2, by simp [find_erase, hne, g1], g2⟩
    · -- only numbers of `sid` left the number memo
      simp only [find_erase] at he2
      split at he2
      · cases he2
      · rename_i hne
        simp only [find_foldl_erase]
        rw [if_neg]
        · exact h.m2 sid2 e2 n2 tid2 t2 he2 hf
        · intro hm
          obtain ⟨kv, _, hkv⟩ := List.mem_map.1 hm
          exact hne (Prod.mk.inj hkv).1.symm
    · simp only [find_foldl_erase] at hf
      split at hf
      · cases hf
      · exact h.m3 sid2 n2 tid2 hf

/-- For `C08.finished_never_stale`: a trial answered from the cache without asking the backend carries the
requested id and is exactly the backend's (finished) record; and `_get_cached_trial` never trips
over its own dicts. -/
theorem serveTrial_sound (s : Spec) (c : Client) (h : Inv s c) (tid : Nat) :
    c.serveTrial tid ≠ .crash ∧
      ∀ id t, c.serveTrial tid = .hit id t →
        id = tid ∧ s.trials[tid]? = some t ∧ t.state.isFinished = true := by
  unfold Client.serveTrial
  cases h1 : find c.id2sn tid with
  | none => simp
  | some sn =>
    obtain ⟨sid, n⟩ := sn
    obtain ⟨e, t0, g1, g2⟩ := h.m1 tid sid n h1
    simp only [g1, g2]
    by_cases hu : tid ∈ e.unfinished
    · have hu' : e.unfinished.contains tid = true := by simpa using hu
      simp [hu]
    · have hu' : e.unfinished.contains tid = false := by simpa using hu
      rw [hu']
      simp only [Bool.false_eq_true, if_false]
      refine ⟨by simp, ?_⟩
      intro id t hh
      simp only [Served.hit.injEq] at hh
      obtain ⟨e1, e2⟩ := hh
      subst e1; subst e2
      obtain ⟨f1, f2⟩ := (h.entries sid e g1).fresh n tid t0 g2 hu
      exact ⟨rfl, f1, f2⟩

theorem lookup_sound (s : Spec) (hN : Numbered s) (c : Client) (h : Inv s c) (sid n tid : Nat)
    (hf : find c.sn2id (sid, n) = some tid) : ∃ t, (s.trialsOf sid)[n]? = some (tid, t) := by
  obtain ⟨t', h1, h2, h3⟩ := h.m3 sid n tid hf
  have := trialsOf_getElem_number s hN tid t' h1
  rw [h2, h3] at this
  exact ⟨t', this⟩

theorem values_perm (s : Spec) (sid : Nat) (e : Entry) (hc : EntryCore s sid e) (hf : AllFresh s sid e) :
    (e.trials.map (·.2)).Perm (s.trialsOf sid) := by
  -- two duplicate-free lists with the same members (`AllFresh`: sound and complete).  The cached values repeat nothing
  -- because a value carries its key, the number of the record (`static`), and the keys are distinct
  have hk : e.trials.Pairwise (fun a b => a.1 ≠ b.1) := by
    have := hc.keys
    unfold List.Nodup at this
    exact List.pairwise_map.1 this
  have hnd : (e.trials.map (·.2)).Nodup := by
    unfold List.Nodup
    rw [List.pairwise_map]
    refine List.Pairwise.imp_of_mem ?_ hk
    intro x y hx hy hne hxy
    apply hne
    obtain ⟨n1, tid1, t1⟩ := x
    obtain ⟨n2, tid2, t2⟩ := y
    simp only [Prod.mk.injEq] at hxy
    obtain ⟨e1, e2⟩ := hxy
    subst e1; subst e2
    obtain ⟨_, _, _, _, k1⟩ := hc.static n1 tid1 t1 (mem_find_of_nodup _ _ _ hc.keys hx)
    obtain ⟨_, _, _, _, k2⟩ := hc.static n2 tid1 t1 (mem_find_of_nodup _ _ _ hc.keys hy)
    show n1 = n2
    rw [← k1, ← k2]
  rw [List.perm_ext_iff_of_nodup hnd (trialsOf_nodup s sid)]
  intro a
  obtain ⟨tid, t⟩ := a
  rw [mem_trialsOf]
  constructor
  · intro hm
    obtain ⟨kv, hkv, e1⟩ := List.mem_map.1 hm
    obtain ⟨n, v⟩ := kv
    simp only at e1
    subst e1
    exact hf.sound n tid t (mem_find_of_nodup _ _ _ hc.keys hkv)
  · rintro ⟨h1, h2⟩
    exact List.mem_map.2 ⟨(t.number, (tid, t)), find_some_mem _ _ _ (hf.complete tid t h1 h2), rfl⟩

/-- For `C08.sync_then_equal`, entry level: an entry that is `AllFresh` reads back exactly as the
backend's list of the study, in the backend's order, for every state filter. -/
theorem readAll_of_allFresh (s : Spec) (hN : Numbered s) (sid : Nat) (e : Entry) (hc : EntryCore s sid e)
    (hf : AllFresh s sid e) (states : Option (List TState)) :
    e.readAll states = (s.trialsOf sid).filter (fun p => stateIn states p.2.state) := by
  unfold Entry.readAll
  have hperm : (sortByNumber ((e.trials.map (·.2)).filter (fun p => stateIn states p.2.state))).Perm
      ((s.trialsOf sid).filter (fun p => stateIn states p.2.state)) :=
    (sortByNumber_perm _).trans ((values_perm s sid e hc hf).filter _)
  have hs2 : ((s.trialsOf sid).filter (fun p => stateIn states p.2.state)).Pairwise
      (fun a b => a.2.number ≤ b.2.number) :=
    ((trialsOf_sorted s hN sid).imp (fun h => Nat.le_of_lt h)).filter _
  refine List.Perm.eq_of_pairwise ?_ (sortByNumber_sorted _) hs2 hperm
  intro a b ha hb h1 h2
  have ha' : a ∈ s.trialsOf sid := (List.mem_filter.1 (hperm.subset ha)).1
  have hb' : b ∈ s.trialsOf sid := (List.mem_filter.1 hb).1
  obtain ⟨ia, ta⟩ := a
  obtain ⟨ib, tb⟩ := b
  obtain ⟨a1, a2⟩ := (mem_trialsOf s sid ia ta).1 ha'
  obtain ⟨b1, b2⟩ := (mem_trialsOf s sid ib tb).1 hb'
  have hid := numbered_unique s hN a1 b1 (a2.trans b2.symm) (Nat.le_antisymm h1 h2)
  subst hid
  rw [a1] at b1
  simp only [Option.some.injEq] at b1
  subst b1
  rfl

/-- For `C08.order_by_number`: whatever the cache holds, `get_all_trials` returns it sorted by number. -/
theorem readAll_sorted (e : Entry) (states : Option (List TState)) :
    (e.readAll states).Pairwise (fun a b => a.2.number ≤ b.2.number) :=
  sortByNumber_sorted _

theorem entryInv_setName (s : Spec) (sid : Nat) (e : Entry) (nm : String) (h : EntryInv s sid e)
    (hn : ∃ o, s.studies[sid]? = some o ∧ ∀ st, o = some st → st.name = nm) :
    EntryInv s sid { e with name := some nm } := by
  refine ⟨⟨h.keys, h.static, h.fresh, h.uOfStudy, h.wBound, ?_, h.memoDirs⟩, h.covers⟩
  intro nm' hh
  simp only [Option.some.injEq] at hh
  subst hh
  exact hn

theorem entryInv_setDirs (s : Spec) (sid : Nat) (e : Entry) (d : List Nat) (h : EntryInv s sid e)
    (hn : ∃ o, s.studies[sid]? = some o ∧ ∀ st, o = some st → st.directions = d) :
    EntryInv s sid { e with directions := some d } := by
  refine ⟨⟨h.keys, h.static, h.fresh, h.uOfStudy, h.wBound, h.memoName, ?_⟩, h.covers⟩
  intro d' hh
  simp only [Option.some.injEq] at hh
  subst hh
  exact hn

theorem inv_upsert_field (s : Spec) (c : Client) (sid : Nat) (f : Entry → Entry) (h : Inv s c)
    (hf : ∀ e, (f e).trials = e.trials) (hE : EntryInv s sid (f (entryD c.studies sid))) :
    Inv s { c with studies := upsert c.studies sid f } :=
  h.rewrite (maps_upsert_sameTrials s c sid f hf h.maps) sid _ hE (fun _ => find_upsert ..)

theorem createTrial_current (s s' : Spec) (sid : Nat) (tm : Option Template) (ir : Bool) (tid : Nat)
    (t : TrialS) (h : step s (.createTrial sid tm ir) = (s', .newId tid)) (ht : s'.trials[tid]? = some t) :
    Current s' sid (tid, t) := by
  refine ⟨ht, ?_⟩
  cases wrote_of_eq h rfl (fun _ he => Out.noConfusion he)
  simp only [List.getElem?_concat_length, Option.some.injEq] at ht
  subst ht
  cases tm <;> simp [mkTrial]

theorem trial?_of_live (s : Spec) (tid : Nat) (t : TrialS) (h : s.trials[tid]? = some t)
    (hl : (s.study? t.study).isSome = true) : s.trial? tid = some t :=
  (trial?_some_iff s tid t).2 ⟨h, hl⟩

end OptunaVerif.Cache
