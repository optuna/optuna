import OptunaVerif.Model.Rank
import OptunaVerif.Lemmas.Hypervolume

/-! Lemmas for C15 (non-domination rank, `Model/Rank.lean`): front exactness on unique-lexsorted arrays
(`mem_frontSorted_iff`); peeling of a class by a relation (`IsPeelingOn`; `IsPeelingAt`: from a level on, exact on a window of
levels) with its three constructions - along a map (`comap`), ordinal sum (`sum`), one round (`round`: the minimal members, then
the rest one level up); the peeling loop and the driver's naive reference are both that round iterated (`peelLoop_spec`,
`peelRankNaive_between`).  The specification `IsPeeling` (rank = level under repeated removal of the non-dominated rows, unique)
and that `_calculate_nondomination_rank` meets it - one objective, several, with `n_below` up to the stopping level
(`rankFn_upTo`, `rankFn_isPeeling`); the constrained variant as an ordinal sum of three peelings (`fastRankFn_isCPeeling`);
the naive reference is the same rank (`naive_eq_rank`). -/
namespace OptunaVerif.Rank
open OptunaVerif.Hypervolume List

/-- strict Pareto dominance -/
def Dom (q p : Pt) : Prop := Le q p ∧ q ≠ p

theorem mem_frontSorted_iff (d : Nat) (L : List Pt) (hL : LexSorted L) (hb : ∀ q ∈ L, q.length = d) (p : Pt) :
    p ∈ frontSorted id d L ↔ p ∈ L ∧ ∀ q ∈ L, ¬ Dom q p := by
  have hsub := frontSorted_sublist d L
  constructor
  · intro hp
    refine ⟨hsub.subset hp, fun q hq hdom => ?_⟩
    obtain ⟨p', hp', hle⟩ := frontSorted_cover d L hb hL.sorted0 q hq
    have := frontSorted_antichain d L hL p' hp' p hp (hle.trans hdom.1)
    subst this
    exact hdom.2 (hdom.1.antisymm hle)
  · rintro ⟨hp, hnd⟩
    obtain ⟨p', hp', hle⟩ := frontSorted_cover d L hb hL.sorted0 p hp
    by_cases h : p' = p
    · subst h; exact hp'
    · exact absurd ⟨hle, h⟩ (hnd p' (hsub.subset hp'))

/-- `ρ` is the rank given by repeatedly peeling the `R`-minimal members of the class `M`
(`IsPeeling S` is the class `· ∈ S` with `Dom`, `IsCPeeling rows` the class `· ∈ rows` with `CDom`) -/
def IsPeelingOn {α : Type} (M : α → Prop) (R : α → α → Prop) (ρ : α → Nat) : Prop :=
  ∀ p, M p → ∀ j, j ≤ ρ p → (ρ p = j ↔ ∀ q, M q → j ≤ ρ q → ¬ R q p)

theorem IsPeelingOn.comap {α β : Type} {M : α → Prop} {R : α → α → Prop} {M' : β → Prop} {R' : β → β → Prop}
    {σ : β → Nat} (f : α → β) (hM : ∀ p, M p → M' (f p)) (hsurj : ∀ q', M' q' → ∃ q, M q ∧ f q = q')
    (hR : ∀ q p, M q → M p → (R q p ↔ R' (f q) (f p))) (h : IsPeelingOn M' R' σ) :
    IsPeelingOn M R (fun p => σ (f p)) := by
  intro p hp j hj
  rw [h (f p) (hM p hp) j hj]
  constructor
  · intro H q hq hjq hr
    exact H (f q) (hM q hq) hjq ((hR q p hq hp).1 hr)
  · intro H q' hq' hjq hr
    obtain ⟨q, hq, rfl⟩ := hsurj q' hq'
    exact H q hq hjq ((hR q p hq hp).2 hr)

theorem IsPeelingOn.sum {α : Type} {M₁ M₂ : α → Prop} {R : α → α → Prop} {τ σ : α → Nat} {T : Nat}
    (h₁ : IsPeelingOn M₁ R τ) (h₂ : IsPeelingOn M₂ R σ)
    (h12 : ∀ a b, M₁ a → M₂ b → R a b) (h21 : ∀ a b, M₁ a → M₂ b → ¬ R b a)
    (hlt : ∀ p, M₁ p → τ p < T) (htop : 0 < T → ∃ p, M₁ p ∧ τ p + 1 = T) (hτ : ∀ p, M₂ p → τ p = T + σ p) :
    IsPeelingOn (fun p => M₁ p ∨ M₂ p) R τ := by
  rintro p (hp | hp) j hj
  · rw [h₁ p hp j hj]
    constructor
    · rintro H q (hq | hq) hjq hr
      · exact H q hq hjq hr
      · exact h21 p q hp hq hr
    · intro H q hq hjq
      exact H q (Or.inl hq) hjq
  · rw [hτ p hp] at hj ⊢
    by_cases hlow : j < T
    · -- a member of the last level of `M₁` still dominates
      constructor
      · intro h; omega
      · intro H
        obtain ⟨q, hq, hqT⟩ := htop (by omega)
        exact absurd (h12 q p hq hp) (H q (Or.inl hq) (by omega))
    · have hiff := h₂ p hp (j - T) (by omega)
      constructor
      · rintro h q (hq | hq) hjq hr
        · have := hlt q hq; omega
        · rw [hτ q hq] at hjq
          exact hiff.1 (by omega) q hq (by omega) hr
      · intro H
        have : σ p = j - T := hiff.2 fun q hq hjq hr => H q (Or.inr hq) (by rw [hτ q hq]; omega) hr
        omega

theorem IsPeelingOn.unique {α : Type} {M : α → Prop} {R : α → α → Prop} {ρ ρ' : α → Nat}
    (h : IsPeelingOn M R ρ) (h' : IsPeelingOn M R ρ') : ∀ p, M p → ρ p = ρ' p := by
  -- by strong induction on the level: the two rank functions have the same level sets
  have key : ∀ n, ∀ p, M p → (ρ p = n ↔ ρ' p = n) := by
    intro n
    induction n using Nat.strong_induction_on with
    | _ n ih =>
      have hlow : ∀ q, M q → (n ≤ ρ q ↔ n ≤ ρ' q) := by
        intro q hq
        constructor
        · intro hn
          by_contra hc
          have := (ih (ρ' q) (by omega) q hq).2 rfl
          omega
        · intro hn
          by_contra hc
          have := (ih (ρ q) (by omega) q hq).1 rfl
          omega
      intro p hp
      constructor
      · intro hpn
        have hn' : n ≤ ρ' p := (hlow p hp).1 (by omega)
        rw [h' p hp n hn']
        intro q hq hnq
        exact (h p hp n (by omega)).1 hpn q hq ((hlow q hq).2 hnq)
      · intro hpn
        have hn' : n ≤ ρ p := (hlow p hp).2 (by omega)
        rw [h p hp n hn']
        intro q hq hnq
        exact (h' p hp n (by omega)).1 hpn q hq ((hlow q hq).1 hnq)
  intro p hp
  exact ((key (ρ p) p hp).1 rfl).symm

/-- peeling of the class `M` that starts at level `k` and is exact at the levels in `W` -/
def IsPeelingAt {α : Type} (M : α → Prop) (R : α → α → Prop) (ρ : α → Nat) (k : Nat) (W : Nat → Prop) : Prop :=
  ∀ p, M p → k ≤ ρ p ∧ ∀ j, k ≤ j → W j → j ≤ ρ p → (ρ p = j ↔ ∀ q, M q → j ≤ ρ q → ¬ R q p)

theorem isPeelingOn_iff_at {α : Type} {M : α → Prop} {R : α → α → Prop} {ρ : α → Nat} :
    IsPeelingOn M R ρ ↔ IsPeelingAt M R ρ 0 fun _ => True := by
  simp [IsPeelingOn, IsPeelingAt]

theorem IsPeelingAt.round {α : Type} {M M' F : α → Prop} {R : α → α → Prop} {ρ ρ' : α → Nat} {k : Nat} {W : Nat → Prop}
    (hF : ∀ p, M p → (F p ↔ ∀ q, M q → ¬ R q p)) (hM' : ∀ p, M' p ↔ M p ∧ ¬ F p)
    (hρF : ∀ p, M p → F p → ρ p = k) (hρ' : ∀ p, M' p → ρ p = ρ' p)
    (h : IsPeelingAt M' R ρ' (k + 1) W) : IsPeelingAt M R ρ k W := by
  have hge : ∀ q, M q → k ≤ ρ q ∧ (k < ρ q → M' q) := fun q hq => by
    by_cases hFq : F q
    · rw [hρF q hq hFq]; exact ⟨le_refl _, fun h => absurd h (lt_irrefl _)⟩
    · have hq' := (hM' q).2 ⟨hq, hFq⟩
      rw [hρ' q hq']; exact ⟨by have := (h q hq').1; omega, fun _ => hq'⟩
  intro p hp
  refine ⟨(hge p hp).1, fun j hkj hW hjp => ?_⟩
  by_cases hFp : F p
  · have hjk : j = k := by have := hρF p hp hFp; omega
    subst hjk
    exact ⟨fun _ q hq _ => (hF p hp).1 hFp q hq, fun _ => hρF p hp hFp⟩
  · have hp' := (hM' p).2 ⟨hp, hFp⟩
    have hlt : k < ρ p := by have := (h p hp').1; rw [← hρ' p hp'] at this; omega
    rcases Nat.eq_or_lt_of_le hkj with rfl | hkj'
    · exact ⟨fun h' => by omega, fun H => absurd ((hF p hp).2 fun q hq => H q hq (hge q hq).1) hFp⟩
    · rw [hρ' p hp'] at hjp ⊢
      rw [(h p hp').2 j hkj' hW hjp]
      constructor
      · intro H q hq hjq
        have hq' := (hge q hq).2 (by omega)
        exact H q hq' (by rw [← hρ' q hq']; exact hjq)
      · intro H q hq' hjq
        exact H q ((hM' q).1 hq').1 (by rw [hρ' q hq']; exact hjq)

theorem lookupRank_map_append (A : List Pt) (k : Nat) (B : List (Pt × Nat)) (p : Pt) :
    lookupRank (A.map (fun p => (p, k)) ++ B) p = if p ∈ A then k else lookupRank B p := by
  induction A with
  | nil => simp
  | cons a A ih =>
    by_cases h : a = p
    · subst h
      simp [lookupRank]
    · have h' : (a == p) = false := by simpa using h
      have : lookupRank ((a :: A).map (fun p => (p, k)) ++ B) p
          = lookupRank (A.map (fun p => (p, k)) ++ B) p := by
        simp [lookupRank, h']
      rw [this, ih]
      have : p ∈ a :: A ↔ p ∈ A := by
        simp only [List.mem_cons]; constructor
        · rintro (rfl | h2); exact absurd rfl h; exact h2
        · exact Or.inr
      simp only [this]

theorem lookupRank_map (A : List Pt) (k : Nat) (p : Pt) (hp : p ∈ A) :
    lookupRank (A.map (fun p => (p, k))) p = k := by
  have := lookupRank_map_append A k [] p
  simpa [hp] using this

theorem head_mem_frontSorted (d : Nat) (h : Pt) (t : List Pt) : h ∈ frontSorted id d (h :: t) := by
  unfold frontSorted
  split
  · simp [front1d]
  · split
    · simp [front2d]
    · rw [frontNd_cons]; simp

theorem removeAll_sublist (L F : List Pt) : (removeAll L F).Sublist L := filter_sublist

theorem mem_removeAll (L F : List Pt) (p : Pt) : p ∈ removeAll L F ↔ p ∈ L ∧ p ∉ F := by
  simp [removeAll]

theorem removeAll_length_lt (d : Nat) (L : List Pt) (hne : L ≠ []) :
    (removeAll L (frontSorted id d L)).length < L.length := by
  cases L with
  | nil => exact absurd rfl hne
  | cons h t =>
    unfold removeAll
    apply List.length_filter_lt_length_iff_exists.2
    exact ⟨h, List.mem_cons_self, by simpa using head_mem_frontSorted d h t⟩

/-- counting ranks after one round: where the front's rank `k` does not count, only the remaining rows do -/
theorem filter_front_else (rem front : List Pt) (k : Nat) (ρ' : Pt → Nat) (P : Nat → Bool) (hk : P k = false) :
    rem.filter (fun p => P (if p ∈ front then k else ρ' p)) = (removeAll rem front).filter (fun p => P (ρ' p)) := by
  rw [removeAll, List.filter_filter]
  apply List.filter_congr
  intro p _
  by_cases h : p ∈ front <;> simp [h, hk]

/-- number of iterations of the `while` loop -/
def iters (d nb nU : Nat) : Nat → List Pt → Nat
  | 0, _ => 0
  | f + 1, rem =>
    if nU - rem.length < nb then 1 + iters d nb nU f (removeAll rem (frontSorted id d rem)) else 0

/-- Invariant of the peeling loop, for any `n_below` clipped to the number `nU` of unique rows (`hnb`).  With `ρ` the
ranks written by the loop started at rank `k` on the remaining unique-lexsorted rows `rem`, and `K` the rank at which it stops:
(1) `ρ` peels `rem` by `Dom` from level `k`, exactly below `K`; (2) `ρ p ≤ K`; (3) when it stops at least `nb` unique
rows have a rank below `K`; (4) one level earlier fewer than `nb` had. -/
theorem peelLoop_spec (d nb nU : Nat) (hnb : nb ≤ nU) :
    ∀ (fuel k : Nat) (rem : List Pt), rem.length ≤ fuel → LexSorted rem → (∀ q ∈ rem, q.length = d) →
      let ρ := lookupRank (peelLoop d nb nU fuel k rem)
      let K := k + iters d nb nU fuel rem
      IsPeelingAt (· ∈ rem) Dom ρ k (· < K) ∧ (∀ p ∈ rem, ρ p ≤ K) ∧
      nb ≤ nU - (rem.filter (fun p => ρ p = K)).length ∧
      (k < K → nU - (rem.filter (fun p => K - 1 ≤ ρ p)).length < nb) := by
  intro fuel
  induction fuel with
  | zero =>
    intro k rem hlen _ _
    have : rem = [] := by simpa using hlen
    subst this
    simp [IsPeelingAt, iters, hnb]
  | succ fuel ih =>
    intro k rem hlen hlex hb
    by_cases hc : nU - rem.length < nb
    · -- one more round
      have hrem' := removeAll_sublist rem (frontSorted id d rem)
      have hlen' : (removeAll rem (frontSorted id d rem)).length ≤ fuel := by
        by_cases hne : rem = []
        · subst hne; simp [removeAll]
        · have := removeAll_length_lt d rem hne; omega
      obtain ⟨i1, i2, i3, i4⟩ := ih (k + 1) _ hlen' (List.Pairwise.sublist hrem' hlex)
        (fun q hq => hb q (hrem'.subset hq))
      simp only [peelLoop, hc, if_true, iters]
      set front := frontSorted id d rem with hfront
      set rem' := removeAll rem front with hrem
      set ρ' := lookupRank (peelLoop d nb nU fuel (k + 1) rem') with hρ'
      set it := iters d nb nU fuel rem' with hit
      have hρ : lookupRank (front.map (fun p => (p, k)) ++ peelLoop d nb nU fuel (k + 1) rem')
          = fun p => if p ∈ front then k else ρ' p := funext fun p => lookupRank_map_append front k _ p
      simp only [hρ]
      have hK : k + (1 + it) = k + 1 + it := by omega
      rw [hK]
      have hnf : ∀ p ∈ rem', p ∉ front := fun p hp => ((mem_removeAll _ _ _).1 hp).2
      have hsplit : ∀ p ∈ rem, p ∈ front ∨ (p ∉ front ∧ p ∈ rem') := by
        intro p hp
        by_cases h : p ∈ front
        · exact Or.inl h
        · exact Or.inr ⟨h, (mem_removeAll _ _ _).2 ⟨hp, h⟩⟩
      refine ⟨?_, ?_, ?_, ?_⟩
      · -- the front is the set of non-dominated rows: one round of peeling
        exact IsPeelingAt.round (F := (· ∈ front)) (M' := (· ∈ rem')) (ρ' := ρ')
          (fun p hp => by rw [mem_frontSorted_iff d rem hlex hb p]; exact and_iff_right hp)
          (fun p => mem_removeAll _ _ _) (fun p _ h => if_pos h) (fun p hp => if_neg (hnf p hp)) i1
      · intro p hp
        rcases hsplit p hp with h | ⟨h, hp'⟩
        · simp only [h, if_true]; omega
        · simp only [h, if_false]; exact i2 p hp'
      · rw [filter_front_else rem front k ρ' (fun j => decide (j = k + 1 + it)) (by simp; omega)]
        exact i3
      · intro _
        -- the level before the last: if the loop stops right after this round it is `k`, all of `rem` is at or above it
        -- and the claim is the guard `hc` of this round; otherwise it lies in the rounds to come, where the front no longer counts
        by_cases hit0 : it = 0
        · have : rem.filter (fun p => decide (k + 1 + it - 1 ≤ (if p ∈ front then k else ρ' p))) = rem := by
            apply List.filter_eq_self.2
            intro p hp
            rcases hsplit p hp with h | ⟨h, hp'⟩
            · simp [h, hit0]
            · have := (i1 p hp').1
              simp only [h, if_false, decide_eq_true_eq]; omega
          rw [this]; exact hc
        · rw [filter_front_else rem front k ρ' (fun j => decide (k + 1 + it - 1 ≤ j)) (by simp; omega)]
          exact i4 (by omega)
    · -- the loop stops here
      simp only [peelLoop, hc, if_false, iters, Nat.add_zero]
      have hρ : ∀ p ∈ rem, lookupRank (rem.map (fun p => (p, k))) p = k :=
        fun p hp => lookupRank_map rem k p hp
      refine ⟨fun p hp => ⟨by rw [hρ p hp], fun j h1 h2 => by omega⟩, fun p hp => by rw [hρ p hp], ?_,
        fun h => by omega⟩
      have : rem.filter (fun p => decide (lookupRank (rem.map (fun p => (p, k))) p = k)) = rem := by
        apply List.filter_eq_self.2
        intro p hp
        simp [hρ p hp]
      rw [this]
      omega

/-- `ρ` **is the rank given by repeatedly peeling the Pareto front of `S`**: for every level `j`, the
rows of rank `j` are exactly the rows (of rank `≥ j`) that no row of rank `≥ j` dominates. -/
def IsPeeling (S : List Pt) (ρ : Pt → Nat) : Prop :=
  ∀ p ∈ S, ∀ j, j ≤ ρ p → (ρ p = j ↔ ∀ q ∈ S, j ≤ ρ q → ¬ Dom q p)

/-- peeling stopped at level `K`: exact below `K`, everything else gets `K` -/
def IsPeelingUpTo (S : List Pt) (ρ : Pt → Nat) (K : Nat) : Prop :=
  (∀ p ∈ S, ρ p ≤ K) ∧
  ∀ p ∈ S, ∀ j, j < K → j ≤ ρ p → (ρ p = j ↔ ∀ q ∈ S, j ≤ ρ q → ¬ Dom q p)

theorem isPeeling_iff {S : List Pt} {ρ : Pt → Nat} : IsPeeling S ρ ↔ IsPeelingOn (· ∈ S) Dom ρ := Iff.rfl

theorem isPeelingUpTo_iff {S : List Pt} {ρ : Pt → Nat} {K : Nat} :
    IsPeelingUpTo S ρ K ↔ (∀ p ∈ S, ρ p ≤ K) ∧ IsPeelingAt (· ∈ S) Dom ρ 0 (· < K) := by
  simp [IsPeelingUpTo, IsPeelingAt]

theorem isPeeling_unique (S : List Pt) (ρ ρ' : Pt → Nat) (h : IsPeeling S ρ) (h' : IsPeeling S ρ') :
    ∀ p ∈ S, ρ p = ρ' p :=
  IsPeelingOn.unique (isPeeling_iff.1 h) (isPeeling_iff.1 h')

theorem dom_iff_lexLt_1d {p q : Pt} (hp : p.length = 1) (hq : q.length = 1) :
    Dom q p ↔ lexLt q p = true := by
  match p, hp, q, hq with
  | [a], _, [b], _ =>
    simp only [Dom, Le, forall₂_cons, Forall₂.nil, and_true, lexLt, Bool.and_false, Bool.or_false,
      decide_eq_true_eq, ne_eq, List.cons.injEq]
    omega

theorem dom_singleton (v w : Int) : Dom [v] [w] ↔ v < w := by
  simp only [Dom, Le, forall₂_cons, Forall₂.nil, and_true, ne_eq, List.cons.injEq]
  omega

theorem isPeelingOn_lt (n : Nat) : IsPeelingOn (· < n) (· < ·) id := by
  intro p hp j hj
  simp only [id] at hj ⊢
  exact ⟨fun h q _ hjq hqp => by omega, fun H => by have := H j (by omega) (le_refl _); omega⟩

/-- one objective: the rows are a chain, and the position among the sorted distinct values is its peeling -/
theorem isPeeling_idxOf (S : List Pt) (hS : ∀ q ∈ S, q.length = 1) :
    IsPeeling S (fun p => (uniqueLex S).idxOf p) := by
  have hU := lexSorted_uniqueLex 1 S hS
  have hmem : ∀ p, p ∈ S → p ∈ uniqueLex S := fun p => (mem_uniqueLex S p).2
  refine isPeeling_iff.2 <| IsPeelingOn.comap (M' := (· < (uniqueLex S).length)) (R' := (· < ·)) (fun p => (uniqueLex S).idxOf p)
    (fun p hp => List.idxOf_lt_length_of_mem (hmem p hp))
    (fun j hj => ⟨(uniqueLex S)[j], (mem_uniqueLex S _).1 (List.getElem_mem hj), (LexSorted.nodup hU).idxOf_getElem j hj⟩)
    (fun q p hq hp => by rw [dom_iff_lexLt_1d (hS p hp) (hS q hq), lexLt_iff_idxOf hU (hmem p hp) (hmem q hq)])
    (isPeelingOn_lt _)

theorem clipNBelow_le (nb : Option Int) (n : Nat) : clipNBelow nb n ≤ n := by
  unfold clipNBelow
  split
  · split
    · exact le_refl _
    · exact min_le_right _ _
  · exact le_refl _

theorem rankFn_upTo (d : Nat) (S : List Pt) (hS : ∀ q ∈ S, q.length = d) (nBelow : Option Int)
    (h1 : d ≠ 1) (ht : trivialCase S nBelow = false) :
    ∃ K, IsPeelingUpTo S (rankFn d S nBelow) K ∧
      clipNBelow nBelow (uniqueLex S).length
        ≤ (uniqueLex S).length - ((uniqueLex S).filter (fun p => rankFn d S nBelow p = K)).length ∧
      (0 < K → (uniqueLex S).length - ((uniqueLex S).filter (fun p => K - 1 ≤ rankFn d S nBelow p)).length
        < clipNBelow nBelow (uniqueLex S).length) := by
  have hU := lexSorted_uniqueLex d S hS
  have hρ : rankFn d S nBelow = lookupRank (peelLoop d (clipNBelow nBelow (uniqueLex S).length)
      (uniqueLex S).length (uniqueLex S).length 0 (uniqueLex S)) := by
    funext p
    simp [rankFn, ht, h1]
  obtain ⟨i1, i2, i3, i4⟩ := peelLoop_spec d _ _ (clipNBelow_le nBelow _) (uniqueLex S).length 0
    (uniqueLex S) (le_refl _) hU (fun q hq => hS q ((mem_uniqueLex S q).1 hq))
  simp only [Nat.zero_add] at i1 i2 i3 i4
  rw [← hρ] at i1 i2 i3 i4
  simp only [mem_uniqueLex] at i1 i2
  exact ⟨_, isPeelingUpTo_iff.2 ⟨i2, i1⟩, i3, i4⟩

theorem rankFn_isPeeling (d : Nat) (S : List Pt) (hS : ∀ q ∈ S, q.length = d) :
    IsPeeling S (rankFn d S none) := by
  by_cases hne : S = []
  · subst hne; intro p hp; cases hp
  have ht : trivialCase S none = false := by
    cases S with
    | nil => exact absurd rfl hne
    | cons _ _ => simp [trivialCase]
  by_cases h1 : d = 1
  · subst h1
    have : rankFn 1 S none = fun p => (uniqueLex S).idxOf p := by
      funext p; simp [rankFn, ht]
    rw [this]
    exact isPeeling_idxOf S hS
  · obtain ⟨K, ⟨hK1, hK2⟩, h3, _⟩ := rankFn_upTo d S hS none h1 ht
    have hfil : (uniqueLex S).filter (fun p => decide (rankFn d S none p = K)) = [] := by
      have : clipNBelow none (uniqueLex S).length = (uniqueLex S).length := rfl
      rw [this] at h3
      have hlen := List.length_filter_le (fun p => decide (rankFn d S none p = K)) (uniqueLex S)
      exact List.eq_nil_of_length_eq_zero (by omega)
    intro p hp j hj
    have hlt : rankFn d S none p < K := by
      have h := hK1 p hp
      rcases Nat.lt_or_ge (rankFn d S none p) K with h' | h'
      · exact h'
      · have heq : rankFn d S none p = K := by omega
        have : p ∈ (uniqueLex S).filter (fun p => decide (rankFn d S none p = K)) :=
          List.mem_filter.2 ⟨(mem_uniqueLex S p).2 hp, by simpa using heq⟩
        rw [hfil] at this; cases this
    exact hK2 p hp j (by omega) hj

theorem rankFn_of_length_le (d : Nat) (S : List Pt) (hS : ∀ q ∈ S, q.length = d) (n : Int)
    (hn : (S.length : Int) ≤ n) : rankFn d S (some n) = rankFn d S none := by
  funext p
  cases S with
  | nil => simp [rankFn, trivialCase]
  | cons a t =>
    have hU := uniqueLex_length_le d (a :: t) hS
    simp only [List.length_cons] at hn hU
    have h0 : ¬ n ≤ 0 := by omega
    have hc : min n.toNat (uniqueLex (a :: t)).length = (uniqueLex (a :: t)).length := by omega
    simp [rankFn, trivialCase, clipNBelow, h0, show n ≠ 0 by omega, hc]

theorem rankFn_isPeeling_of_le (d : Nat) (S : List Pt) (hS : ∀ q ∈ S, q.length = d) (n : Int)
    (hn : (S.length : Int) ≤ n) : IsPeeling S (rankFn d S (some n)) := by
  rw [rankFn_of_length_le d S hS n hn]
  exact rankFn_isPeeling d S hS

/-- constrained domination of rows with a penalty (`none` = NaN = no constraint information):
feasible before infeasible before unknown; Pareto dominance among feasible and among unknown rows;
smaller penalty among infeasible rows. -/
def CDom (a b : Row) : Prop :=
  match classify a.2, classify b.2 with
  | .feasible, .feasible => Dom a.1 b.1
  | .feasible, _ => True
  | .infeasible, .infeasible => a.2.getD 0 < b.2.getD 0
  | .infeasible, .unknown => True
  | .unknown, .unknown => Dom a.1 b.1
  | _, _ => False

/-- `ρ` is the rank given by repeatedly peeling the constrained-non-dominated rows -/
def IsCPeeling (rows : List Row) (ρ : Row → Nat) : Prop :=
  ∀ e ∈ rows, ∀ j, j ≤ ρ e → (ρ e = j ↔ ∀ e' ∈ rows, j ≤ ρ e' → ¬ CDom e' e)

theorem isCPeeling_iff {rows : List Row} {ρ : Row → Nat} : IsCPeeling rows ρ ↔ IsPeelingOn (· ∈ rows) CDom ρ := Iff.rfl

theorem topRank_aux (l : List Nat) (a b : Nat) :
    l.foldl (fun m x => max m (x + 1)) a ≤ b ↔ a ≤ b ∧ ∀ x ∈ l, x < b := by
  induction l generalizing a with
  | nil => simp
  | cons y l ih =>
    rw [List.foldl_cons, ih, Nat.max_le]
    simp only [List.mem_cons, forall_eq_or_imp, Nat.succ_le_iff, and_assoc]

theorem topRank_le_iff (l : List Nat) (b : Nat) : topRank l ≤ b ↔ ∀ x ∈ l, x < b := by
  simp [topRank, topRank_aux]

theorem topRank_lt (l : List Nat) : ∀ x ∈ l, x < topRank l := (topRank_le_iff l _).1 (le_refl _)

theorem topRank_attained (l : List Nat) (h : 0 < topRank l) : ∃ x ∈ l, x + 1 = topRank l := by
  by_contra hc
  have := (topRank_le_iff l (topRank l - 1)).2 fun x hx => by
    have := topRank_lt l x hx
    have : x + 1 ≠ topRank l := fun he => hc ⟨x, hx, he⟩
    omega
  omega

theorem topRank_congr {A B : List Nat} (h : ∀ x, x ∈ A ↔ x ∈ B) : topRank A = topRank B :=
  Nat.le_antisymm ((topRank_le_iff A _).2 fun x hx => topRank_lt B x ((h x).1 hx))
    ((topRank_le_iff B _).2 fun x hx => topRank_lt A x ((h x).2 hx))

theorem topRank_map {α : Type} (ρ : α → Nat) (L : List α) :
    (∀ e ∈ L, ρ e < topRank (L.map ρ)) ∧ (0 < topRank (L.map ρ) → ∃ e ∈ L, ρ e + 1 = topRank (L.map ρ)) := by
  refine ⟨fun e he => topRank_lt _ _ (mem_map_of_mem he), fun h => ?_⟩
  obtain ⟨x, hx, hx1⟩ := topRank_attained _ h
  obtain ⟨e, he, rfl⟩ := mem_map.1 hx
  exact ⟨e, he, hx1⟩

theorem rowsOf_length (rows : List Row) :
    rows.length = (rowsOf .feasible rows).length + (rowsOf .infeasible rows).length
      + (rowsOf .unknown rows).length := by
  induction rows with
  | nil => rfl
  | cons e rows ih =>
    simp only [rowsOf, List.filter_cons] at *
    cases h : classify e.2 <;> simp <;> omega

theorem mem_rowsOf (c : PClass) (rows : List Row) (e : Row) :
    e ∈ rowsOf c rows ↔ e ∈ rows ∧ classify e.2 = c := by
  simp [rowsOf]

theorem mem_ranked (rows : List Row) (e : Row) :
    e ∈ rowsOf .feasible rows ++ rowsOf .infeasible rows ↔ e ∈ rows ∧ classify e.2 ≠ .unknown := by
  simp only [mem_append, mem_rowsOf]
  cases classify e.2 <;> simp

/-- the three groups of `fastRankFn`, any `n_below`; the offsets are read off the result itself (they depend on the set of
those ranks only) -/
theorem fastRankFn_groups (d : Nat) (rows : List Row) (nb : Int) :
    let ρ := fastRankFn d rows nb
    let topI := topRank ((rowsOf .feasible rows).map ρ)
    let topN := topRank ((rowsOf .feasible rows ++ rowsOf .infeasible rows).map ρ)
    (∀ e, classify e.2 = .feasible → ρ e = rankFn d ((rowsOf .feasible rows).map (·.1)) (some nb) e.1) ∧
    (∀ e, classify e.2 = .infeasible → ρ e = topI + rankFn 1 (penaltyRows rows)
      (some (nb - (((rowsOf .feasible rows).map (·.1)).length : Int))) [e.2.getD 0]) ∧
    (∀ e, classify e.2 = .unknown → ρ e = topN + rankFn d ((rowsOf .unknown rows).map (·.1))
      (some (nb - (((rowsOf .feasible rows).map (·.1)).length : Int) - ((penaltyRows rows).length : Int))) e.1) := by
  intro ρ topI topN
  have hfe : ∀ e, classify e.2 = .feasible → ρ e = rankFn d ((rowsOf .feasible rows).map (·.1)) (some nb) e.1 :=
    fun e hc => by simp only [ρ, fastRankFn, hc]
  -- the callee's two result arrays are `ρ` on the feasible and on the infeasible rows
  have hF : calcRank d ((rowsOf .feasible rows).map (·.1)) (some nb) = (rowsOf .feasible rows).map ρ := by
    rw [calcRank, map_map]
    exact map_congr_left fun e he => (hfe e ((mem_rowsOf _ _ _).1 he).2).symm
  have hie : ∀ e, classify e.2 = .infeasible → ρ e = topI + rankFn 1 (penaltyRows rows)
      (some (nb - (((rowsOf .feasible rows).map (·.1)).length : Int))) [e.2.getD 0] :=
    fun e hc => by simp only [topI, ← hF, ρ, fastRankFn, hc]
  have hI : (calcRank 1 (penaltyRows rows) (some (nb - (((rowsOf .feasible rows).map (·.1)).length : Int)))).map
      (· + topRank (calcRank d ((rowsOf .feasible rows).map (·.1)) (some nb))) = (rowsOf .infeasible rows).map ρ := by
    rw [hF]
    show (((rowsOf .infeasible rows).map fun e => [e.2.getD 0]).map (rankFn 1 (penaltyRows rows) _)).map _ = _
    rw [map_map, map_map]
    exact map_congr_left fun e he => by rw [hie e ((mem_rowsOf _ _ _).1 he).2, Nat.add_comm]; rfl
  exact ⟨hfe, hie, fun e hc => by simp only [topN, map_append, ← hF, ← hI, ρ, fastRankFn, hc]⟩

theorem fastRankFn_isCPeeling (d : Nat) (rows : List Row) (hd : ∀ e ∈ rows, e.1.length = d) :
    IsCPeeling rows (fastRankFn d rows rows.length) := by
  have hlen := rowsOf_length rows
  obtain ⟨hfe, hie, hue⟩ := fastRankFn_groups d rows rows.length
  set ρ := fastRankFn d rows rows.length
  have cls : ∀ {c e}, e ∈ rowsOf c rows → classify e.2 = c := fun h => ((mem_rowsOf _ _ _).1 h).2
  -- the rows of one class, ranked exactly by the callee (its `n_below` is at least their number) through the map `f`
  have blk : ∀ (c : PClass) (f : Row → Pt) (d' : Nat) (n : Int), (∀ e ∈ rows, (f e).length = d') →
      ((rowsOf c rows).length : Int) ≤ n → (∀ q p, q ∈ rowsOf c rows → p ∈ rowsOf c rows → (CDom q p ↔ Dom (f q) (f p))) →
      IsPeelingOn (· ∈ rowsOf c rows) CDom (fun e => rankFn d' ((rowsOf c rows).map f) (some n) (f e)) :=
    fun c f d' n hf hn hR => IsPeelingOn.comap (M' := (· ∈ (rowsOf c rows).map f)) f (fun e he => mem_map_of_mem he)
      (fun q hq => by obtain ⟨e, he, rfl⟩ := List.mem_map.1 hq; exact ⟨e, he, rfl⟩) hR
      (rankFn_isPeeling_of_le d' _ (fun q hq => by
        obtain ⟨e, he, rfl⟩ := List.mem_map.1 hq; exact hf e ((mem_rowsOf _ _ _).1 he).1) n (by rwa [length_map]))
  -- feasible, then infeasible from `topI`, then unknown from `topN`
  have bF : IsPeelingOn (· ∈ rowsOf .feasible rows) CDom ρ := fun e he j hj => by
    have b := blk .feasible (·.1) d rows.length hd (by omega) fun q p hq hp => by simp only [CDom, cls hq, cls hp]
    rw [hfe e (cls he)] at hj ⊢
    rw [b e he j hj]
    exact forall_congr' fun q => forall_congr' fun hq => by rw [hfe q (cls hq)]
  have s1 := IsPeelingOn.sum bF
    (blk .infeasible (fun e => [e.2.getD 0]) 1 _ (fun _ _ => rfl) (by simp only [length_map]; omega) fun q p hq hp => by
      simp only [CDom, cls hq, cls hp, dom_singleton])
    (fun a b ha hb => by simp [CDom, cls ha, cls hb]) (fun a b ha hb => by simp [CDom, cls ha, cls hb])
    (topRank_map ρ _).1 (topRank_map ρ _).2 (fun e he => hie e (cls he))
  have s2 := IsPeelingOn.sum s1
    (blk .unknown (·.1) d _ hd (by simp only [penaltyRows, length_map]; omega) fun q p hq hp => by simp only [CDom, cls hq, cls hp])
    (fun a b ha hb => by rcases ha with ha | ha <;> simp [CDom, cls ha, cls hb])
    (fun a b ha hb => by rcases ha with ha | ha <;> simp [CDom, cls ha, cls hb])
    (fun e he => (topRank_map ρ _).1 e (mem_append.2 he))
    (fun h => by obtain ⟨e, he, h1⟩ := (topRank_map ρ _).2 h; exact ⟨e, mem_append.1 he, h1⟩)
    (fun e he => hue e (cls he))
  have hall : ∀ e, e ∈ rows ↔ (e ∈ rowsOf .feasible rows ∨ e ∈ rowsOf .infeasible rows) ∨ e ∈ rowsOf .unknown rows := by
    intro e
    simp only [mem_rowsOf]
    cases hc : classify e.2 <;> simp
  simp only [isCPeeling_iff, hall]
  exact s2

/-- `n_below or len(loss_values)` -/
def nbOf (nBelow : Option Nat) (n : Nat) : Int :=
  match nBelow with
  | none => n
  | some k => if k = 0 then n else k

theorem nbOf_pos (nBelow : Option Nat) {n : Nat} (hn : 0 < n) : 0 < nbOf nBelow n := by
  cases nBelow with
  | none => simpa [nbOf] using hn
  | some k => by_cases h : k = 0 <;> simp [nbOf, h] <;> omega

theorem fastRank_none (d : Nat) (S : List Pt) (nBelow : Option Nat) :
    fastRank d S none nBelow = some (calcRank d S (some (nbOf nBelow S.length))) := by
  cases S with
  | nil => rfl
  | cons a t => rfl

theorem fastRank_some (d : Nat) (S : List Pt) (pen : List (Option Int)) (nBelow : Option Nat)
    (hlen : pen.length = S.length) :
    fastRank d S (some pen) nBelow = some ((S.zip pen).map (fastRankFn d (S.zip pen) (nbOf nBelow S.length))) := by
  cases S with
  | nil => rfl
  | cons a t => simp only [fastRank, List.isEmpty_cons, Bool.false_eq_true, if_false, hlen, ne_eq, not_true_eq_false]; rfl

theorem fastRank_mismatch (d : Nat) (S : List Pt) (hne : S ≠ []) (pen : List (Option Int)) (nBelow : Option Nat)
    (hlen : pen.length ≠ S.length) : fastRank d S (some pen) nBelow = none := by
  cases S with
  | nil => exact absurd rfl hne
  | cons a t => simp only [fastRank, List.isEmpty_cons, Bool.false_eq_true, if_false, ne_eq, hlen, not_false_eq_true, if_true]

theorem fastRank_constrained (d : Nat) (S : List Pt) (pen : List (Option Int)) (hS : ∀ q ∈ S, q.length = d)
    (hlen : pen.length = S.length) :
    ∃ ρ : Row → Nat, fastRank d S (some pen) none = some ((S.zip pen).map ρ) ∧ IsCPeeling (S.zip pen) ρ := by
  refine ⟨fastRankFn d (S.zip pen) (S.zip pen).length, ?_, fastRankFn_isCPeeling d _ fun e he => hS e.1 (List.of_mem_zip he).1⟩
  rw [fastRank_some d S pen none hlen, List.length_zip, hlen, Nat.min_self]
  rfl

theorem dominates_iff (q p : Pt) : dominates q p = true ↔ Dom q p := by
  simp [dominates, Dom, allLe_iff]

theorem isNonDom_iff (S : List Pt) (p : Pt) : isNonDom S p = true ↔ ∀ q ∈ S, ¬ Dom q p := by
  simp only [isNonDom, Bool.not_eq_true', List.any_eq_false, ← dominates_iff]

theorem exists_nonDom (d : Nat) (S : List Pt) (hS : ∀ q ∈ S, q.length = d) (hne : S ≠ []) :
    ∃ p ∈ S, ∀ q ∈ S, ¬ Dom q p := by
  have hlex := lexSorted_uniqueLex d S hS
  cases hU : uniqueLex S with
  | nil =>
    exfalso
    cases S with
    | nil => exact hne rfl
    | cons a t =>
      have := (mem_uniqueLex (a :: t) a).2 List.mem_cons_self
      rw [hU] at this; cases this
  | cons h t =>
    rw [hU] at hlex
    have hh : h ∈ S := (mem_uniqueLex S h).1 (by rw [hU]; exact List.mem_cons_self)
    refine ⟨h, hh, fun q hq hdom => ?_⟩
    have hqU := (mem_uniqueLex S q).2 hq
    rw [hU] at hqU
    rcases List.mem_cons.1 hqU with rfl | hqt
    · exact hdom.2 rfl
    · exact lexLt_not_le ((List.pairwise_cons.1 hlex).1 q hqt) hdom.1

/-- the points from level `j` on have a non-dominated member (`exists_nonDom`), and that one is on level `j` -/
theorem peeling_levels_nonempty (d : Nat) (S : List Pt) (hS : ∀ q ∈ S, q.length = d) {ρ : Pt → Nat} {k : Nat}
    {W : Nat → Prop} (h : IsPeelingAt (· ∈ S) Dom ρ k W) :
    ∀ p ∈ S, ∀ j, k ≤ j → W j → j < ρ p → ∃ p' ∈ S, ρ p' = j := by
  intro p hp j hkj hW hj
  have hT : ∀ q ∈ S.filter (fun q => decide (j ≤ ρ q)), q.length = d := fun q hq => hS q (List.mem_filter.mp hq).1
  have hne : S.filter (fun q => decide (j ≤ ρ q)) ≠ [] := by
    intro h
    have : p ∈ S.filter (fun q => decide (j ≤ ρ q)) := List.mem_filter.mpr ⟨hp, by simp; omega⟩
    rw [h] at this; simp at this
  obtain ⟨p0, hp0, hnd⟩ := exists_nonDom d _ hT hne
  have hp0S := (List.mem_filter.mp hp0).1
  have hp0j : j ≤ ρ p0 := by simpa using (List.mem_filter.mp hp0).2
  refine ⟨p0, hp0S, ?_⟩
  rw [(h p0 hp0S).2 j hkj hW hp0j]
  intro q hq hjq
  exact hnd q (List.mem_filter.mpr ⟨hq, by simpa using hjq⟩)

theorem peelRankNaive_between (d : Nat) : ∀ (f : Nat) (S : List Pt) (k : Nat), (∀ q ∈ S, q.length = d) → S.length ≤ f →
    IsPeelingAt (· ∈ S) Dom (fun p => k + peelRankNaive f S p) k fun _ => True := by
  intro f
  induction f with
  | zero =>
    intro S k _ hlen
    have : S = [] := by simpa using hlen
    subst this
    intro p hp; cases hp
  | succ f ih =>
    intro S k hS hlen
    by_cases hne : S = []
    · subst hne; intro p hp; cases hp
    set S' := S.filter (fun q => !isNonDom S q) with hS'
    have hM' : ∀ p, p ∈ S' ↔ p ∈ S ∧ ¬ isNonDom S p = true := fun p => by simp [hS']
    have hlen' : S'.length ≤ f := by
      obtain ⟨p, hp, hnd⟩ := exists_nonDom d S hS hne
      have : S'.length < S.length := by
        apply List.length_filter_lt_length_iff_exists.2
        exact ⟨p, hp, by simpa using (isNonDom_iff S p).2 hnd⟩
      omega
    -- the rows that `isNonDom` selects get the current level, the others one more than their rank among themselves
    exact IsPeelingAt.round (F := fun p => isNonDom S p = true) (M' := (· ∈ S'))
      (ρ' := fun p => k + 1 + peelRankNaive f S' p)
      (fun p _ => isNonDom_iff S p) hM' (fun p _ h => by simp [peelRankNaive, h])
      (fun p hp => by simp [peelRankNaive, ((hM' p).1 hp).2, hS', Nat.add_assoc])
      (ih S' (k + 1) (fun q hq => hS q ((hM' q).1 hq).1) hlen')

theorem peelRankNaive_isPeeling (d : Nat) (f : Nat) (S : List Pt) (hS : ∀ q ∈ S, q.length = d) (hf : S.length ≤ f) :
    IsPeeling S (peelRankNaive f S) := by
  simpa only [Nat.zero_add] using isPeeling_iff.2 (isPeelingOn_iff_at.2 (peelRankNaive_between d f S 0 hS hf))

theorem naive_eq_rank (d : Nat) (S : List Pt) (hS : ∀ q ∈ S, q.length = d) :
    naiveRanks S = calcRank d S none := by
  unfold naiveRanks calcRank
  apply List.map_congr_left
  intro p hp
  exact isPeeling_unique S _ _ (peelRankNaive_isPeeling d S.length S hS (le_refl _))
    (rankFn_isPeeling d S hS) p hp

end OptunaVerif.Rank
