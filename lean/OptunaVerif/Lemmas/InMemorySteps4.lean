import OptunaVerif.Lemmas.InMemorySteps3
/-! In-memory refinement, end: `set_trial_state_values`, `get_best_trial`, every call together (`sim_all`), the
initial states, and `burn_eq_create_delete` (the contract state after a rejected `create_new_study`). -/
namespace OptunaVerif.InMemory
open OptunaVerif.Storage

/-- the model's branch, with the written record named -/
theorem step_stsv (m : State) (tid : Nat) (st : TState) (values : Option (List XVal)) :
    step m (.setTrialStateValues tid st values) =
      match getUpdatable m tid with
      | .error e => (m, .err e)
      | .ok f =>
        if st == .running && f.t.state != .waiting then (m, .bool false)
        else
          if st.isFinished then
            match updateCache (setTrial m f.sid f.num (f.id, stsvUpd st values f.t)) tid f.sid with
            | .ok m2 => (m2, .bool true)
            | .error e => (setTrial m f.sid f.num (f.id, stsvUpd st values f.t), .err e)
          else if st == .waiting then
            ({ setTrial m f.sid f.num (f.id, stsvUpd st values f.t) with
                prevWaiting := (setTrial m f.sid f.num (f.id, stsvUpd st values f.t)).prevWaiting.upd f.sid
                  (fun c => min c (stsvUpd st values f.t).number) }, .bool true)
          else (setTrial m f.sid f.num (f.id, stsvUpd st values f.t), .bool true) := by
  rfl

theorem sim_setTrialStateValues (m : State) (s : Spec) (hI : Inv m) (hR : Rel m s) (tid : Nat) (st : TState)
    (values : Option (List XVal)) (hL : Legal s (.setTrialStateValues tid st values) = true) :
    Sim m s (.setTrialStateValues tid st values) := by
  unfold Sim
  rw [step_stsv]
  cases hu : getUpdatable m tid with
  | error e =>
    simp only [opFor, specStep, Storage.step, getUpdatable_error m s hI.1 hR tid e hu]
    exact ⟨hI, hR, accepts_refl _ _⟩
  | ok f =>
    obtain ⟨hget, hw, hnf⟩ := getUpdatable_ok m s hI.1 hR tid f hu
    obtain ⟨hid, ⟨si, hsi, ht⟩, _, hstudy, hnum, _⟩ := getTrial_ok m s hI.1 hR tid f hget
    have hst : s.study? f.t.study = some si.pub := by rw [hstudy]; exact study?_some m s hI.1 hR f.sid si hsi
    by_cases hguard : (st == .running && f.t.state != .waiting) = true
    · simp only [hguard, if_true, opFor, specStep, Storage.step, hw]
      exact ⟨hI, hR, accepts_refl _ _⟩
    · have hguard' : (st == .running && f.t.state != .waiting) = false := by simpa using hguard
      have hgoodNew : ∀ d, si.directions = [d] → st = .complete → goodVals (values.or f.t.values) = true := by
        intro d hd hc
        simp only [Legal, hw, hst] at hL
        have hlen : si.pub.directions.length = 1 := by simp [StudyInfo.pub, hd]
        simp [hc, hlen] at hL
        exact hL
      obtain ⟨hS1, hR1, hsi1, ht1, hwr⟩ := stsv_write m s hI hR tid f hu st values si hsi hgoodNew
      obtain ⟨c, hc, _⟩ := (hI.2.cacheOk hsi).cursor
      have hspec : ∀ o, specStep s (opFor (.setTrialStateValues tid st values) o) =
          (s.updTrial tid (stsvUpd st values), .bool true) := by
        intro o
        simp only [opFor, specStep, Storage.step, hw, hguard', Bool.false_eq_true, if_false]
        rfl
      simp only [hguard', Bool.false_eq_true, if_false, hspec]
      generalize hm1 : setTrial m f.sid f.num (f.id, stsvUpd st values f.t) = m1 at hS1 hR1 hsi1
      have e_pw : m1.prevWaiting = m.prevWaiting := by rw [← hm1]; rfl
      have hoth : OthersOk m1 f.sid := (hI.2.othersOk f.sid).upd (by rw [← hm1]; rfl) (fun _ _ => by rw [e_pw])
      by_cases hfin : st.isFinished = true
      · have hnw : st ≠ .waiting := by intro e; rw [e] at hfin; cases hfin
        obtain ⟨m2, hm2, hS2, hC2, hrel⟩ := updateCache_ok m1 hS1 f.sid f.num tid _ _ hsi1 ht1 hoth
          (by rw [e_pw, hc]; exact hwr c c hc (Nat.le_refl c) (fun e => absurd e hnw))
        simp only [hfin, if_true, hm2]
        exact ⟨⟨hS2, hC2⟩, hrel _ hR1, accepts_refl _ _⟩
      · -- the new record is not COMPLETE: the best-trial cache need not look at it
        have hfin' : st.isFinished = false := by simpa using hfin
        have hnc : ∀ p, (si.trials.set f.num (tid, stsvUpd st values f.t))[f.num]? = some p → p.2.state ≠ .complete := by
          intro p hp e
          rw [ht1] at hp; cases hp
          have e' : st = .complete := e
          rw [e'] at hfin'; cases hfin'
        simp only [hfin', Bool.false_eq_true, if_false]
        by_cases hwt : (st == .waiting) = true
        · -- back to WAITING: the cursor is lowered
          simp only [hwt, if_true]
          refine ⟨⟨invS_prevWaiting m1 _ hS1, invC_of_here (hoth.frame (fun _ _ => rfl) ?_) hsi1 ?_⟩,
            rel_prevWaiting m1 _ _ hR1, accepts_refl _ _⟩
          · intro k hk
            show NMap.get? (NMap.upd m1.prevWaiting f.sid _) k = _
            rw [NMap.get?_upd, if_neg hk]
          · show CacheOk (NMap.get? (NMap.upd m1.prevWaiting f.sid _) f.sid) _ none
            rw [NMap.get?_upd, if_pos rfl, e_pw, hc]
            have hnum' : (stsvUpd st values f.t).number = f.num := hnum
            exact (hwr c _ hc (Nat.min_le_left _ _) (fun _ => hnum' ▸ Nat.min_le_right _ _)).close hnc
        · have hwt' : st ≠ .waiting := by simpa using hwt
          have hwt'' : (st == .waiting) = false := by simpa using hwt
          simp only [hwt'', Bool.false_eq_true, if_false]
          exact ⟨⟨hS1, invC_of_here hoth hsi1
            (by rw [e_pw, hc]; exact (hwr c c hc (Nat.le_refl c) (fun e => absurd e hwt')).close hnc)⟩,
            hR1, accepts_refl _ _⟩

theorem mem_bestSet (d : Nat) (l : List (Nat × TrialS)) (j b : Nat) (t : TrialS) (hj : l[j]? = some (b, t))
    (hc : t.state = .complete) (hdom : Dominates d l none t) : (b, t) ∈ bestSet d l := by
  obtain ⟨v, hv, hall⟩ := hdom
  refine (mem_bestSet_iff d l b t).2 ⟨v, (mem_completeWithValue l b t v).2 ⟨List.mem_of_getElem? hj, hc, hv⟩, ?_⟩
  rintro ⟨b', t', w⟩ hq
  obtain ⟨hm, hc', hw⟩ := (mem_completeWithValue l b' t' w).1 hq
  obtain ⟨k, hk⟩ := List.getElem?_of_mem hm
  exact hall k (b', t') w (by simp) hk hc' hw

/-- `get_best_trial` of a single-objective study answers from the cache, and the cache is exact -/
theorem getBestTrial_single (m : State) (hI : Inv m) (sid d : Nat) (si : StudyInfo)
    (h : m.studies.get? sid = some si) (hd : si.directions = [d]) :
    (∃ b t, step m (.getBestTrial sid) = (m, .trial b t) ∧ (b, t) ∈ bestSet d si.trials) ∨
    (step m (.getBestTrial sid) = (m, .err .valueError) ∧ bestSet d si.trials = []) := by
  have hbest := hI.2.best sid si h
  cases hb : si.bestTrialId with
  | none =>
    exact .inr ⟨by simp only [step, h, hb], bestSet_nil d si.trials (fun j p hp => hbest.none_ hb j p (by simp) hp)⟩
  | some b =>
    obtain ⟨j, t, _, hjt, hc, hdom⟩ := hbest.some_ b hb
    have hgt := getTrial_of m hI.1 sid j b si t h hjt
    have hlen : ¬ (si.directions.length > 1) := by rw [hd]; simp
    exact .inl ⟨b, t, by simp only [step, h, hb, hlen, if_false, hgt], mem_bestSet d si.trials j b t hjt hc (hdom d hd)⟩

theorem sim_getBestTrial (m : State) (s : Spec) (hI : Inv m) (hR : Rel m s) (sid : Nat) :
    Sim m s (.getBestTrial sid) := by
  unfold Sim
  cases h : m.studies.get? sid with
  | none =>
    simp only [step, h, opFor, specStep, Storage.step, study?_none m s hI.1 hR sid h]
    exact ⟨hI, hR, accepts_refl _ _⟩
  | some si =>
    have hst := study?_some m s hI.1 hR sid si h
    have hdirs := hI.1.dirs sid si h
    have htr := hR.trialsOf sid si h
    cases hd : si.directions with
    | nil => rw [hd] at hdirs; simp [dirsOk] at hdirs
    | cons d rest =>
      cases rest with
      | nil =>
        have hpd : si.pub.directions = [d] := hd
        rcases getBestTrial_single m hI sid d si h hd with ⟨b, t, hstep, hmem⟩ | ⟨hstep, hnil⟩
        · rw [hstep]
          simp only [opFor, specStep, Storage.step, hst, hpd, htr]
          cases hbs : bestSet d si.trials with
          | nil => rw [hbs] at hmem; cases hmem
          | cons x xs =>
            rw [hbs] at hmem
            exact ⟨hI, hR, by simp [accepts, hmem]⟩
        · rw [hstep]
          simp only [opFor, specStep, Storage.step, hst, hpd, htr, hnil]
          exact ⟨hI, hR, accepts_refl _ _⟩
      | cons d2 rest2 =>
        have hpd : si.pub.directions = d :: d2 :: rest2 := hd
        cases hb : si.bestTrialId with
        | none =>
          simp only [step, h, hb, opFor, specStep, Storage.step, hst, hpd]
          exact ⟨hI, hR, by simp [accepts]⟩
        | some b =>
          have hlen : si.directions.length > 1 := by rw [hd]; simp
          simp only [step, h, hb, hlen, if_true, opFor, specStep, Storage.step, hst, hpd]
          exact ⟨hI, hR, accepts_refl _ _⟩

/-- **One call of the in-memory storage is one call of the contract** (on a legal call): the
invariant is kept, the abstraction commutes with the step, the answer is one the contract allows. -/
theorem sim_all (m : State) (s : Spec) (hI : Inv m) (hR : Rel m s) (op : Op) (hL : Legal s op = true) :
    Sim m s op := by
  cases op with
  | createStudy name dirs => exact sim_createStudy m s hI hR name dirs hL
  | deleteStudy sid => exact sim_deleteStudy m s hI hR sid
  | setStudyUserAttr sid k v => exact sim_setStudyUserAttr m s hI hR sid k v
  | setStudySystemAttr sid k v => exact sim_setStudySystemAttr m s hI hR sid k v
  | createTrial sid tmpl ir => exact sim_createTrial m s hI hR sid tmpl ir hL
  | setTrialParam tid name p ir => exact sim_setTrialParam m s hI hR tid name p ir
  | setTrialStateValues tid st values => exact sim_setTrialStateValues m s hI hR tid st values hL
  | setTrialInter tid stp v => exact sim_setTrialInter m s hI hR tid stp v
  | setTrialUserAttr tid k v => exact sim_setTrialUserAttr m s hI hR tid k v
  | setTrialSystemAttr tid k v => exact sim_setTrialSystemAttr m s hI hR tid k v
  | getStudyIdFromName name => exact sim_getStudyIdFromName m s hI hR name
  | getStudyNameFromId sid | getStudyDirections sid | getStudyUserAttrs sid | getStudySystemAttrs sid =>
    -- both sides look the study up and answer the same field of it
    unfold Sim
    simp only [step, specStep, opFor, Storage.step, study?_eq_get? m s hI.1 hR]
    cases h : m.studies.get? sid <;> simp [accepts_refl, hI, hR, StudyInfo.pub]
  | getAllStudies => exact sim_getAllStudies m s hI hR
  | getTrialIdFromNumber sid number => exact sim_getTrialIdFromNumber m s hI hR sid number
  | getTrialNumberFromId tid => exact sim_getTrialNumberFromId m s hI hR tid
  | getTrialParam tid name => exact sim_getTrialParam m s hI hR tid name
  | getTrial tid => exact sim_getTrial m s hI hR tid
  | getAllTrials sid states | getNTrials sid states =>
    -- the list (or its length) and the moved cursor are those of `allTrials`
    unfold Sim
    simp only [step, specStep, opFor, Storage.step, study?_eq_get? m s hI.1 hR]
    cases h : m.studies.get? sid with
    | none => simp [accepts_refl, hI, hR]
    | some si =>
      obtain ⟨h1, h2, h3⟩ := allTrials_spec m hI sid si h states
      simp only [Option.map_some, hR.trialsOf sid si h, h3]
      exact ⟨h1, h2 s hR, accepts_refl _ _⟩
  | getBestTrial sid => exact sim_getBestTrial m s hI hR sid

theorem inv_init : Inv init := by
  refine ⟨⟨by simp [init], ?_, ?_, ?_, ?_, ?_⟩, ⟨?_, ?_, ?_⟩⟩
  all_goals simp [init, NMap.get?, AList.get?, PWOk, GoodOk]

theorem rel_init : Rel init Storage.init := by
  refine ⟨rfl, rfl, ?_, ?_⟩
  · intro sid si h; simp [init, NMap.get?] at h
  · intro t ht; simp [Storage.init] at ht

/-- total length of the names in use: a longer name is free -/
def nameBound : List (Option StudyS) → Nat
  | [] => 0
  | none :: r => nameBound r
  | some st :: r => st.name.length + nameBound r

theorem le_nameBound (l : List (Option StudyS)) (st : StudyS) (h : some st ∈ l) :
    st.name.length ≤ nameBound l := by
  induction l with
  | nil => cases h
  | cons o r ih =>
    simp only [List.mem_cons] at h
    cases o with
    | none =>
      rcases h with h | h
      · cases h
      · exact ih h
    | some x =>
      rcases h with h | h
      · simp only [Option.some.injEq] at h; subst h; simp [nameBound]
      · have := ih h; simp only [nameBound]; omega

def freshName (s : Spec) : String := String.ofList (List.replicate (nameBound s.studies + 1) 'x')

theorem freshName_free (s : Spec) : s.nameTaken (freshName s) = false := by
  rw [nameTaken_false_iff]
  intro i st hi e
  have h1 := le_nameBound s.studies st (List.mem_of_getElem? hi)
  have h2 : (freshName s).length = nameBound s.studies + 1 := by
    simp [freshName, String.length_ofList]
  rw [e, h2] at h1
  omega

/-- The contract state after a rejected in-memory `create_new_study` is the contract state after
creating a study under any free name and deleting it at once. -/
theorem burn_eq_create_delete (s : Spec) (name : String) (dirs : List Nat) (h : s.nameTaken name = false) :
    (Storage.step (Storage.step s (.createStudy name dirs)).1 (.deleteStudy s.studies.length)).1 = burn s := by
  simp only [Storage.step, h, Bool.false_eq_true, if_false]
  have : ({ s with studies := s.studies ++ [some (StudyS.mk name dirs [] [] [])] } : Spec).study? s.studies.length =
      some (StudyS.mk name dirs [] [] []) := by
    simp [Spec.study?]
  rw [this]
  simp only [burn, updAt_append_last]

end OptunaVerif.InMemory
