import OptunaVerif.Model.SearchSpace
import OptunaVerif.Lemmas.Basic
import Mathlib.Data.List.Sort
import Mathlib.Data.String.Basic
/-!
# Helper lemmas for C17 (search spaces)

Dicts are association lists; `NodupKeys` says a list is a dict.  `Rep sp P` says the stored
search space `sp` is exactly the intersection of the parameter dicts of the trials in the set `P`.
Then one reverse scan of `_calculate`: what it intersects (`scan_space`) and which cursor it may store (`CurOk`,
`scan_next`).
-/
namespace OptunaVerif.SearchSpace

def NodupKeys (d : Dists) : Prop := (keys d).Nodup

/-- `p` is an item of the dict `d` as Python sees it: `d.get(p.1) == p.2` -/
def Has (d : Dists) (p : String × Nat) : Prop := AList.get? d p.1 = some p.2

theorem get?_of_mem {d : Dists} (hd : NodupKeys d) {k : String} {v : Nat} (h : (k, v) ∈ d) :
    AList.get? d k = some v := by
  induction d with
  | nil => simp at h
  | cons hd' t ih =>
    obtain ⟨k', v'⟩ := hd'
    simp only [NodupKeys, keys, List.map_cons, List.nodup_cons] at hd
    rcases List.mem_cons.mp h with h | h
    · simp only [Prod.mk.injEq] at h; obtain ⟨h1, h2⟩ := h; subst h1; subst h2; simp [AList.get?]
    · have hne : k' ≠ k := by
        intro e; subst e
        exact hd.1 (List.mem_map.mpr ⟨(k', v), h, rfl⟩)
      simp only [AList.get?, hne, if_false]
      exact ih hd.2 h

theorem has_iff_mem {d : Dists} (hd : NodupKeys d) (p : String × Nat) : Has d p ↔ p ∈ d :=
  ⟨fun h => AList.mem_of_get? h, fun h => get?_of_mem hd h⟩

theorem get?_none_of_not_mem_keys {d : Dists} {k : String} (h : k ∉ keys d) : AList.get? d k = none := by
  cases hg : AList.get? d k with
  | none => rfl
  | some v => exact absurd (List.mem_map.mpr ⟨(k, v), AList.mem_of_get? hg, rfl⟩) h

theorem nodupKeys_set {l : Dists} (h : NodupKeys l) (k : String) (v : Nat) : NodupKeys (AList.set l k v) :=
  AList.nodup_keys_set h k v

theorem nodupKeys_nil : NodupKeys [] := by simp [NodupKeys, keys]

theorem nodupKeys_mkDists (params : List (String × Nat)) : NodupKeys (mkDists params) :=
  List.foldlRecOn params _ nodupKeys_nil fun _ h p _ => nodupKeys_set h p.1 p.2

theorem nodupKeys_filter {l : Dists} (h : NodupKeys l) (f : String × Nat → Bool) : NodupKeys (l.filter f) := by
  unfold NodupKeys keys at *
  exact List.Nodup.sublist (List.Sublist.map _ List.filter_sublist) h

theorem nodup_of_nodupKeys {l : Dists} (h : NodupKeys l) : l.Nodup := List.Nodup.of_map _ h

theorem mem_inter (s d : Dists) (p : String × Nat) : p ∈ inter s d ↔ p ∈ s ∧ Has d p := by
  simp [inter, Has, List.mem_filter]

theorem eq_of_key_eq {l : Dists} (h : NodupKeys l) {p q : String × Nat} (hp : p ∈ l) (hq : q ∈ l)
    (hk : p.1 = q.1) : p = q := by
  have h1 := get?_of_mem h (k := p.1) (v := p.2) hp
  have h2 := get?_of_mem h (k := q.1) (v := q.2) hq
  rw [hk, h2] at h1
  simp only [Option.some.injEq] at h1
  exact Prod.ext hk h1.symm

def leName (p q : String × Nat) : Prop := p.1 ≤ q.1

instance : DecidableRel leName := fun p q => inferInstanceAs (Decidable (p.1 ≤ q.1))
instance : Std.Total leName := ⟨fun p q => le_total p.1 q.1⟩
instance : IsTrans (String × Nat) leName := ⟨fun _ _ _ h1 h2 => le_trans (α := String) h1 h2⟩

theorem insertByName_eq (p : String × Nat) (l : Dists) : insertByName p l = l.orderedInsert leName p := by
  induction l with
  | nil => rfl
  | cons q r ih =>
    simp only [insertByName, List.orderedInsert_cons, leName, ih]
    by_cases h : p.1 ≤ q.1 <;> simp [h]

theorem sortByName_eq (l : Dists) : sortByName l = l.insertionSort leName := by
  induction l with
  | nil => rfl
  | cons p l ih =>
    show insertByName p (sortByName l) = _
    rw [insertByName_eq, ih]; rfl

theorem perm_sortByName (l : Dists) : (sortByName l).Perm l := by
  rw [sortByName_eq]; exact List.perm_insertionSort _ _

theorem mem_sortByName {l : Dists} {p : String × Nat} : p ∈ sortByName l ↔ p ∈ l :=
  (perm_sortByName l).mem_iff

theorem sorted_sortByName (l : Dists) : (sortByName l).Pairwise leName := by
  rw [sortByName_eq]; exact List.pairwise_insertionSort _ _

theorem nodupKeys_sortByName {l : Dists} (h : NodupKeys l) : NodupKeys (sortByName l) := by
  unfold NodupKeys keys at *
  exact ((perm_sortByName l).map _).nodup_iff.mpr h

theorem sortByName_congr {a b : Dists} (ha : NodupKeys a) (hb : NodupKeys b) (h : ∀ p, p ∈ a ↔ p ∈ b) :
    sortByName a = sortByName b := by
  have hab : a.Perm b := (List.perm_ext_iff_of_nodup (nodup_of_nodupKeys ha) (nodup_of_nodupKeys hb)).mpr h
  have hperm : (sortByName a).Perm (sortByName b) :=
    ((perm_sortByName a).trans hab).trans (perm_sortByName b).symm
  refine List.Perm.eq_of_pairwise (le := leName) ?_ (sorted_sortByName a) (sorted_sortByName b) hperm
  intro p q hp hq h1 h2
  have hq' : q ∈ sortByName a := hperm.symm.subset hq
  exact eq_of_key_eq (nodupKeys_sortByName ha) hp hq' (le_antisymm (α := String) h1 h2)

def Rep (sp : Option Dists) (P : Trial → Prop) : Prop :=
  match sp with
  | none => ∀ t, ¬ P t
  | some s => (∃ t, P t) ∧ NodupKeys s ∧ ∀ p, p ∈ s ↔ ∀ t, P t → Has t.dists p

theorem Rep.congr {sp : Option Dists} {P Q : Trial → Prop} (h : ∀ t, P t ↔ Q t) (hr : Rep sp P) : Rep sp Q := by
  have : P = Q := funext fun t => propext (h t)
  rw [← this]; exact hr

theorem rep_absorb {sp : Option Dists} {P : Trial → Prop} (hr : Rep sp P) (t : Trial)
    (ht : NodupKeys t.dists) : Rep (absorb sp t.dists) (fun u => P u ∨ u = t) := by
  cases sp with
  | none =>
    refine ⟨⟨t, Or.inr rfl⟩, ht, fun p => ⟨fun hp u hu => ?_, fun hp => ?_⟩⟩
    · rcases hu with hu | hu
      · exact absurd hu (hr u)
      · subst hu; exact (has_iff_mem ht p).mpr hp
    · exact (has_iff_mem ht p).mp (hp t (Or.inr rfl))
  | some s =>
    obtain ⟨⟨u0, hu0⟩, hs, hmem⟩ := hr
    refine ⟨⟨u0, Or.inl hu0⟩, nodupKeys_filter hs _, fun p => ?_⟩
    show p ∈ inter s t.dists ↔ _
    rw [mem_inter, hmem]
    constructor
    · rintro ⟨h1, h2⟩ u hu
      rcases hu with hu | hu
      · exact h1 u hu
      · subst hu; exact h2
    · intro h
      exact ⟨fun u hu => h u (Or.inl hu), h t (Or.inr rfl)⟩

def interAll (sp : Option Dists) (ts : List Trial) : Option Dists :=
  ts.foldl (fun sp t => absorb sp t.dists) sp

theorem rep_interAll (ts : List Trial) : ∀ {sp : Option Dists} {P : Trial → Prop}, Rep sp P →
    (∀ t ∈ ts, NodupKeys t.dists) → Rep (interAll sp ts) (fun u => P u ∨ u ∈ ts) := by
  induction ts with
  | nil => intro sp P hr _; exact hr.congr (by simp)
  | cons t ts ih =>
    intro sp P hr hnd
    have h1 := rep_absorb hr t (hnd t (by simp))
    have h2 := ih h1 (fun u hu => hnd u (by simp [hu]))
    exact h2.congr fun u => by rw [List.mem_cons, or_assoc]

/-- `search_space or {}`: what `Rep` says, without the case `None` -/
theorem Rep.getD {sp : Option Dists} {P : Trial → Prop} (h : Rep sp P) :
    NodupKeys (sp.getD []) ∧ ∀ p, p ∈ sp.getD [] ↔ (∃ t, P t) ∧ ∀ t, P t → Has t.dists p := by
  cases sp with
  | none => exact ⟨nodupKeys_nil, fun p => by simpa using fun t ht => absurd ht (h t)⟩
  | some s => exact ⟨h.2.1, fun p => (h.2.2 p).trans (and_iff_right h.1).symm⟩

theorem mem_output {sp : Option Dists} {p : String × Nat} : p ∈ output sp ↔ p ∈ sp.getD [] := mem_sortByName

theorem output_congr {a b : Option Dists} {P : Trial → Prop} (ha : Rep a P) (hb : Rep b P) :
    output a = output b :=
  sortByName_congr ha.getD.1 hb.getD.1 fun p => (ha.getD.2 p).trans (hb.getD.2 p).symm

theorem output_none : output none = [] := rfl

theorem calculate_cases (c : Calc) (sid : Nat) (trials : List Trial) :
    (c.calculate sid trials = (c, .valueError) ∧ ∃ x, c.studyId = some x ∧ x ≠ sid) ∨
    ((∀ x, c.studyId = some x → x = sid) ∧
      c.calculate sid trials =
        ({ c with studyId := some sid, space := (calcRaw trials c.includePruned c.space c.cursor).1,
                  cursor := (calcRaw trials c.includePruned c.space c.cursor).2 },
         .result (output (calcRaw trials c.includePruned c.space c.cursor).1))) := by
  unfold Calc.calculate
  cases h : c.studyId with
  | none => right; simp
  | some x =>
    by_cases hx : x = sid
    · right; subst hx; simp
    · left; simp [hx]

/-! ## facts about the definitions generated from the Python source

These are the only places where the proofs about the hand model look inside the constants `SearchSpaceCode` of
`Model/SearchSpace.lean` (the tie to the interpreted code in `Props/C17Gen.lean` unfolds them once more),
which `code_constants_pinned` (`Props/C17Gen.lean`) equates with those of `Generated/SearchSpaceCode.lean`; a change of
the comparison, of an offset or of a state list in `_calculate` makes that theorem or one of these (or a proof that
uses them) fail. -/

theorem breakTest_iff (c n : Int) : SearchSpaceCode.breakTest c n = true ↔ n < c := by
  simp [SearchSpaceCode.breakTest]

theorem nextUnsetTest_iff (nx : Int) : SearchSpaceCode.nextUnsetTest nx = true ↔ nx = -1 := by
  simp [SearchSpaceCode.nextUnsetTest]

theorem nextFirst_eq (n : Int) : SearchSpaceCode.nextFirst n = n + 1 := rfl
theorem nextUnfinished_eq (n : Int) : SearchSpaceCode.nextUnfinished n = n := rfl
theorem nextInit_eq : SearchSpaceCode.nextInit = -1 := rfl
theorem cursorInit_eq : SearchSpaceCode.cursorInit = -1 := rfl
theorem cachedDefault_eq : SearchSpaceCode.cachedDefault = -1 := rfl

theorem unfinished_ofInterest (ip : Bool) (st : TState) (h : st.isFinished = false) : ofInterest ip st = true := by
  cases ip <;> cases st <;> first | rfl | (exact absurd h (by decide))

theorem finished_ofInterest_iff (ip : Bool) (st : TState) :
    (st.isFinished = true ∧ ofInterest ip st = true) ↔ (st = .complete ∨ (st = .pruned ∧ ip = true)) := by
  cases ip <;> cases st <;> decide

theorem groupOfInterest_iff (ip : Bool) (st : TState) :
    groupOfInterest ip st = true ↔ (st = .complete ∨ (st = .pruned ∧ ip = true)) := by
  cases ip <;> cases st <;> decide

theorem groupOfInterest_finished (ip : Bool) (st : TState) (h : groupOfInterest ip st = true) :
    st.isFinished = true := by
  rcases (groupOfInterest_iff ip st).mp h with e | ⟨e, _⟩ <;> subst e <;> rfl

/-- the trials whose dicts are intersected -/
def FOI (ip : Bool) (t : Trial) : Prop := t.state.isFinished = true ∧ ofInterest ip t.state = true

def foiB (ip : Bool) (t : Trial) : Bool := t.state.isFinished && ofInterest ip t.state

theorem foiB_iff (ip : Bool) (t : Trial) : foiB ip t = true ↔ FOI ip t := by simp [foiB, FOI]

/-- true of the reversed trial list of a study -/
def Desc (L : List Trial) : Prop := L.Pairwise (fun a b => b.number < a.number)

/-- The `break` loses nothing because numbers decrease. -/
theorem scan_space (ip : Bool) (cached : Int) : ∀ (L : List Trial) (sp : Option Dists) (nx : Int), Desc L →
    (scan ip cached L sp nx).1 =
      interAll sp (L.filter (fun t => foiB ip t && decide (cached ≤ (t.number : Int)))) := by
  intro L
  induction L with
  | nil => intro sp nx _; rfl
  | cons t rest ih =>
    intro sp nx hd
    have hd' : Desc rest := (List.pairwise_cons.mp hd).2
    have hlt : ∀ u ∈ rest, u.number < t.number := (List.pairwise_cons.mp hd).1
    unfold scan
    rw [List.filter_cons]
    cases hi : ofInterest ip t.state with
    | false => simpa [foiB, hi] using ih _ _ hd'
    | true =>
      simp only [Bool.not_true, Bool.false_eq_true, if_false]
      by_cases hb : SearchSpaceCode.breakTest cached t.number = true
      · -- `break`: `t` and everything after it is below the cursor
        have hc := (breakTest_iff _ _).mp hb
        have : rest.filter (fun t => foiB ip t && decide (cached ≤ (t.number : Int))) = [] := by
          rw [List.filter_eq_nil_iff]
          intro u hu
          have := hlt u hu
          simp only [Bool.and_eq_true, decide_eq_true_eq, not_and]
          omega
        have hnc : ¬ cached ≤ (t.number : Int) := by omega
        simp [hb, this, hnc, interAll]
      · have hc : cached ≤ (t.number : Int) := by
          have := (breakTest_iff cached t.number).not.mp hb; omega
        rw [if_neg hb]
        cases hf : t.state.isFinished <;> simp [foiB, hi, hf, hc, interAll, ih _ _ hd']

/-- `r` may be stored as the cursor after the reversed list `L` was scanned from `nx` -/
def CurOk (L : List Trial) (nx r : Int) : Prop :=
  (∀ t ∈ L, t.state.isFinished = false → r ≤ (t.number : Int)) ∧ (r ≤ nx ∨ ∃ t ∈ L, r ≤ (t.number : Int) + 1)

theorem CurOk.cons {t : Trial} {rest : List Trial} {nx nx' r : Int} (h : CurOk rest nx' r)
    (hnx' : nx' = nx ∨ nx' ≤ (t.number : Int) + 1) (ht : t.state.isFinished = false → r ≤ (t.number : Int)) :
    CurOk (t :: rest) nx r := by
  refine ⟨fun u hu hfu => ?_, ?_⟩
  · rcases List.mem_cons.mp hu with rfl | hu
    · exact ht hfu
    · exact h.1 u hu hfu
  · rcases h.2 with h | ⟨u, hu, h⟩
    · rcases hnx' with rfl | h'
      · exact Or.inl h
      · exact Or.inr ⟨t, List.mem_cons_self, by omega⟩
    · exact Or.inr ⟨u, List.mem_cons_of_mem _ hu, h⟩

/-- That the returned cursor may be stored does not depend on when `next_cached_trial_number` counts as
unset: the value taken at the first trial of interest is the old one or one above that trial, whatever the test. -/
theorem scan_next (ip : Bool) (cached : Int) : ∀ (L : List Trial) (sp : Option Dists) (nx : Int), Desc L →
    (∀ t ∈ L, t.state.isFinished = false → cached ≤ (t.number : Int)) → CurOk L nx (scan ip cached L sp nx).2 := by
  intro L
  induction L with
  | nil => intro sp nx _ _; exact ⟨by simp, Or.inl (Int.le_refl _)⟩
  | cons t rest ih =>
    intro sp nx hd hun
    obtain ⟨hlt, hd'⟩ := List.pairwise_cons.mp hd
    have hun' : ∀ u ∈ rest, u.state.isFinished = false → cached ≤ (u.number : Int) :=
      fun u hu => hun u (List.mem_cons_of_mem _ hu)
    unfold scan
    by_cases hi : ofInterest ip t.state = true
    · simp only [hi, Bool.not_true, Bool.false_eq_true, if_false]
      generalize hnx1 : (if SearchSpaceCode.nextUnsetTest nx = true then SearchSpaceCode.nextFirst (t.number : Int)
        else nx) = nx1
      have hnx1' : nx1 = nx ∨ nx1 ≤ (t.number : Int) + 1 := by
        rw [← hnx1]; split
        · exact Or.inr (nextFirst_eq _).le
        · exact Or.inl rfl
      clear hnx1
      by_cases hb : SearchSpaceCode.breakTest cached t.number = true
      · -- `break`: no unfinished trial is left, `t` and the rest being below `cached`
        simp only [hb, if_true]
        have hc := (breakTest_iff _ _).mp hb
        refine ⟨fun u hu hfu => ?_, ?_⟩
        · have := hun u hu hfu
          rcases List.mem_cons.mp hu with rfl | hu
          · omega
          · have := hlt u hu; omega
        · rcases hnx1' with rfl | h
          · exact Or.inl (Int.le_refl _)
          · exact Or.inr ⟨t, List.mem_cons_self, h⟩
      · simp only [hb, Bool.false_eq_true, if_false]
        cases hf : t.state.isFinished with
        | true => exact (ih _ _ hd' hun').cons hnx1' (fun h => absurd h (by simp [hf]))
        | false =>
          -- the scan goes on from `t.number`, above the rest of the list
          simp only [Bool.not_false, if_true, nextUnfinished_eq]
          have h := ih sp (t.number : Int) hd' hun'
          refine h.cons (Or.inr (by omega)) fun _ => ?_
          rcases h.2 with h | ⟨u, hu, h⟩
          · exact h
          · have := hlt u hu; omega
    · simp only [Bool.not_eq_true] at hi
      simp only [hi, Bool.not_false, if_true]
      exact (ih _ _ hd' hun').cons (Or.inl rfl) fun h => by
        rw [unfinished_ofInterest ip _ h] at hi; exact absurd hi (by decide)

end OptunaVerif.SearchSpace
