import OptunaVerif.Lemmas.RdbMut6
/-! The relational model of `RDBStorage` refines the storage contract model: the one-step simulation for
every call, and its lift to whole histories.  Core Lean only. -/
namespace OptunaVerif.Rdb
open OptunaVerif.Storage

/-- **One step of the refinement.** In any pair of related states, every well-formed call on the
relational model leaves related states (the contract call being taken with the `implRaised` hint the
model's own answer dictates) and answers something the contract allows. -/
theorem step_sim (r : State) (a : Spec) (op : Op) (h : Abs r a) (hwf : WfOp op) : StepOk r a op := by
  cases op with
  | createStudy name dirs => exact sim_createStudy r a h name dirs hwf
  | deleteStudy sid => exact sim_deleteStudy r a h sid
  | setStudyUserAttr sid k v => simpa using sim_setStudyAttr false r a h sid k v
  | setStudySystemAttr sid k v => simpa using sim_setStudyAttr true r a h sid k v
  | createTrial sid tmpl ir => exact sim_createTrial r a h sid tmpl ir hwf
  | setTrialParam tid name p ir => exact sim_setTrialParam r a h tid name p ir
  | setTrialStateValues tid st values => exact sim_setTrialStateValues r a h tid st values hwf
  | setTrialInter tid stp v => exact sim_setTrialInter r a h tid stp v
  | setTrialUserAttr tid k v => simpa using sim_setTrialAttr false r a h tid k v
  | setTrialSystemAttr tid k v => simpa using sim_setTrialAttr true r a h tid k v
  | getStudyIdFromName name => exact stepOk_of_getter r a h _ rfl (sim_getStudyIdFromName r a h name)
  | getStudyNameFromId sid => exact stepOk_of_getter r a h _ rfl (sim_studyFields r a h sid).1
  | getStudyDirections sid => exact stepOk_of_getter r a h _ rfl (sim_studyFields r a h sid).2.1
  | getStudyUserAttrs sid => exact stepOk_of_getter r a h _ rfl (sim_studyFields r a h sid).2.2.1
  | getStudySystemAttrs sid => exact stepOk_of_getter r a h _ rfl (sim_studyFields r a h sid).2.2.2
  | getAllStudies => exact stepOk_of_getter r a h _ rfl (sim_getAllStudies r a h)
  | getTrialIdFromNumber sid number => exact stepOk_of_getter r a h _ rfl (sim_getTrialIdFromNumber r a h sid number)
  | getTrialNumberFromId tid => exact stepOk_of_getter r a h _ rfl (sim_getTrial r a h tid).2
  | getTrialParam tid name => exact stepOk_of_getter r a h _ rfl (sim_getTrialParam r a h tid name)
  | getTrial tid => exact stepOk_of_getter r a h _ rfl (sim_getTrial r a h tid).1
  | getAllTrials sid states => exact stepOk_of_getter r a h _ rfl (sim_getAllTrials r a h sid states).1
  | getNTrials sid states => exact stepOk_of_getter r a h _ rfl (sim_getAllTrials r a h sid states).2
  | getBestTrial sid => exact stepOk_of_getter r a h _ rfl (sim_getBestTrial r a h sid)

/-- the contract calls a history of RDB calls stands for: each call with the `implRaised` hint that the
relational model's own answer dictates (U1) -/
def specOps : State → List Op → List Op
  | _, [] => []
  | r, op :: rest => withRaised op (raisedValueError (step r op).2) :: specOps (step r op).1 rest

def AllAllowed : List Res → List Out → Prop
  | [], [] => True
  | x :: xs, o :: os => Allowed x o ∧ AllAllowed xs os
  | _, _ => False

theorem run_sim (r : State) (a : Spec) (ops : List Op) (h : Abs r a) (hwf : ∀ op ∈ ops, WfOp op) :
    Abs (ops.foldl (fun s op => (step s op).1) r) ((specOps r ops).foldl (fun s op => (Storage.step s op).1) a) ∧
    AllAllowed (runOut r ops) (Storage.runOut a (specOps r ops)) := by
  induction ops generalizing r a with
  | nil => exact ⟨h, trivial⟩
  | cons op rest ih =>
    obtain ⟨h1, h2⟩ := step_sim r a op h (hwf op (by simp))
    obtain ⟨i1, i2⟩ := ih (step r op).1 _ h1 (fun o ho => hwf o (List.mem_cons_of_mem _ ho))
    exact ⟨i1, h2, i2⟩

theorem recordHeartbeat_eq (s : State) (h : Inv0 s) (tid : Nat) :
    recordHeartbeat s tid = ({ s with beats := (Tbl.upsertConflict s.beats s.nBeat tid () ()).1,
                                      nBeat := (Tbl.upsertConflict s.beats s.nBeat tid () ()).2 }, .out .unit) := by
  unfold recordHeartbeat
  rw [Tbl.upsert_eq s.beats s.nBeat h.beats]
  rfl

theorem abs_recordHeartbeat (r : State) (a : Spec) (h : Abs r a) (tid : Nat) (htid : tid ∈ r.trialIds) :
    Abs (recordHeartbeat r tid).1 a ∧ (recordHeartbeat r tid).2 = .out .unit := by
  rw [recordHeartbeat_eq r h.inv.1]
  refine ⟨?_, rfl⟩
  have hinv : Inv { r with beats := (Tbl.upsertConflict r.beats r.nBeat tid () ()).1, nBeat := (Tbl.upsertConflict r.beats r.nBeat tid () ()).2 } :=
    ⟨{ h.inv.1 with beats := Tbl.tblInv_upsertConflict _ _ h.inv.1.beats _ _ _,
                    beatsFk := fk_bulk _ _ _ h.inv.1.beats tid [((), ())] h.inv.1.beatsFk htid }, h.inv.2⟩
  exact ⟨hinv, h.nStudies, h.nTrials, h.study, h.trial, h.bound, h.pdist, h.pc, h.unfin, h.nonan, h.dirsOk⟩

end OptunaVerif.Rdb
