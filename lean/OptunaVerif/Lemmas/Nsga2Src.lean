import OptunaVerif.Generated.Nsga2Src
/-!
# The generated table of content keys is consistent

`keyOf` looks a name up in `keys`; since the names are distinct (`names_nodup`, the one evaluation over the table), every
recorded pair is found under its own name (`find?_of_nodup`).
The lists of recorded keys in `Props/C10Nsga`, `C13Nsga`, `C15Nsga` are segments of `keys`, so their obligations
`modelled_source_unchanged` are instances of `all_keyOf_of_sublist`: the segment is compared with the regenerated
table by unification, and an edited function shows up as a changed number there.
-/
namespace OptunaVerif.Generated.Nsga2Src

theorem find?_of_nodup : ∀ {l : List (String × Nat)}, (l.map (·.1)).Nodup → ∀ p ∈ l, l.find? (fun q => q.1 == p.1) = some p
  | [], _, _, h => by cases h
  | q :: t, hn, p, h => by
    rw [List.map_cons, List.nodup_cons] at hn
    rw [List.find?_cons]
    rcases List.mem_cons.1 h with rfl | h
    · simp
    · have : (q.1 == p.1) = false := beq_false_of_ne fun e => hn.1 (e ▸ List.mem_map_of_mem h)
      rw [this]; exact find?_of_nodup hn.2 p h

theorem names_nodup : (keys.map (·.1)).Nodup := by decide +kernel

theorem keyOf_keys : keys.all (fun p => keyOf p.1 == p.2) = true :=
  List.all_eq_true.2 fun p hp => by
    have h := find?_of_nodup names_nodup p hp
    unfold keyOf
    rw [h]
    exact beq_self_eq_true _

theorem all_keyOf_of_sublist {l : List (String × Nat)} (h : l.Sublist keys) :
    l.all (fun p => keyOf p.1 == p.2) = true :=
  List.all_eq_true.2 fun p hp => List.all_eq_true.1 keyOf_keys p (h.subset hp)

end OptunaVerif.Generated.Nsga2Src
