import OptunaVerif.Model.SuggestApi
import OptunaVerif.Lemmas.SimpAttr
import OptunaVerif.Lemmas.Basic
import Lean.Meta.Tactic.Simp.BuiltinSimprocs
/-! The simp set `suggest_ir` with which `Props/C10SuggestGen.lean` executes the generated bodies (the interpreter of
`Model/SuggestIR.lean` and its leaves by their defining equations, calls in terms of what a caller sees of the callee's
run), and facts about the hand models of the suggest path that do not mention the generated code: `SuggestApi.suggestFull`
projects to `Suggest.suggestS`; what a call can do to the trial (`suggestFull_cases`), hence: a failed call leaves the state
alone, a refused write records nothing; a reuse takes nothing from the sampler and writes nothing. -/

namespace OptunaVerif.SuggestIR
open OptunaVerif.Dist OptunaVerif.Suggest

/- `bind1` is unfolded, not rewritten by `bind1_ok` / `bind1_error`: as a `match` on its first part, `simp` evaluates that
part and reduces the `match` before it looks at the continuation; as an application it would first simplify the
continuation under its binders, with an unknown value and state, at every sequencing step. -/
attribute [suggest_ir] bind1 Except.map tagOf boolV loc fltV argsND outcome getLocal setLocal List.zip_cons_cons List.zip_nil_right List.map_cons List.map_nil
  AList.get?_nil AList.get?_cons AList.set_nil AList.set_cons
attribute [suggest_ir_proc] reduceIte String.reduceEq

/- The leaves enter by their defining equations as well.  The equation of a catch-all arm carries the side condition that no
earlier arm applies; it does not come into play, since a leaf is met on the constructor forms the bodies produce. -/
attribute [suggest_ir] Tok.truthy Tok.num? truthy keyOf tmapGet dmapGet memV indexV getDV neV toInternalV containsV attrLowV attrLogV
  choice0V isNumericV isCatV mkIntV mkCatV

@[suggest_ir] theorem intOfV_tok (t : Tok) : intOfV (.tok t) = (SuggestApi.intOfTok t).map .tok := by
  cases t <;> rfl

/-- the arguments of `FloatDistribution(…)` as `suggest_float` receives them -/
@[suggest_ir] theorem mkFloatV_args (low high : Rat) (log : Bool) (step : Option Rat) :
    mkFloatV (.tok (.flt low)) (.tok (.flt high)) (.tok (.bool log)) (optFltV step) =
      match mkFlt .float low high log step with
      | .ok d => .ok (.dist d)
      | .error e => .error (.err e) := by
  cases step <;> rfl

/- The interpreter itself enters the set by its defining equations, one per constructor.  They hold by `rfl`, and `simp`
applies such an equation without recording a step unless told otherwise; the kernel then has to re-run the interpreter,
callees included, to see that the two ends of a run agree.  The proofs that execute a body therefore call
`simp -implicitDefEqProofs`, which records every step. -/
attribute [suggest_ir] block eval evalCond exec

section interpreter
variable (E : SEnv) (c : CallD) (s : MSt)

@[suggest_ir] def Flow.result : Flow → Except Exn Val
  | .next => .ok (.tok .none)
  | .ret v _ => .ok v
  | .raised e => .error e

/-- `if not t: warnings.warn(w)` does not fork the run: whether the log has grown is all that is left of the test.  Ahead of the
equation of `ite` in the set, so that a body with such a statement is run once for both answers of `t`. -/
@[suggest_ir ↓] theorem exec_warnUnless (t : Expr) (w : Warn) :
    exec E c (.ite (.not t) (.warn w) .skip) s =
      match evalCond E c t s with
      | (s', .error ex) => (s', .raised ex)
      | (s', .ok b) => ({ s' with warns := if b then s'.warns else s'.warns ++ [w] }, .next) := by
  simp only [exec, evalCond, eval, bind1]
  rcases eval E c t s with ⟨s', e | v⟩
  · rfl
  · dsimp only
    rcases truthy v with e | (_ | _) <;> rfl

theorem runFn_eq (body : Stmt) (params : List String) (args : List Val) (hl : params.length = args.length) :
    runFn E c body params args s =
      ({ (exec E c body { s with locals := (params.zip args).map fun p => (p.1, (p.2, none)) }).1 with locals := s.locals },
       (exec E c body { s with locals := (params.zip args).map fun p => (p.1, (p.2, none)) }).2.result) := by
  unfold runFn
  rw [if_neg (by simpa using hl)]
  generalize exec E c body _ = r
  obtain ⟨s', fl⟩ := r
  cases fl <;> rfl

/-- The frame `L` is left to the caller, whose fact about the run names it in its own way. -/
theorem runFn_of_outcome (body : Stmt) (params : List String) (args : List Val) (L : AList (Val × Option Branch))
    (hl : params.length = args.length) (hL : (params.zip args).map (fun p => (p.1, (p.2, none))) = L)
    (o : St × List Warn × Nat × Flow) (h : outcome (exec E c body { s with locals := L }) = o) :
    runFn E c body params args s = ({ st := o.1, locals := s.locals, warns := o.2.1, sampled := o.2.2.1 }, o.2.2.2.result) := by
  subst h hL
  exact runFn_eq E c s body params args hl

end interpreter

section calls
variable (G : Program) (E : SEnv) (a : List Val) (s : MSt)
@[suggest_ir] theorem call1_getSingleValue : G.call1 E .getSingleValue a s = G.call0 E .getSingleValue a s := rfl
@[suggest_ir] theorem call1_checkCompat : G.call1 E .checkCompat a s = G.call0 E .checkCompat a s := rfl
@[suggest_ir] theorem call2_checkDistribution : G.call2 E .checkDistribution a s = G.call1 E .checkDistribution a s := rfl
end calls

end OptunaVerif.SuggestIR

namespace OptunaVerif.SuggestApi
open OptunaVerif.Dist OptunaVerif.Suggest OptunaVerif.SuggestIR

def liftR {α : Type} : R α → Except Exn α
  | .ok a => .ok a
  | .error e => .error (.err e)

theorem pickFull_res (E : SEnv) (name : String) (d : Dist) (hne : d = .cat [] → E.single d = false) :
    (pickFull E name d).2.2 = liftR (pickS (E.single d) E.cx name d (E.indep name d)) := by
  fun_cases pickFull E name d
  -- a categorical without choices that calls itself single: excluded
  case case3 _ hs => rw [hne rfl] at hs; cases hs
  all_goals simp [pickS, liftR, *]

/-- **suggestFull_toR** — with a storage that accepts the write, everything-a-call-does projects to the decision logic
of `Model/Suggest.lean` (`suggestS`, the function the theorems of `Props/C10.lean` are about). -/
theorem suggestFull_toR (E : SEnv) (st : St) (name : String) (d : Dist) (hw : E.writeFails = false)
    (hne : d = .cat [] → E.single d = false) :
    toR (suggestFull E st name d) = liftR (suggestS (E.single d) E.cx st name d (E.indep name d)) := by
  have hp := pickFull_res E name d hne
  unfold suggestFull suggestS
  cases hd : st.dists.get? name with
  | some dOld =>
    cases hc : compat dOld d with
    | false => simp [toR, liftR, hc]
    | true => cases hv : st.params.get? name <;> simp [toR, liftR, hc]
  | none =>
    simp only []
    generalize pickFull E name d = pf at hp
    obtain ⟨w, n, r⟩ := pf
    simp only at hp
    subst hp
    cases hpk : pickS (E.single d) E.cx name d (E.indep name d) with
    | error e => simp [toR, liftR]
    | ok vb =>
      obtain ⟨v, br⟩ := vb
      cases hq : d.toInternal v with
      | error e => simp [toR, liftR, hq]
      | ok q => simp [toR, liftR, hq, hw]

theorem suggestFull_cases (E : SEnv) (st : St) (name : String) (d : Dist) :
    ((suggestFull E st name d).st = st ∧
      ((∃ e, (suggestFull E st name d).res = .error e) ∨
        ∃ dOld v, st.dists.get? name = some dOld ∧ compat dOld d = true ∧ st.params.get? name = some v ∧
          suggestFull E st name d = ⟨st, [], 0, .ok (v, .reused)⟩)) ∨
    (st.dists.get? name = none ∧ E.writeFails = false ∧ ∃ w n v br q, d.toInternal v = .ok q ∧
      suggestFull E st name d =
        ⟨{ params := st.params.set name v, dists := st.dists.set name d, stored := st.stored.set name (q, d) }, w, n, .ok (v, br)⟩) := by
  fun_cases suggestFull E st name d
  -- the two paths that return: the cached value, the write; every other path raises from the state it found
  case case2 dOld hd hc v hv => exact .inl ⟨rfl, .inr ⟨dOld, v, hd, by simpa using hc, hv, rfl⟩⟩
  case case7 hd w n v br _ q hq hw => exact .inr ⟨hd, by simpa using hw, w, n, v, br, q, hq, rfl⟩
  all_goals exact .inl ⟨rfl, .inl ⟨_, rfl⟩⟩

theorem suggestFull_error_keeps_state (E : SEnv) (st : St) (name : String) (d : Dist) (e : Exn)
    (h : (suggestFull E st name d).res = .error e) : (suggestFull E st name d).st = st := by
  rcases suggestFull_cases E st name d with ⟨hst, _⟩ | ⟨_, _, w, n, v, br, q, _, heq⟩
  · exact hst
  · rw [heq] at h; cases h

theorem suggestFull_reused (E : SEnv) (st : St) (name : String) (d dOld : Dist) (v : Tok)
    (hd : st.dists.get? name = some dOld) (hc : compat dOld d = true) (hv : st.params.get? name = some v) :
    suggestFull E st name d = ⟨st, [], 0, .ok (v, .reused)⟩ := by
  simp [suggestFull, hd, hc, hv]

theorem suggestFull_write_refused (E : SEnv) (st : St) (name : String) (d : Dist) (hw : E.writeFails = true)
    (hd : st.dists.get? name = none) :
    (suggestFull E st name d).st = st ∧ ∃ e, (suggestFull E st name d).res = .error e := by
  rcases suggestFull_cases E st name d with ⟨hst, he | ⟨dOld, v, hd', _⟩⟩ | ⟨_, hw', _⟩
  · exact ⟨hst, he⟩
  · rw [hd] at hd'; cases hd'
  · rw [hw] at hw'; cases hw'

theorem afterSuggest_ok {o : SOut} {name : String} {d : Dist} {conv : Tok → Except Exn Tok} {check : Bool} {v : Tok}
    (h : (afterSuggest o name d conv check).res = .ok v) : ∃ v0 br, o.res = .ok (v0, br) ∧ conv v0 = .ok v := by
  unfold afterSuggest at h
  rcases hres : o.res with e | ⟨v0, br⟩
  · simp [hres] at h
  · refine ⟨v0, br, rfl, ?_⟩
    cases hc : conv v0 <;> simp [hres, hc] at h
    rw [h]

/-- the common shape of `suggestFloatH`, `suggestIntH`, `suggestCategoricalH` -/
theorem wrapper_ok {E : SEnv} {st : St} {name : String} {mk : R Dist} {conv : Tok → Except Exn Tok} {check : Bool} {v : Tok}
    (h : (match mk with
          | .error e => (⟨st, [], 0, .error (.err e)⟩ : AOut)
          | .ok d => afterSuggest (suggestFull E st name d) name d conv check).res = .ok v) :
    ∃ d v0 br, mk = .ok d ∧ (suggestFull E st name d).res = .ok (v0, br) ∧ conv v0 = .ok v := by
  cases mk with
  | error e => simp at h
  | ok d =>
    obtain ⟨v0, br, hres, hv⟩ := afterSuggest_ok h
    exact ⟨d, v0, br, rfl, hres, hv⟩

end OptunaVerif.SuggestApi
