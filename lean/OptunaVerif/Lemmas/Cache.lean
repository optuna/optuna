import OptunaVerif.Model.Cache
import OptunaVerif.Props.C01
import OptunaVerif.Lemmas.SortBasic
/-! Helper lemmas for C08: Python dict/set operations, `upsert` on the table of entries, consequences of the numbering
invariant of the contract model, the sort used by `get_all_trials`. -/
namespace OptunaVerif.Cache
open OptunaVerif.Storage OptunaVerif.C01

section Dict
variable {κ α : Type} [DecidableEq κ]

theorem find_eq_lookup (l : List (κ × α)) (k : κ) : find l k = l.lookup k :=
  eq_lookup (fun _ => rfl) (fun _ _ _ _ => rfl) l k

theorem find_insert (l : List (κ × α)) (k k2 : κ) (v : α) :
    find (insert l k v) k2 = if k2 = k then some v else find l k2 := by
  induction l with
  | nil => simp [insert, find, eq_comm]
  | cons hd t ih =>
    obtain ⟨k', v'⟩ := hd
    by_cases hk : k' = k
    · subst hk
      by_cases h : k' = k2
      · simp [insert, find, h]
      · simp [insert, find, h, Ne.symm h]
    · by_cases h : k' = k2
      · subst h; simp [insert, find, hk]
      · simp [insert, find, hk, h, ih]

theorem find_insert_same (l : List (κ × α)) (k : κ) (v : α) : find (insert l k v) k = some v := by
  rw [find_insert, if_pos rfl]

theorem find_insert_other (l : List (κ × α)) (k k2 : κ) (v : α) (h : k2 ≠ k) :
    find (insert l k v) k2 = find l k2 := by
  rw [find_insert, if_neg h]

theorem find_erase (l : List (κ × α)) (k k2 : κ) :
    find (erase l k) k2 = if k2 = k then none else find l k2 := by
  induction l with
  | nil => simp [erase, find]
  | cons hd t ih =>
    obtain ⟨k', v'⟩ := hd
    unfold erase at ih ⊢
    by_cases hk : k' = k
    · subst hk
      simp only [List.filter_cons, ne_eq, not_true_eq_false, decide_false, Bool.false_eq_true, if_false]
      rw [ih]
      by_cases h2 : k2 = k'
      · simp [h2]
      · simp [h2, find, Ne.symm h2]
    · simp only [List.filter_cons, ne_eq, hk, not_false_eq_true, decide_true, if_true, find]
      rw [ih]
      by_cases h2 : k' = k2
      · subst h2; simp [hk]
      · simp [h2]

theorem find_foldl_erase (l : List (κ × α)) (ks : List κ) (k2 : κ) :
    find (ks.foldl erase l) k2 = if k2 ∈ ks then none else find l k2 := by
  induction ks generalizing l with
  | nil => simp
  | cons k r ih =>
    rw [List.foldl_cons, ih, find_erase]
    by_cases h1 : k2 ∈ r <;> by_cases h2 : k2 = k <;> simp [h1, h2]

theorem forall_find_insert {P : κ → α → Prop} (l : List (κ × α)) (k : κ) (v : α) (hv : P k v)
    (hl : ∀ k2 e, find l k2 = some e → P k2 e) : ∀ k2 e, find (insert l k v) k2 = some e → P k2 e := by
  intro k2 e he
  rw [find_insert] at he
  split at he
  · rename_i hk
    cases he
    exact hk ▸ hv
  · exact hl k2 e he

theorem forall_find_erase {P : κ → α → Prop} (l : List (κ × α)) (k : κ)
    (hl : ∀ k2 e, find l k2 = some e → P k2 e) : ∀ k2 e, find (erase l k) k2 = some e → P k2 e := by
  intro k2 e he
  rw [find_erase] at he
  split at he
  · cases he
  · exact hl k2 e he

theorem mem_keys_iff (l : List (κ × α)) (k : κ) : k ∈ l.map (·.1) ↔ (find l k).isSome = true := by
  rw [find_eq_lookup, List.lookup_isSome_iff, List.mem_map]
  exact ⟨fun ⟨p, hp, e⟩ => ⟨p, hp, by simp [e]⟩, fun ⟨p, hp, e⟩ => ⟨p, hp, (by simpa using e : k = p.1).symm⟩⟩

theorem keys_insert_nodup (l : List (κ × α)) (k : κ) (v : α) (h : (l.map (·.1)).Nodup) :
    ((insert l k v).map (·.1)).Nodup := by
  induction l with
  | nil => simp [insert]
  | cons hd t ih =>
    obtain ⟨k', v'⟩ := hd
    simp only [List.map_cons, List.nodup_cons] at h
    by_cases hk : k' = k
    · subst hk; simpa [insert] using h
    · simp only [insert, hk, if_false, List.map_cons, List.nodup_cons]
      exact ⟨by rw [mem_keys_iff, find_insert, if_neg hk, ← mem_keys_iff]; exact h.1, ih h.2⟩

theorem find_some_mem (l : List (κ × α)) (k : κ) (v : α) (h : find l k = some v) : (k, v) ∈ l := by
  rw [find_eq_lookup, List.lookup_eq_some_iff] at h
  obtain ⟨l₁, l₂, rfl, _⟩ := h
  simp

theorem mem_find_of_nodup (l : List (κ × α)) (k : κ) (v : α) (hn : (l.map (·.1)).Nodup)
    (h : (k, v) ∈ l) : find l k = some v := by
  obtain ⟨l₁, l₂, rfl⟩ := List.append_of_mem h
  rw [find_eq_lookup, List.lookup_eq_some_iff]
  refine ⟨l₁, l₂, rfl, fun p hp => ?_⟩
  simp only [List.map_append, List.map_cons, List.nodup_append, List.mem_cons] at hn
  simpa [bne_iff_ne] using fun e : k = p.1 => hn.2.2 p.1 (List.mem_map.2 ⟨p, hp, rfl⟩) k (.inl rfl) e.symm

theorem insert_self (l : List (κ × α)) (k : κ) (v : α) (h : find l k = some v) : insert l k v = l := by
  induction l with
  | nil => simp [find] at h
  | cons hd t ih =>
    obtain ⟨k', v'⟩ := hd
    by_cases hk : k' = k
    · subst hk; simp [find] at h; subst h; simp [insert]
    · simp [find, hk] at h; simp [insert, hk, ih h]

theorem insert_insert (l : List (κ × α)) (k : κ) (a b : α) : insert (insert l k a) k b = insert l k b := by
  induction l with
  | nil => simp [insert]
  | cons hd t ih =>
    obtain ⟨k', v'⟩ := hd
    by_cases hk : k' = k
    · simp [insert, hk]
    · simp [insert, hk, ih]

theorem erase_of_find_none (l : List (κ × α)) (k : κ) (h : find l k = none) : erase l k = l := by
  induction l with
  | nil => rfl
  | cons hd t ih =>
    obtain ⟨k', v'⟩ := hd
    by_cases hk : k' = k
    · simp [find, hk] at h
    · simp [find, hk] at h
      have := ih h
      unfold erase at this ⊢
      simp only [List.filter_cons, ne_eq, hk, not_false_eq_true, decide_true, if_true]
      rw [this]

theorem erase_insert (l : List (κ × α)) (k : κ) (v : α) : erase (insert l k v) k = erase l k := by
  induction l with
  | nil => simp [insert, erase]
  | cons hd t ih =>
    obtain ⟨k', v'⟩ := hd
    unfold erase at ih ⊢
    by_cases hk : k' = k
    · subst hk; simp [insert]
    · simp only [insert, hk, if_false, List.filter_cons, ne_eq, not_false_eq_true, decide_true, if_true]
      rw [ih]

end Dict

theorem mem_uadd (u : List Nat) (i j : Nat) : j ∈ uadd u i ↔ j ∈ u ∨ j = i := by
  unfold uadd
  split
  · rename_i h
    constructor
    · intro hj; exact Or.inl hj
    · rintro (hj | hj)
      · exact hj
      · subst hj; simpa using h
  · simp

theorem mem_uremove (u : List Nat) (i j : Nat) : j ∈ uremove u i ↔ j ∈ u ∧ j ≠ i := by
  simp [uremove]

theorem uremove_of_not_contains (u : List Nat) (i : Nat) (h : u.contains i = false) : uremove u i = u := by
  unfold uremove
  rw [List.filter_eq_self]
  intro j hj
  simp only [ne_eq, decide_eq_true_eq]
  intro hji
  subst hji
  have : u.contains j = true := by simpa using hj
  rw [h] at this
  cases this

theorem find_upsert (m : List (Nat × Entry)) (sid sid2 : Nat) (f : Entry → Entry) :
    find (upsert m sid f) sid2 = if sid2 = sid then some (f (entryD m sid)) else find m sid2 := by
  unfold upsert; exact find_insert _ _ _ _

theorem find_upsert_same (m : List (Nat × Entry)) (sid : Nat) (f : Entry → Entry) :
    find (upsert m sid f) sid = some (f (entryD m sid)) := by
  rw [find_upsert, if_pos rfl]

theorem entryD_upsert (m : List (Nat × Entry)) (sid sid2 : Nat) (f : Entry → Entry) :
    entryD (upsert m sid f) sid2 = if sid2 = sid then f (entryD m sid) else entryD m sid2 := by
  by_cases h : sid2 = sid <;> simp [entryD, find_upsert, h]

theorem entryD_upsert_same (m : List (Nat × Entry)) (sid : Nat) (f : Entry → Entry) :
    entryD (upsert m sid f) sid = f (entryD m sid) := by
  rw [entryD_upsert, if_pos rfl]

theorem entryD_upsert_id (m : List (Nat × Entry)) (sid sid2 : Nat) :
    entryD (upsert m sid id) sid2 = entryD m sid2 := by
  rw [entryD_upsert]; split
  · subst_vars; rfl
  · rfl

theorem upsert_of_find (m : List (Nat × Entry)) (sid : Nat) (e : Entry) (f : Entry → Entry) (h : find m sid = some e) :
    upsert m sid f = insert m sid (f e) := by
  simp [upsert, entryD, h]

theorem upsert_upsert (m : List (Nat × Entry)) (sid : Nat) (f g : Entry → Entry) :
    upsert (upsert m sid f) sid g = upsert m sid (fun e => g (f e)) := by
  simp [upsert, entryD, find_insert_same, insert_insert]

theorem trialsFrom_getElem_count (sid : Nat) (l : List TrialS) (k i : Nat) (t : TrialS)
    (hi : l[i]? = some t) (hs : t.study = sid) :
    (trialsFrom sid l k)[((l.take i).filter (fun t => t.study == sid)).length]? = some (k + i, t) := by
  induction l generalizing k i with
  | nil => simp at hi
  | cons a r ih =>
    cases i with
    | zero =>
      simp only [List.getElem?_cons_zero, Option.some.injEq] at hi
      subst hi
      have : (a.study == sid) = true := by simpa using hs
      simp [trialsFrom, this]
    | succ i =>
      have hi' : r[i]? = some t := by simpa using hi
      have := ih (k + 1) i hi'
      simp only [trialsFrom, List.take_succ_cons, List.filter_cons]
      split
      · simp only [List.length_cons, List.getElem?_cons_succ]
        rw [this]; congr 2; omega
      · rw [this]; congr 2; omega

/-- `get_trial_id_from_study_id_trial_number` of the backend finds exactly the trial carrying that number. -/
theorem trialsOf_getElem_number (s : Spec) (h : Numbered s) (tid : Nat) (t : TrialS)
    (ht : s.trials[tid]? = some t) : (s.trialsOf t.study)[t.number]? = some (tid, t) := by
  have := trialsFrom_getElem_count t.study s.trials 0 tid t ht rfl
  rw [h tid t ht]
  unfold countBefore Spec.trialsOf
  simpa using this

theorem trialsOf_nodup (s : Spec) (sid : Nat) : (s.trialsOf sid).Nodup := by
  refine (trialsFrom_sorted sid s.trials 0).imp ?_
  rintro a _ hlt rfl
  exact Nat.lt_irrefl _ hlt

theorem trialsOf_number (s : Spec) (h : Numbered s) (sid n : Nat) (p : Nat × TrialS)
    (hn : (s.trialsOf sid)[n]? = some p) : p.2.number = n := by
  obtain ⟨ht, hs⟩ := (mem_trialsOf s sid p.1 p.2).1 (List.mem_of_getElem? hn)
  have := trialsOf_getElem_number s h p.1 p.2 ht
  rw [hs, ← hn] at this
  -- the trial also stands at the place of its number, and the list (increasing in the ids) has no entry twice
  exact (List.getElem?_inj (getElem?_lt_length (this.trans hn)) (trialsOf_nodup s sid)).1 this

theorem numbered_unique (s : Spec) (h : Numbered s) {i j : Nat} {a b : TrialS}
    (hi : s.trials[i]? = some a) (hj : s.trials[j]? = some b) (hs : a.study = b.study)
    (hn : a.number = b.number) : i = j := by
  have h1 := trialsOf_getElem_number s h i a hi
  rw [hs, hn, trialsOf_getElem_number s h j b hj] at h1
  cases h1; rfl

theorem trialsOf_sorted (s : Spec) (h : Numbered s) (sid : Nat) :
    (s.trialsOf sid).Pairwise (fun a b => a.2.number < b.2.number) := by
  rw [List.pairwise_iff_getElem]
  intro i j hi hj hij
  rw [trialsOf_number s h sid i _ (List.getElem?_eq_getElem hi), trialsOf_number s h sid j _ (List.getElem?_eq_getElem hj)]
  exact hij

def StudyBound (s : Spec) : Prop :=
  ∀ (i : Nat) (t : TrialS), s.trials[i]? = some t → t.study < s.studies.length

theorem studyBound_step (s : Spec) (op : Op) (h : StudyBound s) : StudyBound (step s op).1 := by
  intro i t hi
  have hmono := studies_length_mono s op
  cases step_trials s op with
  | same h' => rw [h'] at hi; have := h i t hi; omega
  | append t1 h' _ hlive =>
    rw [h', getElem?_snoc] at hi
    split at hi
    · cases hi; have := study?_lt hlive; omega
    · have := h i t hi; omega
  | upd tid f t0 h' _ hf =>
    rw [h', updAt_getElem?] at hi
    split at hi
    · obtain ⟨t0, h0, rfl⟩ := Option.map_eq_some_iff.1 hi
      have := h i t0 h0
      rw [(hf t0).1]; omega
    · have := h i t hi; omega

structure Wf (s : Spec) : Prop where
  numbered : Numbered s
  bound : StudyBound s

theorem wf_init : Wf Storage.init :=
  ⟨by intro i t h; simp [Storage.init] at h, by intro i t h; simp [Storage.init] at h⟩

theorem wf_step (s : Spec) (op : Op) (h : Wf s) : Wf (step s op).1 :=
  ⟨numbered_step s op h.numbered, studyBound_step s op h.bound⟩

theorem orderedInsert_isInsert : SortBasic.IsInsert orderedInsert (fun p q => p.2.number ≤ q.2.number) :=
  ⟨fun _ => rfl, fun _ _ _ => rfl⟩

theorem sortByNumber_isSort : SortBasic.IsSort sortByNumber orderedInsert := ⟨rfl, fun _ _ => rfl⟩

theorem sortByNumber_perm (l : List (Nat × TrialS)) : (sortByNumber l).Perm l :=
  orderedInsert_isInsert.sort_perm sortByNumber_isSort l

theorem sortByNumber_sorted (l : List (Nat × TrialS)) :
    (sortByNumber l).Pairwise (fun a b => a.2.number ≤ b.2.number) :=
  orderedInsert_isInsert.toU.sort_pairwise (M := fun _ => True) (fun _ _ _ _ h => h)
    (fun _ _ _ _ _ _ h1 h2 => Nat.le_trans h1 h2) (fun _ _ _ _ h _ => Nat.le_of_not_le h) sortByNumber_isSort
    (fun _ _ => trivial)

end OptunaVerif.Cache
