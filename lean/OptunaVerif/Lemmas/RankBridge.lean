import OptunaVerif.Lemmas.RankIR
import OptunaVerif.Lemmas.Rank
import OptunaVerif.Lemmas.Basic
/-! Bridge between the flag-free references of `Lemmas/RankIR.lean` (arrays, index arrays, scatter writes) and the hand model
`Model/Rank.lean` (association table unique row ↦ rank), for `_is_pareto_front(·, True)` = `frontSorted`. -/
namespace OptunaVerif.RankIR
open OptunaVerif.Hypervolume OptunaVerif.Rank

/-- `_is_pareto_front(a, assume_unique_lexsorted=True)` as the hand model has it -/
def frontH : Nat → List Pt → List Pt := fun d l => frontSorted id d l

theorem selMask_map_map {α β : Type} (l : List α) (f : α → β) (q : α → Bool) :
    selMask (l.map f) (l.map q) = (l.filter q).map f := by
  induction l with
  | nil => rfl
  | cons a t ih => cases h : q a <;> simp [selMask, h, ih]

theorem scatterIdx_cons (l : List Int) (j : Nat) (js : List Int) (v : Int) :
    scatterIdx l (Int.ofNat j :: js) v = scatterIdx (l.set j v) js v := by
  simp [scatterIdx]

theorem scatterIdx_getD (is : List Nat) (v : Int) (i : Nat) : ∀ (l : List Int), (∀ j ∈ is, j < l.length) →
    (scatterIdx l (is.map Int.ofNat) v).getD i 0 = if i ∈ is then v else l.getD i 0 := by
  induction is with
  | nil => intro l _; simp [scatterIdx]
  | cons j js ih =>
    intro l hb
    rw [List.map_cons, scatterIdx_cons, ih (l.set j v) (by intro k hk; simp; exact hb k (List.mem_cons_of_mem _ hk))]
    have hj : j < l.length := hb j (List.mem_cons_self ..)
    by_cases hi : i ∈ js
    · simp [hi]
    · simp only [hi, if_false, List.mem_cons]
      by_cases hij : i = j
      · subst hij
        simp [List.getD_eq_getElem?_getD, hj]
      · have : ¬ j = i := fun e => hij e.symm
        simp [List.getD_eq_getElem?_getD, hij, this]

theorem scatterIdx_length (idx : List Int) (v : Int) (l : List Int) : (scatterIdx l idx v).length = l.length :=
  List.foldlRecOn (motive := fun (acc : List Int) => acc.length = l.length) idx
    (fun (acc : List Int) (j : Int) => if 0 ≤ j then acc.set j.toNat v else acc) rfl
    fun acc h j _ => by split <;> simp [h]

/-- the write after the loop -/
theorem scatterIdx_rest (U : List Pt) (is : List Nat) (ranks : List Int) (r : Nat) (hb : ∀ j ∈ is, j < U.length)
    (hl : ranks.length = U.length) (i : Nat) :
    (scatterIdx ranks (is.map Int.ofNat) r).getD i 0 =
      if i ∈ is then ((lookupRank ((is.map (fun i => U.getD i [])).map (fun p => (p, r))) (U.getD i []) : Nat) : Int)
      else ranks.getD i 0 := by
  rw [scatterIdx_getD is r i ranks (by rw [hl]; exact hb)]
  by_cases hi : i ∈ is
  · rw [if_pos hi, if_pos hi, lookupRank_map _ r _ (List.mem_map.mpr ⟨i, hi, rfl⟩)]
  · rw [if_neg hi, if_neg hi]

theorem peel_bridge (d : Nat) (U : List Pt) (nbN nUN : Nat) : ∀ (fuel : Nat) (is : List Nat) (ranks : List Int) (r : Nat),
    (∀ j ∈ is, j < U.length) → ranks.length = U.length → is.length ≤ nUN →
    ∀ st, st = peelRef frontH d nUN nbN fuel ⟨r, is.map Int.ofNat, is.map (fun i => U.getD i []), ranks⟩ →
    ∀ i, i < U.length →
      (scatterIdx st.ranks st.indices st.rank).getD i 0 =
        if i ∈ is then ((lookupRank (peelLoop d nbN nUN fuel r (is.map (fun i => U.getD i []))) (U.getD i []) : Nat) : Int)
        else ranks.getD i 0 := by
  intro fuel
  induction fuel with
  | zero =>
    intro is ranks r hb hl _ st hst i _
    subst hst
    exact scatterIdx_rest U is ranks r hb hl i
  | succ f ih =>
    intro is ranks r hb hl hle st hst i hi
    subst hst
    simp only [peelRef, peelLoop, List.length_map]
    by_cases hc : nUN - is.length < nbN
    · have hc' : (nUN : Int) - (is.length : Int) < (nbN : Int) := by omega
      rw [if_pos hc', if_pos hc]
      -- the state after one round, in the form of the induction hypothesis
      generalize hF : frontSorted id d (is.map (fun i => U.getD i [])) = F
      have hmask : frontMaskOf frontH d (is.map (fun i => U.getD i [])) = is.map (fun i => F.contains (U.getD i [])) := by
        subst hF
        simp [frontMaskOf, frontH, List.map_map, Function.comp_def]
      have hmaskn : (frontMaskOf frontH d (is.map (fun i => U.getD i []))).map (fun x => !x) =
          is.map (fun i => !F.contains (U.getD i [])) := by
        rw [hmask]; simp [List.map_map, Function.comp_def]
      rw [hmaskn, hmask, selMask_map_map, selMask_map_map, selMask_map_map]
      have hrem : removeAll (is.map (fun i => U.getD i [])) F =
          (is.filter (fun i => !F.contains (U.getD i []))).map (fun i => U.getD i []) := by
        simp [removeAll, List.filter_map, Function.comp_def]
      rw [hrem, show ((r : Int) + 1) = ((r + 1 : Nat) : Int) by simp,
        ih _ _ (r + 1) (fun j hj => hb j (List.mem_of_mem_filter hj)) (by rw [scatterIdx_length, hl])
          (Nat.le_trans (List.length_filter_le _ _) hle) _ rfl i hi,
        lookupRank_map_append,
        scatterIdx_getD _ r i ranks (by intro j hj; rw [hl]; exact hb j (List.mem_of_mem_filter hj))]
      simp only [List.mem_filter, List.contains_iff_mem, Bool.not_eq_eq_eq_not, Bool.not_true
        ]
      by_cases him : i ∈ is <;> by_cases hmem : U.getD i [] ∈ F <;> simp [-List.getD_eq_getElem?_getD, him, hmem]
    · have hc' : ¬ (nUN : Int) - (is.length : Int) < (nbN : Int) := by omega
      rw [if_neg hc', if_neg hc]
      exact scatterIdx_rest U is ranks r hb hl i

theorem nbClip_cast (S : List Pt) (nb : Option Int) (n : Nat) (ht : trivialCase S nb = false) :
    nbClip nb n = ((clipNBelow nb n : Nat) : Int) := by
  cases nb with
  | none => simp [nbClip, nbOr, clipNBelow]
  | some k =>
    have hk : 0 < k := by
      simp [trivialCase] at ht
      omega
    have hk0 : ¬ k = 0 := by omega
    simp only [nbClip, nbOr, clipNBelow, hk0, if_false]
    have : ((k.toNat : Nat) : Int) = k := Int.toNat_of_nonneg (by omega)
    omega

theorem nbOr_map_ofNat (nBelow : Option Nat) (n : Nat) : nbOr (nBelow.map Int.ofNat) n = nbOf nBelow n := by
  cases nBelow with
  | none => rfl
  | some k => by_cases h : k = 0 <;> simp [nbOr, nbOf, h]

/-- **calcRef_eq_calcRank** — the array reference of `_calculate_nondomination_rank` (scatter writes through index arrays) is the hand model
`Rank.calcRank` (association table), for rows of `d` columns, every `n_below`, loop bound `n_unique` -/
theorem calcRef_eq_calcRank (d : Nat) (S : List Pt) (hS : ∀ q ∈ S, q.length = d) (nb : Option Int) :
    calcRef frontH (uniqueLex S).length d S nb = (calcRank d S nb).map Int.ofNat := by
  unfold calcRef calcRank
  cases ht : trivialCase S nb with
  | true =>
    have h0 : ∀ p, rankFn d S nb p = 0 := fun p => by simp [rankFn, ht]
    simp [h0, List.map_const', Function.comp_def]
  | false =>
    simp only [Bool.false_eq_true, if_false]
    by_cases hd : d = 1
    · subst hd
      simp only [if_true]
      have hcol : S.map col0Row = S := by
        conv => rhs; rw [← List.map_id S]
        apply List.map_congr_left
        intro p hp
        have := hS p hp
        match p, this with
        | [a], _ => rfl
      have h1 : ∀ p, rankFn 1 S nb p = (uniqueLex S).idxOf p := fun p => by simp [rankFn, ht]
      simp [uniqueInvCol0Of, uniqueInvOf, hcol, List.map_map, Function.comp_def, h1]
    · simp only [hd, if_false]
      simp only [uniqueInvOf, List.map_map]
      apply List.map_congr_left
      intro p hp
      have hpU : p ∈ uniqueLex S := (mem_uniqueLex S p).mpr hp
      have hi : (uniqueLex S).idxOf p < (uniqueLex S).length := List.idxOf_lt_length_iff.mpr hpU
      have hget : (uniqueLex S).getD ((uniqueLex S).idxOf p) [] = p := by
        rw [List.getD_eq_getElem?_getD, List.getElem?_eq_getElem hi]
        simp
      have hb := peel_bridge d (uniqueLex S) (clipNBelow nb (uniqueLex S).length) (uniqueLex S).length (uniqueLex S).length
        (List.range (uniqueLex S).length) (List.replicate (uniqueLex S).length 0) 0
        (by intro j hj; exact List.mem_range.mp hj) (by simp) (by simp) _ rfl ((uniqueLex S).idxOf p) hi
      rw [map_getD_range, hget, if_pos (List.mem_range.mpr hi)] at hb
      have hr : rankFn d S nb p = lookupRank (peelLoop d (clipNBelow nb (uniqueLex S).length) (uniqueLex S).length (uniqueLex S).length 0
          (uniqueLex S)) p := by simp [rankFn, ht, hd]
      simp only [Function.comp, Int.toNat_natCast]
      rw [nbClip_cast S nb _ ht, hr]
      simpa using hb

end OptunaVerif.RankIR
