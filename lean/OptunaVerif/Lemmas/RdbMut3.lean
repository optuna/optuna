import OptunaVerif.Lemmas.RdbMut2
/-! Refinement, part 5: `delete_study` (the ORM cascade against "a deleted study and its trials are
gone").  Core Lean only. -/
namespace OptunaVerif.Rdb
open OptunaVerif.Storage

theorem mem_deadTrials (r : State) (h : Inv0 r) (sid : Nat) (row : TrialRow) (hrow : row ∈ r.trials) :
    row.id ∈ deadTrials r sid ↔ row.study = sid := by
  simp only [deadTrials, List.mem_map, List.mem_filter, beq_iff_eq]
  constructor
  · rintro ⟨row', ⟨hm, hs⟩, hid⟩
    rw [← eq_of_sorted h.trialsSorted hm hrow hid]; exact hs
  · intro hs; exact ⟨row, ⟨hrow, hs⟩, rfl⟩

theorem trialRow?_cascade (r : State) (h : Inv0 r) (sid i : Nat) :
    (cascade r sid).trialRow? i = (r.trialRow? i).filter (fun x => !(x.study == sid)) :=
  find?_filter_id (fun x : TrialRow => x.id) _ r.trials h.trialsSorted i

theorem studyView_cascade (r : State) (h : Inv0 r) (sid i : Nat) :
    (cascade r sid).studyView i = if i = sid then none else r.studyView i := by
  show ((r.studies.filter _).find? _).map _ = if i = sid then none else (r.studyRow? i).map _
  rw [find?_filter_id (fun x : StudyRow => x.id) _ r.studies h.studiesSorted i]
  show ((r.studyRow? i).filter _).map _ = _
  cases hq : r.studyRow? i with
  | none => simp
  | some row =>
    have hid := (studyRow?_some r i row hq).2
    subst hid
    by_cases hi : row.id = sid
    · simp [Option.filter, hi]
    · simp [Option.filter, hi, frozenStudy, cascade, Tbl.ofOwner_dropOwners]

theorem trialView_cascade (r : State) (h : Inv0 r) (sid i : Nat) :
    (cascade r sid).trialView i = (r.trialView i).filter (fun t => !(t.study == sid)) := by
  unfold State.trialView
  rw [trialRow?_cascade r h]
  cases hq : r.trialRow? i with
  | none => rfl
  | some row =>
    have hm := (trialRow?_some r i row hq).1
    by_cases hs : row.study = sid
    · simp [Option.filter, State.rowView, hs]
    · have hd : (deadTrials r sid).contains row.id = false := by simpa [mem_deadTrials r h sid row hm] using hs
      have hb : (row.study == sid) = false := by simpa using hs
      have hb2 : ((r.rowView row).study == sid) = false := hb
      simp only [Option.map_some, Option.filter, hb, hb2, Bool.not_false, if_true, Option.some.injEq]
      refine rowView_congr r (cascade r sid) row ?_ ?_ ?_ ?_ ?_ <;>
        simp only [cascade, Tbl.ofOwner_dropOwners, hd, Bool.false_eq_true, if_false]

theorem paramRowOf_cascade (r : State) (h : Inv0 r) (sid i : Nat) (nm : String) (x : KRow String Param) :
    (cascade r sid).paramRowOf i nm x ↔ r.paramRowOf i nm x ∧ i ≠ sid := by
  unfold State.paramRowOf
  rw [trialStudy?_eq, trialStudy?_eq, trialRow?_cascade r h]
  show x ∈ Tbl.dropOwners r.params (deadTrials r sid) ∧ _ ↔ _
  rw [Tbl.mem_dropOwners]
  cases hq : r.trialRow? x.owner with
  | none => simp [Option.filter]
  | some row =>
    obtain ⟨hm, hid⟩ := trialRow?_some r x.owner row hq
    have hd := mem_deadTrials r h sid row hm
    rw [hid] at hd
    by_cases hs : row.study = sid
    · simp [Option.filter, hs]; rintro _ _ rfl; rfl
    · simp [Option.filter, hs, hd]; rintro _ _ rfl; exact hs

theorem sim_deleteStudy (r : State) (a : Spec) (h : Abs r a) (sid : Nat) : StepOk r a (.deleteStudy sid) := by
  unfold StepOk
  simp only [withRaised]
  simp only [step, Storage.step, deleteStudy_eq]
  rcases findStudy_abs r a h sid with ⟨srow, st, h1, h2, h3, h4⟩ | ⟨h1, h2, _⟩
  rotate_left
  · simp only [h1, h2, commit]; exact ⟨h, by simp [Allowed]⟩
  simp only [h1, h3, commit]
  refine ⟨?_, by simp [Allowed]⟩
  have hi0 := h.inv.1
  have hwf := h.wf_of_sub { a with studies := updAt a.studies sid (fun _ => none) } (fun i t hi => by
    rw [trial?_delete] at hi
    exact (Option.filter_eq_some_iff.mp hi).1)
  refine ⟨inv_cascade r h.inv sid, ?_, ?_, ?_, ?_, ?_, ?_, fun i nm x y hx hy =>
    h.pc i nm x y ((paramRowOf_cascade r hi0 sid i nm x).mp hx).1 ((paramRowOf_cascade r hi0 sid i nm y).mp hy).1, hwf.1, hwf.2, ?_⟩
  · show (updAt a.studies sid _).length = _
    rw [updAt_length]; exact h.nStudies
  · exact h.nTrials
  · intro i
    rw [study?_delete, studyView_cascade r hi0]
    split
    · rfl
    · exact h.study i
  · intro i
    rw [trial?_delete, trialView_cascade r hi0, h.trial i]
  · intro i t hi
    show _ < (updAt a.studies sid _).length
    rw [updAt_length]; exact h.bound i t hi
  · intro i st' nm d1 hs hp
    rw [study?_delete] at hs
    split at hs
    · simp at hs
    · rename_i hne
      obtain ⟨x0, hx0, hcx0⟩ := h.pdist i st' nm d1 hs hp
      exact ⟨x0, (paramRowOf_cascade r hi0 sid i nm x0).mpr ⟨hx0, hne⟩, hcx0⟩
  · intro i st' hs
    rw [study?_delete] at hs
    split at hs
    · simp at hs
    · exact h.dirsOk i st' hs

end OptunaVerif.Rdb
