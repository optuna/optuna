import OptunaVerif.Model.JournalAppend
import OptunaVerif.Lemmas.Basic
/-! Lemmas on splitting a byte string into complete lines and an unterminated tail (by recursion from either end, and
`split_iff`: the split is the only one), on the worker table, and on what one act of the appender model does (`step_case`). -/
namespace OptunaVerif.JournalAppend
open OptunaVerif.JournalFile

def enc (rs : List (List Nat)) : List Nat := rs.flatMap (· ++ [nl])

theorem splitRec_append (a b cur : List Nat) :
    splitRec (a ++ b) cur =
      ((splitRec a cur).1 ++ (splitRec b (splitRec a cur).2).1, (splitRec b (splitRec a cur).2).2) := by
  induction a generalizing cur with
  | nil => simp [splitRec]
  | cons x r ih => by_cases hx : x = nl <;> simp [splitRec, hx, ih]

theorem splitRec_snoc (f : List Nat) (cur : List Nat) (b : Nat) :
    splitRec (f ++ [b]) cur =
      if b = nl then ((splitRec f cur).1 ++ [(splitRec f cur).2], [])
      else ((splitRec f cur).1, (splitRec f cur).2 ++ [b]) := by
  rw [splitRec_append]
  by_cases hb : b = nl <;> simp [splitRec, hb]

theorem splitRec_noNl_self (g cur : List Nat) (h : nl ∉ g) : splitRec g cur = ([], cur ++ g) := by
  induction g generalizing cur with
  | nil => simp [splitRec]
  | cons b r ih =>
    have hb : b ≠ nl := by intro e; apply h; simp [e]
    simp only [splitRec, hb, if_false]
    rw [ih _ (by intro hm; apply h; simp [hm])]
    simp

theorem enc_split (f cur : List Nat) :
    enc (splitRec f cur).1 ++ (splitRec f cur).2 = cur ++ f := by
  induction f generalizing cur with
  | nil => simp [splitRec, enc]
  | cons a r ih =>
    simp only [splitRec]
    by_cases ha : a = nl
    · simp only [ha, if_true]
      have := ih []
      simp only [List.nil_append] at this
      simp only [enc, List.flatMap_cons] at this ⊢
      rw [List.append_assoc, this]
      simp
    · simp only [ha, if_false]
      rw [ih (cur ++ [a])]
      simp

theorem file_eq (f : List Nat) : enc (records f) ++ tail f = f := by
  have := enc_split f []
  simpa [records, tail] using this

theorem tail_snoc_ne (f : List Nat) (b : Nat) (hb : b ≠ nl) :
    records (f ++ [b]) = records f ∧ tail (f ++ [b]) = tail f ++ [b] := by
  unfold records tail; rw [splitRec_snoc]; simp [hb]

theorem tail_snoc_nl (f : List Nat) :
    records (f ++ [nl]) = records f ++ [tail f] ∧ tail (f ++ [nl]) = [] := by
  unfold records tail; rw [splitRec_snoc]; simp

theorem records_append_noNl (r g : List Nat) (h : nl ∉ r) :
    records (g ++ r) = records g ∧ tail (g ++ r) = tail g ++ r := by
  unfold records tail
  rw [splitRec_append, splitRec_noNl_self r _ h]
  simp

theorem splitRec_noNl (f cur : List Nat) (h : nl ∉ cur) :
    nl ∉ (splitRec f cur).2 ∧ ∀ r ∈ (splitRec f cur).1, nl ∉ r := by
  induction f generalizing cur with
  | nil => simp [splitRec, h]
  | cons a r ih =>
    simp only [splitRec]
    by_cases ha : a = nl
    · simp only [ha, if_true]
      have := ih [] (by simp)
      refine ⟨this.1, ?_⟩
      intro x hx
      simp only [List.mem_cons] at hx
      rcases hx with hx | hx
      · subst hx; exact h
      · exact this.2 x hx
    · simp only [ha, if_false]
      exact ih _ (by simp [h]; exact fun e => ha e.symm)

theorem tail_noNl (f : List Nat) : nl ∉ tail f := (splitRec_noNl f [] (by simp)).1

theorem splitRec_enc_append (rs : List (List Nat)) (h : ∀ r ∈ rs, nl ∉ r) (g : List Nat) :
    splitRec (enc rs ++ g) [] = (rs ++ (splitRec g []).1, (splitRec g []).2) := by
  induction rs with
  | nil => simp [enc]
  | cons r rs ih =>
    have e : enc (r :: rs) ++ g = r ++ (nl :: (enc rs ++ g)) := by simp [enc]
    rw [e, splitRec_append, splitRec_noNl_self r [] (h r (by simp))]
    simp [splitRec, ih (fun x hx => h x (by simp [hx]))]

theorem records_noNl (f : List Nat) : ∀ r ∈ records f, nl ∉ r := (splitRec_noNl f [] (by simp)).2

/-- **the split of a byte string is the only one**: `f` is the lines `rs`, each with its newline, followed by `t`, with no
newline inside a line or inside `t`, exactly when `rs` are its complete lines and `t` is its tail.  From left to right this is the
shape of every file; from right to left it computes `records` / `tail` of a byte string put together from whole pieces (the tail
cut off, a record appended, the bytes from a record boundary on). -/
theorem split_iff (f : List Nat) (rs : List (List Nat)) (t : List Nat) :
    records f = rs ∧ tail f = t ↔ f = enc rs ++ t ∧ (∀ r ∈ rs, nl ∉ r) ∧ nl ∉ t := by
  constructor
  · rintro ⟨rfl, rfl⟩
    exact ⟨(file_eq f).symm, records_noNl f, tail_noNl f⟩
  · rintro ⟨rfl, hrs, ht⟩
    have := splitRec_enc_append rs hrs t
    rw [splitRec_noNl_self t [] ht] at this
    simp [records, tail, this]

theorem repair_eq (f : List Nat) : repair f = enc (records f) := by
  unfold repair
  have hl := congrArg List.length (file_eq f)
  simp only [List.length_append] at hl
  have e : f.length - (tail f).length = (enc (records f)).length := by omega
  rw [e]
  have : List.take (enc (records f)).length f =
      List.take (enc (records f)).length (enc (records f) ++ tail f) := by rw [file_eq f]
  rw [this, List.take_left']
  rfl

theorem records_repair (f : List Nat) : records (repair f) = records f ∧ tail (repair f) = [] :=
  (split_iff _ _ _).2 ⟨by rw [repair_eq, List.append_nil], records_noNl f, by simp⟩

theorem records_after_append (f r : List Nat) (hr : nl ∉ r) :
    records (repair f ++ (r ++ [nl])) = records f ++ [r] ∧ tail (repair f ++ (r ++ [nl])) = [] :=
  (split_iff _ _ _).2 ⟨by simp [repair_eq, enc], by simpa [or_imp, forall_and, hr] using records_noNl f, by simp⟩

theorem setW_get (ws : List Worker) (w w' : Nat) (x : Worker) :
    (setW ws w x)[w']? = if w' = w then (ws[w']?).map (fun _ => x) else ws[w']? := by
  unfold setW; rw [updAt_getElem?]

theorem setW_self (ws : List Worker) (w : Nat) (wk x : Worker) (h : ws[w]? = some wk) : (setW ws w x)[w]? = some x :=
  updAt_self ws w wk _ h

theorem setW_get_some {ws : List Worker} {w w' : Nat} {x wk' : Worker} (h : (setW ws w x)[w']? = some wk') :
    (w' = w ∧ wk' = x) ∨ (w' ≠ w ∧ ws[w']? = some wk') := by
  rw [setW_get] at h
  split at h
  · rename_i e
    cases hw : ws[w']? with
    | none => rw [hw] at h; cases h
    | some y => rw [hw] at h; exact .inl ⟨e, (Option.some.inj h).symm⟩
  · rename_i e; exact .inr ⟨e, h⟩

theorem setW_setW (ws : List Worker) (w : Nat) (x y : Worker) : setW (setW ws w x) w y = setW ws w y :=
  updAt_updAt ws w _ _

theorem init_stage {n w : Nat} {wk : Worker} (h : (init n).ws[w]? = some wk) : wk.stage = none := by
  simp only [init, List.getElem?_replicate] at h
  split at h
  · rw [← Option.some.inj h]
  · cases h

theorem run_append (st : St) (a b : List Act) : run st (a ++ b) = run (run st a) b := by
  unfold run; rw [List.foldl_append]

/-- what an act does: nothing (it is not enabled), or — with everything its guard says — its one effect -/
inductive StepCase (st : St) : Act → St → Prop
  | skip (a : Act) : StepCase st a st
  | acquire (w : Nat) (r : List Nat) (wk : Worker) (hl : st.lock = none) (hw : st.ws[w]? = some wk)
      (hd : wk.dead = false) (hs : wk.stage = none) (hr : nl ∉ r) :
      StepCase st (.acquire w r)
        { st with lock := some w, ws := setW st.ws w { wk with stage := some .locked, record := r } }
  | takeover (w : Nat) (r : List Nat) (h : Nat) (wk : Worker) (hl : st.lock = some h) (hw : st.ws[w]? = some wk)
      (hh : isDead st h = true) (hd : wk.dead = false) (hs : wk.stage = none) (hr : nl ∉ r) (hne : h ≠ w) :
      StepCase st (.takeover w r)
        { st with lock := some w,
                  ws := setW (updAt st.ws h (fun x => { x with stage := none })) w
                          { wk with stage := some .locked, record := r } }
  | repair (w : Nat) (wk : Worker) (hw : st.ws[w]? = some wk) (hl : st.lock = some w) (hd : wk.dead = false)
      (hs : wk.stage = some .locked) :
      StepCase st (.repair w)
        { st with file := repair st.file, ws := setW st.ws w { wk with stage := some (.writing (wk.record ++ [nl])) } }
  | writeByte (w : Nat) (wk : Worker) (b : Nat) (rest : List Nat) (hw : st.ws[w]? = some wk) (hl : st.lock = some w)
      (hd : wk.dead = false) (hs : wk.stage = some (.writing (b :: rest))) :
      StepCase st (.writeByte w)
        { st with file := st.file ++ [b],
                  ws := setW st.ws w { wk with stage := some (if rest.isEmpty then .written else .writing rest) } }
  | release (w : Nat) (wk : Worker) (hw : st.ws[w]? = some wk) (hl : st.lock = some w) (hd : wk.dead = false)
      (hs : wk.stage = some .written) :
      StepCase st (.release w)
        { st with lock := none, ws := setW st.ws w { wk with stage := none }, acked := st.acked ++ [wk.record] }
  | die (w : Nat) (wk : Worker) (hw : st.ws[w]? = some wk) :
      StepCase st (.die w) { st with ws := setW st.ws w { wk with dead := true } }

theorem step_case (st : St) (a : Act) : StepCase st a (step st a) := by
  cases a with
  | acquire w r =>
    simp only [step]
    split
    · split
      · exact .skip _
      · rename_i hl hw hc
        simp only [Bool.or_eq_true, not_or, Bool.not_eq_true, Option.isSome_eq_false_iff, Option.isNone_iff_eq_none] at hc
        exact .acquire w r _ hl hw hc.1.1 hc.1.2 (by simpa using hc.2)
    · exact .skip _
  | takeover w r =>
    simp only [step]
    split
    · split
      · rename_i hl hw hc
        simp only [Bool.and_eq_true, Bool.not_eq_true', bne_iff_ne, ne_eq, Option.isNone_iff_eq_none] at hc
        exact .takeover w r _ _ hl hw hc.1.1.1.1 hc.1.1.1.2 hc.1.1.2 (by simpa using hc.1.2) hc.2
      · exact .skip _
    · exact .skip _
  | repair w =>
    simp only [step]
    split
    · split
      · rename_i hw hc
        simp only [Bool.and_eq_true, beq_iff_eq, Bool.not_eq_true'] at hc
        exact .repair w _ hw hc.1.1 hc.1.2 hc.2
      · exact .skip _
    · exact .skip _
  | writeByte w =>
    simp only [step]
    split
    · split
      · rename_i hw hc
        simp only [Bool.and_eq_true, beq_iff_eq, Bool.not_eq_true'] at hc
        split
        · rename_i hs
          exact .writeByte w _ _ _ hw hc.1 hc.2 hs
        · exact .skip _
      · exact .skip _
    · exact .skip _
  | release w =>
    simp only [step]
    split
    · split
      · rename_i hw hc
        simp only [Bool.and_eq_true, beq_iff_eq, Bool.not_eq_true'] at hc
        exact .release w _ hw hc.1.1 hc.1.2 hc.2
      · exact .skip _
    · exact .skip _
  | die w =>
    simp only [step]
    split
    · rename_i hw
      exact .die w _ hw
    · exact .skip _

end OptunaVerif.JournalAppend
