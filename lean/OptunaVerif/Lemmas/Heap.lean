import OptunaVerif.Model.Heap
/-! Lemmas about the heap model (C20): elementary heap operations, congruence of `pickle` (the deep value depends on
the reachable objects only), `copy.deepcopy` (`deepCopy_ok`: it appends objects that refer to each other only, and the copy
has the deep value of the original), the two invariants (`Conc`/`Frozen`: soundness of the fresh-mutation discipline;
`FWF`: closed heap + user-owned objects are isolated, with `Ext`: the storage's side only grows) and what a call returns.
Whatever is proved of one primitive goes through the branches of `step` as Lean lists them (`fun_cases step ar fr p`:
one goal per right-hand side, numbered in the order of the definition, with what the matches found as hypotheses); a
branch that finds no current object, or no reference in the field, leaves the frame as it is (`loadField` without a
reference sets `cur := .none` and changes nothing else). -/
namespace OptunaVerif.Heap

theorem upd_length (h : Heap) (a k : Nat) (c : Cell) : (upd h a k c).length = h.length := by
  simp [upd]

theorem upd_get (h : Heap) (a k : Nat) (c : Cell) (b : Nat) :
    (upd h a k c)[b]? = (h[b]?).map (fun o => if a = b then put o k c else o) := by
  simp [upd, List.getElem?_modify]

theorem upd_get_ne (h : Heap) {a b : Nat} (k : Nat) (c : Cell) (hne : a ≠ b) :
    (upd h a k c)[b]? = h[b]? := by
  rw [upd_get]; cases h[b]? <;> simp [hne]

theorem mem_put {o : Obj} {k : Nat} {c : Cell} {x : Nat × Cell} (hx : x ∈ put o k c) :
    x = (k, c) ∨ x ∈ o := by
  simpa [put] using hx

theorem lookup_mem {α β : Type} [BEq α] [LawfulBEq α] {l : List (α × β)} {k : α} {v : β}
    (h : l.lookup k = some v) : (k, v) ∈ l := by
  obtain ⟨l₁, l₂, rfl, -⟩ := List.lookup_eq_some_iff.mp h
  simp

theorem cellAt_mem {h : Heap} {a f : Nat} {c : Cell} (hc : cellAt h a f = some c) :
    ∃ o, h[a]? = some o ∧ (f, c) ∈ o := by
  unfold cellAt at hc
  cases ho : h[a]? with
  | none => simp [ho] at hc
  | some o => simp [ho] at hc; exact ⟨o, rfl, lookup_mem hc⟩

theorem cellAt_lt {h : Heap} {a f : Nat} {c : Cell} (hc : cellAt h a f = some c) : a < h.length := by
  obtain ⟨o, ho, _⟩ := cellAt_mem hc
  exact (List.getElem?_eq_some_iff.mp ho).1

theorem cellAt_append {h l : Heap} {a : Nat} (f : Nat) (ha : a < h.length) :
    cellAt (h ++ l) a f = cellAt h a f := by
  simp [cellAt, List.getElem?_append_left ha]

theorem cellAt_upd_ne (h : Heap) {a b : Nat} (k : Nat) (c : Cell) (f : Nat) (hne : a ≠ b) :
    cellAt (upd h a k c) b f = cellAt h b f := by
  simp [cellAt, upd_get_ne h k c hne]

theorem cellAt_upd_self (h : Heap) (a k : Nat) (c : Cell) (f : Nat) :
    cellAt (upd h a k c) a f = if f = k then (if a < h.length then some c else none) else cellAt h a f := by
  unfold cellAt
  rw [upd_get]
  cases ho : h[a]? with
  | none =>
    have : ¬ a < h.length := by
      intro hlt; rw [List.getElem?_eq_getElem hlt] at ho; cases ho
    simp [this]
  | some o =>
    have : a < h.length := (List.getElem?_eq_some_iff.mp ho).1
    by_cases hf : f = k
    · subst hf; simp [put, this]
    · have hb : (f == k) = false := by simpa using hf
      simp [put, List.lookup_cons, hf, hb]

theorem listCells_mem {slots : List (Nat × Nat)} {ss : List Nat} {i k d : Nat}
    (h : (k, Cell.ref d) ∈ listCells slots i ss) : ∃ s, (s, d) ∈ slots := by
  fun_induction listCells slots i ss with
  | case1 => cases h
  | case2 i s t a ha ih =>
    rcases List.mem_cons.mp h with h | h
    · obtain rfl : d = a := by simpa using congrArg Prod.snd h
      exact ⟨s, lookup_mem ha⟩
    · exact ih h
  | case3 i s t _ ih => exact ih h

/-- the heap is closed, and an object that is not user-owned refers to no user-owned object (`FWF.refs` is this
written out) -/
def Isolated (h : Heap) (uo : List Nat) : Prop :=
  ∀ a o, h[a]? = some o → ∀ k d, (k, Cell.ref d) ∈ o → d < h.length ∧ (a ∉ uo → d ∉ uo)

def Closed (h : Heap) : Prop :=
  ∀ (a : Nat) (o : Obj), h[a]? = some o → ∀ (k d : Nat), (k, Cell.ref d) ∈ o → d < h.length

theorem pickleCells_congr {r1 r2 : Nat → List Nat} {o : Obj}
    (h : ∀ k d, (k, Cell.ref d) ∈ o → r1 d = r2 d) : pickleCells r1 o = pickleCells r2 o := by
  induction o with
  | nil => rfl
  | cons p t ih =>
    obtain ⟨k, c⟩ := p
    have iht := ih (fun k d hm => h k d (List.mem_cons_of_mem _ hm))
    cases c with
    | sc v => simp [pickleCells, iht]
    | ref d => simp [pickleCells, iht, h k d (by simp)]

theorem pickle_congr {h h' : Heap} {uo : List Nat} (hrefs : Isolated h uo)
    (hag : ∀ a, a < h.length → a ∉ uo → h'[a]? = h[a]?) :
    ∀ fuel a, a < h.length → a ∉ uo → pickle fuel h' a = pickle fuel h a := by
  intro fuel
  induction fuel with
  | zero => intro a _ _; rfl
  | succ n ih =>
    intro a ha hu
    have hoa : h[a]? = some h[a] := List.getElem?_eq_getElem ha
    simp only [pickle, hag a ha hu, hoa]
    congr 1
    apply pickleCells_congr
    intro k d hm
    obtain ⟨h1, h2⟩ := hrefs a _ hoa k d hm
    exact ih d h1 (h2 hu)

theorem pickle_congr_closed {h h' : Heap} (c : Closed h) (hag : ∀ a, a < h.length → h'[a]? = h[a]?)
    (n a : Nat) (ha : a < h.length) : pickle n h' a = pickle n h a :=
  pickle_congr (uo := []) (fun a o ho k d hm => ⟨c a o ho k d hm, fun _ => by simp⟩)
    (fun a ha _ => hag a ha) n a ha (by simp)

theorem pickle_ext {h : Heap} (c : Closed h) (l : Heap) (n a : Nat) (ha : a < h.length) :
    pickle n (h ++ l) a = pickle n h a :=
  pickle_congr_closed c (fun _ ha => List.getElem?_append_left ha) n a ha

structure Grows (h h' : Heap) : Prop where
  ext : ∃ l, h' = h ++ l
  refs : ∀ b o, h.length ≤ b → h'[b]? = some o → ∀ k d, (k, Cell.ref d) ∈ o → h.length ≤ d ∧ d < h'.length

theorem Grows.len {h h' : Heap} (g : Grows h h') : h.length ≤ h'.length := by
  obtain ⟨l, rfl⟩ := g.ext; simp

theorem Grows.old {h h' : Heap} (g : Grows h h') {a : Nat} (ha : a < h.length) : h'[a]? = h[a]? := by
  obtain ⟨l, rfl⟩ := g.ext; exact List.getElem?_append_left ha

theorem Grows.refl (h : Heap) : Grows h h :=
  ⟨⟨[], by simp⟩, fun b o hb ho => by
    have := (List.getElem?_eq_some_iff.mp ho).1; omega⟩

theorem Grows.trans {h h1 h2 : Heap} (g1 : Grows h h1) (g2 : Grows h1 h2) : Grows h h2 := by
  refine ⟨?_, ?_⟩
  · obtain ⟨l1, rfl⟩ := g1.ext; obtain ⟨l2, rfl⟩ := g2.ext; exact ⟨l1 ++ l2, by simp⟩
  · intro b o hb ho k d hm
    have l1 := g1.len; have l2 := g2.len
    by_cases hb1 : b < h1.length
    · rw [g2.old hb1] at ho
      have := g1.refs b o hb ho k d hm
      omega
    · have := g2.refs b o (by omega) ho k d hm
      omega

theorem Grows.snoc {h h' : Heap} (g : Grows h h') (o : Obj)
    (ho : ∀ k d, (k, Cell.ref d) ∈ o → h.length ≤ d ∧ d < h'.length + 1) : Grows h (h' ++ [o]) := by
  have l1 := g.len
  refine ⟨?_, ?_⟩
  · obtain ⟨l, rfl⟩ := g.ext; exact ⟨l ++ [o], by simp⟩
  · intro b o' hb hb' k d hm
    simp only [List.length_append, List.length_singleton]
    by_cases hlt : b < h'.length
    · rw [List.getElem?_append_left hlt] at hb'
      have := g.refs b o' hb hb' k d hm; omega
    · have hbl : b = h'.length := by
        have := (List.getElem?_eq_some_iff.mp hb').1
        simp at this; omega
      subst hbl
      simp at hb'; subst hb'
      exact ho k d hm

theorem Closed.grows {h h' : Heap} (c : Closed h) (g : Grows h h') : Closed h' := by
  intro a o ho k d hm
  have hl := g.len
  by_cases ha : a < h.length
  · rw [g.old ha] at ho
    have := c a o ho k d hm; omega
  · exact (g.refs a o (by omega) ho k d hm).2

theorem pickle_grows {h h' : Heap} (c : Closed h) (g : Grows h h') (n a : Nat) (ha : a < h.length) :
    pickle n h' a = pickle n h a := by
  obtain ⟨l, rfl⟩ := g.ext; exact pickle_ext c l n a ha

/-- `r` = new heap and address of a copy of the object at `d` of `h`: only objects that refer to each other were added, and
the copy has the deep value of the original as far as depth `m` tells -/
structure IsCopy (m : Nat) (h : Heap) (d : Nat) (r : Heap × Nat) : Prop where
  grows : Grows h r.1
  lo : h.length ≤ r.2
  hi : r.2 < r.1.length
  value : ∀ n, n ≤ m → Closed h → d < h.length → pickle n r.1 r.2 = pickle n h d

theorem copyCells_ok {m : Nat} {rec : Heap → Nat → Heap × Nat} (hr : ∀ h d, IsCopy m h d (rec h d)) (o : Obj) (h : Heap) :
    Grows h (copyCells rec h o).1 ∧
    (∀ k d, (k, Cell.ref d) ∈ (copyCells rec h o).2 → h.length ≤ d ∧ d < (copyCells rec h o).1.length) ∧
    ∀ n, n ≤ m → Closed h → (∀ k d, (k, Cell.ref d) ∈ o → d < h.length) →
      pickleCells (pickle n (copyCells rec h o).1) (copyCells rec h o).2 = pickleCells (pickle n h) o := by
  fun_induction copyCells rec h o with
  | case1 h => exact ⟨Grows.refl h, by simp, fun _ _ _ _ => rfl⟩
  | case2 h k0 v t r ih =>
    obtain ⟨g, hm, hf⟩ := ih
    refine ⟨g, fun k d hkd => ?_, fun n hn c ho => ?_⟩
    · rcases List.mem_cons.mp hkd with hkd | hkd
      · simp at hkd
      · exact hm k d hkd
    · simp only [pickleCells]
      rw [hf n hn c fun k d hm => ho k d (List.mem_cons_of_mem _ hm)]
  | case3 h k0 d0 t r1 r2 ih =>
    obtain ⟨g1, hlo, hhi, hf1⟩ := hr h d0
    obtain ⟨g2, hm, hf2⟩ := ih
    have l1 := g1.len; have l2 := g2.len
    refine ⟨g1.trans g2, fun k d hkd => ?_, fun n hn c ho => ?_⟩
    · rcases List.mem_cons.mp hkd with hkd | hkd
      · obtain rfl : d = r1.2 := by simpa using congrArg Prod.snd hkd
        exact ⟨hlo, Nat.lt_of_lt_of_le hhi l2⟩
      · exact ⟨Nat.le_trans l1 (hm k d hkd).1, (hm k d hkd).2⟩
    · have hot : ∀ k d, (k, Cell.ref d) ∈ t → d < h.length := fun k d hm => ho k d (List.mem_cons_of_mem _ hm)
      have c1 : Closed r1.1 := c.grows g1
      simp only [pickleCells]
      rw [hf2 n hn c1 fun k d hm => Nat.lt_of_lt_of_le (hot k d hm) l1, pickle_grows c1 g2 n _ hhi,
        hf1 n hn c (ho k0 d0 (by simp))]
      congr 3
      exact pickleCells_congr fun k d hm => pickle_grows c g1 n d (hot k d hm)

theorem deepCopy_ok (m : Nat) : ∀ h d, IsCopy m h d (deepCopy m h d) := by
  induction m with
  | zero =>
    intro h d
    simp only [deepCopy]
    refine ⟨(Grows.refl h).snoc [] (by simp), by simp, by simp, fun n hn _ _ => ?_⟩
    obtain rfl : n = 0 := by omega
    rfl
  | succ m ih =>
    intro h d
    obtain ⟨g, hm, hf⟩ := copyCells_ok ih ((h[d]?).getD []) h
    have l1 := g.len
    simp only [deepCopy]
    refine ⟨g.snoc _ (fun k d' hkd => by have := hm k d' hkd; omega), by omega, by simp, fun n hn c hd => ?_⟩
    cases n with
    | zero => rfl
    | succ n =>
      have hod : h[d]? = some h[d] := List.getElem?_eq_getElem hd
      simp only [hod, Option.getD_some] at g hm hf
      simp only [pickle, List.getElem?_concat_length, hod, Option.getD_some]
      congr 1
      rw [← hf n (by omega) c (c d _ hod)]
      exact pickleCells_congr fun k d' hkd => pickle_ext (c.grows g) _ n d' (hm k d' hkd).2

def Frozen (base : Nat) (h0 h : Heap) : Prop := base ≤ h.length ∧ ∀ a, a < base → h[a]? = h0[a]?

theorem Frozen.append {base : Nat} {h0 h : Heap} (fz : Frozen base h0 h) (l : Heap) : Frozen base h0 (h ++ l) := by
  refine ⟨by have := fz.1; simp; omega, fun a ha => ?_⟩
  rw [List.getElem?_append_left (by have := fz.1; omega)]; exact fz.2 a ha

theorem Frozen.upd {base : Nat} {h0 h : Heap} (fz : Frozen base h0 h) {a : Nat} (ha : base ≤ a) (k : Nat) (c : Cell) :
    Frozen base h0 (upd h a k c) := by
  refine ⟨by rw [upd_length]; exact fz.1, fun b hb => ?_⟩
  rw [upd_get_ne h k c (by omega)]; exact fz.2 b hb

theorem Frozen.grows {base : Nat} {h0 h h' : Heap} (fz : Frozen base h0 h) (g : Grows h h') : Frozen base h0 h' := by
  obtain ⟨l, rfl⟩ := g.ext; exact fz.append l

/-- no returned handle is the storage's own container -/
def OnlyAddr (rets : List Ret) : Prop := ∀ r ∈ rets, ∀ ss, r ≠ Ret.view ss

theorem OnlyAddr.snoc {rets : List Ret} (oa : OnlyAddr rets) {r : Ret} (hr : ∀ ss, r ≠ Ret.view ss) :
    OnlyAddr (rets ++ [r]) := by
  intro r' h
  rcases List.mem_append.mp h with h | h
  · exact oa r' h
  · rw [List.mem_singleton.mp h]; exact hr

theorem cellAt_upd_sc {h : Heap} {t k v a g d : Nat}
    (hc : cellAt (upd h t k (.sc v)) a g = some (.ref d)) : cellAt h a g = some (.ref d) := by
  by_cases hta : t = a
  · subst hta
    rw [cellAt_upd_self] at hc
    split at hc
    · split at hc <;> simp at hc
    · exact hc
  · rwa [cellAt_upd_ne h k _ g hta] at hc

theorem cellAt_snoc_nil (h : Heap) (a g : Nat) : cellAt (h ++ [[]]) a g = cellAt h a g := by
  rcases Nat.lt_or_ge a h.length with hl | hl
  · exact cellAt_append g hl
  · simp only [cellAt, List.getElem?_append_right hl, List.getElem?_eq_none hl]
    cases a - h.length <;> rfl

/-- what the abstract state claims about the current value and the heap -/
structure Conc (base : Nat) (ab : Abs) (cur : Cur) (h : Heap) : Prop where
  nv : ab.view = false → ∀ ss, cur ≠ .view ss
  fresh : ab.fresh = true → ∀ a, cur = .addr a → base ≤ a
  ff : ∀ f ∈ ab.ff, ∀ a d, cur = .addr a → cellAt h a f = some (.ref d) → base ≤ d

section
variable {base : Nat} {ab : Abs} {cur : Cur} {h : Heap}

theorem Conc.load {c : Cur} {fresh : Bool}
    (hc : ∀ ss, c ≠ .view ss) (hf : fresh = true → ∀ a, c = .addr a → base ≤ a) :
    Conc base ⟨fresh, [], false⟩ c h :=
  ⟨fun _ => hc, hf, by simp⟩

theorem Conc.alloc (hb : base ≤ h.length) (o : Obj) : Conc base ⟨true, [], false⟩ (.addr h.length) (h ++ [o]) :=
  ⟨by simp, fun _ a ha => by simp only [Cur.addr.injEq] at ha; omega, by simp⟩

/-- without a current object, only the claim that the current value is no container says anything -/
theorem Conc.noObj (cc : Conc base ab cur h) (hv : ab.view = false) (hn : ∀ a, cur = .addr a → False) (ab' : Abs) :
    Conc base ab' cur h :=
  ⟨fun _ => cc.nv hv, fun _ a ha => (hn a ha).elim, fun _ _ a _ ha => (hn a ha).elim⟩

theorem Conc.writeSc (cc : Conc base ab cur h) (t k v : Nat) : Conc base ab cur (upd h t k (.sc v)) :=
  ⟨cc.nv, cc.fresh, fun g hg a d ha hc => cc.ff g hg a d ha (cellAt_upd_sc hc)⟩

theorem Conc.pointNew (cc : Conc base ab cur h)
    (hfr : ab.fresh = true) (hv : ab.view = false) (hb : base ≤ h.length) {a : Nat}
    (hcur : cur = .addr a) (f : Nat) {o : Obj}
    (hold : ∀ g d, cellAt (h ++ [o]) a g = some (.ref d) → cellAt h a g = some (.ref d)) :
    Conc base ⟨true, f :: ab.ff, false⟩ cur (upd (h ++ [o]) a f (.ref h.length)) := by
  refine ⟨fun _ => cc.nv hv, fun _ => cc.fresh hfr, fun g hg a' d ha' hc => ?_⟩
  obtain rfl : a = a' := by rw [hcur] at ha'; simpa using ha'
  rw [cellAt_upd_self] at hc
  split at hc
  · split at hc
    · simp only [Option.some.injEq, Cell.ref.injEq] at hc; omega
    · cases hc
  · rename_i hgf
    rcases List.mem_cons.mp hg with hg | hg
    · exact absurd hg hgf
    · exact cc.ff g hg a d hcur (hold g d hc)

theorem Conc.grows (cc : Conc base ab cur h) (hb : base ≤ h.length)
    {h' : Heap} (g : Grows h h') : Conc base ab cur h' := by
  refine ⟨cc.nv, cc.fresh, fun f hf a d ha hc => ?_⟩
  by_cases halt : a < h.length
  · obtain ⟨l, rfl⟩ := g.ext
    rw [cellAt_append f halt] at hc
    exact cc.ff f hf a d ha hc
  · obtain ⟨o, ho, hm⟩ := cellAt_mem hc
    have := (g.refs a o (by omega) ho f d hm).1
    omega

end

theorem step_disciplined {base : Nat} {h0 : Heap} {ab ab' : Abs} {fr : Frame} (ar : Args) {p : Prim}
    (fz : Frozen base h0 fr.heap) (oa : OnlyAddr fr.rets) (cc : Conc base ab fr.cur fr.heap)
    (hs : absStep ab p = some ab') :
    Frozen base h0 (step ar fr p).heap ∧ OnlyAddr (step ar fr p).rets ∧
      Conc base ab' (step ar fr p).cur (step ar fr p).heap := by
  -- `hs`: what `absStep` succeeding says in each branch
  fun_cases step ar fr p with
    simp only [absStep, Option.ite_none_left_eq_some, Option.ite_none_right_eq_some, Option.some.injEq, Bool.and_eq_true,
      Bool.not_eq_eq_eq_not, Bool.not_true, Bool.not_eq_true, List.contains_eq_mem, decide_eq_true_eq] at hs
  | case1 => exact ⟨fz, oa, hs ▸ Conc.load (by intro ss; split <;> simp) (by simp)⟩ -- load
  | case2 => exact ⟨fz, oa, hs ▸ ⟨by simp, by simp, by simp⟩⟩ -- loadAll
  | case3 | case4 => exact ⟨fz.append _, oa, hs ▸ Conc.alloc fz.1 _⟩ -- collect, allocNew
  | case5 => exact ⟨fz.append _, oa, hs.2 ▸ Conc.alloc fz.1 _⟩ -- allocCopy
  | case7 f a hcur d hd => -- loadField
    refine ⟨fz, oa, hs.2 ▸ Conc.load (by simp) fun hf a' ha' => ?_⟩
    obtain rfl : d = a' := by simpa using ha'
    exact cc.ff f (by simpa using hf) a d hcur hd
  | case8 => exact ⟨fz, oa, hs.2 ▸ Conc.load (by simp) (by simp)⟩ -- loadField, no reference there
  | case10 f a hcur d hd => -- copyField
    exact ⟨(fz.append _).upd (cc.fresh hs.1.1 a hcur) _ _, oa, hs.2 ▸ cc.pointNew hs.1.1 hs.1.2 fz.1 hcur f
      fun g d' h => by rwa [cellAt_append g (cellAt_lt hd)] at h⟩
  | case11 f a hcur hnd => -- copyField, no reference there: nothing to claim of `f`
    refine ⟨fz, oa, hs.2 ▸ ⟨fun _ => cc.nv hs.1.2, fun _ => cc.fresh hs.1.1, fun g hg a' d' ha' hc' => ?_⟩⟩
    rcases List.mem_cons.mp hg with rfl | hg
    · obtain rfl : a = a' := by rw [hcur] at ha'; simpa using ha'
      exact (hnd d' hc').elim
    · exact cc.ff g hg a' d' ha' hc'
  | case13 f a hcur => -- newField
    exact ⟨(fz.append _).upd (cc.fresh hs.1.1 a hcur) _ _, oa, hs.2 ▸ cc.pointNew hs.1.1 hs.1.2 fz.1 hcur f
      fun g d' h => by rwa [cellAt_snoc_nil] at h⟩
  | case15 f a hcur d hd => exact ⟨fz.upd (cc.ff f hs.1.1 a d hcur hd) _ _, oa, hs.2 ▸ cc.writeSc _ _ _⟩ -- mutField
  | case18 a hcur | case20 _ a hcur => -- mutCur, setScalar
    exact ⟨fz.upd (cc.fresh hs.1.1 a hcur) _ _, oa, hs.2 ▸ cc.writeSc _ _ _⟩
  | case22 | case23 => exact ⟨fz, oa, hs.2 ▸ Conc.load (cc.nv hs.1) (by simp)⟩ -- publish
  | case24 => exact ⟨fz, oa, hs ▸ cc⟩ -- unpublish
  | case25 => exact ⟨fz, oa.snoc (by simp), hs.2 ▸ cc⟩ -- ret, an object
  | case26 ss hcur => exact absurd hcur (cc.nv hs.1 ss) -- ret, the container: ruled out
  | case28 a hcur r => -- retDeep
    have g := (deepCopy_ok (fr.heap.length + 1) fr.heap a).grows
    exact ⟨fz.grows g, oa.snoc (by simp), hs.2 ▸ cc.grows fz.1 g⟩
  -- the frame stays: a primitive that finds no current object makes claims about none ..
  | case6 hn | case9 _ hn => exact ⟨fz, oa, cc.noObj hs.1 hn _⟩ -- allocCopy, loadField
  | case12 _ hn | case14 _ hn => exact ⟨fz, oa, cc.noObj hs.1.2 hn _⟩ -- copyField, newField
  -- .. and the others (mutField, mutCur, setScalar, ret, retDeep) keep the abstract state as well
  | case16 | case17 | case19 | case21 | case27 | case29 => exact ⟨fz, oa, hs.2 ▸ cc⟩

theorem run_disciplined {base : Nat} {h0 : Heap} (ar : Args) (body : List Prim) {ab ab' : Abs} {fr : Frame}
    (fz : Frozen base h0 fr.heap) (oa : OnlyAddr fr.rets) (cc : Conc base ab fr.cur fr.heap)
    (hs : absRun ab body = some ab') :
    Frozen base h0 (run ar fr body).heap ∧ OnlyAddr (run ar fr body).rets := by
  fun_induction absRun ab body generalizing fr with
  | case1 => exact ⟨fz, oa⟩
  | case2 ab p ps ab1 h1 ih =>
    obtain ⟨fz1, oa1, cc1⟩ := step_disciplined ar fz oa cc h1
    exact ih fz1 oa1 cc1 hs
  | case3 => cases hs

/-- **A disciplined call changes no object that existed when it started, and returns references
only (never the storage's container).** -/
theorem call_frozen {body : List Prim} (hd : disciplined body = true) (ar : Args) (w : World) :
    (∀ a, a < w.heap.length → (callM body ar w).1.heap[a]? = w.heap[a]?) ∧
    w.heap.length ≤ (callM body ar w).1.heap.length ∧
    OnlyAddr (callM body ar w).2 := by
  unfold disciplined at hd
  cases hab : absRun Abs.init body with
  | none => simp [hab] at hd
  | some ab' =>
    have fz0 : Frozen w.heap.length w.heap (enter w).heap := ⟨Nat.le_refl _, fun _ _ => rfl⟩
    have oa0 : OnlyAddr (enter w).rets := by intro r hr; simp [enter] at hr
    have cc0 : Conc w.heap.length Abs.init (enter w).cur (enter w).heap :=
      ⟨by intro _ ss; simp [enter], by simp [Abs.init], by simp [Abs.init]⟩
    obtain ⟨fz, oa⟩ := run_disciplined ar body fz0 oa0 cc0 hab
    exact ⟨fz.2, fz.1, oa⟩

structure FWF (fr : Frame) : Prop where
  refs : ∀ a o, fr.heap[a]? = some o → ∀ k d, (k, Cell.ref d) ∈ o →
    d < fr.heap.length ∧ (a ∉ fr.uo → d ∉ fr.uo)
  slotsIn : ∀ s a, (s, a) ∈ fr.slots → a < fr.heap.length ∧ a ∉ fr.uo
  uoIn : ∀ a, a ∈ fr.uo → a < fr.heap.length
  curIn : ∀ a, fr.cur = .addr a → a < fr.heap.length ∧ a ∉ fr.uo

theorem refs_alloc {h : Heap} {uo : List Nat} {o : Obj} (hr : Isolated h uo)
    (ho : ∀ k d, (k, Cell.ref d) ∈ o → d < h.length ∧ d ∉ uo) : Isolated (h ++ [o]) uo := by
  intro a o' ha k d hm
  simp only [List.length_append, List.length_singleton]
  by_cases hlt : a < h.length
  · rw [List.getElem?_append_left hlt] at ha
    have := hr a o' ha k d hm
    exact ⟨by omega, this.2⟩
  · have hl := (List.getElem?_eq_some_iff.mp ha).1
    simp at hl
    have : a = h.length := by omega
    subst this
    simp at ha; subst ha
    have := ho k d hm
    exact ⟨by omega, fun _ => this.2⟩

theorem refs_upd {h : Heap} {uo : List Nat} {t k : Nat} {c : Cell} (hr : Isolated h uo)
    (hc : ∀ d, c = .ref d → d < h.length ∧ d ∉ uo) : Isolated (upd h t k c) uo := by
  intro a o' ha k' d hm
  rw [upd_length]
  rw [upd_get] at ha
  cases hoa : h[a]? with
  | none => simp [hoa] at ha
  | some o =>
    simp only [hoa, Option.map_some, Option.some.injEq] at ha
    by_cases hta : t = a
    · simp only [hta, if_true] at ha
      subst ha
      rcases mem_put hm with hm | hm
      · have : c = .ref d := by simpa using (congrArg Prod.snd hm).symm
        have := hc d this
        exact ⟨this.1, fun _ => this.2⟩
      · exact hr a o hoa k' d hm
    · simp only [hta, if_false] at ha
      subst ha
      exact hr a o hoa k' d hm

structure Ext (n : Nat) (uo : List Nat) (n' : Nat) (uo' : List Nat) : Prop where
  len : n ≤ n'
  keep : ∀ x, x ∈ uo → x ∈ uo'
  new : ∀ x, x ∈ uo' → x ∈ uo ∨ n ≤ x

theorem Ext.of_le {n n' : Nat} (uo : List Nat) (h : n ≤ n') : Ext n uo n' uo :=
  ⟨h, fun _ h => h, fun _ h => .inl h⟩

theorem Ext.trans {n n1 n2 : Nat} {uo uo1 uo2 : List Nat} (e1 : Ext n uo n1 uo1) (e2 : Ext n1 uo1 n2 uo2) :
    Ext n uo n2 uo2 :=
  ⟨Nat.le_trans e1.len e2.len, fun x h => e2.keep x (e1.keep x h),
    fun x h => (e2.new x h).elim (e1.new x) fun h => .inr (Nat.le_trans e1.len h)⟩

theorem Ext.sto {n n' : Nat} {uo uo' : List Nat} (e : Ext n uo n' uo') {a : Nat} (h : a < n ∧ a ∉ uo) :
    a < n' ∧ a ∉ uo' :=
  ⟨Nat.lt_of_lt_of_le h.1 e.len, fun hn => (e.new a hn).elim h.2 fun hge => Nat.lt_irrefl _ (Nat.lt_of_lt_of_le h.1 hge)⟩

theorem mem_range_new {n m x : Nat} : x ∈ List.range' n (m - n) ↔ n ≤ x ∧ x < m := by
  rw [List.mem_range'_1]; omega

theorem Ext.deep {n n' : Nat} (uo : List Nat) (h : n ≤ n') : Ext n uo n' (List.range' n (n' - n) ++ uo) :=
  ⟨h, fun _ h => List.mem_append_right _ h,
    fun _ h => (List.mem_append.mp h).elim (fun h => .inr (mem_range_new.mp h).1) .inl⟩

namespace FWF
variable {fr : Frame} (wf : FWF fr)
include wf

theorem fresh : fr.heap.length ∉ fr.uo := fun h => Nat.lt_irrefl _ (wf.uoIn _ h)

theorem cell {a f d : Nat} (hu : a ∉ fr.uo) (hc : cellAt fr.heap a f = some (.ref d)) :
    d < fr.heap.length ∧ d ∉ fr.uo := by
  obtain ⟨o, ho, hm⟩ := cellAt_mem hc
  exact ⟨(wf.refs a o ho f d hm).1, (wf.refs a o ho f d hm).2 hu⟩

theorem cellsOf {a : Nat} (hu : a ∉ fr.uo) :
    ∀ k d, (k, Cell.ref d) ∈ (fr.heap[a]?).getD [] → d < fr.heap.length ∧ d ∉ fr.uo := by
  intro k d hm
  cases ho : fr.heap[a]? with
  | none => simp [ho] at hm
  | some o =>
    rw [ho] at hm
    exact ⟨(wf.refs a o ho k d hm).1, (wf.refs a o ho k d hm).2 hu⟩

theorem setCur {c : Cur} (hc : ∀ a, c = .addr a → a < fr.heap.length ∧ a ∉ fr.uo) :
    FWF { fr with cur := c } :=
  ⟨wf.refs, wf.slotsIn, wf.uoIn, hc⟩

theorem grow {h' : Heap} {uo' : List Nat} (e : Ext fr.heap.length fr.uo h'.length uo') (hr : Isolated h' uo')
    (hu : ∀ a, a ∈ uo' → a < h'.length) (rets : List Ret) :
    FWF { fr with heap := h', uo := uo', rets := rets } :=
  ⟨hr, fun s a h => e.sto (wf.slotsIn s a h), hu, fun a h => e.sto (wf.curIn a h)⟩

theorem setHeap {h' : Heap} (hl : fr.heap.length ≤ h'.length) (hr : Isolated h' fr.uo) :
    FWF { fr with heap := h' } :=
  wf.grow (.of_le _ hl) hr (fun a h => Nat.lt_of_lt_of_le (wf.uoIn a h) hl) _

theorem alloc {o : Obj} (ho : ∀ k d, (k, Cell.ref d) ∈ o → d < fr.heap.length ∧ d ∉ fr.uo) :
    FWF { fr with heap := fr.heap ++ [o] } :=
  wf.setHeap (by simp) (refs_alloc wf.refs ho)

theorem allocCur {o : Obj} (ho : ∀ k d, (k, Cell.ref d) ∈ o → d < fr.heap.length ∧ d ∉ fr.uo) :
    FWF { fr with heap := fr.heap ++ [o], cur := .addr fr.heap.length } :=
  (wf.alloc ho).setCur fun a ha => by
    obtain rfl : fr.heap.length = a := by simpa using ha
    exact ⟨by simp, wf.fresh⟩

theorem write {t k : Nat} {c : Cell} (hc : ∀ d, c = .ref d → d < fr.heap.length ∧ d ∉ fr.uo) :
    FWF { fr with heap := upd fr.heap t k c } :=
  wf.setHeap (by rw [upd_length]; exact Nat.le_refl _) (refs_upd wf.refs hc)

theorem allocPoint {o : Obj} (ho : ∀ k d, (k, Cell.ref d) ∈ o → d < fr.heap.length ∧ d ∉ fr.uo) (t k : Nat) :
    FWF { fr with heap := upd (fr.heap ++ [o]) t k (.ref fr.heap.length) } :=
  (wf.alloc ho).write fun d hd => by
    obtain rfl : fr.heap.length = d := by simpa using hd
    exact ⟨by simp, wf.fresh⟩

end FWF

theorem FWF.deep {fr : Frame} (wf : FWF fr) {h' : Heap} (g : Grows fr.heap h') (rets : List Ret) :
    FWF { fr with heap := h', rets := rets,
                  uo := List.range' fr.heap.length (h'.length - fr.heap.length) ++ fr.uo } := by
  have hlen := g.len
  have e := Ext.deep fr.uo hlen
  refine wf.grow e (fun b o hb k d hm => ?_) (fun a ha => ?_) rets
  · by_cases hlt : b < fr.heap.length
    · rw [g.old hlt] at hb
      obtain ⟨h1, h2⟩ := wf.refs b o hb k d hm
      exact ⟨by omega, fun hbn => (e.sto ⟨h1, h2 fun hbu => hbn (e.keep b hbu)⟩).2⟩
    · obtain ⟨-, h2⟩ := g.refs b o (by omega) hb k d hm
      have hbl := (List.getElem?_eq_some_iff.mp hb).1
      exact ⟨h2, fun hbn => absurd (List.mem_append_left _ (mem_range_new.mpr ⟨by omega, hbl⟩)) hbn⟩
  · rcases List.mem_append.mp ha with ha | ha
    · exact (mem_range_new.mp ha).2
    · have := wf.uoIn a ha; omega

theorem step_wf (ar : Args) {fr : Frame} (wf : FWF fr) (p : Prim) : FWF (step ar fr p) := by
  fun_cases step ar fr p with
  | case1 => -- load
    refine wf.setCur fun a ha => ?_
    split at ha
    · rename_i a' hl
      obtain rfl : a' = a := by simpa using ha
      exact wf.slotsIn _ _ (lookup_mem hl)
    · cases ha
  | case2 => exact wf.setCur (by simp) -- loadAll
  | case3 => exact wf.allocCur fun k d hm => (listCells_mem hm).elim fun s hs => wf.slotsIn s d hs -- collect
  | case4 => exact wf.allocCur (by simp) -- allocNew
  | case5 a hca => exact wf.allocCur (wf.cellsOf (wf.curIn a hca).2) -- allocCopy
  | case7 f a hca d hd => -- loadField
    refine wf.setCur fun a' ha' => ?_
    obtain rfl : d = a' := by simpa using ha'
    exact wf.cell (wf.curIn a hca).2 hd
  | case8 => exact wf.setCur (by simp) -- loadField, no reference there
  | case10 f a hca d hd => exact wf.allocPoint (wf.cellsOf (wf.cell (wf.curIn a hca).2 hd).2) a f -- copyField
  | case13 f a => exact wf.allocPoint (by simp) a f -- newField
  | case15 | case18 | case20 => exact wf.write (by simp) -- mutField, mutCur, setScalar
  | case22 a hca => -- publish
    refine ⟨wf.refs, fun s a' hm' => ?_, wf.uoIn, wf.curIn⟩
    rcases List.mem_cons.mp hm' with hm' | hm'
    · obtain rfl : a' = a := by simpa using congrArg Prod.snd hm'
      exact wf.curIn a' hca
    · exact wf.slotsIn s a' hm'
  | case24 => exact ⟨wf.refs, fun s a hm => wf.slotsIn s a (List.mem_filter.mp hm).1, wf.uoIn, wf.curIn⟩ -- unpublish
  | case25 | case26 => exact ⟨wf.refs, wf.slotsIn, wf.uoIn, wf.curIn⟩ -- ret
  | case28 a => exact wf.deep (deepCopy_ok _ _ a).grows _ -- retDeep
  | _ => exact wf -- no current object, or no reference in the field: the frame stays

theorem run_wf (ar : Args) (body : List Prim) {fr : Frame} (wf : FWF fr) : FWF (run ar fr body) :=
  List.foldlRecOn body _ wf fun _ wf p _ => step_wf ar wf p

/-- well-formed world: closed heap, slots in range, user-owned objects isolated from the storage -/
def WF (w : World) : Prop := FWF (enter w)

theorem wf_init : WF World.init :=
  ⟨by intro a o h; simp [enter, World.init] at h, by intro s a h; simp [enter, World.init] at h,
   by intro a h; simp [enter, World.init] at h, by intro a h; simp [enter] at h⟩

theorem call_wf (body : List Prim) (ar : Args) {w : World} (wf : WF w) : WF (callM body ar w).1 := by
  have := run_wf ar body wf
  exact ⟨this.refs, this.slotsIn, this.uoIn, by intro a h; simp [enter] at h⟩

theorem stepEv_wf {w : World} (wf : WF w) (e : Ev) : WF (stepEv w e) := by
  fun_cases stepEv w e with
  | case1 body ar => exact call_wf body ar wf
  | case2 => exact FWF.write wf (by simp)
  | case3 => exact wf

theorem runEvs_wf {w : World} (wf : WF w) (evs : List Ev) : WF (runEvs w evs) :=
  List.foldlRecOn evs _ wf fun _ wf e _ => stepEv_wf wf e

theorem WF.closed {w : World} (wf : WF w) : Closed w.heap :=
  fun a o ho k d hm => (wf.refs a o ho k d hm).1

theorem step_mono (ar : Args) (fr : Frame) (p : Prim) :
    Ext fr.heap.length fr.uo (step ar fr p).heap.length (step ar fr p).uo := by
  fun_cases step ar fr p with
  | case28 a => exact .deep _ (deepCopy_ok _ _ a).grows.len -- retDeep: what it adds becomes the user's
  | _ => exact .of_le _ (by simp [upd_length]) -- any other branch adds one object at most, and nothing to `uo`

theorem run_mono (ar : Args) (body : List Prim) (fr : Frame) :
    Ext fr.heap.length fr.uo (run ar fr body).heap.length (run ar fr body).uo :=
  List.foldlRecOn (motive := fun fr' => Ext fr.heap.length fr.uo fr'.heap.length fr'.uo) body _
    (.of_le _ (Nat.le_refl _)) fun fr' e p _ => e.trans (step_mono ar fr' p)

theorem call_mono (body : List Prim) (ar : Args) (w : World) :
    Ext w.heap.length w.uo (callM body ar w).1.heap.length (callM body ar w).1.uo := run_mono ar body (enter w)

/-- returned handles: live references are in range and not user-owned; copies are user-owned -/
structure RetsOK (fr : Frame) : Prop where
  live : ∀ a, Ret.addr a ∈ fr.rets → a < fr.heap.length ∧ a ∉ fr.uo
  copy : ∀ a, Ret.copy a ∈ fr.rets → a < fr.heap.length ∧ a ∈ fr.uo

theorem RetsOK.next {fr fr' : Frame} (ro : RetsOK fr) (l : List Ret) (hr : fr'.rets = fr.rets ++ l)
    (e : Ext fr.heap.length fr.uo fr'.heap.length fr'.uo)
    (hl : ∀ a, .addr a ∈ l → a < fr'.heap.length ∧ a ∉ fr'.uo) (hc : ∀ a, .copy a ∈ l → a < fr'.heap.length ∧ a ∈ fr'.uo) :
    RetsOK fr' := by
  refine ⟨fun a ha => ?_, fun a ha => ?_⟩ <;> rcases List.mem_append.mp (hr ▸ ha) with h | h
  · exact e.sto (ro.live a h)
  · exact hl a h
  · exact ⟨Nat.lt_of_lt_of_le (ro.copy a h).1 e.len, e.keep a (ro.copy a h).2⟩
  · exact hc a h

theorem step_rets (ar : Args) {fr : Frame} (wf : FWF fr) (ro : RetsOK fr) (p : Prim) : RetsOK (step ar fr p) := by
  -- `step_mono` put among the goals, to have it said of each branch of `step`
  suffices h : Ext fr.heap.length fr.uo (step ar fr p).heap.length (step ar fr p).uo → RetsOK (step ar fr p) from
    h (step_mono ar fr p)
  fun_cases step ar fr p with intro e
  | case25 a hcur => exact ro.next [.addr a] rfl e (by simpa using wf.curIn a hcur) (by simp) -- ret, an object
  | case26 ss => exact ro.next [.view ss] rfl e (by simp) (by simp) -- ret, the container
  | case28 a _ r => -- retDeep
    have c := deepCopy_ok (fr.heap.length + 1) fr.heap a
    exact ro.next [.copy r.2] rfl e (by simp) fun a' h => by
      cases List.mem_singleton.mp h; exact ⟨c.hi, List.mem_append_left _ (mem_range_new.mpr ⟨c.lo, c.hi⟩)⟩
  | _ => exact ro.next [] (List.append_nil _).symm e (by simp) (by simp) -- nothing returned

theorem run_rets (ar : Args) (body : List Prim) {fr : Frame} (wf : FWF fr) (ro : RetsOK fr) :
    RetsOK (run ar fr body) :=
  (List.foldlRecOn (motive := fun fr => FWF fr ∧ RetsOK fr) body _ ⟨wf, ro⟩ fun _ h p _ =>
    ⟨step_wf ar h.1 p, step_rets ar h.1 h.2 p⟩).2

theorem call_rets (body : List Prim) (ar : Args) {w : World} (wf : WF w) : RetsOK (run ar (enter w) body) :=
  run_rets ar body wf ⟨by simp [enter], by simp [enter]⟩

end OptunaVerif.Heap
