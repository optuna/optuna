import OptunaVerif.Lemmas.RdbInv
/-! What a client can read from the tables of the relational model: the *views* of a study and of a
trial as total functions of the tables, and the proof that the model's reading code
(`buildTrial` = `_build_frozen_trial_from_trial_model`, `findTrial`, …) computes exactly these views in
every state that satisfies the table invariant.  Core Lean only. -/
namespace OptunaVerif.Rdb
open OptunaVerif.Storage

def State.valuesView (s : State) (tid : Nat) : Option (List XVal) :=
  match Tbl.ofOwner s.values tid with
  | [] => none
  | rows => some (rows.filterMap (fun r => decV r.val))

def State.interView (s : State) (tid : Nat) : List (Int × XVal) :=
  (Tbl.ofOwner s.inters tid).filterMap (fun r => (decI r.val).map (fun v => (r.key, v)))

/-- the `FrozenTrial` of a `trials` row -/
def State.rowView (s : State) (r : TrialRow) : TrialS :=
  { study := r.study, number := r.number, state := r.state, values := s.valuesView r.id,
    params := Tbl.kv id s.params r.id, userAttrs := Tbl.kv id s.tUser r.id,
    systemAttrs := Tbl.kv id s.tSys r.id, inter := s.interView r.id,
    hasStart := r.hasStart, hasComplete := r.hasComplete }

def State.trialRow? (s : State) (tid : Nat) : Option TrialRow := s.trials.find? (fun r => r.id == tid)
def State.studyRow? (s : State) (sid : Nat) : Option StudyRow := s.studies.find? (fun r => r.id == sid)

def State.trialView (s : State) (tid : Nat) : Option TrialS := (s.trialRow? tid).map s.rowView
def State.studyView (s : State) (sid : Nat) : Option StudyS := (s.studyRow? sid).map (fun r => (frozenStudy s r).2)

theorem fillValues_spec (done : List XVal) (m : Nat) (d : XVal) (rows : List (KRow Nat SVal))
    (hk : rows.map (·.key) = List.range' done.length m) (hdec : ∀ r ∈ rows, (decV r.val).isSome = true) :
    fillValues (done ++ List.replicate m d) rows = .ok (done ++ rows.filterMap (fun r => decV r.val)) := by
  induction rows generalizing done m with
  | nil =>
    cases m with
    | zero => simp [fillValues]
    | succ m => simp [List.range'] at hk
  | cons r rest ih =>
    cases m with
    | zero => simp [List.range'] at hk
    | succ m =>
      simp only [List.map_cons, List.range'_succ, List.cons.injEq] at hk
      obtain ⟨hk1, hk2⟩ := hk
      have hd := hdec r (by simp)
      obtain ⟨v, hv⟩ := Option.isSome_iff_exists.mp hd
      simp only [fillValues, hv, List.length_append, List.length_replicate, List.filterMap_cons]
      have hlt : r.key < done.length + (m + 1) := by omega
      simp only [hlt, if_true]
      have hset : (done ++ List.replicate (m + 1) d).set r.key v = (done ++ [v]) ++ List.replicate m d := by
        rw [hk1, List.replicate_succ]
        simp []
      rw [hset, ih (done ++ [v]) m (by simpa using hk2) (fun x hx => hdec x (List.mem_cons_of_mem _ hx))]
      simp

theorem buildValues_eq (s : State) (h : Inv0 s) (tid : Nat) :
    buildValues (Tbl.ofOwner s.values tid) = .ok (s.valuesView tid) := by
  unfold buildValues State.valuesView
  cases hrows : Tbl.ofOwner s.values tid with
  | nil => rfl
  | cons r rest =>
    simp only [List.isEmpty_cons, Bool.false_eq_true, if_false]
    have hk := h.objectives tid
    rw [hrows] at hk
    have := fillValues_spec [] (r :: rest).length (XVal.fin 0) (r :: rest)
      (by rw [hk, List.range_eq_range']; rfl)
      (by intro x hx
          have : x ∈ Tbl.ofOwner s.values tid := by rw [hrows]; exact hx
          obtain ⟨v, e⟩ := h.valuesEnc x ((Tbl.mem_ofOwner _ _ _).mp this).1
          rw [e, decV_encV]; rfl)
    simp only [List.nil_append] at this
    rw [this]

theorem buildInter_spec (d : List (Int × XVal)) (rows : List (KRow Int SIVal))
    (hd : rows.Pairwise (fun a b => a.key ≠ b.key)) (hacc : ∀ p ∈ d, ∀ r ∈ rows, p.1 ≠ r.key)
    (hdec : ∀ r ∈ rows, (decI r.val).isSome = true) :
    buildInter d rows = .ok (d ++ rows.filterMap (fun r => (decI r.val).map (fun v => (r.key, v)))) := by
  induction rows generalizing d with
  | nil => simp [buildInter]
  | cons r rest ih =>
    rw [List.pairwise_cons] at hd
    obtain ⟨v, hv⟩ := Option.isSome_iff_exists.mp (hdec r (by simp))
    simp only [buildInter, hv, List.filterMap_cons, Option.map_some]
    rw [kvSet_not_mem d r.key v (fun p hp => hacc p hp r (by simp))]
    rw [ih (d ++ [(r.key, v)]) hd.2 ?_ (fun x hx => hdec x (List.mem_cons_of_mem _ hx))]
    · simp
    · intro p hp x hx
      rcases List.mem_append.mp hp with hp | hp
      · exact hacc p hp x (List.mem_cons_of_mem _ hx)
      · simp only [List.mem_singleton] at hp; subst hp; exact hd.1 x hx

theorem buildInter_eq (s : State) (h : Inv0 s) (tid : Nat) :
    buildInter [] (Tbl.ofOwner s.inters tid) = .ok (s.interView tid) := by
  have hk := Tbl.kv_keys_distinct (fun v => v) s.inters s.nInter h.inters tid
  unfold Tbl.kv at hk
  rw [List.pairwise_map] at hk
  rw [buildInter_spec [] _ hk (by simp)
    (fun r hr => h.intersDec r ((Tbl.mem_ofOwner _ _ _).mp hr).1)]
  simp [State.interView]

theorem buildTrial_eq (s : State) (h : Inv0 s) (r : TrialRow) : buildTrial s r = .ok (s.rowView r) := by
  unfold buildTrial
  rw [buildValues_eq s h, buildInter_eq s h]
  simp only [Tbl.toDict_ofOwner id s.params s.nParam h.params, Tbl.toDict_ofOwner id s.tUser s.nTUser h.tUser,
    Tbl.toDict_ofOwner id s.tSys s.nTSys h.tSys, State.rowView]

theorem buildTrials_eq (s : State) (h : Inv0 s) (rows : List TrialRow) :
    buildTrials s rows = .ok (rows.map (fun r => (r.id, s.rowView r))) := by
  induction rows with
  | nil => rfl
  | cons r rest ih => simp [buildTrials, buildTrial_eq s h, ih]

theorem getTrial_eq (s : State) (h : Inv0 s) (tid : Nat) :
    getTrial s tid = match s.trialRow? tid with
      | none => .error (.api .keyError)
      | some r => .ok (tid, s.rowView r) := by
  unfold getTrial State.trialRow?
  rw [findTrial_eq s h]
  cases hf : s.trials.find? (fun r => r.id == tid) with
  | none => rfl
  | some r =>
    have : r.id = tid := by simpa using List.find?_some hf
    simp [buildTrial_eq s h, this]

theorem trialRow?_some (s : State) (tid : Nat) (r : TrialRow) (h : s.trialRow? tid = some r) :
    r ∈ s.trials ∧ r.id = tid :=
  ⟨List.mem_of_find?_eq_some h, by simpa using List.find?_some h⟩

theorem trialRow?_of_mem (s : State) (h : Inv0 s) (r : TrialRow) (hr : r ∈ s.trials) : s.trialRow? r.id = some r :=
  find?_id_eq (fun x : TrialRow => x.id) s.trials h.trialsSorted r hr

theorem studyRow?_some (s : State) (sid : Nat) (r : StudyRow) (h : s.studyRow? sid = some r) :
    r ∈ s.studies ∧ r.id = sid :=
  ⟨List.mem_of_find?_eq_some h, by simpa using List.find?_some h⟩

theorem studyRow?_of_mem (s : State) (h : Inv0 s) (r : StudyRow) (hr : r ∈ s.studies) : s.studyRow? r.id = some r :=
  find?_id_eq (fun x : StudyRow => x.id) s.studies h.studiesSorted r hr

theorem trialRow?_none_iff (s : State) (tid : Nat) : s.trialRow? tid = none ↔ tid ∉ s.trialIds := by
  unfold State.trialRow? State.trialIds
  rw [List.find?_eq_none]
  simp only [List.mem_map, not_exists, not_and, beq_iff_eq]

theorem studyRow?_none_iff (s : State) (sid : Nat) : s.studyRow? sid = none ↔ sid ∉ s.studyIds := by
  unfold State.studyRow? State.studyIds
  rw [List.find?_eq_none]
  simp only [List.mem_map, not_exists, not_and, beq_iff_eq]

theorem trialStudy?_eq (s : State) (tid : Nat) : s.trialStudy? tid = (s.trialRow? tid).map (·.study) := rfl

end OptunaVerif.Rdb
