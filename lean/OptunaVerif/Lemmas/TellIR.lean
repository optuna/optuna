import OptunaVerif.Model.TellIR
import OptunaVerif.Lemmas.Tell
/-! What `Props/C02Gen` needs beside the interpreter of `Model/TellIR.lean` itself: a generated body cut into segments
(`Stmt.take` / `Stmt.drop`, `exec_take_drop`), which `except` clause catches what, two facts about the hand model, and the
callback loop of `_optimize_sequential`. The interpreter is run there by its own defining equations and the rows of the
machine tables, definitionally; the few equations stated here are for rewriting by name. -/
namespace OptunaVerif.TellIR
open OptunaVerif.Tell
variable {σ ε ι : Type}

theorem exec_seq (M : Machine σ ε ι) (a b : Stmt) (cur : Option ε) (s : σ) :
    exec M (.seq a b) cur s = match exec M a cur s with
      | (s', .next) => exec M b cur s'
      | r => r := rfl

theorem exec_ite (M : Machine σ ε ι) (c : Cond) (t e : Stmt) (cur : Option ε) (s : σ) :
    exec M (.ite c t e) cur s = match evalCond M c cur s with
      | (s', .error x) => (s', .raised x)
      | (s', .ok true) => exec M t cur s'
      | (s', .ok false) => exec M e cur s' := rfl

theorem exec_tryFinally (M : Machine σ ε ι) (body fin : Stmt) (cur : Option ε) (s : σ) :
    exec M (.tryFinally body fin) cur s = match exec M body cur s with
      | (s1, fl) => match exec M fin cur s1 with
        | (s2, .next) => (s2, fl)
        | r => r := rfl

theorem exec_forIn (M : Machine σ ε ι) (it : Iter) (body : Stmt) (cur : Option ε) (s : σ) :
    exec M (.forIn it body) cur s = match M.items it s with
      | (s', .error e) => (s', .raised e)
      | (s', .ok xs) => forLoop (exec M body cur) (M.bind it) xs s' := rfl

theorem forLoop_nil (f : σ → σ × Flow ε) (bind : ι → σ → σ) (s : σ) : forLoop f bind [] s = (s, .next) := rfl

theorem forLoop_cons (f : σ → σ × Flow ε) (bind : ι → σ → σ) (x : ι) (xs : List ι) (s : σ) :
    forLoop f bind (x :: xs) s = match f (bind x s) with
      | (s', .next) => forLoop f bind xs s'
      | (s', .cont) => forLoop f bind xs s'
      | (s', .brk) => (s', .next)
      | r => r := rfl

def Stmt.take : Nat → Stmt → Stmt
  | n + 1, .seq a b => .seq a (b.take n)
  | 0, _ => .skip
  | _ + 1, s => s
def Stmt.drop : Nat → Stmt → Stmt
  | n + 1, .seq _ b => b.drop n
  | 0, s => s
  | _ + 1, _ => .skip

theorem exec_take_drop (M : Machine σ ε ι) (n : Nat) (b : Stmt) (cur : Option ε) (s : σ) :
    exec M b cur s = match exec M (b.take n) cur s with
      | (s', .next) => exec M (b.drop n) cur s'
      | r => r := by
  have fall : ∀ r : σ × Flow ε, r = match r with | (s', .next) => exec M .skip cur s' | r => r := by
    rintro ⟨s', f⟩
    cases f <;> rfl
  induction n generalizing b s with
  | zero => rfl
  | succ n ih =>
    cases b with
    | seq a c =>
      simp only [Stmt.take, Stmt.drop, exec_seq]
      rcases exec M a cur s with ⟨s1, f⟩
      cases f <;> first | rfl | exact ih c s1
    | _ => exact fall _

/-- `open_body [segment, body, table, …]` opens a segment of a generated body: by the defining equations of the
interpreter and the rows of the machine table (all of them hold by `rfl`, so `dsimp` leaves no proof term) its run becomes
a nest of matches on what the primitives read. Done once, before the cases of a proof are split, so that the `simp` of a
case only follows the path that case takes. -/
macro "open_body" "[" ts:Lean.Parser.Tactic.simpLemma,* "]" : tactic =>
  `(tactic| dsimp only [Stmt.take, Stmt.drop, Stmt.hd, Stmt.tl, block, exec, evalCond, $ts,*])

theorem catches_exception_exc (e : Exc) : catches Exn.mro [.exception] (.exc e) = !e.isBase := by
  cases e with
  | cast c => cases c <;> rfl
  | _ => rfl

theorem catches_pruned_exc (e : Exc) : catches Exn.mro [.trialPruned] (.exc e) = false := by
  cases e with
  | cast c => cases c <;> rfl
  | _ => rfl

theorem catches_exception_kbd_exc (e : Exc) : catches Exn.mro [.exception, .keyboardInterrupt] (.exc e) = true := by
  cases e with
  | cast c => cases c <;> rfl
  | _ => rfl

theorem catches_pruned_pruned : catches Exn.mro [.trialPruned] .pruned = true := rfl

theorem catches_exception_cast (c : CastExc) : catches Exn.mro [.exception] (.exc (.cast c)) = true :=
  catches_exception_exc (.cast c)

theorem firstBad_of_feasible (nObj : Nat) (vs : List Elem) (h : checkValuesFeasible nObj vs = .feasible) :
    firstBad vs = none := by
  have hg := ((check_feasible_iff nObj vs).1 h).1
  clear h
  induction vs with
  | nil => rfl
  | cons e t ih =>
    obtain ⟨x, hx, _⟩ := hg e List.mem_cons_self
    subst hx
    exact ih (fun e he => hg e (List.mem_cons_of_mem _ he))

theorem interGet?_of_lastStep (l : List (Nat × XVal)) (k : Nat) (h : lastStep l = some k) :
    ∃ x, interGet? l k = some x :=
  Option.isSome_iff_exists.1 ((interGet?_isSome l k).2 (lastStep_isMax l k h).1)

/-- one callback invocation (the trial of this iteration is bound) -/
def cbStep (x : Nat × CbAct) (s : SeqSt) : SeqSt × Flow Exn :=
  ({ s with cb := some x, cbLog := s.cbLog ++ [(s.idx, x.1)], stop := s.stop || x.2.stop },
   match x.2.raises with
   | some c => .raised (.exc (.user c))
   | none => .next)

/-- `r` is what the callbacks `cbs`, numbered from `j`, make of `s` by `runCallbacks` -/
def CbRun (s : SeqSt) (j : Nat) (cbs : List CbAct) (r : SeqSt × Flow Exn) : Prop :=
  ∃ s', r = (s', match (runCallbacks s.idx j cbs).2.2 with
      | some c => .raised (.exc (.user c))
      | none => .next) ∧
    s'.cbLog = s.cbLog ++ (runCallbacks s.idx j cbs).1 ∧ s'.stop = (s.stop || (runCallbacks s.idx j cbs).2.1) ∧
    s'.started = s.started ∧ s'.iTrial = s.iTrial ∧ s'.clock = s.clock

theorem CbRun.nil (s : SeqSt) (j : Nat) : CbRun s j [] (s, .next) :=
  ⟨s, rfl, by simp [runCallbacks], by simp [runCallbacks], rfl, rfl, rfl⟩

theorem forLoop_callbacks (f : SeqSt → SeqSt × Flow Exn) (bind : Nat × CbAct → SeqSt → SeqSt)
    (hf : ∀ x s, s.frozen = true → f (bind x s) = cbStep x s) (j : Nat) (cbs : List CbAct) (s : SeqSt)
    (hs : s.frozen = true) : CbRun s j cbs (forLoop f bind (enumFrom j cbs) s) := by
  induction cbs generalizing j s with
  | nil => exact CbRun.nil s j
  | cons a t ih =>
    rw [enumFrom, forLoop_cons, hf _ _ hs]
    cases hr : a.raises with
    | some c => simp [CbRun, cbStep, runCallbacks, hr]
    | none =>
      simp only [CbRun, cbStep, runCallbacks, hr]
      obtain ⟨s', he, h2, h3, h4, h5, h6⟩ :=
        ih (j + 1) { s with cb := some (j, a), cbLog := s.cbLog ++ [(s.idx, j)], stop := s.stop || a.stop } hs
      exact ⟨s', he, by rw [h2]; simp, by rw [h3]; simp [Bool.or_assoc], h4, h5, h6⟩

end OptunaVerif.TellIR
