import OptunaVerif.Model.Nsga2
import OptunaVerif.Lemmas.SortBasic
import Mathlib.Data.List.Perm.Basic
import Mathlib.Data.List.Perm.Subperm
import Mathlib.Data.List.Nodup
/-! Lemmas for the NSGA-II model (`Model/Nsga2.lean`): the stable sort is a permutation, what `addDist` does to a
looked-up distance, the elite selection loop, the per-rank grouping. -/
namespace OptunaVerif.Nsga2
open List

section SortSec
variable {α β : Type} (lt : α → α → Bool) (key : β → α)

theorem insertByKey_isInsert : SortBasic.IsInsert (insertByKey lt key) (fun x y => ¬ lt (key y) (key x) = true) :=
  ⟨fun _ => rfl, fun _ _ _ => by rw [ite_not]; rfl⟩

theorem sortByKey_isSort : SortBasic.IsSort (sortByKey lt key) (insertByKey lt key) := ⟨rfl, fun _ _ => rfl⟩

theorem sortByKey_perm (l : List β) : (sortByKey lt key l).Perm l :=
  (insertByKey_isInsert lt key).sort_perm (sortByKey_isSort lt key) l

theorem sortByKey_length (l : List β) : (sortByKey lt key l).length = l.length :=
  (sortByKey_perm lt key l).length_eq

/-- `a` may stand before `b` -/
def KeyLe (a b : β) : Prop := lt (key b) (key a) = false

theorem sortByKey_sorted (P : α → Prop)
    (hasym : ∀ a b, P a → P b → lt a b = true → lt b a = false)
    (htr : ∀ a b c, P a → P b → P c → lt b a = false → lt c b = false → lt c a = false)
    (l : List β) (hl : ∀ y ∈ l, P (key y)) : (sortByKey lt key l).Pairwise (KeyLe lt key) :=
  (insertByKey_isInsert lt key).toU.sort_pairwise (M := fun y => P (key y)) (fun _ _ _ _ h => Bool.eq_false_iff.2 h)
    (fun _ _ _ hx hy hz h h' => htr _ _ _ hx hy hz (Bool.eq_false_iff.2 h) h')
    (fun _ _ hx hy h _ => hasym _ _ hy hx (Decidable.not_not.1 h)) (sortByKey_isSort lt key) hl

end SortSec

section DistsSec
variable {α : Type} {N : Num α}

theorem lookupD_addDist (n m : Nat) (e : α) (d : Dists α) :
    lookupD N n (addDist N m e d) = if m = n then N.add (lookupD N n d) e else lookupD N n d := by
  induction d with
  | nil =>
    by_cases h : m = n <;> simp [addDist, lookupD, h]
  | cons p t ih =>
    obtain ⟨k, x⟩ := p
    by_cases hk : k = m
    · subst hk
      by_cases h : k = n <;> simp [addDist, lookupD, h]
    · by_cases h : m = n
      · subst h
        simp [addDist, lookupD, hk, ih]
      · by_cases hkn : k = n
        · subst hkn
          simp [addDist, lookupD, hk, h]
        · simp [addDist, lookupD, hk, h, hkn, ih]

theorem foldl_addDist_not_mem (ups : List (Nat × α)) (d : Dists α) (n : Nat) (h : n ∉ ups.map (·.1)) :
    lookupD N n (ups.foldl (fun acc p => addDist N p.1 p.2 acc) d) = lookupD N n d :=
  List.foldlRecOn (motive := fun d' => lookupD N n d' = lookupD N n d) ups _ rfl
    fun d' h' p hp => by
      rw [lookupD_addDist, if_neg (fun he : p.1 = n => h (he ▸ mem_map_of_mem hp)), h']

theorem foldl_addDist_mem (ups : List (Nat × α)) (d : Dists α) (hnd : (ups.map (·.1)).Nodup)
    (n : Nat) (e : α) (h : (n, e) ∈ ups) :
    lookupD N n (ups.foldl (fun acc p => addDist N p.1 p.2 acc) d) = N.add (lookupD N n d) e := by
  obtain ⟨s, t, rfl⟩ := append_of_mem h
  rw [map_append, map_cons, nodup_middle, nodup_cons, mem_append, not_or] at hnd
  rw [foldl_append, foldl_cons, foldl_addDist_not_mem t _ n hnd.1.2, lookupD_addDist, if_pos rfl,
    foldl_addDist_not_mem s d n hnd.1.1]

theorem foldl_addDist_perm (ups1 ups2 : List (Nat × α)) (hp : ups1.Perm ups2) (hnd : (ups1.map (·.1)).Nodup)
    (d1 d2 : Dists α) (hd : ∀ n, lookupD N n d1 = lookupD N n d2) (n : Nat) :
    lookupD N n (ups1.foldl (fun acc p => addDist N p.1 p.2 acc) d1) =
      lookupD N n (ups2.foldl (fun acc p => addDist N p.1 p.2 acc) d2) := by
  have hnd2 : (ups2.map (·.1)).Nodup := (hp.map _).nodup_iff.1 hnd
  by_cases hn : n ∈ ups1.map (·.1)
  · obtain ⟨p, hp1, rfl⟩ := mem_map.1 hn
    rw [foldl_addDist_mem ups1 d1 hnd p.1 p.2 hp1, foldl_addDist_mem ups2 d2 hnd2 p.1 p.2 (hp.subset hp1), hd]
  · have hn2 : n ∉ ups2.map (·.1) := fun h => hn ((hp.map _).symm.subset h)
    rw [foldl_addDist_not_mem ups1 d1 n hn, foldl_addDist_not_mem ups2 d2 n hn2, hd]

end DistsSec

section Crowd
variable {α : Type} (N : Num α)

theorem crowdStep_perm (st : List (Ind α) × Dists α) (i : Nat) : (crowdStep N st i).1.Perm st.1 := by
  unfold crowdStep
  simp only
  split
  · split <;> exact sortByKey_perm _ _ _
  · exact sortByKey_perm _ _ _

theorem foldl_crowdStep_perm (is : List Nat) (st : List (Ind α) × Dists α) :
    (is.foldl (crowdStep N) st).1.Perm st.1 :=
  List.foldlRecOn (motive := fun s => s.1.Perm st.1) is _ (Perm.refl _) fun s h i _ => (crowdStep_perm N s i).trans h

theorem calcCrowding_perm (pop : List (Ind α)) : (calcCrowding N pop).1.Perm pop := by
  unfold calcCrowding
  cases pop with
  | nil => exact Perm.refl _
  | cons p0 t => exact foldl_crowdStep_perm N _ _

theorem crowdingSort_perm (pop : List (Ind α)) : (crowdingSort N pop).Perm pop := by
  unfold crowdingSort
  exact (sortByKey_perm _ _ _).trans (calcCrowding_perm N pop)

theorem crowdingSortOld_perm (pop : List (Ind α)) : (crowdingSortOld N pop).Perm pop := by
  unfold crowdingSortOld
  exact (reverse_perm _).trans ((sortByKey_perm _ _ _).trans (calcCrowding_perm N pop))

theorem crowdingSort_length (pop : List (Ind α)) : (crowdingSort N pop).length = pop.length :=
  (crowdingSort_perm N pop).length_eq

theorem selectLoop_length (popSize : Nat) (fronts : List (List (Ind α))) (elite : List (Ind α))
    (he : elite.length ≤ popSize) :
    (selectLoop N popSize fronts elite).length = min popSize (elite.length + fronts.flatten.length) := by
  induction fronts generalizing elite with
  | nil => simp [selectLoop]; omega
  | cons f rest ih =>
    simp only [selectLoop]
    split
    · rename_i h
      rw [ih (elite ++ f) (by simp; omega)]
      simp [Nat.add_assoc]
    · rename_i h
      simp only [length_append, length_take, crowdingSort_length, flatten_cons]
      omega

theorem selectLoop_subperm (popSize : Nat) (fronts : List (List (Ind α))) (elite : List (Ind α)) :
    (selectLoop N popSize fronts elite).Subperm (elite ++ fronts.flatten) := by
  induction fronts generalizing elite with
  | nil => simp [selectLoop, Subperm.refl]
  | cons f rest ih =>
    simp only [selectLoop]
    split
    · have := ih (elite ++ f)
      simpa [append_assoc] using this
    · simp only [flatten_cons]
      have h1 : ((crowdingSort N f).take (popSize - elite.length)).Subperm f :=
        ((take_sublist _ _).subperm).trans (crowdingSort_perm N f).subperm
      have h2 : (elite ++ (crowdingSort N f).take (popSize - elite.length)).Subperm (elite ++ f) :=
        (subperm_append_left elite).2 h1
      exact h2.trans ((sublist_append_left (elite ++ f) rest.flatten).subperm.trans (by simp [Subperm.refl]))

theorem elite_subset_selectLoop (popSize : Nat) (fronts : List (List (Ind α))) (elite : List (Ind α)) :
    ∀ x ∈ elite, x ∈ selectLoop N popSize fronts elite := by
  induction fronts generalizing elite with
  | nil => intro x hx; simpa [selectLoop] using hx
  | cons f rest ih =>
    intro x hx
    simp only [selectLoop]
    split
    · exact ih (elite ++ f) x (mem_append_left _ hx)
    · exact mem_append_left _ hx

theorem selectLoop_fronts (popSize : Nat) (fronts : List (List (Ind α))) (elite : List (Ind α)) :
    ∀ x ∈ selectLoop N popSize fronts elite, x ∈ elite ∨
      ∃ i, ∃ h : i < fronts.length, x ∈ fronts[i] ∧
        ∀ y ∈ (fronts.take i).flatten, y ∈ selectLoop N popSize fronts elite := by
  induction fronts generalizing elite with
  | nil => intro x hx; left; simpa [selectLoop] using hx
  | cons f rest ih =>
    intro x hx
    simp only [selectLoop] at hx ⊢
    split at hx
    · rename_i hlt
      simp only [hlt, if_true]
      rcases ih (elite ++ f) x hx with h | ⟨i, hi, hxi, hall⟩
      · rcases mem_append.1 h with h | h
        · exact Or.inl h
        · exact Or.inr ⟨0, by simp, by simpa using h, by simp⟩
      · refine Or.inr ⟨i + 1, by simpa using hi, by simpa using hxi, ?_⟩
        intro y hy
        simp only [take_succ_cons, flatten_cons, mem_append] at hy
        rcases hy with hy | hy
        · exact elite_subset_selectLoop N popSize rest (elite ++ f) y (mem_append_right _ hy)
        · exact hall y hy
    · rename_i hlt
      simp only [hlt, if_false]
      rcases mem_append.1 hx with h | h
      · exact Or.inl h
      · have : x ∈ f := (crowdingSort_perm N f).subset ((take_sublist _ _).subset h)
        exact Or.inr ⟨0, by simp, by simpa using this, by simp⟩

end Crowd

section PerRank
variable {β : Type}

theorem filter_lt_succ_perm (L : List (β × Nat)) (K : Nat) :
    (L.filter (fun p => decide (p.2 < K + 1))).Perm
      (L.filter (fun p => decide (p.2 < K)) ++ L.filter (fun p => p.2 == K)) := by
  have h := (filter_append_perm (fun p : β × Nat => decide (p.2 < K)) (L.filter (fun p => decide (p.2 < K + 1)))).symm
  simp only [filter_filter] at h
  convert h using 2 <;> refine filter_congr fun p _ => ?_
  · rw [Bool.eq_iff_iff]; simp only [Bool.and_eq_true, decide_eq_true_eq]; omega
  · rw [Bool.eq_iff_iff]; simp only [Bool.and_eq_true, Bool.not_eq_true', decide_eq_true_eq, decide_eq_false_iff_not, beq_iff_eq]; omega

theorem perRank_aux (L : List (β × Nat)) (K : Nat) :
    (((List.range K).map (fun r => (L.filter (fun p => p.2 == r)).map (·.1))).flatten).Perm
      ((L.filter (fun p => decide (p.2 < K))).map (·.1)) := by
  induction K with
  | zero => simp
  | succ K ih =>
    rw [List.range_succ, map_append, flatten_append]
    simp only [map_cons, map_nil, flatten_cons, flatten_nil, append_nil]
    refine (Perm.append_right _ ih).trans ?_
    rw [← map_append]
    exact ((filter_lt_succ_perm L K).map _).symm

theorem le_foldl_max (l : List Nat) (a : Nat) : a ≤ l.foldl max a ∧ ∀ x ∈ l, x ≤ l.foldl max a := by
  induction l generalizing a with
  | nil => simp
  | cons y t ih =>
    obtain ⟨h1, h2⟩ := ih (max a y)
    simp only [foldl_cons]
    refine ⟨by omega, ?_⟩
    intro x hx
    rcases mem_cons.1 hx with rfl | hx
    · omega
    · exact h2 x hx

theorem le_maxRank (ranks : List Nat) : ∀ r ∈ ranks, r ≤ maxRank ranks := (le_foldl_max ranks 0).2

theorem perRank_perm (ranks : List Nat) (pop : List β) (hlen : ranks.length = pop.length) :
    (perRank ranks pop).flatten.Perm pop := by
  unfold perRank
  refine (perRank_aux (pop.zip ranks) (maxRank ranks + 1)).trans ?_
  have hall : (pop.zip ranks).filter (fun p => decide (p.2 < maxRank ranks + 1)) = pop.zip ranks := by
    apply filter_eq_self.2
    intro p hp
    have := le_maxRank ranks p.2 (of_mem_zip hp).2
    simp; omega
  rw [hall, map_fst_zip (by omega)]

theorem mem_perRank (ranks : List Nat) (pop : List β) (i : Nat) (h : i < (perRank ranks pop).length) (x : β) :
    x ∈ (perRank ranks pop)[i] ↔ (x, i) ∈ pop.zip ranks := by
  simp only [perRank, getElem_map, getElem_range, mem_map, mem_filter, beq_iff_eq]
  constructor
  · rintro ⟨p, ⟨hp, hr⟩, rfl⟩
    rw [← hr]; exact hp
  · intro hx
    exact ⟨(x, i), ⟨hx, rfl⟩, rfl⟩

theorem perRank_length (ranks : List Nat) (pop : List β) : (perRank ranks pop).length = maxRank ranks + 1 := by
  simp [perRank]

end PerRank

end OptunaVerif.Nsga2
