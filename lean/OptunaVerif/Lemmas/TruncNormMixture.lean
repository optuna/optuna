import Mathlib.Analysis.SpecialFunctions.Log.Basic
/-!
# C18 — `_MixtureOfProductDistribution.log_pdf`: the log-sum-exp tail with its `-inf` guard

`weighted_log_pdf - max_` *manufactures* a NaN from non-NaN inputs when a whole row is `-inf` (`(-inf) - (-inf)`); the line
`max_[np.isneginf(max_)] = 0` is there to prevent it.  To be able to state that, the values here are a small
IEEE-like type (`-inf`, finite real, `+inf`, `nan`) with the float rules for `-`, `+`, `exp`, `log`, `max`.
-/
namespace OptunaVerif.TruncNorm

inductive FVal where
  | ninf | fin (r : ℝ) | pinf | nan

namespace FVal

def sub : FVal → FVal → FVal
  | nan, _ => nan
  | _, nan => nan
  | ninf, ninf => nan
  | pinf, pinf => nan
  | ninf, _ => ninf
  | pinf, _ => pinf
  | fin _, ninf => pinf
  | fin _, pinf => ninf
  | fin a, fin b => fin (a - b)

def add : FVal → FVal → FVal
  | nan, _ => nan
  | _, nan => nan
  | ninf, pinf => nan
  | pinf, ninf => nan
  | ninf, _ => ninf
  | pinf, _ => pinf
  | fin _, ninf => ninf
  | fin _, pinf => pinf
  | fin a, fin b => fin (a + b)

noncomputable def exp : FVal → FVal
  | nan => nan
  | ninf => fin 0
  | pinf => pinf
  | fin r => fin (Real.exp r)

open Classical in
/-- `np.log` with `divide="ignore"`: `log 0 = -inf`, `log` of a negative number is NaN. -/
noncomputable def log : FVal → FVal
  | nan => nan
  | ninf => nan
  | pinf => pinf
  | fin r => if r = 0 then ninf else if r < 0 then nan else fin (Real.log r)

open Classical in
/-- `max` as `ndarray.max` computes it (NaN propagates). -/
noncomputable def max : FVal → FVal → FVal
  | nan, _ => nan
  | _, nan => nan
  | pinf, _ => pinf
  | _, pinf => pinf
  | ninf, y => y
  | x, ninf => x
  | fin a, fin b => fin (if a ≤ b then b else a)

def isNinf : FVal → Bool
  | ninf => true
  | _ => false

def isNan : FVal → Bool
  | nan => true
  | _ => false

end FVal

/-- `-inf` or a finite value: what `weighted_log_pdf` contains for valid arguments. -/
def ofOpt : Option ℝ → FVal
  | none => .ninf
  | some r => .fin r

noncomputable def sumL (l : List FVal) : FVal := l.foldr FVal.add (.fin 0)
noncomputable def maxL (l : List FVal) : FVal := l.foldr FVal.max .ninf

/-- The tail of `log_pdf` for one row `w = weighted_log_pdf[i, :]`: `max_ = weighted_log_pdf.max(axis=1)`; with `guard`,
`max_[np.isneginf(max_)] = 0`; then `np.log(np.exp(weighted_log_pdf - max_[:, None]).sum(axis=1)) + max_`. -/
noncomputable def mixLogPdf (guard : Bool) (w : List FVal) : FVal :=
  let m := maxL w
  let m' := if guard && m.isNinf then FVal.fin 0 else m
  FVal.add (FVal.log (sumL (w.map fun x => FVal.exp (FVal.sub x m')))) m'

noncomputable def expO : Option ℝ → ℝ
  | none => 0
  | some r => Real.exp r

theorem log_mul_exp_neg_add {S : ℝ} (hS : 0 < S) (c : ℝ) : Real.log (S * Real.exp (-c)) + c = Real.log S := by
  rw [Real.log_mul hS.ne' (Real.exp_pos _).ne', Real.log_exp, neg_add_cancel_right]

theorem expO_nonneg (o : Option ℝ) : 0 ≤ expO o := by
  cases o with
  | none => exact le_refl _
  | some r => exact (Real.exp_pos r).le

theorem maxL_ofOpt (w : List (Option ℝ)) : ∃ o : Option ℝ, maxL (w.map ofOpt) = ofOpt o := by
  induction w with
  | nil => exact ⟨none, rfl⟩
  | cons x t ih =>
    obtain ⟨o, ho⟩ := ih
    simp only [List.map_cons, maxL, List.foldr_cons] at ho ⊢
    rw [ho]
    match x, o with
    | none, o => exact ⟨o, by cases o <;> rfl⟩
    | some r, none => exact ⟨some r, rfl⟩
    | some r, some r' => exact ⟨some (if r ≤ r' then r' else r), rfl⟩

theorem sumL_shift (w : List (Option ℝ)) (s : ℝ) :
    sumL ((w.map ofOpt).map fun x => FVal.exp (FVal.sub x (.fin s)))
      = .fin ((w.map expO).sum * Real.exp (-s)) := by
  induction w with
  | nil => simp [sumL]
  | cons x t ih =>
    simp only [List.map_cons, sumL, List.foldr_cons, List.sum_cons] at *
    rw [ih]
    cases x with
    | none => simp [ofOpt, FVal.sub, FVal.exp, FVal.add, expO]
    | some r =>
      simp only [ofOpt, FVal.sub, FVal.exp, FVal.add, expO]
      congr 1
      rw [add_mul, sub_eq_add_neg, Real.exp_add]

theorem sum_expO_nonneg (w : List (Option ℝ)) : 0 ≤ (w.map expO).sum :=
  List.sum_nonneg fun _ hx => by obtain ⟨o, _, rfl⟩ := List.mem_map.mp hx; exact expO_nonneg o

theorem sum_expO_eq_zero_iff (w : List (Option ℝ)) : (w.map expO).sum = 0 ↔ ∀ x ∈ w, x = none := by
  induction w with
  | nil => simp
  | cons x t ih =>
    rw [List.map_cons, List.sum_cons, add_eq_zero_iff_of_nonneg (expO_nonneg x) (sum_expO_nonneg t), ih,
      List.forall_mem_cons]
    cases x <;> simp [expO, (Real.exp_pos _).ne']

/-- For any finite `s`: that the code shifts by the row maximum matters for the range of floats only. -/
theorem logSumExp_shift (w : List (Option ℝ)) (s : ℝ) :
    FVal.add (FVal.log (sumL ((w.map ofOpt).map fun x => FVal.exp (FVal.sub x (.fin s))))) (.fin s) =
      if (∀ x ∈ w, x = none) then FVal.ninf else FVal.fin (Real.log (w.map expO).sum) := by
  rw [sumL_shift]
  by_cases hall : ∀ x ∈ w, x = none
  · rw [if_pos hall, (sum_expO_eq_zero_iff w).mpr hall]
    simp [FVal.log, FVal.add]
  · have hpos := (sum_expO_nonneg w).lt_of_ne' (mt (sum_expO_eq_zero_iff w).mp hall)
    have hprod := mul_pos hpos (Real.exp_pos (-s))
    simp only [if_neg hall, FVal.log, hprod.ne', not_lt.mpr hprod.le, if_false, FVal.add, log_mul_exp_neg_add hpos]

end OptunaVerif.TruncNorm
