import OptunaVerif.Model.Basic
/-
  Small-step model of the two lock classes of `optuna/storages/journal/_file.py`
  (`JournalFileSymlinkLock`, `JournalFileOpenLock`): every system call and every clock read the
  Python performs is one atomic step of one worker; an arbitrary interleaving is a list of events
  (`step w` | `tick` | `crash w`).

      def acquire(self):                                          pc of the worker *before* the call
          sleep_secs = 0.001
          last_update_monotonic_time = time.monotonic()           idle        (mtime := None)
          mtime = None
          while True:
              try:
                  os.symlink(target, lock)              |         create
                  os.close(os.open(lock, O_CREAT|O_EXCL|O_WRONLY))  create ; closing
                  return True                                     (-> crit)
              except OSError as err:
                  if err.errno == errno.EEXIST:
                      if self.grace_period is not None:           (None: -> sleep)
                          try:
                              current_mtime = os.stat(lock).st_mtime      stat
                          except OSError:
                              continue                            (-> create, no sleep)
                          if current_mtime != mtime:
                              mtime = current_mtime
                              last_update_monotonic_time = time.monotonic()   resetTimer
                          if time.monotonic() - last_update... > self.grace_period:   check
                              try:
                                  self.release()                  tkRename ; tkUnlink
                                  sleep_secs = 0.001
                                  last_update_monotonic_time = time.monotonic()   tkRestart  (repo d602c3c)
                              except RuntimeError:
                                  continue                        (-> create, no sleep)
                      time.sleep(sleep_secs)                      sleep
                      continue
                  raise err

      def release(self):
          lock_rename_file = lock + str(uuid.uuid4()) + ".rename"
          try:
              os.rename(lock, lock_rename_file)                   relRename   (tkRename inside acquire)
              os.unlink(lock_rename_file)                         relUnlink   (tkUnlink inside acquire)
          except OSError:
              raise RuntimeError("Error: did not possess lock")

  Between `acquire()` returning and `release()` the holder does its work (`crit`: one step, the
  append of `append_logs`; it does not touch the lock path).

  The two classes differ only in the calls: one `symlink` / `os.open(O_EXCL)` followed by `os.close`
  to create; `os.lstat` / `os.stat` to sample the mtime.  Since repo fb3aa05 both sample the mtime of
  the lock file itself = its creation stamp (nobody writes to it; `lstat` does not follow the link —
  before that commit the symlink lock watched the journal's mtime).
  Time stamps are readings of the one virtual clock (`Shared.now`): two files created without a
  `tick` in between carry equal stamps (timestamp granularity).  `uuid4` names are modelled as
  (worker, per-worker serial number): unique by construction (trusted: uuid4 does not collide).
  Not modelled: asynchronous exceptions (`except BaseException: self.release(); raise`), the value of
  `sleep_secs` (sleeping is a step; how long it lasts is the scheduler's choice of `tick`s).
-/
namespace OptunaVerif.FileLock

inductive Kind where
  | symlink | openExcl
deriving DecidableEq, Repr

structure Cfg where
  kind : Kind
  /-- `grace_period` (`None`: a stale lock is never broken) -/
  grace : Option Nat
deriving DecidableEq, Repr

/-- where a worker is = which call it performs next -/
inductive PC where
  | idle        -- outside acquire/release; next: `time.monotonic()` at the entry of `acquire`
  | create      -- next: `os.symlink` / `os.open(O_CREAT|O_EXCL)`
  | closing     -- open lock only: the lock file is created; next: `os.close`
  | stat        -- next: `os.stat(lock)`
  | resetTimer  -- the sampled mtime changed; next: `last := time.monotonic()`
  | check       -- next: `time.monotonic() - last > grace`
  | tkRename    -- stale-lock takeover; next: `os.rename(lock, unique)`
  | tkUnlink    -- next: `os.unlink(unique)`
  | tkRestart   -- the stale lock is gone; next: `last := time.monotonic()` (the taker restarts its timer)
  | sleep       -- next: `time.sleep`
  | crit        -- `acquire` returned: critical section; next: the write to the journal
  | relRename   -- `release()` called by the holder; next: `os.rename(lock, unique)`
  | relUnlink   -- next: `os.unlink(unique)`
deriving DecidableEq, Repr

structure Worker where
  pc : PC
  dead : Bool
  /-- local `mtime` of `acquire` -/
  mtime : Option Nat
  /-- local `last_update_monotonic_time` -/
  last : Nat
  /-- renames attempted so far (names the next unique file) -/
  nren : Nat
  /-- how many `release()` calls of the holder raised `RuntimeError` -/
  failed : Nat
deriving DecidableEq, Repr

/-- a lock file renamed away and not yet unlinked -/
structure Tmp where
  by_ : Nat       -- who renamed it
  serial : Nat    -- that worker's serial number of the rename
  owner : Nat     -- who had created the lock file
deriving DecidableEq, Repr

structure Shared where
  /-- the lock path: absent, or present with (creator, creation stamp) -/
  lock : Option (Nat × Nat)
  /-- the clock -/
  now : Nat
  tmps : List Tmp
deriving DecidableEq, Repr

structure St where
  sh : Shared
  ws : List Worker
deriving DecidableEq, Repr

inductive Ev where
  | step (w : Nat)
  | tick
  | crash (w : Nat)
deriving DecidableEq, Repr

/-- what the step did, as the harness sees it: the call and its outcome -/
inductive Label where
  | noop                      -- event of a dead / unknown worker
  | ticked
  | crashed
  | monotonic (t : Nat)
  | createOk | createExists
  | closed
  | statOk (m : Nat) | statGone
  | renameOk (owner : Nat) | renameGone
  | unlinkOk | unlinkGone
  | slept
  | touched
deriving DecidableEq, Repr

/-- the worker has created the lock file that it has not yet renamed away itself -/
def holding : PC → Bool
  | .closing | .crit | .relRename => true
  | _ => false

/-- between `acquire()` returning and the rename of its own `release()` -/
def inCrit : PC → Bool
  | .crit | .relRename => true
  | _ => false

def isMine (w n : Nat) (t : Tmp) : Bool := t.by_ == w && t.serial == n

def doRename (sh : Shared) (w : Nat) (wk : Worker) (okPc : PC) (failWk : Worker) : Shared × Worker × Label :=
  match sh.lock with
  | some (o, _) =>
    ({ sh with lock := none, tmps := { by_ := w, serial := wk.nren + 1, owner := o } :: sh.tmps },
     { wk with pc := okPc, nren := wk.nren + 1 }, .renameOk o)
  | none => (sh, { failWk with nren := wk.nren + 1 }, .renameGone)

def doUnlink (sh : Shared) (w : Nat) (wk : Worker) (okPc : PC) (failWk : Worker) : Shared × Worker × Label :=
  if sh.tmps.any (isMine w wk.nren) then
    ({ sh with tmps := sh.tmps.filter (fun t => !isMine w wk.nren t) }, { wk with pc := okPc }, .unlinkOk)
  else (sh, failWk, .unlinkGone)

/-- one call of live worker `w` (record `wk`) on the shared state -/
def stepW (cfg : Cfg) (sh : Shared) (w : Nat) (wk : Worker) : Shared × Worker × Label :=
  match wk.pc with
  | .idle => (sh, { wk with pc := .create, mtime := none, last := sh.now }, .monotonic sh.now)
  | .create =>
    match sh.lock with
    | none =>
      ({ sh with lock := some (w, sh.now) },
       { wk with pc := match cfg.kind with | .symlink => .crit | .openExcl => .closing }, .createOk)
    | some _ => (sh, { wk with pc := if cfg.grace.isSome then .stat else .sleep }, .createExists)
  | .closing => (sh, { wk with pc := .crit }, .closed)
  | .stat =>
    match sh.lock with
    | none => (sh, { wk with pc := .create }, .statGone)
    | some (_, s) =>
      if wk.mtime = some s then (sh, { wk with pc := .check }, .statOk s)
      else (sh, { wk with pc := .resetTimer, mtime := some s }, .statOk s)
  | .resetTimer => (sh, { wk with pc := .check, last := sh.now }, .monotonic sh.now)
  | .check =>
    match cfg.grace with
    | some g => (sh, { wk with pc := if sh.now > wk.last + g then .tkRename else .sleep }, .monotonic sh.now)
    | none => (sh, { wk with pc := .sleep }, .monotonic sh.now)   -- unreachable (`safeSched_of_no_grace`)
  | .tkRename => doRename sh w wk .tkUnlink { wk with pc := .create }
  | .tkUnlink => doUnlink sh w wk .tkRestart { wk with pc := .create }
  | .tkRestart => (sh, { wk with pc := .sleep, last := sh.now }, .monotonic sh.now)
  | .sleep => (sh, { wk with pc := .create }, .slept)
  | .crit => (sh, { wk with pc := .relRename }, .touched)
  | .relRename => doRename sh w wk .relUnlink { wk with pc := .idle, failed := wk.failed + 1 }
  | .relUnlink => doUnlink sh w wk .idle { wk with pc := .idle, failed := wk.failed + 1 }

def step (cfg : Cfg) (st : St) : Ev → St × Label
  | .tick => ({ st with sh := { st.sh with now := st.sh.now + 1 } }, .ticked)
  | .crash w =>
    match st.ws[w]? with
    | some wk =>
      if wk.dead then (st, .noop)
      else ({ st with ws := updAt st.ws w (fun x => { x with dead := true }) }, .crashed)
    | none => (st, .noop)
  | .step w =>
    match st.ws[w]? with
    | some wk =>
      if wk.dead then (st, .noop)
      else
        let r := stepW cfg st.sh w wk
        ({ sh := r.1, ws := updAt st.ws w (fun _ => r.2.1) }, r.2.2)
    | none => (st, .noop)

def run (cfg : Cfg) (st : St) : List Ev → St
  | [] => st
  | e :: es => run cfg (step cfg st e).1 es

def freshWorker : Worker := { pc := .idle, dead := false, mtime := none, last := 0, nren := 0, failed := 0 }

def init (n : Nat) : St :=
  { sh := { lock := none, now := 0, tmps := [] }, ws := List.replicate n freshWorker }

def isLive (st : St) (w : Nat) : Bool :=
  match st.ws[w]? with
  | some wk => !wk.dead
  | none => false

def pcOf (st : St) (w : Nat) : Option PC := (st.ws[w]?).map (·.pc)

/-- live worker `w` is at a pc satisfying `p` -/
def liveAt (st : St) (p : PC → Bool) (w : Nat) : Bool :=
  match st.ws[w]? with
  | some wk => !wk.dead && p wk.pc
  | none => false

/-- the live workers inside their critical section -/
def liveHolders (st : St) : List Nat := (List.range st.ws.length).filter (liveAt st inCrit)

/-- the event is a stale-lock takeover (`rename` inside `acquire`) that removes the lock file of a
creator who is alive -/
def liveTakeoverAt (st : St) : Ev → Bool
  | .step w =>
    liveAt st (· == .tkRename) w &&
      (match st.sh.lock with
       | some (o, _) => isLive st o
       | none => false)
  | _ => false

/-- **the hypothesis of mutual exclusion**: no takeover happens while the holder is alive -/
def safeSched (cfg : Cfg) (st : St) : List Ev → Bool
  | [] => true
  | e :: es => !liveTakeoverAt st e && safeSched cfg (step cfg st e).1 es

/-! ### A timing discipline (see `Lemmas/FileLockTimed.lean`: it implies `safeSched` for the open lock) -/

/-- between the `stat` of a waiter and the `rename` of its takeover -/
def inWindow : PC → Bool
  | .resetTimer | .check | .tkRename => true
  | _ => false

/-- the event respects the timing discipline in state `st` -/
def punctualAt (g : Nat) (st : St) : Ev → Bool
  | .tick =>
    (match st.sh.lock with
     | some (o, s) => !isLive st o || decide (st.sh.now + 1 ≤ s + g)
     | none => true) &&
    (List.range st.ws.length).all (fun v => !liveAt st inWindow v)
  | .crash _ => true
  | .step a =>
    !(liveAt st (· == .tkRename) a && st.sh.lock.isSome &&
      (List.range st.ws.length).any (fun v => v != a && liveAt st inWindow v))

def punctualSched (cfg : Cfg) (g : Nat) (st : St) : List Ev → Bool
  | [] => true
  | e :: es => punctualAt g st e && punctualSched cfg g (step cfg st e).1 es

/-! ### Named schedules (served by the driver to the harness, which replays them on the real code;
the theorems about them are in `Props/C07Lock.lean`) -/

def stepsOf (w k : Nat) : List Ev := List.replicate k (.step w)
def ticks (k : Nat) : List Ev := List.replicate k .tick

structure Scenario where
  cfg : Cfg
  n : Nat
  evs : List Ev

/-- F13, open lock: holder 0 dies in its critical section; waiters 1 and 2 both pass the grace check;
1 takes the stale lock over and enters; 2's pending `rename` then removes the lock 1 has just created. -/
def f13Open : Scenario :=
  { cfg := { kind := .openExcl, grace := some 2 }, n := 3,
    evs := stepsOf 0 3 ++ [.crash 0] ++ stepsOf 1 6 ++ stepsOf 2 6 ++ ticks 3 ++ stepsOf 1 3 ++ stepsOf 2 3 ++
           stepsOf 1 6 ++ stepsOf 2 6 }

/-- F13, symlink lock (same race) -/
def f13Symlink : Scenario :=
  { cfg := { kind := .symlink, grace := some 2 }, n := 3,
    evs := stepsOf 0 2 ++ [.crash 0] ++ stepsOf 1 6 ++ stepsOf 2 6 ++ ticks 3 ++ stepsOf 1 3 ++ stepsOf 2 3 ++
           stepsOf 1 5 ++ stepsOf 2 5 }

/-- two holders before repo fb3aa05 (the symlink lock watched the journal's mtime), harmless now: waiters 1
and 2 have both watched the dead holder's lock for longer than the grace period; 1 takes it over
*completely* and enters; 2 then polls, sees a new lock stamp, restarts its timer and keeps polling. -/
def f13SymlinkSequential : Scenario :=
  { cfg := { kind := .symlink, grace := some 2 }, n := 3,
    evs := stepsOf 0 2 ++ [.crash 0] ++ stepsOf 1 6 ++ stepsOf 2 6 ++ ticks 3 ++ stepsOf 1 8 ++ stepsOf 2 8 }

/-- the schedule that gave two holders before repo commit d602c3c (ONE waiter past the grace period,
symlink lock): waiter 1 breaks the dead holder's lock; newcomer 2 creates the lock while 1 sleeps; 1 has
restarted its timer after the takeover (and, since fb3aa05, sees a new lock stamp), so it goes on polling. -/
def symlinkAfterTakeover : Scenario :=
  { cfg := { kind := .symlink, grace := some 2 }, n := 3,
    evs := stepsOf 0 2 ++ [.crash 0] ++ stepsOf 1 6 ++ ticks 3 ++ stepsOf 1 6 ++ stepsOf 2 2 ++ stepsOf 1 5 }

/-- two holders before repo fb3aa05, harmless now (symlink lock, no crash, every holder punctual): 0 releases
and 2 acquires between two polls of waiter 1, which has seen the lock held at each of its polls; the lock
file it finds carries a new stamp, so it restarts its timer. -/
def symlinkHandover : Scenario :=
  { cfg := { kind := .symlink, grace := some 2 }, n := 3,
    evs := stepsOf 0 3 ++ stepsOf 1 5 ++ ticks 1 ++ stepsOf 0 2 ++ stepsOf 2 2 ++ ticks 2 ++ stepsOf 1 9 }

/-- no crash at all: waiter 1 is suspended for longer than the grace period between reading the clock
and comparing it; the lock it had looked at is long released, and its `rename` removes the fresh lock of
live holder 0. -/
def stalledWaiter : Scenario :=
  { cfg := { kind := .openExcl, grace := some 2 }, n := 2,
    evs := stepsOf 0 3 ++ stepsOf 1 4 ++ stepsOf 0 3 ++ ticks 3 ++ stepsOf 1 1 ++ stepsOf 0 3 ++ stepsOf 1 6 }

/-- the same on the symlink lock -/
def stalledWaiterSymlink : Scenario :=
  { cfg := { kind := .symlink, grace := some 2 }, n := 2,
    evs := stepsOf 0 2 ++ stepsOf 1 4 ++ stepsOf 0 3 ++ ticks 3 ++ stepsOf 1 1 ++ stepsOf 0 2 ++ stepsOf 1 5 }

/-- the intended use of the grace period: the holder dies, a single waiter takes the lock over -/
def soloTakeoverOpen : Scenario :=
  { cfg := { kind := .openExcl, grace := some 2 }, n := 2,
    evs := stepsOf 0 3 ++ [.crash 0] ++ stepsOf 1 6 ++ ticks 3 ++ stepsOf 1 9 }

def soloTakeoverSymlink : Scenario :=
  { cfg := { kind := .symlink, grace := some 2 }, n := 2,
    evs := stepsOf 0 2 ++ [.crash 0] ++ stepsOf 1 6 ++ ticks 3 ++ stepsOf 1 8 }

def Scenario.final (s : Scenario) : St := run s.cfg (init s.n) s.evs
def Scenario.safe (s : Scenario) : Bool := safeSched s.cfg (init s.n) s.evs

end OptunaVerif.FileLock
