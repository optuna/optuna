import OptunaVerif.Lemmas.Best
/-!
# C12 — best_trial / best_value / best_trials are exactly the optimum of the history

Everything is stated over **all** trial lists / event histories (no bound on length, number of objectives or
values), for the models of `Model/Best.lean`, whose comparison operators, ASC/DESC flags, SQL rank table and
branch structure are regenerated from `/repo` on every run (`Generated/Best.lean`).  The models are tied to the
running code by `verif/props/c12.py` on every storage configuration.

Vocabulary (Lemmas/Best.lean): `CompleteAt p ts i v` — trial number `i` of `ts` is COMPLETE, satisfies `p` and has
the value `v`; `IsBest d p ts i` — it is one and no such trial beats it in direction `d`; `OptResult d p ts o` — `o`
is a right answer (`none` = `ValueError` exactly when there is no such trial); `WF n ts` — every COMPLETE trial has
`n` values (enforced by `Study.tell` / `Study.add_trial`; an invariant of every history: `history_wellformed`);
`paretoSpec`, `eligible`, `domDir` — the specification of `best_trials`.  For the Pareto front: `Rect n rows`, `LexSorted u`
(Lemmas/BestOrder.lean) and `dominatedIn u r` (Lemmas/BestFront.lean).
Precondition throughout: values of COMPLETE trials are NaN-free (`EVal`), as `tell` / `add_trial` enforce.
-/
namespace OptunaVerif.C12
open OptunaVerif.Best

/-- `optSet` (what the driver validates the implementation's answers against) is exactly the set of optima. -/
theorem mem_optSet_iff (d : Dir) (p : BTrial → Bool) (ts : List BTrial) (i : Nat) :
    i ∈ optSet d p ts ↔ IsBest d p ts i := by
  simp only [optSet, List.mem_map, List.mem_filter, List.all_eq_true]
  constructor
  · rintro ⟨⟨i', v⟩, ⟨hm, hall⟩, rfl⟩
    refine ⟨v, (mem_valuedIn_complete p ts i' v).mp hm, ?_⟩
    intro j w hc
    exact hall (j, w) ((mem_valuedIn_complete p ts j w).mpr hc)
  · rintro ⟨v, hv, hall⟩
    refine ⟨(i, v), ⟨(mem_valuedIn_complete p ts i v).mpr hv, ?_⟩, rfl⟩
    rintro ⟨j, w⟩ hm
    exact hall j w ((mem_valuedIn_complete p ts j w).mp hm)

/-- `BaseStorage.get_best_trial` returns a COMPLETE trial that no COMPLETE trial beats
(±∞ included), and raises `ValueError` exactly when there is no COMPLETE trial. -/
theorem scan_is_optimal (d : Dir) (ts : List BTrial) : OptResult d anyTrial ts (scanBest d ts) := by
  rw [scanBest_eq]; exact pick_valuedIn_opt d anyTrial ts

example : scanBest .minimize
    [⟨.pruned, some [.ninf], .absent⟩, ⟨.complete, some [.fin 2], .absent⟩, ⟨.complete, some [.ninf], .absent⟩,
     ⟨.complete, some [.ninf], .absent⟩, ⟨.fail, none, .absent⟩] = some 2 := by decide
example : scanBest .maximize
    [⟨.complete, some [.fin 2], .absent⟩, ⟨.complete, some [.pinf], .absent⟩, ⟨.running, none, .absent⟩] = some 1 := by decide
example : scanBest .maximize [⟨.pruned, some [.fin 2], .absent⟩, ⟨.running, none, .absent⟩] = none := by decide

theorem history_wellformed (dirs : List Dir) (evs : List Ev) : WF dirs.length (Mem.run dirs evs).trials :=
  memRun_wf dirs evs

/-- Invariant over ALL histories: whatever sequence of `create_new_trial` /
`set_trial_state_values` / constraint writes happened — in any order of completion —, the cached `best_trial_id`
is an optimum of the COMPLETE trials so far, and it is `None` exactly when there is none. -/
theorem incremental_is_optimal (d : Dir) (evs : List Ev) :
    OptResult d anyTrial (Mem.run [d] evs).trials (Mem.run [d] evs).best :=
  (memRun_inv_from d Mem.init evs (memInit_inv d)).2

/-- The incrementally maintained answer and a from-scratch scan of the same history agree:
both raise, or both return trials with the same (optimal) value. -/
theorem incremental_eq_scan (d : Dir) (evs : List Ev) :
    ((Mem.run [d] evs).best = none ↔ scanBest d (Mem.run [d] evs).trials = none) ∧
    ∀ i j v w, (Mem.run [d] evs).best = some i → scanBest d (Mem.run [d] evs).trials = some j →
      CompleteAt anyTrial (Mem.run [d] evs).trials i v → CompleteAt anyTrial (Mem.run [d] evs).trials j w → v = w :=
  optResult_agree d anyTrial _ _ _ (incremental_is_optimal d evs) (scan_is_optimal d _)

/-- The comparison the cache uses (operators and branches read from the source) is "strictly better":
a later trial with an equal value does not replace the cached one. -/
theorem incremental_replaces_iff_strictly_better (d : Dir) (cached new : EVal) :
    memReplace d cached new = better d new cached := memReplace_eq d cached new

-- trial 1 completes before trial 0; equal values keep the earlier *completion*; +∞ handled
example : (Mem.run [.minimize] [.create .running none .absent, .create .running none .absent,
    .setState 1 .complete (some [.fin 3]), .setState 0 .complete (some [.fin 3])]).best = some 1 := by decide
example : (Mem.run [.maximize] [.create .complete (some [.fin 3]) .absent, .create .running none .absent,
    .setState 1 .complete (some [.pinf]), .create .pruned (some [.pinf]) .absent,
    .setState 1 .complete (some [.fin 0])]).best = some 1 := by decide

/-- On stored `(value, value_type)` pairs the `ORDER BY` key of `find_min_value_trial_id`
(resp. `find_max…`) — rank of the type first, then the nullable value, ASC (resp. DESC) — is order-isomorphic to
`<` (resp. `>`) on the values they encode, ±∞ included. -/
theorem sql_rank_order_iso (useMax : Bool) (a b : EVal) :
    sqlBefore useMax (encode a) (encode b) = if useMax then b.lt a else a.lt b :=
  sqlBefore_encode useMax a b

/-- `stored_repr_to_value ∘ value_to_stored_repr = id` (incl. ±∞). -/
theorem stored_value_roundtrip (v : EVal) : decode (encode v) = some v := decode_encode v

theorem rdb_eq_scan (d : Dir) (ts : List BTrial) (hwf : WF 1 ts) : rdbBest d ts = scanBest d ts :=
  rdbBest_eq_scan d ts hwf

/-- `ORDER BY … LIMIT 1` over the stored encoding returns an optimum of the COMPLETE trials. -/
theorem rdb_is_optimal (d : Dir) (ts : List BTrial) (hwf : WF 1 ts) : OptResult d anyTrial ts (rdbBest d ts) := by
  rw [rdb_eq_scan d ts hwf]; exact scan_is_optimal d ts

theorem rdb_is_optimal_history (d : Dir) (evs : List Ev) :
    OptResult d anyTrial (Mem.run [d] evs).trials (rdbBest d (Mem.run [d] evs).trials) :=
  rdb_is_optimal d _ (history_wellformed [d] evs)

example : rdbBest .minimize [⟨.complete, some [.fin 2], .absent⟩, ⟨.complete, some [.pinf], .absent⟩,
    ⟨.complete, some [.ninf], .absent⟩, ⟨.pruned, some [.ninf], .absent⟩] = some 2 := by decide
example : rdbBest .maximize [⟨.complete, some [.fin 2], .absent⟩, ⟨.complete, some [.pinf], .absent⟩,
    ⟨.complete, some [.ninf], .absent⟩] = some 1 := by decide
example : sqlBefore false (encode .ninf) (encode (.fin (-5))) = true := by decide

/-- What `Study.best_trial` does with a right storage answer: it returns the storage's trial when that trial records
no violation; otherwise an optimum of the feasible COMPLETE trials; `ValueError` when there is no COMPLETE trial, or
the storage's trial records a violation and no feasible COMPLETE trial exists. -/
theorem study_best_trial_spec (alg : Dir → List BTrial → Option Nat) (d : Dir) (ts : List BTrial)
    (hopt : OptResult d anyTrial ts (alg d ts)) :
    match studyBestTrial alg [d] ts with
    | .ok r => (alg d ts = some r ∧ ∃ t, ts[r]? = some t ∧ violated t = false) ∨
               (∃ b tb, alg d ts = some b ∧ ts[b]? = some tb ∧ violated tb = true ∧ IsBest d feasible ts r)
    | .error e => e = .valueError ∧ ((∀ j w, ¬ CompleteAt anyTrial ts j w) ∨
               (∃ b tb, alg d ts = some b ∧ ts[b]? = some tb ∧ violated tb = true ∧ ∀ j w, ¬ CompleteAt feasible ts j w)) := by
  rw [studyBestTrial_single]
  cases ha : alg d ts with
  | none =>
    rw [ha] at hopt
    exact ⟨rfl, Or.inl hopt⟩
  | some b =>
    rw [ha] at hopt
    obtain ⟨v, ⟨tb, htb, _⟩, _⟩ := hopt
    have hf := fallback_spec d ts b tb htb
    show (match fallback d ts b with
      | .ok r => _
      | .error e => _)
    cases hfb : fallback d ts b with
    | ok r =>
      rw [hfb] at hf
      rcases hf with ⟨h1, h2⟩ | ⟨h1, h2⟩
      · subst h2; exact Or.inl ⟨rfl, tb, htb, h1⟩
      · exact Or.inr ⟨b, tb, rfl, htb, h1, h2⟩
    | error e =>
      rw [hfb] at hf
      exact ⟨hf.1, Or.inr ⟨b, tb, rfl, htb, hf.2.1, hf.2.2⟩⟩

/-- Whatever `best_trial` returns is a COMPLETE trial of the study. -/
theorem best_is_complete (alg : Dir → List BTrial → Option Nat) (d : Dir) (ts : List BTrial)
    (hopt : OptResult d anyTrial ts (alg d ts)) (r : Nat) (h : studyBestTrial alg [d] ts = .ok r) :
    ∃ v, CompleteAt anyTrial ts r v := by
  have := study_best_trial_spec alg d ts hopt
  rw [h] at this
  rcases this with ⟨h1, _⟩ | ⟨_, _, _, _, _, v, hv, _⟩
  · rw [h1] at hopt
    obtain ⟨v, hv, _⟩ := hopt
    exact ⟨v, hv⟩
  · exact ⟨v, completeAt_mono _ _ _ _ hv⟩

/-- A returned trial that records no constraint values is the storage's answer,
i.e. no COMPLETE trial beats it. -/
theorem best_unconstrained_is_optimum (alg : Dir → List BTrial → Option Nat) (d : Dir) (ts : List BTrial)
    (hopt : OptResult d anyTrial ts (alg d ts)) (r : Nat) (t : BTrial)
    (h : studyBestTrial alg [d] ts = .ok r) (ht : ts[r]? = some t) (hc : t.cons.get = none) :
    IsBest d anyTrial ts r := by
  have := study_best_trial_spec alg d ts hopt
  rw [h] at this
  rcases this with ⟨h1, _⟩ | ⟨_, _, _, _, _, v, ⟨t', ht', _, hf, _⟩, _⟩
  · rw [h1] at hopt; exact hopt
  · rw [ht] at ht'; cases ht'
    simp [feasible, hc] at hf

/-- When the returned trial has recorded (NaN-free) constraint values, it is
feasible and no feasible COMPLETE trial beats it. -/
theorem constraint_fallback_feasible (alg : Dir → List BTrial → Option Nat) (d : Dir) (ts : List BTrial)
    (hopt : OptResult d anyTrial ts (alg d ts)) (r : Nat) (t : BTrial) (cs : List XVal)
    (h : studyBestTrial alg [d] ts = .ok r) (ht : ts[r]? = some t) (hc : t.cons = .vals cs)
    (hnan : ∀ x ∈ cs, x ≠ .nan) :
    feasible t = true ∧ IsBest d feasible ts r := by
  have := study_best_trial_spec alg d ts hopt
  rw [h] at this
  rcases this with ⟨h1, t', ht', hv⟩ | ⟨_, _, _, _, _, hb⟩
  · rw [ht] at ht'; cases ht'
    have hfeas : feasible t = true := by
      simp only [violated, hc, Cons.get, violatedList_iff_not_feasible cs hnan, Bool.not_eq_false'] at hv
      simp only [feasible, hc, Cons.get, hv]
    refine ⟨hfeas, ?_⟩
    rw [h1] at hopt
    obtain ⟨v, ⟨t', ht', hs, _, hval⟩, hall⟩ := hopt
    rw [ht] at ht'; cases ht'
    exact ⟨v, ⟨t, ht, hs, hfeas, hval⟩, fun j w hj => hall j w (completeAt_mono _ _ _ _ hj)⟩
  · refine ⟨?_, hb⟩
    obtain ⟨v, ⟨t', ht', _, hf, _⟩, _⟩ := hb
    rw [ht] at ht'; cases ht'; exact hf

/-- If the best-valued trial records a violation and a feasible COMPLETE
trial exists, `best_trial` returns (no `ValueError`) a feasible trial that no feasible COMPLETE trial beats; if
none exists it raises `ValueError`. -/
theorem best_trial_feasible_when_possible (alg : Dir → List BTrial → Option Nat) (d : Dir) (ts : List BTrial)
    (hopt : OptResult d anyTrial ts (alg d ts)) (b : Nat) (tb : BTrial)
    (hb : alg d ts = some b) (htb : ts[b]? = some tb) (hviol : violated tb = true) :
    ((∃ j w, CompleteAt feasible ts j w) → ∃ r, studyBestTrial alg [d] ts = .ok r ∧ IsBest d feasible ts r) ∧
    ((∀ j w, ¬ CompleteAt feasible ts j w) → studyBestTrial alg [d] ts = .error .valueError) := by
  have hspec := study_best_trial_spec alg d ts hopt
  cases hres : studyBestTrial alg [d] ts with
  | ok r =>
    rw [hres] at hspec
    -- the storage's trial is violated, so `r` comes from the fallback
    have hbest : IsBest d feasible ts r := by
      rcases hspec with ⟨h1, t, ht, hv⟩ | ⟨_, _, _, _, _, hbest⟩
      · rw [hb] at h1; cases h1
        rw [htb] at ht; cases ht
        rw [hviol] at hv; cases hv
      · exact hbest
    refine ⟨fun _ => ⟨r, rfl, hbest⟩, fun hno => ?_⟩
    obtain ⟨v, hv, _⟩ := hbest
    exact absurd hv (hno r v)
  | error e =>
    rw [hres] at hspec
    obtain ⟨rfl, hno⟩ := hspec
    refine ⟨fun ⟨j, w, hjw⟩ => ?_, fun _ => rfl⟩
    rcases hno with h1 | ⟨_, _, _, _, _, h1⟩
    · exact absurd (completeAt_mono _ _ _ _ hjw) (h1 j w)
    · exact absurd hjw (h1 j w)

/-- `best_trial` of a multi-objective study raises `RuntimeError`. -/
theorem best_trial_multi_objective_raises (alg : Dir → List BTrial → Option Nat) (d1 d2 : Dir) (ds : List Dir)
    (ts : List BTrial) : studyBestTrial alg (d1 :: d2 :: ds) ts = .error .runtimeError := rfl

/-- The three storage algorithms satisfy the hypothesis of the theorems above after every history. -/
theorem storage_answers_are_optimal (d : Dir) (evs : List Ev) :
    OptResult d anyTrial (Mem.run [d] evs).trials (scanBest d (Mem.run [d] evs).trials) ∧
    OptResult d anyTrial (Mem.run [d] evs).trials ((fun _ _ => (Mem.run [d] evs).best) d (Mem.run [d] evs).trials) ∧
    OptResult d anyTrial (Mem.run [d] evs).trials (rdbBest d (Mem.run [d] evs).trials) :=
  ⟨scan_is_optimal d _, incremental_is_optimal d evs, rdb_is_optimal_history d evs⟩

-- the best-valued trial (0) violates its constraint → the best feasible one (2) is returned
example : studyBestTrial scanBest [.minimize]
    [⟨.complete, some [.fin 0], .vals [.fin 1]⟩, ⟨.complete, some [.fin 1], .absent⟩,
     ⟨.complete, some [.fin 2], .vals [.fin 0, .ninf]⟩, ⟨.complete, some [.fin 3], .vals [.fin (-1)]⟩] = .ok 2 := by decide
-- … and ValueError when nothing is feasible
example : studyBestTrial scanBest [.maximize]
    [⟨.complete, some [.pinf], .vals [.pinf]⟩, ⟨.complete, some [.fin 1], .null⟩] = .error .valueError := by decide
-- a best-valued trial without recorded constraints is returned as is (upstream: undefined)
example : studyBestTrial scanBest [.minimize]
    [⟨.complete, some [.fin 0], .absent⟩, ⟨.complete, some [.fin 1], .vals [.fin 0]⟩] = .ok 0 := by decide

-- NaN among the recorded constraints: `any(x > 0)` and `all(x <= 0)` are both False, so `Study.best_trial` treats the
-- trial as not violating while `_get_feasible_trials` treats it as infeasible — this is why
-- `constraint_fallback_feasible` asks for NaN-free constraint values.
example : violatedList [.nan, .fin (-1)] = false ∧ feasibleList [.nan, .fin (-1)] = false := by decide
-- the hypothesis of `constraint_fallback_feasible` is satisfiable and its conclusion is not trivial
example : violatedList [.fin 0, .ninf] = false ∧ feasibleList [.fin 0, .ninf] = true ∧ violatedList [.fin 0, .pinf] = true := by decide

/-- On a lex-sorted duplicate-free array each path of `_is_pareto_front_for_unique_sorted` (1-D here, 2-D and N-D in
the next two theorems) flags exactly the rows that no row dominates. -/
theorem pareto_front_1d (u : List Point) (hrect : Rect 1 u) (hs : LexSorted u) :
    front1d u = u.map (fun r => !dominatedIn u r) := front1d_exact u hrect hs
theorem pareto_front_2d (u : List Point) (hrect : Rect 2 u) (hs : LexSorted u) :
    front2d u = u.map (fun r => !dominatedIn u r) := front2d_exact u hrect hs
theorem pareto_front_nd (k : Nat) (u : List Point) (hrect : Rect (k + 1) u) (hs : LexSorted u) :
    frontNd u = u.map (fun r => !dominatedIn u r) := frontNd_exact (k + 1) u hrect hs

section
-- the lexicographic order is total on rows of any length, so `h` below is not used
set_option linter.unusedVariables false
/-- The model of `np.unique(axis=0)` returns the same rows, strictly increasing in lexicographic order. -/
theorem unique_lexsort_spec (n : Nat) (rows : List Point) (h : Rect n rows) :
    LexSorted (uniqueLexsort rows) ∧ ∀ x, x ∈ uniqueLexsort rows ↔ x ∈ rows :=
  ⟨uniqueLexsort_sorted rows, mem_uniqueLexsort rows⟩
end

/-- `_is_pareto_front(loss_values, assume_unique_lexsorted=False)` flags row `i` iff no row
dominates it — for any number `k+1 ≥ 1` of columns, with duplicates, ties in the first column and ±∞. -/
theorem pareto_front_exact (k : Nat) (rows : List Point) (hrect : Rect (k + 1) rows) :
    isParetoFront rows = rows.map (fun r => !dominatedIn rows r) := isParetoFront_exact (k + 1) rows hrect

example : isParetoFront [[.fin 1, .fin 2], [.fin 1, .fin 2], [.fin 1, .fin 3], [.fin 0, .pinf], [.ninf, .pinf], [.fin 2, .fin 2]]
    = [true, true, false, false, true, false] := by decide
example : isParetoFront [[.fin 1], [.fin 0], [.fin 0], [.pinf]] = [false, true, true, false] := by decide
example : Rect 3 [[.fin 1, .fin 2, .fin 3], [.fin 1, .fin 3, .fin 2], [.fin 2, .fin 2, .fin 3], [.fin 1, .fin 2, .fin 3]] := by decide
example : dominatedIn [[.fin 1, .fin 2, .fin 3], [.fin 1, .fin 3, .fin 2], [.fin 2, .fin 2, .fin 3]] [.fin 2, .fin 2, .fin 3] = true := by decide
-- the N-D path (three columns), evaluated through the theorem
example : isParetoFront [[.fin 1, .fin 2, .fin 3], [.fin 1, .fin 3, .fin 2], [.fin 2, .fin 2, .fin 3], [.fin 1, .fin 2, .fin 3], [.ninf, .pinf, .pinf]]
    = [true, true, false, true, true] := by
  rw [pareto_front_exact 2 _ (by decide)]; decide

/-- Negating a maximised objective turns direction-aware dominance into plain dominance of loss rows. -/
theorem normalize_dominance (dirs : List Dir) (a b : List EVal) :
    dominates (normRow dirs a) (normRow dirs b) = domDir dirs a b := dominates_normRow dirs a b

section
-- `bestTrials_eq_spec` holds for every list of directions, so `k` and `hd` below are not used
set_option linter.unusedVariables false
/-- List form: on a well-formed history of a study with `k+1` objectives `Study.best_trials`
does not raise and returns, in number order, exactly the eligible trials (COMPLETE; feasible if any trial of the
study carries the constraints key) that no eligible trial dominates under the study's directions. -/
theorem best_trials_exact (k : Nat) (dirs : List Dir) (hd : dirs.length = k + 1) (ts : List BTrial)
    (hwf : WF dirs.length ts) : bestTrials dirs ts = some (paretoSpec dirs ts) :=
  bestTrials_eq_spec dirs ts hwf
end

/-- Trial `i` is returned iff it is eligible and no eligible trial dominates it. -/
theorem best_trials_membership (k : Nat) (dirs : List Dir) (hd : dirs.length = k + 1) (ts : List BTrial)
    (hwf : WF dirs.length ts) (i : Nat) :
    (∃ l, bestTrials dirs ts = some l ∧ i ∈ l) ↔
      ∃ t, ts[i]? = some t ∧ eligible ts t = true ∧
        ∀ (j : Nat) (t' : BTrial), ts[j]? = some t' → eligible ts t' = true → domDir dirs (vals t') (vals t) = false := by
  rw [best_trials_exact k dirs hd ts hwf]
  have hdom : ∀ t, dominatedBy dirs ts t = false ↔
      ∀ (j : Nat) (t' : BTrial), ts[j]? = some t' → eligible ts t' = true → domDir dirs (vals t') (vals t) = false := by
    intro t
    simp only [dominatedBy, List.any_eq_false, List.mem_iff_getElem?, Bool.and_eq_true, not_and, Bool.not_eq_true]
    exact ⟨fun h j t' hj => h t' ⟨j, hj⟩, fun h t' ⟨j, hj⟩ => h j t' hj⟩
  simp only [Option.some.injEq, exists_eq_left', paretoSpec, List.mem_map, List.mem_filter, List.mem_zipIdx_iff_getElem?,
    Bool.and_eq_true, Bool.not_eq_true', hdom]
  constructor
  · rintro ⟨⟨t, j⟩, ⟨hmem, he, hnd⟩, rfl⟩; exact ⟨t, hmem, he, hnd⟩
  · rintro ⟨t, ht, he, hall⟩; exact ⟨(t, i), ⟨ht, he, hall⟩, rfl⟩

/-- `best_trials_exact` after every history built through the Study API. -/
theorem best_trials_exact_history (k : Nat) (dirs : List Dir) (hd : dirs.length = k + 1) (evs : List Ev) :
    bestTrials dirs (Mem.run dirs evs).trials = some (paretoSpec dirs (Mem.run dirs evs).trials) :=
  best_trials_exact k dirs hd _ (history_wellformed dirs evs)

-- duplicates are both returned; the infeasible best point is dropped once some trial has the constraints key;
-- a trial without the key is then not eligible
example : bestTrials [.minimize, .maximize]
    [⟨.complete, some [.fin 0, .fin 9], .vals [.fin 1]⟩, ⟨.complete, some [.fin 1, .fin 5], .vals [.fin 0]⟩,
     ⟨.complete, some [.fin 1, .fin 5], .vals []⟩, ⟨.complete, some [.fin 1, .fin 4], .vals [.fin 0]⟩,
     ⟨.complete, some [.ninf, .ninf], .vals [.ninf]⟩, ⟨.complete, some [.ninf, .pinf], .absent⟩,
     ⟨.pruned, some [.ninf, .pinf], .vals [.fin 0]⟩] = some [1, 2, 4] := by decide
example : bestTrials [.minimize, .maximize]
    [⟨.complete, some [.fin 0, .fin 9], .absent⟩, ⟨.complete, some [.fin 1, .fin 5], .absent⟩] = some [0] := by decide

end OptunaVerif.C12
