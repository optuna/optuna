import OptunaVerif.Props.C16
import OptunaVerif.Props.C16ReportGen
/-!
# C16 — Hyperband: the best trial OF ITS BRACKET is never pruned (over all histories)

`strictly_best_never_pruned` (Props/C16.lean) protects a trial that is strictly better than every other trial of the STUDY.
Hyperband delegates to the successive-halving pruner of the trial's bracket on the BRACKET VIEW
(`hbPrune` → `shPrune … (bracketTrials …)`; the text of the source's delegation is pinned by
`C16ReportGen.hyperband_delegates_to_bracket_view`), so the weaker
hypothesis "strictly better than every other trial of ITS OWN BRACKET" suffices.  This is the theorem behind the oracle line
`strictly-best-in-bracket` of `verif/props/c16.py`.
-/
namespace OptunaVerif.C16
open OptunaVerif.Pruners

/-- trial numbers `m` and `n` fall into the same bracket of the (initialised) Hyperband pruner `c` -/
def SameBracket (c : HBCfg) (crc : Nat → Nat) (m n : Nat) : Prop :=
  ∃ nb b, c.nBrackets = some nb ∧ bracketId nb c.eta (crc m) = some b ∧ bracketId nb c.eta (crc n) = some b

/-- Trial `n` (with content `t`) is **strictly best in its bracket**: none of its reported values is NaN, and each of them is
strictly better than every (non-NaN) value reported so far by any other trial OF THE SAME BRACKET.  Trials of other brackets
are unconstrained.  (`StrictlyBest` implies it, `strictlyBest_inBracket`.) -/
def StrictlyBestInBracket (c : HBCfg) (crc : Nat → Nat) (s : Study) (n : Nat) (t : PTrial) : Prop :=
  s.trials[n]? = some t ∧ (∀ v ∈ interValues t, xisNan v = false) ∧
  ∀ (m : Nat) (t' : PTrial), m ≠ n → s.trials[m]? = some t' → SameBracket c crc m n →
    ∀ u ∈ interValues t', xisNan u = false → ∀ v ∈ interValues t, Better s.dir v u

theorem strictlyBest_inBracket (c : HBCfg) (crc : Nat → Nat) (s : Study) (n : Nat) (t : PTrial)
    (h : StrictlyBest s n t) : StrictlyBestInBracket c crc s n t :=
  ⟨h.1, h.2.1, fun m t' hmn hm _ => h.2.2 m t' hmn hm⟩

theorem hyperband_best_in_bracket_not_pruned_of_wf (crc : Nat → Nat) (s : Study) (n : Nat) (t : PTrial) (c : HBCfg)
    (hboot : c.bootstrap = 0) (hwf : WFStudy s) (hb : StrictlyBestInBracket c crc s n t) :
    (prune crc s n t (.hyperband c)).prune = false := by
  obtain ⟨hn, hown, hothers⟩ := hb
  exact hbPrune_not_pruned fun nb b hnb hbn =>
    sh_strictly_best_among (fun m => bracketId nb c.eta (crc m) = some b) _ s n t _
      (fun t' ht' => mem_bracketTrials ht') hwf hn hown
      (fun m t' hmn hm hP => hothers m t' hmn hm ⟨nb, b, hnb, hP, hbn⟩) hboot

section
-- the proof rests on `bootstrap_count = 0` and on the well-formedness of reachable studies alone, so `hv` below is not used
set_option linter.unusedVariables false
/-- After *any* finite history of `ask` / `report` / `should_prune` (each with any
pruner) / `tell` calls on a fresh study — any direction, any values including NaN and ±inf, any steps — a trial none of whose
reported values is NaN and each of whose reported values is strictly better than every non-NaN value reported so far by the
OTHER TRIALS OF ITS OWN BRACKET (`StrictlyBestInBracket`) is not pruned by a
Hyperband pruner (valid configuration, `bootstrap_count = 0`), whatever the trials of the other brackets reported. -/
theorem hyperband_best_in_bracket_never_pruned (crc : Nat → Nat) (d : Dir) (ops : List Op) (n : Nat) (t : PTrial)
    (c : HBCfg) (hv : c.Valid) (hboot : c.bootstrap = 0)
    (hb : StrictlyBestInBracket c crc (after crc (Study.init d) ops) n t) :
    (prune crc (after crc (Study.init d) ops) n t (.hyperband c)).prune = false :=
  hyperband_best_in_bracket_not_pruned_of_wf crc _ n t c hboot (reachable_wf crc d ops) hb
end

/-- Nor is it pruned by a patient pruner around that Hyperband pruner. -/
theorem patient_hyperband_best_in_bracket_never_pruned (crc : Nat → Nat) (d : Dir) (ops : List Op) (n : Nat) (t : PTrial)
    (c : HBCfg) (k : Nat) (dl : Rat) (hv : c.Valid) (hboot : c.bootstrap = 0)
    (hb : StrictlyBestInBracket c crc (after crc (Study.init d) ops) n t) :
    (prune crc (after crc (Study.init d) ops) n t (.patient (.hyperband c) k dl)).prune = false :=
  patient_not_pruned_of_wrapped crc _ n t _ k dl (hyperband_best_in_bracket_never_pruned crc d ops n t c hv hboot hb)

/-- The same, as seen through `should_prune()`: the call never answers `True`. -/
theorem hyperband_best_in_bracket_should_prune_false (crc : Nat → Nat) (d : Dir) (ops : List Op) (n : Nat) (t : PTrial)
    (c : HBCfg) (hv : c.Valid) (hboot : c.bootstrap = 0)
    (hb : StrictlyBestInBracket c crc (after crc (Study.init d) ops) n t) :
    (step crc (after crc (Study.init d) ops) (.shouldPrune n (.hyperband c))).2 ≠ some true :=
  should_prune_ne_true hb.1 (hyperband_best_in_bracket_never_pruned crc d ops n t c hv hboot hb)

/-- The same after ANY sequence of calls made through the GENERATED glue
(`Trial.report` / `Trial.should_prune` as translated from the source, `C16ReportGen.stepG_eq`). -/
theorem gen_hyperband_best_in_bracket_never_pruned_e2e (crc : Nat → Nat) (d : Dir) (ops : List Op) (n : Nat) (t : PTrial)
    (c : HBCfg) (hv : c.Valid) (hboot : c.bootstrap = 0)
    (hb : StrictlyBestInBracket c crc
      (ReportIR.afterG Generated.ReportMethods.reportProg crc (Study.init d) ops) n t) :
    (ReportIR.stepG Generated.ReportMethods.reportProg crc
      (ReportIR.afterG Generated.ReportMethods.reportProg crc (Study.init d) ops) (.shouldPrune n (.hyperband c))).2 ≠ some true := by
  rw [C16ReportGen.afterG_eq] at hb ⊢
  rw [C16ReportGen.stepG_eq]
  exact hyperband_best_in_bracket_should_prune_false crc d ops n t c hv hboot hb

/-- two brackets (`n_brackets = 2`, η = 2: budgets `[2, 2]`); `crc32` puts trials 0 and 2 into bracket 0 and trial 1 into bracket 1 -/
def demoCfg : HBCfg := ⟨1, 2, 0, some 2⟩
def demoCrc : Nat → Nat := fun n => if n = 1 then 2 else 0
/-- trial 1 reports 1 (and completes its rung 0), trial 0 reports 5 (rung 0), trial 2 reports 3 -/
def demoOps : List Op := [.ask, .ask, .ask, .report 1 2 (.fin 1), .shouldPrune 1 (.hyperband demoCfg),
  .report 0 1 (.fin 5), .shouldPrune 0 (.hyperband demoCfg), .report 2 1 (.fin 3)]
def demoTrial2 : PTrial := ⟨.running, [(1, .fin 3)], []⟩

theorem demo_state : after demoCrc (Study.init .minimize) demoOps =
    ⟨.minimize, [⟨.running, [(1, .fin 5)], [(0, .fin 5)]⟩, ⟨.running, [(2, .fin 1)], [(0, .fin 1)]⟩, demoTrial2]⟩ := by
  have h1 : (after demoCrc (Study.init .minimize) demoOps).dir = .minimize := by decide +kernel
  have h2 : (after demoCrc (Study.init .minimize) demoOps).trials =
      [⟨.running, [(1, .fin 5)], [(0, .fin 5)]⟩, ⟨.running, [(2, .fin 1)], [(0, .fin 1)]⟩, demoTrial2] := by decide +kernel
  cases h : after demoCrc (Study.init .minimize) demoOps with
  | mk d ts => rw [h] at h1 h2; simp only at h1 h2; rw [h1, h2]

/-- Trial 2 (value 3) is the best of bracket 0 (trial 0 has 5) but NOT the best of the study (trial 1 of bracket 1 has 1):
the hypothesis of `hyperband_best_in_bracket_never_pruned` holds where the one of `strictly_best_never_pruned` fails; Hyperband
does not prune it — while the successive-halving pruner of its bracket run on ALL trials (the bracket filter dropped) would. -/
example :
    StrictlyBestInBracket demoCfg demoCrc (after demoCrc (Study.init .minimize) demoOps) 2 demoTrial2 ∧
    ¬ StrictlyBest (after demoCrc (Study.init .minimize) demoOps) 2 demoTrial2 ∧
    (prune demoCrc (after demoCrc (Study.init .minimize) demoOps) 2 demoTrial2 (.hyperband demoCfg)).prune = false ∧
    (shPrune { minResource := some 1, eta := 2, rate := 0, bootstrap := 0 } .minimize
      (after demoCrc (Study.init .minimize) demoOps).trials demoTrial2).prune = true := by
  have hsb : StrictlyBestInBracket demoCfg demoCrc (after demoCrc (Study.init .minimize) demoOps) 2 demoTrial2 := by
    rw [demo_state]
    refine ⟨rfl, by decide +kernel, ?_⟩
    intro m t' hmn hm hsame u hu hun v hv
    match m, hmn, hm, hsame with
    | 0, _, hm, _ =>
      cases hm
      simp only [interValues, demoTrial2, List.map_cons, List.map_nil, List.mem_singleton] at hu hv
      subst hu; subst hv
      show xlt (.fin 3) (.fin 5) = true
      decide +kernel
    | 1, _, _, ⟨nb, b, hnb, h1, h2⟩ =>
      have : nb = 2 := by cases hnb; rfl
      subst this
      have e1 : bracketId 2 demoCfg.eta (demoCrc 1) = some 1 := by decide +kernel
      have e2 : bracketId 2 demoCfg.eta (demoCrc 2) = some 0 := by decide +kernel
      rw [e1] at h1; rw [e2] at h2
      cases h1; cases h2
    | 2, hmn, _, _ => exact absurd rfl hmn
    | k + 3, _, hm, _ => simp at hm
  refine ⟨hsb, ?_, hyperband_best_in_bracket_never_pruned demoCrc .minimize demoOps 2 demoTrial2 demoCfg
    ⟨by decide, by decide⟩ rfl hsb, ?_⟩
  · rw [demo_state]
    intro h
    have := h.2.2 1 _ (by decide) rfl (.fin 1) (by simp [interValues]) rfl (.fin 3) (by simp [interValues, demoTrial2])
    have h' : xlt (.fin 3) (.fin 1) = true := this
    revert h'
    decide +kernel
  · rw [demo_state]
    decide +kernel

end OptunaVerif.C16
