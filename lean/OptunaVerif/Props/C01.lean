import OptunaVerif.Lemmas.Storage
/-!
# C01 — the storage contract (property theorems)

Every theorem quantifies over **all** states reachable by any finite history of `BaseStorage`
calls (`after s ops`, no bound on length, ids or sizes) of the contract model `Storage.step`.
The backends are tied to this model call by call by `verif/props/c01.py`.
-/
namespace OptunaVerif.C01
open OptunaVerif.Storage

def after (s : Spec) (ops : List Op) : Spec := ops.foldl (fun s op => (step s op).1) s

theorem after_cons (s : Spec) (op : Op) (ops : List Op) :
    after s (op :: ops) = after (step s op).1 ops := rfl

theorem writable_ok (s : Spec) (tid : Nat) (t : TrialS) (h : s.writable tid = .ok t) :
    s.trials[tid]? = some t ∧ t.state.isFinished = false := by
  obtain ⟨h1, h2⟩ := (writable_ok_iff s tid t).1 h
  exact ⟨trial?_some h1, h2⟩

theorem writable_live (s : Spec) (tid : Nat) (t : TrialS) (h : s.writable tid = .ok t) :
    (s.study? t.study).isSome = true :=
  ((trial?_some_iff s tid t).1 ((writable_ok_iff s tid t).1 h).1).2

theorem studies_length_mono (s : Spec) (op : Op) :
    s.studies.length ≤ (step s op).1.studies.length := by
  cases step_studies s op with
  | same h => simp [h]
  | append st h _ => simp [h]
  | delete sid h _ => simp [h]
  | upd sid f h _ => simp [h]

theorem trials_length_mono (s : Spec) (op : Op) :
    s.trials.length ≤ (step s op).1.trials.length := by
  cases step_trials s op with
  | same h => simp [h]
  | append t h _ _ => simp [h]
  | upd tid f t0 h _ _ => simp [h]

theorem live_study_back (s : Spec) (op : Op) (i : Nat) (a : StudyS) (h : (step s op).1.studies[i]? = some (some a)) :
    (∃ a0, s.studies[i]? = some (some a0) ∧ a0.name = a.name ∧ a0.directions = a.directions) ∨
      (i = s.studies.length ∧ s.nameTaken a.name = false) := by
  cases step_studies s op with
  | same e => exact .inl ⟨a, e ▸ h, rfl, rfl⟩
  | append st e hfree =>
    rw [e, getElem?_snoc] at h
    split at h
    · cases h; exact .inr ⟨‹_›, hfree⟩
    · exact .inl ⟨a, h, rfl, rfl⟩
  | delete sid e _ =>
    rw [e, updAt_getElem?] at h
    split at h
    · cases hs : s.studies[i]? <;> simp [hs] at h
    · exact .inl ⟨a, h, rfl, rfl⟩
  | upd sid f e hf =>
    rw [e, updAt_getElem?] at h
    split at h
    · obtain ⟨o, ho, e'⟩ := Option.map_eq_some_iff.1 h
      obtain ⟨a0, rfl, rfl⟩ := Option.map_eq_some_iff.1 e'
      exact .inl ⟨a0, ho, (hf a0).1.symm, (hf a0).2.symm⟩
    · exact .inl ⟨a, h, rfl, rfl⟩

/-- A new study gets an id that no earlier (live or deleted) study ever had. -/
theorem new_study_id_fresh (s s' : Spec) (name : String) (dirs : List Nat) (i : Nat)
    (h : step s (.createStudy name dirs) = (s', .newId i)) :
    i = s.studies.length ∧ s'.study? i = some ⟨name, dirs, [], [], []⟩ := by
  cases wrote_of_eq h rfl (fun _ he => Out.noConfusion he)
  exact ⟨rfl, by rw [study?_append, if_pos rfl]⟩

/-- A new trial gets an id that no earlier trial ever had. -/
theorem new_trial_id_fresh (s s' : Spec) (sid : Nat) (tm : Option Template) (ir : Bool) (i : Nat)
    (h : step s (.createTrial sid tm ir) = (s', .newId i)) : i = s.trials.length := by
  cases wrote_of_eq h rfl (fun _ he => Out.noConfusion he)
  rfl

/-- `sid` was created once and has been deleted. -/
def Dead (s : Spec) (sid : Nat) : Prop := s.studies[sid]? = some none

theorem dead_study_none (s : Spec) (sid : Nat) (h : Dead s sid) : s.study? sid = none := by
  simp [Spec.study?, Dead] at *; simp [h]

theorem delete_makes_dead (s s' : Spec) (sid : Nat) (h : step s (.deleteStudy sid) = (s', .unit)) :
    Dead s' sid := by
  cases wrote_of_eq h rfl (fun _ he => Out.noConfusion he) with
  | deleteStudy _ st hst => simp [Dead, updAt_getElem?, (study?_eq_some_iff s sid st).1 hst]

theorem dead_step (s : Spec) (op : Op) (sid : Nat) (h : Dead s sid) : Dead (step s op).1 sid := by
  unfold Dead at *
  have hlt : sid < s.studies.length := (List.getElem?_eq_some_iff.1 h).1
  cases step_studies s op with
  | same h' => rw [h']; exact h
  | append st h' _ => rw [h', List.getElem?_append_left hlt]; exact h
  | delete sid' h' _ =>
    rw [h', updAt_getElem?]
    split <;> simp [h]
  | upd sid' f h' _ =>
    rw [h', updAt_getElem?]
    split <;> simp [h]

theorem dead_forever (s : Spec) (ops : List Op) (sid : Nat) (h : Dead s sid) :
    Dead (after s ops) sid :=
  List.foldlRecOn (motive := (Dead · sid)) ops _ h fun s h op _ => dead_step s op sid h

theorem trial_step (s : Spec) (op : Op) (tid : Nat) (t : TrialS) (h : s.trials[tid]? = some t) :
    ∃ t', (step s op).1.trials[tid]? = some t' ∧ t'.study = t.study ∧ t'.number = t.number ∧
      (t' = t ∨ s.writable tid = .ok t) := by
  cases step_trials s op with
  | same h' => exact ⟨t, h' ▸ h, rfl, rfl, .inl rfl⟩
  | append t1 h' _ _ =>
    exact ⟨t, by rw [h', List.getElem?_append_left (getElem?_lt_length h)]; exact h, rfl, rfl, .inl rfl⟩
  | upd tid' f t0 h' hw hf =>
    rw [h', updAt_getElem?]
    split
    · subst tid'
      cases h.symm.trans (writable_ok s tid t0 hw).1
      exact ⟨f t, by rw [h]; rfl, (hf t).1, (hf t).2, .inr hw⟩
    · exact ⟨t, h, rfl, rfl, .inl rfl⟩

theorem trial_study_step (s : Spec) (op : Op) (tid : Nat) (t : TrialS)
    (h : s.trials[tid]? = some t) :
    ∃ t', (step s op).1.trials[tid]? = some t' ∧ t'.study = t.study ∧ t'.number = t.number :=
  let ⟨t', h1, h2, h3, _⟩ := trial_step s op tid t h
  ⟨t', h1, h2, h3⟩

theorem trial_study_forever (s : Spec) (ops : List Op) (tid : Nat) (t : TrialS)
    (h : s.trials[tid]? = some t) :
    ∃ t', (after s ops).trials[tid]? = some t' ∧ t'.study = t.study ∧ t'.number = t.number := by
  refine List.foldlRecOn (motive := fun s : Spec => ∃ t', s.trials[tid]? = some t' ∧ t'.study = t.study ∧ t'.number = t.number)
    ops _ ⟨t, h, rfl, rfl⟩ ?_
  rintro s ⟨t1, h1, hs1, hn1⟩ op _
  obtain ⟨t2, h2, hs2, hn2⟩ := trial_study_step s op tid t1 h1
  exact ⟨t2, h2, hs2.trans hs1, hn2.trans hn1⟩

/-- **deleted_gone**: after `delete_study`, the study and every trial it had answer `KeyError`
(are not live) in every later state, whatever calls follow. -/
theorem deleted_gone (s : Spec) (ops : List Op) (sid tid : Nat) (t : TrialS)
    (hd : Dead s sid) (ht : s.trials[tid]? = some t) (hs : t.study = sid) :
    (after s ops).study? sid = none ∧ (after s ops).trial? tid = none := by
  have hd' := dead_forever s ops sid hd
  refine ⟨dead_study_none _ _ hd', ?_⟩
  obtain ⟨t', ht', hst', _⟩ := trial_study_forever s ops tid t ht
  unfold Spec.trial?
  rw [ht']
  simp [hst', hs, dead_study_none _ _ hd']

/-- Calls that address a dead study are rejected with `KeyError` and change nothing. -/
theorem dead_study_calls_rejected (s : Spec) (sid : Nat) (h : s.study? sid = none)
    (tm : Option Template) (ir : Bool) (k v : String) (states : Option (List TState)) :
    step s (.createTrial sid tm ir) = (s, .err .keyError) ∧
    step s (.deleteStudy sid) = (s, .err .keyError) ∧
    step s (.setStudyUserAttr sid k v) = (s, .err .keyError) ∧
    step s (.setStudySystemAttr sid k v) = (s, .err .keyError) ∧
    step s (.getAllTrials sid states) = (s, .err .keyError) ∧
    step s (.getNTrials sid states) = (s, .err .keyError) ∧
    step s (.getStudyNameFromId sid) = (s, .err .keyError) ∧
    step s (.getStudyDirections sid) = (s, .err .keyError) ∧
    step s (.getStudyUserAttrs sid) = (s, .err .keyError) ∧
    step s (.getStudySystemAttrs sid) = (s, .err .keyError) ∧
    step s (.getBestTrial sid) = (s, .err .keyError) := by
  simp [step, h]

/-- Calls that address a trial that is not live are rejected with `KeyError`. -/
theorem dead_trial_calls_rejected (s : Spec) (tid : Nat) (h : s.trial? tid = none)
    (name k v : String) (p : Param) (ir : Bool) (st : TState) (vals : Option (List XVal))
    (stp : Int) (x : XVal) :
    step s (.setTrialParam tid name p ir) = (s, .err .keyError) ∧
    step s (.setTrialStateValues tid st vals) = (s, .err .keyError) ∧
    step s (.setTrialInter tid stp x) = (s, .err .keyError) ∧
    step s (.setTrialUserAttr tid k v) = (s, .err .keyError) ∧
    step s (.setTrialSystemAttr tid k v) = (s, .err .keyError) ∧
    step s (.getTrial tid) = (s, .err .keyError) ∧
    step s (.getTrialNumberFromId tid) = (s, .err .keyError) ∧
    step s (.getTrialParam tid name) = (s, .err .keyError) := by
  simp [step, Spec.writable, h]

theorem finished_frozen_step (s : Spec) (op : Op) (tid : Nat) (t : TrialS)
    (h : s.trials[tid]? = some t) (hf : t.state.isFinished = true) :
    (step s op).1.trials[tid]? = some t := by
  obtain ⟨t', h', -, -, rfl | hw⟩ := trial_step s op tid t h
  · exact h'
  · exact absurd hf (by rw [(writable_ok s tid t hw).2]; exact Bool.false_ne_true)

/-- **finished_frozen**: the record of a finished trial is the same in every later state. -/
theorem finished_frozen (s : Spec) (ops : List Op) (tid : Nat) (t : TrialS)
    (h : s.trials[tid]? = some t) (hf : t.state.isFinished = true) :
    (after s ops).trials[tid]? = some t :=
  List.foldlRecOn (motive := fun s : Spec => s.trials[tid]? = some t) ops _ h fun s h op _ => finished_frozen_step s op tid t h hf

/-- Every setter on a finished trial answers `UpdateFinishedTrialError` without changing anything. -/
theorem finished_rejects_writes (s : Spec) (tid : Nat) (t : TrialS) (h : s.trial? tid = some t)
    (hf : t.state.isFinished = true)
    (name k v : String) (p : Param) (ir : Bool) (st : TState) (vals : Option (List XVal))
    (stp : Int) (x : XVal) :
    step s (.setTrialParam tid name p ir) = (s, .err .updateFinished) ∧
    step s (.setTrialStateValues tid st vals) = (s, .err .updateFinished) ∧
    step s (.setTrialInter tid stp x) = (s, .err .updateFinished) ∧
    step s (.setTrialUserAttr tid k v) = (s, .err .updateFinished) ∧
    step s (.setTrialSystemAttr tid k v) = (s, .err .updateFinished) := by
  simp [step, Spec.writable, h, hf]

theorem claim_true_iff_waiting (s : Spec) (tid : Nat) (vals : Option (List XVal)) :
    (step s (.setTrialStateValues tid .running vals)).2 = .bool true ↔
      ∃ t, s.trial? tid = some t ∧ t.state = .waiting := by
  simp only [step, Spec.writable]
  cases h : s.trial? tid with
  | none => simp
  | some t =>
    cases hst : t.state <;> simp [hst, TState.isFinished]

theorem claim_running (s : Spec) (tid : Nat) (vals : Option (List XVal))
    (h : (step s (.setTrialStateValues tid .running vals)).2 = .bool true) :
    ∃ t', (step s (.setTrialStateValues tid .running vals)).1.trial? tid = some t' ∧ t'.state = .running := by
  obtain ⟨s', e, hw⟩ := wrote_of_out h rfl (fun _ he => Out.noConfusion he)
  rw [e]
  cases hw with
  | state _ _ _ t hw =>
    exact ⟨_, (trial?_some_iff _ _ _).2 ⟨updTrial_get_same s tid _ t (writable_ok s tid t hw).1, writable_live s tid t hw⟩, rfl⟩

/-- After a successful claim the trial is RUNNING, so a second claim is answered `False`
(RUNNING→RUNNING included) until somebody puts it back to WAITING. -/
theorem claim_once (s : Spec) (tid : Nat) (vals vals' : Option (List XVal))
    (h : (step s (.setTrialStateValues tid .running vals)).2 = .bool true) :
    (step (step s (.setTrialStateValues tid .running vals)).1
      (.setTrialStateValues tid .running vals')).2 = .bool false := by
  obtain ⟨t', ht', hst'⟩ := claim_running s tid vals h
  generalize (step s (.setTrialStateValues tid .running vals)).1 = s1 at ht'
  have hw2 : s1.writable tid = .ok t' := by
    rw [writable_ok_iff]; exact ⟨ht', by simp [hst', TState.isFinished]⟩
  exact congrArg Prod.snd (Wrote.claimRefused tid vals' t' hw2 (by rw [hst']; decide)).step_eq

def countBefore (s : Spec) (sid i : Nat) : Nat := ((s.trials.take i).filter (fun t => t.study == sid)).length

def Numbered (s : Spec) : Prop :=
  ∀ i t, s.trials[i]? = some t → t.number = countBefore s t.study i

theorem trialsFrom_length (sid : Nat) (l : List TrialS) (i : Nat) :
    (trialsFrom sid l i).length = (l.filter (fun t => t.study == sid)).length := by
  rw [trialsFrom_eq, List.length_map]
  conv => rhs; rw [← List.zipIdx_map_fst i l, List.filter_map, List.length_map]
  rfl

theorem countBefore_eq (s : Spec) (sid i : Nat) :
    countBefore s sid i = ((s.trials.map (·.study)).take i).count sid := by
  rw [countBefore, ← List.map_take, List.count, List.countP_map, List.countP_eq_length_filter]; rfl

theorem numbered_step (s : Spec) (op : Op) (h : Numbered s) : Numbered (step s op).1 := by
  intro i t hi
  cases step_trials s op with
  | same h' => rw [countBefore, h']; exact h i t (h' ▸ hi)
  | append t1 h' hnum _ =>
    rw [countBefore, h']
    rw [h', getElem?_snoc] at hi
    split at hi
    · cases hi; subst i
      rw [List.take_left' rfl, hnum, Spec.trialsOf, trialsFrom_length]
    · rw [List.take_append_of_le_length (Nat.le_of_lt (getElem?_lt_length hi))]; exact h i t hi
  | upd tid f t0 h' _ hf =>
    -- the rewrite keeps the study column, and the study and number of the record
    rw [countBefore_eq, h', map_updAt _ _ _ _ (fun x => x) (fun t => (hf t).1), updAt_id, ← countBefore_eq]
    rw [h', updAt_getElem?] at hi
    split at hi
    · obtain ⟨t', ht', rfl⟩ := Option.map_eq_some_iff.1 hi
      rw [(hf t').1, (hf t').2]; exact h i t' ht'
    · exact h i t hi

/-- **numbers_dense**: in every reachable state, the trial with number `n` of a study is its
`n`-th created trial — numbers are 0,1,2,… in creation order, unique and gap-free per study. -/
theorem numbers_dense (ops : List Op) : Numbered (after init ops) :=
  List.foldlRecOn (motive := Numbered) ops _ (by intro i t h; simp [init] at h) fun s h op _ => numbered_step s op h

/-! ## writes overwrite by key; reads return the last write; other objects are untouched -/

theorem set_user_attr_read (s : Spec) (tid : Nat) (k v : String)
    (h : (step s (.setTrialUserAttr tid k v)).2 = .unit) :
    ∃ t, (step s (.setTrialUserAttr tid k v)).1.trials[tid]? = some t ∧
      t.userAttrs.get? k = some v ∧
      (∀ k', k' ≠ k → t.userAttrs.get? k' = ((s.trials[tid]?).bind (fun t0 => t0.userAttrs.get? k'))) ∧
      (∀ tid', tid' ≠ tid → (step s (.setTrialUserAttr tid k v)).1.trials[tid']? = s.trials[tid']?) ∧
      (step s (.setTrialUserAttr tid k v)).1.studies = s.studies := by
  obtain ⟨s', e, hw⟩ := wrote_of_out h rfl (fun _ he => Out.noConfusion he)
  rw [e]
  cases hw with
  | userAttr _ _ _ t0 hw =>
    obtain ⟨hget, _⟩ := writable_ok s tid t0 hw
    refine ⟨_, updTrial_get_same s tid _ t0 hget, ?_, ?_, ?_, rfl⟩
    · exact AList.get?_set_same _ _ _
    · intro k' hk'
      rw [hget]
      exact AList.get?_set_other _ _ _ _ hk'
    · intro tid' hne
      exact updTrial_get_other s tid tid' _ hne

theorem set_inter_read (s : Spec) (tid : Nat) (stp : Int) (x : XVal)
    (h : (step s (.setTrialInter tid stp x)).2 = .unit) :
    ∃ t, (step s (.setTrialInter tid stp x)).1.trials[tid]? = some t ∧
      t.inter.lookup stp = some x := by
  obtain ⟨s', e, hw⟩ := wrote_of_out h rfl (fun _ he => Out.noConfusion he)
  rw [e]
  cases hw with
  | inter _ _ _ t0 hw =>
    obtain ⟨hget, _⟩ := writable_ok s tid t0 hw
    refine ⟨_, updTrial_get_same s tid _ t0 hget, ?_⟩
    show (setInter t0.inter stp x).lookup stp = some x
    generalize t0.inter = l
    induction l with
    | nil => simp [setInter]
    | cons a r ih =>
      obtain ⟨s1, w⟩ := a
      simp only [setInter]
      split
      · simp
      · rename_i hne
        have : (stp == s1) = false := by
          simp only [beq_eq_false_iff_ne, ne_eq]
          exact fun e => hne e.symm
        simp [List.lookup_cons, this, ih]

/-- **template_stored_fieldwise**: a trial created from a template holds every field of the
template (values, params, attrs, intermediate values incl. NaN/±∞ tokens, timestamps' presence),
its number is the next free one and it belongs to the addressed study. -/
theorem template_stored_fieldwise (s s' : Spec) (sid : Nat) (tm : Template) (ir : Bool) (i : Nat)
    (h : step s (.createTrial sid (some tm) ir) = (s', .newId i)) :
    ∃ t, s'.trial? i = some t ∧ t.study = sid ∧ t.number = (s.trialsOf sid).length ∧
      t.state = tm.state ∧ t.values = tm.values ∧ t.params = tm.params ∧
      t.userAttrs = tm.userAttrs ∧ t.systemAttrs = tm.systemAttrs ∧ t.inter = tm.inter ∧
      t.hasStart = tm.hasStart ∧ t.hasComplete = tm.hasComplete := by
  cases wrote_of_eq h rfl (fun _ he => Out.noConfusion he) with
  | createTrial _ _ _ st hst =>
    refine ⟨mkTrial sid (s.trialsOf sid).length (some tm), ?_, rfl, rfl, rfl, rfl, rfl, rfl, rfl, rfl, rfl, rfl⟩
    exact trial?_appendTrial_self _ _ (by simp [mkTrial, hst])

/-! ## distribution compatibility is an equivalence (so it does not matter which earlier
distribution of a name a backend compares against) -/

theorem compat_refl (a : Dist) : a.compat a = true := Storage.compat_refl a

theorem compat_symm (a b : Dist) (h : a.compat b = true) : b.compat a = true := Storage.compat_symm a b h

theorem compat_trans (a b c : Dist) (h1 : a.compat b = true) (h2 : b.compat c = true) :
    a.compat c = true := Storage.compat_trans a b c h1 h2

/-! ## non-vacuity: a concrete history that exercises the hypotheses above -/

def demoTemplate : Template :=
  { state := .complete, values := some [.pinf], params := [], userAttrs := [("u", "1")],
    systemAttrs := [], inter := [(0, .nan), (3, .ninf)], hasStart := true, hasComplete := true }

def demo : List Op :=
  [ .createStudy "a" [1], .createStudy "b" [2], .createTrial 0 none false,
    .createTrial 1 (some demoTemplate) false, .createTrial 0 (some { demoTemplate with state := .waiting }) false,
    .setTrialStateValues 2 .running none, .setTrialUserAttr 0 "k" "v", .setTrialStateValues 0 .complete (some [.fin 1]),
    .deleteStudy 1 ]

example : Dead (after init demo) 1 := by unfold Dead; decide
example : ((after init demo).trials[0]?).map (fun t => t.state.isFinished) = some true := by decide
example : (step (after init (demo.take 5)) (.setTrialStateValues 2 .running none)).2 = .bool true := by decide
example : (step (after init demo) (.setTrialStateValues 2 .running none)).2 = .bool false := by decide
example : (step (after init demo) (.setTrialUserAttr 0 "k" "w")).2 = .err .updateFinished := by decide
example : (step (after init demo) (.getTrial 1)).2 = .err .keyError := by decide

end OptunaVerif.C01
