import OptunaVerif.Lemmas.HeartbeatInv
import OptunaVerif.Lemmas.Storage
/-!
# C19 — stale-trial recovery fails and retries each dead trial at most once

Theorems about `Model/Heartbeat.lean` (the small-step model of `fail_stale_trials`,
`RetryFailedTrialCallback` and the stale query).  `reach P n as` is the configuration after an
**arbitrary** schedule `as` (any interleaving of sweep steps of `n` workers — for every `n` —, deaths
of workers at any point, and storage calls of everybody else: claims, creations, heartbeats,
finishes, attribute / parameter writes, enqueues, clock ticks), started from the empty study.
`events` is the log of what the sweeps did (`read`, `won`, `lost` = `UpdateFinishedTrialError`
swallowed, `callback`, `enqueued`).
-/
namespace OptunaVerif.C19
open OptunaVerif.Heartbeat

def reach (P : Params) (n : Nat) (as : List Act) : Cfg := run P (init n) as

theorem reach_inv (P : Params) (n : Nat) (as : List Act) : Inv P (reach P n as) :=
  inv_run (inv_init P n) as

theorem reach_snoc (P : Params) (n : Nat) (as : List Act) (a : Act) :
    reach P n (as ++ [a]) = step P (reach P n as) a :=
  run_append P (init n) as [a]

theorem reach_take_succ (P : Params) (n : Nat) {as : List Act} {k : Nat} {a : Act} (hk : as[k]? = some a) :
    reach P n (as.take (k + 1)) = step P (reach P n (as.take k)) a := by
  rw [List.take_add_one, hk]; exact reach_snoc P n _ a

/-- Part (a) of `failed_by_exactly_one`: over the whole run, all workers and all their sweeps together
move a given trial to FAIL at most once. -/
theorem failed_by_at_most_one (P : Params) (n : Nat) (as : List Act) (t : Nat) :
    cnt (Event.isWon t) (reach P n as).events ≤ 1 :=
  (reach_inv P n as).1.wonOnce t

theorem winner_unique (P : Params) (n : Nat) (as : List Act) (t w w' : Nat)
    (h : Event.won w t ∈ (reach P n as).events) (h' : Event.won w' t ∈ (reach P n as).events) : w = w' := by
  cases eq_of_countP_le_one (failed_by_at_most_one P n as t) h h' (by simp [Event.isWon]) (by simp [Event.isWon])
  rfl

/-- Part (b) of `failed_by_exactly_one`: the compare-and-set decides.  When a worker that noticed `t`
reaches it: if `t` is still unfinished, exactly this step moves it to FAIL and the worker records
the win; if it is finished (somebody else was first), the worker gets `UpdateFinishedTrialError`,
changes nothing and does not put `t` on its callback list. -/
theorem cas_decides (P : Params) (c : Cfg) (w t : Nat) (ord todo won : List Nat) (x : HTrial)
    (hw : c.workers[w]? = some (.failing (t :: todo) won)) (hx : c.trials[t]? = some x) :
    (x.core.state.isFinished = false →
        (sweepStep P c w ord).events = .won w t :: c.events ∧
        (sweepStep P c w ord).trials[t]? = some (setState .fail x) ∧
        (sweepStep P c w ord).workers[w]? = some (Phase.norm P.hasCb (.failing todo (won ++ [t])))) ∧
    (x.core.state.isFinished = true →
        (sweepStep P c w ord).events = .lost w t :: c.events ∧
        (sweepStep P c w ord).trials = c.trials ∧
        (sweepStep P c w ord).workers[w]? = some (Phase.norm P.hasCb (.failing todo won))) := by
  constructor
  · intro hnf
    rw [sweepStep_of_move hw (.won t todo won x hx (by simp [hnf]))]
    exact ⟨rfl, updAt_self _ _ _ _ hx, updAt_self _ _ _ _ hw⟩
  · intro hf
    rw [sweepStep_of_move hw (.lost t todo won x hx hf)]
    exact ⟨rfl, rfl, updAt_self _ _ _ _ hw⟩

/-- Part (c) of `failed_by_exactly_one`: once a worker has dealt with a noticed trial — won it or lost
it — the trial is finished (after a win: FAIL), now and in every later configuration. -/
theorem noticed_ends_finished (P : Params) (n : Nat) (as : List Act) (w t : Nat) :
    (Event.won w t ∈ (reach P n as).events → ∃ x, (reach P n as).trials[t]? = some x ∧ x.core.state = .fail) ∧
    (Event.lost w t ∈ (reach P n as).events →
      ∃ x, (reach P n as).trials[t]? = some x ∧ x.core.state.isFinished = true) :=
  ⟨fun h => (reach_inv P n as).1.evOk _ h, fun h => (reach_inv P n as).1.evOk _ h⟩

/-- Part (d) of `failed_by_exactly_one`: only the winner runs the callback: every callback invocation for
`t` was made by the one worker whose compare-and-set moved `t` to FAIL. -/
theorem callback_only_by_winner (P : Params) (n : Nat) (as : List Act) (w t : Nat) (b : Bool)
    (h : Event.callback w t b ∈ (reach P n as).events) : Event.won w t ∈ (reach P n as).events :=
  (reach_inv P n as).1.evOk _ h

/-- Over any run, the compare-and-set to FAIL succeeds at most once per trial; if worker `w` made it, the trial is
FAIL, every logged winner of `t` and every worker `w'` for which a callback for `t` is logged is `w` itself.  (That
another noticing worker gets `UpdateFinishedTrialError` and does not put `t` on its callback list is `cas_decides`.) -/
theorem failed_by_exactly_one (P : Params) (n : Nat) (as : List Act) (t w : Nat)
    (h : Event.won w t ∈ (reach P n as).events) :
    cnt (Event.isWon t) (reach P n as).events = 1 ∧
    (∃ x, (reach P n as).trials[t]? = some x ∧ x.core.state = .fail) ∧
    (∀ w', Event.won w' t ∈ (reach P n as).events → w' = w) ∧
    (∀ w' b, Event.callback w' t b ∈ (reach P n as).events → w' = w) := by
  refine ⟨?_, (noticed_ends_finished P n as w t).1 h, fun w' h' => winner_unique P n as t w' w h' h, ?_⟩
  · have h1 := failed_by_at_most_one P n as t
    have h2 : 0 < cnt (Event.isWon t) (reach P n as).events := by
      simp only [cnt, List.countP_pos_iff]
      exact ⟨_, h, by simp [Event.isWon]⟩
    omega
  · intro w' b hc
    exact winner_unique P n as t w' w (callback_only_by_winner P n as w' t b hc) h

/-- The storage contract's `set_trial_state_values(t, FAIL)` (`Model/Storage.lean`, tied to every backend by C01) has
the two answers the sweep's compare-and-set is modelled with (`cas_decides`): on a live finished trial it answers
`UpdateFinishedTrialError` and changes nothing; on a live unfinished one it answers `True` and the
trial is FAIL afterwards.  The statement is about `Storage.step` alone: `Model/Heartbeat.lean` does not call it, and no
theorem relates it to `sweepStep`. -/
theorem cas_is_contract (s : Storage.Spec) (tid : Nat) (t : Storage.TrialS) (h : s.trial? tid = some t) :
    (t.state.isFinished = true →
      Storage.step s (.setTrialStateValues tid .fail none) = (s, .err .updateFinished)) ∧
    (t.state.isFinished = false →
      (Storage.step s (.setTrialStateValues tid .fail none)).2 = .bool true ∧
      ((Storage.step s (.setTrialStateValues tid .fail none)).1.trials[tid]?).map (·.state) = some .fail) := by
  have hraw : s.trials[tid]? = some t := ((Storage.trial?_some_iff s tid t).1 h).1
  constructor
  · intro hf
    simp [Storage.step, Storage.Spec.writable, h, hf]
  · intro hnf
    simp [Storage.step, Storage.Spec.writable, h, hnf, Storage.Spec.updTrial, updAt_getElem?, hraw]

/-- The failure callback is invoked at most once per trial — over all
workers, sweeps and death points. -/
theorem callback_at_most_once (P : Params) (n : Nat) (as : List Act) (t : Nat) :
    cnt (Event.isCb t) (reach P n as).events ≤ 1 := by
  have h := (reach_inv P n as).2.cbPot t
  have := failed_by_at_most_one P n as t
  omega

/-- A callback never runs for a trial no sweep has failed. -/
theorem callback_needs_win (P : Params) (n : Nat) (as : List Act) (t : Nat) :
    cnt (Event.isCb t) (reach P n as).events ≤ cnt (Event.isWon t) (reach P n as).events := by
  have h := (reach_inv P n as).2.cbPot t
  omega

/-- In the event log: at most one retry trial is enqueued per failed trial. -/
theorem one_retry_per_failure (P : Params) (n : Nat) (as : List Act) (t : Nat) :
    cnt (Event.isEnq t) (reach P n as).events ≤ 1 := by
  have h := (reach_inv P n as).2.enqPot t
  have h2 := cnt_le_of_imp (Event.isCbRetry t) (Event.isCb t) (reach P n as).events (by
    intro e he
    cases e with
    | callback w t' b => cases b <;> simp [Event.isCbRetry, Event.isCb] at he ⊢; exact he
    | _ => simp [Event.isCbRetry] at he)
  have := callback_at_most_once P n as t
  omega

/-- The trial a retry was made for: the last entry of its `retry_history`. -/
def parent (x : HTrial) : Option Nat := x.core.retryHistory.bind (fun h => h.getLast?)

/-- `one_retry_per_failure` read off the state: in every reachable state, two trials that are retries of the
same trial are the same trial. -/
theorem retry_parent_unique (P : Params) (n : Nat) (as : List Act) (t n₁ n₂ : Nat) (y₁ y₂ : HTrial)
    (h₁ : (reach P n as).trials[n₁]? = some y₁) (h₂ : (reach P n as).trials[n₂]? = some y₂)
    (p₁ : parent y₁ = some t) (p₂ : parent y₂ = some t) : n₁ = n₂ := by
  have hI := (reach_inv P n as).1
  have key : ∀ (k : Nat) (y : HTrial), (reach P n as).trials[k]? = some y → parent y = some t →
      ∃ w r, Event.enqueued w t k r ∈ (reach P n as).events := by
    -- `born`: `k`'s history is that of the record `r` of a logged `enqueued w t' k r`; `evOk`: `r = retryOf t' x.core`,
    -- whose history ends in `t'`.  So the parent read off the state is the `t'` of the event.
    intro k y hy hp
    unfold parent at hp
    cases hrh : y.core.retryHistory with
    | none => simp [hrh] at hp
    | some h =>
      simp [hrh] at hp
      obtain ⟨w, t', r, hm, hr⟩ := hI.born k y h hy hrh
      obtain ⟨_, ⟨x, _, _, hrx⟩, _⟩ := hI.evOk _ hm
      have : t' = t := by
        rw [hrx] at hr
        simp [retryOf] at hr
        rw [← hr] at hp
        simpa using hp
      subst this
      exact ⟨w, r, hm⟩
  obtain ⟨w₁, r₁, m₁⟩ := key n₁ y₁ h₁ p₁
  obtain ⟨w₂, r₂, m₂⟩ := key n₂ y₂ h₂ p₂
  -- both events count for `isEnq t`, of which the log holds at most one: they are one event, which names the new trial
  cases eq_of_countP_le_one (one_retry_per_failure P n as t) m₁ m₂ (by simp [Event.isEnq]) (by simp [Event.isEnq])
  rfl

/-- With `max_retry = m`, no trial ever has a `retry_history` longer than
`m`, i.e. a chain of retries of one original trial has at most `m` members. -/
theorem retry_chain_bounded (P : Params) (n : Nat) (as : List Act) (m : Nat) (hm : P.maxRetry = some m)
    (k : Nat) (y : HTrial) (hy : (reach P n as).trials[k]? = some y) : y.core.hist.length ≤ m :=
  (reach_inv P n as).1.bounded m hm k y hy

/-- A trial `k` with a `retry_history` `h` is the retry of a trial
`p < k` that is FAIL, `h` is `p`'s own history followed by `p`, and `failed_trial` is the head of
`h` (the original trial).  A trial without `retry_history` has no `failed_trial`. -/
theorem retry_history_is_chain (P : Params) (n : Nat) (as : List Act) (k : Nat) (y : HTrial)
    (hy : (reach P n as).trials[k]? = some y) :
    match y.core.retryHistory with
    | none => y.core.failedTrial = none
    | some h =>
      y.core.failedTrial = h.head? ∧
      ∃ p x, p < k ∧ (reach P n as).trials[p]? = some x ∧ x.core.state = .fail ∧ h = x.core.hist ++ [p] := by
  have hI := (reach_inv P n as).1
  cases hrh : y.core.retryHistory with
  | none => exact hI.noHist k y hy hrh
  | some h =>
    refine ⟨(hI.headOk k y h hy hrh).1, ?_⟩
    -- the parent and its FAIL record come from the `enqueued` event that `born` gives (the `key` step of `retry_parent_unique`)
    obtain ⟨w, t, r, hm, hr⟩ := hI.born k y h hy hrh
    obtain ⟨hlt, ⟨x, hx, hf, hrx⟩, _⟩ := hI.evOk _ hm
    refine ⟨t, x, hlt, hx, hf, ?_⟩
    rw [hrx] at hr
    simp [retryOf] at hr
    exact hr.symm

/-- The history of trial `k` lists strictly increasing numbers below `k` (so it has no repetition:
a chain never loops). -/
theorem retry_history_increasing (P : Params) (n : Nat) (as : List Act) (k : Nat) (y : HTrial)
    (hy : (reach P n as).trials[k]? = some y) :
    y.core.hist.Pairwise (· < ·) ∧ ∀ a ∈ y.core.hist, a < k := by
  induction k using Nat.strongRecOn generalizing y with
  | _ k ih =>
    have hc := retry_history_is_chain P n as k y hy
    cases hrh : y.core.retryHistory with
    | none => simp [Rec.hist, hrh]
    | some h =>
      rw [hrh] at hc
      obtain ⟨_, p, x, hp, hx, _, hh⟩ := hc
      obtain ⟨ih1, ih2⟩ := ih p hp x hx
      simp only [Rec.hist, hrh, Option.getD_some]
      rw [hh]
      refine ⟨?_, ?_⟩
      · rw [List.pairwise_append]
        refine ⟨ih1, by simp, ?_⟩
        intro a ha b hb
        simp at hb; subst hb
        exact ih2 a ha
      · intro a ha
        rcases List.mem_append.mp ha with ha | ha
        · have := ih2 a ha; omega
        · simp at ha; omega

/-- Every retry that was enqueued is the WAITING copy of the
failed trial *as that trial is recorded (now and for ever)*: same parameters (with distributions),
user attributes and other system attributes (e.g. `fixed_params`), `retry_history` extended by the
failed trial's number, `failed_trial` = the original trial of the chain. -/
theorem retry_carries_params_and_attrs (P : Params) (n : Nat) (as : List Act) (w t k : Nat) (r : Rec)
    (h : Event.enqueued w t k r ∈ (reach P n as).events) :
    ∃ x, (reach P n as).trials[t]? = some x ∧ x.core.state = .fail ∧ r.state = .waiting ∧
      r.params = x.core.params ∧ r.userAttrs = x.core.userAttrs ∧ r.otherSys = x.core.otherSys ∧
      r.retryHistory = some (x.core.hist ++ [t]) ∧ r.failedTrial = some (x.core.failedTrial.getD t) := by
  obtain ⟨_, ⟨x, hx, hf, hr⟩, _⟩ := (reach_inv P n as).1.evOk _ h
  subst hr
  exact ⟨x, hx, hf, rfl, rfl, rfl, rfl, rfl, rfl⟩

/-- What `add_trial` appends: when a worker is inside the callback for `t`
(whatever happened since it took its copy), its next step appends exactly the WAITING copy of the
*current* record of `t`, which is FAIL. -/
theorem enqueue_appends_copy (P : Params) (n : Nat) (as : List Act) (w t : Nat) (snap : Rec)
    (todo ord : List Nat) (hw : (reach P n as).workers[w]? = some (.enqueue t snap todo)) :
    ∃ x, (reach P n as).trials[t]? = some x ∧ x.core.state = .fail ∧
      (step P (reach P n as) (.sweep w ord)).trials =
        (reach P n as).trials ++ [⟨retryOf t x.core, none⟩] := by
  obtain ⟨⟨x, hx, hxs⟩, hf, _⟩ := (reach_inv P n as).2.snapOk w t snap todo hw
  subst hxs
  exact ⟨x, hx, hf, congrArg Cfg.trials (sweepStep_of_move hw (.enqueue t x.core todo))⟩

/-- Each of these makes a trial not stale: no recorded heartbeat, a heartbeat within the grace period, or not RUNNING
(the three ways the hypothesis `hns` of `untouched_if_not_stale` is met; the characterisation of `isStale` is `isStale_iff`). -/
theorem not_stale_cases (g : Nat) (x : HTrial)
    (h : x.hb = none ∨ (∃ a, x.hb = some a ∧ a ≤ g) ∨ x.core.state ≠ .running) : x.isStale g = false := by
  cases hs : x.isStale g with
  | false => rfl
  | true =>
    obtain ⟨h1, a, h2, h3⟩ := (isStale_iff g x).mp hs
    rcases h with h | ⟨b, hb, hle⟩ | h
    · rw [h] at h2; cases h2
    · rw [hb] at h2; cases h2; omega
    · exact absurd h1 h

/-- The stale read notices exactly the trials that are RUNNING with a heartbeat row older than the
grace period, and changes no trial. -/
theorem sweep_reads_exactly_stale (P : Params) (c : Cfg) (w : Nat) (ord : List Nat)
    (hw : c.workers[w]? = some .idle) :
    ∃ ids, (sweepStep P c w ord).workers[w]? = some (Phase.norm P.hasCb (.failing ids [])) ∧
      (sweepStep P c w ord).trials = c.trials ∧
      ∀ t, t ∈ ids ↔ ∃ x, c.trials[t]? = some x ∧ x.core.state = .running ∧ ∃ a, x.hb = some a ∧ P.grace < a := by
  rw [sweepStep_of_move hw .read]
  refine ⟨orderBy ord (staleIds P.grace c.trials), updAt_self _ _ _ _ hw, rfl, fun t => ?_⟩
  simp only [mem_orderBy, mem_staleIds, isStale_iff]

theorem sweep_trials_cases (P : Params) (c : Cfg) (w : Nat) (ord : List Nat) :
    (sweepStep P c w ord).trials = c.trials ∨
    (∃ t todo won x, c.workers[w]? = some (.failing (t :: todo) won) ∧ c.trials[t]? = some x ∧
        ¬ x.core.state.isFinished = true ∧ (sweepStep P c w ord).trials = updAt c.trials t (setState .fail)) ∨
    (∃ y, (sweepStep P c w ord).trials = c.trials ++ [y]) := by
  rcases sweepStep_cases P c w ord with he | ⟨ph, e, tr', ph', hw, hm, he⟩ <;> rw [he]
  · exact .inl rfl
  cases hm with
  | won t todo won x hx hnf => exact .inr (.inl ⟨t, todo, won, x, hw, hx, hnf, rfl⟩)
  | enqueue => exact .inr (.inr ⟨_, rfl⟩)
  | _ => exact .inl rfl

theorem sweep_changes_only_head (P : Params) (c : Cfg) (w : Nat) (ord : List Nat) (t : Nat) (x : HTrial)
    (hx : c.trials[t]? = some x) :
    (sweepStep P c w ord).trials[t]? = some x ∨
      ∃ todo won, c.workers[w]? = some (.failing (t :: todo) won) ∧ ¬ x.core.state.isFinished = true := by
  rcases sweep_trials_cases P c w ord with h | ⟨t', todo, won, x', hw, hx', hnf, h⟩ | ⟨y, h⟩
  · left; rw [h]; exact hx
  · by_cases he : t = t'
    · subst he; rw [hx] at hx'; cases hx'
      exact .inr ⟨todo, won, hw, hnf⟩
    · left; rw [h, updAt_other _ _ _ _ he]; exact hx
  · left; rw [h, List.getElem?_append_left (getElem?_lt_length hx)]; exact hx

/-- **finished trials are never touched** (in any configuration whatsoever): no sweep step changes
the record or the heartbeat row of a finished trial. -/
theorem finished_untouched (P : Params) (c : Cfg) (w : Nat) (ord : List Nat) (t : Nat) (x : HTrial)
    (hx : c.trials[t]? = some x) (hf : x.core.state.isFinished = true) :
    (sweepStep P c w ord).trials[t]? = some x :=
  (sweep_changes_only_head P c w ord t x hx).resolve_right fun ⟨_, _, _, hnf⟩ => hnf hf

/-- Some worker has read `t` as stale and has not yet tried to fail it. -/
def Pending (c : Cfg) (t : Nat) : Prop := ∃ ph ∈ c.workers, t ∈ ph.failTodo

theorem sweep_touches_only_pending (P : Params) (c : Cfg) (w : Nat) (ord : List Nat) (t : Nat) (x : HTrial)
    (hx : c.trials[t]? = some x) (hp : ¬ Pending c t) : (sweepStep P c w ord).trials[t]? = some x :=
  (sweep_changes_only_head P c w ord t x hx).resolve_right fun ⟨_, _, hw, _⟩ =>
    hp ⟨_, List.mem_of_getElem? hw, by simp [Phase.failTodo]⟩

theorem pending_origin (P : Params) (c : Cfg) (a : Act) (t : Nat) (h : Pending (step P c a) t) :
    Pending c t ∨ ∃ w ord, a = .sweep w ord ∧ c.workers[w]? = some .idle ∧ t ∈ staleIds P.grace c.trials := by
  obtain ⟨ph', hw', ht'⟩ := h
  cases a with
  | env op => exact .inl ⟨ph', hw', ht'⟩
  | die w =>
    rcases mem_updAt hw' with h | ⟨_, _, rfl⟩
    · exact .inl ⟨ph', h, ht'⟩
    · cases ht'
  | sweep w ord =>
    simp only [step] at hw'
    rcases sweepStep_cases P c w ord with he | ⟨ph, e, tr', pn, hw, hm, he⟩ <;> rw [he] at hw'
    · exact .inl ⟨ph', hw', ht'⟩
    -- another worker stands where it stood; `w` itself is in the phase its move ends in
    rcases mem_updAt hw' with h | ⟨_, _, rfl⟩
    · exact .inl ⟨ph', h, ht'⟩
    have ht := (norm_failTodo _ _).subset ht'
    rcases hm.failTodo with hs | ⟨rfl, rfl⟩
    · exact .inl ⟨ph, List.mem_of_getElem? hw, hs.subset ht⟩
    · exact .inr ⟨w, ord, rfl, hw, (mem_orderBy _ _ _).mp ht⟩

theorem init_not_pending (n t : Nat) : ¬ Pending (init n) t := by
  rintro ⟨ph, hw, ht⟩
  cases List.eq_of_mem_replicate hw
  cases ht

/-- Take any schedule `as` and any trial number `t`.  If at every stale
read of the run `t` is not stale at that moment (no heartbeat row, or a heartbeat within the grace
period, or not RUNNING — see `not_stale_cases`), then no sweep step of the whole run, by any worker,
changes trial `t` (neither its record nor its heartbeat row). -/
theorem untouched_if_not_stale (P : Params) (n : Nat) (as : List Act) (t : Nat)
    (hns : ∀ k w ord, as[k]? = some (.sweep w ord) →
      (reach P n (as.take k)).workers[w]? = some .idle →
      t ∉ staleIds P.grace (reach P n (as.take k)).trials) :
    ∀ k w ord x, as[k]? = some (.sweep w ord) → (reach P n (as.take k)).trials[t]? = some x →
      (reach P n (as.take (k + 1))).trials[t]? = some x := by
  have np : ∀ k, ¬ Pending (reach P n (as.take k)) t := by
    intro k
    induction k with
    | zero => exact init_not_pending n t
    | succ k ih =>
      cases hk : as[k]? with
      | none => rwa [List.take_add_one, hk, Option.toList_none, List.append_nil]
      | some a =>
        rw [reach_take_succ P n hk]
        intro hp
        rcases pending_origin P _ a t hp with h | ⟨w, ord, ha, hw, hst⟩
        · exact ih h
        · subst ha; exact hns k w ord hk hw hst
  intro k w ord x hk hx
  rw [reach_take_succ P n hk]
  exact sweep_touches_only_pending P _ w ord t x hx (np k)

/-! `failed_by_exactly_one` starts from a logged win.  Nothing forces a stale trial to be failed at all: every sweeper may
die first, or another actor may finish the trial first (then the sweepers lose their compare-and-set, which is correct).
What makes "at least one" true, on the reachable configurations:
a LIVE sweeper `w` stands at the trial (`failing (t :: todo) won`: it read `t` as stale and its next storage call is the
compare-and-set for `t`), the trial is still unfinished in that configuration (nobody finished it first — for a trial read as
stale this means it is still RUNNING), and `w` takes that step. -/

theorem events_step (P : Params) (c : Cfg) (a : Act) (e : Event) (h : e ∈ c.events) : e ∈ (step P c a).events := by
  cases a with
  | die w => exact h
  | env op => exact h
  | sweep w ord =>
    simp only [step]
    rcases sweepStep_cases P c w ord with he | ⟨_, _, _, _, _, _, he⟩ <;> rw [he]
    · exact h
    · exact List.mem_append_right _ h

theorem events_run (P : Params) (c : Cfg) (as : List Act) (e : Event) (h : e ∈ c.events) : e ∈ (run P c as).events :=
  List.foldlRecOn (motive := fun c => e ∈ c.events) as _ h fun c hc a _ => events_step P c a e hc

theorem reach_append (P : Params) (n : Nat) (as bs : List Act) : reach P n (as ++ bs) = run P (reach P n as) bs :=
  run_append P (init n) as bs

/-- If in a reachable configuration the live sweeper `w` stands at trial `t`, `t` is still
unfinished there, and the next action is `w`'s sweep step, then that step moves `t` to FAIL and logs the win — and the win
stays logged whatever happens afterwards (`more`: any further actions of anybody, deaths included). -/
theorem failed_by_at_least_one (P : Params) (n : Nat) (as : List Act) (w t : Nat) (todo won ord : List Nat) (x : HTrial)
    (more : List Act)
    (hw : (reach P n as).workers[w]? = some (.failing (t :: todo) won))
    (hx : (reach P n as).trials[t]? = some x) (hnf : x.core.state.isFinished = false) :
    Event.won w t ∈ (reach P n (as ++ .sweep w ord :: more)).events ∧
    (reach P n (as ++ [.sweep w ord])).trials[t]? = some (setState .fail x) := by
  have hcas := (cas_decides P (reach P n as) w t ord todo won x hw hx).1 hnf
  have hstep : reach P n (as ++ [.sweep w ord]) = sweepStep P (reach P n as) w ord := reach_snoc P n as _
  refine ⟨?_, by rw [hstep]; exact hcas.2.1⟩
  have : reach P n (as ++ .sweep w ord :: more) = run P (sweepStep P (reach P n as) w ord) more := by
    rw [reach_append]; rfl
  rw [this]
  apply events_run
  rw [hcas.1]; simp

/-- Under the hypotheses of `failed_by_at_least_one` exactly one worker — `w` — fails the trial: in every later
configuration the compare-and-set to FAIL has succeeded exactly once for `t`, `t` is FAIL, every logged winner and every
logged callback invocation for `t` is `w`'s. -/
theorem failed_by_exactly_one_of_swept (P : Params) (n : Nat) (as : List Act) (w t : Nat) (todo won ord : List Nat)
    (x : HTrial) (more : List Act)
    (hw : (reach P n as).workers[w]? = some (.failing (t :: todo) won))
    (hx : (reach P n as).trials[t]? = some x) (hnf : x.core.state.isFinished = false) :
    cnt (Event.isWon t) (reach P n (as ++ .sweep w ord :: more)).events = 1 ∧
    (∃ y, (reach P n (as ++ .sweep w ord :: more)).trials[t]? = some y ∧ y.core.state = .fail) ∧
    (∀ w', Event.won w' t ∈ (reach P n (as ++ .sweep w ord :: more)).events → w' = w) ∧
    (∀ w' b, Event.callback w' t b ∈ (reach P n (as ++ .sweep w ord :: more)).events → w' = w) :=
  failed_by_exactly_one P n _ t w (failed_by_at_least_one P n as w t todo won ord x more hw hx hnf).1

/-- what `failed_by_exactly_one` says when no win is assumed: at most one winner -/
theorem failed_by_at_most_one_winner (P : Params) (n : Nat) (as : List Act) (t w w' : Nat)
    (h : Event.won w t ∈ (reach P n as).events) (h' : Event.won w' t ∈ (reach P n as).events) : w = w' :=
  winner_unique P n as t w w' h h'

/-! ## non-vacuity: a two-worker race, a death inside the callback, a chain cut by `max_retry` -/

def demoP : Params := { grace := 100, hasCb := true, maxRetry := some 1 }

/-- trial 0 is created, beats, 500 s pass; workers 0 and 1 both read it as stale; 1 wins the
compare-and-set, 0 loses; 1 runs the callback and enqueues trial 1; trial 1 is claimed, beats, goes
stale, worker 0 fails it and its callback hits `max_retry = 1`. -/
def demo : List Act :=
  [ .env .create, .env (.setParam 0 "x" "0.5"), .env (.setUserAttr 0 "u" "1"), .env (.beat 0), .env (.tick 500),
    .sweep 0 [], .sweep 1 [], .sweep 1 [], .sweep 0 [], .sweep 1 [], .sweep 1 [],
    .env (.claim 1), .env (.beat 1), .env (.tick 500),
    .sweep 0 [], .sweep 0 [], .sweep 0 [] ]

example : (reach demoP 2 demo).events.reverse =
    [ .read 0 [0], .read 1 [0], .won 1 0, .lost 0 0, .callback 1 0 true,
      .enqueued 1 0 1 { state := .waiting, params := [("x", "0.5")], userAttrs := [("u", "1")],
                        failedTrial := some 0, retryHistory := some [0], otherSys := [] },
      .read 0 [1], .won 0 1, .callback 0 1 false ] := by decide

example : ((reach demoP 2 demo).trials.map (fun x => x.core.state)) = [.fail, .fail] := by decide

/-- the winner dies inside the callback: nobody else retries the trial (the list keeps its one trial) -/
example : (reach demoP 2 (demo.take 10 ++ [.die 1, .sweep 1 [], .sweep 0 [], .sweep 0 []])).trials.length = 1 := by
  decide

/-- a trial without a heartbeat row, one with a fresh heartbeat and a finished one are not noticed -/
example : (reach demoP 1 [.env .create, .env .create, .env .create, .env (.beat 1), .env (.beat 2),
    .env (.tick 500), .env (.beat 1), .env (.finish 2 .complete), .sweep 0 []]).events = [.read 0 []] := by decide

/-- and when the hypotheses fail nobody wins: all sweepers dead before the compare-and-set ⇒ the stale trial stays RUNNING -/
example : (reach demoP 2 (demo.take 7 ++ [.die 0, .die 1, .sweep 0 [], .sweep 1 []])).trials.map (fun x => x.core.state) =
    [.running] := by decide


/-- `failed_by_at_least_one` on the demo: after the two reads (7 actions) worker 1 stands at trial 0, still RUNNING -/
example : (reach demoP 2 (demo.take 7)).workers[1]? = some (.failing [0] []) ∧
    ((reach demoP 2 (demo.take 7)).trials[0]?).map (fun x => x.core.state.isFinished) = some false := by decide

end OptunaVerif.C19
