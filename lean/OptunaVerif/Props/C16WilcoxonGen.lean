import OptunaVerif.Lemmas.Wilcoxon
import OptunaVerif.Generated.WilcoxonSkel
/-!
# C16 — the control skeleton of `WilcoxonPruner.prune` regenerated from the Python source is the hand model

`Generated/WilcoxonSkel.lean` is rewritten from `/repo/optuna/pruners/_wilcoxon.py` on every run
(`verif/translators/wilcoxon_skel.py`): every `if …: [warn] return …`, the `try/except ValueError`, the
warning-only `if`, the direction branch and the final `return`, in source order, over integer / boolean
atoms.  `gen_prune_skeleton` instantiates the atoms with what `Model/Wilcoxon.lean` computes and proves
the generated function equal to the model's `prune` — decision, warnings, and which `return` fired —
for **all** inputs.  A change of a guard, of their order, of a returned constant, of a warning, of
`max(2, n_startup_steps)` or of the direction handling breaks this proof (or the translation);
`gen_data_statements` pins the text of the remaining (data) statements.
-/
namespace OptunaVerif.C16WilcoxonGen
open OptunaVerif.Direction OptunaVerif.Wilcoxon
open OptunaVerif.Generated

def warnTag : Warn → String
  | .curNotFinite => "curNotFinite" | .bestNoReports => "bestNoReports"
  | .bestNotFinite => "bestNotFinite" | .missingSteps => "missingSteps"

/-- position of the `return` statement in the source -/
def exitIdx : Exit → Nat
  | .noReports => 0 | .curNotFinite => 1 | .noBestTrial => 2 | .bestNoReports => 3
  | .bestNotFinite => 4 | .fewCommon => 5 | .safety => 6 | .final => 7

/-- the atoms of the skeleton, as the model computes them -/
def skelOfModel (pv : Alt → List Rat → V) (c : Cfg) (d : Dir) (best : Option IV) (cur : IV) : Bool × List String × Nat :=
  let b := best.getD []
  let cq := finPart cur
  let bq := finPart b
  let df := diffValues cq bq
  WilcoxonSkel.pruneSkel (cur.length : Int) (!allFinite cur) best.isNone (b.length : Int) (!allFinite b)
    (df.length : Int) (cur.length : Int) (df.length : Int) (c.nStartup : Int) (decide (d = .maximize))
    (decide (mean (bq.map (·.2)) ≤ mean (cq.map (·.2)))) (decide (mean (cq.map (·.2)) ≤ mean (bq.map (·.2))))
    (pLt (pv (wilcoxonAlt d) df) c.pThr)

theorem gen_prune_skeleton (pv : Alt → List Rat → V) (c : Cfg) (d : Dir) (best : Option IV) (cur : IV) :
    skelOfModel pv c d best cur =
      ((prune pv c d best cur).prune, (prune pv c d best cur).warns.map warnTag, exitIdx (prune pv c d best cur).exit) := by
  -- the atoms that are not the model's tests word for word: the direction branch, `max(2, n_startup_steps)` over the
  -- integers, and `len(step_values)`, which is the length of the finite part once every value is finite
  have ha (a b : List Rat) :
      (if decide (d = .maximize) = true then decide (mean a ≤ mean b) else decide (mean b ≤ mean a)) = avgIsBest d a b := by
    cases d <;> rfl
  have hm (n : Nat) : ((n : Int) < max 2 (c.nStartup : Int)) = (n < minSteps c) := by
    unfold minSteps
    exact propext (by omega)
  have hf : ¬(!allFinite cur) = true → (finPart cur).length = cur.length := fun h =>
    finPart_length_of_allFinite cur (by simpa using h)
  unfold skelOfModel WilcoxonSkel.pruneSkel
  simp only [ha, hm, Int.natCast_eq_zero, Int.ofNat_lt]
  -- on each of the eight paths of the model the skeleton leaves by the same `return`
  fun_cases prune pv c d best cur <;> simp +zetaDelta [*, exitIdx, warnTag, apply_ite (List.map warnTag)]

/-- `alt` of the source is the model's alternative -/
theorem gen_alt (d : Dir) :
    WilcoxonSkel.altSkel (decide (d = .maximize)) = (match wilcoxonAlt d with | .less => "less" | .greater => "greater") := by
  cases d <;> rfl

/-- the translator counts eight `return` statements in the source, as many as the model's `Exit` has constructors (`exitIdx`);
the statement is the count only -/
theorem gen_exit_count : WilcoxonSkel.nExits = 8 := rfl

/-- the data statements of `prune`, as `ast.unparse` prints them (the four-line `try` joined into one line): array construction, `intersect1d(..., return_indices=True)`,
`step_values[idx1] - best_step_values[idx2]` (current minus best), `zero_method='zsplit'`, `alternative=alt` -/
theorem gen_data_statements : WilcoxonSkel.dataStatements = [
    "steps, step_values = np.array(list(trial.intermediate_values.items())).T",
    "try: best_trial = study.best_trial except ValueError: return False",
    "best_steps, best_step_values = np.array(list(best_trial.intermediate_values.items())).T",
    "_, idx1, idx2 = np.intersect1d(steps, best_steps, return_indices=True)",
    "diff_values = step_values[idx1] - best_step_values[idx2]",
    "p = ss.wilcoxon(diff_values, alternative=alt, zero_method='zsplit').pvalue"] := rfl

/-- non-vacuity: the skeleton evaluated on the atoms of a pruning run and of a run stopped by the safety -/
example : WilcoxonSkel.pruneSkel 3 false false 3 false 2 3 2 2 false false false true = (true, ["missingSteps"], 7) ∧
    WilcoxonSkel.pruneSkel 3 false false 3 false 3 3 3 2 true true false true = (false, [], 6) := by decide

end OptunaVerif.C16WilcoxonGen
