import OptunaVerif.Props.C10Gen
import OptunaVerif.Props.C10ProjGen
import OptunaVerif.Props.C10SuggestGen
import OptunaVerif.Props.C10Nsga
/-!
# C10 (composition) — sampler path × distribution shape → projection → `Trial._suggest` → a member of the domain

`Props/C10.lean::suggest_in_domain` (and its restatements for the generated `_suggest`, the `suggest_*` wrappers and
NSGA-II) ASSUME `Member d indep` for the independent sampler's answer: on the independent branch that hypothesis is the
conclusion.  The projection theorems (`projection_in_domain`, `gen_projection_in_domain`, …) are about single projection
functions and single shapes; none of them discharges that hypothesis.  This file does: `proj E path d raw` is ONE function,
the value a sampler path hands to `_suggest` for distribution `d`, computed from the raw numbers `raw` that the sampler's
internals produce by composing the existing hand models (`none` = the real code raises); `Pre E path d raw` is what the
code that PRODUCES `raw` guarantees, each clause justified by a theorem about the model of the producing code or by the
documented range of the random source, and four of them shown necessary by a concrete raw that violates exactly that
clause (`transform_pre_needed` for `0 ≤ u`, `transform_hc_needed`, `tpe_cat_pre_needed` for `q ≤ 1`,
`gp_box_alone_not_enough` for `OnGrid`, replayed on the real code by the harness / the report; `EnvOK`, `u ≤ 1`, the two
length clauses and GP's categorical index have no such witness); `proj_member` is membership for EVERY path × shape,
`suggest_value_in_domain` its composition with `Suggest.suggest` (no `hindep`), and `gen_*` the same for the interpreter
of the generated `_suggest` fed with the evaluators of the generated projections.

ℚ versus IEEE.  All numbers are exact rationals; `E.lg / E.ex` is any pair with `EnvOK` (monotone, `ex ∘ lg = id` on the
positives), `E.below high` stands for `nextafter(high, high - 1)`.  Where the statement relies on exactness this is said
at the clause: TPE log floats (`exp(clip(s, log low, log high))` is in `[low, high]` only if `exp(log high) = high`; in
doubles it can be one ulp outside — the harness' oracle allows 4 + 2|ln v| ulp), the GP grid round trip
(`unnormalize(normalize(g)) = g`; in doubles off by ulps, absorbed by `round` for ints and by the 1e-8·step tolerance of
`_contains` for stepped floats), `HC` (the clamp `nextafter(high, high-1)` stays in `[low, high]`: true of `nextafter` in
doubles whenever `low < high`, false of a `high - eps` clamp on narrow ranges — `transform_hc_needed`).
-/
namespace OptunaVerif.C10Compose
open OptunaVerif.Dist OptunaVerif.Suggest OptunaVerif.ProjIR

/-- the three families of sampler paths that end in a projection:
* `transform` — `RandomSampler.sample_independent` (and with it the independent fallback / start-up phase of TPE, GP,
  QMC, NSGA-II/III, CMA-ES, PartialFixed, …) and `QMCSampler.sample_relative`: a point of the transformed box
  `lo + u·(hi − lo)` handed to `_SearchSpaceTransform(search_space).untransform`;
* `tpe` — `TPESampler._sample` (independent and relative): `_MixtureOfProductDistribution.sample` →
  `_ParzenEstimator._untransform` → `dist.to_external_repr`;
* `gp` — `GPSampler.sample_relative`: `optim_mixed.optimize_acqf_mixed` → `search_space.get_unnormalized_param`.
(The NSGA-II/III child is not a projection path: `perform_crossover` loops until `_is_contained` — see `nsga_*` below.) -/
inductive Path where
  | transform | tpe | gp
deriving DecidableEq, Repr, Inhabited

/-- the raw numbers of one parameter.
* transform: `cols` = the unit-interval numbers `u` (one per encoded column: `rng.uniform` resp. the Sobol / Halton
  point), `x` unused;
* tpe numerical: `x` = the draw of `_truncnorm.rvs`; tpe categorical: `x` = the quantile `rng.rand()`, `cols` = the
  cumulative weights `np.cumsum(active_weights)` of the active kernel;
* gp: `x` = `normalized_param[i]`, the coordinate of the acquisition optimum in the normalised space. -/
structure Raw where
  x : Rat := 0
  cols : List Rat := []
deriving Repr, Inhabited

/-- `_SearchSpaceTransform(search_space)` as the samplers construct it: `transform_log = transform_step = True`,
`transform_0_1 = False` -/
def c0 : TCfg := ⟨true, true, false⟩

/-- transform path: `trans.bounds[:, 0] + u * (trans.bounds[:, 1] - trans.bounds[:, 0])` (QMC; `rng.uniform(lo, hi)` of
Random is the same formula inside NumPy), then `trans.untransform(·)[name]` -/
def projTransform (E : Env) (d : Dist) (us : List Rat) : Option Tok :=
  if us.length = d.width then decode E c0 d (List.zipWith unscale01 (boundsOf E c0 d) us) else none

/-- TPE: the number in `ret[param_name]` before `to_external_repr`.  `_calculate_distributions` chooses the batched
distribution (continuous for step-less and for log parameters — bounds `log(low − step/2)`, `log(high + step/2)` for a
log parameter with a step —, discrete otherwise), `_MixtureOfProductDistribution.sample` clips (fix 56cb744) resp.
discretises and clips, `_untransform` applies `exp` to log parameters and rounds int parameters to the grid once more;
categorical: the number of cumulative weights (last one forced to 1) strictly below the quantile. -/
def tpeVal (E : Env) (d : Dist) (raw : Raw) : Rat :=
  match d with
  | .flt _ low high false none => tpeCont low high raw.x
  | .flt _ low high false (some s) => tpeDisc low high s raw.x
  | .flt _ low high true none => E.ex (tpeCont (E.lg low) (E.lg high) raw.x)
  | .flt _ low high true (some s) => E.ex (tpeCont (E.lg (low - s / 2)) (E.lg (high + s / 2)) raw.x)
  | .int _ low high false step => tpeDisc (low : Rat) (high : Rat) (step : Rat) (tpeDisc (low : Rat) (high : Rat) (step : Rat) raw.x)
  | .int _ low high true step =>
    tpeDisc (low : Rat) (high : Rat) (step : Rat)
      (E.ex (tpeCont (E.lg ((low : Rat) - (step : Rat) / 2)) (E.lg ((high : Rat) + (step : Rat) / 2)) raw.x))
  | .cat _ => ((catCum (setLast raw.cols 1) raw.x : Nat) : Rat)

/-- TPE: `ret[param_name] = dist.to_external_repr(ret[param_name])` -/
def projTpe (E : Env) (d : Dist) (raw : Raw) : Option Tok := d.toExternal (tpeVal E d raw)

/-- GP, `get_unnormalized_param`: `float(np.clip(unnormalize_one_param(x, scale, (low, high), step), low, high))`, `round`
for an int parameter; a categorical coordinate is the internal index itself -/
def gpVal (E : Env) (d : Dist) (x : Rat) : Rat :=
  match d with
  | .flt _ low high _ step => gpNum low high (gpUnnorm E (stOf d) low high (step.getD 0) x)
  | .int _ low high _ step => (gpInt low high (gpUnnorm E (stOf d) (low : Rat) (high : Rat) (step : Rat) x) : Rat)
  | .cat _ => x

def projGp (E : Env) (d : Dist) (raw : Raw) : Option Tok := d.toExternal (gpVal E d raw.x)

/-- **the projection**: what the sampler path hands to `Trial._suggest` for `d`, from the raw numbers -/
def proj (E : Env) : Path → Dist → Raw → Option Tok
  | .transform, d, raw => projTransform E d raw.cols
  | .tpe, d, raw => projTpe E d raw
  | .gp, d, raw => projGp E d raw

/-- the same as a `Tok` (`None` when the real code raises; never the case under `Pre`) -/
def projT (E : Env) (path : Path) (d : Dist) (raw : Raw) : Tok := (proj E path d raw).getD .none

/-- GP, a coordinate with a step: the normalisation of a grid point inside the bounds.  The optimiser of the acquisition
function writes a discrete coordinate only from (a) `sample_normalized_params`, which rounds with
`round_one_normalized_param` (`gp_sobol_round_pre_flt/_int`, from T-proj's `gen_gp_round_on_grid`), (b) `choices_of_discrete_params
= normalize_one_param(np.arange(low, high + 0.5 step, step), …)` in `_exhaustive_search` / `_discrete_line_search`
(`gp_choices_pre`), (c) the warm-start rows = `normalize_one_param` of the parameters of earlier trials (grid points when
those were members); `_gradient_ascent` moves only the coordinates with `steps == 0`. -/
def OnGrid (E : Env) (d : Dist) (x : Rat) : Prop :=
  match d with
  | .flt _ low high _ (some s) =>
    ∃ k : Int, 0 ≤ k ∧ (k : Rat) * s + low ≤ high ∧ x = gpNorm E (stOf d) low high s ((k : Rat) * s + low)
  | .int _ low high _ step =>
    ∃ k : Int, 0 ≤ k ∧ k * step + low ≤ high ∧
      x = gpNorm E (stOf d) (low : Rat) (high : Rat) (step : Rat) (((k * step + low : Int)) : Rat)
  | _ => True

/-- **the precondition on the raw numbers, per path and shape** — each clause is what the producing code guarantees:

* transform: every `u ∈ [0, 1]` (`rng.uniform` / `rng.rand` / Sobol / Halton points are in `[0, 1)`) and one `u` per
  encoded column; for log parameters `EnvOK E` (log / exp monotone and inverse on the positives); `HC E d` (the half-open
  clamp stays inside the domain; `True` by definition except for step-less floats, and only read for non-single ones).  NOT: "the raw column is
  inside the transformed bounds" — that is derived (`transform_raw_in_bounds`).
* tpe, numerical: NOTHING about the draw `x` (any rational: the truncated-normal sampler is irrelevant since the clip of
  fix 56cb744); log floats need `EnvOK E` (exactness of `exp(log(·))`, see the header);
* tpe, categorical: one cumulative weight per choice and `q ≤ 1` (`rng.rand()` is in `[0, 1)`);
* gp, step-less float (linear or log): NOTHING (the clip comes after `exp`);
* gp, stepped float / int with `step ≠ 1`: `OnGrid` (see there); int with `step = 1`: nothing;
* gp, categorical: an index `0 ≤ i < len(choices)` (`np.floor(q · n)` of a Sobol coordinate `q ∈ [0, 1)` —
  `gp_sobol_cat_pre` — or an element of `np.arange(n)`). -/
def Pre (E : Env) : Path → Dist → Raw → Prop
  | .transform, d, raw => (d.isLog = true → EnvOK E) ∧ HC E d ∧ raw.cols.length = d.width ∧ ∀ u ∈ raw.cols, 0 ≤ u ∧ u ≤ 1
  | .tpe, .flt _ _ _ true _, _ => EnvOK E
  | .tpe, .flt _ _ _ false _, _ => True
  | .tpe, .int _ _ _ _ _, _ => True
  | .tpe, .cat cs, raw => raw.cols.length = cs.length ∧ raw.x ≤ 1
  | .gp, .flt _ _ _ _ none, _ => True
  | .gp, .flt c low high lg (some s), raw => OnGrid E (.flt c low high lg (some s)) raw.x
  | .gp, .int c low high lg step, raw => step = 1 ∨ OnGrid E (.int c low high lg step) raw.x
  | .gp, .cat cs, raw => ∃ i : Nat, i < cs.length ∧ raw.x = (i : Rat)

/-- transform path: the point `lo + u·(hi − lo)` with `u ∈ [0, 1]` lies inside the transformed bounds of `d` (this is
the hypothesis `hb` of `C10Gen.gen_untransform_clamp_in_domain` / `decode_in_domain`, derived here from the hand-off). -/
theorem transform_raw_in_bounds (E : Env) (d : Dist) (us : List Rat) (hE : EnvOK E) (hwf : WF d)
    (hl : us.length = d.width) (hx : ∀ u ∈ us, 0 ≤ u ∧ u ≤ 1) :
    List.Forall₂ InB (boundsOf E c0 d) (List.zipWith unscale01 (boundsOf E c0 d) us) :=
  zip_unscale_inB _ _ (by rw [boundsOf_length, hl]) (boundsOf_le E c0 d hE hwf) hx

/-- GP (a): whatever Sobol coordinate goes into `round_one_normalized_param` (the GENERATED function, evaluated), what
comes out is `OnGrid` — stepped float -/
theorem gp_sobol_round_pre_flt (E : Env) (c : FCls) (low high s : Rat) (hwf : WF (.flt c low high false (some s))) (u : Rat) :
    OnGrid E (.flt c low high false (some s))
      (Generated.ProjGen.gpRound.eval E (Generated.ProjGen.gp.callf E) (ctxG .linear low high s u)) := by
  obtain ⟨-, hs, K, hK0, hK⟩ := wf_stepped hwf
  obtain ⟨k, hk0, hk1, hk⟩ := C10ProjGen.gen_gp_round_on_grid E .linear low high s K hs hK0 hK u
  exact ⟨k, hk0, by linarith [(grid_le_grid hs low k K).2 hk1], hk⟩

/-- GP (a), int parameter with any step (linear scale; a log int has step 1 and needs no `OnGrid`) -/
theorem gp_sobol_round_pre_int (E : Env) (c : ICls) (low high step : Int) (hwf : WF (.int c low high false step)) (u : Rat) :
    OnGrid E (.int c low high false step)
      (Generated.ProjGen.gpRound.eval E (Generated.ProjGen.gp.callf E) (ctxG .linear (low : Rat) (high : Rat) (step : Rat) u)) := by
  obtain ⟨hl, -, hs, hg, -⟩ := hwf
  have hsq : (0 : Rat) < (step : Rat) := by exact_mod_cast hs
  obtain ⟨K, hK0, hK⟩ := int_range_grid hs hl hg
  obtain ⟨k, hk0, hk1, hk⟩ := C10ProjGen.gen_gp_round_on_grid E .linear (low : Rat) (high : Rat) (step : Rat) K hsq hK0 hK u
  have := (grid_le_grid hsq (low : Rat) k K).2 hk1
  rw [← hK, sub_add_cancel] at this
  exact ⟨k, hk0, by exact_mod_cast this, by rw [hk]; push_cast; rfl⟩

/-- GP (b): `normalize_one_param` of the `k`-th element `low + k·step` of `np.arange(low, high + 0.5 step, step)` is `OnGrid`
(by definition) -/
theorem gp_choices_pre (E : Env) (c : ICls) (low high step : Int) (lg : Bool) (k : Int) (hk0 : 0 ≤ k) (hk : k * step + low ≤ high) :
    OnGrid E (.int c low high lg step)
      (gpNorm E (stOf (.int c low high lg step)) (low : Rat) (high : Rat) (step : Rat) (((k * step + low : Int)) : Rat)) :=
  ⟨k, hk0, hk, rfl⟩

theorem gp_choices_pre_flt (E : Env) (c : FCls) (low high s : Rat) (lg : Bool) (k : Int) (hk0 : 0 ≤ k) (hk : (k : Rat) * s + low ≤ high) :
    OnGrid E (.flt c low high lg (some s)) (gpNorm E (stOf (.flt c low high lg (some s))) low high s ((k : Rat) * s + low)) :=
  ⟨k, hk0, hk, rfl⟩

/-- GP categorical (a): `np.floor(q · n)` of a Sobol coordinate `q ∈ [0, 1)` (the GENERATED expression) is an index -/
theorem gp_sobol_cat_pre (E : Env) (cs : List Tok) (hne : cs ≠ []) (q : Rat) (h0 : 0 ≤ q) (h1 : q < 1) :
    Pre E .gp (.cat cs) { x := Generated.ProjGen.gpSampleCat.eval E noCall (ctxG .cat 0 (cs.length : Rat) 1 q) } := by
  obtain ⟨i, hi, hi0, hin⟩ := C10ProjGen.gen_categorical_index_in_domain.2 E cs.length q h0 h1
  have hlt : i < (cs.length : Int) := hin.resolve_left fun h => hne (List.length_eq_zero_iff.mp h)
  refine ⟨i.toNat, by omega, ?_⟩
  show Generated.ProjGen.gpSampleCat.eval E noCall (ctxG .cat 0 (cs.length : Rat) 1 q) = _
  rw [hi]
  have : ((i.toNat : Nat) : Int) = i := Int.toNat_of_nonneg hi0
  exact_mod_cast this.symm

theorem nolog_env_irrelevant (E : Env) (d : Dist) (hd : d.isLog = false) (cols : List Rat) :
    boundsOf E c0 d = boundsOf ⟨id, id, E.below⟩ c0 d ∧ decode E c0 d cols = decode ⟨id, id, E.below⟩ c0 d cols ∧
    (HC E d → HC ⟨id, id, E.below⟩ d) := by
  rcases d with ⟨c, low, high, lg, st⟩ | ⟨c, low, high, lg, st⟩ | cs
  case cat => exact ⟨rfl, rfl, fun h => h⟩
  case flt =>
    obtain rfl : lg = false := hd
    refine ⟨by simp [boundsOf, tnum, Dist.isLog], ?_, fun h => h⟩
    cases st <;> rcases cols with _ | ⟨x, _ | _⟩ <;> rfl
  case int =>
    obtain rfl : lg = false := hd
    refine ⟨by simp [boundsOf, tnum, Dist.isLog], ?_, fun h => h⟩
    rcases cols with _ | ⟨x, _ | _⟩ <;> rfl

/-- transform path (Random / QMC), EVERY shape: float (clamp), log float, stepped float, int, stepped int, log int,
categorical (first maximal column), single-valued.  The raw column is inside the transformed bounds
BECAUSE it is `lo + u·(hi − lo)` with `u ∈ [0, 1]` (`transform_raw_in_bounds`). -/
theorem transform_member (E : Env) (d : Dist) (us : List Rat) (hwf : WF d) (hE : d.isLog = true → EnvOK E) (hc : HC E d)
    (hl : us.length = d.width) (hx : ∀ u ∈ us, 0 ≤ u ∧ u ≤ 1) :
    ∃ v, projTransform E d us = some v ∧ Member d v := by
  cases hlog : d.isLog with
  | true =>
    have hE' := hE hlog
    obtain ⟨v, hv, hm⟩ := decode_in_domain E c0 d _ hE' hwf hc (Or.inl rfl) (transform_raw_in_bounds E d us hE' hwf hl hx)
    exact ⟨v, by simp [projTransform, hl, hv], hm⟩
  | false =>
    have hE' := envOK_id E.below
    obtain ⟨hb, hdec, hhc⟩ := nolog_env_irrelevant E d hlog (List.zipWith unscale01 (boundsOf E c0 d) us)
    obtain ⟨v, hv, hm⟩ := decode_in_domain ⟨id, id, E.below⟩ c0 d _ hE' hwf (hhc hc) (Or.inl rfl)
      (transform_raw_in_bounds ⟨id, id, E.below⟩ d us hE' hwf hl hx)
    rw [← hb, ← hdec] at hv
    exact ⟨v, by simp [projTransform, hl, hv], hm⟩

theorem cat_toExternal_nat (cs : List Tok) (i : Nat) : (Dist.cat cs).toExternal ((i : Nat) : Rat) = cs[i]? := by
  simp [Dist.toExternal, truncI_natCast]

theorem cat_index_member (cs : List Tok) {i : Nat} (hi : i < cs.length) :
    ∃ v, (Dist.cat cs).toExternal ((i : Nat) : Rat) = some v ∧ Member (.cat cs) v :=
  ⟨cs[i], by rw [cat_toExternal_nat]; exact List.getElem?_eq_getElem hi, cat_member cs i _ (List.getElem?_eq_getElem hi)⟩

/-- TPE path, EVERY shape.  The case no single-projection theorem covers is log floats: `exp(clip(s, log low, log high)) ∈ [low, high]` by monotony
and `exp(log x) = x` (exact arithmetic; see the header for doubles). -/
theorem tpe_member (E : Env) (d : Dist) (raw : Raw) (hwf : WF d) (hpre : Pre E .tpe d raw) :
    ∃ v, projTpe E d raw = some v ∧ Member d v := by
  cases d with
  | flt c low high lg st =>
    cases lg with
    | false =>
      cases st with
      | none => exact ⟨_, rfl, C10.tpe_cont_in_domain c low high hwf raw.x⟩
      | some s => exact ⟨_, rfl, C10.tpe_disc_in_domain c low high s hwf raw.x⟩
    | true =>
      obtain ⟨hl, hlog, -, -⟩ := hwf
      obtain ⟨hpos, rfl⟩ := hlog rfl
      have hE : EnvOK E := hpre
      obtain ⟨h1, h2⟩ := clip_mem (x := raw.x) (hE.lg_mono _ _ hpos hl)
      obtain ⟨g1, g2⟩ := untnum_mem hE c0 (.flt c low high true none) (fun _ => hpos) hl h1 h2
      exact ⟨_, rfl, flt_member c low high true _ (fun _ => hpos) g1 g2⟩
  | int c low high lg step => cases lg <;> exact ⟨_, rfl, C10.tpe_int_in_domain c low high _ step hwf _⟩
  | cat cs =>
    obtain ⟨hlen, hq⟩ := hpre
    have hcne : raw.cols ≠ [] := fun h => hwf (List.length_eq_zero_iff.mp (by rw [← hlen, h]; rfl))
    exact cat_index_member cs (hlen ▸ C10ProjGen.catCum_setLast_lt raw.cols raw.x hcne hq)

/-- exact arithmetic: `unnormalize_one_param(normalize_one_param(g))` is `g` on the linear scale -/
theorem gp_unnorm_norm_linear (E : Env) (b0 b1 step g : Rat) (h : b1 - b0 + step ≠ 0) :
    gpUnnorm E .linear b0 b1 step (gpNorm E .linear b0 b1 step g) = g := by
  have hne : b1 + 1 / 2 * step - (b0 - 1 / 2 * step) ≠ 0 := by
    intro h'; apply h; linarith
  have hne' : ¬ (b1 + 1 / 2 * step = b0 - 1 / 2 * step) := by
    intro h'; apply hne; linarith
  simp only [gpUnnorm, gpNorm, gpHi, gpLo, hne', if_false, reduceCtorEq]
  rw [div_mul_cancel₀ _ hne]; ring

theorem gp_roundtrip (E : Env) {low high s g : Rat} (hs : 0 < s) (h1 : low ≤ g) (h2 : g ≤ high) :
    gpNum low high (gpUnnorm E .linear low high s (gpNorm E .linear low high s g)) = g := by
  rw [gp_unnorm_norm_linear E low high s g (by linarith), gpNum, clip_id h1 h2]

/-- GP path, EVERY shape.  The cases no single-projection theorem covers are stepped floats and ints with `step ≠ 1`:
a coordinate that is `OnGrid` comes back as that grid point. -/
theorem gp_member (E : Env) (d : Dist) (raw : Raw) (hwf : WF d) (hpre : Pre E .gp d raw) :
    ∃ v, projGp E d raw = some v ∧ Member d v := by
  cases d with
  | flt c low high lg st =>
    cases st with
    | none =>
      obtain ⟨hl, hlog, _, _⟩ := hwf
      obtain ⟨h1, h2⟩ := C10.gp_num_in_range low high hl (gpUnnorm E (stOf (.flt c low high lg none)) low high 0 raw.x)
      exact ⟨_, rfl, flt_member c low high lg _ (fun hh => (hlog hh).1) h1 h2⟩
    | some s =>
      obtain ⟨rfl, hs, -⟩ := wf_stepped hwf
      obtain ⟨k, hk0, hk1, hx⟩ := hpre
      have hval : gpVal E (.flt c low high false (some s)) raw.x = (k : Rat) * s + low := by
        rw [hx]; exact gp_roundtrip E hs ((grid_nonneg hs low k).2 hk0) hk1
      exact ⟨.flt _, congrArg (fun q => some (Tok.flt q)) hval, stepped_member c low high s k hs hk0 hk1⟩
  | int c low high lg step =>
    by_cases hs1 : step = 1
    · subst hs1
      obtain ⟨_, _, h3⟩ := C10.gp_in_domain low high hwf.1 (gpUnnorm E (stOf (.int c low high lg 1)) (low : Rat) (high : Rat) ((1 : Int) : Rat) raw.x)
      exact ⟨_, by simp [projGp, gpVal, Dist.toExternal, truncI_intCast], h3 c lg hwf⟩
    · obtain ⟨hl, hlog, hs, -, -⟩ := hwf
      obtain rfl : lg = false := by
        cases lg
        · rfl
        · exact absurd (hlog rfl).2 hs1
      obtain ⟨k, hk0, hk1, hx⟩ := hpre.resolve_left hs1
      have hsq : (0 : Rat) < (step : Rat) := by exact_mod_cast hs
      have hlo : low ≤ k * step + low := by exact_mod_cast (grid_nonneg hsq (low : Rat) k).2 hk0
      have hval : gpVal E (.int c low high false step) raw.x = ((k * step + low : Int) : Rat) := by
        rw [hx]
        show ((roundHE (gpNum _ _ (gpUnnorm E .linear _ _ _ (gpNorm E .linear _ _ _ _))) : Int) : Rat) = _
        rw [gp_roundtrip E hsq (by exact_mod_cast hlo) (by exact_mod_cast hk1), roundHE_intCast]
      exact ⟨.int (k * step + low), by rw [projGp, hval, Dist.toExternal, truncI_intCast],
        int_member c low high false step _ hs nofun hlo hk1 ((int_grid_iff _ _).2 ⟨k, by push_cast; ring⟩)⟩
  | cat cs =>
    obtain ⟨i, hi, hx⟩ := hpre
    show ∃ v, (Dist.cat cs).toExternal raw.x = some v ∧ _
    rw [hx]; exact cat_index_member cs hi

/-- **proj_member** — for EVERY sampler path and EVERY distribution shape: under the class invariant of the
distribution and the path's precondition on the raw numbers, the projection returns a value, and it is a member of the
declared domain (`to_internal_repr` accepts it and `_contains` holds: in `[low, high]`, on the step grid — so a whole number
for int distributions, though `Member` does not say that the token is an `int` —, one of the choices). -/
theorem proj_member (E : Env) (path : Path) (d : Dist) (raw : Raw) (hwf : WF d) (hpre : Pre E path d raw) :
    ∃ v, proj E path d raw = some v ∧ Member d v := by
  cases path with
  | transform =>
    obtain ⟨hE, hc, hl, hx⟩ := hpre
    exact transform_member E d raw.cols hwf hE hc hl hx
  | tpe => exact tpe_member E d raw hwf hpre
  | gp => exact gp_member E d raw hwf hpre

theorem projT_member (E : Env) (path : Path) (d : Dist) (raw : Raw) (hwf : WF d) (hpre : Pre E path d raw) :
    Member d (projT E path d raw) := by
  obtain ⟨v, hv, hm⟩ := proj_member E path d raw hwf hpre
  simpa [projT, hv] using hm

/-! ### non-vacuity: boundary raws on every path × shape -/

def E0 : Env := ⟨id, id, fun h => h - 1⟩
/-- a pair that is not the identity -/
def E1 : Env := ⟨fun q => q - 1, fun q => q + 1, fun h => h - 1 / 1000⟩

theorem envOK_E0 : EnvOK E0 := envOK_id _
theorem envOK_E1 : EnvOK E1 :=
  ⟨fun a b h => by show a + 1 ≤ b + 1; linarith, fun q _ => by show q - 1 + 1 = q; ring,
   fun a b _ h => by show a - 1 ≤ b - 1; linarith⟩

theorem wf_flt_plain (c : FCls) (low high : Rat) (h : low ≤ high) (hc : FClsOK c false none) : WF (.flt c low high false none) :=
  ⟨h, by simp, by simp, hc⟩
theorem wf_flt_log (low high : Rat) (h0 : 0 < low) (h : low ≤ high) : WF (.flt .float low high true none) :=
  ⟨h, fun _ => ⟨h0, rfl⟩, by simp, trivial⟩
theorem wf_flt_step (low high s : Rat) (K : Int) (hs : 0 < s) (hK0 : 0 ≤ K) (hK : high - low = (K : Rat) * s) :
    WF (.flt .float low high false (some s)) := by
  have hKq : (0 : Rat) ≤ (K : Rat) := by exact_mod_cast hK0
  exact ⟨by nlinarith, by simp, fun s' hs' => by simp at hs'; subst hs'; exact ⟨hs, K, hK0, hK⟩, trivial⟩

theorem pre_transform (E : Env) (d : Dist) (us : List Rat) (hE : EnvOK E) (hc : HC E d) (hl : us.length = d.width)
    (hx : ∀ u ∈ us, 0 ≤ u ∧ u ≤ 1) : Pre E .transform d ⟨0, us⟩ := ⟨fun _ => hE, hc, hl, hx⟩

-- transform × float: exactly on `high` (u = 1) the clamp applies; exactly on `low` (u = 0)
example : WF (.flt .float 0 3 false none) ∧ Pre E0 .transform (.flt .float 0 3 false none) ⟨0, [1]⟩ ∧
    proj E0 .transform (.flt .float 0 3 false none) ⟨0, [1]⟩ = some (.flt 2) ∧
    proj E0 .transform (.flt .float 0 3 false none) ⟨0, [0]⟩ = some (.flt 0) :=
  ⟨wf_flt_plain _ _ _ (by norm_num) trivial,
   pre_transform _ _ _ envOK_E0 (fun _ => by simp [E0]) rfl (by simp), by decide +kernel, by decide +kernel⟩
-- transform × log float with low near 0 (E1): u = 0 ↦ low, u = 1 ↦ the clamp below high
example : WF (.flt .float (1/1000) 10 true none) ∧ Pre E1 .transform (.flt .float (1/1000) 10 true none) ⟨0, [1]⟩ ∧
    proj E1 .transform (.flt .float (1/1000) 10 true none) ⟨0, [0]⟩ = some (.flt (1/1000)) ∧
    proj E1 .transform (.flt .float (1/1000) 10 true none) ⟨0, [1]⟩ = some (.flt (9999/1000)) :=
  ⟨wf_flt_log _ _ (by norm_num) (by norm_num),
   pre_transform _ _ _ envOK_E1 (fun _ => by (simp [E1]; norm_num)) rfl (by simp), by decide +kernel, by decide +kernel⟩
-- transform × stepped float: the corners of the widened box (ties 4.5 and -0.5 round to even) land on the end points
example : WF (.flt .float 0 1 false (some (1/4))) ∧ Pre E0 .transform (.flt .float 0 1 false (some (1/4))) ⟨0, [1]⟩ ∧
    proj E0 .transform (.flt .float 0 1 false (some (1/4))) ⟨0, [1]⟩ = some (.flt 1) ∧
    proj E0 .transform (.flt .float 0 1 false (some (1/4))) ⟨0, [0]⟩ = some (.flt 0) ∧
    proj E0 .transform (.flt .float 0 1 false (some (1/4))) ⟨0, [2/5]⟩ = some (.flt (1/2)) :=
  ⟨wf_flt_step 0 1 (1/4) 4 (by norm_num) (by norm_num) (by norm_num),
   pre_transform _ _ _ envOK_E0 trivial rfl (by simp), by decide +kernel, by decide +kernel, by decide +kernel⟩
-- a step that does not divide the range: the constructor lowers `high` to 9/10, and that is the distribution `proj` sees
example : mkFlt .float 0 1 false (some (3/10)) = .ok (.flt .float 0 (9/10) false (some (3/10))) ∧
    proj E0 .transform (.flt .float 0 (9/10) false (some (3/10))) ⟨0, [1]⟩ = some (.flt (9/10)) ∧
    proj E0 .tpe (.flt .float 0 (9/10) false (some (3/10))) ⟨1, []⟩ = some (.flt (9/10)) := by decide +kernel
-- transform × int / stepped int / log int (E1: the bounds are log(low - 1/2), log(high + 1/2))
example : WF (.int .int 1 9 false 4) ∧ Pre E0 .transform (.int .int 1 9 false 4) ⟨0, [1]⟩ ∧
    proj E0 .transform (.int .int 1 9 false 4) ⟨0, [1]⟩ = some (.int 9) ∧
    proj E0 .transform (.int .int 1 9 false 4) ⟨0, [0]⟩ = some (.int 1) ∧
    proj E0 .transform (.int .int 0 10 false 1) ⟨0, [1/2]⟩ = some (.int 5) ∧
    proj E1 .transform (.int .int 1 8 true 1) ⟨0, [1]⟩ = some (.int 8) ∧
    proj E1 .transform (.int .int 1 8 true 1) ⟨0, [0]⟩ = some (.int 1) :=
  ⟨by simp [WF, IClsOK], pre_transform _ _ _ envOK_E0 trivial rfl (by simp),
   by decide +kernel, by decide +kernel, by decide +kernel, by decide +kernel, by decide +kernel⟩
-- transform × categorical (first maximal column) and single-valued float (no clamp)
example : Pre E0 .transform (.cat [.none, .nan, .int 3]) ⟨0, [1/2, 1, 1]⟩ ∧
    proj E0 .transform (.cat [.none, .nan, .int 3]) ⟨0, [1/2, 1, 1]⟩ = some .nan ∧
    proj E0 .transform (.flt .float 2 2 false none) ⟨0, [7/10]⟩ = some (.flt 2) :=
  ⟨pre_transform _ _ _ envOK_E0 trivial rfl (by simp; norm_num), by decide +kernel, by decide +kernel⟩

-- tpe × float: a draw just below `low` / far above `high`; log float with `low` near 0 (E1); stepped float; ints
example : proj E0 .tpe (.flt .float (123456/1000) (1123456/1000) false none) ⟨123455/1000, []⟩ = some (.flt (123456/1000)) ∧
    proj E1 .tpe (.flt .float (1/1000) 10 true none) ⟨-5, []⟩ = some (.flt (1/1000)) ∧
    proj E1 .tpe (.flt .float (1/1000) 10 true none) ⟨100, []⟩ = some (.flt 10) ∧
    proj E1 .tpe (.flt .float (1/1000) 10 true none) ⟨0, []⟩ = some (.flt 1) ∧
    proj E0 .tpe (.flt .float 0 1 false (some (1/4))) ⟨7, []⟩ = some (.flt 1) ∧
    proj E0 .tpe (.int .int (-1220944962) (-1220944887) false 5) ⟨-1220944959, []⟩ = some (.int (-1220944957)) ∧
    proj E0 .tpe (.int .int 1 9 false 4) ⟨1000, []⟩ = some (.int 9) ∧
    proj E1 .tpe (.int .int 1 8 true 1) ⟨100, []⟩ = some (.int 8) ∧
    proj E1 .tpe (.int .int 1 8 true 1) ⟨-100, []⟩ = some (.int 1) := by decide +kernel
example : Pre E1 .tpe (.flt .float (1/1000) 10 true none) ⟨-5, []⟩ := envOK_E1
-- tpe × categorical: rounding noise in the cumulative weights and q → 1: the last index, not one past it
example : Pre E0 .tpe (.cat [.str "a", .str "b", .none]) ⟨99999/100000, [1/4, 1/2, 9999/10000]⟩ ∧
    proj E0 .tpe (.cat [.str "a", .str "b", .none]) ⟨99999/100000, [1/4, 1/2, 9999/10000]⟩ = some .none ∧
    proj E0 .tpe (.cat [.str "a", .str "b", .none]) ⟨1/4, [1/4, 1/2, 1]⟩ = some (.str "a") :=
  ⟨⟨rfl, by norm_num⟩, by decide +kernel, by decide +kernel⟩

-- gp × float (any coordinate, also outside the box), log float (E1), stepped float / stepped int ON the grid, step 1, categorical
example : proj E0 .gp (.flt .float 0 1 false none) ⟨-3, []⟩ = some (.flt 0) ∧
    proj E0 .gp (.flt .float 0 1 false none) ⟨2, []⟩ = some (.flt 1) ∧
    proj E1 .gp (.flt .float (1/1000) 10 true none) ⟨1, []⟩ = some (.flt 10) ∧
    proj E1 .gp (.flt .float (1/1000) 10 true none) ⟨0, []⟩ = some (.flt (1/1000)) ∧
    proj E1 .gp (.flt .float (1/1000) 10 true none) ⟨2, []⟩ = some (.flt 10) ∧
    proj E0 .gp (.flt .float 0 1 false (some (1/4))) ⟨7/10, []⟩ = some (.flt (3/4)) ∧
    proj E0 .gp (.int .int 0 10 false 5) ⟨1/2, []⟩ = some (.int 5) ∧
    proj E0 .gp (.int .int 0 10 false 5) ⟨5/6, []⟩ = some (.int 10) ∧
    proj E0 .gp (.int .int 0 10 false 1) ⟨2, []⟩ = some (.int 10) ∧
    proj E0 .gp (.cat [.str "a", .str "b", .none]) ⟨2, []⟩ = some .none := by decide +kernel
example : Pre E0 .gp (.flt .float 0 1 false (some (1/4))) ⟨7/10, []⟩ :=
  ⟨3, by norm_num, by norm_num, by
    show (7/10 : Rat) = gpNorm E0 (stOf (.flt .float 0 1 false (some (1/4)))) 0 1 (1/4) (((3 : Int) : Rat) * (1/4) + 0)
    decide +kernel⟩
example : Pre E0 .gp (.int .int 0 10 false 5) ⟨5/6, []⟩ :=
  Or.inr ⟨2, by norm_num, by norm_num, by
    show (5/6 : Rat) = gpNorm E0 (stOf (.int .int 0 10 false 5)) ((0 : Int) : Rat) ((10 : Int) : Rat) ((5 : Int) : Rat) (((2 * 5 + 0 : Int)) : Rat)
    decide +kernel⟩
example : Pre E0 .gp (.cat [.str "a", .str "b", .none]) ⟨2, []⟩ := ⟨2, by simp, by norm_num⟩

theorem not_member_flt (c : FCls) (low high p : Rat) (lg : Bool) (h : p < low ∨ high < p) :
    ¬ Member (.flt c low high lg none) (.flt p) := fun hm => by
  obtain ⟨h1, h2⟩ := flt_contains_range (contains_of_member rfl rfl hm)
  rcases h with h | h <;> linarith

/-- **transform_pre_needed** — the transform path has NO lower clip for step-less floats: a column below the box
(`u < 0`, which `rng.uniform` / a QMC point never is, but an NSGA crossover operator may produce — there `_is_contained`
is the guard) comes out unchanged and is not a member. -/
theorem transform_pre_needed :
    WF (.flt .float 0 1 false none) ∧ EnvOK E1 ∧ HC E1 (.flt .float 0 1 false none) ∧
    proj E1 .transform (.flt .float 0 1 false none) ⟨0, [-1/10]⟩ = some (.flt (-1/10)) ∧
    ¬ Member (.flt .float 0 1 false none) (.flt (-1/10)) :=
  ⟨wf_flt_plain _ _ _ (by norm_num) trivial, envOK_E1, fun _ => by (simp [E1]; norm_num), by decide +kernel,
   not_member_flt _ _ _ _ _ (Or.inl (by norm_num))⟩

/-- **transform_hc_needed** — `HC` is genuinely needed: with a clamp that falls below `low` (what a fixed `high - eps`
does on a range narrower than `eps`; here `high - 1` on `[0, 1/2]`) the corner `u = 1` of the box is projected out of the
domain.  `np.nextafter(high, high - 1)` satisfies `HC` in doubles whenever `low < high`. -/
theorem transform_hc_needed :
    WF (.flt .float 0 (1/2) false none) ∧ EnvOK E0 ∧ ¬ HC E0 (.flt .float 0 (1/2) false none) ∧
    proj E0 .transform (.flt .float 0 (1/2) false none) ⟨0, [1]⟩ = some (.flt (-1/2)) ∧
    ¬ Member (.flt .float 0 (1/2) false none) (.flt (-1/2)) := by
  refine ⟨wf_flt_plain _ _ _ (by norm_num) trivial, envOK_E0, ?_, by decide +kernel,
    not_member_flt _ _ _ _ _ (Or.inl (by norm_num))⟩
  intro h
  have := (h (by norm_num)).1
  simp [E0] at this
  norm_num at this

/-- **tpe_cat_pre_needed** — a quantile above 1 counts every cumulative weight: the index is `len(choices)` and
`to_external_repr` raises `IndexError` (`none`).  `rng.rand()` is in `[0, 1)`. -/
theorem tpe_cat_pre_needed :
    proj E0 .tpe (.cat [.str "a", .str "b"]) ⟨2, [1/2, 1]⟩ = none ∧
    proj E0 .tpe (.cat [.str "a", .str "b"]) ⟨1, [1/2, 1]⟩ = some (.str "b") := by decide +kernel

/-- **gp_box_alone_not_enough** — for GP coordinates with a step, "inside the normalised box `[0, 1]`" is NOT enough:
`get_unnormalized_param` clips (and rounds ints to the nearest integer) but does not snap to the step grid.
`IntDistribution(0, 10, step=5)` at `x = 2/5` gives `4`; `FloatDistribution(0, 1, step=0.25)` at `x = 2/5` gives `0.375`.
What keeps such values out is the optimiser's discipline `OnGrid` (and, behind it, the containment test of `_suggest` on
relative values: `relative_outside_falls_back`). -/
theorem gp_box_alone_not_enough :
    WF (.int .int 0 10 false 5) ∧ (0 : Rat) ≤ 2/5 ∧ (2/5 : Rat) ≤ 1 ∧
    proj E0 .gp (.int .int 0 10 false 5) ⟨2/5, []⟩ = some (.int 4) ∧ ¬ Member (.int .int 0 10 false 5) (.int 4) ∧
    proj E0 .gp (.flt .float 0 1 false (some (1/4))) ⟨2/5, []⟩ = some (.flt (3/8)) ∧
    ¬ Member (.flt .float 0 1 false (some (1/4))) (.flt (3/8)) := by
  refine ⟨by simp [WF, IClsOK], by norm_num, by norm_num, by decide +kernel, ?_, by decide +kernel, ?_⟩ <;>
    exact fun hm => absurd (contains_of_member rfl rfl hm) (by decide +kernel)

/-- **suggest_value_in_domain** — for EVERY sampler path: when the independent sampler's answer is the projection of
raw numbers meeting the path's precondition, the value `Trial._suggest` returns for a new name is a member of the declared
domain — whichever branch produced it (fixed / single / relative / independent), for every trial state, context and
relative sampler.  Hypotheses: the class invariant `WF d`, `Pre`, and — because optuna only WARNS about an enqueued value
outside the range — that the fixed value, if there is one, is a member.  No hypothesis on the sampler's answer. -/
theorem suggest_value_in_domain (E : Env) (path : Path) (cx : Suggest.Ctx) (st st1 : St) (name : String) (d : Dist) (raw : Raw)
    (v : Tok) (br : Branch) (hnew : st.dists.get? name = none)
    (h : suggest cx st name d (projT E path d raw) = .ok (st1, v, br)) (hwf : WF d) (hpre : Pre E path d raw)
    (hfixed : ∀ fv, cx.fixed.get? name = some fv → Member d fv) : Member d v :=
  C10.suggest_in_domain cx st st1 name d _ v br hnew h hwf hfixed (projT_member E path d raw hwf hpre)

theorem suggest_value_in_domain_unfixed (E : Env) (path : Path) (cx : Suggest.Ctx) (st st1 : St) (name : String) (d : Dist) (raw : Raw)
    (v : Tok) (br : Branch) (hnew : st.dists.get? name = none) (hnf : cx.fixed.get? name = none)
    (h : suggest cx st name d (projT E path d raw) = .ok (st1, v, br)) (hwf : WF d) (hpre : Pre E path d raw) : Member d v :=
  suggest_value_in_domain E path cx st st1 name d raw v br hnew h hwf hpre (fun fv hf => by rw [hnf] at hf; simp at hf)

/-- the call does return (no exception) when nothing is fixed for the name -/
theorem suggest_proj_succeeds (E : Env) (path : Path) (cx : Suggest.Ctx) (st : St) (name : String) (d : Dist) (raw : Raw)
    (hnew : st.dists.get? name = none) (hnf : cx.fixed.get? name = none) (hnr : cx.relParams.get? name = none)
    (hwf : WF d) (hpre : Pre E path d raw) :
    ∃ st1 v br, suggest cx st name d (projT E path d raw) = .ok (st1, v, br) ∧ Member d v := by
  by_cases hs : d.single = true
  · obtain ⟨q, hq, hc⟩ := C10.single_member d hwf
    refine ⟨_, _, _, C10.suggest_new cx st name d _ (singleValue d) .single q hnew ?_ hq, q, hq, hc⟩
    simp [pick, pickS, hnf, hs]
  · obtain ⟨q, hq, hc⟩ := projT_member E path d raw hwf hpre
    refine ⟨_, _, _, C10.suggest_new cx st name d _ (projT E path d raw) .independent q hnew ?_ hq, q, hq, hc⟩
    simp [pick, pickS, hnf, hs, hnr]

/-- **relative_proj_is_used** — the relative half: when `sample_relative` answers `proj path d raw` (TPE multivariate /
group, GP, QMC) for a name of its search space with a compatible distribution, `_suggest` TAKES that value (the containment
test passes — the independent sampler is not consulted), and it is a member. -/
theorem relative_proj_is_used (E : Env) (path : Path) (cx : Suggest.Ctx) (st : St) (name : String) (d rd : Dist) (raw : Raw) (indep : Tok)
    (hnew : st.dists.get? name = none) (hf : cx.fixed.get? name = none) (hs : d.single = false)
    (hr : cx.relParams.get? name = some (projT E path d raw)) (hsp : cx.relSpace.get? name = some rd)
    (hc : compat rd d = true) (hwf : WF d) (hpre : Pre E path d raw) :
    ∃ q, Member d (projT E path d raw) ∧ suggest cx st name d indep =
      .ok ({ params := st.params.set name (projT E path d raw), dists := st.dists.set name d,
             stored := st.stored.set name (q, d) }, projT E path d raw, .relative) := by
  obtain ⟨q, hq, hin⟩ := projT_member E path d raw hwf hpre
  exact ⟨q, ⟨q, hq, hin⟩, C10.relative_inside_used cx st name d rd _ indep q hnew hf hs hr hsp hc hq hin⟩

-- non-vacuity: the three branches with projections as sources.  `x`: relative GP coordinate ON the grid is taken;
-- `y`: relative value for another range is discarded, Random's projection (u = 1, the clamp) is used
example :
    let dx : Dist := .int .int 0 10 false 5
    let dy : Dist := .flt .float 0 3 false none
    let cx : Suggest.Ctx := ⟨[], [("x", dx), ("y", .flt .float 0 30 false none)], [("x", projT E0 .gp dx ⟨5/6, []⟩), ("y", .flt 7)]⟩
    (suggest cx St.empty "x" dx (projT E0 .transform dx ⟨0, [0]⟩)).toOption.map (fun r => (r.2.1, r.2.2)) = some (.int 10, .relative) ∧
    (suggest cx St.empty "y" dy (projT E0 .transform dy ⟨0, [1]⟩)).toOption.map (fun r => (r.2.1, r.2.2)) = some (.flt 2, .independent) := by
  decide +kernel

/-- **nsga_suggest_value_in_domain** — NSGA-II end to end: the relative parameters are whatever the child generation
strategy returned (members, by `C10Nsga.child_params_in_domain`: the retry loop leaves only through `_is_contained`; and
again tested by `_suggest`), a parameter dropped by the mutation comes from `RandomSampler` = the transform path.  The
value the objective receives is a member, without the hypothesis `hindep` of `C10Nsga.nsga2_suggested_value_in_domain`.
(`_h` and `_hrel` only say where `cx.relParams` comes from; the proof is `suggest_value_in_domain` at the transform path.) -/
theorem nsga_suggest_value_in_domain (E EN : Env) (cfg : Nsga2.Cfg) (space : Nsga2.Space) (pop : List (Nsga2.Ind XVal))
    (s : List Nsga2.Draw) (out : Nsga2.ChildOut) (_h : Nsga2.childGen EN cfg space pop s = .ok out)
    (cx : Suggest.Ctx) (_hrel : cx.relParams = out.params) (st st1 : St) (name : String) (d : Dist) (raw : Raw) (v : Tok) (br : Branch)
    (hnew : st.dists.get? name = none)
    (h : suggest cx st name d (projT E .transform d raw) = .ok (st1, v, br)) (hwf : WF d) (hpre : Pre E .transform d raw)
    (hfixed : ∀ fv, cx.fixed.get? name = some fv → Member d fv) : Member d v :=
  suggest_value_in_domain E .transform cx st st1 name d raw v br hnew h hwf hpre hfixed

section Gen
open OptunaVerif.Generated.ProjGen
open OptunaVerif.Generated.TransformGen (prog)
open OptunaVerif.TransformIR (boundsGen untransformGen)

/-- transform path on the GENERATED `_transform.py`: the `bounds` property and `untransform` of
`_SearchSpaceTransform({name: d})` as translated today (`C11Gen`), with the hand-off `lo + u·(hi − lo)` between them (pinned
as text by T-proj: `qmc_handoff`, `random_handoff`; NumPy refuses vectors of different lengths). -/
def projGenTransform (E : Env) (d : Dist) (us : List Rat) : Option Tok :=
  match boundsGen prog E c0 [d] with
  | some bs =>
    if us.length = bs.length then
      match untransformGen prog E c0 [d] (List.zipWith unscale01 bs us) with
      | some [v] => some v
      | _ => none
    else none
  | none => none

/-- TPE on the GENERATED formulas: `_calculate_distributions` (`calcLow`, `calcHigh`, `calcStepNone`) chooses the batched
distribution, `_calculate_numerical_distributions` the arm (`numContG`), `_MixtureOfProductDistribution.sample` the clip /
discretisation (`mixCont`, `mixDisc`, `mixCat`), `_ParzenEstimator._untransform` the rest (`tpeUntransform`). -/
def tpeGenVal (E : Env) (d : Dist) (raw : Raw) : Rat :=
  match d with
  | .cat _ => ((mixCat.eval raw.cols raw.x : Nat) : Rat)
  | _ =>
    let ρ := ctxD d raw.x
    let ρm : ProjIR.Ctx :=
      { ctxM (calcLow.eval E noCall ρ) (calcHigh.eval E noCall ρ) ρ.step 0 1 raw.x with stepNone := calcStepNone.eval E noCall ρ }
    tpeUntransform.eval E noCall
      (ctxD d (if numContG.eval E noCall ρm then mixCont.eval E noCall ρm else mixDisc.eval E noCall ρm))

/-- GP on the GENERATED `get_unnormalized_param` (numerical arm `gpGet`; the categorical arm is the pinned text
`ret[param] = distribution.to_external_repr(normalized_param[i])`) -/
def gpGenVal (E : Env) (d : Dist) (x : Rat) : Rat :=
  match d with
  | .cat _ => x
  | _ => gpGet.eval E (gp.callf E) (ctxD d x)

def projGen (E : Env) : Path → Dist → Raw → Option Tok
  | .transform, d, raw => projGenTransform E d raw.cols
  | .tpe, d, raw => d.toExternal (tpeGenVal E d raw)
  | .gp, d, raw => d.toExternal (gpGenVal E d raw.x)

def projGenT (E : Env) (path : Path) (d : Dist) (raw : Raw) : Tok := (projGen E path d raw).getD .none

theorem gen_proj_transform_eq (E : Env) (d : Dist) (us : List Rat) : projGenTransform E d us = projTransform E d us := by
  have hb : bounds E c0 [d] = boundsOf E c0 d := by simp [bounds, c0]
  unfold projGenTransform projTransform
  rw [C11Gen.gen_bounds_eq, hb]
  simp only [boundsOf_length, C11Gen.gen_untransform_eq]
  by_cases hl : us.length = d.width
  · have hz : (List.zipWith unscale01 (boundsOf E c0 d) us).length = d.width := by
      simp [List.length_zipWith, boundsOf_length, hl]
    rw [if_pos hl, if_pos hl, untransform_cons, if_neg (by rw [hz]; exact lt_irrefl _)]
    have ht : (List.zipWith unscale01 (boundsOf E c0 d) us).take d.width = List.zipWith unscale01 (boundsOf E c0 d) us := by
      rw [← hz]; exact List.take_length
    have hd : (List.zipWith unscale01 (boundsOf E c0 d) us).drop d.width = [] := by
      rw [← hz]; exact List.drop_length
    rw [ht, hd]
    have hu : ucols E c0 d (List.zipWith unscale01 (boundsOf E c0 d) us) = decode E c0 d (List.zipWith unscale01 (boundsOf E c0 d) us) := by
      simp [ucols, c0]
    rw [hu]
    cases decode E c0 d (List.zipWith unscale01 (boundsOf E c0 d) us) <;> simp [untransform]
  · rw [if_neg hl, if_neg hl]

theorem gen_tpe_val_eq (E : Env) (d : Dist) (raw : Raw) : tpeGenVal E d raw = tpeVal E d raw := by
  cases d with
  | flt c l h lg st =>
    cases lg <;> cases st <;>
      simp [tpeGenVal, tpeVal, calcLow, calcHigh, calcStepNone, numContG, mixCont, mixDisc, tpeUntransform, X.eval, G.eval,
        ctxD, ctxM, Ctx.get, tpeCont, tpeDisc]
  | int c l h lg st =>
    cases lg <;>
      simp [tpeGenVal, tpeVal, calcLow, calcHigh, calcStepNone, numContG, mixCont, mixDisc, tpeUntransform, X.eval, G.eval,
        ctxD, ctxM, Ctx.get, tpeCont, tpeDisc]
  | cat cs => simp [tpeGenVal, tpeVal, C10ProjGen.gen_mix_cat_eq]

theorem gen_gp_val_eq (E : Env) (d : Dist) (x : Rat) : gpGenVal E d x = gpVal E d x := by
  cases d with
  | flt c l h lg st => simp only [gpGenVal, gpVal, C10ProjGen.gen_gp_get_eq]
  | int c l h lg st => simp only [gpGenVal, gpVal, C10ProjGen.gen_gp_get_eq]
  | cat cs => rfl

/-- **gen_proj_eq** — the projections *as written in the source today* (T-proj: `Generated/ProjGen.lean`; T-transform:
`Generated/TransformGen.lean`), composed along each sampler path, ARE `proj`. -/
theorem gen_proj_eq (E : Env) (path : Path) (d : Dist) (raw : Raw) : projGen E path d raw = proj E path d raw := by
  cases path with
  | transform => exact gen_proj_transform_eq E d raw.cols
  | tpe => simp only [projGen, proj, projTpe, gen_tpe_val_eq]
  | gp => simp only [projGen, proj, projGp, gen_gp_val_eq]

theorem gen_projT_eq (E : Env) (path : Path) (d : Dist) (raw : Raw) : projGenT E path d raw = projT E path d raw := by
  simp only [projGenT, projT, gen_proj_eq]

/-- **gen_proj_member** — `proj_member` for the code as written today -/
theorem gen_proj_member (E : Env) (path : Path) (d : Dist) (raw : Raw) (hwf : WF d) (hpre : Pre E path d raw) :
    ∃ v, projGen E path d raw = some v ∧ Member d v := by
  rw [gen_proj_eq]; exact proj_member E path d raw hwf hpre

-- non-vacuity: the evaluators on boundary raws (same values as the hand model above)
example : projGen E0 .transform (.flt .float 0 3 false none) ⟨0, [1]⟩ = some (.flt 2) ∧
    projGen E0 .transform (.int .int 1 9 false 4) ⟨0, [1]⟩ = some (.int 9) ∧
    projGen E0 .transform (.cat [.none, .nan, .int 3]) ⟨0, [1/2, 1, 1]⟩ = some .nan ∧
    projGen E0 .transform (.int .int 1 9 false 4) ⟨0, [1, 1]⟩ = none ∧
    projGen E1 .tpe (.flt .float (1/1000) 10 true none) ⟨100, []⟩ = some (.flt 10) ∧
    projGen E1 .tpe (.int .int 1 8 true 1) ⟨100, []⟩ = some (.int 8) ∧
    projGen E0 .tpe (.cat [.str "a", .str "b", .none]) ⟨99999/100000, [1/4, 1/2, 9999/10000]⟩ = some .none ∧
    projGen E0 .gp (.int .int 0 10 false 5) ⟨5/6, []⟩ = some (.int 10) ∧
    projGen E0 .gp (.int .int 0 10 false 5) ⟨2/5, []⟩ = some (.int 4) ∧
    projGen E0 .gp (.cat [.str "a", .str "b", .none]) ⟨2, []⟩ = some .none := by decide +kernel

open OptunaVerif.C10SuggestGen (genSuggest gen_suggest_eq envOf)
open OptunaVerif.Generated.SuggestMethods (program)
open OptunaVerif.SuggestIR

/-- **gen_suggest_value_in_domain** — generated code on both sides: the interpreter of `Trial._suggest` as written today,
with the independent sampler answering the evaluator of the generated projection of its path, returns a member of the
declared domain for a new name — under `WF d`, the path's `Pre` and the fixed-value hypothesis only. -/
theorem gen_suggest_value_in_domain (E : Env) (path : Path) (cx : Suggest.Ctx) (st st1 : St) (name : String) (d : Dist) (raw : Raw)
    (v : Tok) (br : Branch) (hnew : st.dists.get? name = none)
    (h : genSuggest cx st name d (projGenT E path d raw) = some (.ok (st1, v, br))) (hwf : WF d) (hpre : Pre E path d raw)
    (hfixed : ∀ fv, cx.fixed.get? name = some fv → Member d fv) : Member d v := by
  rw [gen_suggest_eq, gen_projT_eq] at h
  exact suggest_value_in_domain E path cx st st1 name d raw v br hnew (Option.some.inj h) hwf hpre hfixed

/-- **gen_relative_proj_is_used** — a relative value that is the evaluated projection is taken -/
theorem gen_relative_proj_is_used (E : Env) (path : Path) (cx : Suggest.Ctx) (st : St) (name : String) (d rd : Dist) (raw : Raw) (indep : Tok)
    (hnew : st.dists.get? name = none) (hf : cx.fixed.get? name = none) (hs : d.single = false)
    (hr : cx.relParams.get? name = some (projGenT E path d raw)) (hsp : cx.relSpace.get? name = some rd)
    (hc : compat rd d = true) (hwf : WF d) (hpre : Pre E path d raw) :
    ∃ q, Member d (projGenT E path d raw) ∧ genSuggest cx st name d indep =
      some (.ok ({ params := st.params.set name (projGenT E path d raw), dists := st.dists.set name d, stored := st.stored.set name (q, d) },
        projGenT E path d raw, .relative)) := by
  rw [gen_projT_eq] at hr ⊢
  obtain ⟨q, hm, hsg⟩ := relative_proj_is_used E path cx st name d rd raw indep hnew hf hs hr hsp hc hwf hpre
  exact ⟨q, hm, by rw [gen_suggest_eq, hsg]⟩

example : genSuggest ⟨[], [], []⟩ St.empty "x" (.int .int 1 9 false 4) (projGenT E0 .transform (.int .int 1 9 false 4) ⟨0, [1]⟩) =
    some (.ok (⟨[("x", .int 9)], [("x", .int .int 1 9 false 4)], [("x", (9, .int .int 1 9 false 4))]⟩, .int 9, .independent)) := by
  rw [gen_suggest_eq]; decide +kernel

/-- **gen_suggest_float_value_in_domain** — the public wrapper `suggest_float(name, low, high, step=…, log=…)` as written
today, sampler = evaluated projection on the distribution the wrapper builds: the returned value is a member of that
`FloatDistribution`. -/
theorem gen_suggest_float_value_in_domain (E : Env) (path : Path) (cx : Suggest.Ctx) (st : St) (name : String) (low high : Rat)
    (step : Option Rat) (log : Bool) (d : Dist) (raw : Raw) (v : Tok) (o : AOut) (hnew : st.dists.get? name = none)
    (hd : mkFlt .float low high log step = .ok d) (hpre : Pre E path d raw)
    (h : interpSuggestFloat program (envOf cx (projGenT E path d raw)) st name low high step log = some o) (hok : o.res = .ok v)
    (hfixed : ∀ fv, cx.fixed.get? name = some fv → Member d fv) : Member d v := by
  have hwf : WF d := mkFlt_wf .float _ _ _ _ _ (by simp [FClsOK]) hd
  obtain ⟨d', hd', hm⟩ := C10SuggestGen.gen_suggest_float_in_domain cx st name low high step log _ v o hnew h hok
    (fun d1 fv h1 hf => by rw [hd] at h1; cases h1; exact hfixed fv hf)
    (fun d1 h1 => by rw [hd] at h1; cases h1; rw [gen_projT_eq]; exact projT_member E path d raw hwf hpre)
  rw [hd] at hd'; cases hd'; exact hm

/-- **gen_suggest_int_value_in_domain** — `suggest_int`: an `int`, member of the `IntDistribution` the wrapper builds -/
theorem gen_suggest_int_value_in_domain (E : Env) (path : Path) (cx : Suggest.Ctx) (st : St) (name : String) (low high step : Int)
    (log : Bool) (d : Dist) (raw : Raw) (v : Tok) (o : AOut) (hnew : st.dists.get? name = none)
    (hd : mkInt .int low high log step = .ok d) (hpre : Pre E path d raw)
    (h : interpSuggestInt program (envOf cx (projGenT E path d raw)) st name low high step log = some o) (hok : o.res = .ok v)
    (hfixed : ∀ fv, cx.fixed.get? name = some fv → Member d fv) : ∃ i : Int, v = .int i ∧ Member d (.int i) := by
  have hwf : WF d := mkInt_wf .int _ _ _ _ _ (by simp [IClsOK]) hd
  obtain ⟨d', i, hd', hv, hm⟩ := C10SuggestGen.gen_suggest_int_in_domain cx st name low high step log _ v o hnew h hok
    (fun d1 fv h1 hf => by rw [hd] at h1; cases h1; exact hfixed fv hf)
    (fun d1 h1 => by rw [hd] at h1; cases h1; rw [gen_projT_eq]; exact projT_member E path d raw hwf hpre)
  rw [hd] at hd'; cases hd'; exact ⟨i, hv, hm⟩

/-- **gen_suggest_categorical_value_in_choices** — `suggest_categorical`: one of the choices -/
theorem gen_suggest_categorical_value_in_choices (E : Env) (path : Path) (cx : Suggest.Ctx) (st : St) (name : String)
    (choices : List Tok) (raw : Raw) (v : Tok) (o : AOut) (hnew : st.dists.get? name = none) (hne : choices ≠ [])
    (hpre : Pre E path (.cat choices) raw)
    (h : interpSuggestCategorical program (envOf cx (projGenT E path (.cat choices) raw)) st name choices = some o) (hok : o.res = .ok v)
    (hfixed : ∀ fv, cx.fixed.get? name = some fv → Member (.cat choices) fv) : Member (.cat choices) v :=
  C10SuggestGen.gen_suggest_categorical_in_choices cx st name choices _ v o hnew h hok hfixed
    (by rw [gen_projT_eq]; exact projT_member E path (.cat choices) raw hne hpre)

-- non-vacuity: `suggest_float("x", 0, 1, step=0.3)`: high becomes 0.9; TPE's discretisation of a draw far above lands on it
example : (interpSuggestFloat program (envOf ⟨[], [], []⟩ (projGenT E0 .tpe (.flt .float 0 (9/10) false (some (3/10))) ⟨7, []⟩))
    St.empty "x" 0 1 (some (3/10)) false).map (fun o => (o.res, o.st.dists)) =
    some (.ok (.flt (9/10)), [("x", .flt .float 0 (9/10) false (some (3/10)))]) := by
  rw [C10SuggestGen.interp_suggestFloat]; decide +kernel
example : (interpSuggestInt program (envOf ⟨[], [], []⟩ (projGenT E0 .gp (.int .int 0 10 false 5) ⟨5/6, []⟩))
    St.empty "n" 0 12 5 false).map (fun o => o.res) = some (.ok (.int 10)) := by rw [C10SuggestGen.interp_suggestInt]; decide +kernel
example : (interpSuggestCategorical program (envOf ⟨[], [], []⟩ (projGenT E0 .tpe (.cat [.str "a", .none]) ⟨999/1000, [1/2, 999/1000]⟩))
    St.empty "c" [.str "a", .none]).map (fun o => o.res) = some (.ok .none) := by
  rw [C10SuggestGen.interp_suggestCategorical]; decide +kernel

end Gen

end OptunaVerif.C10Compose
