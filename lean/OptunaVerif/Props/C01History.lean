import OptunaVerif.Props.C01
/-!
# C01 — history-level forms of two single-step statements

* `claim_once_history`: `C01.claim_once` is about two back-to-back claims.  Here: after a successful
  claim of `tid`, in EVERY later history that does not put `tid` back to WAITING (no re-queue), no
  `set_trial_state_values(tid, RUNNING)` is answered `True` — whatever else happens in between (other
  claims, writes, creations, deletions), from any state.
* `deleted_name_free`: `C01.deleted_gone` says a deleted study stays gone; it does not say its NAME
  becomes free.  Here: in every reachable state live study names are pairwise distinct
  (`names_unique`), hence after `delete_study` a `create_new_study` under the deleted study's name
  succeeds and is given a fresh id.
-/
namespace OptunaVerif.C01
open OptunaVerif.Storage

def isRequeue (tid : Nat) : Op → Bool
  | .setTrialStateValues t .waiting _ => t == tid
  | _ => false

/-- the stored record, whether or not its study is still live -/
def NotWaiting (s : Spec) (tid : Nat) : Prop := ∃ t, s.trials[tid]? = some t ∧ t.state ≠ .waiting

theorem notWaiting_step (s : Spec) (tid : Nat) (op : Op) (hq : NotWaiting s tid) (hop : isRequeue tid op = false) :
    NotWaiting (step s op).1 tid := by
  obtain ⟨t, ht, hs⟩ := hq
  exact step_notWaiting s op tid t ht hs (fun v e => by subst e; simp [isRequeue] at hop)

theorem notWaiting_after (s : Spec) (tid : Nat) (ops : List Op) (hq : NotWaiting s tid)
    (hn : ops.all (fun op => !isRequeue tid op) = true) : NotWaiting (after s ops) tid :=
  List.foldlRecOn (motive := (NotWaiting · tid)) ops _ hq fun s hq op hop =>
    notWaiting_step s tid op hq (by simpa using List.all_eq_true.1 hn op hop)

theorem claim_not_true_of_notWaiting (s : Spec) (tid : Nat) (vals : Option (List XVal)) (hq : NotWaiting s tid) :
    (step s (.setTrialStateValues tid .running vals)).2 ≠ .bool true := by
  intro h
  obtain ⟨t, ht, hw⟩ := (claim_true_iff_waiting s tid vals).1 h
  obtain ⟨t', ht', hs⟩ := hq
  rw [trial?_some ht] at ht'
  cases ht'
  exact hs hw

/-- **claim_once_history**: after a successful claim of `tid`, for every later history `pre` that contains
no re-queue of `tid` (`set_trial_state_values(tid, WAITING)`), a further claim of `tid` is NOT answered
`True` — whatever other calls (by whomever) `pre` contains. -/
theorem claim_once_history (s : Spec) (tid : Nat) (vals vals' : Option (List XVal)) (pre : List Op)
    (h : (step s (.setTrialStateValues tid .running vals)).2 = .bool true)
    (hn : pre.all (fun op => !isRequeue tid op) = true) :
    (step (after (step s (.setTrialStateValues tid .running vals)).1 pre)
      (.setTrialStateValues tid .running vals')).2 ≠ .bool true := by
  apply claim_not_true_of_notWaiting
  apply notWaiting_after _ _ _ _ hn
  obtain ⟨t', ht', hst'⟩ := claim_running s tid vals h
  exact ⟨t', trial?_some ht', by rw [hst']; decide⟩

/-- the hypothesis is needed: with a re-queue in between, the second claim succeeds -/
example : (step (after (step (after init [.createStudy "s" [1], .createTrial 0 (some ⟨.waiting, none, [], [], [], [], false, false⟩) false])
      (.setTrialStateValues 0 .running none)).1 [.setTrialStateValues 0 .waiting none])
    (.setTrialStateValues 0 .running none)).2 = .bool true := by decide
/-- non-vacuity: a claim succeeds; in the example after this one other calls follow and the next claim answers False -/
example : (step (after init [.createStudy "s" [1], .createTrial 0 (some ⟨.waiting, none, [], [], [], [], false, false⟩) false])
    (.setTrialStateValues 0 .running none)).2 = .bool true := by decide
example : (step (after (step (after init [.createStudy "s" [1], .createTrial 0 (some ⟨.waiting, none, [], [], [], [], false, false⟩) false])
      (.setTrialStateValues 0 .running none)).1 [.setTrialUserAttr 0 "k" "v", .createTrial 0 none false])
    (.setTrialStateValues 0 .running none)).2 = .bool false := by decide


def NamesUnique (s : Spec) : Prop :=
  ∀ (i j : Nat) (a b : StudyS), s.studies[i]? = some (some a) → s.studies[j]? = some (some b) → a.name = b.name → i = j

theorem namesUnique_step (s : Spec) (op : Op) (h : NamesUnique s) : NamesUnique (step s op).1 := by
  intro i j a b hi hj hn
  rcases live_study_back s op i a hi with ⟨a0, hi0, ha, -⟩ | ⟨rfl, hfa⟩ <;>
    rcases live_study_back s op j b hj with ⟨b0, hj0, hb, -⟩ | ⟨rfl, hfb⟩
  · exact h i j a0 b0 hi0 hj0 (by rw [ha, hb, hn])
  · exact absurd (ha.trans hn) ((nameTaken_false_iff s b.name).1 hfb i a0 hi0)
  · exact absurd (hb.trans hn.symm) ((nameTaken_false_iff s a.name).1 hfa j b0 hj0)
  · rfl

/-- **names_unique**: in every reachable state the live studies have pairwise distinct names. -/
theorem names_unique (ops : List Op) : NamesUnique (after init ops) :=
  List.foldlRecOn (motive := NamesUnique) ops _ (by intro i j a b hi; simp [init] at hi) fun s h op _ => namesUnique_step s op h

/-- **deleted_name_free**: in every state in which live names are distinct (every reachable state:
`names_unique`), after `delete_study(sid)` a `create_new_study` under the deleted study's name succeeds
and is given a fresh id. -/
theorem deleted_name_free (s : Spec) (hu : NamesUnique s) (sid : Nat) (st : StudyS) (dirs : List Nat)
    (h : s.study? sid = some st) :
    (step (step s (.deleteStudy sid)).1 (.createStudy st.name dirs)).2 = .newId s.studies.length := by
  have hraw : s.studies[sid]? = some (some st) := (study?_eq_some_iff s sid st).1 h
  rw [(Wrote.deleteStudy sid st h).step_eq, (Wrote.createStudy st.name dirs _).step_eq]
  · simp
  -- the one study that held the name is gone
  · rw [nameTaken_false_iff]
    intro i a hi hn
    rw [updAt_getElem?] at hi
    split at hi
    · simp [‹i = sid›, hraw] at hi
    · exact ‹¬i = sid› (hu i sid a st hi hraw hn)

/-- `deleted_name_free` in every reachable state -/
theorem deleted_name_free_reachable (ops : List Op) (sid : Nat) (st : StudyS) (dirs : List Nat)
    (h : (after init ops).study? sid = some st) :
    (step (step (after init ops) (.deleteStudy sid)).1 (.createStudy st.name dirs)).2 =
      .newId (after init ops).studies.length :=
  deleted_name_free _ (names_unique ops) sid st dirs h

example : (step (step (after init [.createStudy "a" [1], .createStudy "b" [2]]) (.deleteStudy 0)).1 (.createStudy "a" [2])).2 = .newId 2 := by
  decide
/-- before the deletion the name is taken -/
example : (step (after init [.createStudy "a" [1], .createStudy "b" [2]]) (.createStudy "a" [2])).2 = .err .duplicated := by decide

end OptunaVerif.C01
