import OptunaVerif.Props.C04
/-!
# C04 — run-level forms of "none is skipped" and "a `got` is a claim"

`no_skip_step` and `list_complete` (Props/C04.lean) are facts about ONE step.  Here they are carried along runs of the
small-step system `Queue.run` (any number of workers, any schedule, any interleaved storage calls).  Fairness is not modelled:
nothing here says that a worker ever takes a step — the theorems say what is true of every state a run reaches:
`got_is_claim` / `holders_distinct` (a worker that holds a trial has the recorded claim; no two hold the same one),
`no_skip_run`, and `queued_trial_eventually_claimed_or_gone_partial` / `pop_not_none_while_queued` (the invariant `Ahead`: while a
queued trial stays WAITING, a pop loop started after it was queued has neither passed it nor answered `None`).
-/
namespace OptunaVerif.C04
open OptunaVerif.Storage OptunaVerif.Queue

def GotClaimed (sys : Sys) : Prop := ∀ w t, sys.workers[w]? = some (WState.got t) → (w, t) ∈ sys.claims

theorem gotClaimed_step (sys : Sys) (a : Act) (hg : GotClaimed sys) : GotClaimed (Queue.step sys a) := by
  intro w t hw
  rcases step_cases sys a with e | ⟨op, rfl, e⟩ | ⟨w', ws, s', ws', cl, hws, hm, e⟩ <;> rw [e] at hw ⊢
  · exact hg w t hw
  · exact hg w t hw
  · by_cases hww : w = w'
    · subst hww
      rw [updAt_self _ _ _ _ hws] at hw
      -- the only move that ends in `got t` is the successful claim, which records it
      cases hm with
      | list sid => split at hw <;> cases hw
      | none | reset => cases hw
      | claim t' rest hb => cases hw; simp
      | pass t' rest ws' _ h => rcases h with rfl | ⟨e, rfl⟩ <;> cases hw
    · rw [updAt_other _ _ _ _ hww] at hw
      exact List.mem_append_left _ (hg w t hw)

/-- in every state of every run (any workers, any schedule, any interleaved storage calls — re-queues
included) that starts in a state where `GotClaimed` holds (e.g. no worker holds a trial: `got_is_claim_from_start`), a worker in
state `got t` has the recorded claim `(w, t)`; together with `claimed_at_most_once`: two workers never hold the same trial
(`holders_distinct`). -/
theorem got_is_claim (sys : Sys) (acts : List Act) (h0 : GotClaimed sys) : GotClaimed (run sys acts) :=
  List.foldlRecOn acts _ h0 fun s hs a _ => gotClaimed_step s a hs

theorem got_is_claim_from_start (spec : Spec) (workers : List WState) (acts : List Act)
    (hstart : ∀ (w t : Nat), workers[w]? ≠ some (WState.got t)) (w t : Nat)
    (h : (run { spec := spec, workers := workers, claims := [] } acts).workers[w]? = some (.got t)) :
    (w, t) ∈ (run { spec := spec, workers := workers, claims := [] } acts).claims :=
  got_is_claim _ acts (fun w t hw => absurd hw (hstart w t)) w t h

theorem holders_distinct (spec : Spec) (workers : List WState) (acts : List Act)
    (hno : ∀ a ∈ acts, a.isRequeue = false) (hstart : ∀ (w t : Nat), workers[w]? ≠ some (WState.got t)) (w1 w2 t : Nat)
    (h1 : (run { spec := spec, workers := workers, claims := [] } acts).workers[w1]? = some (.got t))
    (h2 : (run { spec := spec, workers := workers, claims := [] } acts).workers[w2]? = some (.got t)) : w1 = w2 := by
  have c1 := got_is_claim_from_start spec workers acts hstart w1 t h1
  have c2 := got_is_claim_from_start spec workers acts hstart w2 t h2
  have hnd := List.nodup_iff_count.1 (claimed_at_most_once spec workers acts hno) t
  rw [List.count, List.countP_map] at hnd
  cases eq_of_countP_le_one hnd c1 c2 (by simp) (by simp)
  rfl

def Waiting (sys : Sys) (tid : Nat) : Prop := ∃ tr, sys.spec.trial? tid = some tr ∧ tr.state = .waiting

/-- along every run (any start, any workers, any schedule, any interleaved storage calls), whenever a worker's
pop loop moves past a candidate `t` — the step `tryNext w` that turns `scanning (t :: rest)` into `scanning rest` — then `t` was
not a live WAITING trial in the state in which that step was taken. -/
theorem no_skip_run (sys0 : Sys) (before : List Act) (w t : Nat) (rest : List Nat)
    (hw : (run sys0 before).workers[w]? = some (.scanning (t :: rest)))
    (hnext : (run sys0 (before ++ [.tryNext w])).workers[w]? = some (.scanning rest)) :
    ¬ Waiting (run sys0 before) t := by
  have : run sys0 (before ++ [.tryNext w]) = Queue.step (run sys0 before) (.tryNext w) := by
    simp [Queue.run, List.foldl_append]
  rw [this] at hnext
  exact no_skip_step (run sys0 before) w t rest hw hnext

theorem waiting_head_claimed (sys : Sys) (w t : Nat) (rest : List Nat)
    (hw : sys.workers[w]? = some (.scanning (t :: rest))) (hwait : Waiting sys t) :
    (Queue.step sys (.tryNext w)).workers[w]? = some (.got t) ∧ (w, t) ∈ (Queue.step sys (.tryNext w)).claims := by
  obtain ⟨s', ws', cl, hm, e⟩ := step_tryNext_cons sys w t rest hw
  rw [e]
  cases hm with
  | claim _ _ _ => exact ⟨updAt_self _ _ _ _ hw, by simp⟩
  | pass _ _ _ hb _ => exact absurd ((C01.claim_true_iff_waiting sys.spec t none).2 hwait) hb

def StaysWaiting (tid : Nat) : Sys → List Act → Prop
  | sys, [] => Waiting sys tid
  | sys, a :: rest => Waiting sys tid ∧ StaysWaiting tid (Queue.step sys a) rest

theorem waitingIds_sorted (s : Spec) (sid : Nat) : (waitingIds s sid).Pairwise (· < ·) := by
  have h := trialsFrom_sorted sid s.trials 0
  unfold waitingIds Spec.trialsOf
  rw [List.pairwise_map]
  exact h.filter _

def Ahead (cands0 : List Nat) (w tid : Nat) (sys : Sys) : Prop :=
  (∃ pre cands, cands0 = pre ++ cands ∧ sys.workers[w]? = some (.scanning cands) ∧ tid ∈ cands) ∨
  (∃ t', sys.workers[w]? = some (WState.got t') ∧ t' < tid ∧ t' ∈ cands0 ∧ (w, t') ∈ sys.claims) ∨
  (∃ e, sys.workers[w]? = some (.raised e))

theorem ahead_frame (cands0 : List Nat) (w tid : Nat) (sys sys' : Sys) (hw : sys'.workers[w]? = sys.workers[w]?)
    (hc : ∀ p ∈ sys.claims, p ∈ sys'.claims) (h : Ahead cands0 w tid sys) : Ahead cands0 w tid sys' := by
  rcases h with ⟨pre, cands, h1, h2, h3⟩ | ⟨t', h1, h2, h3, h4⟩ | ⟨e, h1⟩
  · exact Or.inl ⟨pre, cands, h1, by rw [hw]; exact h2, h3⟩
  · exact Or.inr (Or.inl ⟨t', by rw [hw]; exact h1, h2, h3, hc _ h4⟩)
  · exact Or.inr (Or.inr ⟨e, by rw [hw]; exact h1⟩)

theorem ahead_step (cands0 : List Nat) (hsorted : cands0.Pairwise (· < ·)) (w tid : Nat) (sys : Sys) (a : Act)
    (hA : Ahead cands0 w tid sys) (hW : Waiting sys tid) (hW' : Waiting (Queue.step sys a) tid)
    (hnr : a ≠ .reset w) : Ahead cands0 w tid (Queue.step sys a) := by
  rcases step_cases sys a with e | ⟨op, rfl, e⟩ | ⟨w', ws, s', ws', cl, hws, hm, e⟩
  · rw [e]; exact hA
  · rw [e]; exact hA
  by_cases hww : w ≠ w'
  · rw [e]
    exact ahead_frame cands0 w tid sys _ (updAt_other _ _ _ _ hww) (fun p hp => List.mem_append_left _ hp) hA
  obtain rfl : w = w' := Decidable.not_not.mp hww
  have hself := updAt_self sys.workers w ws (fun _ => ws') hws
  rcases hA with ⟨pre, cands, h1, h2, h3⟩ | ⟨t', h1, -⟩ | ⟨e', h1⟩
  · -- the worker is scanning with `tid` ahead: its move is a compare-and-set on the next candidate `c`
    rw [hws] at h2
    obtain rfl : ws = .scanning cands := by simpa using h2
    cases hm with
    | none => cases h3
    | reset => exact absurd rfl hnr
    | claim c rest hb =>
      have hlt : c < tid := by
        rcases List.mem_cons.1 h3 with rfl | hmem
        · -- `tid` itself was claimed: it is RUNNING afterwards, not WAITING
          obtain ⟨t0, _, _, hpost⟩ := claim_success_record sys.spec tid hb
          obtain ⟨tr, htr, hwait⟩ := hW'
          rw [e] at htr
          have := trial?_some htr
          rw [hpost] at this
          cases this; cases hwait
        -- the candidates were listed in increasing id (`waitingIds_sorted`): what is tried before `tid` is smaller
        · rw [h1] at hsorted
          exact (List.pairwise_cons.1 (List.pairwise_append.1 hsorted).2.1).1 tid hmem
      rw [e]
      exact .inr (.inl ⟨c, hself, hlt, by rw [h1]; simp, by simp⟩)
    | pass c rest _ hb hws' =>
      -- the compare-and-set did not succeed, so `c` is not `tid` (which is WAITING)
      have hmem : tid ∈ rest := (List.mem_cons.1 h3).resolve_left fun hct =>
        hb ((C01.claim_true_iff_waiting sys.spec c none).2 (hct ▸ hW))
      rw [e]
      rcases hws' with rfl | ⟨e', rfl⟩
      · exact .inl ⟨pre ++ [c], rest, by rw [h1]; simp, hself, hmem⟩
      · exact .inr (.inr ⟨e', hself⟩)
  all_goals
    -- a worker that holds a trial or was ended by an error moves only by a reset
    rw [hws] at h1
    cases hm <;> first | exact absurd rfl hnr | cases h1

theorem ahead_run (cands0 : List Nat) (hsorted : cands0.Pairwise (· < ·)) (w tid : Nat) (acts : List Act) :
    ∀ (sys : Sys), Ahead cands0 w tid sys → StaysWaiting tid sys acts → (∀ a ∈ acts, a ≠ .reset w) →
      Ahead cands0 w tid (run sys acts) := by
  induction acts with
  | nil => intro sys h _ _; exact h
  | cons a rest ih =>
    intro sys hA hS hnr
    obtain ⟨hW, hS'⟩ := hS
    have hW' : Waiting (Queue.step sys a) tid := by
      cases rest with
      | nil => exact hS'
      | cons b r => exact hS'.1
    exact ih _ (ahead_step cands0 hsorted w tid sys a hA hW hW' (hnr a (by simp))) hS'
      (fun b hb => hnr b (List.mem_cons_of_mem _ hb))

/-- No fairness, hence no "eventually": a statement about every state the run reaches.
Let trial `tid` of study `sid` be queued (a live WAITING trial) when the idle worker `w` starts a pop loop
(`beginPop w sid`), and let it STAY WAITING through the run `acts` that follows — any schedule of any workers, any interleaved
storage calls, worker `w` not being reset (it runs this one pop loop).  Then in the last state worker `w`
* is still scanning, with `tid` among the candidates it has not tried yet (nothing was skipped), or
* has claimed a trial `t'` that was queued BEFORE `tid` (`t' < tid`: smaller id = smaller number in the study, and `t'` is one
  of the candidates listed at the start), the claim being recorded, or
* was ended by a storage error of its CAS;
in particular its pop has NOT returned `None` and it has not passed `tid`.  (If `tid` does not stay WAITING, somebody claimed
it or changed its state — `no_skip_run` — and nothing is promised to `w`.) -/
theorem queued_trial_eventually_claimed_or_gone_partial (sys : Sys) (w sid tid : Nat) (t : TrialS) (acts : List Act)
    (hidle : sys.workers[w]? = some .idle)
    (ht : sys.spec.trial? tid = some t) (hs : t.study = sid) (hwt : t.state = .waiting)
    (hnoreset : ∀ a ∈ acts, a ≠ .reset w)
    (hstay : StaysWaiting tid (Queue.step sys (.beginPop w sid)) acts) :
    Ahead (waitingIds sys.spec sid) w tid (run (Queue.step sys (.beginPop w sid)) acts) := by
  obtain ⟨hget, hlive⟩ := (trial?_some_iff sys.spec tid t).1 ht
  have hmem : tid ∈ waitingIds sys.spec sid := list_complete sys.spec sid tid t hget hs hwt
  have hstudy : (sys.spec.study? sid).isSome = true := by rw [← hs]; exact hlive
  apply ahead_run _ (waitingIds_sorted sys.spec sid) w tid acts _ _ hstay hnoreset
  rw [step_beginPop_idle sys w sid hidle]
  refine Or.inl ⟨[], waitingIds sys.spec sid, rfl, ?_, hmem⟩
  simp only [updAt_self _ _ _ _ hidle, hstudy, if_true]

theorem pop_not_none_while_queued (sys : Sys) (w sid tid : Nat) (t : TrialS) (acts : List Act)
    (hidle : sys.workers[w]? = some .idle)
    (ht : sys.spec.trial? tid = some t) (hs : t.study = sid) (hwt : t.state = .waiting)
    (hnoreset : ∀ a ∈ acts, a ≠ .reset w)
    (hstay : StaysWaiting tid (Queue.step sys (.beginPop w sid)) acts) :
    (run (Queue.step sys (.beginPop w sid)) acts).workers[w]? ≠ some .empty := by
  intro he
  rcases queued_trial_eventually_claimed_or_gone_partial sys w sid tid t acts hidle ht hs hwt hnoreset hstay with
    ⟨_, _, _, h, _⟩ | ⟨_, h, _⟩ | ⟨_, h⟩ <;> (rw [he] at h; cases h)

/-! ## non-vacuity (the two-worker system `demo0` of Props/C04.lean: two queued trials 0 and 1 of study 0) -/

theorem waiting_of_state (sys : Sys) (tid : Nat) (h : (sys.spec.trial? tid).map (·.state) = some .waiting) : Waiting sys tid := by
  cases ht : sys.spec.trial? tid with
  | none => rw [ht] at h; cases h
  | some tr => rw [ht] at h; exact ⟨tr, ht, by simpa using h⟩

/-- worker 1 took trial 0 first; worker 0 then moves past candidate 0 — which was indeed no longer WAITING (`no_skip_run`) -/
example : ¬ Waiting (Queue.run demo0 [.beginPop 0 0, .beginPop 1 0, .tryNext 1]) 0 :=
  no_skip_run demo0 [.beginPop 0 0, .beginPop 1 0, .tryNext 1] 0 0 [1] (by decide) (by decide)

/-- trial 1 is queued when worker 0 starts its pop and stays WAITING while worker 1 takes trial 0 and worker 0 loses that race:
the hypotheses of `queued_trial_eventually_claimed_or_gone_partial` hold, and worker 0 is still scanning with trial 1 ahead -/
example :
    StaysWaiting 1 (Queue.step demo0 (.beginPop 0 0)) [.beginPop 1 0, .tryNext 1, .tryNext 0] ∧
    (Queue.run (Queue.step demo0 (.beginPop 0 0)) [.beginPop 1 0, .tryNext 1, .tryNext 0]).workers[0]? = some (.scanning [1]) ∧
    Ahead (waitingIds demo0.spec 0) 0 1 (Queue.run (Queue.step demo0 (.beginPop 0 0)) [.beginPop 1 0, .tryNext 1, .tryNext 0]) := by
  have hs : StaysWaiting 1 (Queue.step demo0 (.beginPop 0 0)) [.beginPop 1 0, .tryNext 1, .tryNext 0] :=
    ⟨waiting_of_state _ _ (by decide), waiting_of_state _ _ (by decide), waiting_of_state _ _ (by decide),
      waiting_of_state _ _ (by decide)⟩
  refine ⟨hs, by decide, ?_⟩
  obtain ⟨t, ht⟩ : ∃ t, demo0.spec.trial? 1 = some t := by
    cases h : demo0.spec.trial? 1 with
    | none => exact absurd h (by decide)
    | some t => exact ⟨t, rfl⟩
  have hst : t.study = 0 ∧ t.state = .waiting := by
    have : (demo0.spec.trial? 1).map (fun t => (t.study, t.state)) = some (0, .waiting) := by decide
    rw [ht] at this; simpa using this
  exact queued_trial_eventually_claimed_or_gone_partial demo0 0 0 1 t _ (by decide) ht hst.1 hst.2
    (by intro a ha; simp only [List.mem_cons, List.not_mem_nil, or_false] at ha; rcases ha with rfl | rfl | rfl <;> simp) hs

/-- … and when worker 0 is alone it ends holding the OLDER trial 0 (`t' < tid`), recorded as its claim (`got_is_claim`) -/
example :
    (Queue.run (Queue.step demo0 (.beginPop 0 0)) [.tryNext 0]).workers[0]? = some (.got 0) ∧
    (0, 0) ∈ (Queue.run (Queue.step demo0 (.beginPop 0 0)) [.tryNext 0]).claims := by decide

end OptunaVerif.C04
