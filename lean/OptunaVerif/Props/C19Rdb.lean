import OptunaVerif.Lemmas.RdbHbRun
import OptunaVerif.Props.C19
import OptunaVerif.Props.C01Rdb
import Mathlib.Logic.Equiv.List
import Std.Data.String.ToNat
/-!
# C19 on the SQL side — the heartbeat tables of `RDBStorage` refine the abstract sweep model

`Model/RdbHeartbeat.lean` puts `record_heartbeat`, `_get_stale_trial_ids`, `fail_stale_trials` and
`RetryFailedTrialCallback.__call__` on top of the relational model of `RDBStorage` (`Model/RdbLogic.lean`, eleven
tables + the `heartbeat` column, timestamps in µs on the database clock).  The staleness test, the query filter, the
grace-period default, the handling of the compare-and-set answers and the retry arithmetic are the definitions
*generated* from the Python source (`Generated/StaleGen.lean`).  Proved here:

* `stale_test_strict_microseconds`, `query_filters_running_of_study`, `grace_default`, `retry_arithmetic` — what those
  generated definitions compute;
* `stale_query_exact` — for EVERY table state satisfying the table invariant, the stale query returns exactly the
  RUNNING trials of the study with a heartbeat row older than the grace period (strictly, in µs), in id order;
* `sweep_step_refines_heartbeat_model`, `sweep_refines_heartbeat_model`, `history_refines_heartbeat_model` — one
  storage call of a sweep / one whole `fail_stale_trials` call (which returns: `fail_stale_trials_returns`) / EVERY history of sweeps of any number of workers,
  deaths, heartbeats, clock ticks and storage calls of other actors is a run of the abstract model of
  `Model/Heartbeat.lean` on the abstraction; hence the theorems of `Props/C19.lean` hold of the tables
  (`rdb_failed_by_exactly_one`, `rdb_callback_at_most_once`, `rdb_one_retry_per_failure`, `rdb_retry_chain_bounded`,
  `rdb_retry_carries_params_and_attrs`, `rdb_sweep_never_raises`);
* `untouched_if_not_stale`, `sweep_step_touches_only_noticed` — at the level of table rows;
* `retry_enqueues_one_waiting_copy` — the retry, field by field, with the exact system attributes.

Assumed: the JSON codec round-trips a number and a list of numbers and the constructor accepted `heartbeat_interval` /
`grace_period` (`POk`); a history starts from a database in which the study exists and has neither a trial nor a
heartbeat row (`Fresh`); every storage call in it is well-formed (`WfOp`) and `record_heartbeat` is called on existing
trials only (`RunOk`); nobody deletes a study, puts a trial of the study back to WAITING, writes the callback's two
system attributes, or adds a trial to the study from a template that is not a plain queued one (`EnvOk`).
-/
namespace OptunaVerif.C19Rdb
open OptunaVerif.Storage OptunaVerif.Rdb OptunaVerif.RdbHb
open OptunaVerif.Generated

/-- Against the generated `rowVerdict`: a trial with one heartbeat row is stale iff
`current_heartbeat - heartbeat > timedelta(seconds=grace_period)`, strictly, with no truncation (µs); without a row it is
skipped. -/
theorem stale_test_strict_microseconds (now ts g : Int) :
    StaleGen.rowVerdict now [] g = .skip ∧
    StaleGen.rowVerdict now [ts] g = (if now - ts > g * 1000000 then .stale else .fresh) :=
  ⟨rowVerdict_le_one now g [] (by simp), rowVerdict_le_one now g [ts] (by simp)⟩

example : StaleGen.rowVerdict 120000000 [0] 120 = .fresh ∧ StaleGen.rowVerdict 120000001 [0] 120 = .stale ∧
    StaleGen.rowVerdict (86400000000 + 10000000) [0] 120 = .stale ∧ StaleGen.rowVerdict 0 [5000000] 120 = .fresh := by decide

/-- Against the generated `queryFilter`: the WHERE clause of the stale query keeps
a `trials` row iff its state is RUNNING and it belongs to the study asked for. -/
theorem query_filters_running_of_study (st : TState) (study sid : Nat) :
    StaleGen.queryFilter st study sid = true ↔ st = .running ∧ study = sid := queryFilter_iff st study sid

example : StaleGen.queryFilter .waiting 3 3 = false ∧ StaleGen.queryFilter .running 3 4 = false ∧ StaleGen.queryFilter .running 3 3 = true := by decide

/-- Against the generated `effectiveGrace` and constructor tests: `grace_period`, or twice the
heartbeat interval; positive for every storage the constructor accepts. -/
theorem grace_default (hbInterval : Int) (gp : Option Int) :
    StaleGen.effectiveGrace hbInterval gp = (match gp with | none => 2 * hbInterval | some g => g) ∧
    (StaleGen.heartbeatIntervalRejected (some hbInterval) = false → StaleGen.gracePeriodRejected gp = false →
      0 < StaleGen.effectiveGrace hbInterval gp) :=
  ⟨effectiveGrace_eq hbInterval gp, effectiveGrace_pos hbInterval gp⟩

example : StaleGen.effectiveGrace 60 none = 120 ∧ StaleGen.effectiveGrace 60 (some 7) = 7 ∧
    StaleGen.heartbeatIntervalRejected (some 0) = true ∧ StaleGen.gracePeriodRejected (some (-1)) = true := by decide

/-- Against the generated callback data, for a codec that round-trips (`C.Lawful`) and a trial whose two reserved system
attributes hold a number / a list of numbers (`WfSys`): `RetryFailedTrialCallback` gives up iff `max_retry` is less than
the length of the stored `retry_history` plus one (the source appends the number first and tests
`self._max_retry < len(system_attrs["retry_history"])`), and otherwise hands `add_trial` the template `retryTmpl`: WAITING,
the failed trial's parameters, user attributes and (iff `inherit_intermediate_values`) intermediate values, system attributes
`{"failed_trial": number, "retry_history": [], **system_attrs}` with `retry_history` extended by the number. -/
theorem retry_arithmetic (C : Codec) (hC : C.Lawful) (cb : CbCfg) (t : TrialS) (hw : WfSys C t.systemAttrs) :
    retryTemplate C cb t =
      if Heartbeat.exceeds (cb.maxRetry.map Int.toNat) (recOf C t) then .gaveUp else .enqueue (retryTmpl C cb t) :=
  retryTemplate_eq C hC cb t hw

/-- In every table state that satisfies the table invariant (`HInv`: unique ids, foreign keys,
UNIQUE (trial_id) on `trial_heartbeats`, and NOT NULL `heartbeat`, which the proof does not use), for every database time `now`, study id, heartbeat
interval and grace period, `_get_stale_trial_ids` answers (no exception) a list that is strictly increasing (table
order, no repetition) and contains an id **iff** it is the id of a `trials` row of that study in state RUNNING that has
a `trial_heartbeats` row whose `heartbeat` is more than the grace period (µs, strict) before `now`. -/
theorem stale_query_exact (s : HState) (hs : HInv s) (now hbInterval : Int) (gp : Option Int) (sid : Nat) :
    ∃ ids, getStaleTrialIds s now hbInterval gp sid = .ok ids ∧ ids.Pairwise (· < ·) ∧
      ∀ tid, tid ∈ ids ↔
        ∃ r ∈ s.db.trials, r.id = tid ∧ r.study = sid ∧ r.state = .running ∧
          ∃ b ∈ s.db.beats, b.owner = tid ∧ ∃ ts, stampOf s.stamps b.id = some ts ∧
            now - ts > (match gp with | none => 2 * hbInterval | some g => g) * 1000000 := by
  refine ⟨_, getStaleTrialIds_eq s hs.inv.1 now hbInterval gp sid, ?_, ?_⟩
  · rw [List.pairwise_map]
    exact ((hs.inv.1.trialsSorted.sublist List.filter_sublist).sublist List.filter_sublist).imp (by intro a b h; exact h)
  · intro tid
    simp only [List.mem_map, List.mem_filter, mem_staleCandidates, staleRow_iff s hs.inv.1]
    rw [effectiveGrace_eq]
    constructor
    · rintro ⟨r, ⟨⟨hr, hst, hsd⟩, b, hb, ho, ts, hts, hgt⟩, hid⟩
      exact ⟨r, hr, hid, hsd, hst, b, hb, by rw [← hid]; exact ho, ts, hts, hgt⟩
    · rintro ⟨r, hr, hid, hsd, hst, b, hb, ho, ts, hts, hgt⟩
      exact ⟨r, ⟨⟨hr, hst, hsd⟩, b, hb, by rw [hid]; exact ho, ts, hts, hgt⟩, hid⟩

/-- By `stale_query_exact`, a trial **without a heartbeat row** is never returned. -/
theorem stale_never_without_heartbeat (s : HState) (hs : HInv s) (now hbInterval : Int) (gp : Option Int) (sid tid : Nat)
    (ids : List Nat) (h : getStaleTrialIds s now hbInterval gp sid = .ok ids) (hno : ∀ b ∈ s.db.beats, b.owner ≠ tid) : tid ∉ ids := by
  obtain ⟨ids', h', _, hiff⟩ := stale_query_exact s hs now hbInterval gp sid
  rw [h] at h'; cases h'
  intro hm
  obtain ⟨_, _, _, _, _, b, hb, ho, _⟩ := (hiff tid).mp hm
  exact hno b hb ho

/-- A trial whose heartbeat is **within the grace period** (age ≤ grace, including an age of exactly the grace period
and a heartbeat from the future) is never returned. -/
theorem stale_never_fresh (s : HState) (hs : HInv s) (now hbInterval : Int) (gp : Option Int) (sid tid : Nat)
    (ids : List Nat) (h : getStaleTrialIds s now hbInterval gp sid = .ok ids)
    (b : KRow Unit Unit) (hb : b ∈ s.db.beats) (ho : b.owner = tid) (ts : Int) (hts : stampOf s.stamps b.id = some ts)
    (hfresh : now - ts ≤ StaleGen.effectiveGrace hbInterval gp * 1000000) : tid ∉ ids := by
  obtain ⟨ids', h', _, hiff⟩ := stale_query_exact s hs now hbInterval gp sid
  rw [h] at h'; cases h'
  intro hm
  obtain ⟨_, _, _, _, _, b', hb', ho', ts', hts', hgt⟩ := (hiff tid).mp hm
  -- UNIQUE (trial_id): the row of the query is the row given
  have e1 := Tbl.ofOwner_unitKey_eq_singleton _ _ hs.inv.1.beats b hb
  have e2 := Tbl.ofOwner_unitKey_eq_singleton _ _ hs.inv.1.beats b' hb'
  rw [ho] at e1; rw [ho', e1] at e2
  cases e2
  rw [hts] at hts'; cases hts'
  rw [effectiveGrace_eq] at hfresh
  cases gp <;> dsimp only at hfresh hgt <;> omega

/-- A trial that is **not RUNNING** (finished, or still WAITING) is never returned, nor is a trial of another study. -/
theorem stale_never_finished_or_foreign (s : HState) (hs : HInv s) (now hbInterval : Int) (gp : Option Int) (sid : Nat)
    (ids : List Nat) (h : getStaleTrialIds s now hbInterval gp sid = .ok ids) (r : TrialRow) (hr : r ∈ s.db.trials)
    (hn : r.state ≠ .running ∨ r.study ≠ sid) : r.id ∉ ids := by
  obtain ⟨ids', h', _, hiff⟩ := stale_query_exact s hs now hbInterval gp sid
  rw [h] at h'; cases h'
  intro hm
  obtain ⟨r', hr', hid, hsd, hst, _⟩ := (hiff r.id).mp hm
  cases eq_of_sorted (f := fun x : TrialRow => x.id) hs.inv.1.trialsSorted hr' hr hid
  rcases hn with hn | hn
  · exact hn hst
  · exact hn hsd

/-! ### non-vacuity: six trials, one of each kind -/

/-- study 0 with trials 0..4 (0: RUNNING, heartbeat 130 s old; 1: RUNNING, heartbeat exactly 120 s old; 2: RUNNING, no
heartbeat; 3: COMPLETE, old heartbeat; 4: RUNNING, heartbeat from the future) and study 1 with trial 5 (RUNNING, old) -/
def demoState : HState :=
  let ops : List Op := [.createStudy "a" [1], .createStudy "b" [1], .createTrial 0 none false, .createTrial 0 none false,
    .createTrial 0 none false, .createTrial 0 none false, .createTrial 0 none false, .createTrial 1 none false,
    .setTrialStateValues 3 .complete (some [.fin 1])]
  let db := Rdb.run ops
  let s0 : HState := { db := db, stamps := [] }
  let s1 := (recordHeartbeat s0 (1000 * 1000000) 0).1
  let s2 := (recordHeartbeat s1 (1010 * 1000000) 1).1
  let s3 := (recordHeartbeat s2 (100 * 1000000) 3).1
  let s4 := (recordHeartbeat s3 (2000 * 1000000) 4).1
  (recordHeartbeat s4 (100 * 1000000) 5).1

set_option maxRecDepth 8000 in
example : getStaleTrialIds demoState (1130 * 1000000) 60 none 0 = .ok [0] ∧
    getStaleTrialIds demoState (1130 * 1000000 + 1) 60 none 0 = .ok [0, 1] ∧
    getStaleTrialIds demoState (1130 * 1000000) 60 none 1 = .ok [5] ∧
    getStaleTrialIds demoState (1130 * 1000000) 60 (some 1031) 0 = .ok [] := by decide

/-- In any configuration satisfying the invariant `RInv`, one storage call of
worker `w`'s `fail_stale_trials` on the tables is exactly one step of the abstract sweep on the abstraction (the stale
ids in table order), and the invariant is kept. -/
theorem sweep_step_refines_heartbeat_model (P : Params) (hP : POk P) (c : Cfg) (h : RInv P c) (w : Nat) :
    absCfg P (sweepStep P c w) = Heartbeat.sweepStep (absParams P) (absCfg P c) w [] ∧ RInv P (sweepStep P c w) :=
  sweep_sim P hP c h w

/-- One whole call `fail_stale_trials(study)` by worker `w`, nobody acting in
between, is a run of the abstract sweep: some number `k` of steps of that worker. -/
theorem sweep_refines_heartbeat_model (P : Params) (hP : POk P) (c : Cfg) (h : RInv P c) (w : Nat) :
    ∃ k, absCfg P (failStaleTrials P c w) =
        Heartbeat.run (absParams P) (absCfg P c) (List.replicate k (.sweep w [])) ∧ RInv P (failStaleTrials P c w) :=
  failStaleTrials_sim P hP c h w

/-- The whole call ends: afterwards the worker is not inside a sweep.  (A bound on the number of storage calls, three per
stale id plus three, is the fuel inside `failStaleTrials`; the statement has none.) -/
theorem fail_stale_trials_returns (P : Params) (c : Cfg) (w : Nat) (hw : w < c.workers.length) :
    (failStaleTrials P c w).busy w = false := failStaleTrials_returns P c w hw

/-- a database in which the study exists, has no trial yet, and nobody has recorded a heartbeat -/
structure Fresh (P : Params) (db : Rdb.State) : Prop where
  abs : ∃ a, Abs db a ∧ (a.study? P.sid).isSome = true
  empty : studyList db P.sid = []
  noBeats : db.beats = []

def reach (P : Params) (db : Rdb.State) (now : Int) (n : Nat) (as : List Act) : Cfg := run P (startCfg db now n) as

/-- EVERY history — sweep storage calls of any number of workers in any interleaving, deaths at any point,
`record_heartbeat` on existing trials, clock ticks, and admissible `BaseStorage` calls of anybody on any study (`RunOk`:
each call `WfOp` and `EnvOk`) — that starts from a `Fresh` database, with parameters `POk`, leads to tables whose abstraction
is the configuration the abstract model of `Model/Heartbeat.lean` reaches by the corresponding schedule from the empty study. -/
theorem history_refines_heartbeat_model (P : Params) (hP : POk P) (db : Rdb.State) (hf : Fresh P db) (now : Int) (n : Nat)
    (as : List Act) (hok : RunOk P (startCfg db now n) as) :
    absCfg P (reach P db now n as) = C19.reach (absParams P) n (absRun P (startCfg db now n) as) ∧
    RInv P (reach P db now n as) := by
  obtain ⟨a, ha, hl⟩ := hf.abs
  obtain ⟨h0, e0⟩ := start_ok P db a ha hl hf.empty hf.noBeats now n
  obtain ⟨h1, h2⟩ := absRun_sim P hP (startCfg db now n) h0 as hok
  refine ⟨?_, h2⟩
  unfold reach C19.reach
  rw [h1, e0]

/-- what the corollaries below are about: a configuration that satisfies the invariant and whose abstraction is
reachable in the abstract model (every `reach` above is one under the hypotheses of `history_refines_heartbeat_model`:
`reached_of_history`) -/
def Reached (P : Params) (n : Nat) (c : Cfg) : Prop := RInv P c ∧ ∃ as', absCfg P c = C19.reach (absParams P) n as'

theorem reached_of_history (P : Params) (hP : POk P) (db : Rdb.State) (hf : Fresh P db) (now : Int) (n : Nat)
    (as : List Act) (hok : RunOk P (startCfg db now n) as) : Reached P n (reach P db now n as) := by
  obtain ⟨h1, h2⟩ := history_refines_heartbeat_model P hP db hf now n as hok
  exact ⟨h2, _, h1⟩

/-- Over any history, `set_trial_state_values(t, FAIL)` of a sweep answers `True` at most
once per trial — over all workers and all their sweeps.  If worker `w` got that answer, the trial is FAIL in the tables,
no other worker got it, and every callback invocation for `t` was made by `w`. -/
theorem rdb_failed_by_exactly_one (P : Params) (n : Nat) (c : Cfg) (hr : Reached P n c) (t : Nat) :
    c.events.countP (Event.isWon t) ≤ 1 ∧
    ∀ w, Event.won w t ∈ c.events →
      (∃ p ∈ studyList c.hs.db P.sid, p.1 = t ∧ p.2.state = .fail) ∧
      (∀ w', Event.won w' t ∈ c.events → w' = w) ∧
      (∀ w' b, Event.callback w' t b ∈ c.events → w' = w) := by
  obtain ⟨h, as', habs⟩ := hr
  refine ⟨won_count P c h t 1 (fun k => by rw [habs]; exact C19.failed_by_at_most_one _ n as' k), ?_⟩
  intro w hw
  have ht : t ∈ (studyList c.hs.db P.sid).map (·.1) := h.evIn _ hw t (by simp [Event.ids])
  have hw' : Heartbeat.Event.won w (numOf (studyList c.hs.db P.sid) t) ∈ (C19.reach (absParams P) n as').events := by
    rw [← habs]; exact mem_abs_events P c _ _ hw rfl
  obtain ⟨_, ⟨x, hx, hxf⟩, huniq, hcb⟩ := C19.failed_by_exactly_one _ n as' _ w hw'
  refine ⟨?_, ?_, ?_⟩
  · rw [← habs] at hx
    obtain ⟨p, hp, hpt, e⟩ := abs_trial_of_listed P c h t ht x hx
    exact ⟨p, hp, hpt, by rw [e] at hxf; exact hxf⟩
  · intro w' hw2
    exact huniq w' (by rw [← habs]; exact mem_abs_events P c _ _ hw2 rfl)
  · intro w' b hcb2
    exact hcb w' b (by rw [← habs]; exact mem_abs_events P c _ _ hcb2 rfl)

/-- The failure callback is invoked at most once per trial. -/
theorem rdb_callback_at_most_once (P : Params) (n : Nat) (c : Cfg) (hr : Reached P n c) (t : Nat) :
    c.events.countP (Event.isCb t) ≤ 1 := by
  obtain ⟨h, as', habs⟩ := hr
  exact cb_count P c h t 1 (fun k => by rw [habs]; exact C19.callback_at_most_once _ n as' k)

/-- At most one retry trial is enqueued per failed trial. -/
theorem rdb_one_retry_per_failure (P : Params) (n : Nat) (c : Cfg) (hr : Reached P n c) (t : Nat) :
    c.events.countP (Event.isEnq t) ≤ 1 := by
  obtain ⟨h, as', habs⟩ := hr
  exact enq_count P c h t 1 (fun k => by rw [habs]; exact C19.one_retry_per_failure _ n as' k)

/-- With `max_retry = m` no trial of the study ever has a `retry_history` longer than `m`
(a negative `max_retry` counts as 0). -/
theorem rdb_retry_chain_bounded (P : Params) (n : Nat) (c : Cfg) (hr : Reached P n c) (m : Int) (hm : P.cb.maxRetry = some m)
    (p : Nat × TrialS) (hp : p ∈ studyList c.hs.db P.sid) : (histOf P.codec p.2.systemAttrs).length ≤ m.toNat := by
  obtain ⟨h, as', habs⟩ := hr
  have hx := trials_abs_get P c h p hp
  rw [habs] at hx
  have := C19.retry_chain_bounded (absParams P) n as' m.toNat (by simp [absParams, hm]) _ _ hx
  exact this

/-- Every retry that was enqueued is the WAITING copy of the failed trial as
that trial is recorded in the tables now: same parameters (as tokens of internal value and distribution), same user
attributes, same other system attributes, `retry_history` = the failed trial's history followed by its number,
`failed_trial` = the failed trial's `failed_trial` if it has one, else its number; and that trial is FAIL. -/
theorem rdb_retry_carries_params_and_attrs (P : Params) (n : Nat) (c : Cfg) (hr : Reached P n c) (w t k : Nat) (tmpl : Template)
    (he : Event.enqueued w t k tmpl ∈ c.events) :
    ∃ p ∈ studyList c.hs.db P.sid, p.1 = t ∧ p.2.state = .fail ∧ tmpl.state = .waiting ∧
      tmpl.params.map (fun q => (q.1, ptok q.2)) = p.2.params.map (fun q => (q.1, ptok q.2)) ∧
      tmpl.userAttrs = p.2.userAttrs ∧
      tmpl.systemAttrs.filter (fun q => !reserved q.1) = p.2.systemAttrs.filter (fun q => !reserved q.1) ∧
      (tmpl.systemAttrs.get? StaleGen.historyKey).bind P.codec.decList = some (histOf P.codec p.2.systemAttrs ++ [p.2.number]) ∧
      (tmpl.systemAttrs.get? StaleGen.retriedKey).bind P.codec.decNat =
        some (((p.2.systemAttrs.get? StaleGen.retriedKey).bind P.codec.decNat).getD p.2.number) := by
  obtain ⟨h, as', habs⟩ := hr
  have ht : t ∈ (studyList c.hs.db P.sid).map (·.1) := h.evIn _ he t (by simp [Event.ids])
  have he' := mem_abs_events P c _ _ he rfl
  rw [habs] at he'
  obtain ⟨x, hx, hf, h1, h2, h3, h4, h5, h6⟩ := C19.retry_carries_params_and_attrs _ n as' _ _ _ _ he'
  rw [← habs] at hx
  obtain ⟨p, hp, hpt, e⟩ := abs_trial_of_listed P c h t ht x hx
  subst e
  have hnum := number_eq_numOf c.hs.db h.inv P.sid p hp
  rw [hpt] at hnum
  refine ⟨p, hp, hpt, hf, h1, h2, h3, h4, ?_, ?_⟩
  · rw [hnum]; exact h5
  · rw [hnum]; exact h6

/-- Along every such history no exception leaves `fail_stale_trials` — the stale query
never trips `assert len(trial.heartbeats) == 1` (its two other asserts, on `heartbeat_interval` and on the database clock,
are not modelled), `set_trial_state_values` answers `True` or the swallowed `UpdateFinishedTrialError`,
`get_trial` finds the trial, the callback does not fail, `create_new_trial` accepts the template. -/
theorem rdb_sweep_never_raises (P : Params) (n : Nat) (c : Cfg) (hr : Reached P n c) (w : Nat) (what : String) :
    Event.raised w what ∉ c.events := by
  intro hm
  have := hr.1.noRaise _ hm
  simp [Event.isRaised] at this

/-- One storage call of a sweep leaves every row of every table of every existing
trial (of any study) as it was, with its primary keys and heartbeat, unless that trial is the id at the head of the
worker's list of stale ids it still has to fail. -/
theorem sweep_step_touches_only_noticed (P : Params) (hP : POk P) (c : Cfg) (h : RInv P c) (w tid : Nat)
    (htid : tid ∈ c.hs.db.trialIds) :
    rowsOf (sweepStep P c w).hs tid = rowsOf c.hs tid ∨ ∃ todo won, c.workers[w]? = some (.failing (tid :: todo) won) :=
  sweepStep_rows P c h.inv.1 w tid htid

/-- At the level of table rows: one whole `fail_stale_trials` by an idle worker leaves every row of every
table of every existing trial exactly as it was unless the call's stale read returned the trial — so, by
`stale_query_exact`, unless the trial is a RUNNING trial of the study with a heartbeat row older than the grace period:
trials without a recorded heartbeat, with a heartbeat within the grace period, finished or WAITING ones, and trials of
other studies keep all their rows. -/
theorem untouched_if_not_stale (P : Params) (hP : POk P) (c : Cfg) (h : RInv P c) (w : Nat) (hw : c.workers[w]? = some .idle)
    (ids : List Nat) (hids : getStaleTrialIds c.hs c.now P.hbInterval P.gracePeriod P.sid = .ok ids)
    (tid : Nat) (htid : tid ∈ c.hs.db.trialIds) (hns : tid ∉ ids) :
    rowsOf (failStaleTrials P c w).hs tid = rowsOf c.hs tid :=
  failStaleTrials_rows P c h.inv w hw ids hids tid htid hns

/-- When a worker is inside the callback for trial `t` (holding the copy `snap`),
its next storage call appends exactly one trial to the study: the new id is the next `trial_id`, its number the count
of the study's trials, it is WAITING without values, its parameters (values and distributions) and user attributes are
`snap`'s, its intermediate values are `snap`'s iff `inherit_intermediate_values`, its system attributes are exactly
`{"failed_trial": snap.number, "retry_history": [], **snap.system_attrs}` with `retry_history` := the old history + `[snap.number]`;
`snap` is what the tables hold for `t`, which is finished; every other trial of the study is listed as before; one
`enqueued` event is logged and the worker goes on with its callback list. -/
theorem retry_enqueues_one_waiting_copy (P : Params) (hP : POk P) (c : Cfg) (h : RInv P c) (w t : Nat) (snap : TrialS)
    (todo : List Nat) (hw : c.workers[w]? = some (.enqueue t snap todo)) :
    (t, snap) ∈ studyList c.hs.db P.sid ∧ snap.state.isFinished = true ∧
    studyList (sweepStep P c w).hs.db P.sid = studyList c.hs.db P.sid ++
      [(c.hs.db.nTrial, mkTrial P.sid (studyList c.hs.db P.sid).length (some (retryTmpl P.codec P.cb snap)))] ∧
    (sweepStep P c w).events = .enqueued w t c.hs.db.nTrial (retryTmpl P.codec P.cb snap) :: c.events ∧
    (sweepStep P c w).workers[w]? = some (Phase.norm P.hasCb (.calling todo)) ∧
    (retryTmpl P.codec P.cb snap).state = .waiting ∧ (retryTmpl P.codec P.cb snap).values = none ∧
    (retryTmpl P.codec P.cb snap).params = snap.params ∧ (retryTmpl P.codec P.cb snap).userAttrs = snap.userAttrs ∧
    (retryTmpl P.codec P.cb snap).inter = (if P.cb.inherit then snap.inter else []) ∧
    (retryTmpl P.codec P.cb snap).systemAttrs =
      (dictUpdate [(StaleGen.retriedKey, P.codec.encNat snap.number), (StaleGen.historyKey, P.codec.encList [])] snap.systemAttrs).set
        StaleGen.historyKey (P.codec.encList (histOf P.codec snap.systemAttrs ++ [snap.number])) := by
  obtain ⟨hmem, hsf, _, _⟩ := h.phases w _ hw
  obtain ⟨a, a', F, hL', hrel⟩ := retry_create P hP c h w t snap todo hw
  refine ⟨hmem, hsf, ?_, ?_, ?_, rfl, rfl, rfl, rfl, rfl, rfl⟩
  · rw [hrel]
    show studyList (Rdb.step c.hs.db (.createTrial P.sid (some (retryTmpl P.codec P.cb snap)) false)).1 P.sid = _
    rw [F.L', hL', ← F.L, F.abs.nTrials]
  · rw [hrel]; rfl
  · rw [hrel]
    simp only [Cfg.move, updAt_getElem?, if_true, hw, Option.map_some]

/-! ## non-vacuity: a lawful codec, a fresh study, a history with a stale trial that is failed and retried -/

/-- a codec whose laws are provable (numbers as decimal text, lists through Mathlib's `Encodable (List ℕ)`); the
driver uses the JSON text of `jsonCodec`, which the tie checks on every case -/
def toyCodec : Codec :=
  { encNat := fun n => Nat.repr n,
    encList := fun l => Nat.repr (Encodable.encode l),
    decNat := fun s => s.toNat?,
    decList := fun s => s.toNat?.bind (fun n => Encodable.decode n) }

theorem toyCodec_lawful : toyCodec.Lawful :=
  ⟨fun n => Nat.toNat?_repr n, fun l => by simp [toyCodec, Nat.toNat?_repr]⟩

def demoP : Params :=
  { sid := 0, hbInterval := 60, gracePeriod := none, hasCb := true, cb := { maxRetry := some 1, inherit := false }, codec := toyCodec }

theorem demoP_ok : POk demoP := ⟨toyCodec_lawful, by decide, by decide⟩

def demoDb : Rdb.State := Rdb.run [.createStudy "s" [1]]

theorem demoDb_fresh : Fresh demoP demoDb := by
  refine ⟨⟨_, (C01Rdb.rdbLogic_refines_spec [.createStudy "s" [1]] (by intro op hop; simp at hop; subst hop; simp [WfOp])).1, by decide⟩,
    by decide, by decide⟩

/-- trial 0 is created (an `ask`), records a heartbeat, 121 s pass, worker 0 and worker 1 both read it as stale;
worker 0 fails it, runs the callback and enqueues the retry; worker 1 then loses the compare-and-set -/
def demoHistory : List Act :=
  [.call (.createTrial 0 none false), .call (.setTrialUserAttr 0 "u" "1"), .beat 0, .tick 121000000,
   .sweep 0, .sweep 1, .sweep 0, .sweep 0, .sweep 0, .sweep 1]

theorem demoHistory_ok : RunOk demoP (startCfg demoDb 0 2) demoHistory := by
  refine ⟨⟨trivial, trivial⟩, ⟨trivial, trivial⟩, ?_, trivial, trivial, trivial, trivial, trivial, trivial, trivial, trivial⟩
  show 0 ∈ State.trialIds _
  decide

/-- the hypotheses of the refinement and of its corollaries are met by a history in which a sweep has work to do -/
example : Reached demoP 2 (reach demoP demoDb 0 2 demoHistory) :=
  reached_of_history demoP demoP_ok demoDb demoDb_fresh 0 2 demoHistory demoHistory_ok

/-- the abstract schedule `demoHistory` stands for -/
theorem demo_absRun : absRun demoP (startCfg demoDb 0 2) demoHistory =
    [.env .create, .env (.setUserAttr 0 "u" "1"), .env (.beat 0), .env (.tick 121000000),
     .sweep 0 [], .sweep 1 [], .sweep 0 [], .sweep 0 [], .sweep 0 [], .sweep 1 []] := by
  decide

/-- what the abstraction of the tables therefore shows at the end: both workers noticed the stale trial, worker 0
failed it, ran the callback once and enqueued the retry, worker 1 got `UpdateFinishedTrialError` -/
example : (absCfg demoP (reach demoP demoDb 0 2 demoHistory)).events.reverse =
    [.read 0 [0], .read 1 [0], .won 0 0, .callback 0 0 true,
     .enqueued 0 0 1 { state := .waiting, params := [], userAttrs := [("u", "1")], failedTrial := some 0,
                       retryHistory := some [0], otherSys := [] },
     .lost 1 0] := by
  rw [(history_refines_heartbeat_model demoP demoP_ok demoDb demoDb_fresh 0 2 demoHistory demoHistory_ok).1, demo_absRun]
  decide

end OptunaVerif.C19Rdb
