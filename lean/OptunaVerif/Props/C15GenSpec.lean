import OptunaVerif.Props.C15Gen
import OptunaVerif.Props.C15
import OptunaVerif.Lemmas.RankBridge
import OptunaVerif.Lemmas.RankBridge2
import OptunaVerif.Lemmas.FrontBridge
/-!
# C15 (translator tie) — theorems of `Props/C15.lean`, restated for the interpreters of the generated IR

`Props/C15Gen.lean` proves the generated `_compute_2d`, `_compute_hv` / `_compute_exclusive_hv`, `compute_hypervolume` equal to the hand
models of `Model/Hypervolume.lean` (which carry no generated flags, so they are the reference directly), the generated `_solve_hssp` and
greedy loop equal to `Model/Hssp.lean`, and the two generated rank functions equal to flag-free array references.  Here these
property theorems are carried over:
* hypervolume (`c2dGen`, `hvGen`, `chvGen` over `Generated.HvMethods.prog`): result = number of dominated unit cells (`hvSpec`), in every
  dimension, with and without `assume_pareto`, ±∞ / touching rows / the reference check included;
* subset selection (`topGen` / `uniqueGen` over `Generated.HsspMethods.prog`): the hand model's selection, `k` distinct members, a greedy run;
* rank (`calcGen` / `fastGen` over `Generated.RankMethods.prog`, through `Lemmas/RankBridge.lean`, `RankBridge2.lean`): the peeling rank,
  `n_below`, the constrained branch and the order of its three groups.

Not carried over (no `gen_` form): `infinite_volume_is_inf`, the greedy gap and `1 − 1/e` bounds, `hssp2d_*`,
`lazy_step_picks_true_argmax`, `hv_monotone_submodular`.

`…_partial` marks what rests on code WITHOUT an interpreter: `_lazy_contribs_update` and `_solve_hssp_2d` enter as the hand model's functions
(parameters of `uniqueGen`), and what is machine-checked about their source is that its text is the reviewed snapshot (`*_shape` in C15Gen),
on which `Model/Hssp.lean` and the sampled tie of `verif/props/c15.py` stand.  `front_bridge_le2_partial` is partial in another way: it
bridges the two hand models of `_is_pareto_front` for at most two objectives.
-/
namespace OptunaVerif.C15GenSpec
open OptunaVerif.Hypervolume OptunaVerif.Rank OptunaVerif.Hssp OptunaVerif.HvIR OptunaVerif.C15Gen
open OptunaVerif.Generated.HvMethods (prog)

/-- `_compute_2d` as generated returns the dominated area for every column-0-sorted array (ties in any
order, dominated rows and duplicates included: the F22 repair). -/
theorem gen_compute2d_eq_spec (r : Pt) (hr : r.length = 2) (S : List Pt) (hS : ∀ p ∈ S, Le p r) (hs : Sorted0 S) :
    c2dGen prog.c2d r S = hvSpec S r := by
  rw [gen_compute_2d_eq]; exact C15.compute2d_eq_spec r hr S hS hs

-- the input of the repaired finding F22: a non-Pareto row after a dominating one contributes nothing
example : c2dGen prog.c2d [4, 6] [[0, 0], [2, 3]] = 24 := by decide +kernel

/-- `_compute_hv` as generated returns the dominated volume, every dimension, every column-0-sorted array
of rows that weakly dominate the reference point. -/
theorem gen_wfg_eq_spec (r : Pt) (S : List Pt) (hS : ∀ p ∈ S, Le p r) (hs : Sorted0 S) :
    hvGen prog.wfg (frontOf r.length) r S.length S = hvSpec S r := by
  rw [gen_compute_hv_eq]; exact C15.wfg_eq_spec r S hS hs

example : hvGen prog.wfg (frontOf 3) [3, 3, 3] 4 [[0, 2, 1], [1, 1, 1], [1, 1, 1], [2, 0, 0]] = 15 := by decide +kernel

/-- `compute_hypervolume` as generated = the dominated volume, for finite inputs, any dimension,
either value of `assume_pareto` (whose docstring promise therefore holds). -/
theorem gen_compute_hypervolume_exact (S : List Pt) (r : Pt) (hS : ∀ p ∈ S, Le p r) (ap : Bool) :
    chvGen prog (S.map liftPt) (liftPt r) ap = .out (.fin (hvSpec S r)) := by
  rw [gen_compute_hypervolume_eq]
  cases ap
  · rw [C15.compute_hypervolume_exact S r hS]
  · rw [C15.compute_hypervolume_assume_pareto_exact S r hS]

example : chvGen prog [[.fin 0, .fin 0], [.fin 2, .fin 3]] [.fin 4, .fin 6] true = .out (.fin 24) ∧
    chvGen prog [[.fin 0, .fin 0], [.fin 2, .fin 3]] [.fin 4, .fin 6] false = .out (.fin 24) := by decide +kernel

theorem gen_reference_check (S : List Pt) (r : Pt) (ap : Bool) (h : ¬ ∀ p ∈ S, Le p r) :
    chvGen prog (S.map liftPt) (liftPt r) ap = .out .error := by
  rw [gen_compute_hypervolume_eq, C15.reference_check S r ap h]

example : chvGen prog [[.fin 0, .fin 2]] [.fin 1, .fin 1] false = .out .error := by decide +kernel

/-- The F23 repair: a first row that weakly dominates the reference point and touches it in some coordinate can be dropped
without changing the result, whatever its other coordinates (`-inf` included).  (Stated for the head of the array only.) -/
theorem gen_touching_rows_contribute_nothing (S : List (List EInt)) (r p : List EInt) (ap : Bool)
    (hp : allLeE p r = true) (htouch : allLtE p r = false) :
    chvGen prog (p :: S) r ap = chvGen prog S r ap := by
  rw [gen_compute_hypervolume_eq, gen_compute_hypervolume_eq, C15.touching_rows_contribute_nothing S r p ap hp htouch]

example : chvGen prog [[.ninf, .fin 5], [.fin 1, .fin 1]] [.fin 5, .fin 5] false = chvGen prog [[.fin 1, .fin 1]] [.fin 5, .fin 5] false := by decide +kernel

/-- When every row touches the finite reference point the hypervolume is 0. -/
theorem gen_degenerate_rows_only_is_zero (S : List (List EInt)) (r : List EInt) (ap : Bool)
    (hcheck : S.all (fun p => allLeE p r) = true) (hr : r.all EInt.isFinite = true)
    (htouch : ∀ p ∈ S, allLtE p r = false) : chvGen prog S r ap = .out (.fin 0) := by
  rw [gen_compute_hypervolume_eq, C15.degenerate_rows_only_is_zero S r ap hcheck hr htouch]

example : chvGen prog [[.ninf, .fin 5]] [.fin 5, .fin 5] true = .out (.fin 0) := by decide +kernel

/-- a non-finite reference point answers inf (the convention upstream tests pin) -/
theorem gen_infinite_reference_is_inf (S : List (List EInt)) (r : List EInt) (ap : Bool)
    (hcheck : S.all (fun p => allLeE p r) = true) (hr : r.all EInt.isFinite = false) :
    chvGen prog S r ap = .out .inf := by
  rw [gen_compute_hypervolume_eq, C15.infinite_reference_is_inf S r ap hcheck hr]

example : chvGen prog [[.fin 0, .fin 0]] [.pinf, .fin 1] false = .out .inf := by decide +kernel

/-- the six `*_shape` pins of C15Gen for `hssp.py` and the two rank functions as one statement: the normalised text of each is the reviewed
snapshot.  For `_lazy_contribs_update` and `_solve_hssp_2d` this is all that is machine-checked about the source; the other four functions
are also interpreted (sections below). -/
theorem rank_and_hssp_text_is_reviewed_partial :
    Generated.HvShapes.solveHssp2dSrc = HvExpected.solveHssp2dSrc ∧
    Generated.HvShapes.lazyContribsUpdateSrc = HvExpected.lazyContribsUpdateSrc ∧
    Generated.HvShapes.solveHsspOnUniqueSrc = HvExpected.solveHsspOnUniqueSrc ∧
    Generated.HvShapes.solveHsspSrc = HvExpected.solveHsspSrc ∧
    Generated.HvShapes.fastNonDominationRankSrc = HvExpected.fastNonDominationRankSrc ∧
    Generated.HvShapes.calculateNondominationRankSrc = HvExpected.calculateNondominationRankSrc :=
  ⟨solve_hssp_2d_shape, lazy_contribs_update_shape, solve_hssp_on_unique_loss_vals_shape, solve_hssp_shape,
    fast_non_domination_rank_shape, calculate_nondomination_rank_shape⟩

/-- the hypervolume that `_lazy_contribs_update` / the greedy loop call (`compute_hypervolume(…, assume_pareto=True)`) returns, as generated,
the dominated volume `hvSpec` on finite data, which is what the hand model's `hvAP` returns (`Hssp.hvAP_eq`) — the one place where
`hssp.py`'s hand model meets an interpreted function.  (`gen_compute_hypervolume_exact` at `assume_pareto = true`.) -/
theorem gen_hvAP_partial (r : Pt) (vecs : List Pt) (hS : ∀ p ∈ vecs, Le p r) :
    chvGen prog (vecs.map liftPt) (liftPt r) true = .out (.fin (hvSpec vecs r)) :=
  gen_compute_hypervolume_exact vecs r hS true


open OptunaVerif.HsspIR in
theorem solveHsspRef_eq (vals : List Pt) (ids : List Nat) (k : Nat) (r : Pt) (fin : Bool) (hn : ids.length = vals.length) :
    solveHsspRef (fun U l k => solveOnUnique U l k r fin) vals ids k = (solveHssp vals k r fin).map (fun j => ids.getD j 0) := by
  unfold solveHsspRef solveHssp
  simp only [hn]
  by_cases hk : k = vals.length
  · simp only [hk, if_true]; rw [← hn, map_getD_range]
  · simp only [hk, if_false]
    split <;> rfl

open OptunaVerif.HsspIR in
/-- `_solve_hssp` + `_solve_hssp_on_unique_loss_vals` as generated (with `_lazy_contribs_update` and
`_solve_hssp_2d` as the hand model's functions) return the hand model's selection read through `rank_i_indices`, for EVERY array
(duplicated loss vectors included), every `rank_i_indices` of the same length, every `k`, reference point. -/
theorem gen_solve_hssp_eq_hand_partial (vals : List Pt) (ids : List Nat) (k : Nat) (r : Pt) (fin : Bool) (hn : ids.length = vals.length) :
    topGen Generated.HsspMethods.prog.top
      (fun U l k => uniqueGen Generated.HsspMethods.prog.greedy (fun cs vs s => lazyUpdate r cs vs s)
        (fun U labels k => hssp2dLoop k ((U.zip labels).map (fun e => { pt := e.1, label := e.2, dx := x0 r, dy := y1 r }))) U l k r fin)
      vals ids k = .idx ((solveHssp vals k r fin).map (fun j => ids.getD j 0)) := by
  rw [gen_solve_hssp_eq]
  congr 1
  rw [← solveHsspRef_eq vals ids k r fin hn]
  unfold solveHsspRef
  simp only
  split
  · rfl
  · split
    · rfl
    · rw [gen_solve_on_unique_eq_partial _ _ _ _ _ (by simp)]

open OptunaVerif.HsspIR in
/-- What the generated `_solve_hssp` returns is exactly `k` DISTINCT members of `rank_i_indices`, for every array of rows `≤ r`
(duplicated loss vectors included), every `k ≤ n`, distinct `rank_i_indices` of the array's length, every branch. -/
theorem gen_hssp_returns_k_distinct_members_partial (vals : List Pt) (ids : List Nat) (r : Pt) (hv : ∀ p ∈ vals, Le p r) (k : Nat)
    (hk : k ≤ vals.length) (fin : Bool) (hn : ids.length = vals.length) (hid : ids.Nodup) :
    ∃ res, topGen Generated.HsspMethods.prog.top
      (fun U l k => uniqueGen Generated.HsspMethods.prog.greedy (fun cs vs s => lazyUpdate r cs vs s)
        (fun U labels k => hssp2dLoop k ((U.zip labels).map (fun e => { pt := e.1, label := e.2, dx := x0 r, dy := y1 r }))) U l k r fin)
      vals ids k = .idx res ∧ res.length = k ∧ res.Nodup ∧ ∀ x ∈ res, x ∈ ids := by
  obtain ⟨h1, h2, h3⟩ := C15.hssp_returns_k_distinct_members vals r hv k hk fin
  refine ⟨_, gen_solve_hssp_eq_hand_partial vals ids k r fin hn, by simp [h1], ?_, ?_⟩
  · refine (List.nodup_map_iff_inj_on h2).mpr ?_
    intro i hi j hj hij
    have hi' : i < ids.length := by rw [hn]; exact h3 i hi
    have hj' : j < ids.length := by rw [hn]; exact h3 j hj
    simp only [List.getD_eq_getElem?_getD, List.getElem?_eq_getElem hi', List.getElem?_eq_getElem hj', Option.getD_some] at hij
    exact (List.Nodup.getElem_inj_iff hid).mp hij
  · intro x hx
    obtain ⟨j, hj, rfl⟩ := List.mem_map.mp hx
    have hj' : j < ids.length := by rw [hn]; exact h3 j hj
    simp [List.getD_eq_getElem?_getD, List.getElem?_eq_getElem hj']

open OptunaVerif.HsspIR in
/-- The generated main loop (d ≠ 2) makes, at every step, a pick of maximal true marginal hypervolume contribution (`GreedyRun`).
`GreedyRun` is the hypothesis of `Hssp.greedy_gap` / `Hssp.solveHssp_bound_of_run`, from which the bounds of `Props/C15.lean` are
derived for the hand model; no bound is stated for the generated code. -/
theorem gen_greedy_loop_is_greedy_run_partial (r : Pt) (hd : r.length ≠ 2) (U : List Pt) (labels : List Nat)
    (hlen : labels.length = U.length) (hU : ∀ p ∈ U, Le p r) (k : Nat) (hk : k < U.length) :
    ∃ picks : List (Pt × Nat),
      uniqueGen Generated.HsspMethods.prog.greedy (fun cs vs s => lazyUpdate r cs vs s)
        (fun U labels k => hssp2dLoop k ((U.zip labels).map (fun e => { pt := e.1, label := e.2, dx := x0 r, dy := y1 r }))) U labels k r true =
        picks.map (·.2) ∧ picks.length = k ∧ GreedyRun r [] (U.zip labels) picks := by
  rw [gen_solve_on_unique_eq_partial U labels k r true hlen]
  exact C15.greedy_loop_is_greedy_run r hd U labels hlen hU k hk

-- the input of seeded C15-6: six rows, three distinct, k = 5, caller ids 10..15: five distinct ids
open OptunaVerif.HsspIR in
example : topGen Generated.HsspMethods.prog.top (fun _ _ _ => []) [[1, 1], [1, 1], [4, 4], [2, 1], [4, 4], [1, 1]] [10, 11, 12, 13, 14, 15] 5 =
    .idx [10, 11, 12, 13, 14] := by
  rw [gen_solve_hssp_eq]
  decide +kernel

open OptunaVerif.RankIR in
/-- `_calculate_nondomination_rank` as generated = the hand model, rows of `d` columns, every `n_below` -/
theorem gen_calculate_rank_eq_hand (d : Nat) (S : List Pt) (hS : ∀ q ∈ S, q.length = d) (nb : Option Int) :
    calcGen Generated.RankMethods.prog frontH (uniqueLex S).length d S (nbRV nb) = .ints ((calcRank d S nb).map Int.ofNat) := by
  rw [gen_calculate_rank_eq, calcRef_eq_calcRank d S hS nb]

open OptunaVerif.RankIR in
/-- what the generated `_calculate_nondomination_rank` returns without `n_below` is THE peeling rank: there is a rank
function `ρ` with "the rows of rank `j` are exactly the rows of rank ≥ j that no row of rank ≥ j dominates", the result is `ρ` row by row, and
any other such function agrees with `ρ` on the rows (duplicates, ties, any dimension, no rows). -/
theorem gen_rank_eq_peeling (d : Nat) (S : List Pt) (hS : ∀ q ∈ S, q.length = d) :
    ∃ ρ : Pt → Nat, IsPeeling S ρ ∧
      calcGen Generated.RankMethods.prog frontH (uniqueLex S).length d S .none_ = .ints (S.map (fun p => (ρ p : Int))) ∧
      ∀ ρ', IsPeeling S ρ' → ∀ p ∈ S, ρ' p = ρ p := by
  refine ⟨rankFn d S none, C15.rank_eq_peeling d S hS, ?_, fun ρ' h' => C15.peeling_rank_unique S ρ' _ h' (C15.rank_eq_peeling d S hS)⟩
  have := gen_calculate_rank_eq_hand d S hS none
  simpa [nbRV, calcRank, List.map_map, Function.comp_def] using this

open OptunaVerif.RankIR in
example : calcGen Generated.RankMethods.prog frontH 4 2 [[0, 1], [1, 0], [1, 1], [1, 1], [2, 2]] .none_ = .ints [0, 0, 1, 1, 2] := by
  show calcGen _ _ _ _ _ (nbRV none) = _
  rw [gen_calculate_rank_eq]
  decide +kernel

open OptunaVerif.RankIR in
/-- the generated `_calculate_nondomination_rank` with `n_below` (more than one objective): there is a stopping
level `K`; ranks below `K` are exact peeling ranks, every other row gets `K`; `K` is the first level at which at least `min(n_below, n_unique)`
unique rows have been ranked.  Outside the early return `trivialCase` (no rows, or `n_below ≤ 0`), as in `C15.rank_n_below_spec`. -/
theorem gen_rank_n_below_spec (d : Nat) (S : List Pt) (hS : ∀ q ∈ S, q.length = d) (nBelow : Option Int)
    (h1 : d ≠ 1) (ht : trivialCase S nBelow = false) :
    calcGen Generated.RankMethods.prog frontH (uniqueLex S).length d S (nbRV nBelow) = .ints (S.map (fun p => (rankFn d S nBelow p : Int))) ∧
    ∃ K, IsPeelingUpTo S (rankFn d S nBelow) K ∧
      clipNBelow nBelow (uniqueLex S).length
        ≤ (uniqueLex S).length - ((uniqueLex S).filter (fun p => rankFn d S nBelow p = K)).length ∧
      (0 < K → (uniqueLex S).length - ((uniqueLex S).filter (fun p => K - 1 ≤ rankFn d S nBelow p)).length
        < clipNBelow nBelow (uniqueLex S).length) := by
  refine ⟨?_, C15.rank_n_below_spec d S hS nBelow h1 ht⟩
  have := gen_calculate_rank_eq_hand d S hS nBelow
  simpa [calcRank, List.map_map, Function.comp_def] using this

open OptunaVerif.RankIR in
example : calcGen Generated.RankMethods.prog frontH 5 2 [[0, 1], [1, 0], [1, 1], [1, 1], [2, 2], [3, 3]] (.int 3) = .ints [0, 0, 1, 1, 2, 2] := by
  show calcGen _ _ _ _ _ (nbRV (some 3)) = _
  rw [gen_calculate_rank_eq]
  decide +kernel

open OptunaVerif.RankIR in
/-- `_fast_non_domination_rank` as generated, calling the generated `_calculate_nondomination_rank`, without
penalties: the hand model `Rank.fastRank`, every array, every `n_below` that is `None` or a natural number -/
theorem gen_fast_rank_unconstrained (d : Nat) (S : List Pt) (hS : ∀ q ∈ S, q.length = d) (nBelow : Option Nat) :
    fastGen Generated.RankMethods.prog (C15Gen.calcCallee frontH) d S .none_ (nbRV (nBelow.map Int.ofNat)) =
      .ints (((fastRank d S none nBelow).getD []).map Int.ofNat) := by
  have h := C15Gen.gen_fast_rank_eq_calc frontH d S none (nBelow.map Int.ofNat)
  simp only [penRV] at h
  rw [h, fastRank_none, Option.getD_some]
  unfold fastRef
  by_cases hS0 : S = []
  · subst hS0; rfl
  · have hpos := nbOf_pos nBelow (List.length_pos_iff.mpr hS0)
    simp only [nbOr_map_ofNat, List.length_eq_zero_iff, hS0, if_false, hpos, not_true_eq_false]
    rw [calcRef_eq_calcRank d S hS]

open OptunaVerif.RankIR in
/-- `_fast_non_domination_rank` as generated, calling the generated `_calculate_nondomination_rank`, WITH
penalties: the hand model `Rank.fastRank`, for every array (no rows included), every penalty vector of that length (NaN entries; an empty
feasible, infeasible or NaN group), every `n_below` that is `None` or a natural number. -/
theorem gen_fast_rank_constrained (d : Nat) (S : List Pt) (hS : ∀ q ∈ S, q.length = d) (pen : List (Option Int))
    (hlen : pen.length = S.length) (nBelow : Option Nat) :
    fastGen Generated.RankMethods.prog (C15Gen.calcCallee frontH) d S (.pen pen) (nbRV (nBelow.map Int.ofNat)) =
      .ints (((fastRank d S (some pen) nBelow).getD []).map Int.ofNat) := by
  have h := C15Gen.gen_fast_rank_eq_calc frontH d S (some pen) (nBelow.map Int.ofNat)
  simp only [penRV] at h
  rw [h]
  exact fastRef_eq_fastRank d S hS pen hlen nBelow

open OptunaVerif.RankIR in
/-- the length mismatch is the ValueError (array not empty: the empty array returns before the test) -/
theorem gen_fast_rank_length_mismatch (d : Nat) (S : List Pt) (hne : S ≠ []) (pen : List (Option Int)) (hlen : pen.length ≠ S.length)
    (nBelow : Option Nat) :
    fastGen Generated.RankMethods.prog (C15Gen.calcCallee frontH) d S (.pen pen) (nbRV (nBelow.map Int.ofNat)) = .valueError := by
  have h := C15Gen.gen_fast_rank_eq_calc frontH d S (some pen) (nBelow.map Int.ofNat)
  simp only [penRV] at h
  rw [h]
  unfold fastRef
  have hpos := nbOf_pos nBelow (List.length_pos_iff.mpr hne)
  simp [hne, nbOr_map_ofNat, hpos, hlen]

open OptunaVerif.RankIR in
/-- with penalties (`none` = NaN) and no `n_below`, the generated `_fast_non_domination_rank` ranks every row
by repeated peeling under the constrained domination `CDom` (feasible before infeasible before unknown; Pareto dominance among feasible and among
unknown rows; smaller penalty among infeasible rows). -/
theorem gen_rank_constrained_eq_spec (d : Nat) (S : List Pt) (pen : List (Option Int))
    (hS : ∀ q ∈ S, q.length = d) (hlen : pen.length = S.length) :
    ∃ ρ : Row → Nat,
      fastGen Generated.RankMethods.prog (C15Gen.calcCallee frontH) d S (.pen pen) .none_ = .ints ((S.zip pen).map (fun e => (ρ e : Int))) ∧
      IsCPeeling (S.zip pen) ρ := by
  obtain ⟨ρ, h1, h2⟩ := C15.rank_constrained_eq_spec d S pen hS hlen
  refine ⟨ρ, ?_, h2⟩
  have := gen_fast_rank_constrained d S hS pen hlen none
  simp only [Option.map_none, nbRV] at this
  rw [this, h1]
  simp [List.map_map, Function.comp_def]

open OptunaVerif.RankIR in
/-- For every `n_below` (`None` or a natural number): the result of the generated `_fast_non_domination_rank` is `ρ` row by row where
* a feasible row has the rank the callee gives it inside the feasible group (the peeling rank of that group: `gen_rank_eq_peeling` /
  `gen_rank_n_below_spec`), an infeasible row `topI +` its rank by penalty alone inside the infeasible group, a row without penalty
  information `topN +` its rank inside that group;
* every feasible row ranks STRICTLY before every infeasible row, and every feasible or infeasible row STRICTLY before every row without
  penalty information. -/
theorem gen_rank_groups_ordered (d : Nat) (S : List Pt) (pen : List (Option Int)) (hS : ∀ q ∈ S, q.length = d)
    (hlen : pen.length = S.length) (hne : S ≠ []) (nBelow : Option Nat) :
    ∃ (ρ : Row → Nat) (nb : Int) (topI topN : Nat),
      fastGen Generated.RankMethods.prog (C15Gen.calcCallee frontH) d S (.pen pen) (nbRV (nBelow.map Int.ofNat)) =
        .ints ((S.zip pen).map (fun e => (ρ e : Int))) ∧
      (∀ e ∈ (S.zip pen), classify e.2 = .feasible → ρ e = rankFn d ((rowsOf .feasible (S.zip pen)).map (·.1)) (some nb) e.1) ∧
      (∀ e ∈ (S.zip pen), classify e.2 = .infeasible → ρ e = topI + rankFn 1 (penaltyRows (S.zip pen)) (some (nb - (((rowsOf .feasible (S.zip pen)).map (·.1)).length : Int))) [e.2.getD 0]) ∧
      (∀ e ∈ (S.zip pen), classify e.2 = .unknown → ρ e = topN + rankFn d ((rowsOf .unknown (S.zip pen)).map (·.1)) (some (nb - (((rowsOf .feasible (S.zip pen)).map (·.1)).length : Int) - ((penaltyRows (S.zip pen)).length : Int))) e.1) ∧
      (∀ e ∈ (S.zip pen), ∀ e' ∈ (S.zip pen), classify e.2 = .feasible → classify e'.2 = .infeasible → ρ e < ρ e') ∧
      (∀ e ∈ (S.zip pen), ∀ e' ∈ (S.zip pen), classify e.2 ≠ .unknown → classify e'.2 = .unknown → ρ e < ρ e') := by
  have hgen := gen_fast_rank_constrained d S hS pen hlen nBelow
  rw [fastRank_some d S pen nBelow hlen] at hgen
  generalize nbOf nBelow S.length = nb at hgen
  obtain ⟨hfe, hie, hue⟩ := fastRankFn_groups d (S.zip pen) nb
  refine ⟨fastRankFn d (S.zip pen) nb, nb, _, _, ?_, fun e _ => hfe e, fun e _ => hie e, fun e _ => hue e, ?_, ?_⟩
  · rw [hgen]; simp [List.map_map, Function.comp_def]
  · intro e he e' _ hc hc'
    have := (topRank_map (fastRankFn d (S.zip pen) nb) _).1 e ((mem_rowsOf _ _ _).2 ⟨he, hc⟩)
    rw [hie e' hc']
    omega
  · intro e he e' _ hc hc'
    have := (topRank_map (fastRankFn d (S.zip pen) nb) _).1 e ((mem_ranked _ _).2 ⟨he, hc⟩)
    rw [hue e' hc']
    omega

open OptunaVerif.RankIR in
-- non-vacuity: an empty feasible group, an empty infeasible group, all penalties NaN, one NaN next to ranked rows, no rows
example : fastGen Generated.RankMethods.prog (C15Gen.calcCallee frontH) 2 [[0, 1], [1, 0], [1, 1]] (.pen [some 2, none, some 1]) .none_ =
    .ints [1, 2, 0] := by
  show fastGen _ _ _ _ (penRV (some _)) (nbRV none) = _
  rw [C15Gen.gen_fast_rank_eq_calc]
  decide +kernel
open OptunaVerif.RankIR in
example : fastGen Generated.RankMethods.prog (C15Gen.calcCallee frontH) 2 [[0, 1], [1, 0], [1, 1]] (.pen [some 0, none, some (-3)]) .none_ =
    .ints [0, 2, 1] := by
  show fastGen _ _ _ _ (penRV (some _)) (nbRV none) = _
  rw [C15Gen.gen_fast_rank_eq_calc]
  decide +kernel
open OptunaVerif.RankIR in
example : fastGen Generated.RankMethods.prog (C15Gen.calcCallee frontH) 2 [[0, 1], [1, 0], [1, 1]] (.pen [none, none, none]) .none_ =
    .ints [0, 0, 1] := by
  show fastGen _ _ _ _ (penRV (some _)) (nbRV none) = _
  rw [C15Gen.gen_fast_rank_eq_calc]
  decide +kernel
open OptunaVerif.RankIR in
-- the input on which seeded C15-2 fails: the NaN-penalty row must come after the feasible row although there is no infeasible row
example : fastGen Generated.RankMethods.prog (C15Gen.calcCallee frontH) 2 [[6, 1], [5, 2]] (.pen [some (-1), none]) .none_ = .ints [0, 1] := by
  show fastGen _ _ _ _ (penRV (some _)) (nbRV none) = _
  rw [C15Gen.gen_fast_rank_eq_calc]
  decide +kernel
open OptunaVerif.RankIR in
example : fastGen Generated.RankMethods.prog (C15Gen.calcCallee frontH) 2 [] (.pen []) .none_ = .ints [] := by
  show fastGen _ _ _ _ (penRV (some _)) (nbRV none) = _
  rw [C15Gen.gen_fast_rank_eq_calc]
  decide +kernel

open OptunaVerif.RankIR in
-- a NaN penalty next to feasible and infeasible rows: the NaN-penalty row comes after every ranked row (seeded C15-2 does not show here:
-- it needs an empty infeasible group, as in the example above)
example : fastGen Generated.RankMethods.prog (C15Gen.calcCallee frontH) 2 [[0, 1], [1, 0], [1, 1], [1, 1], [2, 2], [3, 3]]
    (.pen [some 0, some 1, none, some (-1), some 2, some 1]) .none_ = .ints [0, 2, 4, 1, 3, 2] := by
  show fastGen _ _ _ _ (penRV (some _)) (nbRV none) = _
  rw [C15Gen.gen_fast_rank_eq_calc]
  decide +kernel

/-- the two hand models of `_is_pareto_front_for_unique_sorted` (C12's mask over extended rationals, the one
C12Gen's interpreter of the generated `_is_pareto_front` is proved equal to; C15's list of kept lattice rows, the parameter of the wfg / rank
interpreters) agree for one and two objectives under the encoding `FrontBridge.encRow`.  PARTIAL: three and more objectives are not bridged,
and neither `frontOf` inside `hvGen` / `chvGen` nor the parameter `front` of `gen_calculate_rank_eq` is discharged with the interpreter of
the generated front. -/
theorem front_bridge_le2_partial (d : Nat) (hd : d = 1 ∨ d = 2) (U : List Pt) (hU : ∀ p ∈ U, p.length = d) :
    RankIR.selMask U (Best.frontSorted (U.map FrontBridge.encRow)) = Hypervolume.frontSorted id d U :=
  FrontBridge.frontSorted_eq_best_front_le2 d hd U hU

end OptunaVerif.C15GenSpec
