import OptunaVerif.Lemmas.CacheCalls
/-!
# C08 — client-side trial caches never serve a view that differs from the backend

Model: `Model/Cache.lean` — `_CachedStorage` (`Client`), `GrpcClientCache` behind a servicer
(`Proxy`), any number of them plus raw writers on one backend (`Sys`); the backend is the storage
contract model `Storage.Spec` of C01.  All theorems are for **all** histories: arbitrary backend
states satisfying the invariants of C01 (`Wf`, which every reachable state satisfies), arbitrary
cache states satisfying `Inv`/`PInv` (which every reachable cache satisfies, `sys_inv_run`),
arbitrary operations, ids, batch sizes and numbers of clients.

What is *not* claimed, because it is false for the code (each with a `decide`d witness at the end of
the file that the harness replays on the real classes):
* a cached answer about a study that **another** client has deleted
  (`foreign_delete_serves_dead_trial_witness`) — every "equals the backend" theorem therefore carries
  the hypothesis `Targets`: the study the read is about has not been deleted;
* one `get_all_trials` of a thread whose sync is followed, before it reads the dict, by the critical
  section of another thread's `create_new_trial` carrying an older snapshot
  (`stale_create_snapshot_after_sync_witness`) — the "equals the backend" theorems are about one method
  call executed without another thread of the *same* client in between; across threads the invariant
  is what is proved (`every_section_keeps_inv`), so the next call is correct again.
The system theorem is therefore named `all_clients_see_backend_partial`.
-/
namespace OptunaVerif.C08
open OptunaVerif.Storage OptunaVerif.C01 OptunaVerif.Cache

/-- **servicer_filter_eq_rdb_filter**: the Python-side filter of the servicer's `GetTrials` and the
SQL-side filter built by `RDBStorage._get_trials` (included ids cut to `<= watermark`, then one of
three queries) select the same trials in the same order — for every watermark (−1 and below
included), every included-id set (empty, ids above the watermark, ids of other studies). -/
theorem servicer_filter_eq_rdb_filter (inc : List Nat) (w : Int) (l : List (Nat × TrialS)) :
    rdbFilter inc w l = servicerFilter inc w l := rdbFilter_eq_servicerFilter inc w l

theorem fetch_selects (inc : List Nat) (w : Int) (l : List (Nat × TrialS)) (x : Nat × TrialS) :
    x ∈ rdbFilter inc w l ↔ x ∈ l ∧ ((x.1 : Int) > w ∨ x.1 ∈ inc) := by
  rw [rdbFilter_eq_servicerFilter]; exact mem_servicerFilter inc w l x

/-- The two-pass update loop of `_CachedStorage` and the one-pass loop of `GrpcClientCache` compute
the same entry from the same batch. -/
theorem cached_loop_eq_proxy_loop (e : Entry) (l : List (Nat × TrialS)) : e.absorb2 l = e.absorb l :=
  absorb2_eq_absorb e l

theorem backend_wf (ops : List Op) : Wf (after Storage.init ops) :=
  List.foldlRecOn (motive := Wf) ops _ wf_init fun s h op _ => wf_step s op h

/-- **cache_covers (backend step)**: the invariant of a `_CachedStorage` survives *every* backend
step — a write of this client, of any other client, of a raw writer, in any study. -/
theorem cache_covers_backend_step (s : Spec) (op : Op) (c : Client) (h : Inv s c) :
    Inv (step s op).1 c := inv_step s op c h

theorem cache_covers_backend_steps (s : Spec) (ops : List Op) (c : Client) (h : Inv s c) :
    Inv (after s ops) c := List.foldlRecOn (motive := (Inv · c)) ops _ h fun s h op _ => inv_step s op c h

/-- **cache_covers (sync)**: `_read_trials_from_remote_storage` re-establishes the invariant, whether
the backend answers or raises `KeyError`; other studies' entries are not touched. -/
theorem cache_covers_sync (s : Spec) (hW : Wf s) (c : Client) (sid : Nat) (h : Inv s c) :
    Inv s (c.sync s sid).1 := by
  cases hs : c.sync s sid with
  | mk c' r =>
    cases r with
    | none => exact (sync_ok s hW.numbered c sid c' h hs).2.1
    | some err => exact (sync_err s c sid c' err h hs).2.2

/-- **cache_covers (create)**: the locked part of `create_new_trial` keeps the invariant for any
snapshot of the new backend record — final if it shows a finished state, possibly *out of date*
otherwise (another thread or worker may have changed the trial between the backend call and the
critical section) — even when trials with smaller ids created by other workers have not been fetched
yet.  (The watermark is not touched: the F6 repair.) -/
theorem cache_covers_create (s : Spec) (hW : Wf s) (c : Client) (sid : Nat) (p : Nat × TrialS)
    (h : Inv s c) (hp : Snapshot s sid p) : Inv s (c.noteCreated sid p) :=
  inv_noteCreated s hW.numbered c sid p h hp

/-- **cache_covers (delete)**: the locked part of `delete_study`. -/
theorem cache_covers_delete (s : Spec) (c : Client) (sid : Nat) (h : Inv s c) : Inv s (c.dropStudy sid) :=
  inv_dropStudy s c sid h

/-- **order_by_number**: `get_all_trials` sorts what it returns by trial number — unconditionally. -/
theorem order_by_number (e : Entry) (states : Option (List TState)) :
    (e.readAll states).Pairwise (fun a b => a.2.number ≤ b.2.number) := readAll_sorted e states

/-- The backend's own filtered list — which is what `get_all_trials` returns after a sync
(`sync_then_equal`) — has strictly increasing numbers (no duplicates). -/
theorem order_by_number_strict (s : Spec) (hW : Wf s) (sid : Nat) (states : Option (List TState)) :
    ((s.trialsOf sid).filter (fun p => stateIn states p.2.state)).Pairwise
      (fun a b => a.2.number < b.2.number) :=
  (trialsOf_sorted s hW.numbered sid).filter _

/-- **finished_never_stale**: a trial that `get_trial` serves from the cache without a fetch carries
the requested id, is finished, and equals the backend's record — in every state reachable by any
writes of any clients since it was cached.  `_get_cached_trial` never raises. -/
theorem finished_never_stale (s : Spec) (c : Client) (h : Inv s c) (tid : Nat) :
    c.serveTrial tid ≠ .crash ∧
      ∀ id t, c.serveTrial tid = .hit id t →
        id = tid ∧ s.trials[tid]? = some t ∧ t.state.isFinished = true :=
  serveTrial_sound s c h tid

theorem unfinished_never_served (s : Spec) (c : Client) (h : Inv s c) (tid id : Nat) (t : TrialS)
    (hs : c.serveTrial tid = .hit id t) : t.state.isFinished = true :=
  ((serveTrial_sound s c h tid).2 id t hs).2.2

/-- **number lookup**: a hit in `_study_id_and_number_to_trial_id` is the id the backend's own
`get_trial_id_from_study_id_trial_number` finds. -/
theorem number_lookup_correct (s : Spec) (hW : Wf s) (c : Client) (h : Inv s c) (sid n tid : Nat)
    (hf : find c.sn2id (sid, n) = some tid) : ∃ t, (s.trialsOf sid)[n]? = some (tid, t) :=
  lookup_sound s hW.numbered c h sid n tid hf

/-- The lock-granular pieces a run of several threads of one `_CachedStorage` object (and of all other
clients of the database) is made of.  A public method = a backend call outside the lock and one or
two of these sections; other threads and clients may run between them. -/
inductive Section where
  /-- any backend call (another client, a raw writer, or the unlocked backend call of a method) -/
  | backend (op : Op)
  /-- `_read_trials_from_remote_storage` (the lock is held across the fetch) -/
  | sync (sid : Nat)
  /-- locked part of `create_new_trial`, with the record its backend call returned earlier -/
  | noteCreated (sid : Nat) (p : Nat × TrialS)
  /-- locked part of `delete_study` -/
  | dropStudy (sid : Nat)
  /-- locked tail of `get_study_name_from_id` / `get_study_directions`, with what the backend returned earlier -/
  | memoName (sid : Nat) (nm : String)
  | memoDirs (sid : Nat) (d : List Nat)

/-- what the payload of a section must satisfy; once it does, it goes on doing so under every later backend step
(`payload_stable`) -/
def Section.enabled (s : Spec) : Section → Prop
  | .noteCreated sid p => Snapshot s sid p
  | .memoName sid nm => ∃ o, s.studies[sid]? = some o ∧ ∀ st, o = some st → st.name = nm
  | .memoDirs sid d => ∃ o, s.studies[sid]? = some o ∧ ∀ st, o = some st → st.directions = d
  | _ => True

def Section.run (s : Spec) (c : Client) : Section → Spec × Client
  | .backend op => ((step s op).1, c)
  | .sync sid => (s, (c.sync s sid).1)
  | .noteCreated sid p => (s, c.noteCreated sid p)
  | .dropStudy sid => (s, c.dropStudy sid)
  | .memoName sid nm => (s, { c with studies := upsert c.studies sid (fun e => { e with name := some nm }) })
  | .memoDirs sid d => (s, { c with studies := upsert c.studies sid (fun e => { e with directions := some d }) })

theorem snapshot_step (s : Spec) (op : Op) (sid : Nat) (p : Nat × TrialS) (h : Snapshot s sid p) :
    Snapshot (step s op).1 sid p := by
  obtain ⟨t', h1, h2, h3, h4⟩ := h
  obtain ⟨t1, g1, g2, g3, hc⟩ := trial_step s op p.1 t' h1
  refine ⟨t1, g1, g2.trans h2, g3.trans h3, fun hf => ?_⟩
  cases h4 hf
  exact hc.resolve_right fun hw => by rw [(writable_ok s p.1 _ hw).2] at hf; cases hf

theorem payload_stable (s : Spec) (op : Op) (x : Section) (hx : x.enabled s) :
    x.enabled (step s op).1 := by
  cases x with
  | noteCreated sid p => exact snapshot_step s op sid p hx
  | memoName sid nm => exact memo_step (·.name) s op sid nm (fun _ _ hn _ => hn.symm) hx
  | memoDirs sid d => exact memo_step (·.directions) s op sid d (fun _ _ _ hd => hd.symm) hx
  | _ => trivial

/-- **every_section_keeps_inv**: whatever the interleaving of threads inside one `_CachedStorage` and
of other clients, at lock granularity, the invariant holds after every step — so every later sync
makes the cached view equal to the backend again (`sync_then_equal`) and a trial served from the
cache is never stale (`finished_never_stale`). -/
theorem every_section_keeps_inv (s : Spec) (hW : Wf s) (c : Client) (h : Inv s c) (x : Section)
    (hx : x.enabled s) : Wf (x.run s c).1 ∧ Inv (x.run s c).1 (x.run s c).2 := by
  cases x with
  | backend op => exact ⟨wf_step s op hW, inv_step s op c h⟩
  | sync sid => exact ⟨hW, cache_covers_sync s hW c sid h⟩
  | noteCreated sid p => exact ⟨hW, inv_noteCreated s hW.numbered c sid p h hx⟩
  | dropStudy sid => exact ⟨hW, inv_dropStudy s c sid h⟩
  | memoName sid nm =>
    exact ⟨hW, inv_upsert_field s c sid _ h (fun e => rfl)
      (entryInv_setName s sid _ nm (entryInv_entryD s c h sid) hx)⟩
  | memoDirs sid d =>
    exact ⟨hW, inv_upsert_field s c sid _ h (fun e => rfl)
      (entryInv_setDirs s sid _ d (entryInv_entryD s c h sid) hx)⟩

/-- a run of critical sections / backend calls, in the order the lock and the database serialise them -/
def runSections (s : Spec) (c : Client) (secs : List Section) : Spec × Client :=
  secs.foldl (fun sc x => x.run sc.1 sc.2) (s, c)

def EnabledAlong : Spec → Client → List Section → Prop
  | _, _, [] => True
  | s, c, x :: rest => x.enabled s ∧ EnabledAlong (x.run s c).1 (x.run s c).2 rest

theorem runSections_cons (s : Spec) (c : Client) (x : Section) (rest : List Section) :
    runSections s c (x :: rest) = runSections (x.run s c).1 (x.run s c).2 rest := rfl

/-- **sections_keep_inv**: for EVERY list of sections — any number of threads of one `_CachedStorage`, any other clients, any
interleaving at lock granularity, any length — if each payload is valid when its section runs, well-formedness and the cache
invariant hold at the end (and, `sections_keep_inv_every_prefix`, after every step on the way). -/
theorem sections_keep_inv : ∀ (secs : List Section) (s : Spec) (c : Client), Wf s → Inv s c → EnabledAlong s c secs →
    Wf (runSections s c secs).1 ∧ Inv (runSections s c secs).1 (runSections s c secs).2 := by
  intro secs
  induction secs with
  | nil => intro s c hW h _; exact ⟨hW, h⟩
  | cons x rest ih =>
    intro s c hW h hen
    obtain ⟨h1, h2⟩ := every_section_keeps_inv s hW c h x hen.1
    rw [runSections_cons]
    exact ih _ _ h1 h2 hen.2

theorem enabledAlong_take : ∀ (secs : List Section) (k : Nat) (s : Spec) (c : Client), EnabledAlong s c secs →
    EnabledAlong s c (secs.take k) := by
  intro secs
  induction secs with
  | nil => intro k s c h; simpa using h
  | cons x rest ih =>
    intro k s c h
    cases k with
    | zero => trivial
    | succ k => exact ⟨h.1, ih k _ _ h.2⟩

theorem sections_keep_inv_every_prefix (secs : List Section) (s : Spec) (c : Client) (hW : Wf s) (h : Inv s c)
    (hen : EnabledAlong s c secs) (k : Nat) :
    Wf (runSections s c (secs.take k)).1 ∧ Inv (runSections s c (secs.take k)).1 (runSections s c (secs.take k)).2 :=
  sections_keep_inv (secs.take k) s c hW h (enabledAlong_take secs k s c hen)

theorem section_run_spec (s : Spec) (c : Client) (x : Section) :
    (x.run s c).1 = s ∨ ∃ op, (x.run s c).1 = (step s op).1 := by
  cases x with
  | backend op => exact Or.inr ⟨op, rfl⟩
  | _ => exact Or.inl rfl

/-- payloads that were all valid BEFORE the run (read from the backend earlier) stay valid until their section runs
(`payload_stable`), so the run keeps the invariant: the records the threads carry may be out of date, never harmful -/
theorem sections_keep_inv_of_read : ∀ (secs : List Section) (s : Spec) (c : Client), Wf s → Inv s c →
    (∀ x ∈ secs, x.enabled s) →
    Wf (runSections s c secs).1 ∧ Inv (runSections s c secs).1 (runSections s c secs).2 := by
  intro secs s c hW h hall
  refine sections_keep_inv secs s c hW h ?_
  clear hW h
  induction secs generalizing s c with
  | nil => trivial
  | cons x rest ih =>
    refine ⟨hall x (by simp), ih _ _ ?_⟩
    intro y hy
    have hys := hall y (List.mem_cons_of_mem _ hy)
    rcases section_run_spec s c x with e | ⟨op, e⟩
    · rw [e]; exact hys
    · rw [e]; exact payload_stable s op y hys

def demoSecs : List Section :=
  [.backend (.createStudy "s" [1]), .sync 0, .backend (.createTrial 0 none false), .sync 0, .dropStudy 0]

theorem demoSecs_enabled (s : Spec) (c : Client) : EnabledAlong s c demoSecs :=
  ⟨trivial, trivial, trivial, trivial, trivial, trivial⟩

/-- non-vacuity: from the empty database and a fresh client the hypotheses of `sections_keep_inv` hold for `demoSecs` -/
example : Inv (runSections Storage.init Client.init demoSecs).1 (runSections Storage.init Client.init demoSecs).2 :=
  (sections_keep_inv demoSecs Storage.init Client.init wf_init (inv_init _) (demoSecs_enabled _ _)).2

/-- The read is not about a study that has been deleted (by anybody).  For a study-level read: the
slot of the study id does not hold a deleted study; for a trial-level read: if a record with that
id was ever created, its study is live. -/
def Targets (s : Spec) : Op → Prop
  | .getStudyNameFromId sid | .getStudyDirections sid | .getTrialIdFromNumber sid _ =>
    s.studies[sid]? ≠ some none
  | .getTrial tid | .getTrialNumberFromId tid | .getTrialParam tid _ =>
    ∀ t, s.trials[tid]? = some t → (s.study? t.study).isSome = true
  | _ => True

/-- What is claimed of the result `r` of one public method of `_CachedStorage` executed by one thread: the backend has moved
exactly as by the direct call (the cache never changes what is written); over a well-formed backend the cache keeps its
invariant, and the caller gets what the backend would return at that moment unless the read is about a deleted study. -/
def CallOk (s : Spec) (c : Client) (op : Op) (r : Spec × Client × Out) : Prop :=
  r.1 = (step s op).1 ∧ (Wf s → Inv s c → Inv r.1 r.2.1 ∧ (Targets s op → r.2.2 = (step s op).2))

theorem CallOk.ask {s s' : Spec} {c c' : Client} {op : Op} {out : Out} (hstep : step s op = (s', out))
    (hf : Wf s → Inv s c → Inv s' c → Inv s' c') : CallOk s c op (s', c', out) := by
  refine ⟨by rw [hstep], fun hW h => ⟨hf hW h ?_, fun _ => by rw [hstep]⟩⟩
  have := inv_step s op c h
  rwa [hstep] at this

theorem CallOk.file {s s' : Spec} {c : Client} {op : Op} {out : Out} (x : Section) (hstep : step s op = (s', out))
    (hb : (x.run s' c).1 = s') (hx : x.enabled s') : CallOk s c op (s', (x.run s' c).2, out) :=
  .ask hstep fun hW _ hinv => by
    have hW' := wf_step s op hW
    rw [hstep] at hW'
    have := (every_section_keeps_inv s' hW' c hinv x hx).2
    rwa [hb] at this

theorem CallOk.serve {s : Spec} {c c' : Client} {op : Op} {out : Out} (hr : op.reads = true)
    (ho : Wf s → Inv s c → Inv s c' ∧ (Targets s op → out = (step s op).2)) : CallOk s c op (s, c', out) :=
  ⟨(step_reads s op hr).symm, ho⟩

theorem memo_of_live {β : Type} (proj : StudyS → β) {s : Spec} {sid : Nat} {st : StudyS} (h : s.study? sid = some st) :
    ∃ o, s.studies[sid]? = some o ∧ ∀ st', o = some st' → proj st' = proj st :=
  ⟨_, (study?_eq_some_iff s sid st).1 h, fun _ e => by cases e; rfl⟩

theorem live_of_memo {β : Type} {proj : StudyS → β} {s : Spec} {sid : Nat} {v : β}
    (h : ∃ o, s.studies[sid]? = some o ∧ ∀ st, o = some st → proj st = v) (hT : s.studies[sid]? ≠ some none) :
    ∃ st, s.study? sid = some st ∧ proj st = v := by
  obtain ⟨o, ho, hv⟩ := h
  cases o with
  | none => exact absurd ho hT
  | some st => exact ⟨st, (study?_eq_some_iff s sid st).2 ho, hv st rfl⟩

theorem callCached_spec (s : Spec) (c : Client) (op : Op) : CallOk s c op (callCached s c op) := by
  -- three shapes. `.ask`: the backend answers and the cache stands still. `.file`: the backend answers and one `Section` files
  -- the answer; what is left to show is that its payload is valid. `.serve`: the cache answers, and `Inv` has to make that the
  -- backend's answer; only a hit needs `Targets` for it (the cache cannot know that the study has been deleted).
  cases op with
  | createStudy name dirs =>
    simp only [callCached]
    cases hstep : step s (.createStudy name dirs) with
    | mk s' out =>
      cases out with
      | newId sid =>
        refine .ask hstep fun hW h hinv => ?_
        obtain ⟨hsid, hlive⟩ := new_study_id_fresh s s' name dirs sid hstep
        refine hinv.rewrite (maps_upsert s' c sid (fun _ => _) (fun n => ?_) hinv.maps) sid _
          (entryInv_setDirs s' sid _ dirs (entryInv_setName s' sid _ name (entryInv_empty s' sid)
            (memo_of_live (·.name) hlive)) (memo_of_live (·.directions) hlive)) (fun _ => find_insert ..)
        -- no record belongs to the new id yet, so nothing is cached under it
        cases hf : find (entryD c.studies sid).trials n with
        | none => rfl
        | some v =>
          obtain ⟨t', k1, k2, _⟩ := h.maps.static sid n v.1 v.2 hf
          have := hW.bound v.1 t' k1
          omega
      | _ => exact .ask hstep fun _ _ hinv => hinv
  | deleteStudy sid => exact .file (.dropStudy sid) rfl rfl trivial
  | getStudyNameFromId sid =>
    simp only [callCached]
    cases hm : (find c.studies sid).bind (·.name) with
    | some nm =>
      refine .serve rfl fun _ h => ⟨h, fun hT => ?_⟩
      obtain ⟨e, he, hn⟩ := Option.bind_eq_some_iff.1 hm
      obtain ⟨st, hst, rfl⟩ := live_of_memo ((h.entries sid e he).memoName nm hn) hT
      simp only [step, hst]
    | none =>
      simp only
      cases hstep : step s (.getStudyNameFromId sid) with
      | mk s' out =>
        cases out with
        | str nm =>
          refine .file (.memoName sid nm) hstep rfl ?_
          cases hst : s.study? sid <;> simp only [step, hst] at hstep <;> cases hstep
          exact memo_of_live (·.name) hst
        | _ => exact .ask hstep fun _ _ hinv => hinv
  | getStudyDirections sid =>
    simp only [callCached]
    cases hm : (find c.studies sid).bind (·.directions) with
    | some d =>
      refine .serve rfl fun _ h => ⟨h, fun hT => ?_⟩
      obtain ⟨e, he, hn⟩ := Option.bind_eq_some_iff.1 hm
      obtain ⟨st, hst, rfl⟩ := live_of_memo ((h.entries sid e he).memoDirs d hn) hT
      simp only [step, hst]
    | none =>
      simp only
      cases hstep : step s (.getStudyDirections sid) with
      | mk s' out =>
        cases out with
        | nats d =>
          refine .file (.memoDirs sid d) hstep rfl ?_
          cases hst : s.study? sid <;> simp only [step, hst] at hstep <;> cases hstep
          exact memo_of_live (·.directions) hst
        | _ => exact .ask hstep fun _ _ hinv => hinv
  | createTrial sid tm ir =>
    simp only [callCached]
    cases hstep : step s (.createTrial sid tm ir) with
    | mk s' out =>
      cases out with
      | newId tid =>
        simp only
        cases ht : s'.trials[tid]? with
        | none => exact .ask hstep fun _ _ hinv => hinv
        | some t =>
          exact .file (.noteCreated sid (tid, t)) hstep rfl (createTrial_current s s' sid tm ir tid t hstep ht).snapshot
      | _ => exact .ask hstep fun _ _ hinv => hinv
  | getTrialIdFromNumber sid n =>
    simp only [callCached]
    cases hf : find c.sn2id (sid, n) with
    | none => exact .ask rfl fun _ _ hinv => hinv
    | some tid =>
      refine .serve rfl fun hW h => ⟨h, fun hT => ?_⟩
      obtain ⟨t, ht⟩ := lookup_sound s hW.numbered c h sid n tid hf
      obtain ⟨t', k1, k2, _⟩ := h.m3 sid n tid hf
      have hb := hW.bound tid t' k1
      rw [k2] at hb
      obtain ⟨st, hst, _⟩ := live_of_memo (proj := fun _ => ()) ⟨s.studies[sid], by simp [hb], fun _ _ => rfl⟩ hT
      simp only [step, hst, ht]
  | getTrial tid | getTrialNumberFromId tid | getTrialParam tid name =>
    simp only [callCached]
    cases hf : c.serveTrial tid with
    | miss => exact .ask rfl fun _ _ hinv => hinv
    | crash => exact .serve rfl fun _ h => absurd hf (serveTrial_sound s c h tid).1
    | hit id t =>
      refine .serve rfl fun _ h => ⟨h, fun hT => ?_⟩
      obtain ⟨e1, e2, _⟩ := (serveTrial_sound s c h tid).2 id t hf
      subst e1
      simp only [step, trial?_of_live s id t e2 (hT t e2), trialParamOut]
      all_goals (cases t.params.get? name <;> rfl)
  | getAllTrials sid states | getNTrials sid states =>
    simp only [callCached]
    cases hs : c.sync s sid with
    | mk c' r =>
      cases r with
      | none =>
        refine .serve rfl fun hW h => ?_
        obtain ⟨hlive, hinv, hfresh, _⟩ := sync_ok s hW.numbered c sid c' h hs
        obtain ⟨st, hst⟩ := Option.isSome_iff_exists.1 hlive
        exact ⟨hinv, fun _ => by simp only [step, hst,
          readAll_of_allFresh s hW.numbered sid _ (entryInv_entryD s c' hinv sid).toEntryCore hfresh states]⟩
      | some err =>
        refine .serve rfl fun _ h => ?_
        obtain ⟨hdead, rfl, hinv⟩ := sync_err s c sid c' err h hs
        exact ⟨hinv, fun _ => by simp only [step, hdead]⟩
  | _ => exact .ask rfl fun _ _ hinv => hinv

/-- **cache_covers (every method)**: each public method of `_CachedStorage`, executed by one thread
against any well-formed backend state, keeps the invariant. -/
theorem cache_covers_call (s : Spec) (hW : Wf s) (c : Client) (h : Inv s c) (op : Op) :
    Inv (callCached s c op).1 (callCached s c op).2.1 := ((callCached_spec s c op).2 hW h).1

theorem cached_call_backend (s : Spec) (c : Client) (op : Op) :
    (callCached s c op).1 = (step s op).1 := (callCached_spec s c op).1

/-- **cached_answers_equal_backend**: every public method of `_CachedStorage` — `get_all_trials`
with any state filter, `get_n_trials`, `get_trial` and the getters `BaseStorage` derives from it,
`get_trial_id_from_study_id_trial_number`, `get_study_name_from_id`, `get_study_directions`, and
every pass-through call of the storage contract (`Op`; the heartbeat pass-throughs are not in it) —
returns exactly what the backend would return at that moment, provided the read is not about a
deleted study. -/
theorem cached_answers_equal_backend (s : Spec) (hW : Wf s) (c : Client) (h : Inv s c) (op : Op)
    (hT : Targets s op) : (callCached s c op).2.2 = (step s op).2 := ((callCached_spec s c op).2 hW h).2 hT

/-- **sync_then_equal**: right after a successful sync, `get_all_trials` of the cached client returns
exactly the backend's trials of the study, in the backend's order, for every state filter; and the
sync fails (with `KeyError`) exactly when the backend would. -/
theorem sync_then_equal (s : Spec) (hW : Wf s) (c : Client) (sid : Nat) (h : Inv s c)
    (states : Option (List TState)) :
    (callCached s c (.getAllTrials sid states)).2.2 = (step s (.getAllTrials sid states)).2 :=
  cached_answers_equal_backend s hW c h _ trivial

/-- the invariant of a `GrpcClientCache` (what the `proxy_cache_covers` theorems below are about) -/
def PInv (s : Spec) (p : Proxy) : Prop := ∀ sid e, find p.studies sid = some e → EntryInv s sid e

/-- what the servicer forwards to: the storage itself, or a `_CachedStorage` with its invariant -/
def SInv (s : Spec) : Option Client → Prop
  | none => True
  | some c => Inv s c

/-- **proxy_cache_covers (backend step)**: every backend step of any client keeps it. -/
theorem proxy_cache_covers_backend_step (s : Spec) (op : Op) (p : Proxy) (h : PInv s p) :
    PInv (step s op).1 p := fun sid e he => entryInv_step s op sid e (h sid e he)

theorem sinv_step (s : Spec) (op : Op) (sc : Option Client) (h : SInv s sc) : SInv (step s op).1 sc := by
  cases sc with
  | none => trivial
  | some c => exact inv_step s op c h

theorem server_call_spec (s : Spec) (hW : Wf s) (sc : Option Client) (hS : SInv s sc) (op : Op) :
    (callServer s sc op).1 = (step s op).1 ∧ SInv (step s op).1 (callServer s sc op).2.1 ∧
      (Targets s op → (callServer s sc op).2.2 = (step s op).2) := by
  cases sc with
  | none => exact ⟨rfl, trivial, fun _ => rfl⟩
  | some c =>
    simp only [callServer]
    refine ⟨cached_call_backend s c op, ?_, cached_answers_equal_backend s hW c hS op⟩
    have := cache_covers_call s hW c hS op
    rw [cached_call_backend] at this
    exact this

theorem pinv_entryD (s : Spec) (p : Proxy) (h : PInv s p) (sid : Nat) : EntryInv s sid (entryD p.studies sid) := by
  unfold entryD
  cases hf : find p.studies sid with
  | none => exact entryInv_empty s sid
  | some e => exact h sid e hf

/-- `GrpcClientCache.get_all_trials`: the backend is not changed, both caches keep their invariants,
and the answer is the backend's list of the study (every state filter), or `KeyError` exactly when
the backend raises it — whether the servicer sits on the storage itself or on a `_CachedStorage`. -/
theorem proxy_getAll_spec (s : Spec) (hW : Wf s) (sc : Option Client) (hS : SInv s sc) (p : Proxy)
    (hP : PInv s p) (sid : Nat) (states : Option (List TState)) :
    (p.getAll s sc sid states).1 = s ∧ SInv s (p.getAll s sc sid states).2.1 ∧
      PInv s (p.getAll s sc sid states).2.2.1 ∧
      ((s.study? sid = none ∧ (p.getAll s sc sid states).2.2.2 = .error .keyError) ∨
        ((s.study? sid).isSome = true ∧ (p.getAll s sc sid states).2.2.2 =
          .ok ((s.trialsOf sid).filter (fun q => stateIn states q.2.state)))) := by
  obtain ⟨b1, b2, b3⟩ := server_call_spec s hW sc hS (.getAllTrials sid none)
  rw [step_reads s _ rfl] at b1 b2
  have b3' := b3 trivial
  unfold Proxy.getAll
  generalize callServer s sc (.getAllTrials sid none) = r at b1 b2 b3'
  obtain ⟨s', sc', out⟩ := r
  simp only at b1 b2 b3'
  subst b1 b3'
  cases hlive : s'.study? sid with
  | none =>
    simp only [step, hlive]
    exact ⟨trivial, b2, forall_find_erase _ _ hP, .inl ⟨trivial, trivial⟩⟩
  | some st =>
    have hall : (s'.trialsOf sid).filter (fun q => stateIn none q.2.state) = s'.trialsOf sid :=
      List.filter_eq_self.2 (fun _ _ => rfl)
    obtain ⟨a1, a2⟩ := absorb_spec s' hW.numbered sid (entryD p.studies sid) _ (pinv_entryD s' p hP sid)
      (fetched_current s' sid _ _) (fetched_all s' sid _ _)
    simp only [step, hlive, hall, readAll_of_allFresh s' hW.numbered sid _ a1.toEntryCore a2 states]
    exact ⟨trivial, b2, forall_find_insert _ _ _ a1 hP, .inr ⟨rfl, trivial⟩⟩

/-- **proxy_cache_covers (every method)** and **proxied answers equal the backend**: each public
method of `GrpcStorageProxy` leaves the backend exactly as the direct call would, keeps the
invariants of the client cache and of the servicer's `_CachedStorage`, and returns what the backend
would return at that moment (reads that the servicer's `_CachedStorage` answers: for studies that
have not been deleted). -/
theorem proxy_call_spec (s : Spec) (hW : Wf s) (sc : Option Client) (hS : SInv s sc) (p : Proxy)
    (hP : PInv s p) (op : Op) :
    (callProxy s sc p op).1 = (step s op).1 ∧ SInv (step s op).1 (callProxy s sc p op).2.1 ∧
      PInv (step s op).1 (callProxy s sc p op).2.2.1 ∧
      (Targets s op → (callProxy s sc p op).2.2.2 = (step s op).2) := by
  obtain ⟨b1, b2, b3⟩ := server_call_spec s hW sc hS op
  have hP' := proxy_cache_covers_backend_step s op p hP
  cases op with
  | getAllTrials sid states | getNTrials sid states =>
    obtain ⟨g1, g2, g3, g4⟩ := proxy_getAll_spec s hW sc hS p hP sid states
    rw [step_reads s _ rfl]
    simp only [callProxy]
    generalize p.getAll s sc sid states = r at g1 g2 g3 g4
    obtain ⟨s', sc', p', res⟩ := r
    rcases g4 with ⟨hn, rfl⟩ | ⟨hs, rfl⟩
    · exact ⟨g1, g2, g3, fun _ => by simp only [step, hn]⟩
    · obtain ⟨st, hst⟩ := Option.isSome_iff_exists.1 hs
      exact ⟨g1, g2, g3, fun _ => by simp only [step, hst]⟩
  | deleteStudy sid =>
    simp only [callProxy]
    generalize callServer s sc (.deleteStudy sid) = r at b1 b2 b3
    obtain ⟨s', sc', out⟩ := r
    cases out with
    | unit => exact ⟨b1, b2, forall_find_erase _ _ hP', b3⟩
    | _ => exact ⟨b1, b2, hP', b3⟩
  | _ => exact ⟨b1, b2, hP', b3⟩

def NodeInv (s : Spec) : Node → Prop
  | .raw => True
  | .cached c => Inv s c
  | .proxy _ p => PInv s p

structure SysInv (y : Sys) : Prop where
  wf : Wf y.backend
  nodes : ∀ (i : Nat) (n : Node), y.nodes[i]? = some n → NodeInv y.backend n

theorem nodeInv_step (s : Spec) (op : Op) (n : Node) (h : NodeInv s n) : NodeInv (step s op).1 n := by
  cases n with
  | raw => trivial
  | cached c => exact inv_step s op c h
  | proxy srv p => exact proxy_cache_covers_backend_step s op p h

theorem setNode_get (l : List Node) (i k : Nat) (n : Node) :
    (setNode l i n)[k]? = if k = i then (l[k]?).map (fun _ => n) else l[k]? := updAt_getElem? _ _ _ _

theorem server_of (y : Sys) (srv : Option Nat) (j : Nat) (c : Client)
    (h : srv.bind (fun j => match y.nodes[j]? with | some (.cached c) => some (j, c) | _ => none) = some (j, c)) :
    y.nodes[j]? = some (.cached c) := by
  cases srv with
  | none => simp at h
  | some j' =>
    simp only [Option.bind_some] at h
    split at h
    · rename_i c0 hc0
      simp only [Option.some.injEq, Prod.mk.injEq] at h
      obtain ⟨e1, e2⟩ := h
      subst e1; subst e2
      exact hc0
    · simp at h

theorem nodeInv_setNode (s : Spec) (l : List Node) (i : Nat) (n' : Node) (hI : NodeInv s n')
    (hrest : ∀ (k : Nat) (n : Node), l[k]? = some n → NodeInv s n) (k : Nat) (n : Node) (hk : (setNode l i n')[k]? = some n) :
    NodeInv s n := by
  rw [setNode_get] at hk
  split at hk
  · obtain ⟨_, _, rfl⟩ := Option.map_eq_some_iff.1 hk
    exact hI
  · exact hrest k n hk

/-- **One call of any client of the system**: the system invariant is kept, the backend moves exactly
as the direct call would move it, and the caller gets exactly the backend's answer (reads of deleted
studies excepted). -/
theorem sys_call_spec (y : Sys) (h : SysInv y) (i : Nat) (op : Op) :
    SysInv (y.call i op).1 ∧ (y.call i op).1.backend = (step y.backend op).1 ∧
      (Targets y.backend op → (y.call i op).2 = (step y.backend op).2) := by
  have hstepNodes : ∀ k n, y.nodes[k]? = some n → NodeInv (step y.backend op).1 n :=
    fun k n hk => nodeInv_step _ op n (h.nodes k n hk)
  have hwf := wf_step y.backend op h.wf
  unfold Sys.call
  cases hn : y.nodes[i]? with
  | none => exact ⟨⟨hwf, hstepNodes⟩, rfl, fun _ => rfl⟩
  | some node =>
    cases node with
    | raw => exact ⟨⟨hwf, hstepNodes⟩, rfl, fun _ => rfl⟩
    | cached c =>
      have hc : Inv y.backend c := h.nodes i _ hn
      have hb := cached_call_backend y.backend c op
      have hi := cache_covers_call y.backend h.wf c hc op
      simp only [hb] at hi ⊢
      exact ⟨⟨hwf, nodeInv_setNode _ _ i _ hi hstepNodes⟩, trivial, cached_answers_equal_backend y.backend h.wf c hc op⟩
    | proxy srv p =>
      have hp : PInv y.backend p := h.nodes i _ hn
      simp only
      cases hb : srv.bind (fun j => match y.nodes[j]? with | some (.cached c) => some (j, c) | _ => none) with
      | none =>
        obtain ⟨b1, _, b3, b4⟩ := proxy_call_spec y.backend h.wf none trivial p hp op
        simp only [b1]
        exact ⟨⟨hwf, nodeInv_setNode _ _ i _ b3 hstepNodes⟩, trivial, b4⟩
      | some jc =>
        obtain ⟨j, c⟩ := jc
        have hc : Inv y.backend c := h.nodes j _ (server_of y srv j c hb)
        obtain ⟨b1, b2, b3, b4⟩ := proxy_call_spec y.backend h.wf (some c) hc p hp op
        simp only
        generalize callProxy y.backend (some c) p op = r at b1 b2 b3 b4
        obtain ⟨s', sc', p', out⟩ := r
        simp only at b1 b2 b3 b4
        subst b1
        cases sc' with
        | none => exact ⟨⟨hwf, nodeInv_setNode _ _ i _ b3 hstepNodes⟩, rfl, b4⟩
        | some c' => exact ⟨⟨hwf, nodeInv_setNode _ _ i _ b3 (nodeInv_setNode _ _ j _ b2 hstepNodes)⟩, rfl, b4⟩

/-- **cache_covers, system level**: after any history of calls by any of the clients, every cache
satisfies its invariant with respect to the backend as it is then. -/
theorem sys_inv_run (y : Sys) (h : SysInv y) (calls : List (Nat × Op)) : SysInv (y.run calls) :=
  List.foldlRecOn (motive := SysInv) calls _ h fun y hy c _ => (sys_call_spec y hy c.1 c.2).1

theorem sys_backend_run (y : Sys) (h : SysInv y) (calls : List (Nat × Op)) :
    (y.run calls).backend = after y.backend (calls.map (·.2)) := by
  induction calls generalizing y with
  | nil => rfl
  | cons c r ih =>
    obtain ⟨h1, h2, _⟩ := sys_call_spec y h c.1 c.2
    have := ih _ h1
    simp only [Sys.run, List.foldl_cons, List.map_cons, after] at this ⊢
    rw [this, h2]

def isFreshNode : Node → Prop
  | .raw => True
  | .cached c => c = Client.init
  | .proxy _ p => p = Proxy.init

theorem sysInv_init (nodes : List Node) (h : ∀ n, n ∈ nodes → isFreshNode n) :
    SysInv { backend := Storage.init, nodes := nodes } := by
  refine ⟨wf_init, ?_⟩
  intro i n hn
  have hm : n ∈ nodes := List.mem_of_getElem? hn
  have := h n hm
  cases n with
  | raw => trivial
  | cached c => simp only [isFreshNode] at this; subst this; exact inv_init _
  | proxy srv p =>
    simp only [isFreshNode] at this; subst this
    intro sid e he
    simp [Proxy.init, find] at he

/-- **all_clients_see_backend_partial** (the property; *partial*: without reads about studies deleted
by another client and without a second thread of the same client between the steps of one call — both
excluded cases are false on the code, see the witnesses below): start from an empty database with any number of
clients of any kind (cached `_CachedStorage`, proxies whose servicer sits on the storage or on one of
the cached clients, raw writers), let them execute **any** interleaved history of storage calls, then
let any client `i` make any call `op`: it receives exactly what the underlying storage — which holds
exactly what the same calls made directly would have stored — answers at that moment. The only
exception (hypothesis `Targets`) is a cached read about a study that has been deleted. -/
theorem all_clients_see_backend_partial (nodes : List Node) (hfresh : ∀ n, n ∈ nodes → isFreshNode n)
    (calls : List (Nat × Op)) (i : Nat) (op : Op) :
    let y := Sys.run { backend := Storage.init, nodes := nodes } calls
    y.backend = after Storage.init (calls.map (·.2)) ∧
      (Targets y.backend op → (y.call i op).2 = (step y.backend op).2) := by
  intro y
  have h0 := sysInv_init nodes hfresh
  have hy : SysInv y := sys_inv_run _ h0 calls
  exact ⟨sys_backend_run _ h0 calls, (sys_call_spec y hy i op).2.2⟩

def wTmpl : Template :=
  { state := .fail, values := none, params := [], userAttrs := [], systemAttrs := [], inter := [],
    hasStart := true, hasComplete := true }

/-- backend: one study; worker B (raw) has a RUNNING trial (id 0) -/
def wS1 : Spec := after Storage.init [.createStudy "s" [1], .createTrial 0 none false]
/-- client A synced before B's trial existed -/
def wA0 : Client := (Client.init.sync (after Storage.init [.createStudy "s" [1]]) 0).1
/-- A adds an already finished trial (id 1) -/
def wS2 : Spec := (step wS1 (.createTrial 0 (some wTmpl) false)).1
def wNew : Nat × TrialS := (1, mkTrial 0 1 (some wTmpl))
/-- … B's trial finishes afterwards -/
def wS3 : Spec := (step wS2 (.setTrialStateValues 0 .fail none)).1

/-- **create_finished_template_hides_foreign_trial** (finding F6, regression witness): on the model
variant whose `create_new_trial` advances the watermark for a finished template
(`Client.noteCreatedF6`: `create_new_trial` as it stood before the F6 repair in optuna), worker B's trial never appears in A's
`get_all_trials` — not even after it has finished — while the backend holds two trials. -/
theorem create_finished_template_hides_foreign_trial :
    ((entryD ((wA0.noteCreatedF6 0 wNew).sync wS3 0).1.studies 0).readAll none).length = 1 ∧
      (wS3.trialsOf 0).length = 2 := by decide

/-- The same history on `Client.noteCreated` (optuna's `create_new_trial`, which leaves the watermark alone): A sees both
trials. -/
theorem create_finished_template_repaired :
    (entryD ((wA0.noteCreated 0 wNew).sync wS3 0).1.studies 0).readAll none = wS3.trialsOf 0 := by decide

/-- client A creates a study and a finished trial through its `_CachedStorage` -/
def dA : Spec × Client :=
  let r1 := callCached Storage.init Client.init (.createStudy "s" [1])
  let r2 := callCached r1.1 r1.2.1 (.createTrial 0 (some wTmpl) false)
  (r2.1, r2.2.1)
/-- another client deletes the study -/
def dS : Spec := (step dA.1 (.deleteStudy 0)).1

/-- **foreign_delete_serves_dead_trial_witness** (genuine limit of the code, reported): after a
*foreign* `delete_study`, `_CachedStorage` still answers `get_trial`, `get_study_name_from_id`,
`get_study_directions` and `get_trial_id_from_study_id_trial_number` from its cache, where the
backend raises `KeyError`.  This is why the theorems above carry `Targets`. -/
theorem foreign_delete_serves_dead_trial_witness :
    (step dS (.getTrial 0)).2 = .err .keyError ∧
    (callCached dS dA.2 (.getTrial 0)).2.2 = .trial 0 (mkTrial 0 0 (some wTmpl)) ∧
    (callCached dS dA.2 (.getStudyNameFromId 0)).2.2 = .str "s" ∧
    (step dS (.getStudyNameFromId 0)).2 = .err .keyError ∧
    (callCached dS dA.2 (.getTrialIdFromNumber 0 0)).2.2 = .nat 0 ∧
    (callCached dS dA.2 (.getAllTrials 0 none)).2.2 = .err .keyError := by decide

def wWaiting : Template :=
  { state := .waiting, values := none, params := [], userAttrs := [], systemAttrs := [], inter := [],
    hasStart := false, hasComplete := false }
/-- thread T1 of client A has made the backend call of `create_new_trial(WAITING template)` … -/
def rS1 : Spec := after Storage.init [.createStudy "s" [1], .createTrial 0 (some wWaiting) false]
def rSnap : Nat × TrialS := (0, mkTrial 0 0 (some wWaiting))
/-- … a foreign worker claims the trial (WAITING → RUNNING) … -/
def rS2 : Spec := (step rS1 (.setTrialStateValues 0 .running none)).1
/-- … thread T2 of A syncs (sees RUNNING), then T1 enters its critical section with its old snapshot -/
def rA : Client := ((Client.init.sync rS2 0).1).noteCreated 0 rSnap

/-- **stale_create_snapshot_after_sync_witness** (narrow genuine race, reported): between T2's sync
and T2's read of the dict, T1 files its out-of-date snapshot, so T2's `get_all_trials` shows the
trial WAITING although the backend had it RUNNING before T2's call began.  The invariant still holds
(`every_section_keeps_inv`): the id is in the unfinished set and the next sync repairs the view. -/
theorem stale_create_snapshot_after_sync_witness :
    (entryD rA.studies 0).readAll none ≠ rS2.trialsOf 0 ∧
    (entryD rA.studies 0).unfinished = [0] ∧
    (entryD (rA.sync rS2 0).1.studies 0).readAll none = rS2.trialsOf 0 := by decide

/-! ## non-vacuity -/

example : Snapshot rS2 0 rSnap ∧ ¬ Current rS2 0 rSnap := by
  refine ⟨⟨(rS2.trials[0]?).getD rSnap.2, by decide, by decide, by decide, by decide⟩, ?_⟩
  intro h
  have : rS2.trials[0]? = some rSnap.2 := h.1
  revert this
  decide


/-- a four-client system: a `_CachedStorage`, a proxy whose servicer uses it, a proxy on a servicer
over the storage itself, a raw writer -/
def demoNodes : List Node := [.cached Client.init, .proxy (some 0) Proxy.init, .proxy none Proxy.init, .raw]

def demoCalls : List (Nat × Op) :=
  [ (3, .createStudy "a" [1]), (0, .createStudy "b" [2]),
    (0, .getAllTrials 0 none), (1, .getAllTrials 0 none), (2, .getAllTrials 0 none),
    (3, .createTrial 0 none false),                 -- id 0, RUNNING, by the raw writer
    (1, .createTrial 1 none false),                 -- id 1, other study, through proxy → cached server
    (0, .createTrial 0 (some wTmpl) false),         -- id 2, finished template through the cached client
    (2, .createTrial 0 (some { wTmpl with state := .waiting, hasStart := false, hasComplete := false }) false),
    (0, .getAllTrials 0 none), (1, .getAllTrials 0 (some [.running])), (2, .getAllTrials 0 none),
    (3, .setTrialStateValues 3 .running none), (2, .setTrialStateValues 0 .fail none),   -- out of creation order
    (0, .getTrial 2), (0, .getTrial 0), (0, .getTrialIdFromNumber 0 2), (0, .getStudyNameFromId 0) ]

def demoSys : Sys := Sys.run { backend := Storage.init, nodes := demoNodes } demoCalls

example : ∀ n, n ∈ demoNodes → isFreshNode n := by
  intro n hn
  simp only [demoNodes, List.mem_cons, List.not_mem_nil, or_false] at hn
  rcases hn with h | h | h | h <;> subst h <;> simp [isFreshNode]

-- the hypotheses of the theorems are satisfiable by interesting states: three trials of study 0,
-- a non-trivial watermark and unfinished set in the cached client, served-from-cache reads
example : (demoSys.backend.trialsOf 0).length = 3 := by decide
example : (match (demoSys.nodes[0]? : Option Node) with
    | some (.cached c) => ((entryD c.studies 0).watermark, (entryD c.studies 0).unfinished)
    | _ => (0, [])) = (2, [0, 3]) := by decide
example : (match (demoSys.nodes[0]? : Option Node) with
    | some (.cached c) => c.serveTrial 2
    | _ => .miss) = .hit 2 (mkTrial 0 1 (some wTmpl)) := by decide
example : (demoSys.call 0 (.getAllTrials 0 (some [.fail]))).2 =
    (step demoSys.backend (.getAllTrials 0 (some [.fail]))).2 := by decide
example : (demoSys.call 1 (.getAllTrials 0 none)).2 = (step demoSys.backend (.getAllTrials 0 none)).2 := by decide
example : Targets demoSys.backend (.getTrial 2) := by
  intro t ht
  have : demoSys.backend.trials[2]? = some (mkTrial 0 1 (some wTmpl)) := by decide
  rw [this] at ht
  simp only [Option.some.injEq] at ht
  subst ht
  decide
example : servicerFilter [1, 7] 3 [(1, mkTrial 0 0 none), (2, mkTrial 0 1 none), (5, mkTrial 0 2 none)] =
    [(1, mkTrial 0 0 none), (5, mkTrial 0 2 none)] := by decide
example : rdbFilter [] (-1) [(0, mkTrial 0 0 none)] = [(0, mkTrial 0 0 none)] := by decide

end OptunaVerif.C08
