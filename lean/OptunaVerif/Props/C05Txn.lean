import OptunaVerif.Lemmas.Txn
import OptunaVerif.Generated.RdbSessions
/-!
# C05 (SQLite part) — an interrupted `RDBStorage` call is wholly applied or wholly absent

Model: `Model/Txn.lean`.  A call is the list of requests it sends to the database (`begin`, `write w`,
`flush`, `commit`, `rollback`), grouped into executions of its `with _create_scoped_session(...)` blocks;
the worker may die after any number `k` of requests; what survivors and fresh openers then read is the
last committed state (`crashView`) — **SQLite's atomic commit is trusted, not proved**.

What is proved, for every database state, every write semantics `ap`, every number of writes, loop
iterations and retries, every crash point:

* `crash_state_is_txn_boundary` — whatever the shape, a crash leaves the state after a whole number of
  the call's transactions;
* `rdb_call_atomic` — for a method whose translated shape is `oneTxn` (every writing block is plain —
  no inner commit/rollback, no re-opened session — not per-item, and there is only one), every execution
  that code of this shape can produce (`conforms`) leaves the pre-state or the post-state;
* the hypothesis on the code is `Generated.RdbSessions` (regenerated from /repo by
  `verif/translators/tsession.py` on every run): `rdb_methods_one_txn` discharges it by `decide` for
  every method of `RDBStorage` except `upgrade` (schema migration: alembic's own transactions, then the
  version row — classified in `upgrade_is_migration`, outside the storage API of the property);
* `fail_stale_trials` (a study-level loop of storage calls) is atomic per item, not per call:
  `fail_stale_trials_per_item`, `per_item_crash_is_item_boundary`;
* the predicate is not vacuous: `two_transactions_not_atomic_witness`, `inner_commit_not_atomic_witness`.
-/
namespace OptunaVerif.C05Txn
open OptunaVerif.Txn OptunaVerif.Generated

variable {σ ω : Type}

/-- the worker dies after `k` requests (any `k`); the state left is
the state after 0, 1, 2, … whole block executions — never one with part of a transaction. -/
theorem crash_state_is_txn_boundary (ap : σ → ω → σ) (d : σ) (is : List (Inst ω))
    (hsafe : ∀ i ∈ is, i.safe = true) (k : Nat) :
    crashView ap d (trace is) k ∈ boundaries ap d is :=
  (trace_run ap d is hsafe).2 _ (crash_mem_durs ap _ (trace is) k)

theorem post_state_eq (ap : σ → ω → σ) (d : σ) (is : List (Inst ω)) (hsafe : ∀ i ∈ is, i.safe = true) :
    postState ap d (trace is) = finalState ap d is := by
  unfold postState
  rw [(trace_run ap d is hsafe).1]

/-- the dynamic form of `rdb_call_atomic`: if at most one of the call's transactions both commits and
writes, every crash point leaves the pre-state or the post-state. -/
theorem one_effective_txn_atomic (ap : σ → ω → σ) (d : σ) (is : List (Inst ω))
    (hsafe : ∀ i ∈ is, i.safe = true) (hone : (is.filter Inst.effective).length ≤ 1) (k : Nat) :
    crashView ap d (trace is) k = d ∨ crashView ap d (trace is) k = postState ap d (trace is) := by
  rw [post_state_eq ap d is hsafe]
  exact boundaries_one ap d is hone _ (crash_state_is_txn_boundary ap d is hsafe k)

/-- a method whose translated shape has all its writes in one plain, non-per-item
session block (`Method.oneTxn`, a decidable predicate over the generated table): for every execution
such code can produce (`conforms`: any branch taken, any number of writes and flushes inside the
block, any number of failed retries, exceptions anywhere), every initial database state and **every
crash point**, the state a survivor reads is the pre-state or the post-state of the call. -/
theorem rdb_call_atomic (m : Method) (hm : m.oneTxn = true) (ap : σ → ω → σ) (d : σ) (is : List (Inst ω))
    (hc : conforms m.blocks is = true) (k : Nat) :
    crashView ap d (trace is) k = d ∨ crashView ap d (trace is) k = postState ap d (trace is) := by
  simp only [Method.oneTxn, Bool.and_eq_true] at hm
  obtain ⟨hsafe, hone⟩ := conforms_oneTxn m.blocks is hm.2 hc
  exact one_effective_txn_atomic ap d is hsafe hone k

/-- `_create_scoped_session` commits after the `yield`, rolls back first thing in every `except`
branch (one of which catches `Exception`), closes in `finally`, and does nothing else with the session. -/
theorem ctx_commit_or_rollback : RdbSessions.ctx.ok = true := by decide +kernel

/-- No function that is handed the caller's session (`…_without_commit`, `_get_prepared_new_trial`,
the model class methods) commits, rolls back or re-opens the session — except through the guard
`check_trial_is_updatable`. -/
theorem helpers_never_commit :
    ∀ h ∈ RdbSessions.helpers, h.commits = 0 ∧ h.rollbacks = 0 ∧ h.nested = 0 := by decide +kernel

/-- **Every guard is safe** (dominating, covered or fresh — see `Txn.Block.guardsSafe`): the setters
test the trial's state before their first write, `set_trial_state_values` re-tests the same row,
`_get_prepared_new_trial` only tests the trial it has just inserted as RUNNING. -/
theorem guards_safe :
    ∀ m ∈ RdbSessions.methods ++ RdbSessions.composites, ∀ b ∈ m.blocks, b.guardsSafe = true := by decide +kernel

/-- the blocks that contain guards (name, number of guard sites per block) -/
theorem guarded_methods :
    (RdbSessions.methods.filter (fun m => m.blocks.any (fun b => b.guards != 0))).map
        (fun m => (m.name, m.blocks.map (·.guards))) =
      [("create_new_trial", [6]), ("_create_new_trial", [6]), ("set_trial_param", [1]),
       ("set_trial_state_values", [2]), ("set_trial_intermediate_value", [1]),
       ("set_trial_user_attr", [1]), ("set_trial_system_attr", [1])] := by decide +kernel

/-- **Every method of `RDBStorage` except `upgrade` has the one-transaction shape** — the public
writers (`create_new_study`, `delete_study`, `set_study_*_attr`, `create_new_trial`/`_create_new_trial`
incl. the template path and the retry loop, `set_trial_param`, `set_trial_state_values`,
`set_trial_intermediate_value`, `set_trial_*_attr`, `record_heartbeat`), and trivially the readers. -/
theorem rdb_methods_one_txn :
    ∀ m ∈ RdbSessions.methods, m.name ≠ "upgrade" → m.oneTxn = true := by decide +kernel

/-- the table is not empty of writers: these are the public methods with a write site -/
theorem rdb_public_writers :
    (RdbSessions.methods.filter (fun m => m.isPublic && m.hasWrites)).map (·.name) =
      ["create_new_study", "delete_study", "set_study_user_attr", "set_study_system_attr",
       "create_new_trial", "_create_new_trial", "set_trial_param", "set_trial_state_values",
       "set_trial_intermediate_value", "set_trial_user_attr", "set_trial_system_attr", "upgrade",
       "record_heartbeat"] := by decide +kernel

/-- Methods with more than one session block: all blocks but one are read-only
(`create_new_study`: the insert, then `get_study_id_from_name`; `get_best_trial`: two read blocks, the
first re-opening the session through `get_study_directions` — harmless without writes). -/
theorem multi_block_methods_have_one_writer :
    ∀ m ∈ RdbSessions.methods, m.name ≠ "upgrade" → 2 ≤ m.blocks.length →
      (m.blocks.filter Block.hasWrites).length ≤ 1 := by decide +kernel

/-- `upgrade` is a schema migration, not a storage call of the property: alembic runs its own
transactions outside every session block (`external`), then the version row is updated in one more. -/
theorem upgrade_is_migration :
    ∀ m ∈ RdbSessions.methods, m.name = "upgrade" → m.external ≠ 0 ∧ m.oneTxn = false ∧ perItemShape m.blocks = true := by
  decide +kernel

/-- `rdb_call_atomic` instantiated: every method of `RDBStorage` other than `upgrade`, as the code
is today. -/
theorem rdb_every_call_atomic (m : Method) (hmem : m ∈ RdbSessions.methods) (hname : m.name ≠ "upgrade")
    (ap : σ → ω → σ) (d : σ) (is : List (Inst ω)) (hc : conforms m.blocks is = true) (k : Nat) :
    crashView ap d (trace is) k = d ∨ crashView ap d (trace is) k = postState ap d (trace is) :=
  rdb_call_atomic m (rdb_methods_one_txn m hmem hname) ap d is hc k

theorem conforms_perItem_safe (bs : List Block) (is : List (Inst ω)) (hs : perItemShape bs = true)
    (hc : conforms bs is = true) : ∀ i ∈ is, i.safe = true := by
  simp only [perItemShape, List.all_eq_true] at hs
  simp only [conforms, Bool.and_eq_true, List.all_eq_true] at hc
  exact fun i hi => safe_of_instOk bs i (hc.1 i hi) (fun b hb hw => by simpa [hw] using hs b hb)

/-- for code whose writing blocks are all plain (one transaction
per loop item), a crash at any point leaves the state after a whole number of items. -/
theorem per_item_crash_is_item_boundary (bs : List Block) (hs : perItemShape bs = true) (ap : σ → ω → σ) (d : σ)
    (is : List (Inst ω)) (hc : conforms bs is = true) (k : Nat) :
    crashView ap d (trace is) k ∈ boundaries ap d is :=
  crash_state_is_txn_boundary ap d is (conforms_perItem_safe bs is hs hc) k

/-- `fail_stale_trials(study)`: a read-only `_get_stale_trial_ids`, then one `set_trial_state_values`
transaction per stale trial, then read-only `get_trial`s for the callbacks.  Atomic per item (each trial
is failed or not), **not** per call — the property's "storage call" is each `set_trial_state_values`. -/
theorem fail_stale_trials_per_item :
    ∀ m ∈ RdbSessions.composites, m.external = 0 ∧ perItemShape m.blocks = true ∧ m.oneTxn = false ∧
      (m.blocks.head?.map Block.hasWrites) = some false := by decide +kernel

def apLog (l : List Nat) (w : Nat) : List Nat := l ++ [w]

def twoTxns : List (Inst Nat) :=
  [{ blk := 0, body := [.write 1], committed := true }, { blk := 1, body := [.write 2], committed := true }]

def twoBlocks : List Block :=
  [{ writes := 1, flushes := 0, commits := 0, rollbacks := 0, nested := 0, guards := 0, guardsSafe := true, rep := .once, ignoreIntegrity := false },
   { writes := 1, flushes := 0, commits := 0, rollbacks := 0, nested := 0, guards := 0, guardsSafe := true, rep := .once, ignoreIntegrity := false }]

/-- a call shaped as two write transactions is rejected by
the predicate, conforms to its shape, and has a crash point (after the first commit) at which a
survivor reads a half-applied state: neither the pre-state nor the post-state. -/
theorem two_transactions_not_atomic_witness :
    oneTxnShape twoBlocks = false ∧ conforms twoBlocks twoTxns = true ∧
      crashView apLog [] (trace twoTxns) 3 = [1] ∧ postState apLog [] (trace twoTxns) = [1, 2] ∧
      ∃ k, crashView apLog [] (trace twoTxns) k ≠ [] ∧
        crashView apLog [] (trace twoTxns) k ≠ postState apLog [] (trace twoTxns) := by
  refine ⟨by decide, by decide, by decide, by decide, 3, by decide, by decide⟩

def innerCommit : List (Inst Nat) :=
  [{ blk := 0, body := [.write 1, .commit, .begin, .write 2], committed := true }]

def innerCommitBlock : List Block :=
  [{ writes := 2, flushes := 0, commits := 1, rollbacks := 0, nested := 0, guards := 0, guardsSafe := true, rep := .once, ignoreIntegrity := false }]

/-- one session block with an explicit `session.commit()` between
two writes: rejected by the predicate, and a crash after the inner commit exposes the first write alone. -/
theorem inner_commit_not_atomic_witness :
    oneTxnShape innerCommitBlock = false ∧ conforms innerCommitBlock innerCommit = true ∧
      crashView apLog [] (trace innerCommit) 3 = [1] ∧ postState apLog [] (trace innerCommit) = [1, 2] := by
  refine ⟨by decide, by decide, by decide, by decide⟩

/-- a per-item loop (the shape of `fail_stale_trials`) is likewise not atomic per call -/
theorem per_item_not_atomic_per_call_witness :
    ∃ m ∈ RdbSessions.composites, ∃ is : List (Inst Nat), conforms m.blocks is = true ∧
      ∃ k, crashView apLog [] (trace is) k ≠ [] ∧ crashView apLog [] (trace is) k ≠ postState apLog [] (trace is) := by
  refine ⟨_, List.mem_cons_self, [{ blk := 0, body := [], committed := true },
    { blk := 1, body := [.write 7], committed := true }, { blk := 1, body := [.write 8], committed := true }],
    by decide, 5, by decide, by decide⟩

/-! ## non-vacuity of the positive theorems -/

/-- `_create_new_trial` with a template: two failed attempts (deadlock → rollback), then the attempt that
commits — 3 executions of the one block, 2 + 1 + 3 writes and a flush each. -/
def retryRun : List (Inst Nat) :=
  [{ blk := 0, body := [.write 1, .flush, .write 2], committed := false },
   { blk := 0, body := [.write 1, .flush], committed := false },
   { blk := 0, body := [.write 1, .flush, .write 2, .write 3], committed := true }]

def createNewTrial : Method :=
  { name := "_create_new_trial", isPublic := true, external := 0,
    blocks := [{ writes := 24, flushes := 1, commits := 0, rollbacks := 0, nested := 0, guards := 6, guardsSafe := true, rep := .retry, ignoreIntegrity := false }] }

example : createNewTrial ∈ RdbSessions.methods := by decide +kernel
example : createNewTrial.oneTxn = true ∧ conforms createNewTrial.blocks retryRun = true := by decide +kernel
example : (trace retryRun).length = 15 := by decide +kernel
-- crash inside the committing attempt: pre-state; after its commit: post-state
example : crashView apLog [] (trace retryRun) 13 = [] ∧ crashView apLog [] (trace retryRun) 15 = [1, 2, 3] := by decide +kernel
example : ∀ i ∈ retryRun, i.safe = true := by decide +kernel
example : (retryRun.filter Inst.effective).length = 1 := by decide +kernel
example : boundaries apLog [] retryRun = [[], [], [], [1, 2, 3]] := by decide +kernel

/-- `set_trial_param` on a finished trial: the dominating guard fires — the session is re-opened by
`get_trial`, whose exit commits (nothing), and the block is left by `UpdateFinishedTrialError`. -/
def guardFired : List (Inst Nat) := [{ blk := 0, body := [.commit], committed := false }]
example : ∃ m ∈ RdbSessions.methods, m.name = "set_trial_param" ∧ m.oneTxn = true ∧
    conforms m.blocks guardFired = true ∧ conforms m.blocks [⟨0, [.write 1, .write 2], true⟩] = true ∧
    conforms m.blocks [(⟨0, [.write 1, .commit, .begin, .write 2], true⟩ : Inst Nat)] = false := by
  refine ⟨⟨"set_trial_param", true, [⟨3, 0, 0, 0, 0, 1, true, .once, true⟩], 0⟩, by decide, by decide, by decide, by decide, by decide, by decide⟩

/-- `create_new_study`: the insert, then the read-only `get_study_id_from_name` -/
def createStudyRun : List (Inst Nat) :=
  [{ blk := 0, body := [.write 5], committed := true }, { blk := 1, body := [], committed := true }]
example : ∃ m ∈ RdbSessions.methods, m.name = "create_new_study" ∧ conforms m.blocks createStudyRun = true := by
  refine ⟨_, List.mem_cons_self, by decide, by decide⟩

-- a read-only block whose instance re-opens the session inside (get_best_trial): safe although not plain
example : (⟨1, [.commit, .begin], true⟩ : Inst Nat).safe = true ∧ (⟨1, [.commit, .begin], true⟩ : Inst Nat).plain = false := by decide +kernel
example : RdbSessions.ctx.commitAfterYield = true := by decide +kernel
example : RdbSessions.helpers.length > 20 ∧ RdbSessions.methods.length > 30 := by decide +kernel
-- `fail_stale_trials`: two items; crash between them = the state with the first trial failed
example : ∃ m ∈ RdbSessions.composites, conforms m.blocks
    [(⟨0, [], true⟩ : Inst Nat), ⟨1, [.write 7], true⟩, ⟨1, [.write 8], true⟩, ⟨2, [], true⟩, ⟨2, [], true⟩] = true := by
  refine ⟨_, List.mem_cons_self, by decide⟩
example : boundaries apLog [] [(⟨0, [], true⟩ : Inst Nat), ⟨1, [.write 7], true⟩, ⟨1, [.write 8], true⟩] =
    [[], [], [7], [7, 8]] := by decide +kernel

end OptunaVerif.C05Txn
