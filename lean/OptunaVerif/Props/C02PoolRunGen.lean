import OptunaVerif.Props.C02Gen
import OptunaVerif.Props.C02PoolRun
/-!
# C02 (translator tie) — `pool_all_submitted_trials_terminal` for the functions as generated from the source

The job of a worker thread, `_optimize_sequential(study, func, 1, timeout, …)`, interpreted over the
statement IR regenerated from optuna/study/_optimize.py, study.py and _tell.py (`C02Gen.G`), *is* the
`jobOut` of `Model/PoolRun.lean` (`gen_job_eq`, from `C02Gen.gen_optimizeSeq_eq`); so the rows and the
future results of every finished parallel `optimize` are those of the generated code.  (The `n_jobs > 1`
branch of `_optimize` itself — the submit loop — is tied to the source by the pinned shape of
`Props/C02Shapes.lean` and by the traces the harness replays through `Pool.step`, not by an interpreter.)
-/
namespace OptunaVerif.C02PoolRunGen
open OptunaVerif.TellIR OptunaVerif.PoolRun
open OptunaVerif.C02Gen (G)

/-- **gen_job_eq**: the generated `_optimize_sequential` with `n_trials = 1`, started as the executor starts
it (`i_trial = 0`), callbacks given, is the job of the refined pool model. -/
theorem gen_job_eq (P : Params) (fl : SeqFlags) (hcb : fl.cbGiven = true) (st : Bool) (i : Nat) :
    G.optimizeSeq P.cfg fl (some 1) P.timeout [(P.jobs i).plan] 0 0 (P.jobs i).elapsed st =
      some (jobOut P st i) := by
  rw [C02Gen.gen_optimizeSeq_eq P.cfg fl (some 1) P.timeout [(P.jobs i).plan] 0 0 (P.jobs i).elapsed st
    (fun _ => rfl), hcb, C02Gen.map_stripCbs_true]
  rfl

/-- **gen_pool_all_submitted_trials_terminal**: in every finished execution of `optimize(n_jobs = k)`
(returned, raised a future's exception, or interrupted in the main thread), every submitted future ended
with the result of the *generated* `_optimize_sequential(n_trials=1)`, and every row of the storage holds
the record the *generated* `_run_trial` (over the generated `Study.ask` and `_tell_with_warning`) leaves,
which is COMPLETE, PRUNED or FAIL — whatever the heartbeat / queue / gc / progress-bar settings; callbacks given (`hcb`),
and under the join hypothesis `hj : P.joins = true` of `C02PoolRun.pool_all_submitted_trials_terminal`. -/
theorem gen_pool_all_submitted_trials_terminal (P : Params) (fl : SeqFlags) (hcb : fl.cbGiven = true)
    (es : List Event) (s : State) (r : Pool.Res) (hj : P.joins = true) (h : run P init es = some s) (hx : s.done = some r) :
    (∀ i, i < s.pool.submitted → ∃ o,
        G.optimizeSeq P.cfg fl (some 1) P.timeout [(P.jobs i).plan] 0 0 (P.jobs i).elapsed (s.stop0 i) = some o ∧
        s.pool.ended i = some (resOf P.cls o.raised)) ∧
    (∀ t c, s.store t = some c → ∃ ro,
        G.runPlan P.cfg fl.hb fl.popFound (P.jobs c.owner).plan = some ro ∧ c.row = ro.final ∧
        c.row.state.isFinished = true ∧ c.owner < s.pool.submitted) := by
  obtain ⟨hend, _, hrow, _⟩ := C02PoolRun.pool_all_submitted_trials_terminal P es s r hj h hx
  constructor
  · intro i hlt
    exact ⟨_, gen_job_eq P fl hcb (s.stop0 i) i, (hend i hlt).2⟩
  · intro t c hc
    obtain ⟨h1, _, h3, h4, _⟩ := hrow t c hc
    exact ⟨_, C02Gen.gen_runPlan_eq P.cfg fl.hb fl.popFound _, h3, h4, h1⟩

example : G.optimizeSeq C02PoolRun.demo.cfg {} (some 1) none [(C02PoolRun.demo.jobs 1).plan] 0 0 0 false =
    some (jobOut C02PoolRun.demo false 1) := gen_job_eq C02PoolRun.demo {} rfl false 1
example : (G.optimizeSeq C02PoolRun.demo.cfg {} (some 1) none [(C02PoolRun.demo.jobs 1).plan] 0 0 0 false).map
    (fun o => (o.trials.map (·.final.state), o.raised)) = some ([.fail], some (.user 3)) := by decide

end OptunaVerif.C02PoolRunGen
