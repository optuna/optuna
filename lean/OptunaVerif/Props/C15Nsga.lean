import OptunaVerif.Lemmas.Nsga2Src
import OptunaVerif.Model.Nsga2
import OptunaVerif.Lemmas.Nsga2
import OptunaVerif.Lemmas.Nsga2Crowd
import OptunaVerif.Lemmas.Nsga2Mirror
import OptunaVerif.Lemmas.Rank
import OptunaVerif.Props.C09
/-!
# C15 (NSGA-II part) — the elite population selection on top of the non-domination rank

`Model/Nsga2.lean` mirrors `NSGAIIElitePopulationSelectionStrategy.__call__`, `_rank_population`,
`_calc_crowding_distance`, `_crowding_distance_sort`.  The theorems hold for all populations and population sizes (the
crowding theorems: populations without NaN values, `NoNaNPop`) and every number instance unless `xnum` is named: size and
distinctness of the selection; whole fronts first; the ranks are C15's peeling ranks, and for an order-faithful integer
encoding (`Enc.Faithful`, the driver's is one) those of the ORIGINAL objective vectors; the crowding distance of the
extremes and the order `_crowding_distance_sort` produces with the key `(-distance, number)` (after the repair of F-C13-1);
order independence; the link to the parent cache of C09; the content keys of the mirrored functions (T-nsga2).
-/
namespace OptunaVerif.C15Nsga
open OptunaVerif.Nsga2 OptunaVerif.Rank OptunaVerif.Hypervolume List

/-- Whatever the ranks (one per trial, `hlen`) and whatever the number arithmetic: the selection returns exactly
`min(population_size, |population|)` trials. -/
theorem elite_size {α : Type} (N : Num α) (popSize : Nat) (ranks : List Nat) (pop : List (Ind α))
    (hlen : ranks.length = pop.length) :
    (eliteWith N popSize ranks pop).length = min popSize pop.length := by
  unfold eliteWith
  cases pop with
  | nil => simp
  | cons p t =>
    simp only
    rw [selectLoop_length N popSize _ [] (by simp)]
    simp [(perRank_perm ranks (p :: t) hlen).length_eq]

/-- The result is a sub-multiset of the population: every selected trial is a member
and none is taken more often than it occurs — so for a population of distinct trials the selected ones are distinct. -/
theorem elite_distinct_members {α : Type} (N : Num α) (popSize : Nat) (ranks : List Nat) (pop : List (Ind α))
    (hlen : ranks.length = pop.length) :
    (eliteWith N popSize ranks pop).Subperm pop ∧
      ((pop.map (·.number)).Nodup → ((eliteWith N popSize ranks pop).map (·.number)).Nodup) := by
  have h : (eliteWith N popSize ranks pop).Subperm pop := by
    unfold eliteWith
    cases pop with
    | nil => exact Subperm.refl _
    | cons p t =>
      simp only
      have := selectLoop_subperm N popSize (perRank ranks (p :: t)) []
      simp only [nil_append] at this
      exact this.trans (perRank_perm ranks (p :: t) hlen).subperm
  refine ⟨h, fun hn => ?_⟩
  obtain ⟨l, hl1, hl2⟩ := h
  exact ((hl1.map (fun x : Ind α => x.number)).nodup_iff).1 (hn.sublist (hl2.map _))

theorem fastRank_length (d : Nat) (S : List Pt) (pen : Option (List (Option Int))) (r : List Nat)
    (h : fastRank d S pen none = some r) : r.length = S.length := by
  cases pen with
  | none =>
    rw [fastRank_none, Option.some.injEq] at h
    simp [← h, calcRank]
  | some pen =>
    by_cases hl : pen.length = S.length
    · rw [fastRank_some d S pen none hl, Option.some.injEq] at h
      simp [← h, hl]
    · by_cases hS : S = []
      · subst hS; simpa [fastRank, eq_comm] using h
      · rw [fastRank_mismatch d S hS pen none hl] at h; cases h

/-- size and membership for the top-level call `elite` (exact instance `xnum`, ranks from `Model/Rank.lean`) -/
theorem elite_size_call (e : Enc) (popSize : Nat) (dirs : List Bool) (constrained : Bool) (pop res : List (Ind XVal))
    (h : elite e popSize dirs constrained pop = some res) :
    res.length = min popSize pop.length ∧ res.Subperm pop := by
  unfold elite at h
  split at h
  · simp at h
  · split at h
    · simp at h
    · rename_i ranks hr
      simp only [Option.some.injEq] at h
      subst h
      have hlen : ranks.length = pop.length := by
        have := fastRank_length _ _ _ _ hr
        simpa using this
      exact ⟨elite_size xnum popSize ranks pop hlen, (elite_distinct_members xnum popSize ranks pop hlen).1⟩

-- non-vacuity: four trials in two fronts, population size 3: the first front whole, one of the second (both of its
-- members are at distance inf: the smaller number wins)
example : (elite ⟨1, 10⟩ 3 [false, false] false
    [⟨0, [.fin 0, .fin 1], none, true, []⟩, ⟨1, [.fin 1, .fin 0], none, true, []⟩,
     ⟨2, [.fin 2, .fin 2], none, true, []⟩, ⟨3, [.fin 1, .fin 3], none, true, []⟩]).map (·.map (·.number)) = some [0, 1, 2] := by
  decide +kernel

theorem zip_rank_unique {β : Type} (pop : List β) (ranks : List Nat) (hnd : pop.Nodup) (x : β) (a b : Nat)
    (ha : (x, a) ∈ pop.zip ranks) (hb : (x, b) ∈ pop.zip ranks) : a = b := by
  induction pop generalizing ranks with
  | nil => simp at ha
  | cons p t ih =>
    cases ranks with
    | nil => simp at ha
    | cons r rs =>
      rw [nodup_cons] at hnd
      simp only [zip_cons_cons, mem_cons, Prod.mk.injEq] at ha hb
      rcases ha with ⟨h1, h2⟩ | ha
      · rcases hb with ⟨_, h4⟩ | hb
        · omega
        · exact absurd (h1 ▸ (of_mem_zip hb).1) hnd.1
      · rcases hb with ⟨h3, _⟩ | hb
        · exact absurd (h3 ▸ (of_mem_zip ha).1) hnd.1
        · exact ih rs hnd.2 ha hb

/-- For a population of distinct trials and ANY rank vector (in the code: the
non-domination ranks): if a trial of rank `rx` is selected, every trial of smaller rank is selected. -/
theorem elite_fronts_monotone {α : Type} (N : Num α) (popSize : Nat) (ranks : List Nat) (pop : List (Ind α))
    (hnd : pop.Nodup) (x y : Ind α) (rx ry : Nat)
    (hx : (x, rx) ∈ pop.zip ranks) (hy : (y, ry) ∈ pop.zip ranks)
    (hsel : x ∈ eliteWith N popSize ranks pop) (hlt : ry < rx) :
    y ∈ eliteWith N popSize ranks pop := by
  unfold eliteWith at hsel ⊢
  cases pop with
  | nil => simp at hx
  | cons p t =>
    simp only at hsel ⊢
    rcases selectLoop_fronts N popSize (perRank ranks (p :: t)) [] x hsel with h | ⟨i, hi, hxi, hall⟩
    · simp at h
    · have hxi' := (mem_perRank ranks (p :: t) i hi x).1 hxi
      have hri : rx = i := zip_rank_unique (p :: t) ranks hnd x rx i hx hxi'
      apply hall y
      have hry : ry < (perRank ranks (p :: t)).length := by omega
      rw [mem_flatten]
      refine ⟨(perRank ranks (p :: t))[ry], ?_, (mem_perRank ranks (p :: t) ry hry y).2 hy⟩
      rw [mem_take_iff_getElem]
      exact ⟨ry, by omega, rfl⟩

-- the ranks of the population of the example above, where rank-1 trial 2 was selected and with it the rank-0 trials 0 and 1
example : calcRank 2 [[0, 1], [1, 0], [2, 2], [1, 3]] (some 4) = [0, 0, 1, 1] := by decide +kernel

/-- The ranks the selection uses are C15's peeling ranks of the (order-embedded)
loss rows: unconstrained — `rank_eq_peeling`; with `constraints_func` — `rank_constrained_eq_spec` (feasible before
infeasible before unknown). -/
theorem elite_ranks_are_peeling_ranks (e : Enc) (dirs : List Bool) (pop : List (Ind XVal))
    (hv : ∀ x ∈ pop, x.values.length = dirs.length) :
    (ranksOf e dirs false pop = some ((pop.map (lossRow e dirs)).map (rankFn dirs.length (pop.map (lossRow e dirs)) none)) ∧
      IsPeeling (pop.map (lossRow e dirs)) (rankFn dirs.length (pop.map (lossRow e dirs)) none)) ∧
    (∃ ρ : Row → Nat,
      ranksOf e dirs true pop =
        some (((pop.map (lossRow e dirs)).zip (pop.map (fun x => encPenalty e (penaltyOf x)))).map ρ) ∧
      IsCPeeling ((pop.map (lossRow e dirs)).zip (pop.map (fun x => encPenalty e (penaltyOf x)))) ρ) := by
  have hS : ∀ q ∈ pop.map (lossRow e dirs), q.length = dirs.length := by
    intro q hq
    obtain ⟨x, hx, rfl⟩ := mem_map.1 hq
    simp [lossRow, hv x hx]
  refine ⟨⟨?_, rankFn_isPeeling _ _ hS⟩, ?_⟩
  · simp only [ranksOf, Bool.false_eq_true, if_false, fastRank_none, nbOf, calcRank,
      rankFn_of_length_le _ _ hS _ (le_refl _)]
  · have := fastRank_constrained dirs.length (pop.map (lossRow e dirs))
      (pop.map (fun x => encPenalty e (penaltyOf x))) hS (by simp)
    simpa [ranksOf] using this

/-- In a front of at least two trials without NaN values and with distinct numbers, the
individual that is the unique smallest — or the unique largest — in some objective has crowding distance `+inf`
(whatever its other objectives contribute, infinite objective values included). -/
theorem crowding_boundary_inf (p0 : Ind XVal) (t : List (Ind XVal)) (hnn : NoNaNPop (p0 :: t))
    (hnum : ((p0 :: t).map (·.number)).Nodup) (x : Ind XVal) (hx : x ∈ p0 :: t) (i : Nat) (hi : i < p0.values.length)
    (h2 : 2 ≤ (p0 :: t).length)
    (hext : (∀ y ∈ p0 :: t, y.number ≠ x.number → xlt (x.val xnum i) (y.val xnum i) = true) ∨
            (∀ y ∈ p0 :: t, y.number ≠ x.number → xlt (y.val xnum i) (x.val xnum i) = true)) :
    lookupD xnum x.number (calcCrowding xnum (p0 :: t)).2 = .pinf := by
  unfold calcCrowding
  simp only
  apply fold_hit (p0 :: t) hnn _ _ (inv_init _) x.number i (by simpa using hi)
  intro st hst
  rcases hext with h | h
  · exact crowdStep_min (p0 :: t) hnn hnum x hx i h2 h st hst
  · exact crowdStep_max (p0 :: t) hnn hnum x hx i h2 h st hst

-- non-vacuity: three trials, two objectives; #0 is the unique minimum of objective 0, #2 its unique maximum
example : (calcCrowding xnum [⟨0, [.fin 0, .fin 5], none, true, []⟩, ⟨1, [.fin 1, .fin 3], none, true, []⟩,
    ⟨2, [.fin 4, .fin 0], none, true, []⟩]).2 = [(0, .pinf), (1, .fin 2), (2, .pinf)] := by decide +kernel

/-- "Unique" cannot be dropped in `crowding_boundary_inf`.  With two `-inf` entries in an objective the first individual of
the sorted order gets `0` from it (`vs[j] == vs[j + 2]`, "inf - inf and (-inf) - (-inf) is considered to be zero"), not `inf`. -/
theorem crowding_boundary_tie_at_neg_inf_witness :
    (calcCrowding xnum [⟨0, [.ninf], none, true, []⟩, ⟨1, [.ninf], none, true, []⟩, ⟨2, [.fin 3], none, true, []⟩]).2
      = [(0, .fin 0), (1, .pinf), (2, .pinf)] := by decide +kernel

/-- For a front without NaN values: after `_crowding_distance_sort` (sort key `(-distance, number)`) the list is a
permutation of the front, every crowding distance is a non-negative rational or `+inf`, and for `a` before `b`:
the distance of `a` is not smaller, and if the distances are equal the number of `a` is not larger. -/
theorem crowding_sort_descending (pop : List (Ind XVal)) (hnn : NoNaNPop pop) :
    (crowdingSort xnum pop).Perm pop ∧
    (∀ n, Good (lookupD xnum n (calcCrowding xnum pop).2)) ∧
    (crowdingSort xnum pop).Pairwise (fun a b =>
      xlt (lookupD xnum a.number (calcCrowding xnum pop).2) (lookupD xnum b.number (calcCrowding xnum pop).2) = false ∧
      (lookupD xnum a.number (calcCrowding xnum pop).2 = lookupD xnum b.number (calcCrowding xnum pop).2 →
        a.number ≤ b.number)) :=
  crowdingSort_desc pop hnn

/-- A front of trials with distinct numbers, equally many objective values, no NaN
and no per-objective ties is sorted to the SAME list in whatever order it is handed over: the distances do not
depend on the input order, and the final order is a function of (distance, number). -/
theorem crowding_sort_order_independent (p0 p0' : Ind XVal) (t t' : List (Ind XVal)) (hp : (p0' :: t').Perm (p0 :: t))
    (hlen : p0'.values.length = p0.values.length) (hnn : NoNaNPop (p0 :: t))
    (hnum : ((p0 :: t).map (·.number)).Nodup) (htf : ∀ i < p0.values.length, TieFree (p0 :: t) i) :
    crowdingSort xnum (p0' :: t') = crowdingSort xnum (p0 :: t) :=
  crowdingSort_perm_invariant_cons p0 p0' t t' hp hlen hnn hnum htf

/-- For a population with distinct numbers, no NaN, `d` objective values each and
pairwise-distinct values per objective, the elite population does not depend on the order in which the population is
listed (the rank of a trial travelling with it): the two results are permutations of each other — the same SET; nothing
is said about the order of the two lists.  (Before the repair of F-C13-1 this was
false: ties at distance `inf` were cut according to the input order.) -/
theorem elite_set_order_independent (d k : Nat) (ranks ranks' : List Nat) (pop pop' : List (Ind XVal))
    (hz : (pop'.zip ranks').Perm (pop.zip ranks)) (hl : ranks.length = pop.length) (hl' : ranks'.length = pop'.length)
    (hok : FrontOK d pop) : (eliteWith xnum k ranks' pop').Perm (eliteWith xnum k ranks pop) :=
  eliteWith_perm_invariant d k ranks ranks' pop pop' hz hl hl' hok

-- non-vacuity: one front of four trials (two at distance inf: 0 and 1), population size 2, listed in two orders: {0, 1} both times
example :
    let a : Ind XVal := ⟨0, [.fin 0, .fin 9], none, true, []⟩
    let b : Ind XVal := ⟨1, [.fin 9, .fin 0], none, true, []⟩
    let c : Ind XVal := ⟨2, [.fin 4, .fin 5], none, true, []⟩
    let e : Ind XVal := ⟨3, [.fin 5, .fin 3], none, true, []⟩
    (eliteWith xnum 2 [0, 0, 0, 0] [a, b, c, e]).map (·.number) = [0, 1] ∧
    (eliteWith xnum 2 [0, 0, 0, 0] [e, c, b, a]).map (·.number) = [0, 1] := by decide +kernel

/-- In the sorted front (no NaN values) the individuals of infinite distance come first: nobody of finite distance stands
before one of infinite distance.  (So a truncation `individuals[:n]` drops finite-distance individuals first; the truncation
itself is not in the statement.) -/
theorem crowding_inf_kept_first (pop : List (Ind XVal)) (hnn : NoNaNPop pop) (l1 l2 : List (Ind XVal)) (b : Ind XVal)
    (hs : crowdingSort xnum pop = l1 ++ b :: l2)
    (hb : lookupD xnum b.number (calcCrowding xnum pop).2 = .pinf) :
    ∀ a ∈ l1, lookupD xnum a.number (calcCrowding xnum pop).2 = .pinf := by
  obtain ⟨_, hg, hp⟩ := crowding_sort_descending pop hnn
  rw [hs, pairwise_append] at hp
  intro a ha
  have h1 := (hp.2.2 a ha b (by simp)).1
  rw [hb] at h1
  have h2 := hg a.number
  generalize lookupD xnum a.number (calcCrowding xnum pop).2 = v at h1 h2
  cases v with
  | pinf => rfl
  | fin q => simp [xlt] at h1
  | _ => exact h2.elim

example : (crowdingSort xnum [⟨0, [.fin 0, .fin 5], none, true, []⟩, ⟨1, [.fin 1, .fin 3], none, true, []⟩,
    ⟨2, [.fin 4, .fin 0], none, true, []⟩]).map (·.number) = [0, 2, 1] := by decide +kernel

/-- Link to `C09.ga_cache_roundtrip`, not a new result.  `select_parent` = this
selection; `get_parent_population` stores the selected trials in a study system attribute and reads them back as
indices into the list of all trials.  Stored as trial NUMBERS (what NSGA-III does) the selected list comes back
unchanged on every storage; stored as `_trial_id`s (what `BaseGASampler` does today) it does not as soon as ids
differ from numbers — `C09.ga_cache_ids_wrong`, known finding F7. -/
theorem elite_through_parent_cache {α : Type} (N : Num α) (popSize : Nat) (ranks : List Nat) (pop : List (Ind α))
    (trials : List GACache.T) (hd : C09.NumberDense trials) (idOf : Nat → Nat)
    (hmem : ∀ x ∈ pop, (⟨idOf x.number, x.number⟩ : GACache.T) ∈ trials) (hlen : ranks.length = pop.length) :
    GACache.roundTrip GACache.writeNumbers trials ((eliteWith N popSize ranks pop).map (fun x => ⟨idOf x.number, x.number⟩)) =
      some ((eliteWith N popSize ranks pop).map (fun x => ⟨idOf x.number, x.number⟩)) := by
  apply C09.ga_cache_roundtrip trials _ hd
  intro p hp
  obtain ⟨x, hx, rfl⟩ := mem_map.1 hp
  exact hmem x ((elite_distinct_members N popSize ranks pop hlen).1.subset hx)

/-- content keys (docstring-free, position-free AST; `verif/translators/nsga2_src.py`) of nine functions of the tree under
test: the first nine of `Generated.Nsga2Src.keys`, i.e. the selection, crowding, constraint and domination functions behind
`Model/Nsga2.lean` (the rest of that list is the crossover part); the recorded values are those of the source the model was written
against.  `_constrained_dominates`, `_dominates` and `_normalize_value` occur in no statement of this file; the two rank functions
of `_multi_objective.py`, which do, are not among the keys: their text is pinned in `Props/C15Gen.lean`. -/
def modelledKeys : List (String × Nat) := [
  ("optuna/samplers/nsgaii/_elite_population_selection_strategy.py :: NSGAIIElitePopulationSelectionStrategy.__call__", 719216067323116413),
  ("optuna/samplers/nsgaii/_elite_population_selection_strategy.py :: _calc_crowding_distance", 60815413682515448),
  ("optuna/samplers/nsgaii/_elite_population_selection_strategy.py :: _crowding_distance_sort", 458905545629052035),
  ("optuna/samplers/nsgaii/_elite_population_selection_strategy.py :: _rank_population", 645381497369769622),
  ("optuna/samplers/nsgaii/_constraints_evaluation.py :: _constrained_dominates", 1053739708068113442),
  ("optuna/samplers/nsgaii/_constraints_evaluation.py :: _evaluate_penalty", 582851371091823490),
  ("optuna/samplers/nsgaii/_constraints_evaluation.py :: _validate_constraints", 852570739291261064),
  ("optuna/study/_multi_objective.py :: _dominates", 132905871192497782),
  ("optuna/study/_multi_objective.py :: _normalize_value", 287351839270267405)
]

/-- The regenerated keys (every run, from the tree under test) of the selection / crowding / domination functions equal the recorded ones: an edit of any of them breaks this obligation. -/
theorem modelled_source_unchanged :
    modelledKeys.all (fun p => Generated.Nsga2Src.keyOf p.1 == p.2) = true :=
  Generated.Nsga2Src.all_keyOf_of_sublist (List.take_sublist 9 Generated.Nsga2Src.keys)

/-- the direction-normalised objective vector of a trial (`objective_values *= ±1`) -/
def normRow (dirs : List Bool) (x : Ind XVal) : List XVal := List.zipWith normVal dirs x.values

def valuesOf (dirs : List Bool) (pop : List (Ind XVal)) : List XVal := (pop.map (normRow dirs)).flatten

/-- On the values that occur the encoding is an order embedding of the float order (`<=` of `XVal`: NaN is not comparable)
into the integers: it preserves and reflects `<=`, and distinct values get distinct codes.  (A population with a NaN objective value has no
faithful encoding: `nan <= nan` is false, `encV e nan ≤ encV e nan` is true.) -/
structure _root_.OptunaVerif.Nsga2.Enc.Faithful (e : Enc) (vals : List XVal) : Prop where
  le_iff : ∀ a ∈ vals, ∀ b ∈ vals, (encV e a ≤ encV e b ↔ XVal.le a b = true)
  inj : ∀ a ∈ vals, ∀ b ∈ vals, encV e a = encV e b → a = b

/-- domination of ORIGINAL objective vectors under the study's directions: nowhere worse, and not the same vector -/
def VDom (dirs : List Bool) (y x : Ind XVal) : Prop :=
  List.Forall₂ (fun a b => XVal.le a b = true) (normRow dirs y) (normRow dirs x) ∧ normRow dirs y ≠ normRow dirs x

theorem lossRow_eq_map (e : Enc) (dirs : List Bool) (x : Ind XVal) : lossRow e dirs x = (normRow dirs x).map (encV e) := by
  simp [lossRow, normRow, List.map_zipWith]

theorem forall₂_enc (e : Enc) (vals : List XVal) (hf : e.Faithful vals) :
    ∀ (A B : List XVal), (∀ a ∈ A, a ∈ vals) → (∀ b ∈ B, b ∈ vals) →
      (List.Forall₂ (· ≤ ·) (A.map (encV e)) (B.map (encV e)) ↔ List.Forall₂ (fun a b => XVal.le a b = true) A B) := by
  intro A
  induction A with
  | nil => intro B _ _; cases B <;> simp
  | cons a A ih =>
    intro B hA hB
    cases B with
    | nil => simp
    | cons b B =>
      simp only [List.map_cons, List.forall₂_cons]
      rw [hf.le_iff a (hA a (List.mem_cons_self ..)) b (hB b (List.mem_cons_self ..)),
        ih B (fun x hx => hA x (List.mem_cons_of_mem _ hx)) (fun x hx => hB x (List.mem_cons_of_mem _ hx))]

theorem map_enc_inj (e : Enc) (vals : List XVal) (hf : e.Faithful vals) :
    ∀ (A B : List XVal), (∀ a ∈ A, a ∈ vals) → (∀ b ∈ B, b ∈ vals) → A.map (encV e) = B.map (encV e) → A = B := by
  intro A
  induction A with
  | nil => intro B _ _ h; cases B <;> simp_all
  | cons a A ih =>
    intro B hA hB h
    cases B with
    | nil => simp at h
    | cons b B =>
      simp only [List.map_cons, List.cons.injEq] at h
      rw [hf.inj a (hA a (List.mem_cons_self ..)) b (hB b (List.mem_cons_self ..)) h.1,
        ih B (fun x hx => hA x (List.mem_cons_of_mem _ hx)) (fun x hx => hB x (List.mem_cons_of_mem _ hx)) h.2]

theorem mem_valuesOf (dirs : List Bool) (pop : List (Ind XVal)) (x : Ind XVal) (hx : x ∈ pop) :
    ∀ a ∈ normRow dirs x, a ∈ valuesOf dirs pop := by
  intro a ha
  exact List.mem_flatten.mpr ⟨normRow dirs x, List.mem_map.mpr ⟨x, hx, rfl⟩, ha⟩

theorem dom_lossRow_iff (e : Enc) (dirs : List Bool) (pop : List (Ind XVal)) (hf : e.Faithful (valuesOf dirs pop))
    (x y : Ind XVal) (hx : x ∈ pop) (hy : y ∈ pop) :
    Dom (lossRow e dirs y) (lossRow e dirs x) ↔ VDom dirs y x := by
  unfold Dom VDom Le
  rw [lossRow_eq_map, lossRow_eq_map,
    forall₂_enc e _ hf _ _ (mem_valuesOf dirs pop y hy) (mem_valuesOf dirs pop x hx)]
  constructor
  · rintro ⟨h1, h2⟩; exact ⟨h1, fun h => h2 (by rw [h])⟩
  · rintro ⟨h1, h2⟩
    exact ⟨h1, fun h => h2 (map_enc_inj e _ hf _ _ (mem_valuesOf dirs pop y hy) (mem_valuesOf dirs pop x hx) h)⟩

/-- For a FAITHFUL encoding the ranks `_rank_population` hands to the selection are the peeling
ranks of the ORIGINAL objective vectors under the study's directions: there is `ρ` on trials with `ranks = pop.map ρ` and, for every trial `x`
and level `j ≤ ρ x`: `ρ x = j` iff no trial of rank ≥ j dominates `x` (`VDom`: original values, directions applied, float `<=`). -/
theorem elite_ranks_are_peeling_ranks_of_values (e : Enc) (dirs : List Bool) (pop : List (Ind XVal))
    (hv : ∀ x ∈ pop, x.values.length = dirs.length) (hf : e.Faithful (valuesOf dirs pop)) :
    ∃ ρ : Ind XVal → Nat, ranksOf e dirs false pop = some (pop.map ρ) ∧
      ∀ x ∈ pop, ∀ j, j ≤ ρ x → (ρ x = j ↔ ∀ y ∈ pop, j ≤ ρ y → ¬ VDom dirs y x) := by
  obtain ⟨⟨h1, h2⟩, _⟩ := elite_ranks_are_peeling_ranks e dirs pop hv
  refine ⟨fun x => rankFn dirs.length (pop.map (lossRow e dirs)) none (lossRow e dirs x), ?_, ?_⟩
  · rw [h1]; simp [List.map_map, Function.comp_def]
  · exact IsPeelingOn.comap (M' := (· ∈ pop.map (lossRow e dirs))) (R' := Dom) (lossRow e dirs)
      (fun x hx => List.mem_map.mpr ⟨x, hx, rfl⟩)
      (fun q hq => by obtain ⟨y, hy, rfl⟩ := List.mem_map.mp hq; exact ⟨y, hy, rfl⟩)
      (fun y x hy hx => (dom_lossRow_iff e dirs pop hf x y hx hy).symm) (isPeeling_iff.1 h2)

/-- The encoding the driver is given (verif/props/c15_nsga.py `enc_for`: `den` = a common denominator of the
finite values, `big` beyond every scaled finite value) is faithful on NaN-free values: `q * den` is an integer for every finite `q` that occurs,
and it lies strictly between `-big` and `big`. -/
theorem faithful_of_common_den (e : Enc) (vals : List XVal) (hden : 0 < e.den) (hbig0 : 0 < e.big)
    (hnan : XVal.nan ∉ vals)
    (hint : ∀ q, XVal.fin q ∈ vals → (((q * (e.den : Rat)).floor : Int) : Rat) = q * (e.den : Rat))
    (hbig : ∀ q, XVal.fin q ∈ vals → -e.big < (q * (e.den : Rat)).floor ∧ (q * (e.den : Rat)).floor < e.big) :
    e.Faithful vals := by
  have hd : (0 : Rat) < (e.den : Rat) := by exact_mod_cast hden
  have hfin : ∀ a b : Rat, XVal.fin a ∈ vals → XVal.fin b ∈ vals →
      ((a * (e.den : Rat)).floor ≤ (b * (e.den : Rat)).floor ↔ a ≤ b) := by
    intro a b ha hb
    rw [← Int.cast_le (R := Rat), hint a ha, hint b hb]
    exact mul_le_mul_iff_of_pos_right hd
  have hle : ∀ a ∈ vals, ∀ b ∈ vals, (encV e a ≤ encV e b ↔ XVal.le a b = true) := by
    intro a ha b hb
    cases a with
    | nan => exact absurd ha hnan
    | ninf =>
      cases b with
      | nan => exact absurd hb hnan
      | ninf => simp [encV, XVal.le]
      | pinf => simp [encV, XVal.le]; omega
      | fin q => have := hbig q hb; simp [encV, XVal.le]; omega
    | pinf =>
      cases b with
      | nan => exact absurd hb hnan
      | ninf => simp [encV, XVal.le]; omega
      | pinf => simp [encV, XVal.le]
      | fin q => have := hbig q hb; simp [encV, XVal.le]; omega
    | fin p =>
      cases b with
      | nan => exact absurd hb hnan
      | ninf => have := hbig p ha; simp [encV, XVal.le]; omega
      | pinf => have := hbig p ha; simp [encV, XVal.le]; omega
      | fin q => simpa [encV, XVal.le] using hfin p q ha hb
  -- equal codes are `≤` both ways, and the float order is antisymmetric
  exact ⟨hle, fun a ha b hb h => xle_antisymm ((hle a ha b hb).1 (le_of_eq h)) ((hle b hb a ha).1 (le_of_eq h.symm))⟩

-- non-vacuity: the encoding `enc_for` computes for the values 1/2, 3/4, -inf, +inf (den = 4, big = 5) is faithful
example : (⟨4, 5⟩ : Enc).Faithful [.fin (1/2), .fin (3/4), .ninf, .pinf] := by
  refine faithful_of_common_den _ _ (by decide) (by decide) (by decide) ?_ ?_
  · intro q hq
    simp only [List.mem_cons, XVal.fin.injEq, reduceCtorEq, List.not_mem_nil, or_false] at hq
    rcases hq with rfl | rfl <;> decide +kernel
  · intro q hq
    simp only [List.mem_cons, XVal.fin.injEq, reduceCtorEq, List.not_mem_nil, or_false] at hq
    rcases hq with rfl | rfl <;> decide +kernel

end OptunaVerif.C15Nsga
