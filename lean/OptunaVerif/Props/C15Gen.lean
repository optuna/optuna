import OptunaVerif.Generated.HvMethods
import OptunaVerif.Generated.HvShapes
import OptunaVerif.Lemmas.HvExpected
import OptunaVerif.Lemmas.HsspIR
import OptunaVerif.Lemmas.RankIR
namespace OptunaVerif.C15Gen
open OptunaVerif.Hypervolume OptunaVerif.HvIR
open OptunaVerif.Generated.HvMethods (prog)

/-!
# C15 (translator tie T-hv) — the generated `wfg.py`, `hssp.py` and rank functions are the hand models

`Generated/HvMethods.lean`, `HsspMethods.lean`, `RankMethods.lean` (IR) and `HvShapes.lean` (normalised text) are regenerated from the
source by `verif/translators/thv.py`.  For all inputs (the one side condition is `labels.length = U.length` in
`gen_solve_on_unique_eq_partial`): the interpreters of
`Model/HvIR.lean` on the generated `_compute_2d`, `_compute_hv` / `_compute_exclusive_hv`, `compute_hypervolume` equal `Model/Hypervolume.lean`
(`gen_*_eq`); the interpreters of `Model/HsspIR.lean` on the generated `_solve_hssp` and on the greedy loop of
`_solve_hssp_on_unique_loss_vals` equal `solveHsspRef` (`Lemmas/HsspIR.lean`) / `Model/Hssp.lean`, with `_lazy_contribs_update` and
`_solve_hssp_2d` as PARAMETERS (no interpreter; text pin only); the interpreter of `Model/RankIR.lean` on the two generated rank functions
equals the flag-free array references `calcRef` / `fastRef` of `Lemmas/RankIR.lean`.  `_is_pareto_front(·, True)` is not interpreted here: it
is `Hypervolume.frontSorted` in the hypervolume part (`frontOf`) and a parameter `front` in the rank part.  The C15 theorems are restated for
these interpreters in `Props/C15GenSpec.lean`.

## shape pins: the normalised source text of every function in scope is the reviewed snapshot (`Lemmas/HvExpected.lean`)
-/

theorem compute_2d_shape : Generated.HvShapes.compute2dSrc = HvExpected.compute2dSrc := rfl
theorem compute_hv_shape : Generated.HvShapes.computeHvSrc = HvExpected.computeHvSrc := rfl
theorem compute_exclusive_hv_shape : Generated.HvShapes.computeExclusiveHvSrc = HvExpected.computeExclusiveHvSrc := rfl
theorem compute_hypervolume_shape : Generated.HvShapes.computeHypervolumeSrc = HvExpected.computeHypervolumeSrc := rfl
theorem solve_hssp_2d_shape : Generated.HvShapes.solveHssp2dSrc = HvExpected.solveHssp2dSrc := rfl
theorem lazy_contribs_update_shape : Generated.HvShapes.lazyContribsUpdateSrc = HvExpected.lazyContribsUpdateSrc := rfl
theorem solve_hssp_on_unique_loss_vals_shape : Generated.HvShapes.solveHsspOnUniqueSrc = HvExpected.solveHsspOnUniqueSrc := rfl
theorem solve_hssp_shape : Generated.HvShapes.solveHsspSrc = HvExpected.solveHsspSrc := rfl
theorem fast_non_domination_rank_shape : Generated.HvShapes.fastNonDominationRankSrc = HvExpected.fastNonDominationRankSrc := rfl
theorem calculate_nondomination_rank_shape :
    Generated.HvShapes.calculateNondominationRankSrc = HvExpected.calculateNondominationRankSrc := rfl
theorem module_level_shape : Generated.HvShapes.wfgModuleLevelSrc = HvExpected.wfgModuleLevelSrc ∧
    Generated.HvShapes.hsspModuleLevelSrc = HvExpected.hsspModuleLevelSrc := ⟨rfl, rfl⟩


theorem hget_cons (k : String) (v : HVal) (env : List (String × HVal)) (n : String) :
    hget ((k, v) :: env) n = if k == n then v else hget env n := by
  unfold hget
  simp only [List.find?_cons]
  cases h : (k == n) <;> simp

theorem x0_getD (p : Pt) : p.getD 0 0 = x0 p := by cases p <;> rfl
theorem y1_getD (p : Pt) : p.getD 1 0 = y1 p := by
  cases p with
  | nil => rfl
  | cons a t => cases t <;> rfl

/-- the rows after the first one: `(ref[0] - x) @ (rect_diag_y - y)` with the running minimum `m` carried along -/
theorem c2d_go (r0 m : Int) (t : List Pt) :
    dotL ((t.map x0).map (fun x => r0 - x))
      (subL ((m :: cumminFromI m (t.map y1)).dropLast) (cumminFromI m (t.map y1))) = compute2dGo r0 m t := by
  induction t generalizing m with
  | nil => rfl
  | cons p t ih =>
    have := ih (min m (y1 p))
    simp only [List.map_cons, cumminFromI, List.dropLast_cons_cons, subL, List.zipWith_cons_cons, dotL, sumL, List.foldr_cons,
      compute2dGo] at this ⊢
    rw [this]

/-- `_compute_2d` as generated (running minimum of the second column, the shifted diagonal, the dot product)
is the hand model's sweep `compute2d`, for every array and reference point. -/
theorem gen_compute_2d_eq (r : Pt) (S : List Pt) : c2dGen prog.c2d r S = compute2d r S := by
  cases S with
  | nil =>
    simp [c2dGen, prog, Generated.HvMethods.c2d, HE.eval, hget, numOf, cumminI, subL, dotL, sumL, compute2d]
  | cons p t =>
    have h := c2d_go (x0 r) (y1 p) t
    have hx : (fun (q : Pt) => q.getD 0 0) = x0 := funext x0_getD
    have hy : (fun (q : Pt) => q.getD 1 0) = y1 := funext y1_getD
    dsimp only [c2dGen, prog, Generated.HvMethods.c2d, HE.eval, hget, numOf]
    simp [-List.getD_eq_getElem?_getD, x0_getD, y1_getD, cumminI]
    simp only [compute2d, ← h, dotL, subL, sumL, List.map_map]
    cases hc : cumminFromI (y1 p) (t.map y1) with
    | nil => simp [List.dropLast]
    | cons a b => simp [List.dropLast_cons_cons]

example : c2dGen prog.c2d [4, 4] [[0, 3], [1, 2], [1, 1], [1, 1], [2, 3], [3, 0]] = 11 := by
  rw [gen_compute_2d_eq]
  decide +kernel


theorem prodL_subL (r p : Pt) : prodL (subL r p) = vol r p := by
  induction r generalizing p with
  | nil => cases p <;> rfl
  | cons b r ih =>
    cases p with
    | nil => rfl
    | cons a p => simp [subL, prodL, vol, ← ih p]

theorem gen_incl_eq (r : Pt) (S : List Pt) :
    vecOf (prog.wfg.incl.eval [("S", .mat S), ("ref", .vec r)]) = S.map (vol r) := by
  simp [prog, Generated.HvMethods.wfg, HE.eval, hget, vecOf, prodL_subL]

/-- `_compute_exclusive_hv` as generated: the inclusive volume when nothing is left, else minus the hypervolume of the
weakly-non-dominated limited points -/
theorem gen_exclusive_eq (d : Nat) (rec : List Pt → Int) (limited : List Pt) (inc : Int) :
    exclGen prog.wfg (frontOf d) rec limited inc = exclusiveHv d rec limited inc := by
  cases h : limited.isEmpty <;>
    simp [exclGen, prog, Generated.HvMethods.wfg, HE.eval, hget, numOf, exclusiveHv, frontOf, h]

/-- the `sum(… for i, inclusive_hv in enumerate(inclusive_hvs))` over `limited_sols_array[i, i + 1:]` is the hand model's `sumExcl` -/
theorem gen_sum_eq (d : Nat) (r : Pt) (rec : List Pt → Int) (S : List Pt) :
    sumL ((List.range S.length).map (fun i =>
      exclusiveHv d rec ((S.drop (i + 1)).map (pmax (S.getD i []))) ((S.map (vol r)).getD i 0))) = sumExcl d r rec S := by
  induction S with
  | nil => rfl
  | cons p rest ih =>
    rw [List.length_cons, List.range_succ_eq_map, List.map_cons, List.map_map]
    simp only [sumL, List.foldr_cons, sumExcl]
    have : sumL ((List.range rest.length).map ((fun i =>
        exclusiveHv d rec (((p :: rest).drop (i + 1)).map (pmax ((p :: rest).getD i []))) (((p :: rest).map (vol r)).getD i 0)) ∘ Nat.succ)) =
        sumExcl d r rec rest := by
      rw [← ih]; congr 1
    simp only [sumL] at this
    rw [this]
    simp

/-- `_compute_hv` / `_compute_exclusive_hv` as generated (inclusive volumes, the 1- and 2-point formulas, the
pair-maximum array, the suffix slices, the Pareto filter with `assume_unique_lexsorted=True`, `inclusive - recursive`) is the hand
model's WFG recursion `hvFuel`, for every dimension, reference point, array and recursion budget. -/
theorem gen_compute_hv_eq (d : Nat) (r : Pt) (fuel : Nat) (S : List Pt) :
    hvGen prog.wfg (frontOf d) r fuel S = hvFuel d r fuel S := by
  induction fuel generalizing S with
  | zero => rfl
  | succ fuel ih =>
    have hrec : hvGen prog.wfg (frontOf d) r fuel = hvFuel d r fuel := funext ih
    unfold hvGen
    simp only [gen_incl_eq, hrec]
    match S with
    | [] => simp [prog, Generated.HvMethods.wfg, hvFuel, sumL]
    | [p] =>
      simp [prog, Generated.HvMethods.wfg, hvFuel, HE.eval, hget, numOf]
    | [p, q] =>
      simp [prog, Generated.HvMethods.wfg, hvFuel, HE.eval, hget, numOf, sumL, prodL_subL]
    | p :: q :: s :: rest =>
      have hs := gen_sum_eq d r (hvFuel d r fuel) (p :: q :: s :: rest)
      have hfind : prog.wfg.cases.find? (fun c => c.1 == ((p :: q :: s :: rest).map (vol r)).length) = none := by
        simp [prog, Generated.HvMethods.wfg]
      have hflags : (prog.wfg.limitedPairMax && prog.wfg.sumOverEnumerate) = true ∧ prog.wfg.sliceOffset = 1 := by decide
      rw [hfind]
      simp only [hflags.1, hflags.2, if_true, List.length_map]
      rw [show (fun i => exclGen prog.wfg (frontOf d) (hvFuel d r fuel)
            (((p :: q :: s :: rest).drop (i + 1)).map (pmax ((p :: q :: s :: rest).getD i [])))
            (((p :: q :: s :: rest).map (vol r)).getD i 0)) =
          (fun i => exclusiveHv d (hvFuel d r fuel)
            (((p :: q :: s :: rest).drop (i + 1)).map (pmax ((p :: q :: s :: rest).getD i [])))
            (((p :: q :: s :: rest).map (vol r)).getD i 0)) from by funext i; exact gen_exclusive_eq d _ _ _]
      rw [hs]
      rfl

example : hvGen prog.wfg (frontOf 3) [3, 3, 3] 4 [[0, 2, 1], [1, 1, 1], [1, 1, 1], [2, 0, 0]] = 15 := by
  rw [gen_compute_hv_eq]
  decide +kernel


theorem allCmpE_le (p q : List EInt) : allCmpE .le p q = allLeE p q := by
  induction p generalizing q with
  | nil => cases q <;> rfl
  | cons a p ih => cases q with
    | nil => rfl
    | cons b q => simp [allCmpE, allLeE, HCmp.evalE, ih]

theorem allCmpE_lt (p q : List EInt) : allCmpE .lt p q = allLtE p q := by
  induction p generalizing q with
  | nil => cases q <;> rfl
  | cons a p ih => cases q with
    | nil => rfl
    | cons b q => simp [allCmpE, allLtE, HCmp.evalE, ih]

/-- `compute_hypervolume` as generated is the hand model's `computeHypervolume`, for every array,
reference point (±∞ / NaN included) and `assume_pareto`:
the `<=` check raises ValueError; a non-finite reference point answers inf;
rows that touch the reference point are dropped; nothing left answers 0;
unique + Pareto pre-filter or the column-0 sort; the 2-D sweep or the WFG recursion; a non-finite result is mapped to inf. -/
theorem gen_compute_hypervolume_eq (S : List (List EInt)) (r : List EInt) (ap : Bool) :
    chvGen prog S r ap = .out (computeHypervolume S r ap) := by
  have hle : (fun p => allCmpE .le p r) = (fun p => allLeE p r) := by funext p; exact allCmpE_le p r
  have hlt : (fun p => allCmpE .lt p r) = (fun p => allLtE p r) := by funext p; exact allCmpE_lt p r
  unfold chvGen computeHypervolume
  rw [show prog.chv = [.raiseUnlessAll .le, .retInfUnlessRefFinite, .keepRowsAll .lt, .retIfEmpty 0,
    .sortBranch (.uniqueFront true) .argsort0, .dispatch 2, .retFiniteOrInf] from rfl]
  simp only [runC, CStmt.step, hle, hlt]
  -- `h1` … `h4`: the model's four early answers.  The fourth (a remaining row with a non-finite coordinate) is the source's LAST line,
  -- `hv if np.isfinite(hv) else inf`: the interpreter carries it there as the flag `nf`, set by `.sortBranch`, under which the sort and
  -- the dispatch do nothing
  by_cases h1 : (!(S.all (fun p => allLeE p r))) = true
  · simp [h1]
  · simp only [h1, Bool.false_eq_true, if_false]
    by_cases h2 : (!(r.all EInt.isFinite)) = true
    · simp [h2]
    · simp only [h2, Bool.false_eq_true, if_false]
      by_cases h3 : (S.filter (fun p => allLtE p r)).isEmpty = true
      · simp [h3]
      · simp only [h3, Bool.false_eq_true, if_false]
        by_cases h4 : (S.filter (fun p => allLtE p r)).any (fun p => p.any (fun c => !c.isFinite)) = true
        · simp [h4]
        · simp only [h4, Bool.false_eq_true, if_false]
          -- `assume_pareto` picks `.argsort0` = `sort0`; otherwise `.uniqueFront true` = `frontOf d true (uniqueLex S')`, which is the
          -- model's `frontSorted id d (uniqueLex S')`; `hvGen` with fuel `S.length` is `computeHv`
          simp only [computeHypervolumeFin, sortGen, frontOf, List.length_map, gen_compute_2d_eq, gen_compute_hv_eq, computeHv]
          cases ap <;> simp

example : chvGen prog [[.fin 0, .fin 0], [.fin 1, .fin 1], [.fin 1, .fin 1]] [.fin 2, .fin 2] false = .out (.fin 4) ∧
    chvGen prog [[.ninf, .fin 5]] [.fin 5, .fin 5] false = .out (.fin 0) ∧
    chvGen prog [[.ninf, .fin 4]] [.fin 5, .fin 5] false = .out .inf ∧
    chvGen prog [[.fin 0, .fin 2]] [.fin 1, .fin 1] true = .out .error ∧
    chvGen prog [[.fin 0, .fin 0, .fin 0], [.fin 1, .fin 1, .fin 1]] [.fin 2, .fin 2, .fin 2] true = .out (.fin 8) := by
  simp only [gen_compute_hypervolume_eq]
  decide +kernel


open OptunaVerif.HsspIR in
/-- `_solve_hssp` as generated, for every array, every `rank_i_indices` (of any length), every `subset_size` and
every solver for unique rows: all ids when `k = n`; with fewer unique rows than `k` the first occurrence of every unique row plus the first
`k - n_unique` remaining positions (a boolean mask, so the result is in position order and has no repetition); otherwise the solver's
selection — always read through `rank_i_indices`. -/
theorem gen_solve_hssp_eq (solver : List Pt → List Nat → Nat → List Nat) (vals : List Pt) (ids : List Nat) (k : Nat) :
    topGen Generated.HsspMethods.prog.top solver vals ids k = .idx (solveHsspRef solver vals ids k) := by
  unfold topGen solveHsspRef
  dsimp only [Generated.HsspMethods.prog, Generated.HsspMethods.top, SE.eval, sget]
  by_cases hk : k = ids.length
  · simp [hk]
  · have hk' : (k == ids.length) = false := by simpa using hk
    simp only [hk, if_false]
    by_cases hu : (uniqueLex vals).length < k
    · have hle : (uniqueLex vals).length ≤ k := Nat.le_of_lt hu
      simp [hu, hle, hk', setAll_replicate, setAll_map, selMask_map_filter, selMask_range]
      rfl
    · simp [hu, hk']

open OptunaVerif.HsspIR in
example : topGen Generated.HsspMethods.prog.top (fun _ _ _ => []) [[1, 1], [1, 1], [4, 4], [2, 1], [4, 4], [1, 1]] [10, 11, 12, 13, 14, 15] 5 =
    .idx [10, 11, 12, 13, 14] := by
  rw [gen_solve_hssp_eq]
  decide +kernel


theorem eraseIdx_map {α β : Type} (f : α → β) (l : List α) (m : Nat) : (l.map f).eraseIdx m = (l.eraseIdx m).map f := by
  induction l generalizing m with
  | nil => rfl
  | cons a t ih => cases m <;> simp [List.eraseIdx, ih]

open OptunaVerif.HsspIR OptunaVerif.Hssp in
/-- the generated loop on the three parallel arrays `contribs` / `indices` / `rank_i_loss_vals` is the hand model's loop on candidate records:
first-maximum pick, the picked position dropped from all three arrays, no update after the last pick, the recorded rows handed to the lazy update -/
theorem gen_greedy_loop_eq (r : Pt) (lab : Nat → Nat) (k : Nat) : ∀ (T : List Trip) (sel : List Pt),
    (greedyGen Generated.HsspMethods.prog.greedy (fun cs vs s => lazyUpdate r cs vs s) k
      (T.map (fun t => t.2.2)) (T.map (fun t => t.2.1)) (T.map (fun t => t.1)) sel).map lab =
    (greedyLazy r k (T.map (toCand lab)) sel).map (fun c => c.label) := by
  -- the three parallel arrays are given as the projections of ONE list `T` of triples (row, position, contribution): that is what says
  -- they stay aligned.  After a pick they are such projections again, of `repl T' (lazyUpdate …)` (`T'` with the new contributions;
  -- `repl_proj`), because the lazy update keeps the length (`hlen`); the model's `setContribs` is the same `repl` (`setContribs_map`)
  induction k with
  | zero => intro T sel; rfl
  | succ k ih =>
    intro T sel
    have hflags : Generated.HsspMethods.prog.greedy.pick = .argmaxFirst ∧ Generated.HsspMethods.prog.greedy.dropFromContribs = true ∧
        Generated.HsspMethods.prog.greedy.dropFromIndices = true ∧ Generated.HsspMethods.prog.greedy.dropFromVals = true ∧
        Generated.HsspMethods.prog.greedy.recordsIndexOfPick = true ∧ Generated.HsspMethods.prog.greedy.recordsVecOfPick = true ∧
        Generated.HsspMethods.prog.greedy.breakAtLast = true ∧ Generated.HsspMethods.prog.greedy.lazySliceExtra = 2 := by decide
    obtain ⟨f1, f2, f3, f4, f5, f6, f7, f8⟩ := hflags
    have hc : (T.map (toCand lab)).map (fun c => c.contrib) = T.map (fun t => t.2.2) := by simp [toCand]
    unfold greedyGen greedyLazy
    simp only [f1, f2, f3, f4, f5, f6, f7, f8, Pick.eval, hc, List.getElem?_map, if_true]
    generalize argmax (T.map (fun t => t.2.2)) = m
    cases hm : T[m]? with
    | none => simp
    | some t =>
      simp only [Option.map_some]
      by_cases hk : k = 0
      · subst hk; simp [toCand]
      · have hk' : (k == 0) = false := by simpa using hk
        simp only [hk, hk', Bool.true_and, Bool.false_eq_true, if_false, List.map_cons, eraseIdx_map, toCand]
        generalize T.eraseIdx m = T'
        have hlen : (lazyUpdate r (T'.map (fun t => t.2.2)) (T'.map (fun t => t.1)) (sel ++ [t.1])).length = T'.length := by
          rw [lazyUpdate_length]; simp
        obtain ⟨p1, p2, p3⟩ := repl_proj _ _ hlen
        have hmapc : (T'.map (toCand lab)).map (fun c => c.contrib) = T'.map (fun t => t.2.2) := by simp [toCand]
        have hmapp : (T'.map (toCand lab)).map (fun c => c.pt) = T'.map (fun t => t.1) := by simp [toCand]
        have := ih (repl T' (lazyUpdate r (T'.map (fun t => t.2.2)) (T'.map (fun t => t.1)) (sel ++ [t.1]))) (sel ++ [t.1])
        rw [p1, p2, p3] at this
        show lab t.2.1 :: _ = _
        rw [this]
        simp only [hmapc, hmapp, setContribs_map lab _ _ hlen]


open OptunaVerif.HsspIR OptunaVerif.Hssp in
theorem zipIdx_cands (r : Pt) (labels : List Nat) (U : List Pt) : ∀ o, o + U.length = labels.length →
    (U.zipIdx o).map (fun x => toCand (fun j => labels.getD j 0) (x.1, x.2, vol r x.1)) =
    (U.zip (labels.drop o)).map (fun e => ({ pt := e.1, label := e.2, contrib := vol r e.1 } : Cand)) := by
  induction U with
  | nil => intro o _; rfl
  | cons p U ih =>
    intro o h
    have hlt : o < labels.length := by simp only [List.length_cons] at h; omega
    rw [List.drop_eq_getElem_cons hlt]
    have := ih (o + 1) (by simp only [List.length_cons] at h; omega)
    simp only [List.zipIdx_cons, List.map_cons, List.zip_cons_cons, this]
    simp [toCand, List.getD_eq_getElem?_getD, List.getElem?_eq_getElem hlt]

open OptunaVerif.HsspIR in
theorem zipIdx_proj (r : Pt) (U : List Pt) : ∀ o,
    ((U.zipIdx o).map (fun x => ((x.1, x.2, vol r x.1) : Trip))).map (fun t => t.1) = U ∧
    ((U.zipIdx o).map (fun x => ((x.1, x.2, vol r x.1) : Trip))).map (fun t => t.2.1) = List.range' o U.length ∧
    ((U.zipIdx o).map (fun x => ((x.1, x.2, vol r x.1) : Trip))).map (fun t => t.2.2) = U.map (vol r) := by
  induction U with
  | nil => intro o; simp
  | cons p U ih =>
    intro o
    obtain ⟨h1, h2, h3⟩ := ih (o + 1)
    simp only [List.map_map] at h1 h2 h3
    simp [List.zipIdx_cons, List.range'_succ, h1, h2, h3]

open OptunaVerif.HsspIR OptunaVerif.Hssp in
/-- `_solve_hssp_on_unique_loss_vals` as generated, with `_lazy_contribs_update` and `_solve_hssp_2d` taken as the
hand model's `lazyUpdate` / `hssp2dLoop` (PARAMETERS: they have no interpreter): the three early returns, the initial contributions
`prod(ref - row)`, the greedy loop, and the final `rank_i_indices[selected_indices]` are the hand model's `solveOnUnique`, for every
unique-row array, label array of the same length, `k`, reference point. -/
theorem gen_solve_on_unique_eq_partial (U : List Pt) (labels : List Nat) (k : Nat) (r : Pt) (fin : Bool) (hlen : labels.length = U.length) :
    uniqueGen Generated.HsspMethods.prog.greedy (fun cs vs s => lazyUpdate r cs vs s)
      (fun U labels k => hssp2dLoop k ((U.zip labels).map (fun e => { pt := e.1, label := e.2, dx := x0 r, dy := y1 r }))) U labels k r fin =
    solveOnUnique U labels k r fin := by
  unfold uniqueGen solveOnUnique
  have hf : Generated.HsspMethods.prog.greedy.refNotFiniteReturnsPrefix = true ∧ Generated.HsspMethods.prog.greedy.sizeEqReturnsAll = true ∧
      Generated.HsspMethods.prog.greedy.dispatch2d = 2 ∧ Generated.HsspMethods.prog.greedy.resultThroughIds = true := by decide
  obtain ⟨g1, g2, g3, g4⟩ := hf
  simp only [g1, g2, g3, g4, Bool.true_and, if_true]
  cases fin
  · simp
  · simp only [Bool.not_true, Bool.false_eq_true, if_false]
    by_cases hk : labels.length = k
    · simp [hk]
    · have hk' : (labels.length == k) = false := by simpa using hk
      simp only [hk, hk', Bool.false_eq_true, if_false]
      by_cases h2 : r.length = 2
      · simp [h2]
      · simp only [h2, if_false]
        have hcs : vecOf (Generated.HsspMethods.prog.greedy.initContribs.eval [("S", .mat U), ("ref", .vec r)]) = U.map (vol r) := by
          simp [Generated.HsspMethods.prog, Generated.HsspMethods.greedy, HE.eval, hget, vecOf, prodL_subL]
        obtain ⟨p1, p2, p3⟩ := zipIdx_proj r U 0
        have hloop := gen_greedy_loop_eq r (fun j => labels.getD j 0) k
          ((U.zipIdx 0).map (fun x => ((x.1, x.2, vol r x.1) : Trip))) []
        rw [p1, p2, p3, ← List.range_eq_range'] at hloop
        rw [hcs, hloop, List.map_map]
        have hz := zipIdx_cands r labels U 0 (by simp [hlen])
        simp only [List.drop_zero] at hz
        have hcomp : ((toCand fun j => labels.getD j 0) ∘ fun (x : Pt × Nat) => ((x.1, x.2, vol r x.1) : Trip)) =
            (fun x => toCand (fun j => labels.getD j 0) (x.1, x.2, vol r x.1)) := rfl
        rw [hcomp, hz]

section
-- the interpreter of `Model/RankIR.lean` (expressions, simple statements, statement lists, the environment) is the simp set of this part
open OptunaVerif.RankIR in
attribute [local simp] RE.eval Simple.exec execSimples run rget_cons rset_cons rset_nil RV.lenV RV.cmpV Cmp.eval

namespace RankLoop
open OptunaVerif.RankIR

def calcLoop : Option (RE × List Simple) :=
  Generated.RankMethods.calcBody.findSome? (fun st => match st with | .whileS c b => some (c, b) | _ => none)

def loopEnv (d : Nat) (S : List Pt) (nb' : Int) (nU : Nat) (inv : List Int) (st : PeelSt) : Env :=
  [("loss_values", .mat d S), ("n_below", .int nb'), ("n_trials", .int S.length), ("n_objectives", .int d),
   ("unique_lexsorted_loss_values", .mat d st.arr), ("order_inv", .ints inv), ("n_unique", .int nU), ("ranks", .ints st.ranks),
   ("rank", .int st.rank), ("indices", .ints st.indices)]

theorem calcLoop_some : ∃ c b, calcLoop = some (c, b) := ⟨_, _, rfl⟩

def loopCond : RE := (calcLoop.getD (.none_, [])).1
def loopBody : List Simple := (calcLoop.getD (.none_, [])).2

section
variable (front : Nat → List Pt → List Pt) (d : Nat) (S : List Pt) (nb' : Int) (nU : Nat) (inv : List Int)

/-! The loop reads and writes the variables of `loopEnv`, and `on_front`, which its first round appends behind them: the lemmas carry an
arbitrary tail `tl` of further variables. -/

theorem eval_loopCond (st : PeelSt) (tl : Env) :
    loopCond.eval front noCalc (loopEnv d S nb' nU inv st ++ tl) = .bool (decide ((nU : Int) - (st.indices.length : Int) < nb')) := by
  dsimp only [loopCond, calcLoop, Generated.RankMethods.calcBody, List.findSome?, Option.getD, RE.eval]
  simp [loopEnv]

theorem exec_loopBody (st : PeelSt) (tl : Env) :
    execSimples front noCalc loopBody (loopEnv d S nb' nU inv st ++ tl) =
      loopEnv d S nb' nU inv (PeelSt.mk (st.rank + 1) (selMask st.indices ((frontMaskOf front d st.arr).map (fun x => !x)))
        (selMask st.arr ((frontMaskOf front d st.arr).map (fun x => !x)))
        (scatterIdx st.ranks (selMask st.indices (frontMaskOf front d st.arr)) st.rank)) ++
      rset tl "on_front" (.mask (frontMaskOf front d st.arr)) := by
  -- the body is straight-line: opened by definitional unfolding, then the environment is evaluated
  dsimp only [loopBody, calcLoop, Generated.RankMethods.calcBody, List.findSome?, Option.getD, execSimples, List.foldl, Simple.exec, RE.eval]
  simp [loopEnv, rget_rset_self, RV.selV]

theorem gen_calculate_rank_eq_loop (fuel : Nat) : ∀ (st : PeelSt) (tl : Env), ∃ tl',
    loopW front noCalc loopCond loopBody fuel (loopEnv d S nb' nU inv st ++ tl) =
      loopEnv d S nb' nU inv (peelRef front d nU nb' fuel st) ++ tl' := by
  induction fuel with
  | zero => intro st tl; exact ⟨tl, rfl⟩
  | succ f ih =>
    intro st tl
    rw [loopW, peelRef, eval_loopCond]
    by_cases h : (nU : Int) - (st.indices.length : Int) < nb'
    · rw [if_pos (by simp [h]), if_pos h, exec_loopBody]
      exact ih _ _
    · rw [if_neg (by simp [h]), if_neg h]
      exact ⟨tl, rfl⟩

end

/-- what follows the first 11 statements (the two early returns and nine assignments): the loop, the last scatter write, the return -/
def calcTail : List Stmt := Generated.RankMethods.calcBody.drop 11

theorem calcTail_eq : calcTail = [.whileS loopCond loopBody, .s (.setIdx "ranks" (.var "indices") (.var "rank")), .ret (.take (.var "ranks") (.var "order_inv"))] := rfl

theorem run_calcTail (front : Nat → List Pt → List Pt) (d : Nat) (S : List Pt) (nb' : Int) (nU : Nat) (inv : List Int) (fuel : Nat) (st : PeelSt) :
    run front noCalc fuel calcTail (loopEnv d S nb' nU inv st) =
      .ints (inv.map (fun j => (scatterIdx (peelRef front d nU nb' fuel st).ranks (peelRef front d nU nb' fuel st).indices
        (peelRef front d nU nb' fuel st).rank).getD j.toNat 0)) := by
  rw [calcTail_eq]
  obtain ⟨tl, htl⟩ := gen_calculate_rank_eq_loop front d S nb' nU inv fuel st []
  rw [List.append_nil] at htl
  simp only [run, htl]
  simp [loopEnv]



end RankLoop

open OptunaVerif.RankIR RankLoop in
open OptunaVerif.Generated.RankMethods (calcBody fastBody) in
/-- `_calculate_nondomination_rank` as generated, for EVERY array (no rows, duplicates, any number of
columns), every `n_below` (None, zero, negative, larger than the array), every `_is_pareto_front` (`front`) and every loop bound: the value the
interpreter of the generated body returns is the flag-free reference `calcRef` (all zeros in the trivial case; the position among the sorted
distinct values for one objective; else unique rows, clipped `n_below`, the peeling loop with its scatter writes and its `n_below` exit, the
last rank for what is left, every row reading the rank of its unique row). -/
theorem gen_calculate_rank_eq (front : Nat → List Pt → List Pt) (fuel d : Nat) (S : List Pt) (nb : Option Int) :
    calcGen Generated.RankMethods.prog front fuel d S (nbRV nb) = .ints (calcRef front fuel d S nb) := by
  unfold calcGen calcRef
  have h0 : RE.eval front noCalc [("loss_values", .mat d S), ("n_below", nbRV nb)]
      (.or (.cmp .eq (.len (.var "loss_values")) (.int 0)) (.and (.isNotNone (.var "n_below")) (.cmp .le (.var "n_below") (.int 0)))) =
      .bool (Rank.trivialCase S nb) := by
    have hk : ∀ k : Nat, (((k : Int) + 1) == 0) = false := fun k => by
      have : ((k : Int) + 1) ≠ 0 := by omega
      simpa using this
    cases nb with
    | none => cases S <;> simp [nbRV, Rank.trivialCase, hk]
    | some n => cases S <;> simp [nbRV, Rank.trivialCase, hk]
  cases ht : Rank.trivialCase S nb with
  | true =>
    simp only [Generated.RankMethods.prog, calcBody, run, h0, ht]
    simp
  | false =>
    by_cases hd : d = 1
    · subst hd
      simp only [Generated.RankMethods.prog, calcBody, run, h0, ht]
      simp
    · have hd' : ((d : Int) == 1) = false := by
        have : (d : Int) ≠ 1 := by omega
        simpa using this
      have hpre : run front noCalc fuel Generated.RankMethods.prog.calcBody [("loss_values", .mat d S), ("n_below", nbRV nb)] =
          run front noCalc fuel calcTail (loopEnv d S (nbClip nb (uniqueLex S).length) (uniqueLex S).length (uniqueInvOf S)
            (PeelSt.mk 0 ((List.range (uniqueLex S).length).map Int.ofNat) (uniqueLex S) (List.replicate (uniqueLex S).length 0))) := by
        simp only [Generated.RankMethods.prog, calcBody, run, h0, ht]
        simp [calcBody, calcTail, hd', loopEnv, nbClip, orElseV_nbRV]
      rw [hpre, run_calcTail]
      simp only [hd, Bool.false_eq_true, if_false]

open OptunaVerif.RankIR in
open OptunaVerif.Generated.RankMethods (calcBody fastBody) in
example : calcGen Generated.RankMethods.prog (fun d l => frontSorted id d l) 5 2 [[0, 1], [1, 0], [1, 1], [1, 1], [2, 2], [3, 3]] (.int 2) =
    .ints [0, 0, 1, 1, 1, 1] := by
  show calcGen _ _ _ _ _ (nbRV (some 2)) = _
  rw [gen_calculate_rank_eq]
  decide +kernel

open OptunaVerif.RankIR in
open OptunaVerif.Generated.RankMethods (calcBody fastBody) in
/-- `_fast_non_domination_rank` as generated, the callee `_calculate_nondomination_rank(·, n_below=·)` being any
function `c` (instantiated with the interpreter of the generated callee below), for EVERY array, penalty vector (None, wrong length, NaN
entries) and `n_below`: the empty result, the AssertionError for a negative `n_below`, the unconstrained call, the ValueError for the length
mismatch, and the three scatter writes — feasible rows by domination, infeasible rows AFTER every feasible rank by the penalty alone, rows
without penalty information AFTER every rank given so far — with `n_below` reduced by the sizes of the groups already ranked. -/
theorem gen_fast_rank_eq (callee : Nat → List Pt → RV → RV) (c : Nat → List Pt → Int → List Int)
    (hc : ∀ d m n, callee d m (.int n) = .ints (c d m n)) (d : Nat) (S : List Pt) (pen : Option (List (Option Int))) (nb : Option Int) :
    fastGen Generated.RankMethods.prog callee d S (penRV pen) (nbRV nb) = fastRef c d S pen nb := by
  unfold fastGen fastRef
  by_cases hS : S.length = 0
  · simp [Generated.RankMethods.prog, fastBody, hS]
  · have hS' : ((S.length : Int) == 0) = false := by
      have : (S.length : Int) ≠ 0 := by omega
      simpa using this
    have hnb := orElseV_nbRV nb S.length
    generalize nbOr nb S.length = N at hnb ⊢
    by_cases hN : 0 < N
    · cases pen with
      | none => simp [Generated.RankMethods.prog, fastBody, hS, hS', hnb, hN, penRV, hc]
      | some q =>
        by_cases hq : q.length = S.length
        · have hq' : ((q.length : Int) != (S.length : Int)) = false := by simp [hq]
          simp [Generated.RankMethods.prog, fastBody, hS, hS', hnb, hN, penRV, hc, hq, RV.selV]
          split <;> simp_all
        · have hq' : ((q.length : Int) != (S.length : Int)) = true := by
            have : (q.length : Int) ≠ (S.length : Int) := by omega
            simpa using this
          simp [hq', Generated.RankMethods.prog, fastBody, hS, hS', hnb, hN, penRV, hq]
    · -- the assertion fails before the penalty is looked at
      simp [Generated.RankMethods.prog, fastBody, hS, hS', hnb, hN]

end

open OptunaVerif.RankIR in
/-- the callee of `_fast_non_domination_rank` as generated: the interpreter of the generated `_calculate_nondomination_rank`, loop bound `n_unique` -/
def calcCallee (front : Nat → List Pt → List Pt) : Nat → List Pt → RV → RV :=
  fun d m nb => calcGen Generated.RankMethods.prog front (uniqueLex m).length d m nb

open OptunaVerif.RankIR in
/-- Both generated functions together: `_fast_non_domination_rank` calling the generated
`_calculate_nondomination_rank` is `fastRef` over `calcRef` -/
theorem gen_fast_rank_eq_calc (front : Nat → List Pt → List Pt) (d : Nat) (S : List Pt) (pen : Option (List (Option Int))) (nb : Option Int) :
    fastGen Generated.RankMethods.prog (calcCallee front) d S (penRV pen) (nbRV nb) =
      fastRef (fun d m n => calcRef front (uniqueLex m).length d m (some n)) d S pen nb :=
  gen_fast_rank_eq _ _ (fun d m n => gen_calculate_rank_eq front (uniqueLex m).length d m (some n)) d S pen nb

open OptunaVerif.RankIR in
example : fastGen Generated.RankMethods.prog (calcCallee (fun d l => frontSorted id d l)) 2 [[0, 1], [1, 0], [1, 1], [1, 1], [2, 2], [3, 3]]
    (.pen [some 0, some 1, none, some (-1), some 2, some 1]) .none_ = .ints [0, 2, 4, 1, 3, 2] := by
  show fastGen _ _ _ _ (penRV (some _)) (nbRV none) = _
  rw [gen_fast_rank_eq_calc]
  decide +kernel

end OptunaVerif.C15Gen
