import OptunaVerif.Props.C12Gen
import OptunaVerif.Props.C12
/-!
# C12 (translator tie, part 2) — the property theorems of `Props/C12.lean`, restated for the interpreters of the generated IR

`Props/C12Gen.lean` proves each method *as written in the source today* equal to a flag-free reference semantics.  Here
(1) the reference semantics is shown to be the hand model of `Model/Best.lean` (`*_eq` bridges; this is where
`Generated/Best.lean`'s operators enter; the bridge for the SQL key is `Best.sqlBeforeRef_eq` of `Lemmas/Best.lean`), and (2) every property theorem of `Props/C12.lean` is carried over to
`interpBaseBest / interpMemBest / interpRdbBest / interpStudyBest / interpFront / interpBestTrials / runGen` over
`Generated.BestMethods.prog`: the returned trial is COMPLETE and no COMPLETE trial is strictly better (all three storages,
all histories), the constraint fallback returns a feasible optimum of the CURRENT history or raises ValueError, the
Pareto mask flags exactly the non-dominated rows (duplicates alike, ±∞), `best_trials` is exactly the non-dominated
eligible set in number order.
-/
namespace OptunaVerif.C12GenSpec
open OptunaVerif.Best OptunaVerif.BestIR OptunaVerif.C12Gen
open OptunaVerif.Generated.BestMethods (prog)

theorem violatedRef_eq (t : BTrial) : violatedRef t = violated t := by
  unfold violatedRef violated
  cases t.cons.get <;> simp [violatedList_eq]

theorem feasibleRef_eq : feasibleRef = feasible := by
  funext t
  unfold feasibleRef feasible
  cases t.cons.get <;> simp [feasibleList_eq]

theorem pickRef_eq_scan (d : Dir) (ts : List BTrial) : pickRef d (fun _ => true) ts = scanBest d ts := by
  rw [scanBest_eq]; rfl

theorem updateCacheRef_eq (dirs : List Dir) (m : Mem) (i : Nat) : updateCacheRef dirs m i = Mem.updateCache dirs m i := by
  -- with the flags read and the comparison named, the two definitions are the same text
  simp only [updateCacheRef, Mem.updateCache, Generated.Best.memSkipsNonComplete, Bool.true_and, memReplace_eq]
  rfl

theorem rdbRowsRef_eq (d : Dir) (rows : List Row) : rdbRowsRef d.isMax rows = rdbBestRows d rows := by
  simp only [rdbRowsRef, rdbBestRows, rdbCandidates, rdbUseMax_eq, sqlBeforeRef_eq]
  cases d <;> simp [Dir.isMax, Generated.Best.maxFilterComplete, Generated.Best.minFilterComplete, Generated.Best.rdbObjectiveIndex]

theorem bestTrialsRef_eq (dirs : List Dir) (ts : List BTrial) : bestTrialsRef dirs ts = bestTrials dirs ts := by
  unfold bestTrialsRef bestTrials
  rw [feasibleRef_eq]


def toG : Except Err Nat → GRes
  | .ok i => .ok i
  | .error e => .raise e

theorem toG_ok (x : Except Err Nat) (r : Nat) : toG x = .ok r ↔ x = .ok r := by
  cases x <;> simp [toG]

theorem studyBestRef_eq (alg : Dir → List BTrial → Option Nat) (d : Dir) (ts : List BTrial) :
    studyBestRef (GRes.ofOpt (alg d ts)) d ts = toG (studyBestTrial alg [d] ts) := by
  rw [studyBestTrial_single]
  cases alg d ts with
  | none => rfl
  | some b =>
    simp only [GRes.ofOpt, studyBestRef, fallback]
    cases ts[b]? with
    | none => rfl
    | some t =>
      simp only [violatedRef_eq, pickRef, feasibleRef_eq, studyUseMax_eq, Generated.Best.studyFallbackStates,
        Generated.Best.studyFallbackFiltersFeasible, Bool.not_true, Bool.false_or]
      cases violated t
      · rfl
      · simp only [if_true]
        cases pyPick d.isMax (fun x => x.2) (valuedIn [1] (fun t => feasible t) ts) <;> rfl

theorem gen_study_best_eq_hand (alg : Dir → List BTrial → Option Nat) (d : Dir) (ts cache : List BTrial) :
    interpStudyBest prog (GRes.ofOpt (alg d ts)) [d] ts cache = toG (studyBestTrial alg [d] ts) := by
  rw [gen_study_best_eq, studyBestRef_eq]

/-- `BaseStorage.get_best_trial` as written today returns a COMPLETE trial that no COMPLETE trial beats
(±∞ included) and raises ValueError exactly when there is none. -/
theorem gen_scan_is_optimal (d : Dir) (ts : List BTrial) :
    ∃ o, interpBaseBest prog [d] ts = GRes.ofOpt o ∧ OptResult d anyTrial ts o :=
  ⟨scanBest d ts, by rw [gen_base_best_eq, pickRef_eq_scan], C12.scan_is_optimal d ts⟩

example : interpBaseBest prog [.minimize]
    [⟨.pruned, some [.ninf], .absent⟩, ⟨.complete, some [.fin 2], .absent⟩, ⟨.complete, some [.ninf], .absent⟩,
     ⟨.complete, some [.ninf], .absent⟩, ⟨.fail, none, .absent⟩] = .ok 2 := by decide +kernel
example : interpBaseBest prog [.maximize] [⟨.pruned, some [.fin 2], .absent⟩, ⟨.running, none, .absent⟩] = .raise .valueError := by decide +kernel

theorem stepGen_eq_dirs (dirs : List Dir) (hd : dirs ≠ []) : stepWith (interpUpdateCache prog.updateCache) dirs = Mem.step dirs :=
  stepWith_updateCache _ dirs (by funext m i; rw [gen_update_cache_eq dirs hd, updateCacheRef_eq])

/-- For every direction vector `dirs ≠ []` (a study always has at least one direction) and every history, replaying with
the generated bookkeeping gives the hand model's state: `runGen_eq` is the instance `dirs = [d]`, for both values of `d`. -/
theorem runGen_eq_dirs (dirs : List Dir) (hd : dirs ≠ []) (evs : List Ev) : runGen prog dirs evs = Mem.run dirs evs := by
  unfold runGen Mem.run; rw [stepGen_eq_dirs dirs hd]

theorem runGen_eq (d : Dir) (evs : List Ev) : runGen prog [d] evs = Mem.run [d] evs :=
  runGen_eq_dirs [d] (List.cons_ne_nil d []) evs

example : runGen prog [.minimize, .maximize] [.create .complete (some [.fin 1, .fin 2]) .absent, .create .running none .absent,
    .setState 1 .complete (some [.fin 0, .fin 3])] = Mem.run [.minimize, .maximize] [.create .complete (some [.fin 1, .fin 2]) .absent,
    .create .running none .absent, .setState 1 .complete (some [.fin 0, .fin 3])] := runGen_eq_dirs _ (by simp) _

/-- All histories: replaying any history of `create_new_trial` / `set_trial_state_values` / constraint
writes with `_update_cache` as written today, the cached `best_trial_id` is an optimum of the COMPLETE trials so far (`None` exactly when
there is none), and `InMemoryStorage.get_best_trial` as written today returns it. -/
theorem gen_incremental_is_optimal (d : Dir) (evs : List Ev) :
    OptResult d anyTrial (runGen prog [d] evs).trials (runGen prog [d] evs).best ∧
    interpMemBest prog [d] (runGen prog [d] evs).best = GRes.ofOpt (runGen prog [d] evs).best := by
  rw [runGen_eq]
  refine ⟨C12.incremental_is_optimal d evs, ?_⟩
  rw [gen_mem_best_eq]
  cases (Mem.run [d] evs).best <;> simp [memBestRef, GRes.ofOpt]

-- trial 1 completes before trial 0; the equal value keeps the earlier *completion* (documented tie-break of the cache)
example : (runGen prog [.minimize] [.create .running none .absent, .create .running none .absent,
    .setState 1 .complete (some [.fin 3]), .setState 0 .complete (some [.fin 3])]).best = some 1 := by decide +kernel

/-- `RDBStorage.get_best_trial` as written today (direction dispatch, the two queries with their `ORDER BY`) returns an
optimum of the COMPLETE trials on well-formed single-objective data. -/
theorem gen_rdb_is_optimal (d : Dir) (ts : List BTrial) (hwf : WF 1 ts) :
    ∃ o, interpRdbBest prog [d] (ts.map toRow) = GRes.ofOpt o ∧ OptResult d anyTrial ts o := by
  refine ⟨rdbBest d ts, ?_, C12.rdb_is_optimal d ts hwf⟩
  rw [gen_rdb_best_eq, rdbRowsRef_eq]; rfl

example : interpRdbBest prog [.maximize] ([⟨.complete, some [.fin 2], .absent⟩, ⟨.complete, some [.pinf], .absent⟩,
    ⟨.complete, some [.ninf], .absent⟩].map toRow) = .ok 1 := by decide +kernel


/-- The three storage getters as written today satisfy the hypothesis of the `Study.best_trial` theorems after every history. -/
theorem gen_storage_answers_are_optimal (d : Dir) (evs : List Ev) :
    let ts := (runGen prog [d] evs).trials
    (∃ o, interpBaseBest prog [d] ts = GRes.ofOpt o ∧ OptResult d anyTrial ts o) ∧
    (∃ o, interpMemBest prog [d] (runGen prog [d] evs).best = GRes.ofOpt o ∧ OptResult d anyTrial ts o) ∧
    (∃ o, interpRdbBest prog [d] (ts.map toRow) = GRes.ofOpt o ∧ OptResult d anyTrial ts o) := by
  refine ⟨gen_scan_is_optimal d _, ⟨_, (gen_incremental_is_optimal d evs).2, (gen_incremental_is_optimal d evs).1⟩, ?_⟩
  apply gen_rdb_is_optimal
  rw [runGen_eq]; exact C12.history_wellformed [d] evs

/-- Whatever `Study.best_trial` as written today returns is a COMPLETE trial of the study. -/
theorem gen_best_is_complete (alg : Dir → List BTrial → Option Nat) (d : Dir) (ts cache : List BTrial)
    (hopt : OptResult d anyTrial ts (alg d ts)) (r : Nat)
    (h : interpStudyBest prog (GRes.ofOpt (alg d ts)) [d] ts cache = .ok r) : ∃ v, CompleteAt anyTrial ts r v := by
  rw [gen_study_best_eq_hand, toG_ok] at h
  exact C12.best_is_complete alg d ts hopt r h

/-- A returned trial without recorded constraint values is one that no COMPLETE trial beats. -/
theorem gen_best_unconstrained_is_optimum (alg : Dir → List BTrial → Option Nat) (d : Dir) (ts cache : List BTrial)
    (hopt : OptResult d anyTrial ts (alg d ts)) (r : Nat) (t : BTrial)
    (h : interpStudyBest prog (GRes.ofOpt (alg d ts)) [d] ts cache = .ok r) (ht : ts[r]? = some t) (hc : t.cons.get = none) :
    IsBest d anyTrial ts r := by
  rw [gen_study_best_eq_hand, toG_ok] at h
  exact C12.best_unconstrained_is_optimum alg d ts hopt r t h ht hc

/-- A returned trial with recorded (NaN-free) constraint values is feasible and no feasible
COMPLETE trial of the CURRENT history beats it (the per-thread cache `cache` plays no role). -/
theorem gen_constraint_fallback_feasible (alg : Dir → List BTrial → Option Nat) (d : Dir) (ts cache : List BTrial)
    (hopt : OptResult d anyTrial ts (alg d ts)) (r : Nat) (t : BTrial) (cs : List XVal)
    (h : interpStudyBest prog (GRes.ofOpt (alg d ts)) [d] ts cache = .ok r) (ht : ts[r]? = some t) (hc : t.cons = .vals cs)
    (hnan : ∀ x ∈ cs, x ≠ .nan) :
    feasible t = true ∧ IsBest d feasible ts r := by
  rw [gen_study_best_eq_hand, toG_ok] at h
  exact C12.constraint_fallback_feasible alg d ts hopt r t cs h ht hc hnan

/-- If the best-valued trial records a violation and a feasible COMPLETE trial exists,
`best_trial` as written today returns a feasible optimum; if none exists it raises ValueError. -/
theorem gen_best_trial_feasible_when_possible (alg : Dir → List BTrial → Option Nat) (d : Dir) (ts cache : List BTrial)
    (hopt : OptResult d anyTrial ts (alg d ts)) (b : Nat) (tb : BTrial)
    (hb : alg d ts = some b) (htb : ts[b]? = some tb) (hviol : violated tb = true) :
    ((∃ j w, CompleteAt feasible ts j w) →
      ∃ r, interpStudyBest prog (GRes.ofOpt (alg d ts)) [d] ts cache = .ok r ∧ IsBest d feasible ts r) ∧
    ((∀ j w, ¬ CompleteAt feasible ts j w) →
      interpStudyBest prog (GRes.ofOpt (alg d ts)) [d] ts cache = .raise .valueError) := by
  obtain ⟨h1, h2⟩ := C12.best_trial_feasible_when_possible alg d ts hopt b tb hb htb hviol
  rw [gen_study_best_eq_hand]
  constructor
  · intro hex
    obtain ⟨r, hr, hbest⟩ := h1 hex
    exact ⟨r, by rw [hr]; rfl, hbest⟩
  · intro hno
    rw [h2 hno]; rfl

/-- `best_trial` of a multi-objective study raises RuntimeError. -/
theorem gen_best_trial_multi_objective_raises (sb : GRes) (d1 d2 : Dir) (ds : List Dir) (ts cache : List BTrial) :
    interpStudyBest prog sb (d1 :: d2 :: ds) ts cache = .raise .runtimeError :=
  gen_study_best_multi sb d1 d2 ds ts cache

-- the best-valued trial (0) violates its constraint → the best feasible one (2) is returned; the stale cache is ignored
example : interpStudyBest prog (interpBaseBest prog [.minimize]
      [⟨.complete, some [.fin 0], .vals [.fin 1]⟩, ⟨.complete, some [.fin 1], .absent⟩,
       ⟨.complete, some [.fin 2], .vals [.fin 0, .ninf]⟩, ⟨.complete, some [.fin 3], .vals [.fin (-1)]⟩]) [.minimize]
    [⟨.complete, some [.fin 0], .vals [.fin 1]⟩, ⟨.complete, some [.fin 1], .absent⟩,
     ⟨.complete, some [.fin 2], .vals [.fin 0, .ninf]⟩, ⟨.complete, some [.fin 3], .vals [.fin (-1)]⟩]
    [⟨.complete, some [.fin 0], .vals [.fin 1]⟩] = .ok 2 := by decide +kernel
-- … and ValueError when nothing is feasible
example : interpStudyBest prog (.ok 0) [.maximize]
    [⟨.complete, some [.pinf], .vals [.pinf]⟩, ⟨.complete, some [.fin 1], .null⟩] [] = .raise .valueError := by decide +kernel
example : OptResult .maximize anyTrial [⟨.complete, some [.pinf], .vals [.pinf]⟩, ⟨.complete, some [.fin 1], .null⟩]
    (scanBest .maximize [⟨.complete, some [.pinf], .vals [.pinf]⟩, ⟨.complete, some [.fin 1], .null⟩]) := C12.scan_is_optimal _ _

theorem rect_iff (n : Nat) (rows : List Point) : Rect' n rows ↔ Rect n rows := Iff.rfl

/-- `_is_pareto_front(loss_values, assume_unique_lexsorted=False)` as written today flags row `i` iff no row
dominates it: any number `k+1 ≥ 1` of columns, duplicates (all copies flagged alike), ties in the first column, ±∞. -/
theorem gen_pareto_front_exact (k : Nat) (rows : List Point) (hrect : Rect (k + 1) rows) :
    interpFront prog rows false = .mask (rows.map (fun r => !dominatedIn rows r)) := by
  rw [gen_front_eq (k + 1) rows hrect, C12.pareto_front_exact k rows hrect]

example : interpFront prog [[.fin 1, .fin 2], [.fin 1, .fin 2], [.fin 1, .fin 3], [.fin 0, .pinf], [.ninf, .pinf], [.fin 2, .fin 2]] false
    = .mask [true, true, false, false, true, false] := by decide +kernel
example : interpFront prog [[.fin 1, .fin 2, .fin 3], [.fin 1, .fin 3, .fin 2], [.fin 2, .fin 2, .fin 3], [.fin 1, .fin 2, .fin 3], [.ninf, .pinf, .pinf]] false
    = .mask [true, true, false, true, true] := by decide +kernel
example : interpFront prog [[.fin 1], [.fin 0], [.fin 0], [.pinf]] false = .mask [false, true, true, false] := by decide +kernel

/-- On a well-formed history of a study with `k+1` objectives `Study.best_trials` as written today does not
raise and returns, in number order, exactly the eligible trials (COMPLETE; feasible if any trial carries the constraints key) that no
eligible trial dominates under the study's directions — duplicates kept. -/
theorem gen_best_trials_exact (k : Nat) (dirs : List Dir) (hd : dirs.length = k + 1) (ts : List BTrial)
    (hwf : WF dirs.length ts) : interpBestTrials prog dirs ts = some (paretoSpec dirs ts) := by
  rw [gen_best_trials_eq, bestTrialsRef_eq]; exact C12.best_trials_exact k dirs hd ts hwf

/-- Trial `i` is returned iff it is eligible and no eligible trial dominates it. -/
theorem gen_best_trials_membership (k : Nat) (dirs : List Dir) (hd : dirs.length = k + 1) (ts : List BTrial)
    (hwf : WF dirs.length ts) (i : Nat) :
    (∃ l, interpBestTrials prog dirs ts = some l ∧ i ∈ l) ↔
      ∃ t, ts[i]? = some t ∧ eligible ts t = true ∧
        ∀ (j : Nat) (t' : BTrial), ts[j]? = some t' → eligible ts t' = true → domDir dirs (vals t') (vals t) = false := by
  rw [gen_best_trials_eq, bestTrialsRef_eq]; exact C12.best_trials_membership k dirs hd ts hwf i

/-- For EVERY direction vector of length `k + 1 ≥ 1` (minimise and maximise in any
mix, any number of objectives) after every history replayed with the generated bookkeeping: `Study.best_trials` as written today returns, in number
order, exactly the eligible trials that no eligible trial dominates under those directions. -/
theorem gen_best_trials_exact_history_dirs (k : Nat) (dirs : List Dir) (hd : dirs.length = k + 1) (evs : List Ev) :
    interpBestTrials prog dirs (runGen prog dirs evs).trials = some (paretoSpec dirs (runGen prog dirs evs).trials) := by
  have hne : dirs ≠ [] := by intro e; rw [e] at hd; simp at hd
  rw [runGen_eq_dirs dirs hne]
  exact gen_best_trials_exact k dirs hd _ (C12.history_wellformed dirs evs)

/-- `gen_best_trials_exact_history_dirs` for a single-objective study. -/
theorem gen_best_trials_exact_history (d : Dir) (evs : List Ev) :
    interpBestTrials prog [d] (runGen prog [d] evs).trials = some (paretoSpec [d] (runGen prog [d] evs).trials) :=
  gen_best_trials_exact_history_dirs 0 [d] rfl evs

example : interpBestTrials prog [.minimize, .maximize]
    (runGen prog [.minimize, .maximize] [.create .complete (some [.fin 1, .fin 2]) .absent, .create .running none .absent,
      .setState 1 .complete (some [.fin 0, .fin 3]), .create .complete (some [.fin 2, .fin 1]) .absent]).trials = some [1] := by decide +kernel

/-- `_dominates` as written today, on two COMPLETE trials with one value per objective, is direction-aware dominance (used by the
samplers; same relation as `best_trials`). -/
theorem gen_dominates_is_domDir (dirs : List Dir) (t0 t1 : BTrial) (a b : List EVal)
    (h0 : t0.state = .complete) (h1 : t1.state = .complete) (ha : t0.values = some a) (hb : t1.values = some b)
    (hla : a.length = dirs.length) (hlb : b.length = dirs.length) :
    interpDominates prog.normalize prog.dominates dirs t0 t1 = .ok (domDir dirs a b) := by
  rw [gen_dominates_eq dirs t0 t1 a b h0 h1 ha hb hla hlb, C12.normalize_dominance]

-- duplicates are both returned; the infeasible best point is dropped once some trial has the constraints key
example : interpBestTrials prog [.minimize, .maximize]
    [⟨.complete, some [.fin 0, .fin 9], .vals [.fin 1]⟩, ⟨.complete, some [.fin 1, .fin 5], .vals [.fin 0]⟩,
     ⟨.complete, some [.fin 1, .fin 5], .vals []⟩, ⟨.complete, some [.fin 1, .fin 4], .vals [.fin 0]⟩,
     ⟨.complete, some [.ninf, .ninf], .vals [.ninf]⟩, ⟨.complete, some [.ninf, .pinf], .absent⟩,
     ⟨.pruned, some [.ninf, .pinf], .vals [.fin 0]⟩] = some [1, 2, 4] := by decide +kernel
-- two copies of a front point that contains +inf are both returned
example : interpBestTrials prog [.minimize, .minimize]
    [⟨.complete, some [.fin 0, .pinf], .absent⟩, ⟨.complete, some [.fin 0, .pinf], .absent⟩, ⟨.complete, some [.fin 1, .pinf], .absent⟩]
    = some [0, 1] := by decide +kernel

end OptunaVerif.C12GenSpec
