import OptunaVerif.Generated.TellGen
/-!
# C02 — tie to the source text: the definitions regenerated from optuna/study/_tell.py, _optimize.py and
study.py by `verif/translators/tell_gen.py` coincide with the hand-written model the theorems of `Props/C02.lean` are
about.  A change of the source changes `Generated/TellGen.lean` and breaks the corresponding proof here.

(Same namespace as `Props/C02.lean`, but a module of its own so that a broken pinned shape does not keep
`Props/C02Gen.lean` — which imports `Props/C02` — from being elaborated.  `gen_poolShape` is the tie of the
`n_jobs > 1` branch of `_optimize`, for which there is no interpreter; the other functions are also tied, body by body
and for all inputs, in `Props/C02Gen.lean`.)
-/
namespace OptunaVerif.C02
open OptunaVerif.Tell


/-- `_check_state_and_values` as translated from the source = the model's. -/
theorem gen_checkStateAndValues (s : Option TState) (b : Bool) :
    TellGen.checkStateAndValues s b = Tell.checkStateAndValues s b := by
  cases s with
  | none => cases b <;> rfl
  | some st => cases st <;> cases b <;> rfl

/-- The `except` clause of `_check_values_are_feasible` as read from the source (`except Exception`)
catches exactly the cast errors the model says it catches: all of them. -/
theorem gen_castCaught (e : CastExc) : TellGen.castCaught e = Tell.castCaught e := by
  cases e <;> first | decide | (simp only [TellGen.castCaught, Tell.castCaught]; decide)

/-- The loop checks each element for "casts" then "is NaN"; the count test follows the loop. -/
theorem gen_check_order : TellGen.elemChecks = ["cast", "nan"] ∧ TellGen.afterLoop = ["count"] := by
  decide

/-- The `elif state is None:` branch as translated from the source decides state / "values kept"
exactly as the model's `decideState`. -/
theorem gen_noneBranch (nObj : Nat) (r : Rec) (o : Option (List Elem)) :
    match decideState nObj r none o with
    | .go st vals _ =>
        TellGen.noneBranch o.isNone (match o with
          | none => false
          | some vs => checkValuesFeasible nObj vs == .feasible) = (some st.toState, vals.isSome)
    | .raise _ => True := by
  cases o with
  | none => simp [decideState, TellGen.noneBranch, FinState.toState]
  | some vs =>
    simp only [decideState]
    cases h : checkValuesFeasible nObj vs <;> simp [TellGen.noneBranch, FinState.toState]

/-- The trial is stored in the `finally:` of the try that runs the sampler's post-processing. -/
theorem gen_postShape :
    TellGen.postShape = ["try:filter_study", "try:after_trial", "finally:set_trial_state_values"] := by
  decide

/-- `_run_trial` as the model `runTrial`/`afterTell` hard-wires it: TrialPruned ↦ PRUNED before the
general clause, (Exception, KeyboardInterrupt) ↦ FAIL, `except Exception` re-reads the trial and
re-raises, a `finally:` follows, and `func_err` is re-raised iff the trial is FAIL, there is an error and
it is not an instance of `catch`. -/
theorem gen_runTrialShape : TellGen.runTrialShape =
    ["objective-except:exceptions.TrialPruned->TrialState.PRUNED",
     "objective-except:(Exception, KeyboardInterrupt)->TrialState.FAIL",
     "objective-try:else=0,finally=0",
     "tell-except:Exception:frozen_trial = study._storage.get_trial(trial._trial_id);raise",
     "tell-try:else=0,finally=1",
     "final-raise-if:frozen_trial.state == TrialState.FAIL and func_err is not None and (not isinstance(func_err, catch))",
     "final-raise-body:raise func_err"] := by
  rfl

/-- The `while True:` loop of `_optimize_sequential` as `optimizeSeq`/`loopBreaks` hard-wire it: the
three break tests, `_run_trial` alone inside the try (whose `finally` only collects garbage), then the
callback loop, outside every `try`. -/
theorem gen_seqLoopShape : TellGen.seqLoopShape =
    ["break-if-stop", "n_trials:if i_trial >= n_trials: break i_trial += 1",
     "timeout:elapsed_seconds >= timeout",
     "try[frozen_trial = _run_trial(study, func, catch)]except[0]finally[gc]",
     "callbacks:for callback in callbacks: callback(study, frozen_trial)", "progress"] := by
  rfl

/-- `Study.ask` as `runPlan` hard-wires it: once the trial exists (popped from the queue or created),
everything that can raise — `Trial(...)` (sampler.before_trial, relative search space and sample) and the
fixed suggests — runs inside a `try` whose handler for `(Exception, KeyboardInterrupt)` sets the trial to
FAIL and re-raises (repaired defect F21). -/
theorem gen_askShape : TellGen.askShape =
    ["pop", "create:trial_id = self._storage.create_new_trial(self._study_id)",
     "try[trial = optuna.Trial(self, trial_id);for name, param in fixed_distributions.items(): trial._suggest(name, param)]else=0,finally=0",
     "except:(Exception, KeyboardInterrupt):try[self._storage.set_trial_state_values(trial_id, TrialState.FAIL)]except[Exception:pass];raise",
     "return:trial"] := by
  rfl

/-- The thread-pool branch of `_optimize` as `Pool.step` hard-wires it: break tests, wait for the
first completed future and `.result()` every completed one when `n_jobs` are in flight, submit
`_optimize_sequential(n_trials=1)`, and after the loop wait for and `.result()` every remaining
future. -/
theorem gen_poolShape : TellGen.poolShape =
    ["loop:if study._stop_flag: break",
     "loop:if (datetime.datetime.now() - time_start).total_seconds() > timeout: break",
     "loop:if n_submitted_trials >= n_trials: break",
     "loop:if len(futures) >= n_jobs: completed, futures = wait(futures, return_when=FIRST_COMPLETED) for f in completed: f.result()",
     "loop:submit(_optimize_sequential,study,func,1)",
     "after-loop:for f in wait(futures).done: f.result()"] := by
  rfl


end OptunaVerif.C02
