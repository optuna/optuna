import OptunaVerif.Lemmas.Queue
import OptunaVerif.Lemmas.InMemoryCursor
import OptunaVerif.Props.C01
/-!
# C04 — a queued trial is handed to exactly one worker

Theorems about `Model/Queue.lean`: any number of workers running the pop loop, every storage call
atomic (C03), interleaved in any order with any other storage calls: `claimed_at_most_once`,
`claimed_keeps_number_and_attrs`, `list_complete` + `no_skip_step` (no queued trial is passed over).
Section `Cursor`, about `Model/InMemoryCursor.lean`: `cursor_sound` (the WAITING cursor of
`InMemoryStorage` lists exactly the WAITING trials) and the F11 witness on the unrepaired step.
-/
namespace OptunaVerif.C04
open OptunaVerif.Storage OptunaVerif.Queue

theorem claim_success_record (s : Spec) (tid : Nat)
    (h : (Storage.step s (claimOp tid)).2 = .bool true) :
    ∃ t, s.trials[tid]? = some t ∧ t.state = .waiting ∧
      (Storage.step s (claimOp tid)).1.trials[tid]? =
        some { t with state := .running, hasStart := true } := by
  obtain ⟨s', e, hw⟩ := wrote_of_out h rfl (fun _ he => Out.noConfusion he)
  rw [e]
  -- the only writer that answers `True` is the state change, here of a WAITING trial
  cases hw with
  | state _ _ _ t hw hb =>
    have hget := (C01.writable_ok s tid t hw).1
    exact ⟨t, hget, by simpa using hb, by rw [updTrial_get_same s tid _ t hget]; simp [TState.isFinished]⟩

/-- `claim_success_record` read field by field — the trial handed
to the worker is the queued one in everything but state and start time. -/
theorem claimed_keeps_number_and_attrs (s : Spec) (tid : Nat)
    (h : (Storage.step s (claimOp tid)).2 = .bool true) :
    ∃ t t', s.trials[tid]? = some t ∧ (Storage.step s (claimOp tid)).1.trials[tid]? = some t' ∧
      t'.number = t.number ∧ t'.study = t.study ∧ t'.userAttrs = t.userAttrs ∧
      t'.systemAttrs = t.systemAttrs ∧ t'.params = t.params ∧ t'.values = t.values ∧
      t'.inter = t.inter ∧ t'.state = .running := by
  obtain ⟨t, hget, _, hpost⟩ := claim_success_record s tid h
  exact ⟨t, _, hget, hpost, rfl, rfl, rfl, rfl, rfl, rfl, rfl, rfl⟩

theorem failed_claim_not_waiting (s : Spec) (tid : Nat)
    (h : (Storage.step s (claimOp tid)).2 ≠ .bool true) :
    ¬ ∃ t, s.trial? tid = some t ∧ t.state = .waiting :=
  fun hw => h ((C01.claim_true_iff_waiting s tid none).2 hw)

def ClaimedNotWaiting (sys : Sys) : Prop :=
  ∀ p ∈ sys.claims, ∃ t, sys.spec.trials[p.2]? = some t ∧ t.state ≠ .waiting

def Good (sys : Sys) : Prop := (sys.claims.map (·.2)).Nodup ∧ ClaimedNotWaiting sys

theorem good_step (sys : Sys) (a : Act) (hg : Good sys) (ha : a.isRequeue = false) : Good (Queue.step sys a) := by
  obtain ⟨hnd, hcl⟩ := hg
  have keep : ∀ op, (∀ tid v, op ≠ .setTrialStateValues tid .waiting v) → ∀ p ∈ sys.claims,
      ∃ t', (Storage.step sys.spec op).1.trials[p.2]? = some t' ∧ t'.state ≠ .waiting := fun op hop p hp =>
    (hcl p hp).elim fun t ht => step_notWaiting sys.spec op p.2 t ht.1 ht.2 (hop p.2)
  rcases step_cases sys a with e | ⟨op, rfl, e⟩ | ⟨w, ws, s', ws', cl, -, hm, e⟩ <;> rw [e]
  · exact ⟨hnd, hcl⟩
  · exact ⟨hnd, keep op fun tid v hv => by subst hv; cases ha⟩
  · cases hm with
    | list | none | reset => simpa using ⟨hnd, hcl⟩
    | pass t rest _ _ _ => simpa using ⟨hnd, keep _ (by simp [claimOp])⟩
    | claim t rest hb =>
      -- the claimed trial was WAITING, so it is none of those claimed before
      obtain ⟨t0, hget0, hw0, hpost⟩ := claim_success_record sys.spec t hb
      refine ⟨?_, fun p hp => ?_⟩
      · rw [List.map_append, List.nodup_append]
        refine ⟨hnd, by simp, fun a ha b hb hab => ?_⟩
        obtain ⟨p, hp, rfl⟩ := List.mem_map.mp ha
        obtain rfl : b = t := by simpa using hb
        obtain ⟨t1, hget1, hnw1⟩ := hcl p hp
        rw [hab, hget0] at hget1
        cases hget1
        exact hnw1 hw0
      · rcases List.mem_append.mp hp with hp | hp
        · exact keep _ (by simp [claimOp]) p hp
        · obtain rfl : p = (w, t) := by simpa using hp
          exact ⟨_, hpost, by simp⟩

theorem good_run (sys : Sys) (acts : List Act) (hg : Good sys) (hno : ∀ a ∈ acts, a.isRequeue = false) :
    Good (run sys acts) :=
  List.foldlRecOn acts _ hg fun sys hg a ha => good_step sys a hg (hno a ha)

/-- for any number of workers, any interleaving of their pop loops with
any other storage calls that do not put an existing trial back to WAITING, no trial is ever handed
out twice — the successful claims are pairwise distinct trials. -/
theorem claimed_at_most_once (spec : Spec) (workers : List WState) (acts : List Act)
    (hno : ∀ a ∈ acts, a.isRequeue = false) :
    ((run { spec := spec, workers := workers, claims := [] } acts).claims.map (·.2)).Nodup :=
  (good_run _ acts ⟨by simp, by intro p hp; simp at hp⟩ hno).1

/-- the candidates a worker starts from are *all* live WAITING trials of the
study at that instant (so a queued trial can only be passed over because somebody else took it). -/
theorem list_complete (s : Spec) (sid tid : Nat) (t : TrialS)
    (ht : s.trials[tid]? = some t) (hs : t.study = sid) (hw : t.state = .waiting) :
    tid ∈ waitingIds s sid := by
  unfold waitingIds
  simp only [List.mem_map, List.mem_filter]
  exact ⟨(tid, t), ⟨(mem_trialsOf s sid tid t).2 ⟨ht, hs⟩, by simp [hw]⟩, rfl⟩

/-- one step of `no_skip`: when a worker moves past a candidate, that candidate was not a
live WAITING trial at that instant — it had been claimed by somebody else (and possibly already
finished: the `UpdateFinishedTrialError` branch) or changed state. -/
theorem no_skip_step (sys : Sys) (w t : Nat) (rest : List Nat)
    (hw : sys.workers[w]? = some (.scanning (t :: rest)))
    (hnext : (Queue.step sys (.tryNext w)).workers[w]? = some (.scanning rest)) :
    ¬ ∃ tr, sys.spec.trial? t = some tr ∧ tr.state = .waiting := by
  apply failed_claim_not_waiting
  obtain ⟨s', ws', cl, hm, e⟩ := step_tryNext_cons sys w t rest hw
  rw [e, updAt_self _ _ _ _ hw] at hnext
  cases hm with
  | claim _ _ _ => cases hnext
  | pass _ _ _ hb _ => exact hb

namespace Cursor
open OptunaVerif.InMemoryCursor

def runOps (s : St) (ops : List InMemoryCursor.Op) : St := ops.foldl (fun s op => (InMemoryCursor.step s op).1) s

theorem inv_run (s : St) (ops : List InMemoryCursor.Op) (h : InMemoryCursor.Inv s) : InMemoryCursor.Inv (runOps s ops) :=
  List.foldlRecOn ops _ h fun s hs op _ => InMemoryCursor.inv_step s op hs

/-- after any history of trial creations (in any state), state changes (incl.
RUNNING→WAITING) and earlier listings, `InMemoryStorage.get_all_trials(states=(WAITING,))` — which
only scans from its cursor — returns exactly all WAITING trials, in number order. -/
theorem cursor_sound (ops : List InMemoryCursor.Op) :
    (InMemoryCursor.step (runOps ⟨[], 0⟩ ops) .getWaiting).2 = some (allWaiting (runOps ⟨[], 0⟩ ops)) := by
  have h := inv_run ⟨[], 0⟩ ops ⟨Nat.le_refl _, by intro j st hj; exact absurd hj (Nat.not_lt_zero j)⟩
  simp only [InMemoryCursor.step]
  rw [scan_eq_all _ h]

/-- Without lowering the cursor on a →WAITING transition (the code before the F11 repair) the
theorem is false: a trial set back to WAITING below the cursor is not listed. -/
theorem cursor_unsound_without_repair :
    let ops : List InMemoryCursor.Op := [.create .running, .getWaiting, .setState 0 .waiting]
    let s := ops.foldl (fun s op => (stepNoRepair s op).1) ⟨[], 0⟩
    (stepNoRepair s .getWaiting).2 = some [] ∧ allWaiting s = [0] := by decide

example : (InMemoryCursor.step (runOps ⟨[], 0⟩ [.create .running, .getWaiting, .setState 0 .waiting]) .getWaiting).2 = some [0] := by
  decide

end Cursor

/-! ## non-vacuity -/

def waitingT : Template :=
  { state := .waiting, values := none, params := [], userAttrs := [("u", "1")],
    systemAttrs := [("fixed_params", "{\"x\": 0.5}")], inter := [], hasStart := false, hasComplete := false }

def demo0 : Sys :=
  { spec := C01.after Storage.init [.createStudy "s" [1], .createTrial 0 (some waitingT) false,
      .createTrial 0 (some waitingT) false],
    workers := [.idle, .idle], claims := [] }

-- two workers race for two queued trials: each gets one
example : (run demo0 [.beginPop 0 0, .beginPop 1 0, .tryNext 1, .tryNext 0, .tryNext 0]).claims = [(1, 0), (0, 1)] := by
  decide
example : (run demo0 [.beginPop 0 0, .tryNext 0, .reset 0, .beginPop 0 0, .tryNext 0, .beginPop 1 0, .tryNext 1]).workers[1]? =
    some .empty := by decide

end OptunaVerif.C04
