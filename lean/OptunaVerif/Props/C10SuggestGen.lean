import OptunaVerif.Generated.SuggestMethods
import OptunaVerif.Lemmas.SuggestIR
import OptunaVerif.Props.C10
/-!
# C10 (translator tie) — the suggest path of a trial *as written in the source today* is the hand model

`Generated/SuggestMethods.lean` is regenerated on every run by `verif/translators/tsuggest.py` from
`optuna/trial/_trial.py` (`Trial._suggest`, `_is_fixed_param`, `_is_relative_param`, `_check_distribution`,
`suggest_float / suggest_int / suggest_categorical`, the three deprecated forwards), `optuna/trial/_fixed.py` and
`_frozen.py` (`_suggest`) and `optuna/distributions.py` (`_get_single_value`, `check_distribution_compatibility`), as
data of the statement language of `Model/SuggestIR.lean`.

Proved here, for **all** inputs (no bound, no sampling):
* per function, the interpreter of the generated body equals the hand model (`call_*`, `interp_*`; the long bodies by
  segments, each run once); `SuggestApi.suggestFull` is `Suggest.suggestS` plus warnings, sampler calls and a storage that
  may refuse the write (`suggestFull_toR`); every callee's denotation is the interpreter of its own generated body;
* hence `genSuggest` / `genRun` — the interpreter as a function of the arguments of `Suggest.suggest` / `run` — ARE
  `suggest` / `run` (`gen_suggest_eq`, `gen_run_eq`);
* therefore the theorems of `Props/C10.lean` about `suggest` hold of the interpreter of the generated code (`gen_*`),
  together with what only the interpreter can say: a second call for a name writes nothing and asks no sampler, a
  failed call (a storage refusing the write included) changes nothing, an uncontained fixed value is handed over with
  the warning, `suggest_int` returns an `int`.

A source change that alters a guard, the order of two tests, which dictionary is read or written, an argument of a call …
changes the generated data, and one of the named equalities below no longer type-checks.
-/
namespace OptunaVerif.C10SuggestGen
open OptunaVerif.Dist OptunaVerif.Suggest OptunaVerif.SuggestIR OptunaVerif.SuggestApi
open OptunaVerif.Generated
open OptunaVerif.Generated.SuggestMethods (program)


theorem prog_getSingleValue : program.getSingleValue = SuggestMethods.getSingleValue := rfl
theorem prog_checkCompat : program.checkCompat = SuggestMethods.checkCompat := rfl
theorem prog_isFixedParam : program.isFixedParam = SuggestMethods.isFixedParam := rfl
theorem prog_isRelativeParam : program.isRelativeParam = SuggestMethods.isRelativeParam := rfl
theorem prog_checkDistribution : program.checkDistribution = SuggestMethods.checkDistribution := rfl
theorem prog_suggest : program.suggest = SuggestMethods.suggest := rfl
theorem prog_suggestFloat : program.suggestFloat = SuggestMethods.suggestFloat := rfl
theorem prog_suggestInt : program.suggestInt = SuggestMethods.suggestInt := rfl
theorem prog_suggestCategorical : program.suggestCategorical = SuggestMethods.suggestCategorical := rfl
theorem prog_suggestUniform : program.suggestUniform = SuggestMethods.suggestUniform := rfl
theorem prog_suggestLogUniform : program.suggestLogUniform = SuggestMethods.suggestLogUniform := rfl
theorem prog_suggestDiscreteUniform : program.suggestDiscreteUniform = SuggestMethods.suggestDiscreteUniform := rfl
theorem prog_fixedSuggest : program.fixedSuggest = SuggestMethods.fixedSuggest := rfl
theorem prog_frozenSuggest : program.frozenSuggest = SuggestMethods.frozenSuggest := rfl

/- In this file the set `suggest_ir` also opens the generated bodies; a callee joins it by its `call_*` lemma once that is proved, and
each section adds the segments and hand models of the functions it runs. -/
attribute [local suggest_ir] SuggestMethods.getSingleValue SuggestMethods.checkCompat SuggestMethods.isFixedParam
  SuggestMethods.isRelativeParam SuggestMethods.checkDistribution SuggestMethods.suggest SuggestMethods.suggestFloat
  SuggestMethods.suggestInt SuggestMethods.suggestCategorical SuggestMethods.fixedSuggest SuggestMethods.frozenSuggest

/-- **pinned_sources** — the places of `class Trial` that the model's `Ctx` / aliasing assumptions stand for read today
exactly as when the model was written: `_fixed_params` is `system_attrs["fixed_params"]` of the trial at creation,
`relative_search_space` is the sampler's answer at creation, `relative_params` is `sample_relative` evaluated once,
`_get_latest_trial` is a SHALLOW copy of the cache (so `trial.params / trial.distributions` are the cache's own
dictionaries), and no other method of the class writes any of these or calls `set_trial_param`. -/
theorem pinned_sources : SuggestMethods.pins =
    [("Trial.__init__: self._fixed_params =", "self._cached_frozen_trial.system_attrs.get('fixed_params', {})"),
     ("Trial.__init__: self.relative_search_space =", "self.study.sampler.infer_relative_search_space(study, self._cached_frozen_trial)"),
     ("Trial.__init__: self._relative_params =", "None"),
     ("Trial.__init__: self._cached_frozen_trial =", "copy.deepcopy(self.storage.get_trial(self._trial_id))"),
     ("Trial.__init__: self.storage =", "self.study._storage"),
     ("Trial.relative_params", "if self._relative_params is None: study = pruners._filter_study(self.study, self._cached_frozen_trial) self._relative_params = self.study.sampler.sample_relative(study, self._cached_frozen_trial, self.relative_search_space) ; return self._relative_params"),
     ("Trial._get_latest_trial", "latest_trial = copy.copy(self._cached_frozen_trial) ; latest_trial.system_attrs = _LazyTrialSystemAttrs(self._trial_id, self.storage) ; return latest_trial"),
     ("Trial: other methods that write params / distributions / fixed / relative params", "")] := rfl

/-- **signature_defaults** — `suggest_float(…, step=None, log=False)`, `suggest_int(…, step=1, log=False)` and the
constructors' `log=False`, `step=None` / `step=1` -/
theorem signature_defaults : SuggestMethods.defaults =
    [("suggest_float", "log", .false_), ("suggest_float", "step", .none_),
     ("suggest_int", "log", .false_), ("suggest_int", "step", .intLit 1),
     ("FloatDistribution", "log", .false_), ("FloatDistribution", "step", .none_),
     ("IntDistribution", "log", .false_), ("IntDistribution", "step", .intLit 1)] := rfl

/-- **call_getSingleValue** — `_get_single_value` as written today returns `low` / the first choice (`Suggest.singleValue`);
on a categorical without choices (not constructible) `choices[0]` raises IndexError. -/
theorem call_getSingleValue (E : SEnv) (d : Dist) (s : MSt) (hs : E.single d = true) :
    program.call0 E .getSingleValue [.dist d] s =
      (s, match d with
          | .cat [] => .error .indexError
          | _ => .ok (.tok (singleValue d))) := by
  rw [Program.call0, runFn_eq _ _ _ _ _ _ rfl, prog_getSingleValue]
  rcases d with _ | _ | _ | _ <;> simp -implicitDefEqProofs only [suggest_ir, hs, singleValue, List.headD_cons]
example : program.call0 ⟨⟨[], [], []⟩, Dist.single, fun _ _ => .none, false⟩ .getSingleValue [.dist (.int .int 7 7 false 1)] { st := St.empty } =
    ({ st := St.empty }, .ok (.tok (.int 7))) := by rw [call_getSingleValue _ _ _ (by decide)]; decide
attribute [local suggest_ir] call_getSingleValue

theorem pyEq_bool (a b : Bool) : Tok.pyEq (.bool a) (.bool b) = (a == b) := by
  cases a <;> cases b <;> rfl

/-- **call_checkCompat** — `check_distribution_compatibility` as written today raises ValueError exactly when
`Dist.compat` is false: another class, another `log`, or (categoricals) other choices. -/
theorem call_checkCompat (E : SEnv) (a b : Dist) (s : MSt) :
    program.call0 E .checkCompat [.dist a, .dist b] s =
      (s, if compat a b then .ok (.tok .none) else .error (.err .valueError)) := by
  rw [Program.call0, runFn_eq _ _ _ _ _ _ rfl, prog_checkCompat]
  cases hc : a.sameClass b with
  -- another class: the first test raises, whatever the two are
  | false => simp -implicitDefEqProofs [suggest_ir, compat, hc]
  | true =>
    rcases a with ⟨c, _, _, log, _⟩ | ⟨c, _, _, log, _⟩ | cs <;> rcases b with ⟨c', _, _, log', _⟩ | ⟨c', _, _, log', _⟩ | cs'
    case flt.flt | int.int =>
      cases hl : (log == log') <;> simp -implicitDefEqProofs [suggest_ir, compat, Dist.log?, pyEq_bool, hc, hl]
    case cat.cat =>
      cases h : listCatEq cs cs' <;> simp -implicitDefEqProofs [suggest_ir, compat, Dist.log?, Dist.pyEq, hc, h]
    all_goals cases hc
example : (program.call0 ⟨⟨[], [], []⟩, Dist.single, fun _ _ => .none, false⟩ .checkCompat
    [.dist (.flt .float 0 1 false none), .dist (.flt .float 0 1 true none)] { st := St.empty }).2 = .error (.err .valueError) := by rw [call_checkCompat]; decide
attribute [local suggest_ir] call_checkCompat

/-- `_is_fixed_param(name, distribution)` by the hand model: is the name enqueued / fixed; `to_internal_repr` may raise;
containment only decides about the warning -/
def handIsFixed (E : SEnv) (name : String) (d : Dist) (s : MSt) : Res Val :=
  match E.cx.fixed.get? name with
  | none => (s, .ok (boolV false))
  | some fv =>
    match d.toInternal fv with
    | .error e => (s, .error (.err e))
    | .ok q => ({ s with warns := if d.contains q then s.warns else s.warns ++ [.fixedOutOfRange] }, .ok (boolV true))

/-- **call_isFixedParam** — `_is_fixed_param` as written today is `handIsFixed` -/
theorem call_isFixedParam (E : SEnv) (name : String) (d : Dist) (s : MSt) :
    program.call1 E .isFixedParam [.tok (.str name), .dist d] s = handIsFixed E name d s := by
  rw [Program.call1, runFn_eq _ _ _ _ _ _ rfl, prog_isFixedParam]
  unfold handIsFixed
  cases h : E.cx.fixed.get? name with
  | none => simp -implicitDefEqProofs [suggest_ir, h]
  | some fv => cases hq : d.toInternal fv <;> simp -implicitDefEqProofs [suggest_ir, h, hq]
example : (program.call1 ⟨⟨[("x", .flt 5)], [], []⟩, Dist.single, fun _ _ => .none, false⟩ .isFixedParam
    [.tok (.str "x"), .dist (.flt .float 0 1 false none)] { st := St.empty }) =
    ({ st := St.empty, warns := [.fixedOutOfRange] }, .ok (.tok (.bool true))) := by rw [call_isFixedParam]; decide
attribute [local suggest_ir] call_isFixedParam handIsFixed

/-- `_is_relative_param(name, distribution)` by the hand model -/
def handIsRelative (E : SEnv) (name : String) (d : Dist) (s : MSt) : Res Val :=
  match E.cx.relParams.get? name with
  | none => (s, .ok (boolV false))
  | some rv =>
    match E.cx.relSpace.get? name with
    | none => (s, .error (.err .valueError))
    | some rd =>
      if !compat rd d then (s, .error (.err .valueError))
      else
        match d.toInternal rv with
        | .error e => (s, .error (.err e))
        | .ok q => (s, .ok (boolV (d.contains q)))

/-- **call_isRelativeParam** — the relative value counts only if the name is in the relative search space (else
ValueError), the distributions are compatible (else ValueError) and `_contains(to_internal_repr(value))` holds for the
distribution ASKED FOR. -/
theorem call_isRelativeParam (E : SEnv) (name : String) (d : Dist) (s : MSt) :
    program.call1 E .isRelativeParam [.tok (.str name), .dist d] s = handIsRelative E name d s := by
  rw [Program.call1, runFn_eq _ _ _ _ _ _ rfl, prog_isRelativeParam]
  unfold handIsRelative
  cases h : E.cx.relParams.get? name with
  | none => simp -implicitDefEqProofs [suggest_ir, h]
  | some rv =>
    cases hs : E.cx.relSpace.get? name with
    | none => simp -implicitDefEqProofs [suggest_ir, h, hs]
    | some rd =>
      cases hc : compat rd d with
      | false => simp -implicitDefEqProofs [suggest_ir, h, hs, hc]
      | true =>
        cases hq : d.toInternal rv <;> simp -implicitDefEqProofs [suggest_ir, h, hs, hc, hq]
example : (program.call1 ⟨⟨[], [("x", .flt .float 0 4 false none)], [("x", .flt 3)]⟩, Dist.single, fun _ _ => .none, false⟩ .isRelativeParam
    [.tok (.str "x"), .dist (.flt .float 0 2 false none)] { st := St.empty }).2 = .ok (.tok (.bool false)) := by rw [call_isRelativeParam]; decide
attribute [local suggest_ir] call_isRelativeParam handIsRelative

/-- **call_checkDistribution** — `_check_distribution` only warns (when the distribution recorded for the name is not
`==` the one asked for) -/
theorem call_checkDistribution (E : SEnv) (name : String) (d : Dist) (s : MSt) :
    program.call1 E .checkDistribution [.tok (.str name), .dist d] s =
      ({ s with warns := s.warns ++ checkDistributionH s.st name d }, .ok (.tok .none)) := by
  rw [Program.call1, runFn_eq _ _ _ _ _ _ rfl, prog_checkDistribution]
  unfold checkDistributionH
  cases h : s.st.dists.get? name with
  | none => cases hp : d.pyEq d <;> simp -implicitDefEqProofs [suggest_ir, h, hp]
  | some o => cases hp : o.pyEq d <;> simp -implicitDefEqProofs [suggest_ir, h, hp]

example : (program.call1 ⟨⟨[], [], []⟩, Dist.single, fun _ _ => .none, false⟩ .checkDistribution
    [.tok (.str "x"), .dist (.flt .float 0 2 false none)]
    { st := ⟨[("x", .flt 1)], [("x", .flt .float 0 4 false none)], []⟩ }).1.warns = [.inconsistent] := by rw [call_checkDistribution]; decide
attribute [local suggest_ir] call_checkDistribution

def flowOf : Except Exn (Tok × Branch) → Flow
  | .ok (v, br) => .ret (.tok v) (some br)
  | .error e => .raised e

/-- what a caller sees of `_suggest` by the hand model, when the warning log / sampler counter start at `w0` / `n0` -/
def suggestOutcome (E : SEnv) (st : St) (name : String) (d : Dist) (w0 : List Warn) (n0 : Nat) : St × List Warn × Nat × Flow :=
  ((suggestFull E st name d).st, w0 ++ (suggestFull E st name d).warns, n0 + (suggestFull E st name d).sampled,
   flowOf (suggestFull E st name d).res)

def execSuggest (E : SEnv) (st : St) (name : String) (d : Dist) (w0 : List Warn) (n0 : Nat) : MSt × Flow :=
  exec E (program.call1 E) program.suggest { st := st, locals := argsND name d, warns := w0, sampled := n0 }

/-! The body of `_suggest` is run in segments: the frame and the test `name in trial.distributions`; for a name that is
there, the compatibility check and the cached value; for a new name, where the value comes from (`pickStmt`, which is
`pickFull`), then how it is recorded (`storeStmt`).  Each segment is executed once per case of its own; `exec_suggest`
puts them together. -/

/-- the `else` branch of `if name in trial.distributions` in today's `_suggest` -/
def newBranch : Stmt × Stmt :=
  match SuggestMethods.suggest with
  | .seq _ (.seq _ (.seq _ (.seq (.ite _ _ (.seq pick store)) _))) => (pick, store)
  | _ => (.skip, .skip)

/-- its first statement: the chain `if self._is_fixed_param(…) … elif distribution.single() … elif self._is_relative_param(…) … else …` -/
def pickStmt : Stmt := newBranch.1
/-- the rest: `to_internal_repr`, `storage.set_trial_param`, the two cache updates -/
def storeStmt : Stmt := newBranch.2

/-- the frame of `_suggest` at the test `name in trial.distributions` -/
def frame0 (name : String) (d : Dist) : AList (Val × Option Branch) :=
  [("name", (.tok (.str name), none)), ("distribution", (.dist d, none)), ("storage", (.obj .storage, none)),
   ("trial_id", (.obj .trialId, none)), ("trial", (.obj .latestTrial, none))]

/-- the frame after the value `v` has been taken from the source `br` (the independent branch also binds `study`) -/
def pickLocals (name : String) (d : Dist) (v : Tok) (br : Branch) : AList (Val × Option Branch) :=
  frame0 name d ++ (if br = .independent then [("study", (.obj .filteredStudy, none))] else []) ++ [("param_value", (.tok v, some br))]

section newName
attribute [local suggest_ir] pickStmt storeStmt newBranch frame0 pickLocals pickFull

/-- **exec_pick** — the chain `_is_fixed_param` / `single()` / `_is_relative_param` / `sample_independent` as written today,
with today's callees, is `pickFull`: warnings, sampler calls, and either the exception (nothing bound) or the value bound to
`param_value` with its source. -/
theorem exec_pick (E : SEnv) (st : St) (name : String) (d : Dist) (w0 : List Warn) (n0 : Nat) :
    exec E (program.call1 E) pickStmt { st := st, locals := frame0 name d, warns := w0, sampled := n0 } =
      match pickFull E name d with
      | (w, n, .error e) => ({ st := st, locals := frame0 name d, warns := w0 ++ w, sampled := n0 + n }, .raised e)
      | (w, n, .ok (v, br)) => ({ st := st, locals := pickLocals name d v br, warns := w0 ++ w, sampled := n0 + n }, .next) := by
  cases hf : E.cx.fixed.get? name with
  | some fv =>
    cases hq : d.toInternal fv with
    | error e => simp -implicitDefEqProofs [suggest_ir, hf, hq]
    | ok q => cases hc : d.contains q <;> simp -implicitDefEqProofs [suggest_ir, hf, hq, hc]
  | none =>
    cases hs : E.single d with
    -- the shape of `d` matters only for `choices[0]` of a categorical without choices
    | true => rcases d with _ | _ | (_ | _) <;> simp -implicitDefEqProofs [suggest_ir, hf, hs, singleValue]
    | false =>
      cases hr : E.cx.relParams.get? name with
      | none => simp -implicitDefEqProofs [suggest_ir, hf, hs, hr]
      | some rv =>
        cases hsp : E.cx.relSpace.get? name with
        | none => simp -implicitDefEqProofs [suggest_ir, hf, hs, hr, hsp]
        | some rd =>
          cases hc : compat rd d with
          | false => simp -implicitDefEqProofs [suggest_ir, hf, hs, hr, hsp, hc]
          | true =>
            cases hq : d.toInternal rv with
            | error e => simp -implicitDefEqProofs [suggest_ir, hf, hs, hr, hsp, hc, hq]
            | ok q => cases hin : d.contains q <;> simp -implicitDefEqProofs [suggest_ir, hf, hs, hr, hsp, hc, hq, hin]

/-- what the write reads of its frame -/
def Binds (L : AList (Val × Option Branch)) (name : String) (d : Dist) (v : Tok) (br : Branch) : Prop :=
  L.get? "name" = some (.tok (.str name), none) ∧ L.get? "distribution" = some (.dist d, none) ∧
    L.get? "storage" = some (.obj .storage, none) ∧ L.get? "trial_id" = some (.obj .trialId, none) ∧
    L.get? "param_value" = some (.tok v, some br)

theorem pickLocals_binds (name : String) (d : Dist) (v : Tok) (br : Branch) : Binds (pickLocals name d v br) name d v br := by
  cases br <;> simp [Binds, suggest_ir]

/-- **exec_store** — the write as written today, from any state whose frame binds what it reads: `to_internal_repr` may
raise, then the storage may, and only then the cache is updated. -/
theorem exec_store (E : SEnv) (name : String) (d : Dist) (v : Tok) (br : Branch) (s : MSt) (hL : Binds s.locals name d v br) :
    exec E (program.call1 E) storeStmt s =
      match d.toInternal v with
      | .error e => (s, .raised (.err e))
      | .ok q =>
        if E.writeFails then (setLocal s "param_value_in_internal_repr" (.tok (.flt q)) none, .raised .storage)
        else ({ setLocal s "param_value_in_internal_repr" (.tok (.flt q)) none with
                st := { params := s.st.params.set name v, dists := s.st.dists.set name d, stored := s.st.stored.set name (q, d) } },
              .next) := by
  obtain ⟨hn, hd, hs, ht, hv⟩ := hL
  cases hq : d.toInternal v with
  | error e => simp -implicitDefEqProofs [suggest_ir, hd, hv, hq]
  | ok q =>
    cases hw : E.writeFails <;>
      simp -implicitDefEqProofs [suggest_ir, hn, hd, hs, ht, hv, hq, hw, AList.get?_set_same, AList.get?_set_other]

end newName

attribute [local suggest_ir] execSuggest suggestOutcome flowOf prog_suggest suggestFull in

/-- **exec_suggest** — a run of `Trial._suggest` as written today, with today's `_is_fixed_param`,
`_is_relative_param`, `_get_single_value` and `check_distribution_compatibility` as its callees, from ANY trial state,
context, name, distribution, `single()` answer, sampler answer, storage behaviour, warning log and sampler counter, ends
exactly as the hand model says: new cache, new storage rows, value, source, exception, warnings, sampler calls. -/
theorem exec_suggest (E : SEnv) (st : St) (name : String) (d : Dist) (w0 : List Warn) (n0 : Nat) :
    outcome (execSuggest E st name d w0 n0) = suggestOutcome E st name d w0 n0 := by
  cases h : st.dists.get? name with
  | some dOld =>
    cases hc : compat dOld d with
    | false => simp -implicitDefEqProofs [suggest_ir, h, hc]
    | true => cases hp : st.params.get? name <;> simp -implicitDefEqProofs [suggest_ir, h, hc, hp]
  | none =>
    -- the two segments on the states they will be met in, spelt as the interpreter set leaves the body
    have hpick := exec_pick E st name d w0 n0
    rcases hpk : pickFull E name d with ⟨w, n, e | ⟨v, br⟩⟩ <;>
      simp only [hpk, frame0, pickStmt, newBranch, SuggestMethods.suggest, block] at hpick
    -- `↓`: a segment's equation has to fire before the `suggest_ir` set opens the segment, after which it matches nothing
    · simp -implicitDefEqProofs [suggest_ir, h, ↓hpick, hpk]
    · have hL := pickLocals_binds name d v br
      have hstore := exec_store E name d v br { st := st, locals := pickLocals name d v br, warns := w0 ++ w, sampled := n0 + n } hL
      simp only [storeStmt, newBranch, SuggestMethods.suggest, block] at hstore
      cases hq : d.toInternal v with
      | error e => simp -implicitDefEqProofs [suggest_ir, h, ↓hpick, hpk, ↓hstore, hq]
      -- `return param_value` reads the frame the write left
      | ok q => cases hw : E.writeFails <;> simp -implicitDefEqProofs [suggest_ir, h, ↓hpick, hpk, ↓hstore, hq, hw, AList.get?_set_other, hL.2.2.2.2]

theorem finishS'_flowOf (o : SOut) : finishS' (o.st, [] ++ o.warns, 0 + o.sampled, flowOf o.res) = some o := by
  obtain ⟨st, w, n, res⟩ := o
  cases res with
  | error e => simp [finishS', flowOf]
  | ok vb => obtain ⟨v, br⟩ := vb; simp [finishS', flowOf]

/-- **interp_suggest** — `Trial._suggest` as written today IS the hand model `SuggestApi.suggestFull`, for all inputs. -/
theorem interp_suggest (E : SEnv) (st : St) (name : String) (d : Dist) :
    interpSuggest program E st name d = some (suggestFull E st name d) := by
  have h := exec_suggest E st name d [] 0
  unfold execSuggest at h
  unfold interpSuggest finishS
  rw [h]
  exact finishS'_flowOf _

/-- the context of the non-vacuity examples: `x` is enqueued (outside [0, 1]), the sampler proposes `x`, `y` relatively -/
def exCx : Ctx := ⟨[("x", .flt 2)], [("x", .flt .float 0 4 false none), ("y", .flt .float 0 4 false none)],
                   [("x", .flt 1), ("y", .flt 3)]⟩
def exE : SEnv := ⟨exCx, Dist.single, fun _ _ => .flt 1, false⟩

-- non-vacuity: fixed beats relative beats independent; an uncontained fixed value is handed over with the warning
example : (interpSuggest program exE St.empty "x" (.flt .float 0 1 false none)).map (fun o => (o.res, o.warns, o.sampled)) =
    some (.ok (.flt 2, .fixed), [.fixedOutOfRange], 0) := by rw [interp_suggest]; decide
example : (interpSuggest program exE St.empty "y" (.flt .float 0 4 false none)).map (fun o => (o.res, o.warns, o.sampled)) =
    some (.ok (.flt 3, .relative), [], 0) := by rw [interp_suggest]; decide
example : (interpSuggest program exE St.empty "y" (.flt .float 0 2 false none)).map (fun o => (o.res, o.warns, o.sampled)) =
    some (.ok (.flt 1, .independent), [], 1) := by rw [interp_suggest]; decide

/-- **call_suggest** — `self._suggest(name, distribution)` called from a wrapper: the hand model's effects on top of
the caller's warning log and sampler counter; the caller's locals are untouched -/
theorem call_suggest (E : SEnv) (name : String) (d : Dist) (s : MSt) :
    program.call2 E .suggest [.tok (.str name), .dist d] s =
      ({ st := (suggestFull E s.st name d).st, locals := s.locals, warns := s.warns ++ (suggestFull E s.st name d).warns,
         sampled := s.sampled + (suggestFull E s.st name d).sampled },
       (flowOf (suggestFull E s.st name d).res).result) := by
  rw [Program.call2, runFn_of_outcome E _ s _ _ _ (argsND name d) rfl rfl _ (exec_suggest E s.st name d s.warns s.sampled)]
  rfl

def flowA : Except Exn Tok → Flow
  | .ok v => .ret (.tok v) none
  | .error e => .raised e

def aOutcome (o : AOut) (w0 : List Warn) (n0 : Nat) : St × List Warn × Nat × Flow :=
  (o.st, w0 ++ o.warns, n0 + o.sampled, flowA o.res)

def floatLocals (name : String) (low high : Rat) (step : Option Rat) (log : Bool) : AList (Val × Option Branch) :=
  [loc "name" (.tok (.str name)), loc "low" (fltV low), loc "high" (fltV high), loc "step" (optFltV step), loc "log" (boolV log)]

theorem finishA_of_outcome {r : MSt × Flow} {o : AOut} (h : outcome r = aOutcome o [] 0) : finishA r = some o := by
  obtain ⟨st, w, n, res⟩ := o
  obtain ⟨s, fl⟩ := r
  simp only [outcome, aOutcome, Prod.mk.injEq] at h
  obtain ⟨h1, h2, h3, h4⟩ := h
  simp only [finishA, outcomeA, h1, h2, h3, h4]
  cases res <;> simp [finishA', flowA, Flow.untag]

section wrappers
attribute [local suggest_ir] aOutcome flowA flowOf call_suggest afterSuggest floatLocals prog_suggestFloat prog_suggestInt
  prog_suggestCategorical suggestFloatH suggestIntH suggestCategoricalH

/-- **exec_suggestFloat** — a run of the generated `suggest_float` body on top of any warning log and sampler counter (a forward
calls it after its own warning) ends as `suggestFloatH` says -/
theorem exec_suggestFloat (E : SEnv) (st : St) (name : String) (low high : Rat) (step : Option Rat) (log : Bool)
    (w0 : List Warn) (n0 : Nat) :
    outcome (exec E (program.call2 E) program.suggestFloat
        { st := st, locals := floatLocals name low high step log, warns := w0, sampled := n0 }) =
      aOutcome (suggestFloatH E st name low high step log) w0 n0 := by
  cases hm : mkFlt .float low high log step with
  | error e => simp -implicitDefEqProofs [suggest_ir, hm]
  | ok d => rcases hres : (suggestFull E st name d).res with e | ⟨v, br⟩ <;> simp -implicitDefEqProofs [suggest_ir, hm, hres]

/-- **interp_suggestFloat** — `Trial.suggest_float` as written today (construction of the `FloatDistribution` incl. the
`step` / `log` arguments, `_suggest`, `_check_distribution`, the return) IS `SuggestApi.suggestFloatH`, for all inputs. -/
theorem interp_suggestFloat (E : SEnv) (st : St) (name : String) (low high : Rat) (step : Option Rat) (log : Bool) :
    interpSuggestFloat program E st name low high step log = some (suggestFloatH E st name low high step log) :=
  finishA_of_outcome (exec_suggestFloat E st name low high step log [] 0)

/-- **interp_suggestInt** — `Trial.suggest_int` as written today (`IntDistribution(low=…, high=…, log=…, step=…)`,
`int(self._suggest(…))`, `_check_distribution`) IS `SuggestApi.suggestIntH`. -/
theorem interp_suggestInt (E : SEnv) (st : St) (name : String) (low high step : Int) (log : Bool) :
    interpSuggestInt program E st name low high step log = some (suggestIntH E st name low high step log) := by
  refine finishA_of_outcome ?_
  cases hm : mkInt .int low high log step with
  | error e => simp -implicitDefEqProofs [suggest_ir, hm]
  | ok d =>
    rcases hres : (suggestFull E st name d).res with e | ⟨v, br⟩
    · simp -implicitDefEqProofs [suggest_ir, hm, hres]
    · cases hi : intOfTok v <;> simp -implicitDefEqProofs [suggest_ir, hm, hres, hi]

/-- **interp_suggestCategorical** — `Trial.suggest_categorical` as written today (`CategoricalDistribution(choices=…)` handed to
`_suggest`; no `_check_distribution`) IS `SuggestApi.suggestCategoricalH`. -/
theorem interp_suggestCategorical (E : SEnv) (st : St) (name : String) (choices : List Tok) :
    interpSuggestCategorical program E st name choices = some (suggestCategoricalH E st name choices) := by
  refine finishA_of_outcome ?_
  cases hm : mkCat choices with
  | error e => simp -implicitDefEqProofs [suggest_ir, hm]
  | ok d => rcases hres : (suggestFull E st name d).res with e | ⟨v, br⟩ <;> simp -implicitDefEqProofs [suggest_ir, hm, hres]

end wrappers

example : (interpSuggestFloat program ⟨⟨[], [], []⟩, Dist.single, fun _ _ => .flt 2, false⟩ St.empty "x" 0 4 none false).map (fun o => (o.res, o.sampled, o.st.stored)) =
    some (.ok (.flt 2), 1, [("x", (2, .flt .float 0 4 false none))]) := by rw [interp_suggestFloat]; decide
example : (interpSuggestInt program ⟨⟨[], [], []⟩, Dist.single, fun _ _ => .flt 2, false⟩ St.empty "x" 0 4 2 false).map (fun o => (o.res, o.st.params)) =
    some (.ok (.int 2), [("x", .flt 2)]) := by rw [interp_suggestInt]; decide
example : (interpSuggestCategorical program ⟨⟨[], [], []⟩, Dist.single, fun _ _ => .flt 2, false⟩ St.empty "x" [.flt 1, .flt 2]).map (fun o => (o.res, o.st.stored)) =
    some (.ok (.flt 2), [("x", (1, .cat [.flt 1, .flt 2]))]) := by rw [interp_suggestCategorical]; decide

/-- **call_suggestFloat** — `self.suggest_float(name, low, high, step=…, log=…)` called from a forward -/
theorem call_suggestFloat (E : SEnv) (name : String) (low high : Rat) (step : Option Rat) (log : Bool) (s : MSt) :
    program.call3 E .suggestFloat [.tok (.str name), .tok (.flt low), .tok (.flt high), optFltV step, .tok (.bool log)] s =
      ({ st := (suggestFloatH E s.st name low high step log).st, locals := s.locals,
         warns := s.warns ++ (suggestFloatH E s.st name low high step log).warns,
         sampled := s.sampled + (suggestFloatH E s.st name low high step log).sampled },
       (flowA (suggestFloatH E s.st name low high step log).res).result) := by
  rw [Program.call3, runFn_of_outcome E _ s _ _ _ (floatLocals name low high step log) rfl rfl _
    (exec_suggestFloat E s.st name low high step log s.warns s.sampled)]
  rfl

/-- a `@deprecated_func` forward as written today: the warning, then `return self.suggest_float(name, low, high, …)` with
whatever `stepE` / `logE` the forward passes for `step=` / `log=`, in a frame `L` that binds `name`, `low`, `high` -/
theorem interp_deprecatedForward (E : SEnv) (st : St) (name : String) (low high : Rat) (step : Option Rat) (log : Bool)
    (stepE logE : Expr) (L : AList (Val × Option Branch))
    (hn : L.get? "name" = some (.tok (.str name), none)) (hl : L.get? "low" = some (.tok (.flt low), none))
    (hh : L.get? "high" = some (.tok (.flt high), none))
    (hs : ∀ s : MSt, s.locals = L → eval E (program.call3 E) stepE s = (s, .ok (optFltV step)))
    (hg : ∀ s : MSt, eval E (program.call3 E) logE s = (s, .ok (.tok (.bool log)))) :
    finishA (exec E (program.call3 E)
        (block [.warn .deprecated, .ret (.callSuggestFloat (.var "name") (.var "low") (.var "high") stepE logE)])
        { st := st, locals := L }) =
      some (deprecatedH (suggestFloatH E st name low high step log)) := by
  unfold finishA
  cases hres : (suggestFloatH E st name low high step log).res <;>
    simp -implicitDefEqProofs only [suggest_ir, hn, hl, hh, hs, hg, call_suggestFloat, hres, flowA, outcomeA, Flow.untag, finishA', deprecatedH,
      List.nil_append, List.singleton_append, Nat.zero_add]

/-- **interp_suggestUniform** — `suggest_uniform(name, low, high)` = the deprecation warning, then `suggest_float(name, low, high)` -/
theorem interp_suggestUniform (E : SEnv) (st : St) (name : String) (low high : Rat) :
    interpForward program E program.suggestUniform st name low high = some (suggestUniformH E st name low high) :=
  interp_deprecatedForward E st name low high none false .none_ .false_ _ rfl rfl rfl (fun _ _ => rfl) (fun _ => rfl)

/-- **interp_suggestLogUniform** — the warning, then `suggest_float(name, low, high, log=True)` -/
theorem interp_suggestLogUniform (E : SEnv) (st : St) (name : String) (low high : Rat) :
    interpForward program E program.suggestLogUniform st name low high = some (suggestLogUniformH E st name low high) :=
  interp_deprecatedForward E st name low high none true .none_ .true_ _ rfl rfl rfl (fun _ _ => rfl) (fun _ => rfl)

/-- **interp_suggestDiscreteUniform** — the warning, then `suggest_float(name, low, high, step=q)` -/
theorem interp_suggestDiscreteUniform (E : SEnv) (st : St) (name : String) (low high q : Rat) :
    interpForwardQ program E program.suggestDiscreteUniform st name low high q = some (suggestDiscreteUniformH E st name low high q) :=
  interp_deprecatedForward E st name low high (some q) false (.var "q") .false_ _ rfl rfl rfl
    (fun s h => by simp only [eval, getLocal, h]; rfl) (fun _ => rfl)

example : (interpForward program ⟨⟨[], [], []⟩, Dist.single, fun _ _ => .flt 2, false⟩ program.suggestUniform St.empty "x" 1 4).map (fun o => (o.res, o.warns, o.st.dists)) =
    some (.ok (.flt 2), [.deprecated], [("x", .flt .float 1 4 false none)]) := by rw [interp_suggestUniform]; decide
example : (interpForward program ⟨⟨[], [], []⟩, Dist.single, fun _ _ => .flt 2, false⟩ program.suggestLogUniform St.empty "x" 1 4).map (fun o => (o.res, o.warns, o.st.dists)) =
    some (.ok (.flt 2), [.deprecated], [("x", .flt .float 1 4 true none)]) := by rw [interp_suggestLogUniform]; decide
example : (interpForwardQ program ⟨⟨[], [], []⟩, Dist.single, fun _ _ => .flt 2, false⟩ program.suggestDiscreteUniform St.empty "x" 0 5 2).map (fun o => (o.res, o.warns, o.st.dists)) =
    some (.ok (.flt 2), [.deprecated], [("x", .flt .float 0 4 false (some 2))]) := by rw [interp_suggestDiscreteUniform]; decide +kernel

/-- the first five statements of today's `FrozenTrial._suggest` — the given value or ValueError, `to_internal_repr`, the
range warning, the compatibility check — before `rest` -/
def givenHead (rest : Stmt) : Stmt :=
  match SuggestMethods.frozenSuggest with
  | .seq a (.seq b (.seq c (.seq d (.seq e _)))) => .seq a (.seq b (.seq c (.seq d (.seq e rest))))
  | _ => .skip

/-- what follows them in `FixedTrial._suggest` (`record`) / `FrozenTrial._suggest` -/
def givenTail (record : Bool) : Stmt :=
  match if record then SuggestMethods.fixedSuggest else SuggestMethods.frozenSuggest with
  | .seq _ (.seq _ (.seq _ (.seq _ (.seq _ rest)))) => rest
  | _ => .skip

/-- `FixedTrial._suggest` and `FrozenTrial._suggest` as written today differ in one statement: the first also records the
value in `_suggested_params` -/
theorem given_bodies (record : Bool) :
    (if record then program.fixedSuggest else program.frozenSuggest) = givenHead (givenTail record) := by
  cases record <;> rfl

def givenLocals (name : String) (d : Dist) (v : Tok) (q : Rat) : AList (Val × Option Branch) :=
  argsND name d ++ [("value", (.tok v, none)), ("param_value_in_internal_repr", (.tok (.flt q), none))]

theorem finishA_raised (s : MSt) (e : Exn) : finishA (s, .raised e) = some ⟨s.st, s.warns, s.sampled, .error e⟩ := rfl

section given
-- `finishA` is evaluated only where the run has ended (`finishA_raised`); elsewhere it stays around the run of `rest`
attribute [local suggest_ir] givenHead givenTail givenLocals finishA_raised

theorem exec_givenHead (E : SEnv) (st : St) (name : String) (d : Dist) (rest : Stmt) :
    finishA (exec E (program.call0 E) (givenHead rest) { st := st, locals := argsND name d }) =
      match E.cx.fixed.get? name with
      | none => some ⟨st, [], 0, .error (.err .valueError)⟩
      | some v =>
        match d.toInternal v with
        | .error e => some ⟨st, [], 0, .error (.err e)⟩
        | .ok q =>
          if (match st.dists.get? name with | some dOld => !compat dOld d | none => false) then
            some ⟨st, if d.contains q then [] else [.outOfRange], 0, .error (.err .valueError)⟩
          else finishA (exec E (program.call0 E) rest
            { st := st, locals := givenLocals name d v q, warns := if d.contains q then [] else [.outOfRange] }) := by
  cases hf : E.cx.fixed.get? name with
  | none => simp -implicitDefEqProofs [suggest_ir, hf]
  | some v =>
    cases hq : d.toInternal v with
    | error e => simp -implicitDefEqProofs [suggest_ir, hf, hq]
    | ok q =>
      cases hd : st.dists.get? name with
      | none => simp -implicitDefEqProofs [suggest_ir, hf, hq, hd]
      | some dOld => cases hcp : compat dOld d <;> simp -implicitDefEqProofs [suggest_ir, hf, hq, hd, hcp]

theorem interp_given (E : SEnv) (st : St) (name : String) (d : Dist) (record : Bool) :
    interpGivenSuggest program E (if record then program.fixedSuggest else program.frozenSuggest) st name d =
      some (givenSuggestH record E st name d) := by
  rw [interpGivenSuggest, given_bodies, exec_givenHead]
  unfold givenSuggestH
  cases E.cx.fixed.get? name with
  | none => rfl
  | some v =>
    dsimp only
    cases d.toInternal v with
    | error e => rfl
    | ok q =>
      -- what differs: one `setItem` more or less, whatever the warning log is by then
      have tail (w : List Warn) : finishA (exec E (program.call0 E) (givenTail record)
          { st := st, locals := givenLocals name d v q, warns := w }) =
          some ⟨{ st with params := if record then st.params.set name v else st.params, dists := st.dists.set name d }, w, 0, .ok v⟩ := by
        cases record <;> simp -implicitDefEqProofs [suggest_ir, finishA, finishA', outcomeA, Flow.untag]
      cases hd : st.dists.get? name with
      | none => simp [tail]
      | some dOld => cases hcp : compat dOld d <;> simp [tail, hcp]

end given

/-- **interp_fixedSuggest** — `FixedTrial._suggest` as written today: the value given at construction or ValueError;
`to_internal_repr` validates; an uncontained value only warns; the distribution must be compatible with the one
recorded for the name; value and distribution are recorded. -/
theorem interp_fixedSuggest (E : SEnv) (st : St) (name : String) (d : Dist) :
    interpGivenSuggest program E program.fixedSuggest st name d = some (givenSuggestH true E st name d) :=
  interp_given E st name d true

/-- **interp_frozenSuggest** — `FrozenTrial._suggest` as written today: the same, the parameters themselves are not rewritten. -/
theorem interp_frozenSuggest (E : SEnv) (st : St) (name : String) (d : Dist) :
    interpGivenSuggest program E program.frozenSuggest st name d = some (givenSuggestH false E st name d) :=
  interp_given E st name d false

-- non-vacuity: a FrozenTrial asked for its parameter under a distribution with another `log` raises; under a narrower
-- range it hands the value over with the warning and replaces the recorded distribution
example : (interpGivenSuggest program ⟨⟨[("x", .flt 3)], [], []⟩, Dist.single, fun _ _ => .none, false⟩ program.frozenSuggest
    ⟨[("x", .flt 3)], [("x", .flt .float 1 4 false none)], []⟩ "x" (.flt .float 1 4 true none)).map (fun o => o.res) =
    some (.error (.err .valueError)) := by rw [interp_frozenSuggest]; decide
example : (interpGivenSuggest program ⟨⟨[("x", .flt 3)], [], []⟩, Dist.single, fun _ _ => .none, false⟩ program.frozenSuggest
    ⟨[("x", .flt 3)], [("x", .flt .float 1 4 false none)], []⟩ "x" (.flt .float 1 2 false none)).map (fun o => (o.res, o.warns, o.st.dists)) =
    some (.ok (.flt 3), [.outOfRange], [("x", .flt .float 1 2 false none)]) := by rw [interp_frozenSuggest]; decide
example : (interpGivenSuggest program ⟨⟨[("x", .flt 3)], [], []⟩, Dist.single, fun _ _ => .none, false⟩ program.fixedSuggest
    St.empty "x" (.flt .float 1 4 false none)).map (fun o => (o.res, o.warns, o.st.params)) =
    some (.ok (.flt 3), [], [("x", .flt 3)]) := by rw [interp_fixedSuggest]; decide

/-- the environment `Suggest.suggest` is about: `single()` computed by the model, a storage that accepts writes, the
sampler answering `indep` -/
def envOf (cx : Ctx) (indep : Tok) : SEnv := ⟨cx, Dist.single, fun _ _ => indep, false⟩

def genSuggest (cx : Ctx) (st : St) (name : String) (d : Dist) (indep : Tok) : Option (R (St × Tok × Branch)) :=
  match interpSuggest program (envOf cx indep) st name d with
  | some ⟨st', _, _, .ok (v, br)⟩ => some (.ok (st', v, br))
  | some ⟨_, _, _, .error (.err e)⟩ => some (.error e)
  | _ => none

theorem suggestFull_envOf (cx : Ctx) (st : St) (name : String) (d : Dist) (indep : Tok) :
    toR (suggestFull (envOf cx indep) st name d) = liftR (suggest cx st name d indep) :=
  suggestFull_toR (envOf cx indep) st name d rfl (by rintro rfl; rfl)

/-- **gen_suggest_eq** — `Trial._suggest` as written today IS `Suggest.suggest` -/
theorem gen_suggest_eq (cx : Ctx) (st : St) (name : String) (d : Dist) (indep : Tok) :
    genSuggest cx st name d indep = some (suggest cx st name d indep) := by
  have h := suggestFull_envOf cx st name d indep
  unfold genSuggest
  rw [interp_suggest]
  generalize suggestFull (envOf cx indep) st name d = o, suggest cx st name d indep = r at h ⊢
  -- on constructors `toR` and `liftR` compute: `h` either identifies the two answers or is absurd
  obtain ⟨st', w, n, e | ⟨v, br⟩⟩ := o <;> rcases r with e' | r <;> cases h <;> rfl

/-- a sequence of calls through the interpreter; failed calls leave the state unchanged -/
def genRun (cx : Ctx) (st : St) : List (String × Dist × Tok) → Option St
  | [] => some st
  | (n, d, i) :: t =>
    match genSuggest cx st n d i with
    | some (.ok (st', _, _)) => genRun cx st' t
    | some (.error _) => genRun cx st t
    | none => none

/-- **gen_run_eq** — a sequence of calls through the interpreter IS `Suggest.run` -/
theorem gen_run_eq (cx : Ctx) (st : St) (calls : List (String × Dist × Tok)) : genRun cx st calls = some (run cx st calls) := by
  induction calls generalizing st with
  | nil => rfl
  | cons c t ih =>
    obtain ⟨n, d, i⟩ := c
    simp only [genRun, run, gen_suggest_eq]
    cases suggest cx st n d i with
    | ok r => obtain ⟨st', v, br⟩ := r; exact ih st'
    | error e => exact ih st

-- non-vacuity: the second call (another kind for the same name) raises and leaves the state of the first
example : (genRun exCx St.empty [("y", .flt .float 0 4 false none, .flt 1), ("y", .cat [.none], .none)]).map (fun st => st.params) =
    some [("y", .flt 3)] := by rw [gen_run_eq]; decide

/-- **gen_suggest_same_name_same_value** — for the code as written today: once `_suggest(name, ·)` has returned `v`, then
after ANY further sequence of suggest calls in the trial, asking for `name` again with a compatible distribution returns
the same `v` and changes nothing; with an incompatible one it raises ValueError. -/
theorem gen_suggest_same_name_same_value (cx : Ctx) (st st1 : St) (name : String) (d : Dist) (i v : Tok) (br : Branch)
    (h : genSuggest cx st name d i = some (.ok (st1, v, br))) (calls : List (String × Dist × Tok)) (d' : Dist) (i' : Tok) :
    ∃ stN, genRun cx st1 calls = some stN ∧ ∃ d0, stN.dists.get? name = some d0 ∧ (st.dists.get? name = none → d0 = d) ∧
      (compat d0 d' = true → genSuggest cx stN name d' i' = some (.ok (stN, v, .reused))) ∧
      (compat d0 d' = false → genSuggest cx stN name d' i' = some (.error .valueError)) := by
  rw [gen_suggest_eq] at h
  have h' := Option.some.inj h
  obtain ⟨d0, g1, g2, g3, g4⟩ := C10.suggest_same_name_same_value cx st st1 name d i v br h' calls d' i'
  refine ⟨run cx st1 calls, gen_run_eq cx st1 calls, d0, g1, g2, ?_, ?_⟩
  · intro hc; rw [gen_suggest_eq, g3 hc]
  · intro hc; rw [gen_suggest_eq, g4 hc]
example : genSuggest exCx St.empty "y" (.flt .float 0 4 false none) (.flt 1) =
    some (.ok (⟨[("y", .flt 3)], [("y", .flt .float 0 4 false none)], [("y", (3, .flt .float 0 4 false none))]⟩, .flt 3, .relative)) := by
  rw [gen_suggest_eq]; decide

/-- **gen_suggest_fixed_wins** — an enqueued / fixed value that `to_internal_repr` accepts is returned for a
not-yet-suggested name whatever the relative sampler proposed, whatever the independent sampler would answer and even when
the domain is a single point; its internal form is what is written to the storage. -/
theorem gen_suggest_fixed_wins (cx : Ctx) (st : St) (name : String) (d : Dist) (fv indep : Tok) (q : Rat)
    (hnew : st.dists.get? name = none) (hf : cx.fixed.get? name = some fv) (hq : d.toInternal fv = .ok q) :
    genSuggest cx st name d indep =
      some (.ok ({ params := st.params.set name fv, dists := st.dists.set name d, stored := st.stored.set name (q, d) }, fv, .fixed)) := by
  rw [gen_suggest_eq, C10.suggest_fixed_wins cx st name d fv indep q hnew hf hq]
example : (genSuggest exCx St.empty "x" (.flt .float 2 2 false none) (.flt 1)).map (fun r => r.toOption.map (fun x => x.2)) =
    some (some (.flt 2, .fixed)) := by rw [gen_suggest_eq]; decide

/-- **gen_relative_outside_falls_back** — a relative value NOT contained in the distribution asked for is discarded and
the independent sampler's value is used -/
theorem gen_relative_outside_falls_back (cx : Ctx) (st : St) (name : String) (d rd : Dist) (rv indep : Tok) (q qi : Rat)
    (hnew : st.dists.get? name = none) (hf : cx.fixed.get? name = none) (hs : d.single = false)
    (hr : cx.relParams.get? name = some rv) (hsp : cx.relSpace.get? name = some rd) (hc : compat rd d = true)
    (hq : d.toInternal rv = .ok q) (hout : d.contains q = false) (hqi : d.toInternal indep = .ok qi) :
    genSuggest cx st name d indep =
      some (.ok ({ params := st.params.set name indep, dists := st.dists.set name d, stored := st.stored.set name (qi, d) },
           indep, .independent)) := by
  rw [gen_suggest_eq, C10.relative_outside_falls_back cx st name d rd rv indep q qi hnew hf hs hr hsp hc hq hout hqi]
example : (genSuggest exCx St.empty "y" (.flt .float 0 2 false none) (.flt 1)).map (fun r => r.toOption.map (fun x => x.2)) =
    some (some (.flt 1, .independent)) := by rw [gen_suggest_eq]; decide

/-- **gen_relative_inside_used** — a contained relative value is used -/
theorem gen_relative_inside_used (cx : Ctx) (st : St) (name : String) (d rd : Dist) (rv indep : Tok) (q : Rat)
    (hnew : st.dists.get? name = none) (hf : cx.fixed.get? name = none) (hs : d.single = false)
    (hr : cx.relParams.get? name = some rv) (hsp : cx.relSpace.get? name = some rd) (hc : compat rd d = true)
    (hq : d.toInternal rv = .ok q) (hin : d.contains q = true) :
    genSuggest cx st name d indep =
      some (.ok ({ params := st.params.set name rv, dists := st.dists.set name d, stored := st.stored.set name (q, d) },
           rv, .relative)) := by
  rw [gen_suggest_eq, C10.relative_inside_used cx st name d rd rv indep q hnew hf hs hr hsp hc hq hin]

example : (genSuggest exCx St.empty "y" (.flt .float 0 4 false none) (.flt 1)).map (fun r => r.toOption.map (fun x => x.2)) =
    some (some (.flt 3, .relative)) := by rw [gen_suggest_eq]; decide

/-- **gen_suggest_stored_eq_returned** — for a newly suggested name: `trial.params[name]` is the returned value, the
storage holds exactly its internal form with the distribution asked for, and when that internal value is contained what any
reader gets back from the storage is equal to what the objective received — and stays so after any further suggest calls. -/
theorem gen_suggest_stored_eq_returned (cx : Ctx) (st st1 : St) (name : String) (d : Dist) (i v : Tok) (br : Branch)
    (hnew : st.dists.get? name = none) (h : genSuggest cx st name d i = some (.ok (st1, v, br)))
    (calls : List (String × Dist × Tok)) :
    ∃ stN, genRun cx st1 calls = some stN ∧ stN.params.get? name = some v ∧
    ∃ q, d.toInternal v = .ok q ∧ stN.stored.get? name = some (q, d) ∧
      (WF d → d.contains q = true → ∃ t, readBack stN name = some t ∧ v.catEq t = true) := by
  rw [gen_suggest_eq] at h
  obtain ⟨g1, q, g2, g3, g4⟩ := C10.suggest_stored_eq_returned cx st st1 name d i v br hnew (Option.some.inj h) calls
  exact ⟨run cx st1 calls, gen_run_eq cx st1 calls, g1, q, g2, g3, g4⟩

example : (genSuggest exCx St.empty "y" (.flt .float 0 4 false none) (.flt 1)).map
    (fun r => r.toOption.map (fun x => (readBack x.1 "y", x.1.params.get? "y"))) = some (some (some (.flt 3), some (.flt 3))) := by rw [gen_suggest_eq]; decide

/-- **gen_suggest_in_domain** — for the code as written today: the value returned for a new name is a member of the
declared domain whichever branch produced it, PROVIDED the two external sources are: the fixed value if there is one
(optuna only warns about an uncontained enqueued value) and the independent sampler's answer `indep` — i.e. the raw
number of the sampler has been projected as the code does (`C10.projection_in_domain`, `C10Gen`).  Nothing is assumed
about the relative sampler: its value is tested by the code. -/
theorem gen_suggest_in_domain (cx : Ctx) (st st1 : St) (name : String) (d : Dist) (indep v : Tok) (br : Branch)
    (hnew : st.dists.get? name = none) (h : genSuggest cx st name d indep = some (.ok (st1, v, br))) (hwf : WF d)
    (hfixed : ∀ fv, cx.fixed.get? name = some fv → Member d fv) (hindep : Member d indep) :
    Member d v := by
  rw [gen_suggest_eq] at h
  exact C10.suggest_in_domain cx st st1 name d indep v br hnew (Option.some.inj h) hwf hfixed hindep

example : Member (.flt .float 0 4 false none) (.flt 3) ∧ ¬ Member (.flt .float 0 2 false none) (.flt 3) := by
  refine ⟨⟨3, by decide, by decide⟩, ?_⟩
  rintro ⟨q, hq, hc⟩
  have : q = 3 := by simp [Dist.toInternal, Tok.num?] at hq; exact hq.symm
  subst this
  revert hc; decide

theorem suggestFull_ok_records (E : SEnv) (st : St) (name : String) (d : Dist) (v : Tok) (br : Branch)
    (h : (suggestFull E st name d).res = .ok (v, br)) :
    ∃ d0, (suggestFull E st name d).st.dists.get? name = some d0 ∧ compat d0 d = true ∧
      (suggestFull E st name d).st.params.get? name = some v := by
  rcases suggestFull_cases E st name d with ⟨_, ⟨e, he⟩ | ⟨dOld, v', hd, hc, hv, heq⟩⟩ | ⟨_, _, w, n, v', br', q, _, heq⟩
  · rw [he] at h; cases h
  · rw [heq] at h ⊢; cases h; exact ⟨dOld, hd, hc, hv⟩
  · rw [heq] at h ⊢; cases h; exact ⟨d, AList.get?_set_same _ _ _, compat_refl d, AList.get?_set_same _ _ _⟩

/-- **gen_second_call_same_value_no_write** — for the code as written today: after a call for `name` has returned `v`
(new or reused), a second call with the same name and distribution returns the SAME `v` whatever the context is by
then (`E'`: any fixed / relative parameters, any sampler answer, even a storage that would refuse every write), leaves
the cache and the storage rows exactly as they are, asks no sampler and warns about nothing: no write is attempted. -/
theorem gen_second_call_same_value_no_write (E E' : SEnv) (st : St) (name : String) (d : Dist) (o : SOut) (v : Tok) (br : Branch)
    (h1 : interpSuggest program E st name d = some o) (hok : o.res = .ok (v, br)) :
    interpSuggest program E' o.st name d = some ⟨o.st, [], 0, .ok (v, .reused)⟩ := by
  rw [interp_suggest] at h1 ⊢
  cases h1
  obtain ⟨d0, hd, hc, hv⟩ := suggestFull_ok_records E st name d v br hok
  rw [suggestFull_reused E' _ name d d0 v hd hc hv]
example : (interpSuggest program ⟨⟨[], [], []⟩, Dist.single, fun _ _ => .flt 9, true⟩
    ⟨[("y", .flt 3)], [("y", .flt .float 0 4 false none)], [("y", (3, .flt .float 0 4 false none))]⟩ "y" (.flt .float 0 4 false none)).map
      (fun o => (o.res, o.warns, o.sampled)) = some (.ok (.flt 3, .reused), [], 0) := by rw [interp_suggest]; decide

/-- **gen_fixed_value_handed_over** — for the code as written today: a fixed / enqueued value that `to_internal_repr`
accepts is what a new name gets and what is stored (internal form, with the distribution asked for) — INSIDE the domain
silently, OUTSIDE it with exactly the one warning of `_is_fixed_param`; no sampler is asked. -/
theorem gen_fixed_value_handed_over (E : SEnv) (st : St) (name : String) (d : Dist) (fv : Tok) (q : Rat)
    (hnew : st.dists.get? name = none) (hf : E.cx.fixed.get? name = some fv) (hq : d.toInternal fv = .ok q)
    (hw : E.writeFails = false) :
    interpSuggest program E st name d =
      some ⟨{ params := st.params.set name fv, dists := st.dists.set name d, stored := st.stored.set name (q, d) },
            if d.contains q then [] else [.fixedOutOfRange], 0, .ok (fv, .fixed)⟩ := by
  rw [interp_suggest]
  simp [suggestFull, pickFull, hnew, hf, hq, hw]
example : (interpSuggest program exE St.empty "x" (.flt .float 0 1 false none)).map (fun o => (o.res, o.warns)) =
    some (.ok (.flt 2, .fixed), [.fixedOutOfRange]) := by rw [interp_suggest]; decide
example : (interpSuggest program exE St.empty "x" (.flt .float 0 1 false none)).map (fun o => o.st.stored) =
    some [("x", (2, .flt .float 0 1 false none))] := by rw [interp_suggest]; decide
example : (interpSuggest program exE St.empty "x" (.flt .float 0 4 false none)).map (fun o => (o.res, o.warns)) =
    some (.ok (.flt 2, .fixed), []) := by rw [interp_suggest]; decide

/-- **gen_failed_call_changes_nothing** — for the code as written today: a call that ends in an exception — an
incompatible distribution, an invalid fixed / relative / sampled value, a relative parameter outside the relative search
space, a storage that refuses the write — leaves the trial-local cache and the storage rows exactly as they were. -/
theorem gen_failed_call_changes_nothing (E : SEnv) (st : St) (name : String) (d : Dist) (o : SOut) (e : Exn)
    (h : interpSuggest program E st name d = some o) (herr : o.res = .error e) : o.st = st := by
  rw [interp_suggest] at h
  cases h
  exact suggestFull_error_keeps_state E st name d e herr

example : (interpSuggest program exE ⟨[("y", .flt 3)], [("y", .flt .float 0 4 false none)], []⟩ "y" (.cat [.none])).map
    (fun o => (o.res, o.st.params, o.st.dists)) =
    some (.error (.err .valueError), [("y", .flt 3)], [("y", .flt .float 0 4 false none)]) := by rw [interp_suggest]; decide

/-- **gen_refused_write_records_nothing** — the storage write comes BEFORE the cache update: when `set_trial_param`
raises for a new name, neither `trial.params` nor `trial.distributions` has the name afterwards (so a retry samples and
stores again instead of handing out a value the study does not have). -/
theorem gen_refused_write_records_nothing (E : SEnv) (st : St) (name : String) (d : Dist) (o : SOut)
    (hw : E.writeFails = true) (hnew : st.dists.get? name = none)
    (h : interpSuggest program E st name d = some o) : o.st = st ∧ ∃ e, o.res = .error e := by
  rw [interp_suggest] at h
  cases h
  exact suggestFull_write_refused E st name d hw hnew
example : (interpSuggest program ⟨exCx, Dist.single, fun _ _ => .flt 1, true⟩ St.empty "y" (.flt .float 0 4 false none)).map
    (fun o => (o.res, o.st.params, o.st.dists)) = some (.error .storage, [], []) := by rw [interp_suggest]; decide

theorem suggestFull_member (cx : Ctx) (st : St) (name : String) (d : Dist) (indep v : Tok) (br : Branch)
    (hnew : st.dists.get? name = none) (hwf : WF d)
    (h : (suggestFull (envOf cx indep) st name d).res = .ok (v, br))
    (hfixed : ∀ fv, cx.fixed.get? name = some fv → Member d fv) (hindep : Member d indep) : Member d v := by
  have ht := suggestFull_envOf cx st name d indep
  simp only [toR, h] at ht
  cases hs : suggest cx st name d indep with
  | error e => simp [hs, liftR] at ht
  | ok r =>
    simp only [hs, liftR, Except.ok.injEq] at ht
    exact C10.suggest_in_domain cx st _ name d indep v br hnew (hs.trans (congrArg _ ht.symm)) hwf hfixed hindep

/-- **gen_suggest_float_in_domain** — for the code as written today: what `suggest_float(name, low, high, step=…, log=…)`
returns for a new name is a member of the `FloatDistribution` it declares — inside `[low, high']` and on the step grid,
`high'` the adjusted upper end — whichever branch produced it, provided the fixed value (if any) and the sampler's
independent answer are. -/
theorem gen_suggest_float_in_domain (cx : Ctx) (st : St) (name : String) (low high : Rat) (step : Option Rat) (log : Bool)
    (indep v : Tok) (o : AOut) (hnew : st.dists.get? name = none)
    (h : interpSuggestFloat program (envOf cx indep) st name low high step log = some o) (hok : o.res = .ok v)
    (hfixed : ∀ d fv, mkFlt .float low high log step = .ok d → cx.fixed.get? name = some fv → Member d fv)
    (hindep : ∀ d, mkFlt .float low high log step = .ok d → Member d indep) :
    ∃ d, mkFlt .float low high log step = .ok d ∧ Member d v := by
  rw [interp_suggestFloat] at h
  cases h
  obtain ⟨d, v0, br, hm, hres, hv⟩ := wrapper_ok (mk := mkFlt .float low high log step) (conv := .ok) hok
  cases hv
  exact ⟨d, hm, suggestFull_member cx st name d indep v br hnew (mkFlt_wf .float _ _ _ _ _ (by simp [FClsOK]) hm) hres (hfixed d · hm) (hindep d hm)⟩
example : (interpSuggestFloat program (envOf ⟨[], [], []⟩ (.flt (7/10))) St.empty "x" 0 1 (some (3/10)) false).map (fun o => (o.res, o.st.dists)) =
    some (.ok (.flt (7/10)), [("x", .flt .float 0 (9/10) false (some (3/10)))]) := by rw [interp_suggestFloat]; decide +kernel

theorem int_of_member (c : ICls) (low high : Int) (log : Bool) (step : Int) (hs : 0 < step) (v : Tok)
    (h : Member (.int c low high log step) v) :
    ∃ i : Int, intOfTok v = .ok (.int i) ∧ Member (.int c low high log step) (.int i) := by
  obtain ⟨q, hq, hc⟩ := h
  obtain ⟨i, rfl, -⟩ := (int_contains_iff c low high log step q hs).1 hc
  obtain ⟨hnum, hpos⟩ := (toInternal_num_iff rfl v _).1 hq
  refine ⟨i, ?_, _, (toInternal_num_iff rfl _ _).2 ⟨rfl, hpos⟩, hc⟩
  -- the three kinds of token whose number is `i`
  cases v <;> simp only [Tok.num?, Option.some.injEq, reduceCtorEq] at hnum
  case bool b => cases b <;> simp at hnum <;> obtain rfl : _ = i := (by exact_mod_cast hnum) <;> rfl
  case int j => rw [Int.cast_inj.1 hnum]; rfl
  case flt x => rw [hnum, intOfTok, truncI_intCast]

/-- **gen_suggest_int_returns_int** — for the code as written today: whatever `_suggest` hands back (an `int`, an integral
`float` that was enqueued, a `bool`), `suggest_int` returns an `int`. -/
theorem gen_suggest_int_returns_int (E : SEnv) (st : St) (name : String) (low high step : Int) (log : Bool) (o : AOut) (v : Tok)
    (h : interpSuggestInt program E st name low high step log = some o) (hok : o.res = .ok v) : ∃ i : Int, v = .int i := by
  rw [interp_suggestInt] at h
  cases h
  obtain ⟨d, v0, br, _, _, hv⟩ := wrapper_ok (mk := mkInt .int low high log step) (conv := intOfTok) hok
  cases v0 <;> simp [intOfTok] at hv <;> exact ⟨_, hv.symm⟩
example : (interpSuggestInt program (envOf ⟨[("n", .flt 4)], [], []⟩ (.int 1)) St.empty "n" 1 10 3 false).map (fun o => o.res) =
    some (.ok (.int 4)) := by rw [interp_suggestInt]; decide

/-- **gen_suggest_int_in_domain** — the `int` that `suggest_int` returns for a new name is a member of the `IntDistribution`
declared: in `[low, high']`, on the step grid — provided, as for `suggest_float`, the fixed value (if any) and the sampler's
independent answer are. -/
theorem gen_suggest_int_in_domain (cx : Ctx) (st : St) (name : String) (low high step : Int) (log : Bool)
    (indep v : Tok) (o : AOut) (hnew : st.dists.get? name = none)
    (h : interpSuggestInt program (envOf cx indep) st name low high step log = some o) (hok : o.res = .ok v)
    (hfixed : ∀ d fv, mkInt .int low high log step = .ok d → cx.fixed.get? name = some fv → Member d fv)
    (hindep : ∀ d, mkInt .int low high log step = .ok d → Member d indep) :
    ∃ d i, mkInt .int low high log step = .ok d ∧ v = .int i ∧ Member d (.int i) := by
  rw [interp_suggestInt] at h
  cases h
  obtain ⟨d, v0, br, hm, hres, hv⟩ := wrapper_ok (mk := mkInt .int low high log step) (conv := intOfTok) hok
  have hwf := mkInt_wf .int _ _ _ _ _ (by simp [IClsOK]) hm
  have hmem := suggestFull_member cx st name d indep v0 br hnew hwf hres (hfixed d · hm) (hindep d hm)
  -- past its four guards the constructor returns an `IntDistribution` with the step it was given
  obtain ⟨high', rfl⟩ : ∃ high', d = .int .int low high' log step :=
    ⟨_, (Except.ok.inj (ok_of_guard (ok_of_guard (ok_of_guard (ok_of_guard hm).2).2).2).2).symm⟩
  obtain ⟨i, hi, hmi⟩ := int_of_member .int low high' log step hwf.2.2.1 v0 hmem
  rw [hi] at hv
  cases hv
  exact ⟨_, i, hm, rfl, hmi⟩

example : mkInt .int 1 10 false 3 = .ok (.int .int 1 10 false 3) ∧ mkInt .int 1 9 false 3 = .ok (.int .int 1 7 false 3) := by
  decide +kernel

/-- **gen_suggest_categorical_in_choices** — what `suggest_categorical(name, choices)` returns for a new name is one of the
choices (up to Python `==`), provided the fixed value (if any) and the sampler's answer are. -/
theorem gen_suggest_categorical_in_choices (cx : Ctx) (st : St) (name : String) (choices : List Tok)
    (indep v : Tok) (o : AOut) (hnew : st.dists.get? name = none)
    (h : interpSuggestCategorical program (envOf cx indep) st name choices = some o) (hok : o.res = .ok v)
    (hfixed : ∀ fv, cx.fixed.get? name = some fv → Member (.cat choices) fv) (hindep : Member (.cat choices) indep) :
    Member (.cat choices) v := by
  rw [interp_suggestCategorical] at h
  cases h
  obtain ⟨d, v0, br, hm, hres, hv⟩ := wrapper_ok (mk := mkCat choices) (conv := .ok) hok
  cases hv
  obtain rfl : d = .cat choices := by
    unfold mkCat at hm
    split at hm
    · simp at hm
    · simp at hm; exact hm.symm
  exact suggestFull_member cx st name _ indep v br hnew (mkCat_wf _ _ hm) hres hfixed hindep
example : (interpSuggestCategorical program (envOf ⟨[("c", .none)], [], []⟩ (.str "a")) St.empty "c" [.str "a", .none]).map (fun o => (o.res, o.st.stored)) =
    some (.ok .none, [("c", (1, .cat [.str "a", .none]))]) := by rw [interp_suggestCategorical]; decide

/-- **gen_given_value_returned** — `FixedTrial._suggest` / `FrozenTrial._suggest` as written today return the value given at
construction for the name (never anything else); without a warning that value is a member of the distribution asked for; a
`FixedTrial` shows it in `params`. -/
theorem gen_given_value_returned (E : SEnv) (st : St) (name : String) (d : Dist) (record : Bool) (o : AOut) (v : Tok)
    (h : interpGivenSuggest program E (if record then program.fixedSuggest else program.frozenSuggest) st name d = some o)
    (hok : o.res = .ok v) :
    E.cx.fixed.get? name = some v ∧ (o.warns = [] → Member d v) ∧ (record = true → o.st.params.get? name = some v) ∧
      o.st.dists.get? name = some d := by
  rw [interp_given] at h
  cases h
  unfold givenSuggestH at hok ⊢
  cases hf : E.cx.fixed.get? name with
  | none => simp [hf] at hok
  | some fv =>
    simp only [hf] at hok ⊢
    cases hq : d.toInternal fv with
    | error e => simp [hq] at hok
    | ok q =>
      simp only [hq] at hok ⊢
      cases hd : st.dists.get? name with
      | none =>
        simp [hd] at hok ⊢
        subst hok
        -- the only warning there is says `_contains` failed on the internal value: none means membership
        refine ⟨rfl, fun hc => ⟨q, hq, hc⟩, ?_, AList.get?_set_same _ _ _⟩
        intro hr; subst hr; simp [AList.get?_set_same]
      | some dOld =>
        cases hcp : compat dOld d with
        | false => simp [hd, hcp] at hok
        | true =>
          simp [hd, hcp] at hok ⊢
          subst hok
          refine ⟨rfl, fun hc => ⟨q, hq, hc⟩, ?_, AList.get?_set_same _ _ _⟩
          intro hr; subst hr; simp [AList.get?_set_same]

example : (interpGivenSuggest program ⟨⟨[("x", .flt 5)], [], []⟩, Dist.single, fun _ _ => .none, false⟩ program.fixedSuggest St.empty "x"
    (.flt .float 0 1 false none)).map (fun o => (o.res, o.warns)) = some (.ok (.flt 5), [.outOfRange]) := by rw [interp_fixedSuggest]; decide

end OptunaVerif.C10SuggestGen

