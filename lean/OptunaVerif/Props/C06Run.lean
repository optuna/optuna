import OptunaVerif.Model.JournalRun
import OptunaVerif.Props.C06FrontGen
/-!
# C06 — run-level theorems

`C06.replay_is_fold` / `workers_converge` are statements about ONE replica and a predicate.  Here the
whole system: any number of workers, one shared log, the events `append / sync / call / snapshot /
restore / join / crash` of `Model/JournalRun.lean`, and induction over ALL event lists: the invariant `Inv`
(every live replica and every saved snapshot is `Synced`), `replica_is_replay_of_prefix`, `restore_is_synced`,
`workers_converge_run`, `rejected_record_changes_nobody`; the issuer's answer
(`ack_is_contract_answer_run_partial` with the hypothesis `hpre`, `ack_is_contract_answer_run` without it for
runs with `FreshIds` — invariant `K`, `hpre_invariant`); and the same system over the generated
front end and handlers (`stepEvGen`, `workers_converge_run_gen`).

What of a replica is determined by the log prefix it has read, and what is issuer-relative:
* `spec` (studies and trials — everything `get_all_studies` / `get_all_trials` / `get_trial` show) and `cursor`
  are functions of the log prefix alone (`replica_is_replay_of_prefix`);
* `owned` (`_worker_id_to_owned_trial_id`) and `lastCreated` (`_last_created_trial_id_by_this_process`) are
  issuer-relative bookkeeping: they depend on which records the replaying worker issued itself and are reset
  by `restore`; no theorem below equates them across workers (`C06.issuer_independent` is about `spec`).
-/
namespace OptunaVerif.C06Run
open OptunaVerif.Storage OptunaVerif.Journal OptunaVerif.JournalRun

def fresh (log : List Rec) : Spec := C06.pubReplay Storage.init log

def Inv (s : Sys) : Prop :=
  (∀ p ∈ s.reps, C06.Synced s.log p.2) ∧ (∀ snap ∈ s.snaps, C06.Synced s.log snap)

theorem sync_all (w : String) (st : JState) (log : List Rec) :
    sync w st log log.length = applyLogs w st (log.drop st.cursor) := by
  unfold sync; rw [List.take_length]

theorem rep?_mem (s : Sys) (w : String) (st : JState) (h : s.rep? w = some st) : (w, st) ∈ s.reps := by
  unfold Sys.rep? at h
  cases hf : s.reps.find? (fun p => p.1 == w) with
  | none => simp [hf] at h
  | some p =>
    simp only [hf, Option.map_some, Option.some.injEq] at h
    have hm := List.mem_of_find?_eq_some hf
    have hp : p.1 = w := by simpa using List.find?_some hf
    obtain ⟨a, b⟩ := p
    simp only at hp h; subst hp h; exact hm

theorem mem_setRep (s : Sys) (w : String) (st : JState) (p : String × JState) (h : p ∈ (s.setRep w st).reps) :
    p = (w, st) ∨ p ∈ s.reps := by
  simp only [Sys.setRep, List.mem_cons, List.mem_filter] at h
  rcases h with h | h
  · exact .inl h
  · exact .inr h.1

theorem find?_filter_ne (l : List (String × JState)) (w w' : String) :
    (l.filter (fun p => p.1 != w')).find? (fun p => p.1 == w) =
      if w' = w then none else l.find? (fun p => p.1 == w) := by
  rw [List.find?_filter]
  split
  · next h => subst h; simp
  · next h =>
    congr 1; funext a
    simp only [bne_iff_ne, ne_eq, beq_iff_eq, Bool.decide_and]
    by_cases ha : a.1 = w <;> simp [ha, Ne.symm h]

theorem rep?_setRep (s : Sys) (w w' : String) (st : JState) :
    (s.setRep w' st).rep? w = if w' = w then some st else s.rep? w := by
  simp only [Sys.setRep, Sys.rep?, List.find?_cons, find?_filter_ne]
  by_cases h : w' = w <;> simp [h, beq_false_of_ne]

theorem rep?_crash (s : Sys) (w w' : String) :
    Sys.rep? { s with reps := s.reps.filter (fun p => p.1 != w') } w = if w' = w then none else s.rep? w := by
  simp only [Sys.rep?, find?_filter_ne]
  split <;> rfl

-- `Synced` looks at `cursor` and `spec` only, and `restore` resets the other fields
theorem restore_synced (log : List Rec) (snap : JState) (h : C06.Synced log snap) : C06.Synced log (restore snap) := h

theorem inv_append (s : Sys) (w : String) (op : Op) (h : Inv s) : Inv (doAppend s w op) := by
  unfold doAppend
  split
  · exact ⟨fun p hp => C06.synced_mono s.log _ p.2 (h.1 p hp), fun sn hs => C06.synced_mono s.log _ sn (h.2 sn hs)⟩
  · exact h

theorem inv_setRep (s : Sys) (w : String) (st : JState) (h : Inv s) (hst : C06.Synced s.log st) : Inv (s.setRep w st) := by
  refine ⟨fun p hp => ?_, h.2⟩
  rcases mem_setRep s w _ p hp with e | e
  · rw [e]; exact hst
  · exact h.1 p e

theorem inv_sync (s : Sys) (w : String) (h : Inv s) : Inv (doSync s w) := by
  unfold doSync
  cases hst : s.rep? w with
  | none => exact h
  | some st => exact inv_setRep s w _ h (C06.sync_keeps_synced w s.log s.log.length st (h.1 _ (rep?_mem s w st hst)))

theorem inv_step (s : Sys) (e : Ev) (h : Inv s) : Inv (stepEv s e) := by
  cases e with
  | append w op => exact inv_append s w op h
  | sync w => exact inv_sync s w h
  | call w op => exact inv_sync _ w (inv_append s w op h)
  | snapshot w =>
    simp only [stepEv]
    cases hst : s.rep? w with
    | none => exact h
    | some st =>
      refine ⟨h.1, fun sn hs => ?_⟩
      rcases List.mem_append.1 hs with e | e
      · exact h.2 sn e
      · simp at e; rw [e]; exact h.1 _ (rep?_mem s w st hst)
  | restore w k =>
    simp only [stepEv]
    cases hk : s.snaps[k]? with
    | none => exact h
    | some snap => exact inv_setRep s w _ h (restore_synced s.log snap (h.2 snap (List.mem_of_getElem? hk)))
  | join w =>
    simp only [stepEv]
    cases hst : s.rep? w with
    | some st => exact h
    | none => exact inv_setRep s w _ h (C06.init_synced s.log)
  | crash w =>
    exact ⟨fun p hp => h.1 p (List.mem_filter.1 hp).1, h.2⟩

theorem inv_run (s : Sys) (evs : List Ev) (h : Inv s) : Inv (run s evs) := by
  induction evs generalizing s with
  | nil => exact h
  | cons e rest ih => exact ih _ (inv_step s e h)

theorem inv_init : Inv Sys.init := ⟨by intro p hp; simp [Sys.init] at hp, by intro p hp; simp [Sys.init] at hp⟩

/-- after ANY list of events, every live worker's replica holds, in its public
part (`spec`), exactly the replay of the first `cursor` records of the shared log, and its cursor is within the
log; the same holds of every snapshot ever saved.  (`owned` / `lastCreated` are issuer-relative: see the header.) -/
theorem replica_is_replay_of_prefix (evs : List Ev) :
    let s := run Sys.init evs
    (∀ w st, s.rep? w = some st → st.cursor ≤ s.log.length ∧ st.spec = fresh (s.log.take st.cursor)) ∧
    (∀ snap ∈ s.snaps, snap.cursor ≤ s.log.length ∧ snap.spec = fresh (s.log.take snap.cursor)) := by
  intro s
  have hI := inv_run Sys.init evs inv_init
  exact ⟨fun w st h => hI.1 _ (rep?_mem s w st h), fun sn hs => hI.2 sn hs⟩

/-- whichever snapshot `k` (saved at any earlier point by any worker) a worker `w` — live,
crashed or fresh — adopts, right after the `restore` its replica holds the replay of the prefix the snapshot had
read, and once it has read the tail (`cursor = |log|`, by any number of later syncs, whatever else happened in
between) its public state is the fresh replay of the whole log. -/
theorem restore_is_synced (evs later : List Ev) (w : String) (k : Nat) (snap : JState)
    (hk : (run Sys.init evs).snaps[k]? = some snap) :
    (stepEv (run Sys.init evs) (.restore w k)).rep? w = some (restore snap) ∧
    C06.Synced (run Sys.init evs).log (restore snap) ∧
    (∀ st, (run (stepEv (run Sys.init evs) (.restore w k)) later).rep? w = some st →
      st.cursor = (run (stepEv (run Sys.init evs) (.restore w k)) later).log.length →
      st.spec = fresh (run (stepEv (run Sys.init evs) (.restore w k)) later).log) := by
  have hI := inv_run Sys.init evs inv_init
  refine ⟨?_, restore_synced _ snap (hI.2 snap (List.mem_of_getElem? hk)), ?_⟩
  · simp [stepEv, hk, rep?_setRep]
  · intro st hst hc
    have hI2 := inv_run _ later (inv_step _ (.restore w k) hI)
    have := hI2.1 _ (rep?_mem _ w st hst)
    rw [this.2, hc, List.take_length]; rfl

/-- in every reachable state, any two live workers that have read the same number of
records expose the same studies and trials; and every worker that has read the whole log exposes the fresh replay
of the whole log — whoever issued which record, however the syncs were batched and aborted, whichever snapshots
were restored, whoever crashed. -/
theorem workers_converge_run (evs : List Ev) (w w' : String) (st st' : JState)
    (h : (run Sys.init evs).rep? w = some st) (h' : (run Sys.init evs).rep? w' = some st') :
    (st.cursor = st'.cursor → st.spec = st'.spec) ∧
    (st.cursor = (run Sys.init evs).log.length → st.spec = fresh (run Sys.init evs).log) := by
  have hI := inv_run Sys.init evs inv_init
  have a := hI.1 _ (rep?_mem _ w st h)
  have b := hI.1 _ (rep?_mem _ w' st' h')
  refine ⟨fun hc => C06.workers_converge _ st st' a b hc, fun hc => ?_⟩
  rw [a.2, hc, List.take_length]; rfl

/-- a sync makes progress: it either reaches the end of the log or raises (for one of the worker's own records) and
has moved past that record — so finitely many syncs reach the end -/
theorem sync_progress (w : String) (log : List Rec) (st : JState) (hc : st.cursor ≤ log.length) :
    ((sync w st log log.length).2 = none → (sync w st log log.length).1.cursor = log.length) ∧
    ((sync w st log log.length).2 ≠ none → st.cursor < (sync w st log log.length).1.cursor) := by
  rw [sync_all]
  obtain ⟨n, hn, hcur, _, hnone, hsome⟩ := C06.applyLogs_prefix w st (log.drop st.cursor)
  rw [List.length_drop] at hn hnone
  constructor
  · intro h; rw [hcur, hnone h]; omega
  · intro h; rw [hcur]; have := hsome h; omega

/-- run level: when a `sync` of worker `w` raises `e` in a reachable state, the
record it stopped at (the one just before its new cursor) was issued by `w` itself, and that record changed the public
state of NO replica: the replay of the log up to and including it equals the replay up to it — for `w` and for every
other worker that reads past it. -/
theorem rejected_record_changes_nobody (evs : List Ev) (w : String) (st : JState) (e : Err)
    (h : (run Sys.init evs).rep? w = some st)
    (he : (sync w st (run Sys.init evs).log (run Sys.init evs).log.length).2 = some e) :
    let log := (run Sys.init evs).log
    let st' := (sync w st log log.length).1
    ∃ r, log[st'.cursor - 1]? = some r ∧ r.worker = w ∧ 0 < st'.cursor ∧
      fresh (log.take st'.cursor) = fresh (log.take (st'.cursor - 1)) := by
  intro log st'
  have hs := (inv_run Sys.init evs inv_init).1 _ (rep?_mem _ w st h)
  have hst' : st' = (applyLogs w st (log.drop st.cursor)).1 := congrArg Prod.fst (sync_all w st log)
  rw [sync_all] at he
  -- the batch stopped at a rejected record `r` of `w` itself: the log is `p ++ a ++ r :: b`, `p` what `w` had read
  rcases applyLogs_cases w st (log.drop st.cursor) with h0 | ⟨a, r, b, e', hrs, hw, hrej, h0⟩
  · rw [h0] at he; cases he
  · have hcur : st'.cursor - 1 = st.cursor + a.length ∧ st'.cursor = st.cursor + a.length + 1 := by
      rw [hst', h0, (C06.applyAll_pub w st _).2]; simp; omega
    have hlog : log = (log.take st.cursor ++ a) ++ r :: b := by
      rw [List.append_assoc, ← hrs, List.take_append_drop]
    have hfresh : fresh (log.take st.cursor ++ a) = (applyAll w st a).spec := by
      rw [(C06.applyAll_pub w st a).1, hs.2]; exact C06.pubReplay_append _ _ _
    generalize hp : log.take st.cursor ++ a = p at hlog hfresh
    have hlen : st.cursor + a.length = p.length := by
      rw [← hp, List.length_append, List.length_take, Nat.min_eq_left hs.1]
    rw [hcur.1, hcur.2, hlen, hlog]
    refine ⟨r, by simp, hw, Nat.succ_pos _, ?_⟩
    rw [take_succ_append_cons, List.take_left]
    rw [show fresh (p ++ [r]) = applySpec (fresh p) r from C06.pubReplay_append _ p [r], hfresh]
    unfold applySpec; rw [hrej]

theorem applyAll_tail (w : String) (log : List Rec) (st : JState) (hs : C06.Synced log st) :
    (applyAll w st (log.drop st.cursor)).spec = fresh log ∧ (applyAll w st (log.drop st.cursor)).cursor = log.length := by
  constructor
  · rw [(C06.applyAll_pub w st _).1, hs.2]
    unfold fresh; rw [← C06.pubReplay_append, List.take_append_drop]
  · have hle : st.cursor ≤ log.length := hs.1
    rw [(C06.applyAll_pub w st _).2, List.length_drop]; omega

theorem issue_worker (w : String) (op : Op) (r : Rec) (h : issue w op = some r) : r.worker = w := by
  cases op <;> simp [issue] at h <;> subst h <;> rfl

theorem issue_eq_recOf (w : String) (op : Op) : issue w op = C06FrontGen.recOf w op := by
  cases op <;> rfl

/-- in every reachable state, when live worker `w` makes the call `op`
(`append` + `sync` under its lock), the error it is answered is exactly the contract's error for `op` in the
contract state AT THE POSITION OF ITS RECORD IN THE LOG ORDER (the fresh replay of everything appended before it,
by whomever), and if none is raised its replica then shows the contract's state after that call, has read the
whole log, and (for `create_new_trial`) holds as last created id the contract's new id.
PARTIAL — remaining hypothesis `hpre`: the part of the log `w` has not read yet contains no record of `w` itself
(true when worker ids are unique per object and every call syncs, as the front end does: a run invariant under
`FreshIds`, `hpre_invariant` below, which gives `ack_is_contract_answer_run`; not an invariant of every run,
because `restore` / `join` may reuse the id of a crashed worker). -/
theorem ack_is_contract_answer_run_partial (evs : List Ev) (w : String) (st : JState) (op : Op) (r : Rec)
    (h : (run Sys.init evs).rep? w = some st) (hr : issue w op = some r)
    (hpre : ∀ x ∈ (run Sys.init evs).log.drop st.cursor, (x.worker == w) = false) :
    let log := (run Sys.init evs).log
    let res := sync w st (log ++ [r]) (log ++ [r]).length
    let cop := C06FrontGen.withRaised op (rejects (fresh log) r == some .valueError)
    (stepEv (run Sys.init evs) (.call w op)).rep? w = some res.1 ∧
    res.2 = errOf (Storage.step (fresh log) cop).2 ∧
    (res.2 = none →
      res.1.spec = (Storage.step (fresh log) cop).1 ∧ res.1.cursor = (log ++ [r]).length ∧
      (∀ sid t b, op = .createTrial sid t b → res.1.lastCreated = some (fresh log).trials.length)) := by
  intro log res cop
  have hs := (inv_run Sys.init evs inv_init).1 _ (rep?_mem _ w st h)
  -- the batch read by the sync: the unread foreign records, then the own record
  have hres : res = applyLogs w st (log.drop st.cursor ++ [r]) := by
    show sync w st (log ++ [r]) (log ++ [r]).length = _
    rw [sync_all, List.drop_append_of_le_length hs.1]
  -- the replica just before its own record holds the fresh replay of the log
  obtain ⟨hst1, _⟩ := applyAll_tail w log st hs
  obtain ⟨herr, hrest⟩ := C06FrontGen.call_at_position w st op r (log.drop st.cursor) [] (issue_eq_recOf w op ▸ hr) hpre
    (by intro x hx; cases hx) (hst1 ▸ C06.jinv_replay _ log jinv_init)
  dsimp only at herr hrest
  rw [hst1, ← hres] at herr hrest
  refine ⟨?_, herr, fun hacc => ⟨(hrest hacc).1, ?_, ?_⟩⟩
  · have h2 : (doAppend (JournalRun.run Sys.init evs) w op).rep? w = some st := by
      simp only [doAppend, h, hr]; exact h
    have h3 : (doAppend (JournalRun.run Sys.init evs) w op).log = log ++ [r] := by
      simp only [doAppend, h, hr]; rfl
    simp only [stepEv, doSync, h2, h3, rep?_setRep, if_true]; rfl
  · rw [(hrest hacc).2.1]; simp only [List.length_drop, List.length_append, List.length_cons, List.length_nil]
    have hle : st.cursor ≤ log.length := hs.1
    omega
  · intro sid t b hop
    subst hop
    simp only [issue, Option.some.injEq] at hr
    subst hr
    exact (hrest hacc).2.2.2

abbrev handlers := OptunaVerif.Generated.JournalHandlers.program

/-- one event with `_sync_with_backend` running the handlers generated from the source (`JournalIR.syncLogs`) and
the record built by the generated front end (`C06FrontGen.frontRec`) -/
def stepEvGen (s : Sys) : Ev → Sys
  | .append w op => match s.rep? w, C06FrontGen.frontRec w op with
    | some _, some r => { s with log := s.log ++ [r] }
    | _, _ => s
  | .sync w => match s.rep? w with
    | some st => s.setRep w (JournalIR.syncLogs handlers w st s.log s.log.length).1
    | none => s
  | .call w op =>
    let s1 := match s.rep? w, C06FrontGen.frontRec w op with
      | some _, some r => { s with log := s.log ++ [r] }
      | _, _ => s
    match s1.rep? w with
    | some st => s1.setRep w (JournalIR.syncLogs handlers w st s1.log s1.log.length).1
    | none => s1
  | e => stepEv s e

def evOK : Ev → Bool
  | .append _ op | .call _ op => C06FrontGen.frontOK op
  | _ => true

theorem stepEvGen_eq (s : Sys) (e : Ev) (h : evOK e = true) : stepEvGen s e = stepEv s e := by
  cases e with
  | append w op =>
    simp only [stepEvGen, stepEv, doAppend, C06FrontGen.front_builds w op h, issue_eq_recOf]
    cases s.rep? w <;> cases C06FrontGen.recOf w op <;> rfl
  | sync w =>
    simp only [stepEvGen, stepEv, doSync, C06Gen.syncLogs_eq]
    cases s.rep? w <;> rfl
  | call w op =>
    simp only [stepEvGen, stepEv, doAppend, doSync, C06FrontGen.front_builds w op h, issue_eq_recOf, C06Gen.syncLogs_eq]
    cases hrp : s.rep? w <;> cases hrc : C06FrontGen.recOf w op <;> simp only [hrp] <;>
      (first | rfl | (rename_i r; have : Sys.rep? { s with log := s.log ++ [r] } w = s.rep? w := rfl
                      simp only [this, hrp]))
  | _ => rfl

theorem runGen_eq (s : Sys) (evs : List Ev) (h : evs.all evOK = true) : evs.foldl stepEvGen s = JournalRun.run s evs := by
  induction evs generalizing s with
  | nil => rfl
  | cons e rest ih =>
    simp only [List.all_cons, Bool.and_eq_true] at h
    simp only [List.foldl_cons, JournalRun.run, stepEvGen_eq s e h.1]
    exact ih _ h.2

/-- the run-level convergence theorem for the code as generated from the source —
records built by the generated front end, replicas advanced by the generated handlers —, for event lists whose
`create_new_trial` templates are what the callers guarantee (`evOK`, i.e. `C06FrontGen.frontOK`). -/
theorem workers_converge_run_gen (evs : List Ev) (hok : evs.all evOK = true) (w w' : String) (st st' : JState)
    (h : (evs.foldl stepEvGen Sys.init).rep? w = some st) (h' : (evs.foldl stepEvGen Sys.init).rep? w' = some st') :
    (st.cursor ≤ (evs.foldl stepEvGen Sys.init).log.length ∧ st.spec = fresh ((evs.foldl stepEvGen Sys.init).log.take st.cursor)) ∧
    (st.cursor = st'.cursor → st.spec = st'.spec) ∧
    (st.cursor = (evs.foldl stepEvGen Sys.init).log.length → st.spec = fresh (evs.foldl stepEvGen Sys.init).log) := by
  rw [runGen_eq _ evs hok] at h h' ⊢
  exact ⟨(replica_is_replay_of_prefix evs).1 w st h, workers_converge_run evs w w' st st' h h'⟩

/-! ## non-vacuity: three workers, a rejected record, a snapshot mid-way, a restore by a fresh worker, a crash -/

def demoRun : List Ev :=
  [ .join "A", .join "B", .join "C",
    .call "A" (.createStudy "s" [1]), .call "B" (.createStudy "s" [2]),        -- B's duplicate is rejected (at B only)
    .call "A" (.createTrial 0 none false), .sync "C", .snapshot "C",           -- snapshot after 3 records
    .append "B" (.createTrial 0 none false), .call "A" (.setTrialStateValues 0 .complete (some [.fin 1])),
    .crash "B",                                                                -- B dies with an unread record of its own in the log
    .restore "D" 0, .sync "D", .sync "C" ]                                     -- fresh worker D adopts C's snapshot, reads the tail

example : demoRun.all evOK = true := by decide +kernel
example : (JournalRun.run Sys.init demoRun).log.length = 5 := by decide +kernel
example : ackErr (JournalRun.run Sys.init (demoRun.take 4 ++ [.append "B" (.createStudy "s" [2])])) "B" = some .duplicated := by decide +kernel
example : ((JournalRun.run Sys.init demoRun).snaps[0]?).map (·.cursor) = some 3 := by decide +kernel
example : (JournalRun.run Sys.init demoRun).rep? "B" = none := by decide +kernel
example : ((JournalRun.run Sys.init demoRun).rep? "D").map (·.cursor) = some 5 := by decide +kernel
example : ((JournalRun.run Sys.init demoRun).rep? "D").map (·.spec) = some (fresh (JournalRun.run Sys.init demoRun).log) := by decide +kernel
example : ((JournalRun.run Sys.init demoRun).rep? "D").map (·.spec) = ((JournalRun.run Sys.init demoRun).rep? "C").map (·.spec) := by decide +kernel
example : ((JournalRun.run Sys.init demoRun).rep? "A").map (·.cursor) = some 5 := by decide +kernel
example : demoRun.foldl stepEvGen Sys.init = JournalRun.run Sys.init demoRun := runGen_eq _ _ (by decide)

def own (w : String) (l : List Rec) : Nat := l.countP (fun x => x.worker == w)

theorem sync_own (w : String) (st : JState) (log : List Rec) :
    own w (log.drop (sync w st log log.length).1.cursor) ≤ own w (log.drop st.cursor) - 1 := by
  rw [sync_all]
  -- the sync reads to the end of the log, or up to and including a record of the reader itself
  rcases applyLogs_cases w st (log.drop st.cursor) with h | ⟨a, r, b, e, hrs, hw, _, h⟩ <;>
    rw [h, (C06.applyAll_pub w st _).2, ← List.drop_drop]
  · rw [List.drop_length]; exact Nat.zero_le _
  · rw [hrs, show a ++ r :: b = (a ++ [r]) ++ b by simp, List.drop_left]
    unfold own
    simp only [List.countP_append, List.countP_cons, List.countP_nil, hw, beq_self_eq_true, if_true]
    omega

/-- the ghost invariant for worker `w`: all records and all live workers carry ids that joined / restored before
(`seen`), and `w` has at most `p` records of its own in the part of the log it has not read -/
def K (w : String) (s : Sys) (seen : List String) (p : Nat) : Prop :=
  (∀ x ∈ s.log, x.worker ∈ seen) ∧ (∀ q ∈ s.reps, q.1 ∈ seen) ∧
  (∀ st, s.rep? w = some st → own w (s.log.drop st.cursor) ≤ p)

def seenStep (seen : List String) : Ev → List String
  | .join w => w :: seen
  | .restore w _ => w :: seen
  | _ => seen

def okEv (seen : List String) : Ev → Bool
  | .join w => !seen.contains w
  | .restore w _ => !seen.contains w
  | _ => true

theorem freshFrom_cons (seen : List String) (e : Ev) (rest : List Ev) :
    freshFrom seen (e :: rest) = (okEv seen e && freshFrom (seenStep seen e) rest) := by
  cases e <;> simp [freshFrom, okEv, seenStep]

theorem k_append (w w' : String) (op : Op) (s : Sys) (seen : List String) (p : Nat) (hk : K w s seen p) (hI : Inv s) :
    K w (doAppend s w' op) seen (if w' == w then p + 1 else p) := by
  obtain ⟨ha, hb, hc⟩ := hk
  unfold doAppend
  split
  · rename_i st' r hl hr
    have hrw := issue_worker w' op r hr
    refine ⟨?_, hb, ?_⟩
    · intro x hx
      simp only [List.mem_append, List.mem_singleton] at hx
      rcases hx with hx | hx
      · exact ha x hx
      · rw [hx, hrw]; exact hb _ (rep?_mem s w' st' hl)
    · intro st hst
      have hst' : s.rep? w = some st := hst
      have hle : st.cursor ≤ s.log.length := (hI.1 _ (rep?_mem s w st hst')).1
      show own w ((s.log ++ [r]).drop st.cursor) ≤ _
      rw [List.drop_append_of_le_length hle]
      unfold own
      rw [List.countP_append]
      have := hc st hst'
      unfold own at this
      simp only [List.countP_cons, List.countP_nil, hrw]
      cases hww : w' == w <;> simp <;> omega
  · refine ⟨ha, hb, fun st hst => ?_⟩
    have := hc st hst
    split <;> omega

theorem k_setRep (w w' : String) (s : Sys) (seen : List String) (p p' : Nat) (st1 : JState) (hk : K w s seen p)
    (hs : w' ∈ seen) (h1 : w' = w → own w (s.log.drop st1.cursor) ≤ p') (h2 : w' ≠ w → p ≤ p') :
    K w (s.setRep w' st1) seen p' := by
  refine ⟨hk.1, fun q hq => ?_, fun st hst => ?_⟩
  · rcases mem_setRep s w' _ q hq with e | e
    · rw [e]; exact hs
    · exact hk.2.1 q e
  · rw [rep?_setRep] at hst
    split at hst
    · next e => cases hst; exact h1 e
    · next e => exact Nat.le_trans (hk.2.2 st hst) (h2 e)

theorem k_sync (w w' : String) (s : Sys) (seen : List String) (p : Nat) (hk : K w s seen p) :
    K w (doSync s w') seen (if w' == w then p - 1 else p) := by
  unfold doSync
  cases hl : s.rep? w' with
  | none =>
    -- nothing happens, and if `w' = w` then `w` has no replica
    refine ⟨hk.1, hk.2.1, fun st hst => ?_⟩
    have := hk.2.2 st hst
    by_cases e : w' = w
    · rw [← e, hl] at hst; cases hst
    · simpa [e] using this
  | some st' =>
    refine k_setRep w w' s seen p _ _ hk (hk.2.1 _ (rep?_mem s w' st' hl)) (fun e => ?_) (fun e => by simp [e])
    subst e
    have h1 := sync_own w' st' s.log
    have h2 := hk.2.2 st' hl
    simp only [beq_self_eq_true, if_true]
    omega

theorem k_mono (s : Sys) (seen : List String) (x : String) (hl : ∀ y ∈ s.log, y.worker ∈ seen)
    (hr : ∀ q ∈ s.reps, q.1 ∈ seen) :
    (∀ y ∈ s.log, y.worker ∈ x :: seen) ∧ (∀ q ∈ s.reps, q.1 ∈ x :: seen) :=
  ⟨fun y hy => List.mem_cons_of_mem _ (hl y hy), fun q hq => List.mem_cons_of_mem _ (hr q hq)⟩

theorem own_fresh (w : String) (log : List Rec) (seen : List String) (n : Nat) (ha : ∀ x ∈ log, x.worker ∈ seen)
    (hw : seen.contains w = false) : own w (log.drop n) = 0 := by
  unfold own
  rw [List.countP_eq_zero]
  intro x hx
  have := ha x (List.mem_of_mem_drop hx)
  intro hxw
  have e : x.worker = w := by simpa using hxw
  rw [e] at this
  have : seen.contains w = true := by simpa using this
  rw [hw] at this; cases this

theorem k_setRep_fresh (w w' : String) (s : Sys) (seen : List String) (p : Nat) (st0 : JState) (hk : K w s seen p)
    (hok : seen.contains w' = false) : K w (s.setRep w' st0) (w' :: seen) p := by
  obtain ⟨hm1, hm2⟩ := k_mono s seen w' hk.1 hk.2.1
  exact k_setRep w w' s _ p p st0 ⟨hm1, hm2, hk.2.2⟩ List.mem_cons_self
    (fun e => by rw [← e, own_fresh w' s.log seen _ hk.1 hok]; exact Nat.zero_le _) (fun _ => Nat.le_refl _)

theorem k_step (w : String) (s : Sys) (seen : List String) (p : Nat) (e : Ev) (hk : K w s seen p) (hI : Inv s)
    (hok : okEv seen e = true) : K w (stepEv s e) (seenStep seen e) (pendStep w p e) := by
  -- `p` bounds `w`'s own unread records: its `append` adds one, its `sync` reads at least one of them (`sync_own`), so its
  -- `call` leaves `p`; an id that joins or restores is new (`hok`), so no record of the log is its own (`own_fresh`)
  cases e with
  | append w' op => exact k_append w w' op s seen p hk hI
  | sync w' => exact k_sync w w' s seen p hk
  | call w' op =>
    have h1 := k_sync w w' _ seen _ (k_append w w' op s seen p hk hI)
    have : (if (w' == w) = true then (if (w' == w) = true then p + 1 else p) - 1 else if (w' == w) = true then p + 1 else p) = p := by
      split <;> omega
    rw [this] at h1
    exact h1
  | snapshot w' =>
    simp only [stepEv, seenStep, pendStep]
    split
    · exact hk
    · exact hk
  | crash w' =>
    simp only [stepEv, seenStep, pendStep]
    refine ⟨hk.1, ?_, ?_⟩
    · intro q hq
      simp only [List.mem_filter] at hq
      exact hk.2.1 q hq.1
    · intro st hst
      rw [rep?_crash] at hst
      split at hst
      · cases hst
      · exact hk.2.2 st hst
  | join w' =>
    have hc : seen.contains w' = false := by simpa [okEv] using hok
    simp only [stepEv, seenStep, pendStep]
    split
    · rename_i st' hl
      exfalso
      have := hk.2.1 _ (rep?_mem s w' st' hl)
      have : seen.contains w' = true := by simpa using this
      rw [hc] at this; cases this
    · exact k_setRep_fresh w w' s seen p _ hk hc
  | restore w' k =>
    have hc : seen.contains w' = false := by simpa [okEv] using hok
    simp only [stepEv, seenStep, pendStep]
    split
    · exact k_setRep_fresh w w' s seen p _ hk hc
    · obtain ⟨hm1, hm2⟩ := k_mono s seen w' hk.1 hk.2.1
      exact ⟨hm1, hm2, hk.2.2⟩

theorem k_run (w : String) (evs : List Ev) : ∀ (s : Sys) (seen : List String) (p : Nat), K w s seen p → Inv s →
    freshFrom seen evs = true → ∃ seen', K w (run s evs) seen' (evs.foldl (pendStep w) p) := by
  induction evs with
  | nil => intro s seen p hk _ _; exact ⟨seen, hk⟩
  | cons e rest ih =>
    intro s seen p hk hI hf
    rw [freshFrom_cons, Bool.and_eq_true] at hf
    exact ih _ _ _ (k_step w s seen p e hk hI hf.1) (inv_step s e hI) hf.2

/-- in every run in which worker ids are never re-used (`FreshIds`: each `JournalStorage` object
draws a fresh uuid4), every live worker `w` that is between calls (`pending w evs = 0`: each of its `append`s has been
followed by its `sync`, as every public writer does before it returns) has read every record of its own: the part of
the log beyond its cursor contains no record issued by `w` -/
theorem hpre_invariant (evs : List Ev) (hf : FreshIds evs = true) (w : String) (st : JState)
    (h : (run Sys.init evs).rep? w = some st) (hp : pending w evs = 0) :
    ∀ x ∈ (run Sys.init evs).log.drop st.cursor, (x.worker == w) = false := by
  have hk0 : K w Sys.init [] 0 :=
    ⟨by intro x hx; simp [Sys.init] at hx, by intro q hq; simp [Sys.init] at hq, by intro st hst; simp [Sys.init, Sys.rep?] at hst⟩
  obtain ⟨seen', hk⟩ := k_run w evs Sys.init [] 0 hk0 inv_init hf
  have := hk.2.2 st h
  unfold pending at hp
  rw [hp] at this
  have h0 : own w ((run Sys.init evs).log.drop st.cursor) = 0 := by omega
  unfold own at h0
  rw [List.countP_eq_zero] at h0
  intro x hx
  simpa using h0 x hx

/-- `ack_is_contract_answer_run_partial` without `hpre`, for runs with `FreshIds` and a
worker that is between calls -/
theorem ack_is_contract_answer_run (evs : List Ev) (hf : FreshIds evs = true) (w : String) (st : JState) (op : Op) (r : Rec)
    (h : (run Sys.init evs).rep? w = some st) (hp : pending w evs = 0) (hr : issue w op = some r) :
    let log := (run Sys.init evs).log
    let res := sync w st (log ++ [r]) (log ++ [r]).length
    let cop := C06FrontGen.withRaised op (rejects (fresh log) r == some .valueError)
    (stepEv (run Sys.init evs) (.call w op)).rep? w = some res.1 ∧
    res.2 = errOf (Storage.step (fresh log) cop).2 ∧
    (res.2 = none →
      res.1.spec = (Storage.step (fresh log) cop).1 ∧ res.1.cursor = (log ++ [r]).length ∧
      (∀ sid t b, op = .createTrial sid t b → res.1.lastCreated = some (fresh log).trials.length)) :=
  ack_is_contract_answer_run_partial evs w st op r h hr (hpre_invariant evs hf w st h hp)

/-- in a `FreshIds` run, the sync of a worker that is between calls (what every getter
does first, under its lock) raises nothing, reads the whole log, and leaves the replica at the fresh replay of the
whole log -/
theorem sync_between_calls_reads_all (evs : List Ev) (hf : FreshIds evs = true) (w : String) (st : JState)
    (h : (run Sys.init evs).rep? w = some st) (hp : pending w evs = 0) :
    let log := (run Sys.init evs).log
    let res := sync w st log log.length
    (stepEv (run Sys.init evs) (.sync w)).rep? w = some res.1 ∧ res.2 = none ∧
    res.1.spec = fresh log ∧ res.1.cursor = log.length := by
  intro log res
  have hpre := hpre_invariant evs hf w st h hp
  have hI := inv_run Sys.init evs inv_init
  have hs := hI.1 _ (rep?_mem _ w st h)
  have hres : res = (applyAll w st (log.drop st.cursor), none) := by
    show sync w st log log.length = _
    have := applyLogs_append_foreign w st (log.drop st.cursor) [] hpre
    rw [List.append_nil] at this
    rw [sync_all, this]; rfl
  refine ⟨?_, by rw [hres], ?_, ?_⟩
  · simp only [stepEv, doSync, h]
    rw [rep?_setRep, if_pos rfl]
  · rw [hres]; exact (applyAll_tail w log st hs).1
  · rw [hres]; exact (applyAll_tail w log st hs).2

/-- a disciplined run stays disciplined: after a `call` the caller is between calls again -/
theorem pending_call (w : String) (evs : List Ev) (op : Op) : pending w (evs ++ [.call w op]) = pending w evs := by
  simp [pending, List.foldl_append, pendStep]

example : FreshIds demoRun = true := by decide +kernel
example : pending "A" demoRun = 0 ∧ pending "C" demoRun = 0 ∧ pending "D" demoRun = 0 := by decide +kernel
/-- B appended and crashed before its sync: it is not between calls -/
example : pending "B" (demoRun.take 9) = 1 := by decide +kernel
/-- re-using the id of the crashed B is what `FreshIds` excludes -/
example : FreshIds (demoRun ++ [.join "B"]) = false := by decide +kernel
/-- and it is needed: B re-joined finds its old unread record -/
example : ((run Sys.init (demoRun ++ [.join "B"])).rep? "B").map
    (fun st => ((run Sys.init (demoRun ++ [.join "B"])).log.drop st.cursor).any (fun x => x.worker == "B")) = some true := by decide +kernel

end OptunaVerif.C06Run
