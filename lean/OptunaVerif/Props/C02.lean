import OptunaVerif.Lemmas.Tell
import OptunaVerif.Lemmas.Pool
/-!
# C02 — every trial run by optimize / ask / tell ends in a well-formed terminal state

Theorems about the implementation-shaped models `Tell.tell` (`_tell_with_warning`), `Tell.runTrial`
(`_run_trial`), `Tell.optimizeSeq` (`_optimize_sequential`) and `Pool.step` (the `n_jobs > 1` branch
of `_optimize`).  Every statement quantifies over **all** objective behaviours (any returned value as
the code can probe it, any exception, any report history), all `tell` argument combinations, all
sampler post-processing behaviours, all interference by another worker, all plans of unboundedly
many trials and all interleavings of the thread pool.  The models are tied to /repo on every run by
`verif/props/c02.py` (objective programs executed on the real `Study.optimize` / `Study.tell` and on
the compiled model; recorded thread-pool traces validated against `Pool.step`) and by the translator
`verif/translators/tell_gen.py` (`Generated/TellGen.lean`, `Props/C02Shapes.lean`) and `verif/translators/ttell.py`
(`Generated/TellMethods.lean`, `Props/C02Gen.lean`).

Reading of "the exception is raised *after* the trial is failed": `RunOut.final` is by definition the
stored record at the moment `_run_trial` returns or raises, so a statement about `final` together with
`raised` is a statement about what an observer sees when the exception arrives.
-/
namespace OptunaVerif.C02
open OptunaVerif.Tell

theorem store_state (r : Rec) (st : FinState) (vals : Option (List XVal)) :
    (r.store st vals).state = st.toState := rfl

theorem finState_finished (st : FinState) : st.toState.isFinished = true := by
  cases st <;> rfl

/-- the `finally:` of _tell.py:180 -/
theorem postProcess_finished (env : Env) (r : Rec) (st : FinState) (vals : Option (List XVal))
    (warn : Option Why) (sup : Bool) :
    (postProcess env r st vals warn sup).1.state.isFinished = true := by
  unfold postProcess
  split
  · exact finState_finished _
  · split <;> exact finState_finished _

theorem postProcess_quiet (env : Env) (r : Rec) (st : FinState) (vals : Option (List XVal))
    (warn : Option Why) (sup : Bool) (h : env.interfere = none) :
    (postProcess env r st vals warn sup).1 = r.store st vals := by
  unfold postProcess
  rw [h]
  simp only []
  split <;> rfl

theorem postProcess_answer (env : Env) (r : Rec) (st : FinState) (vals : Option (List XVal))
    (warn : Option Why) (sup : Bool) :
    (∃ e, (postProcess env r st vals warn sup).2 = .raised e) ∨
    ∃ v wk wd, (postProcess env r st vals warn sup).2 = .ok st.toState v wk wd := by
  unfold postProcess
  split
  · exact .inl ⟨_, rfl⟩
  · split
    · exact .inl ⟨_, rfl⟩
    · exact .inl ⟨_, rfl⟩
    · exact .inr ⟨_, _, _, rfl⟩

theorem tell_of_finished (nObj : Nat) (env : Env) (r : Rec) (a : TellArgs)
    (h : r.state.isFinished = true) :
    tell nObj env r a = (r, if a.skip then .skipped r.state r.values else .raised .valueError) := by
  have hne : (r.state != .running) = true := by
    cases hs : r.state <;> simp [hs, TState.isFinished] at h ⊢
  unfold tell
  cases a.skip <;> simp [h, hne]

theorem tell_of_running (nObj : Nat) (env : Env) (r : Rec) (a : TellArgs) (h : r.state = .running) :
    tell nObj env r a =
      if checkStateAndValues a.state a.v.elems?.isNone then (r, .raised .valueError)
      else match decideState nObj r a.state a.v.elems? with
        | .raise e => (r, .raised e)
        | .go st vals warn => postProcess env r st vals warn a.suppress := by
  unfold tell
  simp only [h, TState.isFinished, Bool.false_and, Bool.false_eq_true, if_false, bne_self_eq_false]
  rfl

/-- **tell_never_alters_finished** — for every argument combination (values of any shape, any
`state` incl. RUNNING/WAITING, `skip_if_finished` either way, any way of naming the trial), every
sampler behaviour and every interference: `Study.tell` on a finished trial leaves the stored record
exactly as it was; with `skip_if_finished` it returns that record, otherwise it raises ValueError. -/
theorem tell_never_alters_finished (nObj : Nat) (env : Env) (lk : Lookup) (r : Rec) (a : TellArgs)
    (h : r.state.isFinished = true) :
    (studyTell nObj env lk r a).1 = r ∧
    (lk = .found → (studyTell nObj env lk r a).2 =
      if a.skip then .skipped r.state r.values else .raised .valueError) := by
  cases lk with
  | unknownNumber => exact ⟨rfl, fun h => by cases h⟩
  | badType => exact ⟨rfl, fun h => by cases h⟩
  | found =>
    simp only [studyTell]
    rw [tell_of_finished _ _ _ _ h]
    exact ⟨rfl, fun _ => rfl⟩

example : (studyTell 1 {} .found { state := .complete, values := some [.fin 1] }
    { v := .scalar (.ok (.fin 2)), state := some .fail, skip := true }).1
    = { state := .complete, values := some [.fin 1] } := by decide

/-- A WAITING trial (enqueued, not yet asked) cannot be told either, whatever the arguments. -/
theorem tell_waiting_rejected (nObj : Nat) (env : Env) (r : Rec) (a : TellArgs)
    (h : r.state = .waiting) : tell nObj env r a = (r, .raised .valueError) := by
  unfold tell
  simp [h, TState.isFinished]

/-- `tell` on a RUNNING trial either finishes it, or raises and leaves the record untouched (so the
caller can tell again).  There is no third outcome such as a half-written record. -/
theorem tell_finishes_or_untouched (nObj : Nat) (env : Env) (r : Rec) (a : TellArgs)
    (h : r.state = .running) :
    (tell nObj env r a).1.state.isFinished = true ∨
    ((tell nObj env r a).1 = r ∧ ∃ e, (tell nObj env r a).2 = .raised e) := by
  rw [tell_of_running _ _ _ _ h]
  split
  · exact Or.inr ⟨rfl, _, rfl⟩
  · split
    · exact Or.inr ⟨rfl, _, rfl⟩
    · exact Or.inl (postProcess_finished _ _ _ _ _ _)

/-- The value(s) are feasible for a study with `nObj` objectives: present, every element casts to a
non-NaN float, one per objective. -/
def FeasibleElems (nObj : Nat) (o : Option (List Elem)) : Prop :=
  ∃ es, o = some es ∧ (∀ e ∈ es, e.Good) ∧ es.length = nObj

def Feasible (nObj : Nat) (v : PyVal) : Prop := FeasibleElems nObj v.elems?

theorem decideState_none (nObj : Nat) (r : Rec) (o : Option (List Elem)) :
    (FeasibleElems nObj o ∧ ∃ es, o = some es ∧
        decideState nObj r none o = .go .complete (some (floats es)) none) ∨
    (¬ FeasibleElems nObj o ∧ ∃ w, decideState nObj r none o = .go .fail none (some w)) := by
  cases o with
  | none => exact .inr ⟨(by rintro ⟨es, hes, _⟩; cases hes), Why.none, rfl⟩
  | some es =>
    simp only [decideState]
    cases hc : checkValuesFeasible nObj es with
    | feasible =>
      have := (check_feasible_iff nObj es).1 hc
      exact .inl ⟨⟨es, rfl, this.1, this.2⟩, es, rfl, rfl⟩
    | infeasible w =>
      refine .inr ⟨?_, w, rfl⟩
      rintro ⟨es', hes', hg, hl⟩
      cases hes'
      rw [(check_feasible_iff nObj es).2 ⟨hg, hl⟩] at hc
      cases hc
    | raises c => exact absurd hc (check_not_raises _ _ _)

def prunedValues (nObj : Nat) (inter : List (Nat × XVal)) : Option (List XVal) :=
  match lastReport inter with
  | none => none
  | some x => if x ≠ .nan ∧ nObj = 1 then some [x] else none

theorem decideState_pruned (nObj : Nat) (r : Rec) (o : Option (List Elem)) :
    decideState nObj r (some .pruned) o = .go .pruned (prunedValues nObj r.inter) none := by
  simp only [decideState, prunedValues]
  cases lastReport r.inter with
  | none => rfl
  | some x =>
    simp only []
    by_cases hg : x ≠ .nan ∧ nObj = 1
    · rw [(check_single nObj x).2 hg]; simp [hg]
    · have hne : checkValuesFeasible nObj [.ok x] ≠ .feasible := fun h => hg ((check_single nObj x).1 h)
      rw [if_neg hg]
      split
      · rename_i hfe; exact absurd hfe hne
      · rfl

theorem decideState_fail (nObj : Nat) (r : Rec) (o : Option (List Elem)) :
    decideState nObj r (some .fail) o = .go .fail none none := rfl

/-- `Study.tell(trial, values)` (no explicit state) on a RUNNING trial nobody else touches:
COMPLETE exactly when the values are feasible, and then the stored values are the float casts. -/
theorem tell_complete_iff_feasible (nObj : Nat) (env : Env) (r : Rec) (v : PyVal) (skip sup : Bool)
    (h : r.state = .running) (hq : env.interfere = none) :
    ((tell nObj env r { v := v, state := none, skip := skip, suppress := sup }).1.state = .complete
        ↔ Feasible nObj v) ∧
    (∀ es, v.elems? = some es → Feasible nObj v →
       (tell nObj env r { v := v, state := none, skip := skip, suppress := sup }).1.values
          = some (floats es) ∧ es = (floats es).map Elem.ok) := by
  rw [tell_of_running _ _ _ _ h]
  simp only [checkStateAndValues, Bool.false_eq_true, if_false]
  rcases decideState_none nObj r v.elems? with ⟨hf, es, hes, hd⟩ | ⟨hf, w, hd⟩
  · rw [hd]
    simp only []
    rw [postProcess_quiet _ _ _ _ _ _ hq]
    refine ⟨⟨fun _ => hf, fun _ => rfl⟩, ?_⟩
    intro es' hes' _
    rw [hes] at hes'; cases hes'
    obtain ⟨es2, h2, hg, _⟩ := hf
    rw [hes] at h2; cases h2
    exact ⟨rfl, floats_spec es hg⟩
  · rw [hd]
    simp only []
    rw [postProcess_quiet _ _ _ _ _ _ hq]
    refine ⟨⟨fun hc => (by simp [Rec.store, FinState.toState] at hc), fun hc => absurd hc hf⟩, ?_⟩
    intro _ _ hc
    exact absurd hc hf

/-- the `finally:` block and the re-raise of `_run_trial` write nothing -/
theorem afterTell_final (cfg : Cfg) (s : Script) (r2 : Rec) (o : TellOut) : (afterTell cfg s r2 o).final = r2 := by
  cases o with
  | ok st vals wk wd =>
    simp only [afterTell]
    split
    · rfl
    · split
      · split <;> rfl
      · rfl
  | skipped st vals => rfl
  | raised e =>
    simp only [afterTell]
    split
    · rfl
    · split <;> rfl

theorem runTrial_final (cfg : Cfg) (s : Script) :
    (runTrial cfg s).final = (tell cfg.nObj s.env s.initRec s.tellArgs).1 :=
  afterTell_final cfg s _ _

theorem initRec_state (s : Script) :
    (s.pre = none ∧ s.initRec.state = .running) ∨
    (∃ p, s.pre = some p ∧ s.initRec.state = p.1.toState ∧ s.initRec.values = p.2) := by
  unfold Script.initRec
  cases hp : s.pre with
  | none => left; exact ⟨rfl, rfl⟩
  | some p => right; exact ⟨p, rfl, rfl, rfl⟩

theorem initRec_running (s : Script) (h : s.pre = none) : s.initRec.state = .running := by
  unfold Script.initRec; rw [h]

theorem initRec_inter (s : Script) : s.initRec.inter = s.reports.foldl report [] := by
  unfold Script.initRec
  cases s.pre <;> rfl

def scriptDecision (cfg : Cfg) (s : Script) : Decision :=
  decideState cfg.nObj s.initRec s.tellArgs.state s.tellArgs.v.elems?

theorem scriptDecision_ret (cfg : Cfg) (s : Script) (v : PyVal) (ho : s.out = .ret v) :
    scriptDecision cfg s = decideState cfg.nObj s.initRec none v.elems? := by
  unfold scriptDecision Script.tellArgs; rw [ho]

theorem scriptDecision_pruned (cfg : Cfg) (s : Script) (ho : s.out = .pruned) :
    scriptDecision cfg s = .go .pruned (prunedValues cfg.nObj s.initRec.inter) none := by
  unfold scriptDecision Script.tellArgs; rw [ho]; exact decideState_pruned _ _ _

theorem scriptDecision_exc (cfg : Cfg) (s : Script) (e : Exc) (ho : s.out = .exc e) :
    scriptDecision cfg s = .go .fail none none := by
  unfold scriptDecision Script.tellArgs; rw [ho]; rfl

theorem tellArgs_check (s : Script) :
    checkStateAndValues s.tellArgs.state s.tellArgs.v.elems?.isNone = false := by
  unfold Script.tellArgs
  cases s.out <;> rfl

theorem tellArgs_suppress (s : Script) : s.tellArgs.suppress = true := by
  unfold Script.tellArgs
  cases s.out <;> rfl

theorem tell_of_script (cfg : Cfg) (s : Script) (hpre : s.pre = none) :
    tell cfg.nObj s.env s.initRec s.tellArgs =
      match scriptDecision cfg s with
      | .raise e => (s.initRec, .raised e)
      | .go st vals warn => postProcess s.env s.initRec st vals warn true := by
  rw [tell_of_running _ _ _ _ (initRec_running s hpre), tellArgs_check, tellArgs_suppress]
  rfl

theorem scriptDecision_go (cfg : Cfg) (s : Script) : ∃ st vals warn, scriptDecision cfg s = .go st vals warn := by
  cases ho : s.out with
  | ret v =>
    rw [scriptDecision_ret cfg s v ho]
    rcases decideState_none cfg.nObj s.initRec v.elems? with ⟨_, es, _, h⟩ | ⟨_, w, h⟩ <;> exact ⟨_, _, _, h⟩
  | pruned => exact ⟨_, _, _, scriptDecision_pruned cfg s ho⟩
  | exc e => exact ⟨_, _, _, scriptDecision_exc cfg s e ho⟩

theorem tellArgs_skip (s : Script) : s.tellArgs.skip = false := by
  unfold Script.tellArgs
  cases s.out <;> rfl

theorem script_tell (cfg : Cfg) (s : Script) :
    (s.initRec.state.isFinished = true ∧
      tell cfg.nObj s.env s.initRec s.tellArgs = (s.initRec, .raised .valueError)) ∨
    ∃ st vals warn, scriptDecision cfg s = .go st vals warn ∧
      tell cfg.nObj s.env s.initRec s.tellArgs = postProcess s.env s.initRec st vals warn true := by
  rcases initRec_state s with ⟨hpre, _⟩ | ⟨p, _, hst, _⟩
  · obtain ⟨st, vals, warn, hd⟩ := scriptDecision_go cfg s
    exact .inr ⟨st, vals, warn, hd, by rw [tell_of_script cfg s hpre, hd]⟩
  · have hfin : s.initRec.state.isFinished = true := by rw [hst]; exact finState_finished _
    exact .inl ⟨hfin, by rw [tell_of_finished _ _ _ _ hfin, tellArgs_skip]; rfl⟩

/-- `_run_trial` never meets the `skip_if_finished` short cut, and a tell that returns after TrialPruned says
PRUNED. -/
theorem script_tell_answer (cfg : Cfg) (s : Script) :
    match (tell cfg.nObj s.env s.initRec s.tellArgs).2 with
    | .skipped _ _ => False
    | .ok st _ _ _ => s.out = .pruned → st = .pruned
    | .raised _ => True := by
  rcases script_tell cfg s with ⟨_, h⟩ | ⟨st, vals, warn, hd, h⟩ <;> rw [h]
  · trivial
  · rcases postProcess_answer s.env s.initRec st vals warn true with ⟨e, he⟩ | ⟨v, wk, wd, he⟩ <;> rw [he]
    · trivial
    · intro ho
      rw [scriptDecision_pruned cfg s ho] at hd
      cases hd
      rfl

/-- **runTrial_terminal** — for every objective outcome (any returned value as the code can probe it,
TrialPruned, any Exception, KeyboardInterrupt), report history, sampler post-processing behaviour
(returns / raises / is interrupted), interference by another worker before or during the final tell,
`catch` tuple and number of objectives: the trial is COMPLETE, PRUNED or FAIL when `_run_trial` returns
or raises.  No hypothesis on the returned value is needed: `float(v)` raising *any* exception
class makes the value infeasible (`castCaught_all`, tied to the source by `gen_castCaught`). -/
theorem runTrial_terminal (cfg : Cfg) (s : Script) :
    (runTrial cfg s).final.state.isFinished = true := by
  rw [runTrial_final]
  rcases script_tell cfg s with ⟨hfin, h⟩ | ⟨st, vals, warn, _, h⟩ <;> rw [h]
  · exact hfin
  · exact postProcess_finished _ _ _ _ _ _

example : (runTrial ⟨1, fun _ => false⟩ { out := .ret (.scalar (.bad .overflowError)) }).final.state = .fail := by
  decide

/-- Regression witness of the repaired defect: an objective that returns an object whose `__float__`
raises e.g. RuntimeError (class id 7) now ends FAIL without values and `_run_trial` returns normally
(before the repair: RUNNING + AssertionError).  The harness replays it on the real code every run. -/
example : runTrial ⟨1, fun _ => false⟩ { out := .ret (.scalar (.bad (.other 7))) }
    = ⟨{ state := .fail }, none⟩ := by decide
example : runTrial ⟨2, fun _ => false⟩ { out := .ret (.seq [.bad (.other 7), .ok .nan]) }
    = ⟨{ state := .fail }, none⟩ := by decide

/-- `_run_trial` never leaves the trial RUNNING (nor WAITING). -/
theorem runTrial_not_running (cfg : Cfg) (s : Script) : (runTrial cfg s).final.state ≠ .running := by
  intro h
  have := runTrial_terminal cfg s
  rw [h] at this
  cases this

/-- Nobody but this worker touches the trial. -/
def Undisturbed (s : Script) : Prop := s.pre = none ∧ s.env.interfere = none

theorem undisturbed_run (cfg : Cfg) (s : Script) (hu : Undisturbed s) :
    ∃ st vals warn, scriptDecision cfg s = .go st vals warn ∧
      runTrial cfg s = afterTell cfg s { state := st.toState, values := vals, inter := s.reports.foldl report [] }
        (match s.env.after with
          | .ok => .ok st.toState vals warn.isSome none
          | .raises c => .raised (.user c)
          | .raisesKbd => .raised .kbd) := by
  obtain ⟨st, vals, warn, hd⟩ := scriptDecision_go cfg s
  refine ⟨st, vals, warn, hd, ?_⟩
  unfold runTrial
  rw [tell_of_script cfg s hu.1, hd]
  simp only [postProcess, hu.2]
  unfold Script.initRec
  rw [hu.1]
  cases s.env.after <;> cases vals <;> rfl

/-- **complete_iff_feasible** — a trial nobody else touches ends COMPLETE exactly when the objective
returned and the returned value(s) are feasible (every element casts to a float, none is NaN, one per
objective); the stored values are then exactly those floats, in order.  For every sampler behaviour
(`after_trial` may raise), every report history and `catch`. -/
theorem complete_iff_feasible (cfg : Cfg) (s : Script) (hu : Undisturbed s) :
    ((runTrial cfg s).final.state = .complete ↔ ∃ v, s.out = .ret v ∧ Feasible cfg.nObj v) ∧
    (∀ v es, s.out = .ret v → v.elems? = some es → Feasible cfg.nObj v →
        (runTrial cfg s).final.values = some (floats es) ∧ es = (floats es).map Elem.ok ∧
        (floats es).length = cfg.nObj ∧ ∀ x ∈ floats es, x ≠ .nan) := by
  have hrun := initRec_running s hu.1
  cases ho : s.out with
  | ret v =>
    have key := tell_complete_iff_feasible cfg.nObj s.env s.initRec v false true hrun hu.2
    have hta : s.tellArgs = { v := v, state := none, skip := false, suppress := true } := by
      unfold Script.tellArgs; rw [ho]
    rw [← hta, ← runTrial_final] at key
    refine ⟨⟨fun h => ⟨v, rfl, key.1.1 h⟩, ?_⟩, ?_⟩
    · rintro ⟨v', hv', hf⟩
      cases hv'
      exact key.1.2 hf
    · intro v' es hv' hes hf
      cases hv'
      obtain ⟨h1, h2⟩ := key.2 es hes hf
      obtain ⟨es', hes', hg, hl⟩ := hf
      rw [hes] at hes'; cases hes'
      exact ⟨h1, h2, by rw [floats_length es hg]; exact hl, floats_no_nan es hg⟩
  | pruned =>
    obtain ⟨st, vals, warn, hd, hf⟩ := undisturbed_run cfg s hu
    rw [scriptDecision_pruned cfg s ho] at hd
    cases hd
    rw [hf, afterTell_final]
    exact ⟨⟨fun h => (by cases h), fun ⟨v, hv, _⟩ => (by cases hv)⟩, fun v es hv => (by cases hv)⟩
  | exc e =>
    obtain ⟨st, vals, warn, hd, hf⟩ := undisturbed_run cfg s hu
    rw [scriptDecision_exc cfg s e ho] at hd
    cases hd
    rw [hf, afterTell_final]
    exact ⟨⟨fun h => (by cases h), fun ⟨v, hv, _⟩ => (by cases hv)⟩, fun v es hv => (by cases hv)⟩

example : (runTrial ⟨2, fun _ => false⟩
    { out := .ret (.seq [.ok (.fin 1), .ok .pinf]) }).final = { state := .complete, values := some [.fin 1, .pinf] } := by
  decide

/-- **fail_has_no_values** — a trial nobody else touches that ends FAIL carries no values, whatever
the objective returned or raised. -/
theorem fail_has_no_values (cfg : Cfg) (s : Script) (hu : Undisturbed s)
    (h : (runTrial cfg s).final.state = .fail) : (runTrial cfg s).final.values = none := by
  obtain ⟨st, vals, warn, hd, hf⟩ := undisturbed_run cfg s hu
  rw [hf, afterTell_final] at h ⊢
  -- every decision that says FAIL says `values = None`
  cases ho : s.out with
  | ret v =>
    rw [scriptDecision_ret cfg s v ho] at hd
    rcases decideState_none cfg.nObj s.initRec v.elems? with ⟨_, es, _, h'⟩ | ⟨_, w, h'⟩ <;> rw [h'] at hd <;> cases hd
    · cases h
    · rfl
  | pruned => rw [scriptDecision_pruned cfg s ho] at hd; cases hd; cases h
  | exc e => rw [scriptDecision_exc cfg s e ho] at hd; cases hd; rfl

example : (runTrial ⟨1, fun _ => false⟩ { out := .ret (.scalar (.ok .nan)) }).final
    = { state := .fail, values := none } := by decide

theorem firstAt_of_mem (l : List (Nat × XVal)) (k : Nat) (x : XVal) (h : (k, x) ∈ l) :
    ∃ y, firstAt l k = some y := by
  rw [firstAt_eq]
  exact Option.isSome_iff_exists.1 ((interGet?_isSome l k).2 ⟨x, h⟩)

/-- **pruned_value_is_last_feasible_report** — an objective that raises TrialPruned ends PRUNED
(nobody else touching the trial); its stored value is the value reported for the *greatest* step
(the first report of that step: later reports of a step are ignored) when that value is not NaN and
the study has one objective, and there is no value otherwise. -/
theorem pruned_value_is_last_feasible_report (cfg : Cfg) (s : Script) (hu : Undisturbed s)
    (ho : s.out = .pruned) :
    (runTrial cfg s).final.state = .pruned ∧
    ((s.reports = [] ∧ (runTrial cfg s).final.values = none) ∨
     (∃ k, (∃ x, (k, x) ∈ s.reports) ∧ (∀ p ∈ s.reports, p.1 ≤ k) ∧
        ∃ x, firstAt s.reports k = some x ∧
          (runTrial cfg s).final.values = if x ≠ .nan ∧ cfg.nObj = 1 then some [x] else none)) := by
  obtain ⟨st, vals, warn, hd, hf⟩ := undisturbed_run cfg s hu
  rw [scriptDecision_pruned cfg s ho] at hd
  cases hd
  rw [hf, afterTell_final]
  refine ⟨rfl, ?_⟩
  unfold prunedValues
  rw [initRec_inter]
  rcases lastReport_foldl s.reports with ⟨hnil, hlr⟩ | ⟨k, ⟨x0, hx0⟩, hle, hlr⟩
  · exact .inl ⟨hnil, by rw [hlr]⟩
  · obtain ⟨x, hx⟩ := firstAt_of_mem s.reports k x0 hx0
    exact .inr ⟨k, ⟨x0, hx0⟩, hle, x, hx, by rw [hlr, hx]⟩

example : (runTrial ⟨1, fun _ => false⟩
    { reports := [(3, .fin 1), (1, .fin 2), (3, .fin 5)], out := .pruned }).final.values = some [.fin 1] := by
  decide
example : (runTrial ⟨1, fun _ => false⟩
    { reports := [(0, .fin 1), (4, .nan)], out := .pruned }).final = { state := .pruned, values := none, inter := [(0, .fin 1), (4, .nan)] } := by
  decide

/-- **uncaught_propagates_after_fail** — the objective raises an Exception or KeyboardInterrupt `e`
(nobody else touching the trial): whatever the sampler's `after_trial` does, the trial is FAIL without
values when `_run_trial` is left; if `e` is not an instance of `catch`, `_run_trial` raises — `e`
itself when `after_trial` returns normally; and if `e` is caught and `after_trial` returns, nothing
is raised. -/
theorem uncaught_propagates_after_fail (cfg : Cfg) (s : Script) (e : Exc) (hu : Undisturbed s)
    (ho : s.out = .exc e) :
    (runTrial cfg s).final.state = .fail ∧ (runTrial cfg s).final.values = none ∧
    (cfg.catches e = false → (runTrial cfg s).raised ≠ none) ∧
    (s.env.after = .ok → (runTrial cfg s).raised = if cfg.catches e then none else some e) := by
  have hfe : s.hasFuncErr = true := by unfold Script.hasFuncErr; rw [ho]
  obtain ⟨st, vals, warn, hd, h⟩ := undisturbed_run cfg s hu
  rw [scriptDecision_exc cfg s e ho] at hd
  cases hd
  rw [h]
  refine ⟨by rw [afterTell_final]; rfl, by rw [afterTell_final], ?_, ?_⟩
  · intro hc
    cases s.env.after <;> simp [afterTell, finallyAsserts, hfe, ho, hc, Exc.isBase, FinState.toState]
  · intro ha
    rw [ha]
    cases hc : cfg.catches e <;> simp [afterTell, finallyAsserts, hfe, ho, hc, FinState.toState]

example : runTrial ⟨1, fun _ => false⟩ { out := .exc (.user 3) }
    = ⟨{ state := .fail }, some (.user 3)⟩ := by decide
example : runTrial ⟨1, fun e => e == .user 3⟩ { out := .exc (.user 3) }
    = ⟨{ state := .fail }, none⟩ := by decide
example : runTrial ⟨1, fun _ => false⟩ { out := .exc .kbd } = ⟨{ state := .fail }, some .kbd⟩ := by decide

/-- In a quiet environment (`after_trial` returns, nobody interferes) `_run_trial` raises exactly
when the objective raised something `catch` does not list (and then raises that); a returned value
(feasible or not) and TrialPruned never make it raise. -/
theorem quiet_raises_iff (cfg : Cfg) (s : Script) (hu : Undisturbed s) (ha : s.env.after = .ok) :
    (runTrial cfg s).raised = match s.out with
      | .exc e => if cfg.catches e then none else some e
      | _ => none := by
  cases ho : s.out with
  | exc e => exact (uncaught_propagates_after_fail cfg s e hu ho).2.2.2 ha
  | pruned =>
    obtain ⟨st, vals, warn, hd, h⟩ := undisturbed_run cfg s hu
    rw [scriptDecision_pruned cfg s ho] at hd
    cases hd
    rw [h, ha]
    simp [afterTell, finallyAsserts, FinState.toState, ho]
  | ret v =>
    obtain ⟨st, vals, warn, hd, h⟩ := undisturbed_run cfg s hu
    rw [scriptDecision_ret cfg s v ho] at hd
    rw [h, ha]
    -- COMPLETE, or FAIL with the warning key the `finally:` block looks for
    rcases decideState_none cfg.nObj s.initRec v.elems? with ⟨_, es, _, h'⟩ | ⟨_, w, h'⟩ <;> rw [h'] at hd <;> cases hd <;>
      simp [afterTell, finallyAsserts, FinState.toState, ho, Script.hasFuncErr]

def numCalled : List CbAct → Nat
  | [] => 0
  | a :: t => if a.raises.isSome then 1 else numCalled t + 1

theorem numCalled_le (cbs : List CbAct) : numCalled cbs ≤ cbs.length := by
  induction cbs with
  | nil => simp [numCalled]
  | cons a t ih => simp only [numCalled, List.length_cons]; split <;> omega

theorem lt_numCalled_iff (cbs : List CbAct) (j : Nat) :
    j < numCalled cbs ↔ j < cbs.length ∧ ∀ j', j' < j → ∀ a, cbs[j']? = some a → a.raises = none := by
  induction cbs generalizing j with
  | nil => simp [numCalled]
  | cons a t ih =>
    simp only [numCalled, List.length_cons]
    cases j with
    | zero =>
      constructor
      · intro _; exact ⟨by omega, fun j' h => by omega⟩
      · intro _; split <;> omega
    | succ j =>
      cases hr : a.raises with
      | some c =>
        simp only [Option.isSome_some, if_true]
        constructor
        · intro h; omega
        · rintro ⟨_, h⟩
          have := h 0 (by omega) a (by simp)
          rw [hr] at this; cases this
      | none =>
        simp only [Option.isSome_none, Bool.false_eq_true, if_false]
        rw [Nat.add_lt_add_iff_right, ih]
        constructor
        · rintro ⟨h1, h2⟩
          refine ⟨by omega, ?_⟩
          intro j' hj' b hb
          cases j' with
          | zero => simp at hb; subst hb; exact hr
          | succ j' => exact h2 j' (by omega) b (by simpa using hb)
        · rintro ⟨h1, h2⟩
          refine ⟨by omega, ?_⟩
          intro j' hj' b hb
          exact h2 (j' + 1) (by omega) b (by simpa using hb)

theorem numCalled_all (cbs : List CbAct) (h : ∀ a ∈ cbs, a.raises = none) : numCalled cbs = cbs.length := by
  induction cbs with
  | nil => rfl
  | cons a t ih =>
    simp only [numCalled, h a List.mem_cons_self, Option.isSome_none, Bool.false_eq_true, if_false,
      List.length_cons]
    rw [ih (fun b hb => h b (List.mem_cons_of_mem _ hb))]

theorem runCallbacks_log (i j : Nat) (cbs : List CbAct) :
    (runCallbacks i j cbs).1 = (List.range' j (numCalled cbs)).map (fun b => (i, b)) := by
  induction cbs generalizing j with
  | nil => simp [runCallbacks, numCalled]
  | cons a t ih =>
    cases hr : a.raises with
    | some c => simp [runCallbacks, numCalled, hr]
    | none =>
      simp only [runCallbacks, numCalled, hr, Option.isSome_none, Bool.false_eq_true, if_false]
      rw [ih (j + 1)]
      simp [List.range'_succ]

theorem runCallbacks_raise (i j : Nat) (cbs : List CbAct) :
    (runCallbacks i j cbs).2.2 = none ↔ ∀ a ∈ cbs, a.raises = none := by
  induction cbs generalizing j with
  | nil => simp [runCallbacks]
  | cons a t ih =>
    cases hr : a.raises with
    | some c => simp [runCallbacks, hr]
    | none =>
      simp only [runCallbacks, hr, List.mem_cons, forall_eq_or_imp, true_and]
      exact ih (j + 1)

theorem runCallbacks_stop (i j : Nat) (cbs : List CbAct) (h : ∀ a ∈ cbs, a.stop = false) :
    (runCallbacks i j cbs).2.1 = false := by
  induction cbs generalizing j with
  | nil => simp [runCallbacks]
  | cons a t ih =>
    have ha := h a List.mem_cons_self
    cases hr : a.raises with
    | some c => simp [runCallbacks, hr, ha]
    | none =>
      simp only [runCallbacks, hr, ha, Bool.false_or]
      exact ih (j + 1) (fun b hb => h b (List.mem_cons_of_mem _ hb))

def cbSpec (cfg : Cfg) : Nat → List TrialPlan → List (Nat × Nat)
  | _, [] => []
  | i, p :: ps =>
    (if (runPlan cfg p).raised.isSome then []
     else (List.range' 0 (numCalled p.cbs)).map (fun b => (i, b))) ++ cbSpec cfg (i + 1) ps

theorem optimizeSeq_shape (cfg : Cfg) (nT to : Option Nat) (plans : List TrialPlan) (i el : Nat)
    (stop : Bool) :
    (optimizeSeq cfg nT to plans i el stop).trials =
      (plans.take (optimizeSeq cfg nT to plans i el stop).trials.length).map (fun p => runPlan cfg p) ∧
    (optimizeSeq cfg nT to plans i el stop).cbLog =
      cbSpec cfg i (plans.take (optimizeSeq cfg nT to plans i el stop).trials.length) := by
  -- the five ways an iteration goes: no plan left, a break test fires, `_run_trial` raises, a callback raises, the loop goes on
  fun_induction optimizeSeq cfg nT to plans i el stop with
  | case1 | case2 => simp [cbSpec]
  | case3 p ps i el stop hlb ro stop1 e hr => simp [cbSpec, ro, hr]
  | case4 p ps i el stop hlb ro stop1 hr log cbStop c hc =>
    have hlog := runCallbacks_log i 0 p.cbs
    rw [hc] at hlog
    simp [cbSpec, ro, hr, ← hlog]
  | case5 p ps i el stop hlb ro stop1 hr log cbStop hc rest ih =>
    have hlog := runCallbacks_log i 0 p.cbs
    rw [hc] at hlog
    simp only [List.length_cons, List.take_succ_cons, List.map_cons, cbSpec, ro, hr, Option.isSome_none,
      Bool.false_eq_true, if_false, ← hlog]
    exact ⟨congrArg _ ih.1, congrArg _ ih.2⟩

theorem count_range_pair (i a b j n : Nat) :
    List.count (a, b) ((List.range' j n).map (fun x => (i, x))) =
      if a = i ∧ j ≤ b ∧ b < j + n then 1 else 0 := by
  induction n generalizing j with
  | zero =>
    simp only [List.range'_zero, List.map_nil, List.count_nil]
    split
    · omega
    · rfl
  | succ n ih =>
    simp only [List.range'_succ, List.map_cons, List.count_cons, ih (j + 1), beq_iff_eq, Prod.mk.injEq]
    split <;> split <;> split <;> omega

theorem cbSpec_count_low (cfg : Cfg) (m : List TrialPlan) (i a b : Nat) (h : a < i) :
    List.count (a, b) (cbSpec cfg i m) = 0 := by
  induction m generalizing i with
  | nil => simp [cbSpec]
  | cons p ps ih =>
    simp only [cbSpec, List.count_append]
    rw [ih (i + 1) (by omega)]
    split
    · simp
    · rw [count_range_pair]
      simp; omega

theorem cbSpec_count (cfg : Cfg) (m : List TrialPlan) (i k j : Nat) (p : TrialPlan)
    (hk : m[k]? = some p) :
    List.count (i + k, j) (cbSpec cfg i m) =
      if (runPlan cfg p).raised = none ∧ j < numCalled p.cbs then 1 else 0 := by
  induction m generalizing i k with
  | nil => simp at hk
  | cons q qs ih =>
    simp only [cbSpec, List.count_append]
    cases k with
    | zero =>
      simp only [List.getElem?_cons_zero, Option.some.injEq] at hk
      subst hk
      rw [cbSpec_count_low cfg qs (i + 1) (i + 0) j (by omega)]
      cases hr : (runPlan cfg q).raised with
      | some e => simp
      | none =>
        simp only [Option.isSome_none, Bool.false_eq_true, if_false, count_range_pair, Nat.add_zero,
          true_and, Nat.zero_le, Nat.zero_add]
    | succ k =>
      simp only [List.getElem?_cons_succ] at hk
      have := ih (i + 1) k hk
      rw [show i + 1 + k = i + (k + 1) by omega] at this
      rw [this]
      split
      · simp
      · rw [count_range_pair]
        simp

/-- **callbacks_exactly_once** — for every run of the loop (any `n_trials`, timeout, stop requests,
exceptions): for the `k`-th trial that was started and every callback index `j`, the invocation
`(trial k, callback j)` occurs in the log exactly once if the trial's exception did not propagate and
no earlier callback of that trial raised, and never otherwise.  In particular no callback is ever
invoked twice for a trial, none for a trial whose exception propagates, and every callback once for
every other trial (up to a raising callback, whose exception ends `optimize`). -/
theorem callbacks_exactly_once (cfg : Cfg) (nT to : Option Nat) (plans : List TrialPlan) (i el : Nat)
    (stop : Bool) (k j : Nat) (hk : k < (optimizeSeq cfg nT to plans i el stop).trials.length) :
    ∃ p, plans[k]? = some p ∧
      (optimizeSeq cfg nT to plans i el stop).trials[k]? = some (runPlan cfg p) ∧
      List.count (i + k, j) (optimizeSeq cfg nT to plans i el stop).cbLog =
        if (runPlan cfg p).raised = none ∧
            (j < p.cbs.length ∧ ∀ j', j' < j → ∀ a, p.cbs[j']? = some a → a.raises = none)
        then 1 else 0 := by
  obtain ⟨h1, h2⟩ := optimizeSeq_shape cfg nT to plans i el stop
  generalize (optimizeSeq cfg nT to plans i el stop) = o at *
  have hlen : o.trials.length ≤ plans.length := by
    have := congrArg List.length h1
    simp at this
    omega
  have hkp : k < plans.length := by omega
  refine ⟨plans[k], by simp [hkp], ?_, ?_⟩
  · rw [h1]
    simp [hk, hkp]
  · have hc := cbSpec_count cfg (plans.take o.trials.length) i k j plans[k] (by simp [hk, hkp])
    rw [h2, hc]
    simp only [lt_numCalled_iff]

example : (optimizeSeq ⟨1, fun _ => false⟩ (some 2) none
    [{ script := { out := .ret (.scalar (.ok (.fin 1))) }, cbs := [{}, {}] },
     { script := { out := .exc (.user 1) }, cbs := [{}, {}] }] 0 0 false).cbLog = [(0, 0), (0, 1)] := by decide

theorem runPlan_of_ask (cfg : Cfg) (p : TrialPlan) (ha : p.askRaises = none) :
    runPlan cfg p = runTrial cfg p.script := by
  unfold runPlan; rw [ha]

/-- `_run_trial` including its `ask`: an `ask` that raises has failed the trial it created -/
theorem runPlan_terminal (cfg : Cfg) (p : TrialPlan) : (runPlan cfg p).final.state.isFinished = true := by
  unfold runPlan
  cases p.askRaises with
  | some c => rfl
  | none => exact runTrial_terminal cfg p.script

/-- **optimizeSeq_all_terminal** — when the loop returns or raises, every trial it
started is COMPLETE, PRUNED or FAIL (none RUNNING), whatever the objective, the callbacks and the
sampler do — including a sampler (or fixed distribution) that raises inside `study.ask()`: `ask` fails
the trial it has just created before re-raising (repaired defect F21). -/
theorem optimizeSeq_all_terminal (cfg : Cfg) (nT to : Option Nat) (plans : List TrialPlan) (i el : Nat)
    (stop : Bool) :
    ∀ ro ∈ (optimizeSeq cfg nT to plans i el stop).trials, ro.final.state.isFinished = true := by
  obtain ⟨h1, _⟩ := optimizeSeq_shape cfg nT to plans i el stop
  intro ro hro
  rw [h1] at hro
  obtain ⟨p, hp, rfl⟩ := List.mem_map.1 hro
  exact runPlan_terminal cfg p

example : ∀ ro ∈ (optimizeSeq ⟨1, fun _ => false⟩ (some 3) none
    [{ script := { out := .ret (.scalar (.ok .nan)) } }, { script := { out := .pruned } },
     { script := { out := .exc .kbd } }, {}] 0 0 false).trials, ro.final.state.isFinished = true := by decide

/-- A sampler that raises in `before_trial` / `infer_relative_search_space` inside `study.ask()`:
the freshly created trial is FAIL (no values) and the exception leaves `optimize`. -/
theorem ask_raise_fails_trial (cfg : Cfg) (nT to : Option Nat) (c : Nat) (ps : List TrialPlan) (i el : Nat)
    (hgo : loopBreaks nT to i el false = false) :
    (optimizeSeq cfg nT to ({ askRaises := some c } :: ps) i el false).trials.map (·.final)
        = [{ state := .fail }] ∧
      (optimizeSeq cfg nT to ({ askRaises := some c } :: ps) i el false).raised = some (.user c) := by
  unfold optimizeSeq
  simp [hgo, runPlan]

example : (optimizeSeq ⟨1, fun _ => false⟩ (some 1) none [{ askRaises := some 2 }] 0 0 false).trials.map
    (·.final.state) = [.fail] := by decide

/-- The loop stops at the first exception: only the last started trial can have raised. -/
theorem optimizeSeq_raise_is_last (cfg : Cfg) (nT to : Option Nat) (plans : List TrialPlan) (i el : Nat)
    (stop : Bool) (k : Nat) (ro : RunOut)
    (hk : (optimizeSeq cfg nT to plans i el stop).trials[k]? = some ro)
    (hlast : k + 1 < (optimizeSeq cfg nT to plans i el stop).trials.length) : ro.raised = none := by
  fun_induction optimizeSeq cfg nT to plans i el stop generalizing k with
  | case1 | case2 | case3 | case4 => simp at hlast
  | case5 p ps i el stop hlb ro' stop1 hr log cbStop hc rest ih =>
    cases k with
    | zero => simp at hk; rw [← hk]; exact hr
    | succ k => exact ih k (by simpa using hk) (by simpa using hlast)

/-- **optimizeSeq_runs_exactly_n** — `optimize(n_trials = n)` with no timeout, when none of the
first `n` trials asks to stop and none lets an exception propagate (objective exceptions are caught or
absent, callbacks do not raise): exactly `n` trials run (the first `n` plans, each through
`_run_trial`), every callback runs once per trial in order, and the loop returns normally.  `n` and
the plan list are unbounded. -/
theorem optimizeSeq_runs_exactly_n (cfg : Cfg) (n : Nat) (plans : List TrialPlan) (i el : Nat)
    (hlen : n ≤ i + plans.length)
    (hq : ∀ p ∈ plans.take (n - i), p.stopInObj = false ∧ (runPlan cfg p).raised = none ∧
            ∀ a ∈ p.cbs, a.stop = false ∧ a.raises = none) :
    (optimizeSeq cfg (some n) none plans i el false).trials =
        (plans.take (n - i)).map (fun p => runPlan cfg p) ∧
    (optimizeSeq cfg (some n) none plans i el false).trials.length = n - i ∧
    (optimizeSeq cfg (some n) none plans i el false).raised = none ∧
    (optimizeSeq cfg (some n) none plans i el false).exhausted = false ∧
    (optimizeSeq cfg (some n) none plans i el false).stopFlag = false := by
  induction plans generalizing i el with
  | nil =>
    have : n ≤ i := by simpa using hlen
    simp [optimizeSeq, loopBreaks, this]
  | cons p ps ih =>
    unfold optimizeSeq
    by_cases hni : n ≤ i
    · simp [loopBreaks, hni]
    · have hlb : loopBreaks (some n) none i el false = false := by simp [loopBreaks, hni]
      rw [hlb]
      simp only [Bool.false_eq_true, if_false]
      have htake : (p :: ps).take (n - i) = p :: ps.take (n - (i + 1)) := by
        rw [show n - i = (n - (i + 1)) + 1 by omega, List.take_succ_cons]
      rw [htake] at hq
      obtain ⟨hs, hr, hcb⟩ := hq p List.mem_cons_self
      rw [hr]
      simp only []
      have hraise := (runCallbacks_raise i 0 p.cbs).2 (fun a ha => (hcb a ha).2)
      have hstop := runCallbacks_stop i 0 p.cbs (fun a ha => (hcb a ha).1)
      rcases hc : runCallbacks i 0 p.cbs with ⟨log, cbStop, r⟩
      rw [hc] at hraise hstop
      simp only [] at hraise hstop
      subst hraise; subst hstop
      simp only [hs, Bool.or_false]
      obtain ⟨h1, h2, h3, h4, h5⟩ := ih (i + 1) (el + p.sleep) (by simp at hlen; omega)
        (fun q hq' => hq q (List.mem_cons_of_mem _ hq'))
      rw [htake]
      refine ⟨by simp [h1], by simp [h2]; omega, h3, h4, h5⟩

example : (optimizeSeq ⟨1, fun _ => true⟩ (some 3) none
    (List.replicate 5 { script := { out := .exc (.user 1) } }) 0 0 false).trials.length = 3 := by decide

/-- `optimize(n_trials = n)` never starts more than `n` trials, whatever happens. -/
theorem optimizeSeq_at_most_n (cfg : Cfg) (n : Nat) (to : Option Nat) (plans : List TrialPlan) (i el : Nat)
    (stop : Bool) : i + (optimizeSeq cfg (some n) to plans i el stop).trials.length ≤ max n i := by
  fun_induction optimizeSeq cfg (some n) to plans i el stop with
  | case1 | case2 => simp; omega
  | case3 p ps i el stop hlb | case4 p ps i el stop hlb =>
    have : i < n := by simp [loopBreaks] at hlb; omega
    simp; omega
  | case5 p ps i el stop hlb ro stop1 hr log cbStop hc rest ih =>
    have : i < n := by simp [loopBreaks] at hlb; omega
    simp only [List.length_cons, rest] at ih ⊢; omega

/-- Once `study.stop()` has been called (by the objective or a callback of a trial), no further
trial is started. -/
theorem stop_ends_loop (cfg : Cfg) (nT to : Option Nat) (plans : List TrialPlan) (i el : Nat) :
    (optimizeSeq cfg nT to plans i el true).trials = [] ∧
    (optimizeSeq cfg nT to plans i el true).raised = none ∧
    (optimizeSeq cfg nT to plans i el true).exhausted = false := by
  cases plans with
  | nil => simp [optimizeSeq, loopBreaks]
  | cons p ps => simp [optimizeSeq, loopBreaks]

/-! ## `_optimize` with `n_jobs > 1`: the thread pool

An *execution* is any event list accepted by `Pool.run` from `Pool.init` (all interleavings of the
main thread with the workers, any number of trials, any completion order, any subset returned by
`wait(FIRST_COMPLETED)`).  The harness validates traces recorded from real multi-threaded runs
against the same `Pool.step`. -/

open Pool in
/-- **optimizePool_every_future_observed** — in every execution, when `_optimize(n_jobs = k)` returns
or raises: every future it submitted has finished (`Pool` does not say which trial a future ran: that
the trial is then terminal is `C02PoolRun.pool_all_submitted_trials_terminal`); if it *returns*, every future returned normally — no exception raised in a worker
is ever swallowed; if it raises class `c`, some future raised `c`. -/
theorem optimizePool_every_future_observed (k : Nat) (n : Option Nat) (es : List Event) (s : State)
    (r : Res) (h : run k n init es = some s) (hx : s.phase = .exited r) :
    (∀ i, i < s.submitted → (s.ended i).isSome = true) ∧
    (r = .ok → ∀ i, i < s.submitted → s.ended i = some .ok) ∧
    (∀ c, r = .raised c → ∃ i, i < s.submitted ∧ s.ended i = some (.raised c)) :=
  (inv_run k n init s es (inv_init k n) h).exited r hx

open Pool in
/-- Contrapositive reading: an exception raised by any submitted future makes `optimize` raise. -/
theorem optimizePool_exception_propagates (k : Nat) (n : Option Nat) (es : List Event) (s : State)
    (r : Res) (h : run k n init es = some s) (hx : s.phase = .exited r)
    (i c : Nat) (hi : i < s.submitted) (hr : s.ended i = some (.raised c)) : ∃ c', r = .raised c' := by
  cases r with
  | raised c' => exact ⟨c', rfl⟩
  | ok =>
    have := (optimizePool_every_future_observed k n es s .ok h hx).2.1 rfl i hi
    rw [hr] at this
    cases this

open Pool in
example : ∃ s, run 2 (some 2) init
    [.submit, .submit, .begin 0, .begin 1, .finish 1 (.raised 5), .finish 0 .ok, .waitAll, .exit (.raised 5)] = some s ∧
    s.phase = .exited (.raised 5) := ⟨_, rfl, rfl⟩

open Pool in
/-- the defect repaired as F2 (returning without the final drain) is not an execution of the model -/
example : run 2 (some 2) init
    [.submit, .submit, .begin 0, .begin 1, .finish 1 (.raised 5), .finish 0 .ok, .exit .ok] = none := rfl

open Pool in
/-- At most `n_jobs` trials are in flight at any moment of any execution: the unfinished futures
are all in the main thread's `futures` set, which never holds more than `k`. -/
theorem optimizePool_at_most_k_in_flight (k : Nat) (n : Option Nat) (es : List Event) (s : State)
    (h : run k n init es = some s) (l : List Nat) (hnd : l.Nodup)
    (hl : ∀ i ∈ l, i < s.submitted ∧ s.ended i = none) : l.length ≤ k := by
  have hi := inv_run k n init s es (inv_init k n) h
  have hsub : l ⊆ s.futures := fun i hil => hi.unfinished_tracked i (hl i hil).1 (hl i hil).2
  exact Nat.le_trans (List.Nodup.length_le_of_subset hnd hsub) hi.size

open Pool in
/-- Never more than `n_trials` futures are submitted; and if `optimize` returns without `study.stop()`
ever having been called and without the main thread having seen the `timeout` elapse (stop-free,
timeout-free return), exactly `n_trials` were. -/
theorem optimizePool_submits_exactly_n (k : Nat) (m : Nat) (es : List Event) (s : State)
    (h : run k (some m) init es = some s) :
    s.submitted ≤ m ∧
      (s.phase = .exited .ok → s.stop = false → s.timedOut = false → s.submitted = m) := by
  have hi := inv_run k (some m) init s es (inv_init k (some m)) h
  exact ⟨hi.quota m rfl, fun hx hs ht => hi.exactly_n hx hs ht m rfl⟩

open Pool in
/-- the `timeout` break: the submit loop ends after one of two trials, nothing stopped it, `optimize`
returns — and the count conjunct above does not (and must not) apply -/
example : ∃ s, run 2 (some 2) init [.submit, .begin 0, .finish 0 .ok, .timeout, .waitAll, .exit .ok] = some s ∧
    s.phase = .exited .ok ∧ s.stop = false ∧ s.timedOut = true ∧ s.submitted = 1 := ⟨_, rfl, rfl, rfl, rfl, rfl⟩

open Pool in
/-- without a clock reading that says so, the loop cannot be left early -/
example : run 2 (some 2) init [.submit, .begin 0, .finish 0 .ok, .waitAll] = none := rfl

end OptunaVerif.C02
