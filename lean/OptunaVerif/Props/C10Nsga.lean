import OptunaVerif.Lemmas.Nsga2Src
import OptunaVerif.Model.Nsga2
import OptunaVerif.Props.C10
/-!
# C10 (NSGA-II part) — values produced by crossover and mutation lie in the declared domain

`Model/Nsga2.lean` mirrors `perform_crossover` / `_try_crossover` / `_is_contained` and
`NSGAIIChildGenerationStrategy.__call__`; the numeric crossover operator (uniform, BLX-alpha, SBX, SPX, UNDX, vSBX)
and the random generator are abstract: whatever they return is read from a script, and every theorem quantifies
over ALL scripts.  If `perform_crossover` returns, every value of the child is a member of its declared domain because
the `while True` loop only leaves through `_is_contained`.  There is NO fallback and no retry cap: the alternatives are
another round, or a `ValueError` that escapes.
-/
namespace OptunaVerif.C10Nsga
open OptunaVerif.Dist OptunaVerif.Nsga2 OptunaVerif.Suggest List

theorem containedTok_true {d : Dist} {t : Tok} (h : containedTok d t = .ok true) : Member d t := by
  unfold containedTok at h
  split at h
  · simp at h
  · split at h
    · split at h <;> simp at h
    · split at h
      · rename_i q hq
        simp only [Except.ok.injEq] at h
        exact ⟨q, hq, h⟩
      · simp at h

theorem member_containedTok {d : Dist} {t : Tok} (h : Member d t) : containedTok d t = .ok true := by
  obtain ⟨q, hq, hc⟩ := h
  unfold containedTok
  -- `to_internal_repr` accepted `t`, so for a numerical domain it is not an infinity
  have hfin : isNumerical d = false ∨ (t ≠ .pinf ∧ t ≠ .ninf) := by
    cases d <;> cases t <;> simp_all [isNumerical, Dist.toInternal, Tok.num?]
  rcases hfin with h | ⟨h1, h2⟩
  · simp [h, hq, hc]
  · simp [h1, h2, hq, hc]

theorem liftOpt_ok {β : Type} {e : Stop} {o : Option β} {b : β} : liftOpt e o = .ok b ↔ o = some b := by
  cases o <;> simp [liftOpt]

theorem isContained_true (space : Space) (child : List (String × Tok)) (h : isContained space child = .ok true) :
    ∀ p ∈ child, ∃ d, AList.get? space p.1 = some d ∧ Member d p.2 := by
  induction child with
  | nil => simp
  | cons p rest ih =>
    obtain ⟨n, t⟩ := p
    simp only [isContained, Except.bind_eq_ok, liftOpt_ok] at h
    obtain ⟨d, hg, c, hc, h⟩ := h
    cases c with
    | false => cases h
    | true =>
      intro p hp
      rcases mem_cons.1 hp with rfl | hp
      · exact ⟨d, hg, containedTok_true hc⟩
      · exact ih h p hp

theorem performLoop_in_domain (E : Env) (cfg : Cfg) (space cat num : Space) (pop : List (Ind XVal)) (fuel : Nat)
    (tr : List Attempt) (s : List Draw) (child : List (String × Tok)) (tr' : List Attempt) (rest : List Draw)
    (h : performLoop E cfg space cat num pop fuel tr s = .ok (child, tr', rest)) :
    ∀ p ∈ child, ∃ d, AList.get? space p.1 = some d ∧ Member d p.2 := by
  induction fuel generalizing tr s with
  | zero => simp [performLoop] at h
  | succ fuel ih =>
    simp only [performLoop, Except.bind_eq_ok, Prod.exists] at h
    obtain ⟨parents, s1, -, child2, rows, s2, -, c, hc, h⟩ := h
    cases c with
    | true =>
      simp only [if_true, pure, Except.pure, Except.ok.injEq, Prod.mk.injEq] at h
      rw [← h.1]
      exact isContained_true space child2 hc
    | false => exact ih _ _ h

/-- **crossover_result_in_domain.**  For EVERY script — every sequence of random draws and every sequence of raw
vectors the crossover operator may return, inside or far outside the bounds, ±inf, NaN — if `perform_crossover`
returns a child, then every parameter of the child belongs to the search space and its value is a member of the
declared domain. -/
theorem crossover_result_in_domain (E : Env) (cfg : Cfg) (space : Space) (pop : List (Ind XVal)) (s : List Draw)
    (child : List (String × Tok)) (tr : List Attempt) (rest : List Draw)
    (h : performCrossover E cfg space pop s = .ok (child, tr, rest)) :
    ∀ p ∈ child, ∃ d, AList.get? space p.1 = some d ∧ Member d p.2 :=
  performLoop_in_domain E cfg space _ _ pop _ [] s child tr rest h

/-- **clip_path_always_contained.**  Stepped floats, ints, and log ints: for EVERY finite raw number the value
`untransform` produces passes `_is_contained` (the projection clips and rounds — C10
`untransform_projection_in_domain`); such a parameter never sends the loop into another round. -/
theorem clip_path_always_contained (E : Env) (d : Dist) (x : Rat) (hwf : WF d)
    (hkind : match d with
      | .flt _ _ _ _ (some _) => True
      | .int _ _ _ _ _ => True
      | _ => False) :
    ∃ v, decodeX E d (.fin x) = .ok v ∧ containedTok d v = .ok true := by
  cases d with
  | cat cs => simp at hkind
  | flt c l h lg st =>
    cases st with
    | none => simp at hkind
    | some st =>
      obtain ⟨v, hv, hm⟩ := C10.untransform_projection_in_domain E tcfg (.flt c l h lg (some st)) x hwf trivial
      exact ⟨v, by simp [decodeX, hv, liftOpt], member_containedTok hm⟩
  | int c l h lg st =>
    obtain ⟨v, hv, hm⟩ := C10.untransform_projection_in_domain E tcfg (.int c l h lg st) x hwf (Or.inr rfl)
    exact ⟨v, by simp [decodeX, hv, liftOpt], member_containedTok hm⟩

-- non-vacuity: a raw value far outside an int range is pulled onto the bound
example : decodeX ⟨id, id, id⟩ (.int .int 0 10 false 1) (.fin 1000) = .ok (.int 10) := by decide +kernel

/-- **continuous_below_low_rejected.**  A continuous (no step, linear) float: `untransform` only applies
`min(·, nextafter(high))`; a raw value below `low` stays below `low` and `_is_contained` answers `False` — the retry
loop, not the projection, is what keeps such values out. -/
theorem continuous_below_low_rejected (E : Env) (c : FCls) (low high x : Rat) (hlh : low < high) (hx : x < low) :
    ∃ v, decodeX E (.flt c low high false none) (.fin x) = .ok v ∧
      containedTok (.flt c low high false none) v = .ok false := by
  have hs : (Dist.flt c low high false none).single = false := by
    simp [Dist.single]; exact ne_of_lt hlh
  refine ⟨.flt (min x (E.below high)), by simp [decodeX, decode, hs, liftOpt], ?_⟩
  have : ¬ low ≤ min x (E.below high) := by
    intro h
    exact absurd (lt_of_le_of_lt (le_trans h (min_le_left _ _)) hx) (lt_irrefl _)
  simp [containedTok, Dist.toInternal, Tok.num?, Dist.contains, this]

/-- a population of two trials with one continuous parameter `x ∈ [0, 1]` -/
def demoPop : List (Ind XVal) :=
  [⟨0, [.fin 0], none, true, [("x", .flt (1/4))]⟩, ⟨1, [.fin 1], none, true, [("x", .flt (3/4))]⟩]

def demoCfg : Cfg := ⟨1, 1/2, none, 2, false, [false]⟩
def demoSpace : Space := [("x", .flt .float 0 1 false none)]
def demoEnv : Env := ⟨id, id, fun h => h - 1/1000⟩

def stopOf {β : Type} : M β → Option Stop
  | .error e => some e
  | .ok _ => none

/-- **nan_raises_witness.**  A NaN in the operator's answer: `to_internal_repr` raises `ValueError` inside
`_is_contained` (float parameter) — resp. `int(nan)` inside `untransform` (int parameter); the exception escapes
`perform_crossover`. -/
theorem nan_raises_witness :
    stopOf (performCrossover demoEnv demoCfg demoSpace demoPop
      [.choice 0, .choice 1, .choice 0, .choice 0, .op [.nan]]) = some .valueError ∧
    stopOf (performCrossover demoEnv demoCfg [("x", .int .int 0 5 false 1)]
      [⟨0, [.fin 0], none, true, [("x", .int 1)]⟩, ⟨1, [.fin 1], none, true, [("x", .int 2)]⟩]
      [.choice 0, .choice 1, .choice 0, .choice 0, .op [.nan]]) = some .valueError := by
  constructor <;> decide +kernel

/-- **bad_operator_never_returns_witness.**  There is no retry cap and no fallback: against an operator that answers
`-1` (below the range) every time, three rounds are played and the script is exhausted — the loop would go on;
as soon as the operator answers inside the range the child is returned (with the high end pulled to
`nextafter(high)`). -/
theorem bad_operator_never_returns_witness :
    stopOf (performCrossover demoEnv demoCfg demoSpace demoPop
      [.choice 0, .choice 1, .choice 0, .choice 0, .op [.fin (-1)],
       .choice 1, .choice 1, .choice 0, .choice 0, .op [.fin (-1)],
       .choice 0, .choice 0, .choice 0, .choice 0, .op [.fin (-1)]]) = some .exhausted ∧
    (performCrossover demoEnv demoCfg demoSpace demoPop
      [.choice 0, .choice 1, .choice 0, .choice 0, .op [.fin (-1)],
       .choice 1, .choice 1, .choice 0, .choice 0, .op [.fin 7]]).toOption.map (·.1) = some [("x", .flt (999/1000))] := by
  constructor <;> decide +kernel

theorem mutate_sublist (mp : Rat) (child : List (String × Tok)) (s : List Draw) (kept : List (String × Tok))
    (rest : List Draw) (h : mutate mp child s = .ok (kept, rest)) : kept.Sublist child := by
  induction child generalizing s kept rest with
  | nil =>
    simp only [mutate, Except.ok.injEq, Prod.mk.injEq] at h
    rw [← h.1]
  | cons p t ih =>
    simp only [mutate, Except.bind_eq_ok, Prod.exists, pure, Except.pure, Except.ok.injEq, Prod.mk.injEq] at h
    obtain ⟨r, s1, -, kept2, s2, hm, rfl, -⟩ := h
    have := ih s1 kept2 s2 hm
    split
    · exact this.cons_cons p
    · exact this.cons p

theorem copyParams_spec (par : Ind XVal) (sp : Space) (ch : List (String × Tok)) (h : copyParams par sp = .ok ch) :
    ∀ p ∈ ch, ∃ q ∈ sp, p.1 = q.1 ∧ AList.get? par.params q.1 = some p.2 := by
  induction sp generalizing ch with
  | nil =>
    simp only [copyParams, Except.ok.injEq] at h
    subst h; simp
  | cons q sp ih =>
    simp only [copyParams, getParam, Except.bind_eq_ok, liftOpt_ok, pure, Except.pure, Except.ok.injEq] at h
    obtain ⟨v, hv, chr, hchr, rfl⟩ := h
    intro p hp
    rcases mem_cons.1 hp with rfl | hp
    · exact ⟨q, by simp, rfl, hv⟩
    · obtain ⟨q', hq', h1, h2⟩ := ih chr hchr p hp
      exact ⟨q', by simp [hq'], h1, h2⟩

/-- **child_params_in_domain.**  Every entry of the dict returned by `NSGAIIChildGenerationStrategy.__call__` is
one of the child's parameters (mutation only drops), and: in the crossover branch it is a member of its declared
domain; in the copy branch (`rng.rand() >= crossover_prob`) it is the corresponding parameter of one parent — a member
as soon as the parents' parameters are (they were suggested from the same distributions: the relative search space is
the intersection search space). -/
theorem child_params_in_domain (E : Env) (cfg : Cfg) (space : Space) (pop : List (Ind XVal)) (s : List Draw)
    (out : ChildOut) (h : childGen E cfg space pop s = .ok out)
    (hpar : ∀ x ∈ pop, ∀ p ∈ space, ∀ v, AList.get? x.params p.1 = some v → Member p.2 v)
    (hkeys : ∀ p ∈ space, AList.get? space p.1 = some p.2) :
    out.params.Sublist out.child ∧
    ∀ p ∈ out.params, ∃ d, AList.get? space p.1 = some d ∧ Member d p.2 := by
  simp only [childGen, Except.bind_eq_ok, Prod.exists, pure, Except.pure, Except.ok.injEq] at h
  obtain ⟨r, s1, -, child, tr, s2, hbranch, params, s3, hm, rfl⟩ := h
  have hsub := mutate_sublist _ _ _ _ _ hm
  refine ⟨hsub, ?_⟩
  suffices hchild : ∀ p ∈ child, ∃ d, AList.get? space p.1 = some d ∧ Member d p.2 from
    fun p hp => hchild p (hsub.subset hp)
  split at hbranch
  · exact crossover_result_in_domain E cfg space pop s1 child tr s2 hbranch
  · simp only [Except.bind_eq_ok, Prod.exists, liftOpt_ok, Except.ok.injEq, Prod.mk.injEq] at hbranch
    obtain ⟨i, s4, -, par, hpar', child', hmap, rfl, -, -⟩ := hbranch
    intro p hp
    obtain ⟨q, hq, h1, h2⟩ := copyParams_spec par space child' hmap p hp
    exact ⟨q.2, by rw [h1]; exact hkeys q hq, hpar par (mem_of_getElem? hpar') q hq p.2 h2⟩

/-- **mutation_resamples_independently.**  `out.params` is what `sample_relative` hands to the trial.  For a parameter
the mutation loop dropped (or that the child never had) — `name` is not a key of `out.params` — `Trial._suggest`
finds no relative value and, for a fresh name that is neither fixed nor single-valued, returns exactly what
`sample_independent` (the `RandomSampler` inside `NSGAIISampler`) answers, and stores its internal form. -/
theorem mutation_resamples_independently (E : Env) (cfg : Cfg) (space : Space) (pop : List (Ind XVal)) (s : List Draw)
    (out : ChildOut) (_h : childGen E cfg space pop s = .ok out) (name : String)
    (hdrop : AList.get? out.params name = none)
    (cx : Ctx) (hrel : cx.relParams = out.params) (hfix : cx.fixed.get? name = none)
    (st : St) (hnew : st.dists.get? name = none) (d : Dist) (hs : d.single = false) (indep : Tok) (q : Rat)
    (hq : d.toInternal indep = .ok q) :
    suggest cx st name d indep =
      .ok ({ params := st.params.set name indep, dists := st.dists.set name d, stored := st.stored.set name (q, d) },
           indep, .independent) := by
  apply C10.suggest_new cx st name d indep indep .independent q hnew _ hq
  simp [pick, pickS, hfix, hs, hrel, hdrop]

/-- Whatever `sample_relative` returned for the other names: the value the objective receives is a member of
the declared domain as soon as the independent sampler's answer is (kept values are used only if contained; C10
`suggest_in_domain`). -/
theorem nsga2_suggested_value_in_domain (cx : Ctx) (st st1 : St) (name : String) (d : Dist) (indep v : Tok) (br : Branch)
    (hnew : st.dists.get? name = none) (h : suggest cx st name d indep = .ok (st1, v, br)) (hwf : WF d)
    (hfixed : ∀ fv, cx.fixed.get? name = some fv → Member d fv) (hindep : Member d indep) : Member d v :=
  C10.suggest_in_domain cx st st1 name d indep v br hnew h hwf hfixed hindep

-- non-vacuity: copy branch (first draw 0.95 >= crossover_prob 0.9), parent #1, two parameters, mutation_prob 1/2:
-- draw 0.25 < 0.5 drops `x`, draw 0.75 keeps `k`; `x` then comes from the independent sampler
example :
    let pop : List (Ind XVal) :=
      [⟨0, [.fin 0], none, true, [("x", .flt (1/4)), ("k", .int 2)]⟩, ⟨1, [.fin 1], none, true, [("x", .flt (3/4)), ("k", .int 3)]⟩]
    let space : Space := [("x", .flt .float 0 1 false none), ("k", .int .int 0 5 false 1)]
    (childGen demoEnv ⟨9/10, 1/2, none, 2, false, [false]⟩ space pop
        [.rand (19/20), .choice 1, .rand (1/4), .rand (3/4)]).toOption.map (fun o => (o.child, o.params)) =
      some ([("x", .flt (3/4)), ("k", .int 3)], [("k", .int 3)]) := by decide +kernel

example :
    (suggest ⟨[], [("x", .flt .float 0 1 false none), ("k", .int .int 0 5 false 1)], [("k", .int 3)]⟩ St.empty "x"
        (.flt .float 0 1 false none) (.flt (1/8))).toOption.map (fun r => (r.2.1, r.2.2)) = some (.flt (1/8), .independent) := by
  decide +kernel

/-- content keys (docstring-free, position-free AST; `verif/translators/nsga2_src.py`) of the functions of the tree
under test that the theorems of this file speak about; the numbers are the keys of the source text that
`Model/Nsga2.lean` mirrors, and the list is entries 9.. of the generated table `Generated.Nsga2Src.keys` -/
def modelledKeys : List (String × Nat) := [
  ("optuna/samplers/nsgaii/_crossover.py :: perform_crossover", 792937849163762486),
  ("optuna/samplers/nsgaii/_crossover.py :: _try_crossover", 603584729586965770),
  ("optuna/samplers/nsgaii/_crossover.py :: _select_parents", 252677893570798265),
  ("optuna/samplers/nsgaii/_crossover.py :: _select_parent", 1061091213711927139),
  ("optuna/samplers/nsgaii/_crossover.py :: _is_contained", 365391628909564172),
  ("optuna/samplers/nsgaii/_crossover.py :: _inlined_categorical_uniform_crossover", 994804976467868965),
  ("optuna/samplers/nsgaii/_child_generation_strategy.py :: NSGAIIChildGenerationStrategy.__call__", 620157118343850873)
]

/-- **modelled_source_unchanged.**  The crossover wrapper and the child generation strategy are the functions mirrored by `performCrossover` / `childGen`. -/
theorem modelled_source_unchanged :
    modelledKeys.all (fun p => Generated.Nsga2Src.keyOf p.1 == p.2) = true :=
  Generated.Nsga2Src.all_keyOf_of_sublist (List.drop_sublist 9 Generated.Nsga2Src.keys)

end OptunaVerif.C10Nsga
