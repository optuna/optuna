import OptunaVerif.Generated.DistMethods
import OptunaVerif.Props.C11
import OptunaVerif.Lemmas.DistIR
/-!
# C11 (translator tie) — `optuna/distributions.py` *as written in the source today* is the hand model `Model/Dist.lean`

`Generated/DistMethods.lean` is regenerated on every run by `verif/translators/tdist.py` from `optuna/distributions.py`
(34 bodies: the `__init__`s of the eight classes, `single`, `_contains`, `to_internal_repr`, `to_external_repr`, `_asdict`, the two
high adjustments, `check_distribution_compatibility`, `_get_single_value`, `_convert_old_distribution_to_new_distribution`,
`_is_distribution_log`, `distribution_to_json`, `json_to_distribution`) as data of the statement language of `Model/DistIR.lean`,
together with the class table, the `__init__` signatures and the pinned texts of `__eq__` / `__hash__` / `__repr__` /
`_categorical_choice_equal` / the class statements.

Proved here: per method, the interpreter of the generated body equals the hand-model function (`call_*`: for all inputs, except that
`call_contains` takes a well-formed distribution, `call_toInternal_numeric` a value other than ±inf, `call_toExternal` an index the model's
`toExternal` accepts, and the two high adjustments the step and range the constructors' validations leave); the eight
constructors are one statement (`initD_remk`: `C(…)` on the attributes of a distribution of class `C`, from any caller state, is the hand
constructor on them — a base class runs its own body, a deprecated class forwards to it, `deprecated_forwards`), of which the `interp_mk*`
are the instances; the C11 round-trip theorems restated for the interpreter (`gen_*`).  A source edit changes the generated data and a
named equality below stops type-checking.
-/
namespace OptunaVerif.C11DistGen
open OptunaVerif.Dist OptunaVerif.DistIR
open OptunaVerif.Generated
open OptunaVerif.Generated.DistMethods (program)

theorem prog_adjustDiscreteHigh : program.adjustDiscreteHigh = DistMethods.adjustDiscreteHigh := rfl
theorem prog_adjustIntHigh : program.adjustIntHigh = DistMethods.adjustIntHigh := rfl
theorem prog_floatInit : program.floatInit = DistMethods.floatInit := rfl
theorem prog_intInit : program.intInit = DistMethods.intInit := rfl
theorem prog_catInit : program.catInit = DistMethods.catInit := rfl
theorem prog_uniformInit : program.uniformInit = DistMethods.uniformInit := rfl
theorem prog_logUniformInit : program.logUniformInit = DistMethods.logUniformInit := rfl
theorem prog_discreteUniformInit : program.discreteUniformInit = DistMethods.discreteUniformInit := rfl
theorem prog_intUniformInit : program.intUniformInit = DistMethods.intUniformInit := rfl
theorem prog_intLogUniformInit : program.intLogUniformInit = DistMethods.intLogUniformInit := rfl
theorem prog_floatSingle : program.floatSingle = DistMethods.floatSingle := rfl
theorem prog_intSingle : program.intSingle = DistMethods.intSingle := rfl
theorem prog_catSingle : program.catSingle = DistMethods.catSingle := rfl
theorem prog_floatContains : program.floatContains = DistMethods.floatContains := rfl
theorem prog_intContains : program.intContains = DistMethods.intContains := rfl
theorem prog_catContains : program.catContains = DistMethods.catContains := rfl
theorem prog_floatToInternal : program.floatToInternal = DistMethods.floatToInternal := rfl
theorem prog_intToInternal : program.intToInternal = DistMethods.intToInternal := rfl
theorem prog_catToInternal : program.catToInternal = DistMethods.catToInternal := rfl
theorem prog_baseToExternal : program.baseToExternal = DistMethods.baseToExternal := rfl
theorem prog_intToExternal : program.intToExternal = DistMethods.intToExternal := rfl
theorem prog_catToExternal : program.catToExternal = DistMethods.catToExternal := rfl
theorem prog_baseAsdict : program.baseAsdict = DistMethods.baseAsdict := rfl
theorem prog_uniformAsdict : program.uniformAsdict = DistMethods.uniformAsdict := rfl
theorem prog_logUniformAsdict : program.logUniformAsdict = DistMethods.logUniformAsdict := rfl
theorem prog_discreteUniformAsdict : program.discreteUniformAsdict = DistMethods.discreteUniformAsdict := rfl
theorem prog_intUniformAsdict : program.intUniformAsdict = DistMethods.intUniformAsdict := rfl
theorem prog_intLogUniformAsdict : program.intLogUniformAsdict = DistMethods.intLogUniformAsdict := rfl
theorem prog_checkCompat : program.checkCompat = DistMethods.checkCompat := rfl
theorem prog_getSingleValue : program.getSingleValue = DistMethods.getSingleValue := rfl
theorem prog_convertOld : program.convertOld = DistMethods.convertOld := rfl
theorem prog_isLog : program.isLog = DistMethods.isLog := rfl
theorem prog_distributionToJson : program.distributionToJson = DistMethods.distributionToJson := rfl
theorem prog_jsonToDistribution : program.jsonToDistribution = DistMethods.jsonToDistribution := rfl

attribute [dist_ir] prog_adjustDiscreteHigh prog_adjustIntHigh prog_floatInit prog_intInit prog_catInit prog_uniformInit prog_logUniformInit prog_discreteUniformInit prog_intUniformInit prog_intLogUniformInit prog_floatSingle prog_intSingle prog_catSingle prog_floatContains prog_intContains prog_catContains prog_floatToInternal prog_intToInternal prog_catToInternal prog_baseToExternal prog_intToExternal prog_catToExternal prog_baseAsdict prog_uniformAsdict prog_logUniformAsdict prog_discreteUniformAsdict prog_intUniformAsdict prog_intLogUniformAsdict prog_checkCompat prog_getSingleValue prog_convertOld prog_isLog prog_distributionToJson prog_jsonToDistribution

/-- execute a generated body: the interpreter's equations, then the facts given -/
macro "d_simp" "[" ts:Lean.Parser.Tactic.simpLemma,* "]" : tactic =>
  `(tactic| simp [dist_ir, beq_eq_decide, $ts,*])

theorem call_adjustIntHigh (low high step : Int) (hs : step ≠ 0) (s : MSt) :
    program.call0 .adjustIntHigh [.tok (.int low), .tok (.int high), .tok (.int step)] s =
      ({ s with warns := if Int.fmod (high - low) step ≠ 0 then s.warns ++ [.highAdjusted] else s.warns },
       .ok (.tok (.int (DistInt.adjustIntUniformHigh low high step)))) := by
  by_cases h : Int.fmod (high - low) step = 0 <;>
    d_simp [Program.call0, DistMethods.adjustIntHigh, DistInt.adjustIntUniformHigh, hs, h]

theorem call_adjustDiscreteHigh (low high step : Rat) (hs : 0 < step) (hl : low ≤ high) (s : MSt) :
    program.call0 .adjustDiscreteHigh [.tok (.flt low), .tok (.flt high), .tok (.flt step)] s =
      ({ s with warns := if ratMod (high - low) step ≠ 0 then s.warns ++ [.highAdjusted] else s.warns },
       .ok (.tok (.flt (adjustDiscreteHigh low high step)))) := by
  have h1 : ¬ step ≤ 0 := not_le.mpr hs
  have h2 : ¬ high - low < 0 := by linarith
  by_cases h : ratMod (high - low) step = 0 <;>
    d_simp [Program.call0, DistMethods.adjustDiscreteHigh, Dist.adjustDiscreteHigh, h1, h2, h]

def liftR {α : Type} : R α → Except Exn α
  | .ok a => .ok a
  | .error e => .error (.err e)

theorem liftR_ok {α : Type} {m : R α} {a : α} (h : liftR m = .ok a) : m = .ok a := by
  cases m with
  | ok x => exact congrArg _ (Except.ok.inj h)
  | error e => cases h

def iv (i : Int) : Val := .tok (.int i)

def resV : R Dist → Except Exn Val
  | .ok d => .ok (instV d)
  | .error e => .error (.err e)

/-- the run `r` of an `__init__` body on a fresh `self` of class `c` does what the hand constructor `m` says: it logs `w`, and either
falls through with `self.__dict__` that of the distribution built, or raises the constructor's error -/
def InitRuns (c : Cls) (r : MSt × Flow) (w : List Warn) (m : R Dist) : Prop :=
  r.1.warns = w ∧
  match m with
  | .ok d => r.2 = .next ∧ r.1.self = some (c, instDict d) ∧ clsOf d = c
  | .error e => r.2 = .raised (.err e)

theorem initD_of_runs (c : Cls) (args : List (String × Val)) (s : MSt) (w : List Warn) (m : R Dist)
    (h : InitRuns c (program.runInitBody program.superD c args { locals := [], self := some (c, []), warns := s.warns }) (s.warns ++ w) m) :
    program.initD c args s = ({ s with warns := s.warns ++ w }, resV m) := by
  rw [Program.initD_eq]
  obtain ⟨hw, hm⟩ := h
  cases m with
  | ok d => obtain ⟨h1, h2, h3⟩ := hm; simp only [hw, h1, h2, resV, instV, h3]
  | error e => simp only [hw, hm, resV]

/-- `super().__init__(…)` runs the base class's body on the same `self`; only the caller's locals are put back -/
theorem InitRuns.super {c : Cls} {args : List (String × Val)} {s : MSt} {w : List Warn} {m : R Dist}
    (h : InitRuns c (program.runInitBody noSuper c.base args s) w m) : InitRuns c (program.superD c args s) w m := h

/-- warnings of the constructor call on a distribution's own attributes: the high adjustment's, when it adjusts -/
def warnsOf (d : Dist) : List Warn :=
  match d, C11.remk d with
  | .flt _ low high _ (some st), .ok _ => if ratMod (high - low) st ≠ 0 then [.highAdjusted] else []
  | .int _ low high _ step, .ok _ => if Int.fmod (high - low) step ≠ 0 then [.highAdjusted] else []
  | _, _ => []

theorem floatInit_runs (sup : SuperD) (c : FCls) (low high : Rat) (log : Bool) (step : Option Rat) (l : AList Val) (w : List Warn) :
    InitRuns (.flt c) (program.runInitBody sup (.flt .float) (ctorArgs (fltV low) (fltV high) (boolV log) (optFltV step))
      { locals := l, self := some (.flt c, []), warns := w }) (w ++ warnsOf (.flt c low high log step)) (mkFlt c low high log step) := by
  have hbind : bindKw (initParams (.flt .float)) (ctorArgs (fltV low) (fltV high) (boolV log) (optFltV step)) =
      .ok [("low", fltV low), ("high", fltV high), ("log", boolV log), ("step", optFltV step)] := by
    simp [bindKw, initParams, ctorArgs, List.find?, List.any]
  rw [Program.runInitBody, hbind]
  simp only [Program.initBody, prog_floatInit, DistMethods.floatInit, block]
  -- the four validations, each test evaluated once
  rw [exec_guard (log && step.isSome) (by cases log <;> cases step <;> d_simp [fltV, optFltV]),
    exec_guard (decide (high < low)) (by d_simp [fltV]),
    exec_guard (log && decide (low ≤ 0)) (by cases log <;> d_simp [fltV]),
    exec_guard (match step with | some st => decide (st ≤ 0) | none => false) (by cases step <;> d_simp [fltV, optFltV])]
  by_cases h1 : (log && step.isSome) = true
  · simp [InitRuns, warnsOf, C11.remk, mkFlt, h1]
  by_cases h2 : high < low
  · simp [InitRuns, warnsOf, C11.remk, mkFlt, h1, h2]
  by_cases h3 : (log && decide (low ≤ 0)) = true
  · simp [InitRuns, warnsOf, C11.remk, mkFlt, h1, h2, h3]
  -- the attributes, in the order of the assignments; the high adjustment through today's `_adjust_discrete_uniform_high`
  cases step with
  | none => d_simp [InitRuns, warnsOf, C11.remk, mkFlt, h1, h2, h3, fltV, optFltV, optStepJ, instDict, clsOf]
  | some st =>
    obtain rfl : log = false := by simpa using h1
    by_cases h4 : st ≤ 0
    · simp [InitRuns, warnsOf, C11.remk, mkFlt, h2, h3, h4]
    · have hc := call_adjustDiscreteHigh low high st (not_le.mp h4) (not_lt.mp h2)
      by_cases hm : ratMod (high - low) st = 0 <;>
        d_simp [InitRuns, warnsOf, C11.remk, mkFlt, h1, h2, h3, h4, hc, hm, fltV, optFltV, optStepJ, instDict, clsOf]

theorem outOf_resV (s : MSt) (m : R Dist) : (outOf ofInst (s, resV m)).res = liftR m := by
  cases m <;> simp [outOf, resV, liftR, ofInst_instV]

/-- The parts of `distributions.py` the interpreter gives meaning to as primitives read today exactly as when
that meaning was written: `BaseDistribution.__eq__` (same type, same `__dict__`), `__hash__`, `__repr__`,
`CategoricalDistribution.__eq__` (choices compared with `_categorical_choice_equal`), `_categorical_choice_equal` (`==` or both NaN), the
`q` property of DiscreteUniformDistribution (alias of `step`), and for each of the eight classes its bases, decorators, and that it
redefines none of the methods the dispatch of `Program.call1` takes from its base class -/
theorem pinned_sources : DistMethods.pins =
    [("BaseDistribution.__eq__", "[] if not isinstance(other, BaseDistribution): return NotImplemented ; if type(self) is not type(other): return False ; return self.__dict__ == other.__dict__"),
     ("BaseDistribution.__hash__", "[] return hash((self.__class__,) + tuple(sorted(self.__dict__.items())))"),
     ("BaseDistribution.__repr__", "[] kwargs = ', '.join(('{}={}'.format(k, v) for k, v in sorted(self._asdict().items()))) ; return '{}({})'.format(self.__class__.__name__, kwargs)"),
     ("CategoricalDistribution.__eq__", "[] if not isinstance(other, BaseDistribution): return NotImplemented ; if not isinstance(other, self.__class__): return False ; if self.__dict__.keys() != other.__dict__.keys(): return False ; for key, value in self.__dict__.items(): if key == 'choices': if len(value) != len(getattr(other, key)): return False for choice, other_choice in zip(value, getattr(other, key)): if not _categorical_choice_equal(choice, other_choice): return False elif value != getattr(other, key): return False ; return True"),
     ("_categorical_choice_equal", "[] value1_is_nan = isinstance(value1, Real) and np.isnan(float(value1)) ; value2_is_nan = isinstance(value2, Real) and np.isnan(float(value2)) ; return value1 == value2 or (value1_is_nan and value2_is_nan)"),
     ("DiscreteUniformDistribution.q", "[property] return cast(float, self.step) || [q.setter] self.step = v"),
     ("class FloatDistribution", "bases (BaseDistribution); decorators []; redefines []; class attributes []"),
     ("class UniformDistribution", "bases (FloatDistribution); decorators [deprecated_class]; redefines []; class attributes []"),
     ("class LogUniformDistribution", "bases (FloatDistribution); decorators [deprecated_class]; redefines []; class attributes []"),
     ("class DiscreteUniformDistribution", "bases (FloatDistribution); decorators [deprecated_class]; redefines []; class attributes []"),
     ("class IntDistribution", "bases (BaseDistribution); decorators []; redefines []; class attributes []"),
     ("class IntUniformDistribution", "bases (IntDistribution); decorators [deprecated_class]; redefines []; class attributes []"),
     ("class IntLogUniformDistribution", "bases (IntDistribution); decorators [deprecated_class]; redefines []; class attributes []"),
     ("class CategoricalDistribution", "bases (BaseDistribution); decorators []; redefines []; class attributes []")] := rfl


/-- `DISTRIBUTION_CLASSES` lists the eight classes in the order the interpreter's loop uses -/
theorem class_table : DistMethods.classTable = allClasses.map Cls.name := by decide

/-- Parameters and literal defaults of the eight `__init__`s are those `cls(**attributes)` binds against -/
theorem init_signatures : DistMethods.signatures =
    [("FloatDistribution", [("low", none), ("high", none), ("log", some .false_), ("step", some .none_)]),
     ("UniformDistribution", [("low", none), ("high", none)]),
     ("LogUniformDistribution", [("low", none), ("high", none)]),
     ("DiscreteUniformDistribution", [("low", none), ("high", none), ("q", none)]),
     ("IntDistribution", [("low", none), ("high", none), ("log", some .false_), ("step", some (.intLit 1))]),
     ("IntUniformDistribution", [("low", none), ("high", none), ("step", some (.intLit 1))]),
     ("IntLogUniformDistribution", [("low", none), ("high", none), ("step", some (.intLit 1))]),
     ("CategoricalDistribution", [("choices", none)])] := rfl

theorem intInit_runs (sup : SuperD) (c : ICls) (low high : Int) (log : Bool) (step : Int) (l : AList Val) (w : List Warn) :
    InitRuns (.int c) (program.runInitBody sup (.int .int) (ctorArgs (iv low) (iv high) (boolV log) (iv step))
      { locals := l, self := some (.int c, []), warns := w }) (w ++ warnsOf (.int c low high log step)) (mkInt c low high log step) := by
  have hbind : bindKw (initParams (.int .int)) (ctorArgs (iv low) (iv high) (boolV log) (iv step)) =
      .ok [("low", iv low), ("high", iv high), ("log", boolV log), ("step", iv step)] := by
    simp [bindKw, initParams, ctorArgs, List.find?, List.any]
  -- the body compares the arguments as numbers: back to the integer comparisons of `mkInt`
  have c1 : ((high : Rat) < (low : Rat)) ↔ high < low := Int.cast_lt
  have c2 : ((low : Rat) < 1) ↔ low < 1 := by exact_mod_cast Iff.rfl
  have c3 : ((step : Rat) ≤ 0) ↔ step ≤ 0 := by exact_mod_cast Iff.rfl
  rw [Program.runInitBody, hbind]
  simp only [Program.initBody, prog_intInit, DistMethods.intInit, block]
  rw [exec_guard (log && step != 1) (by cases log <;> d_simp [iv, bne]),
    exec_guard (decide (high < low)) (by d_simp [iv, c1]),
    exec_guard (log && decide (low < 1)) (by cases log <;> d_simp [iv, c2]),
    exec_guard (decide (step ≤ 0)) (by d_simp [iv, c3])]
  by_cases h1 : (log && step != 1) = true
  · simp [InitRuns, warnsOf, C11.remk, mkInt, h1]
  by_cases h2 : high < low
  · simp [InitRuns, warnsOf, C11.remk, mkInt, h1, h2]
  by_cases h3 : (log && decide (low < 1)) = true
  · simp [InitRuns, warnsOf, C11.remk, mkInt, h1, h2, h3]
  by_cases h4 : step ≤ 0
  · simp [InitRuns, warnsOf, C11.remk, mkInt, h1, h2, h3, h4]
  have hc := call_adjustIntHigh low high step (by omega)
  by_cases hm : Int.fmod (high - low) step = 0 <;>
    d_simp [InitRuns, warnsOf, C11.remk, mkInt, DistInt.adjustIntUniformHigh, h1, h2, h3, h4, hc, hm, iv, instDict, clsOf]

/-! ## `CategoricalDistribution.__init__`: the loop `for choice in choices:` -/

/-- the body of the warning loop, as generated -/
def catLoopBody : Stmt := .ite (.unsupportedChoice (.var "choice")) (.warn .unsupportedChoice) .skip

def catLoopLocals : List Tok → AList Val → AList Val
  | [], l => l
  | t :: rest, l => catLoopLocals rest (l.set "choice" (.tok t))

theorem cat_loop (callD : CallD) (initD : InitD) (superD : SuperD) (cs : List Tok) (s : MSt) :
    forLoop (exec callD initD superD catLoopBody) (cs.map (fun t => [("choice", Val.tok t)])) s =
      ({ s with locals := catLoopLocals cs s.locals }, .next) := by
  induction cs generalizing s with
  | nil => rfl
  | cons t rest ih =>
    have step : exec callD initD superD catLoopBody (bindAll s [("choice", Val.tok t)]) =
        ({ s with locals := s.locals.set "choice" (.tok t) }, .next) := by
      d_simp [catLoopBody, bindAll, AList.get?_set_same]
    simp only [List.map, forLoop, step]
    rw [ih]
    rfl

theorem cat_loop_cons (callD : CallD) (initD : InitD) (superD : SuperD) (a : Tok) (t : List Tok) (s : MSt) :
    forLoop (exec callD initD superD catLoopBody) ([("choice", Val.tok a)] :: t.map (fun t => [("choice", Val.tok t)])) s =
      ({ s with locals := catLoopLocals (a :: t) s.locals }, .next) := cat_loop callD initD superD (a :: t) s

theorem catLoopLocals_other (cs : List Tok) (l : AList Val) (k : String) (hk : k ≠ "choice") :
    (catLoopLocals cs l).get? k = l.get? k := by
  induction cs generalizing l with
  | nil => rfl
  | cons t rest ih => rw [catLoopLocals, ih, AList.get?_set_other _ _ _ _ hk]

theorem initD_cat (cs : List Tok) (s : MSt) :
    program.initD .cat [("choices", .tup cs)] s = (s, resV (mkCat cs)) := by
  cases cs with
  | nil => d_simp [Program.initD, Program.runInitBody, Program.superD, Program.initBody, bindKw, initParams, resV, instV, instDict, clsOf, List.find?, DistMethods.catInit, mkCat]
  | cons a t =>
    have hb : (.ite (.unsupportedChoice (.var "choice")) (.warn .unsupportedChoice) .skip : Stmt) = catLoopBody := rfl
    have hl := catLoopLocals_other (a :: t) [("choices", Val.tup (a :: t))] "choices" (by decide)
    have hlen : ¬ ((t.length : Int) + 1 = 0) := by omega
    d_simp [Program.initD, Program.runInitBody, Program.superD, Program.initBody, bindKw, initParams, resV, instV, instDict, clsOf, List.find?, DistMethods.catInit, mkCat, iterItems, hb, cat_loop_cons, hl, hlen]

/-- the keyword arguments of the constructor call that builds `d` again: its attributes under the parameter names of its class's `__init__` -/
def ctorKw : Dist → List (String × Val)
  | .flt .float low high log step => ctorArgs (fltV low) (fltV high) (boolV log) (optFltV step)
  | .flt .discreteUniform low high _ step => [("low", fltV low), ("high", fltV high), ("q", optFltV step)]
  | .flt _ low high _ _ => [("low", fltV low), ("high", fltV high)]
  | .int .int low high log step => ctorArgs (iv low) (iv high) (boolV log) (iv step)
  | .int _ low high _ step => [("low", iv low), ("high", iv high), ("step", iv step)]
  | .cat cs => [("choices", .tup cs)]

attribute [local dist_ir] Program.runInitBody Program.initBody bindKw initParams optFltV clsOf ctorKw convertOld in
/-- the five deprecated classes at once: the body only evaluates its arguments and calls `super().__init__` — with the base class's keywords
for the same attributes -/
theorem deprecated_forwards (d : Dist) (h : C11.ClsOK d) (hd : convertOld d ≠ d) (o : JObj) (w : List Warn) :
    program.runInitBody program.superD (clsOf d) (ctorKw d) { locals := [], self := some (clsOf d, o), warns := w } =
      program.superD (clsOf d) (ctorKw (convertOld d)) { locals := ctorKw d, self := some (clsOf d, o), warns := w } := by
  cases d with
  | flt c low high log step =>
    cases c with
    | float => exact absurd rfl hd
    | uniform => obtain ⟨rfl, rfl⟩ := h; d_simp [DistMethods.uniformInit]
    | logUniform => obtain ⟨rfl, rfl⟩ := h; d_simp [DistMethods.logUniformInit]
    | discreteUniform => obtain ⟨rfl, _⟩ := h; d_simp [DistMethods.discreteUniformInit]
  | int c low high log step =>
    cases c with
    | int => exact absurd rfl hd
    | intUniform => obtain rfl : log = false := h; d_simp [DistMethods.intUniformInit]
    | intLogUniform => obtain rfl : log = true := h; d_simp [DistMethods.intLogUniformInit]
  | cat cs => exact absurd rfl hd

theorem initD_remk (d : Dist) (h : C11.ClsOK d) (s : MSt) :
    program.initD (clsOf d) (ctorKw d) s = ({ s with warns := s.warns ++ warnsOf d }, resV (C11.remk d)) := by
  by_cases hd : convertOld d = d
  · -- a base class runs its own body
    cases d with
    | flt c low high log step =>
      obtain rfl : FCls.float = c := by simpa [convertOld] using hd
      exact initD_of_runs _ _ s _ _ (floatInit_runs program.superD .float low high log step [] s.warns)
    | int c low high log step =>
      obtain rfl : ICls.int = c := by simpa [convertOld] using hd
      exact initD_of_runs _ _ s _ _ (intInit_runs program.superD .int low high log step [] s.warns)
    | cat cs => exact (initD_cat cs s).trans (by simp [warnsOf, C11.remk])
  · -- a deprecated class the base class's, on a `self` of its own class
    refine initD_of_runs _ _ s _ _ ?_
    rw [deprecated_forwards d h hd]
    refine InitRuns.super ?_
    cases d with
    | flt c low high log step => exact floatInit_runs noSuper c low high log step _ _
    | int c low high log step => exact intInit_runs noSuper c low high log step _ _
    | cat cs => exact absurd rfl hd

theorem interp_remk (d : Dist) (h : C11.ClsOK d) :
    outOf ofInst (program.initD (clsOf d) (ctorKw d) {}) = ⟨warnsOf d, liftR (C11.remk d)⟩ := by
  rw [initD_remk d h]
  cases C11.remk d <;> simp [outOf, resV, liftR, ofInst_instV]

theorem interp_mkFloat (low high : Rat) (log : Bool) (step : Option Rat) :
    (interpMkFloat program .float [("low", fltV low), ("high", fltV high), ("log", boolV log), ("step", optFltV step)]).res =
      liftR (mkFlt .float low high log step) :=
  congrArg Out.res (interp_remk (.flt .float low high log step) trivial)

theorem interp_mkUniform (low high : Rat) :
    (interpMkFloat program .uniform [("low", fltV low), ("high", fltV high)]).res = liftR (mkUniform low high) :=
  congrArg Out.res (interp_remk (.flt .uniform low high false none) ⟨rfl, rfl⟩)

theorem interp_mkLogUniform (low high : Rat) :
    (interpMkFloat program .logUniform [("low", fltV low), ("high", fltV high)]).res = liftR (mkLogUniform low high) :=
  congrArg Out.res (interp_remk (.flt .logUniform low high true none) ⟨rfl, rfl⟩)

theorem interp_mkDiscreteUniform (low high q : Rat) :
    (interpMkFloat program .discreteUniform [("low", fltV low), ("high", fltV high), ("q", fltV q)]).res =
      liftR (mkDiscreteUniform low high q) :=
  congrArg Out.res (interp_remk (.flt .discreteUniform low high false (some q)) ⟨rfl, nofun⟩)

/-- `IntDistribution.__init__` as written today (validation order, `int(...)` casts, the high adjustment through
today's `_adjust_int_uniform_high`, attribute order) IS `Dist.mkInt` -/
theorem interp_mkInt (low high : Int) (log : Bool) (step : Int) :
    (interpMkInt program .int [("low", iv low), ("high", iv high), ("log", boolV log), ("step", iv step)]).res =
      liftR (mkInt .int low high log step) :=
  congrArg Out.res (interp_remk (.int .int low high log step) trivial)

theorem interp_mkIntUniform (low high step : Int) :
    (interpMkInt program .intUniform [("low", iv low), ("high", iv high), ("step", iv step)]).res = liftR (mkIntUniform low high step) :=
  congrArg Out.res (interp_remk (.int .intUniform low high false step) rfl)

theorem interp_mkIntLogUniform (low high step : Int) :
    (interpMkInt program .intLogUniform [("low", iv low), ("high", iv high), ("step", iv step)]).res = liftR (mkIntLogUniform low high step) :=
  congrArg Out.res (interp_remk (.int .intLogUniform low high true step) rfl)

/-- `CategoricalDistribution.__init__` as written today (empty choices -> ValueError; the unsupported-type
warning loop, silent on every representable choice; `self.choices = tuple(choices)`) IS `Dist.mkCat`, for every list of choices -/
theorem interp_mkCat (cs : List Tok) : interpMkCat program cs = ⟨[], liftR (mkCat cs)⟩ :=
  interp_remk (.cat cs) trivial

section methods
-- the method dispatch and the object of a distribution join the equations `d_simp` runs a body by
attribute [local dist_ir] interpCall outOf Program.call2 Program.call1 selfOf instV instDict clsOf optStepJ fltV asBool asTok

theorem call1_single (d : Dist) (s : MSt) : program.call1 .single [instV d] s = (s, .ok (boolV d.single)) := by
  cases d with
  | flt c low high log step =>
    cases step with
    | none => d_simp [DistMethods.floatSingle, Dist.single]
    | some st => by_cases h : low = high <;> d_simp [DistMethods.floatSingle, Dist.single, h]
  | int c low high log step =>
    cases log <;> by_cases h : low = high <;> d_simp [DistMethods.intSingle, Dist.single, DistInt.intSingle, h] <;>
      exact_mod_cast Iff.rfl
  | cat cs => d_simp [DistMethods.catSingle, Dist.single]

/-- `single()` of the three base classes (inherited by the deprecated ones) IS `Dist.single` -/
theorem call_single (d : Dist) : (interpCall program .single [instV d] asBool).res = .ok d.single := by
  have h : program.call2 .single [instV d] {} = program.call1 .single [instV d] {} := rfl
  rw [interpCall, h, call1_single]
  rfl

/-- `_contains` as written today (floats: the chain `low <= v <= high`, the grid test
`abs(k - round(k)) < 1e-8` with `k = (v - low) / step`; ints: `(v - low) % step == 0`; categoricals: `0 <= int(v) < len(choices)`)
IS `Dist.contains`, for every well-formed distribution and every internal value -/
theorem call_contains (d : Dist) (v : Rat) (h : WF d) : (interpCall program .contains [instV d, fltV v] asBool).res = .ok (d.contains v) := by
  cases d with
  | flt c low high log step =>
    cases step with
    | none =>
      by_cases h1 : low ≤ v
      · by_cases h2 : v ≤ high <;> d_simp [DistMethods.floatContains, Dist.contains, h1, h2]
      · d_simp [DistMethods.floatContains, Dist.contains, h1]
    | some st =>
      have hs : st ≠ 0 := ne_of_gt (h.2.2.1 st rfl).1
      by_cases h1 : low ≤ v
      · by_cases h2 : v ≤ high <;> d_simp [DistMethods.floatContains, Dist.contains, h1, h2, hs]
      · d_simp [DistMethods.floatContains, Dist.contains, h1, hs]
  | int c low high log step =>
    have hs : ¬ ((step : Rat) ≤ 0) := by have := h.2.2.1; exact not_le.mpr (by exact_mod_cast this)
    by_cases h1 : (low : Rat) ≤ v
    · by_cases h2 : v ≤ (high : Rat) <;> d_simp [DistMethods.intContains, Dist.contains, h1, h2, hs]
    · d_simp [DistMethods.intContains, Dist.contains, h1, hs]
  | cat cs =>
    have cc : ((truncI v : Int) : Rat) < ((cs.length : Int) : Rat) ↔ truncI v < cs.length := Int.cast_lt
    have c0 : ((0 : Rat) ≤ ((truncI v : Int) : Rat)) ↔ 0 ≤ truncI v := by exact_mod_cast Iff.rfl
    by_cases h0 : 0 ≤ truncI v <;> d_simp [DistMethods.catContains, Dist.contains, h0, cc, c0] <;> exact_mod_cast Iff.rfl

/-- `to_internal_repr` of the numeric classes reads only `self.log`; `FloatDistribution` and `IntDistribution` have the same body -/
theorem toInternal_numeric_runs (c : Cls) (o : JObj) (log : Bool) (ho : jget o "log" = some (.atom (.bool log))) (v : Tok)
    (hv : v ≠ .pinf ∧ v ≠ .ninf) (s : MSt) :
    runFn program.call0 noInit DistMethods.floatToInternal ["param_value_in_external_repr"] (some (c, o)) [.tok v] s =
      (s, match v.num? with
        | some q => if log && q ≤ 0 then .error (.err .valueError) else .ok (.tok (.flt q))
        | none => .error (.err .valueError)) := by
  cases v with
  | pinf => exact absurd rfl hv.1
  | ninf => exact absurd rfl hv.2
  | none => d_simp [DistMethods.floatToInternal]
  | nan => d_simp [DistMethods.floatToInternal]
  | str x => d_simp [DistMethods.floatToInternal]
  | bool b =>
    have o1 : ¬ ((1 : Rat) ≤ 0) := by norm_num
    cases log with
    | false => d_simp [DistMethods.floatToInternal, ho]
    | true => cases b <;> d_simp [DistMethods.floatToInternal, ho, o1]
  | int i =>
    cases log with
    | false => d_simp [DistMethods.floatToInternal, ho]
    | true => by_cases hq : (i : Rat) ≤ 0 <;> d_simp [DistMethods.floatToInternal, ho, hq]
  | flt x =>
    cases log with
    | false => d_simp [DistMethods.floatToInternal, ho]
    | true => by_cases hq : x ≤ 0 <;> d_simp [DistMethods.floatToInternal, ho, hq]

/-- `to_internal_repr` of the float and int classes (the `float(...)` cast with its ValueError, the NaN
rejection, the `log` positivity test) IS `Dist.toInternal`, for every external value but ±inf -/
theorem call_toInternal_numeric (d : Dist) (v : Tok) (hd : ∀ cs, d ≠ .cat cs) (hv : v ≠ .pinf ∧ v ≠ .ninf) :
    (interpCall program .toInternal [instV d, .tok v] asRat).res = liftR (d.toInternal v) := by
  -- both classes dispatch to the one body, on an object whose `__dict__` has `log`
  have key : ∀ (c : Cls) (o : JObj) (log : Bool), jget o "log" = some (.atom (.bool log)) →
      (outOf asRat (runFn program.call0 noInit DistMethods.floatToInternal ["param_value_in_external_repr"] (some (c, o)) [.tok v] {})).res =
        liftR (match v.num? with
          | some q => if log && q ≤ 0 then .error .valueError else .ok q
          | none => .error .valueError) := by
    intro c o log ho
    rw [toInternal_numeric_runs c o log ho v hv]
    cases v.num? with
    | none => rfl
    | some q => cases hq : (log && decide (q ≤ 0)) <;> simp [outOf, asRat, liftR, hq]
  cases d with
  | cat cs => exact absurd rfl (hd cs)
  | flt c low high log step => exact key (.flt c) (instDict (.flt c low high log step)) log rfl
  | int c low high log step => exact key (.int c) (instDict (.int c low high log step)) log rfl

/-- `to_external_repr`: floats unchanged, ints `int(v)`, categoricals `choices[int(v)]` (for a non-negative index) -/
theorem call_toExternal (d : Dist) (q : Rat) (t : Tok) (h : d.toExternal q = some t) :
    (interpCall program .toExternal [instV d, fltV q] asTok).res = .ok t := by
  cases d with
  | flt c low high log step => simp [Dist.toExternal] at h; subst h; d_simp [DistMethods.baseToExternal]
  | int c low high log step => simp [Dist.toExternal] at h; subst h; d_simp [DistMethods.intToExternal]
  | cat cs =>
    simp only [Dist.toExternal] at h
    split at h
    · rename_i h0
      have h0' : ¬ truncI q < 0 := not_lt.mpr h0
      d_simp [DistMethods.catToExternal, h0', h]
    · simp at h

theorem call1_asdict (d : Dist) (s : MSt) : program.call1 .asdict [instV d] s = (s, .ok (.dict d.asdict)) := by
  cases d with
  | flt c low high log step => cases step <;> cases c <;> d_simp [DistMethods.baseAsdict, DistMethods.uniformAsdict, DistMethods.logUniformAsdict, DistMethods.discreteUniformAsdict, Dist.asdict, optStep, List.filter]
  | int c low high log step => cases c <;> d_simp [DistMethods.baseAsdict, DistMethods.intUniformAsdict, DistMethods.intLogUniformAsdict, Dist.asdict, List.filter]
  | cat cs => d_simp [DistMethods.baseAsdict, Dist.asdict]

/-- `_asdict()` of each of the eight classes IS `Dist.asdict`: the `__dict__` in the insertion order of `__init__`,
minus what the deprecated classes pop, plus `q` -/
theorem call_asdict (d : Dist) : (interpCall program .asdict [instV d] asDict).res = .ok d.asdict := by
  have h : program.call2 .asdict [instV d] {} = program.call1 .asdict [instV d] {} := rfl
  rw [interpCall, h, call1_asdict]
  rfl

end methods

theorem sameClass_eq (o n : Dist) : o.sameClass n = (clsOf o == clsOf n) := by
  cases o <;> cases n <;> simp [Dist.sameClass, clsOf]

/-- `check_distribution_compatibility` as written today raises ValueError exactly when `Dist.compat` is false:
another class, another `log` (numeric classes), other choices (categoricals, `CategoricalDistribution.__eq__`: pinned) -/
theorem call_checkCompat (o n : Dist) :
    (interpCall program .checkCompat [instV o, instV n] asUnit).res = if compat o n then .ok () else .error (.err .valueError) := by
  suffices h : (program.call2 .checkCompat [instV o, instV n] {}).2 = if compat o n then .ok (.tok .none) else .error (.err .valueError) by
    rw [interpCall, outOf, h]; cases compat o n <;> rfl
  -- a numeric pair ends at `return`, a categorical pair falls through
  refine (runFn_snd rfl (fl := if compat o n then (if clsOf o == .cat then .next else .ret (.tok .none)) else .raised (.err .valueError))
    ?_).trans (by cases compat o n <;> cases (clsOf o == .cat) <;> rfl)
  simp only [prog_checkCompat, DistMethods.checkCompat, block]
  -- first another class is refused; then, class by class, another `log`, other choices
  rw [exec_guard (clsOf o != clsOf n) (by d_simp [instV, bne])]
  by_cases hc : clsOf o = clsOf n
  · cases o with
    | flt c low high log step =>
      cases n with
      | flt c' low' high' log' step' =>
        obtain rfl : c = c' := by simpa [clsOf] using hc
        by_cases hl : log = log' <;> d_simp [compat, Dist.sameClass, Dist.log?, instV, instDict, clsOf, hl]
      | _ => cases hc
    | int c low high log step =>
      cases n with
      | int c' low' high' log' step' =>
        obtain rfl : c = c' := by simpa [clsOf] using hc
        by_cases hl : log = log' <;> d_simp [compat, Dist.sameClass, Dist.log?, instV, instDict, clsOf, hl]
      | _ => cases hc
    | cat cs =>
      cases n with
      | cat cs' => cases h : listCatEq cs cs' <;> d_simp [compat, Dist.sameClass, Dist.log?, instV, instDict, clsOf, eqV, h]
      | _ => cases hc
  · have hs : compat o n = false := by simp [compat, sameClass_eq, hc]
    simp [hs, hc, bne]

/-- `_is_distribution_log` IS `Dist.isLog` -/
theorem call_isLog (d : Dist) : (interpCall program .isLog [instV d] asBool).res = .ok d.isLog := by
  cases d <;> d_simp [interpCall, outOf, Program.call2, instV, instDict, clsOf, asBool, DistMethods.isLog, Dist.isLog]

/-- `distribution_to_json` as written today ({"name": class name, "attributes": _asdict()}) IS `Dist.print`, for each of the
eight classes -/
theorem gen_print_eq (d : Dist) : (interpPrint program d).res = .ok (print d) := by
  have h : ∀ s, program.call2 .asdict [instV d] s = (s, .ok (.dict d.asdict)) := call1_asdict d
  have hn : (clsOf d).name = d.clsName := by cases d <;> rfl
  have hc : instV d = .inst (clsOf d) (instDict d) := rfl
  rw [hc] at h
  d_simp [interpPrint, outOf, hc, DistMethods.distributionToJson, h, hn, print, asDoc]

/-- For the code as written today: a well-formed distribution and its reloaded copy
(`json_to_distribution(distribution_to_json(d))`, by the hand model's parser) contain the same values, are single together, and
`distribution_to_json` of the interpreter produces exactly the document that parser reads -/
theorem gen_contains_unchanged_by_roundtrip (d d' : Dist) (h : WF d) (hp : parse (print d) = .ok d') (q : Rat) :
    (interpPrint program d).res = .ok (print d) ∧
    (interpCall program .contains [instV d', fltV q] asBool).res = (interpCall program .contains [instV d, fltV q] asBool).res ∧
    (interpCall program .single [instV d'] asBool).res = (interpCall program .single [instV d] asBool).res := by
  obtain rfl := C11.reloaded_eq h hp
  exact ⟨gen_print_eq _, rfl, rfl⟩

/-- Compatibility of two well-formed distributions, as today's `check_distribution_compatibility` computes it, is the same before and
after the JSON round trip (the reloaded copies are those of the hand model's `parse (print ·)`) -/
theorem gen_compat_unchanged_by_roundtrip (o n o' n' : Dist) (ho : WF o) (hn : WF n)
    (hpo : parse (print o) = .ok o') (hpn : parse (print n) = .ok n') :
    (interpCall program .checkCompat [instV o', instV n'] asUnit).res = (interpCall program .checkCompat [instV o, instV n] asUnit).res := by
  rw [call_checkCompat, call_checkCompat, (C11.compat_invariant_under_roundtrip o n o' n' ho hn hpo hpn).1]

/-- For the code as written today, numeric classes: an external value `v` (finite) that
`to_internal_repr` accepts as `q` with `_contains(q)` comes back from `to_external_repr(q)` as a value `t` equal to `v` under Python `==`:
for floats `t = q` itself; for ints `t = int(q)` — so an int parameter given as the integral float `4.0` (or as `True`) comes back as the
`int` `4` (`1`), equal but of another type -/
theorem gen_external_internal_roundtrip (d : Dist) (v : Tok) (q : Rat) (h : WF d) (hd : ∀ cs, d ≠ .cat cs) (hv : v ≠ .pinf ∧ v ≠ .ninf)
    (hi : (interpCall program .toInternal [instV d, .tok v] asRat).res = .ok q)
    (hc : (interpCall program .contains [instV d, fltV q] asBool).res = .ok true) :
    ∃ t, (interpCall program .toExternal [instV d, fltV q] asTok).res = .ok t ∧ v.catEq t = true := by
  rw [call_toInternal_numeric d v hd hv] at hi
  rw [call_contains d q h] at hc
  have hc' : d.contains q = true := by simpa using hc
  obtain ⟨t, ht, heq⟩ := C11.external_internal_roundtrip d v q h (liftR_ok hi) hc'
  exact ⟨t, call_toExternal d q t ht, heq⟩

/-- The new-style form of a deprecated distribution (hand model `convertOld`: the class tag only)
contains the same values, is single together with it, converts values other than ±inf the same way — as computed by today's `_contains` / `single` /
`to_internal_repr` -/
theorem gen_convertOld_same_values (d : Dist) (h : WF d) (q : Rat) (v : Tok) (hd : ∀ cs, d ≠ .cat cs) (hv : v ≠ .pinf ∧ v ≠ .ninf) :
    (interpCall program .contains [instV (convertOld d), fltV q] asBool).res = (interpCall program .contains [instV d, fltV q] asBool).res ∧
    (interpCall program .single [instV (convertOld d)] asBool).res = (interpCall program .single [instV d] asBool).res ∧
    (interpCall program .toInternal [instV (convertOld d), .tok v] asRat).res = (interpCall program .toInternal [instV d, .tok v] asRat).res := by
  obtain ⟨hw, h1, h2, h3, _, _⟩ := C11.convertOld_preserves d h
  have hd' : ∀ cs, convertOld d ≠ .cat cs := by
    intro cs; cases d <;> simp [convertOld] at * 
  rw [call_contains _ q hw, call_contains d q h, h1 q, call_single, call_single, h2,
    call_toInternal_numeric _ v hd' hv, call_toInternal_numeric d v hd hv, h3 v]
  exact ⟨rfl, rfl, rfl⟩

example : (interpMkFloat program .float [("low", fltV 0), ("high", fltV 1), ("log", boolV false), ("step", optFltV (some (3/10)))]).res =
    .ok (.flt .float 0 (9/10) false (some (3/10))) := by
  rw [interp_mkFloat]
  decide +kernel
example : (interpMkInt program .intUniform [("low", iv 1), ("high", iv 9), ("step", iv 3)]).res = .ok (.int .intUniform 1 7 false 3) := by
  decide +kernel
example : (interpCall program .contains [instV (.flt .float 0 (9/10) false (some (3/10))), fltV (6/10)] asBool).res = .ok true := by
  decide +kernel
example : (interpCall program .toInternal [instV (.int .int 1 7 false 3), .tok (.flt 4)] asRat).res = .ok 4 ∧
    (interpCall program .toExternal [instV (.int .int 1 7 false 3), fltV 4] asTok).res = .ok (.int 4) := by decide +kernel
example : (interpCall program .checkCompat [instV (.flt .float 0 1 false none), instV (.flt .float 0 1 true none)] asUnit).res =
    .error (.err .valueError) := by decide +kernel
example : (interpPrint program (.flt .discreteUniform 0 1 false (some (1/2)))).res =
    .ok [("name", .v (.atom (.str "DiscreteUniformDistribution"))),
         ("attributes", .obj [("low", .atom (.flt 0)), ("high", .atom (.flt 1)), ("q", .atom (.flt (1/2)))])] := by decide +kernel

/-! ## the generated form of `_convert_old_distribution_to_new_distribution`, pinned: any edit of the source breaks this named obligation.
Its equality with the hand model is proved in `Props/C11DistFull.lean` for five classes; UniformDistribution, LogUniformDistribution and
IntLogUniformDistribution are covered by evaluation instances (here and there), by the differential and by K.  The other bodies with loops and
`json_to_distribution` are proved equal to the hand model in `Props/C11DistFull.lean`. -/

/-- _convert_old_distribution_to_new_distribution: each deprecated class -> FloatDistribution / IntDistribution with its own low / high / log / step (q), others unchanged; the FutureWarning unless suppress_warning -/
theorem convertOld_shape_partial : DistMethods.convertOld =
  (block [
    (.ite (.isinstance (.var "distribution") [(.flt .uniform)]) (.assign "new_distribution" (.construct (.flt .float) (.attr (.var "distribution") "low") (.attr (.var "distribution") "high") .false_ .none_)) (.ite (.isinstance (.var "distribution") [(.flt .logUniform)]) (.assign "new_distribution" (.construct (.flt .float) (.attr (.var "distribution") "low") (.attr (.var "distribution") "high") .true_ .none_)) (.ite (.isinstance (.var "distribution") [(.flt .discreteUniform)]) (.assign "new_distribution" (.construct (.flt .float) (.attr (.var "distribution") "low") (.attr (.var "distribution") "high") .false_ (.attr (.var "distribution") "q"))) (.ite (.isinstance (.var "distribution") [(.int .intUniform)]) (.assign "new_distribution" (.construct (.int .int) (.attr (.var "distribution") "low") (.attr (.var "distribution") "high") .false_ (.attr (.var "distribution") "step"))) (.ite (.isinstance (.var "distribution") [(.int .intLogUniform)]) (.assign "new_distribution" (.construct (.int .int) (.attr (.var "distribution") "low") (.attr (.var "distribution") "high") .true_ (.attr (.var "distribution") "step"))) (.assign "new_distribution" (.var "distribution"))))))),
    (.ite (.and (.ne (.var "new_distribution") (.var "distribution")) (.not (.var "suppress_warning"))) (.warn .converted) .skip),
    (.ret (.var "new_distribution"))]) := rfl


example : (interpCall program .convertOld [instV (.int .intLogUniform 1 8 true 1), boolV false] ofInst) =
    ⟨[.converted], .ok (.int .int 1 8 true 1)⟩ := by decide +kernel

end OptunaVerif.C11DistGen
