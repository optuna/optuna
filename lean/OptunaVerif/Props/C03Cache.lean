import OptunaVerif.Props.C08
/-!
# C03 — `cached_reads_linearize`: a read through `_CachedStorage` returns a state the backend held at
an instant inside the call

`_CachedStorage.get_all_trials(study_id, states)` (optuna/storages/_cached_storage.py) is

    self._read_trials_from_remote_storage(study_id)      # with self._lock:  touch the entry;
                                                         #   trials = backend._get_trials(unfinished ∪ id > watermark);
                                                         #   fold them into the cache
    with self._lock:                                     # filter the dict by state, sort by number, copy
        ...

Concurrent step relation (`Step`): the reading thread moves through `lock1; fetch; fold; unlock1;
lock2; ret` (the two critical sections of the code, the first split at its backend call); between
**any** two of these micro-steps — also while the cache lock is held, which is a lock of this client
object only — any number of backend calls of other clients, processes and threads may happen
(`env op`, any `Op` of the storage contract, any number of writers: the backend step does not depend
on who makes it).  Other threads of the *same* `_CachedStorage` object run their critical sections
(`peer x`, the sections of `C08.Section`) only while the lock is free.

**Assumption on the backend read** (stated, not proved): `backend._get_trials(...)` is ONE atomic
snapshot read — `fetch` evaluates `fetchRdb` on the backend state of one instant.  On SQLite this is
exactly finding F16's caveat (the getter is several SELECTs without a snapshot; a concurrent writer
can tear it); on a backend with snapshot reads it holds.

`cached_reads_linearize`: the linearization point of a cached read is its backend read, an instant
inside the call (after `lock1`, before `ret`) — if no other thread of the same client object runs a
critical section between the reader's two sections.  `cached_reads_linearize_with_peers` allows the
`HarmlessFor sid` sections there (the point may then be a later peer sync of the same study in the
window); `peer_create_in_window_not_linearizable_witness` shows that a peer `create_new_trial` section
*of the same study* in the window breaks it (C08's narrow race, restated in the step relation).
-/
namespace OptunaVerif.C03Cache
open OptunaVerif.Storage OptunaVerif.C01 OptunaVerif.Cache OptunaVerif.C08

/-- `if study_id not in self._studies: self._studies[study_id] = _StudyInfo()` -/
def touch (c : Client) (sid : Nat) : Client := { c with studies := upsert c.studies sid id }

/-- the backend read, on the backend state `s` of one instant -/
def fetchOf (s : Spec) (c : Client) (sid : Nat) : Except Err (List (Nat × TrialS)) :=
  fetchRdb s sid (entryD c.studies sid).unfinished (entryD c.studies sid).watermark

/-- `_add_trials_to_cache` + the watermark / unfinished-set loop -/
def foldIn (c0 : Client) (sid : Nat) (l : List (Nat × TrialS)) : Client :=
  let c1 := l.foldl (Client.addOne sid) c0
  { c1 with studies := upsert c1.studies sid (fun e => l.foldl Entry.noteState e) }

/-- the three pieces compose to `Client.sync` of `Model/Cache.lean` (the section as C08 uses it) -/
theorem sync_split (s : Spec) (c : Client) (sid : Nat) :
    c.sync s sid =
      match fetchOf s (touch c sid) sid with
      | .error err => (touch c sid, some err)
      | .ok l => (foldIn (touch c sid) sid l, none) := by
  unfold Client.sync fetchOf touch foldIn
  rfl

theorem sync_err_cache (s : Spec) (c c' : Client) (sid : Nat) (e : Err) (h : c.sync s sid = (c', some e)) :
    c' = touch c sid := by
  rw [sync_split] at h
  split at h
  · exact (Prod.mk.inj h).1.symm
  · cases (Prod.mk.inj h).2

inductive PC where
  /-- the call has not begun -/
  | idle
  /-- inside `with self._lock:` of `_read_trials_from_remote_storage` -/
  | locked
  /-- `self._backend._get_trials(...)` has returned (a list, or `KeyError`); the lock is still held -/
  | fetched (r : Except Err (List (Nat × TrialS)))
  /-- the cache has been updated; the lock is still held -/
  | folded
  /-- the lock has been released; `get_all_trials` has not re-acquired it yet -/
  | between
  /-- inside the second `with self._lock:` -/
  | locked2
  /-- returned (a list) or raised -/
  | done (out : Out)

structure St where
  backend : Spec
  /-- the cache of the reader's `_CachedStorage` object -/
  cache : Client
  pc : PC
  /-- ghost: the backend state at the instant of the reader's backend read -/
  lin : Option Spec

inductive Label where
  /-- a backend call by anybody else: another client / process / raw writer, or the unlocked backend
      call of another thread of this client -/
  | env (op : Op)
  /-- a critical section of another thread of the same `_CachedStorage` object -/
  | peer (x : Section)
  | lock1 | fetch | fold | unlock1 | lock2 | ret

def isCacheSection : Section → Bool
  | .backend _ => false
  | _ => true

/-- ghost bookkeeping for a peer section in the window: a successful sync of the same study by
another thread brings the entry up to date with the backend of *that* instant -/
def linAfterPeer (sid : Nat) (σ : St) : Section → Option Spec
  | .sync sid' => if sid' = sid ∧ (σ.cache.sync σ.backend sid).2 = none then some σ.backend else σ.lin
  | _ => σ.lin

/-- One step of the system while one thread executes `get_all_trials(sid, states)` through the cache.
`W x`: the peer section `x` may run in the window between the reader's two critical sections. -/
inductive Step (sid : Nat) (states : Option (List TState)) (W : Section → Prop) : St → Label → St → Prop
  | env (σ : St) (op : Op) :
      Step sid states W σ (.env op) { σ with backend := (step σ.backend op).1 }
  | peerOut (σ : St) (x : Section) (hpc : σ.pc = .idle ∨ ∃ o, σ.pc = .done o)
      (hc : isCacheSection x = true) (hx : x.enabled σ.backend) :
      Step sid states W σ (.peer x) { σ with cache := (x.run σ.backend σ.cache).2 }
  | peerIn (σ : St) (x : Section) (hpc : σ.pc = .between) (hw : W x)
      (hc : isCacheSection x = true) (hx : x.enabled σ.backend) :
      Step sid states W σ (.peer x) { σ with cache := (x.run σ.backend σ.cache).2, lin := linAfterPeer sid σ x }
  | lock1 (σ : St) (hpc : σ.pc = .idle) : Step sid states W σ .lock1 { σ with pc := .locked }
  | fetch (σ : St) (hpc : σ.pc = .locked) :
      Step sid states W σ .fetch
        { σ with cache := touch σ.cache sid,
                 pc := .fetched (fetchOf σ.backend (touch σ.cache sid) sid),
                 lin := some σ.backend }
  | foldOk (σ : St) (l : List (Nat × TrialS)) (hpc : σ.pc = .fetched (.ok l)) :
      Step sid states W σ .fold { σ with cache := foldIn σ.cache sid l, pc := .folded }
  /-- `KeyError` from the backend leaves the `with` block: the lock is released, the call raises -/
  | foldErr (σ : St) (e : Err) (hpc : σ.pc = .fetched (.error e)) :
      Step sid states W σ .fold { σ with pc := .done (.err e) }
  | unlock1 (σ : St) (hpc : σ.pc = .folded) : Step sid states W σ .unlock1 { σ with pc := .between }
  | lock2 (σ : St) (hpc : σ.pc = .between) : Step sid states W σ .lock2 { σ with pc := .locked2 }
  | ret (σ : St) (hpc : σ.pc = .locked2) :
      Step sid states W σ .ret
        { σ with pc := .done (.trials ((entryD σ.cache.studies sid).readAll states)) }

/-- finite runs, extended at the end (time goes left to right in the label list) -/
inductive Run (sid : Nat) (states : Option (List TState)) (W : Section → Prop) (σ0 : St) : List Label → St → Prop
  | nil : Run sid states W σ0 [] σ0
  | snoc {tr : List Label} {σ σ' : St} {l : Label} :
      Run sid states W σ0 tr σ → Step sid states W σ l σ' → Run sid states W σ0 (tr ++ [l]) σ'

def NoPeerInWindow : Section → Prop := fun _ => False

/-- peer sections that may run between the reader's two critical sections without harm: every sync,
the memo sections, and the `create_new_trial` / `delete_study` sections of other studies -/
def HarmlessFor (sid : Nat) : Section → Prop
  | .sync _ => True
  | .memoName _ _ => True
  | .memoDirs _ _ => True
  | .noteCreated sid' _ => sid' ≠ sid
  | .dropStudy sid' => sid' ≠ sid
  | .backend _ => False

def Reach (a b : Spec) : Prop := ∃ ops, b = after a ops

theorem reach_refl (a : Spec) : Reach a a := ⟨[], rfl⟩

theorem reach_step (a b : Spec) (op : Op) (h : Reach a b) : Reach a (step b op).1 := by
  obtain ⟨ops, rfl⟩ := h
  exact ⟨ops ++ [op], by simp [after, List.foldl_append]⟩

theorem inv_reach (a b : Spec) (c : Client) (h : Reach a b) (hi : Inv a c) : Inv b c := by
  obtain ⟨ops, rfl⟩ := h
  exact cache_covers_backend_steps a ops c hi

theorem wf_reach (a b : Spec) (h : Reach a b) (hw : Wf a) : Wf b := by
  obtain ⟨ops, rfl⟩ := h
  exact List.foldlRecOn (motive := Wf) ops _ hw fun s h op _ => wf_step s op h

/-- the cached entry of `sid` answers every filtered read exactly like the backend state `sf` -/
def Ans (sid : Nat) (c : Client) (sf : Spec) : Prop :=
  (sf.study? sid).isSome = true ∧
    ∀ st' : Option (List TState),
      (entryD c.studies sid).readAll st' = (sf.trialsOf sid).filter (fun p => stateIn st' p.2.state)

theorem ans_of_sync_ok (sid : Nat) (sf : Spec) (c0 c' : Client) (hW : Wf sf) (hI : Inv sf c0)
    (hs : c0.sync sf sid = (c', none)) : Ans sid c' sf := by
  obtain ⟨hlive, hinv, hfresh, _⟩ := sync_ok sf hW.numbered c0 sid c' hI hs
  exact ⟨hlive, fun st' =>
    readAll_of_allFresh sf hW.numbered sid _ (entryInv_entryD sf c' hinv sid).toEntryCore hfresh st'⟩

theorem ans_congr (sid : Nat) (c c' : Client) (sf : Spec)
    (h : (entryD c'.studies sid).trials = (entryD c.studies sid).trials) (ha : Ans sid c sf) : Ans sid c' sf := by
  refine ⟨ha.1, fun st' => ?_⟩
  have := ha.2 st'
  unfold Entry.readAll at this ⊢
  rw [h]; exact this

theorem ans_of_find_eq (sid : Nat) (c c' : Client) (sf : Spec)
    (h : find c'.studies sid = find c.studies sid) (ha : Ans sid c sf) : Ans sid c' sf :=
  ans_congr sid c c' sf (by unfold entryD; rw [h]) ha

theorem answer_of_ans (sid : Nat) (states : Option (List TState)) (c : Client) (sf : Spec) (ha : Ans sid c sf) :
    Out.trials ((entryD c.studies sid).readAll states) = (step sf (.getAllTrials sid states)).2 := by
  obtain ⟨hlive, hall⟩ := ha
  obtain ⟨st, hst⟩ := Option.isSome_iff_exists.1 hlive
  simp only [step, hst, hall states]

theorem answer_of_sync_err (sid : Nat) (states : Option (List TState)) (sf : Spec) (c0 c' : Client) (e : Err)
    (hW : Wf sf) (hI : Inv sf c0) (hs : c0.sync sf sid = (c', some e)) :
    Out.err e = (step sf (.getAllTrials sid states)).2 := by
  have := sync_then_equal sf hW c0 sid hI states
  simp only [callCached, hs] at this
  exact this

/-- what is known at each program point of the reader (a function of the program point, so that a step that moves it, or
leaves it where it was, is read off by reduction) -/
def PcInv (sid : Nat) (states : Option (List TState)) (backend : Spec) (cache : Client) (lin : Option Spec) : PC → Prop
  | .idle | .locked => lin = none
  | .fetched r =>
    ∃ sf c0, lin = some sf ∧ Wf sf ∧ Inv sf c0 ∧ Reach sf backend ∧ cache = touch c0 sid ∧
      r = fetchOf sf (touch c0 sid) sid
  | .folded | .between | .locked2 => ∃ sf, lin = some sf ∧ Ans sid cache sf
  | .done out => ∃ sf, lin = some sf ∧ out = (step sf (.getAllTrials sid states)).2

structure J (sid : Nat) (states : Option (List TState)) (σ : St) : Prop where
  wf : Wf σ.backend
  inv : Inv σ.backend σ.cache
  pcinv : PcInv sid states σ.backend σ.cache σ.lin σ.pc

theorem harmless_peer (sid : Nat) (σ : St) (x : Section) (hW : Wf σ.backend) (hI : Inv σ.backend σ.cache)
    (hh : HarmlessFor sid x) (sf : Spec) (h1 : σ.lin = some sf) (h2 : Ans sid σ.cache sf) :
    ∃ sf', linAfterPeer sid σ x = some sf' ∧ Ans sid (x.run σ.backend σ.cache).2 sf' := by
  -- `Ans` reads only the trials of the entry of `sid`. A harmless section leaves that entry alone (another study), or its
  -- trials (a memo, a failed sync), or it is a successful sync of `sid`: then `Ans` holds for the backend of now, and that is
  -- where `linAfterPeer` moves `lin`.
  cases x with
  | backend op => exact absurd hh (by simp [HarmlessFor])
  | sync sid' =>
    simp only [Section.run]
    by_cases hs : sid' = sid
    · subst hs
      cases hres : σ.cache.sync σ.backend sid' with
      | mk c' r =>
        cases r with
        | none =>
          exact ⟨σ.backend, by simp [linAfterPeer, hres], ans_of_sync_ok sid' σ.backend σ.cache c' hW hI hres⟩
        | some e =>
          refine ⟨sf, by simp [linAfterPeer, hres, h1], ans_congr sid' σ.cache c' sf ?_ h2⟩
          rw [sync_err_cache _ _ _ _ _ hres]
          simp only [touch, entryD_upsert_id]
    · have hne : sid ≠ sid' := fun e => hs e.symm
      refine ⟨sf, by simp [linAfterPeer, hs, h1], ans_of_find_eq sid σ.cache _ sf ?_ h2⟩
      cases hres : σ.cache.sync σ.backend sid' with
      | mk c' r =>
        cases r with
        | none => exact (sync_ok σ.backend hW.numbered σ.cache sid' c' hI hres).2.2.2 sid hne
        | some e =>
          rw [sync_err_cache _ _ _ _ _ hres]
          simp [touch, find_upsert, hne]
  | noteCreated sid' p =>
    have hne : sid ≠ sid' := fun e => hh e.symm
    refine ⟨sf, h1, ans_of_find_eq sid σ.cache _ sf ?_ h2⟩
    simp only [Section.run, noteCreated_entry, hne, if_false]
  | dropStudy sid' =>
    have hne : sid ≠ sid' := fun e => hh e.symm
    refine ⟨sf, h1, ans_of_find_eq sid σ.cache _ sf ?_ h2⟩
    simp only [Section.run]
    rw [dropStudy_eq]
    cases he : find σ.cache.studies sid' with
    | none => rfl
    | some e => simp only [find_erase, hne, if_false, foldl_dropStep_studies]
  | memoName sid' _ | memoDirs sid' _ =>
    refine ⟨sf, h1, ans_congr sid σ.cache _ sf ?_ h2⟩
    simp only [Section.run]
    by_cases hs : sid = sid'
    · subst hs; simp only [entryD_upsert_same]
    · unfold entryD; simp [find_upsert, hs]

theorem cacheSection_keeps_inv (s : Spec) (hW : Wf s) (c : Client) (hI : Inv s c) (x : Section)
    (hc : isCacheSection x = true) (hx : x.enabled s) : Inv s (x.run s c).2 := by
  have hb : (x.run s c).1 = s := by
    cases x <;> first | rfl | (simp [isCacheSection] at hc)
  have := (every_section_keeps_inv s hW c hI x hx).2
  rwa [hb] at this

theorem step_keeps_J (sid : Nat) (states : Option (List TState)) (W : Section → Prop)
    (hWh : ∀ x, W x → HarmlessFor sid x) (σ σ' : St) (l : Label)
    (h : J sid states σ) (hs : Step sid states W σ l σ') : J sid states σ' := by
  obtain ⟨hW, hI, hP⟩ := h
  cases hs with
  | env op =>
    refine ⟨wf_step _ op hW, inv_step _ op _ hI, ?_⟩
    -- only at `fetched` does the invariant speak of the backend: it stays reachable from the instant of the read
    cases hpc : σ.pc with
    | fetched r =>
      rw [hpc] at hP
      obtain ⟨sf, c0, h1, h2, h3, h4, h5, h6⟩ := hP
      exact ⟨sf, c0, h1, h2, h3, reach_step _ _ op h4, h5, h6⟩
    | _ => rw [hpc] at hP; exact hP
  | peerOut x hpc hc hx =>
    refine ⟨hW, cacheSection_keeps_inv _ hW _ hI x hc hx, ?_⟩
    rcases hpc with hpc | ⟨o, hpc⟩ <;> (rw [hpc] at hP ⊢; exact hP)
  | peerIn x hpc hw hc hx =>
    rw [hpc] at hP
    obtain ⟨sf, h1, h2⟩ := hP
    refine ⟨hW, cacheSection_keeps_inv _ hW _ hI x hc hx, ?_⟩
    rw [show ({ σ with cache := (x.run σ.backend σ.cache).2, lin := linAfterPeer sid σ x } : St).pc = .between from hpc]
    exact harmless_peer sid σ x hW hI (hWh x hw) sf h1 h2
  | lock1 hpc | unlock1 hpc | lock2 hpc => rw [hpc] at hP; exact ⟨hW, hI, hP⟩
  | fetch hpc => exact ⟨hW, inv_touch _ _ sid hI, σ.backend, σ.cache, rfl, hW, hI, reach_refl _, rfl, rfl⟩
  | foldOk l hpc =>
    rw [hpc] at hP
    obtain ⟨sf, c0, h1, h2, h3, h4, h5, h6⟩ := hP
    -- read and fold together are `c0.sync sf sid` on the backend of the instant of the read: C08's `sync_ok` applies there,
    -- and `Inv` is carried to the backend of now along `Reach`
    have hsync : c0.sync sf sid = (foldIn σ.cache sid l, none) := by
      rw [sync_split, ← h6, h5]
    obtain ⟨_, hinv', _, _⟩ := sync_ok sf h2.numbered c0 sid _ h3 hsync
    exact ⟨hW, inv_reach sf σ.backend _ h4 hinv', sf, h1, ans_of_sync_ok sid sf c0 _ h2 h3 hsync⟩
  | foldErr e hpc =>
    rw [hpc] at hP
    obtain ⟨sf, c0, h1, h2, h3, h4, h5, h6⟩ := hP
    have hsync : c0.sync sf sid = (touch c0 sid, some e) := by
      rw [sync_split, ← h6]
    exact ⟨hW, hI, sf, h1, answer_of_sync_err sid states sf c0 _ e h2 h3 hsync⟩
  | ret hpc =>
    rw [hpc] at hP
    obtain ⟨sf, h1, h2⟩ := hP
    exact ⟨hW, hI, sf, h1, answer_of_ans sid states _ sf h2⟩

/-- The run passes, inside the call, through a step that reads the backend state `sf` into the cache
entry of `sid`: the reader's own `fetch` (lock held), or a sync of `sid` by another thread of the
same object between the reader's two critical sections. -/
def SyncedAt (sid : Nat) (states : Option (List TState)) (W : Section → Prop) (σ0 : St) (tr : List Label)
    (σ : St) (sf : Spec) : Prop :=
  ∃ tr1 tr2 σm σm' l, tr = tr1 ++ l :: tr2 ∧ Run sid states W σ0 tr1 σm ∧ Step sid states W σm l σm' ∧
    Run sid states W σm' tr2 σ ∧ σm.backend = sf ∧
    ((l = .fetch ∧ σm.pc = .locked) ∨ (l = .peer (.sync sid) ∧ σm.pc = .between))

theorem step_lin (sid : Nat) (states : Option (List TState)) (W : Section → Prop) (σ σ' : St) (l : Label)
    (hs : Step sid states W σ l σ') :
    σ'.lin = σ.lin ∨
      (σ'.lin = some σ.backend ∧ ((l = .fetch ∧ σ.pc = .locked) ∨ (l = .peer (.sync sid) ∧ σ.pc = .between))) := by
  cases hs with
  | fetch hpc => exact Or.inr ⟨rfl, Or.inl ⟨rfl, hpc⟩⟩
  | peerIn x hpc hw hc hx =>
    cases x with
    | sync sid' =>
      simp only [linAfterPeer]
      split
      · rename_i hcond
        obtain ⟨e1, _⟩ := hcond
        subst e1
        exact Or.inr ⟨rfl, Or.inr ⟨rfl, hpc⟩⟩
      · exact Or.inl rfl
    | _ => exact Or.inl rfl
  | _ => exact Or.inl rfl

theorem lin_is_sync_instant (sid : Nat) (states : Option (List TState)) (W : Section → Prop) (σ0 σ : St)
    (tr : List Label) (h0 : σ0.lin = none) (hr : Run sid states W σ0 tr σ) :
    σ.lin = none ∨ ∃ sf, σ.lin = some sf ∧ SyncedAt sid states W σ0 tr σ sf := by
  induction hr with
  | nil => exact Or.inl h0
  | @snoc tr σ σ' l hrun hstep ih =>
    rcases step_lin sid states W σ σ' l hstep with hlin | ⟨hlin, hwhich⟩
    · rcases ih with ih | ⟨sf, h1, tr1, tr2, σm, σm', l0, e1, r1, s1, r2, b1, w1⟩
      · exact Or.inl (by rw [hlin]; exact ih)
      · refine Or.inr ⟨sf, by rw [hlin]; exact h1, tr1, tr2 ++ [l], σm, σm', l0, ?_, r1, s1, Run.snoc r2 hstep, b1, w1⟩
        rw [e1]; simp
    · exact Or.inr ⟨σ.backend, hlin, tr, [], σ, σ', l, rfl, hrun, hstep, Run.nil, rfl, hwhich⟩

theorem run_keeps_J (sid : Nat) (states : Option (List TState)) (W : Section → Prop)
    (hWh : ∀ x, W x → HarmlessFor sid x) (σ0 σ : St) (tr : List Label)
    (h : J sid states σ0) (hr : Run sid states W σ0 tr σ) : J sid states σ := by
  induction hr with
  | nil => exact h
  | snoc _ hstep ih => exact step_keeps_J sid states W hWh _ _ _ ih hstep

/-- **cached_reads_linearize_with_peers**: as `cached_reads_linearize` below, but other threads of
the same `_CachedStorage` object may run harmless critical sections (`HarmlessFor sid`: every sync,
the memo sections, `create_new_trial` / `delete_study` sections of other studies) between the
reader's two sections.  The answer is the backend's own answer at an instant inside the call: the
reader's backend read, or a later sync of the same study by a peer thread in that window. -/
theorem cached_reads_linearize_with_peers (sid : Nat) (states : Option (List TState)) (W : Section → Prop)
    (hWh : ∀ x, W x → HarmlessFor sid x) (σ0 σ : St) (tr : List Label)
    (out : Out) (hidle : σ0.pc = .idle) (hlin : σ0.lin = none) (hW : Wf σ0.backend) (hI : Inv σ0.backend σ0.cache)
    (hr : Run sid states W σ0 tr σ) (hdone : σ.pc = .done out) :
    ∃ sf, SyncedAt sid states W σ0 tr σ sf ∧ out = (step sf (.getAllTrials sid states)).2 := by
  have hJ0 : J sid states σ0 := ⟨hW, hI, by rw [hidle]; exact hlin⟩
  have hP := (run_keeps_J sid states W hWh σ0 σ tr hJ0 hr).pcinv
  rw [hdone] at hP
  obtain ⟨sf, h1, h2⟩ := hP
  rcases lin_is_sync_instant sid states W σ0 σ tr hlin hr with hn | ⟨sf', g1, hsync⟩
  · rw [hn] at h1; simp at h1
  · rw [g1] at h1
    simp only [Option.some.injEq] at h1
    subst h1
    exact ⟨sf', hsync, h2⟩

/-- **cached_reads_linearize**: one thread calls `get_all_trials(sid, states)` on a `_CachedStorage`
whose cache satisfies C08's invariant (every reachable cache does: `C08.sys_inv_run`,
`C08.every_section_keeps_inv`) over a well-formed backend.  For **every** state filter, **every**
interleaving of its micro-steps with backend calls of any number of other writers (before the lock,
while it is held, between the backend read and the cache update, between the two critical sections,
after), and with critical sections of other threads of the same object outside the call: if the call
completes with `out` (a list or `KeyError`), then the run contains the reader's `fetch` step, taken
inside the call (`σf.pc = locked`: after `lock1`; the rest `tr2` of the run leads to the return), and
`out` is exactly the answer of the backend itself to `get_all_trials(sid, states)` **at that instant**.
Hypotheses: the backend read is one atomic snapshot (`Step.fetch`; on SQLite: F16's caveat), and no
other thread of the same client object runs a critical section between the reader's two sections
(`NoPeerInWindow`; weakened in `cached_reads_linearize_with_peers`, needed in some form:
`peer_create_in_window_not_linearizable_witness`). -/
theorem cached_reads_linearize (sid : Nat) (states : Option (List TState)) (σ0 σ : St) (tr : List Label)
    (out : Out) (hidle : σ0.pc = .idle) (hlin : σ0.lin = none) (hW : Wf σ0.backend) (hI : Inv σ0.backend σ0.cache)
    (hr : Run sid states NoPeerInWindow σ0 tr σ) (hdone : σ.pc = .done out) :
    ∃ tr1 tr2 σf σf', tr = tr1 ++ Label.fetch :: tr2 ∧ Run sid states NoPeerInWindow σ0 tr1 σf ∧
      σf.pc = .locked ∧ Step sid states NoPeerInWindow σf .fetch σf' ∧ Run sid states NoPeerInWindow σf' tr2 σ ∧
      out = (step σf.backend (.getAllTrials sid states)).2 := by
  obtain ⟨sf, ⟨tr1, tr2, σm, σm', l, e1, r1, s1, r2, b1, w1⟩, h2⟩ :=
    cached_reads_linearize_with_peers sid states NoPeerInWindow (fun x hx => absurd hx (by simp [NoPeerInWindow]))
      σ0 σ tr out hidle hlin hW hI hr hdone
  rcases w1 with ⟨hl, hpc⟩ | ⟨hl, hpc⟩
  · subst hl
    exact ⟨tr1, tr2, σm, σm', e1, r1, hpc, s1, r2, by rw [b1]; exact h2⟩
  · -- a peer step between the two sections needs `W x`, which is `False` here
    subst hl
    cases s1 with
    | peerOut x hpc' _ _ =>
      rcases hpc' with h | ⟨o, h⟩ <;> rw [hpc] at h <;> cases h
    | peerIn x _ hw _ _ => exact absurd hw (by simp [NoPeerInWindow])

/-- The backend's answer spelled out: the list returned is the backend's trial list of the study at that instant,
filtered by `states`, in number order; `KeyError` exactly if the study did not exist at that instant. -/
theorem cached_read_value (s : Spec) (sid : Nat) (states : Option (List TState)) :
    (step s (.getAllTrials sid states)).2 =
      match s.study? sid with
      | none => .err .keyError
      | some _ => .trials ((s.trialsOf sid).filter (fun p => stateIn states p.2.state)) := by
  cases h : s.study? sid <;> simp [step, h]

/-- The invariant of the cache and the well-formedness of the backend hold again after the call (in
every state of the run), so the next call — of this or of another thread — linearizes as well. -/
theorem cached_read_keeps_invariant (sid : Nat) (states : Option (List TState)) (W : Section → Prop)
    (hWh : ∀ x, W x → HarmlessFor sid x) (σ0 σ : St) (tr : List Label)
    (hidle : σ0.pc = .idle) (hlin : σ0.lin = none) (hW : Wf σ0.backend) (hI : Inv σ0.backend σ0.cache)
    (hr : Run sid states W σ0 tr σ) : Wf σ.backend ∧ Inv σ.backend σ.cache := by
  have hJ := run_keeps_J sid states W hWh σ0 σ tr ⟨hW, hI, by rw [hidle]; exact hlin⟩ hr
  exact ⟨hJ.wf, hJ.inv⟩

def envOps : List Label → List Op
  | [] => []
  | .env op :: r => op :: envOps r
  | _ :: r => envOps r

theorem envOps_append (a b : List Label) : envOps (a ++ b) = envOps a ++ envOps b := by
  induction a with
  | nil => rfl
  | cons l r ih => cases l <;> simp [envOps, ih]

/-- **The cached read writes nothing**: after any run (any `W`), the backend is what the other
clients' calls alone made of it. -/
theorem cached_read_does_not_write (sid : Nat) (states : Option (List TState)) (W : Section → Prop) (σ0 σ : St)
    (tr : List Label) (hr : Run sid states W σ0 tr σ) : σ.backend = after σ0.backend (envOps tr) := by
  induction hr with
  | nil => rfl
  | @snoc tr σ σ' l _ hstep ih =>
    rw [envOps_append]
    cases hstep with
    | env op => simp [envOps, after, List.foldl_append, ih]
    | _ => simpa [envOps] using ih

def AnyPeer : Section → Prop := fun _ => True

/-- C08's scenario: thread T1 of client A has made the backend call of `create_new_trial(WAITING
template)` (snapshot `rSnap`), a foreign worker has claimed the trial (backend `rS2`: RUNNING); now
thread T2 of A reads. -/
def w0 : St := { backend := rS2, cache := Client.init, pc := .idle, lin := none }
def w1 : St := { w0 with pc := .locked }
def w2 : St := { w1 with cache := touch w1.cache 0, pc := .fetched (fetchOf w1.backend (touch w1.cache 0) 0), lin := some w1.backend }
def wFetched : List (Nat × TrialS) := rS2.trialsOf 0
def w3 : St := { w2 with cache := foldIn w2.cache 0 wFetched, pc := .folded }
def w4 : St := { w3 with pc := .between }
/-- T1 files its out-of-date snapshot between T2's two sections -/
def w5 : St := { w4 with cache := ((Section.noteCreated 0 rSnap).run w4.backend w4.cache).2,
                          lin := linAfterPeer 0 w4 (.noteCreated 0 rSnap) }
def w6 : St := { w5 with pc := .locked2 }
def w7 : St := { w6 with pc := .done (.trials ((entryD w6.cache.studies 0).readAll none)) }

def wTrace : List Label := [.lock1, .fetch, .fold, .unlock1, .peer (.noteCreated 0 rSnap), .lock2, .ret]

theorem w2_fetched : w2.pc = .fetched (.ok wFetched) := by
  show PC.fetched (fetchOf rS2 (touch Client.init 0) 0) = PC.fetched (.ok wFetched)
  have : fetchOf rS2 (touch Client.init 0) 0 = .ok wFetched := rfl
  rw [this]

theorem rSnap_enabled : (Section.noteCreated 0 rSnap).enabled rS2 :=
  ⟨(rS2.trials[0]?).getD rSnap.2, by decide, by decide, by decide, by decide⟩

/-- **peer_create_in_window_not_linearizable_witness**: a complete run of the reader, with no backend
call at all during it (the backend is `rS2` from the first to the last step) and one peer section
(`create_new_trial`'s, carrying a snapshot older than the call) between the reader's two critical
sections: the reader returns the trial as WAITING although the backend held it RUNNING during the
whole call — the answer equals the backend's at **no** instant of the call.  (The invariant still
holds and the next read is correct: `C08.stale_create_snapshot_after_sync_witness`.) -/
theorem peer_create_in_window_not_linearizable_witness :
    Run 0 none AnyPeer w0 wTrace w7 ∧ envOps wTrace = [] ∧ w7.backend = rS2 ∧
      ∃ out, w7.pc = .done out ∧ out ≠ (step rS2 (.getAllTrials 0 none)).2 := by
  refine ⟨?_, rfl, rfl, _, rfl, ?_⟩
  · have r1 : Run 0 none AnyPeer w0 ([] ++ [.lock1]) w1 := Run.snoc Run.nil (Step.lock1 w0 rfl)
    have r2 : Run 0 none AnyPeer w0 (([] ++ [.lock1]) ++ [.fetch]) w2 := Run.snoc r1 (Step.fetch w1 rfl)
    have r3 := Run.snoc r2 (Step.foldOk w2 wFetched w2_fetched)
    have r4 := Run.snoc r3 (Step.unlock1 w3 rfl)
    have r5 := Run.snoc r4 (Step.peerIn (W := AnyPeer) (sid := 0) (states := none) w4 (.noteCreated 0 rSnap) rfl trivial rfl rSnap_enabled)
    have r6 := Run.snoc r5 (Step.lock2 w5 rfl)
    have r7 := Run.snoc r6 (Step.ret w6 rfl)
    exact r7
  · decide

/-! ## non-vacuity -/

/-- initial state of the run `nTrace` (states `n0` … `n9`), in which a foreign writer acts while the
lock is held, between the backend read and the cache update, and between the two critical sections -/
def n0 : St := { backend := rS1, cache := Client.init, pc := .idle, lin := none }
def claim : Op := .setTrialStateValues 0 .running none
def finish : Op := .setTrialStateValues 0 .fail none
def create : Op := .createTrial 0 none false

example : Wf n0.backend := backend_wf _
example : Inv n0.backend n0.cache := inv_init _

def nTrace : List Label :=
  [.lock1, .env claim, .fetch, .env finish, .fold, .unlock1, .env create, .lock2, .ret]

def n1 : St := { n0 with pc := .locked }
def n2 : St := { n1 with backend := (step n1.backend claim).1 }
def n3 : St := { n2 with cache := touch n2.cache 0, pc := .fetched (fetchOf n2.backend (touch n2.cache 0) 0), lin := some n2.backend }
def n4 : St := { n3 with backend := (step n3.backend finish).1 }
def nFetched : List (Nat × TrialS) := n2.backend.trialsOf 0
def n5 : St := { n4 with cache := foldIn n4.cache 0 nFetched, pc := .folded }
def n6 : St := { n5 with pc := .between }
def n7 : St := { n6 with backend := (step n6.backend create).1 }
def n8 : St := { n7 with pc := .locked2 }
def n9 : St := { n8 with pc := .done (.trials ((entryD n8.cache.studies 0).readAll (some [.running]))) }

theorem n4_fetched : n4.pc = .fetched (.ok nFetched) := by
  show PC.fetched (fetchOf n2.backend (touch Client.init 0) 0) = PC.fetched (.ok nFetched)
  have : fetchOf n2.backend (touch Client.init 0) 0 = .ok nFetched := rfl
  rw [this]

/-- the run up to the window between the two critical sections, for any `W` -/
theorem nPrefix (W : Section → Prop) :
    Run 0 (some [.running]) W n0 [.lock1, .env claim, .fetch, .env finish, .fold, .unlock1, .env create] n7 := by
  have r1 : Run 0 (some [.running]) W n0 ([] ++ [.lock1]) n1 := Run.snoc Run.nil (Step.lock1 n0 rfl)
  have r2 := Run.snoc r1 (Step.env (sid := 0) (states := some [.running]) (W := W) n1 claim)
  have r3 := Run.snoc r2 (Step.fetch n2 rfl)
  have r4 := Run.snoc r3 (Step.env (sid := 0) (states := some [.running]) (W := W) n3 finish)
  have r5 := Run.snoc r4 (Step.foldOk n4 nFetched n4_fetched)
  have r6 := Run.snoc r5 (Step.unlock1 n5 rfl)
  exact Run.snoc r6 (Step.env (sid := 0) (states := some [.running]) (W := W) n6 create)

/-- the hypotheses of `cached_reads_linearize` are met by this run -/
theorem nRun : Run 0 (some [.running]) NoPeerInWindow n0 nTrace n9 :=
  Run.snoc (Run.snoc (nPrefix NoPeerInWindow) (Step.lock2 n7 rfl)) (Step.ret n8 rfl)

-- the answer is the backend's at the fetch instant (trial 0 RUNNING), which differs from the backend
-- before the call (WAITING: filtered out) and from the backend at the return (trial 0 FAIL, trial 1 RUNNING)
example : ∃ out, n9.pc = .done out ∧ out = (step n2.backend (.getAllTrials 0 (some [.running]))).2 ∧
    out ≠ (step n0.backend (.getAllTrials 0 (some [.running]))).2 ∧
    out ≠ (step n9.backend (.getAllTrials 0 (some [.running]))).2 := ⟨_, rfl, by decide, by decide, by decide⟩
example : envOps nTrace = [claim, finish, create] := rfl
example : n9.backend = after n0.backend [claim, finish, create] := cached_read_does_not_write _ _ _ _ _ _ nRun
example : (step n2.backend (.getAllTrials 0 (some [.running]))).2 ≠ .trials [] := by decide
example : (Client.init.sync rS2 0).2 = none := by decide
example : Reach n0.backend n9.backend := ⟨[claim, finish, create], cached_read_does_not_write _ _ _ _ _ _ nRun⟩


/-- the run `nTrace` with a sync of the study by another thread of the object in the window: the
linearization point moves to that sync (trial 0 FAIL, trial 1 RUNNING) -/
def p8 : St := { n7 with cache := ((Section.sync 0).run n7.backend n7.cache).2, lin := linAfterPeer 0 n7 (.sync 0) }
def p9 : St := { p8 with pc := .locked2 }
def p10 : St := { p9 with pc := .done (.trials ((entryD p9.cache.studies 0).readAll (some [.running]))) }

theorem pRun : Run 0 (some [.running]) (HarmlessFor 0) n0
    ([.lock1, .env claim, .fetch, .env finish, .fold, .unlock1, .env create] ++ [.peer (.sync 0)] ++ [.lock2] ++ [.ret]) p10 :=
  Run.snoc (Run.snoc (Run.snoc (nPrefix (HarmlessFor 0))
    (Step.peerIn n7 (.sync 0) rfl trivial rfl trivial)) (Step.lock2 p8 rfl)) (Step.ret p9 rfl)

example : ∃ out, p10.pc = .done out ∧ out = (step n7.backend (.getAllTrials 0 (some [.running]))).2 ∧
    out ≠ (step n2.backend (.getAllTrials 0 (some [.running]))).2 := ⟨_, rfl, by decide, by decide⟩
example : p10.lin = some n7.backend := by decide
example : HarmlessFor 0 (.noteCreated 1 rSnap) ∧ ¬ HarmlessFor 0 (.noteCreated 0 rSnap) := by
  simp [HarmlessFor]

end OptunaVerif.C03Cache
