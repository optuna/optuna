import OptunaVerif.Lemmas.Heap
import OptunaVerif.Generated.HeapMethods
/-!
# C20 — objects read from a study are snapshots: later writes never change them

Model: `Model/Heap.lean` (append-only heap of objects, slots where getters find them, user-owned
deep copies, storage methods as lists of heap primitives).  The primitive lists of
`InMemoryStorage`, `JournalStorageReplayResult`/`JournalStorage` and `_CachedStorage` (`HeapMethods.methods`) and of the
`Study`/`Trial` getters that promise deep copies (`HeapMethods.deepApi`) are in
`Generated/HeapMethods.lean`, regenerated from the Python source by `verif/translators/theap.py` on
every run.

Shape of the argument.
* `disciplined` (Model) is the decidable **fresh_mutation_discipline** of one method.
* `Heap.call_frozen` (Lemmas): a disciplined call changes no object that existed when it started.
* here: induction over *histories* (arbitrary later calls by any thread — calls are atomic, every
  method body runs under the storage lock — interleaved with the user writing into deep copies they
  own) gives `published_objects_immutable` and `deepcopy_results_independent`, and over histories of calls alone
  `deep_copies_stable_under_writes`; `generated_methods_disciplined` / `generated_deep_api_returns_copies` (`decide` over the
  generated tables) tie them to the source: `storage_reads_are_snapshots`, `api_reads_are_snapshots`.
The statements quantify over every well-formed world (`WF`), method, argument, history and depth of comparison;
`deep_copy_has_the_value_of_the_original` is about the one body `[.load, .retDeep]` and depths up to the heap size + 1.
-/
namespace OptunaVerif.C20
open OptunaVerif.Heap OptunaVerif.Generated

/-- One disciplined event keeps every object that is not its author's to write: the storage's objects always, the user's
too when the event is a call. -/
theorem stepEv_frozen {w : World} {e : Ev} (he : e.disciplined = true) {a : Nat} (ha : a < w.heap.length)
    (hp : a ∉ w.uo ∨ e.isCall = true) :
    (stepEv w e).heap[a]? = w.heap[a]? ∧ a < (stepEv w e).heap.length ∧ (a ∉ w.uo → a ∉ (stepEv w e).uo) := by
  fun_cases stepEv w e with
  | case1 body ar =>
    obtain ⟨hf, hl, _⟩ := call_frozen (by simpa [Ev.disciplined] using he) ar w
    exact ⟨hf a ha, Nat.lt_of_lt_of_le ha hl, fun hu => ((call_mono body ar w).sto ⟨ha, hu⟩).2⟩
  | case2 t k v ht =>
    have hu := hp.resolve_right Bool.false_ne_true
    exact ⟨upd_get_ne w.heap k _ fun h => hu (h ▸ ht), by simpa [upd_length] using ha, id⟩
  | case3 => exact ⟨rfl, ha, id⟩

theorem runEvs_frozen {w : World} (evs : List Ev) (hd : ∀ e ∈ evs, e.disciplined = true) {a : Nat}
    (ha : a < w.heap.length) (hp : a ∉ w.uo ∨ ∀ e ∈ evs, e.isCall = true) :
    (runEvs w evs).heap[a]? = w.heap[a]? :=
  (List.foldlRecOn (motive := fun w' : World => w'.heap[a]? = w.heap[a]? ∧ a < w'.heap.length ∧ (a ∉ w.uo → a ∉ w'.uo))
    evs _ ⟨rfl, ha, id⟩ fun w' h e he => by
      obtain ⟨h1, h2, h3⟩ := stepEv_frozen (hd e he) h.2.1 (hp.imp h.2.2 fun hc => hc e he)
      exact ⟨h1.trans h.1, h2, fun hu => h3 (h.2.2 hu)⟩).1

section
-- freezing needs no well-formedness of the world, so `wf` below is not used
set_option linter.unusedVariables false
/-- Whatever is called afterwards (disciplined
methods, any arguments, any number of calls) and whatever users do to their own copies, every
storage object that exists now is bit-for-bit the same for ever. -/
theorem old_objects_unchanged {w : World} (wf : WF w) (evs : List Ev) (hd : ∀ e ∈ evs, e.disciplined = true) :
    ∀ a, a < w.heap.length → a ∉ w.uo → (runEvs w evs).heap[a]? = w.heap[a]? :=
  fun _ ha hu => runEvs_frozen evs hd ha (.inl hu)
end

/-- Take any well-formed world, any disciplined method (a getter,
or a setter that also returns something) and any arguments.  Every reference the call hands out
without deep copy denotes — at every depth of comparison — the same value after *any* later history
of disciplined calls (reads and writes by this or any other thread) and user writes into their own
deep copies.  (A disciplined method cannot hand out the storage's container: `r` is a reference.) -/
theorem published_objects_immutable {w : World} (wf : WF w) {body : List Prim} (hb : disciplined body = true)
    (ar : Args) (evs : List Ev) (hd : ∀ e ∈ evs, e.disciplined = true) :
    ∀ r ∈ (callM body ar w).2, (∀ a, r ≠ .copy a) →
      (∃ a, r = .addr a) ∧
      ∀ fuel, denote fuel (runEvs (callM body ar w).1 evs) r = denote fuel (callM body ar w).1 r := by
  intro r hr hnc
  obtain ⟨_, _, hoa⟩ := call_frozen hb ar w
  have wf1 := call_wf body ar wf
  cases r with
  | view ss => exact absurd rfl (hoa _ hr ss)
  | copy a => exact absurd rfl (hnc a)
  | addr a =>
    refine ⟨⟨a, rfl⟩, fun fuel => ?_⟩
    obtain ⟨halt, hauo⟩ := (call_rets body ar wf).live a hr
    exact pickle_congr wf1.refs (old_objects_unchanged wf1 evs hd) fuel a halt hauo

/-- Every handle returned by a disciplined call — deep copies included — keeps its value under any later history of
disciplined storage calls (calls only: a user write may change a deep copy). -/
theorem deep_copies_stable_under_writes {w : World} (wf : WF w) {body : List Prim} (hb : disciplined body = true)
    (ar : Args) (evs : List Ev) (hd : ∀ e ∈ evs, e.disciplined = true ∧ e.isCall = true) :
    ∀ r ∈ (callM body ar w).2, ∀ fuel,
      denote fuel (runEvs (callM body ar w).1 evs) r = denote fuel (callM body ar w).1 r := by
  intro r hr fuel
  obtain ⟨_, _, hoa⟩ := call_frozen hb ar w
  have same := pickle_congr_closed (call_wf body ar wf).closed
    (fun _ ha => runEvs_frozen evs (fun e he => (hd e he).1) ha (.inr fun e he => (hd e he).2)) fuel
  cases r with
  | view ss => exact absurd rfl (hoa _ hr ss)
  | copy a => exact same a ((call_rets body ar wf).copy a hr).1
  | addr a => exact same a ((call_rets body ar wf).live a hr).1

/-- A user writing into an object they own changes the deep value of no storage object. -/
theorem user_mutation_invisible {w : World} (wf : WF w) (t k v : Nat) :
    ∀ a, a < w.heap.length → a ∉ w.uo → ∀ fuel,
      pickle fuel (stepEv w (.userMut t k v)).heap a = pickle fuel w.heap a := by
  intro a ha hu fuel
  refine pickle_congr wf.refs (fun b hb hbu => ?_) fuel a ha hu
  exact (stepEv_frozen (e := .userMut t k v) rfl hb (.inl hbu)).1

theorem user_mutation_invisible_to_storage {w : World} (wf : WF w) (t k v : Nat) :
    (∀ s a, (s, a) ∈ w.slots → ∀ fuel,
      pickle fuel (stepEv w (.userMut t k v)).heap a = pickle fuel w.heap a) ∧
    (∀ ss fuel, denote fuel (stepEv w (.userMut t k v)) (.view ss) = denote fuel w (.view ss)) := by
  have hslot := fun s a (hs : (s, a) ∈ w.slots) =>
    user_mutation_invisible wf t k v a (wf.slotsIn s a hs).1 (wf.slotsIn s a hs).2
  refine ⟨hslot, fun ss fuel => ?_⟩
  have hsl : (stepEv w (.userMut t k v)).slots = w.slots := by simp only [stepEv]; split <;> rfl
  simp only [denote, hsl]
  exact pickleCells_congr fun k' d hm => (listCells_mem hm).elim fun s hs => hslot s d hs fuel

theorem runEvs_uo_mono {w : World} (evs : List Ev) : ∀ x, x ∈ w.uo → x ∈ (runEvs w evs).uo := fun x hx =>
  List.foldlRecOn (motive := fun w : World => x ∈ w.uo) evs _ hx fun w hx e _ => by
    fun_cases stepEv w e with
    | case1 body ar => exact (call_mono body ar w).keep x hx
    | _ => exact hx

/-- Let a call (of *any* method) return a deep copy, let *any*
history follow (any methods, disciplined or not; any user writes).  Then
1. the copy still belongs to the user (so writing into it is an allowed event), and
2. whatever the user then writes into whatever they own, every object the storage can hand out —
   the object in any slot, and the container view over any slots — has the same deep value as
   before the write.  So nothing the study returns later can depend on what was done to the copy. -/
theorem deepcopy_results_independent {w : World} (wf : WF w) (body : List Prim) (ar : Args)
    (evs : List Ev) (t k v : Nat) :
    (∀ a, Ret.copy a ∈ (callM body ar w).2 → a ∈ (runEvs (callM body ar w).1 evs).uo) ∧
    (∀ s a, (s, a) ∈ (runEvs (callM body ar w).1 evs).slots → ∀ fuel,
      pickle fuel (stepEv (runEvs (callM body ar w).1 evs) (.userMut t k v)).heap a =
        pickle fuel (runEvs (callM body ar w).1 evs).heap a) ∧
    (∀ ss fuel, denote fuel (stepEv (runEvs (callM body ar w).1 evs) (.userMut t k v)) (.view ss) =
        denote fuel (runEvs (callM body ar w).1 evs) (.view ss)) :=
  ⟨fun a ha => runEvs_uo_mono evs a ((call_rets body ar wf).copy a ha).2,
    user_mutation_invisible_to_storage (runEvs_wf (call_wf body ar wf) evs) t k v⟩

/-- What a body that returns only by `retDeep` hands out are copies that the user owns after the call.  (No more than
that: the statement does not say that their objects were allocated by the call.) -/
theorem deepcopy_result_is_new {w : World} (wf : WF w) {body : List Prim} (hb : returnsOnlyDeep body = true)
    (ar : Args) : ∀ r ∈ (callM body ar w).2, ∃ a, r = .copy a ∧ a ∈ (callM body ar w).1.uo := by
  -- every handle appended by a primitive other than `ret` is a copy
  have key := List.foldlRecOn (motive := fun fr : Frame => ∀ r ∈ fr.rets, ∃ a, r = Ret.copy a) body (step ar)
    (b := enter w) (by intro r hr; simp [enter] at hr) fun fr h p hp => by
      have hne : p ≠ .ret := bne_iff_ne.mp (List.all_eq_true.mp hb p hp)
      fun_cases step ar fr p with
      | case25 | case26 => exact absurd rfl hne
      | case28 => exact fun r hr => (List.mem_append.mp hr).elim (h r) fun hr => ⟨_, List.mem_singleton.mp hr⟩
      | _ => exact h
  intro r hr
  obtain ⟨a, rfl⟩ := key r hr
  exact ⟨a, rfl, ((call_rets body ar wf).copy a hr).2⟩

/-- What `return copy.deepcopy(x)` hands out has, at
every depth up to the size of the heap (which bounds the depth of any acyclic object graph), exactly
the deep value of the stored object at the time of the call. -/
theorem deep_copy_has_the_value_of_the_original {w : World} (wf : WF w) (ar : Args) {a : Nat}
    (hs : w.slots.lookup ar.src = some a) (n : Nat) (hn : n ≤ w.heap.length + 1) :
    ∃ r, (callM [.load, .retDeep] ar w).2 = [.copy r] ∧
      pickle n (callM [.load, .retDeep] ar w).1.heap r = pickle n w.heap a := by
  have ha : a < w.heap.length := (wf.slotsIn ar.src a (lookup_mem hs)).1
  refine ⟨(deepCopy (w.heap.length + 1) w.heap a).2, ?_, ?_⟩
  · simp [callM, run, enter, step, hs, Frame.world]
  · have := (deepCopy_ok (w.heap.length + 1) w.heap a).value n hn wf.closed ha
    simpa [callM, run, enter, step, hs, Frame.world] using this

/-- Every control-flow path of every object-handling method of `InMemoryStorage`,
`JournalStorageReplayResult`, `JournalStorage`, `_CachedStorage` (and the derived getters of
`BaseStorage`) as translated from the source mutates in place only what it allocated itself
and never returns a container.  Removing a `copy.copy(trial.params)`, going back to
`study.user_attrs[key] = value` (the setter before the repair 0937eec), or returning `self._studies[study_id].trials` changes the generated
list and makes this `decide` fail. -/
theorem generated_methods_disciplined : ∀ m ∈ HeapMethods.methods, disciplined m.body = true := by decide +kernel

/-- The `Study`/`Trial` getters that promise deep copies (`Study.trials`, `best_trial`, `user_attrs`,
`Trial.params`, the trial cached by `Trial.__init__`, `tell`'s result, ...) return nothing but deep
copies. -/
theorem generated_deep_api_returns_copies :
    ∀ m ∈ HeapMethods.deepApi, returnsOnlyDeep m.body = true ∧ disciplined m.body = true := by decide +kernel

/-- an event of a history of the translated storages: a call of a generated method with any arguments, or
a user write -/
def fromSource : Ev → Prop
  | .call body _ => ∃ m ∈ HeapMethods.methods, m.body = body
  | .userMut .. => True

/-- an event of a history of the translated storages AND of the public deep-copy API: a call of a generated storage method or of one of
the `deepApi` bodies (`Study.trials`, `best_trial`, `user_attrs`, `Trial.params`, …) with any arguments, or a user write -/
def fromSourceOrApi : Ev → Prop
  | .call body _ => (∃ m ∈ HeapMethods.methods, m.body = body) ∨ (∃ m ∈ HeapMethods.deepApi, m.body = body)
  | .userMut .. => True

theorem fromSource.orApi {e : Ev} (h : fromSource e) : fromSourceOrApi e := by
  cases e with
  | call body ar => exact Or.inl h
  | userMut t k v => trivial

theorem fromSourceOrApi.disciplined {e : Ev} (h : fromSourceOrApi e) : e.disciplined = true := by
  cases e with
  | userMut t k v => rfl
  | call body ar =>
    rcases h with ⟨m, hm, rfl⟩ | ⟨m, hm, rfl⟩
    · exact generated_methods_disciplined m hm
    · exact (generated_deep_api_returns_copies m hm).2

/-- `storage_reads_are_snapshots` for histories that INTERLEAVE the storage methods with the
`deepApi` bodies (and user writes), and for a first call of either kind: (1) whatever the call returns without copying stays
the same under every such later history; (2) if the call is a `deepApi` getter, everything it returns is a deep copy
that the user owns — and still owns after the history (so `deepcopy_results_independent` applies to it).
Both rest on the two `decide`-d tables `generated_methods_disciplined` / `generated_deep_api_returns_copies`. -/
theorem api_reads_are_snapshots {w : World} (wf : WF w) {m : Method}
    (hm : m ∈ HeapMethods.methods ∨ m ∈ HeapMethods.deepApi)
    (ar : Args) (evs : List Ev) (hsrc : ∀ e ∈ evs, fromSourceOrApi e) :
    (∀ r ∈ (callM m.body ar w).2, (∀ a, r ≠ .copy a) → ∀ fuel,
      denote fuel (runEvs (callM m.body ar w).1 evs) r = denote fuel (callM m.body ar w).1 r) ∧
    (m ∈ HeapMethods.deepApi → ∀ r ∈ (callM m.body ar w).2,
      ∃ a, r = .copy a ∧ a ∈ (callM m.body ar w).1.uo ∧ a ∈ (runEvs (callM m.body ar w).1 evs).uo) := by
  have hmd : disciplined m.body = true := by
    rcases hm with hm | hm
    · exact generated_methods_disciplined m hm
    · exact (generated_deep_api_returns_copies m hm).2
  have hd : ∀ e ∈ evs, e.disciplined = true := fun e he => (hsrc e he).disciplined
  refine ⟨fun r hr hnc fuel => (published_objects_immutable wf hmd ar evs hd r hr hnc).2 fuel, ?_⟩
  intro hapi r hr
  obtain ⟨a, rfl, ha⟩ := deepcopy_result_is_new wf (generated_deep_api_returns_copies m hapi).1 ar r hr
  exact ⟨a, rfl, ha, runEvs_uo_mono evs a ha⟩

/-- The property for the translated code: whatever a generated
method returns without copying stays the same under every later history of generated methods and user writes. -/
theorem storage_reads_are_snapshots {w : World} (wf : WF w) {m : Method} (hm : m ∈ HeapMethods.methods)
    (ar : Args) (evs : List Ev) (hsrc : ∀ e ∈ evs, fromSource e) :
    ∀ r ∈ (callM m.body ar w).2, (∀ a, r ≠ .copy a) → ∀ fuel,
      denote fuel (runEvs (callM m.body ar w).1 evs) r = denote fuel (callM m.body ar w).1 r :=
  (api_reads_are_snapshots wf (Or.inl hm) ar evs fun e he => (hsrc e he).orApi).1

/-! ## non-vacuity, and the discipline is what makes the difference -/

/-- a trial in slot 7 with a `user_attrs` dict (field 2) holding key 1 ↦ 10 -/
def w0 : World := { heap := [[(1, .sc 10)], [(2, .ref 0), (6, .sc 1)]], slots := [(7, 1)], uo := [] }
def args0 : Args := { src := 7, dst := 7, srcs := [7], key := 5, val := 99 }

theorem w0_wf : WF w0 := by
  refine ⟨?_, ?_, ?_, ?_⟩
  · intro a o h k d hm
    match a, h with
    | 0, h => simp [enter, w0] at h; subst h; simp at hm
    | 1, h =>
      simp [enter, w0] at h; subst h
      have : d = 0 := by have := hm; simp at this; exact this.2
      subst this; simp [enter, w0]
    | a + 2, h => simp [enter, w0] at h
  · intro s a h
    have : a = 1 := by simpa [enter, w0] using (congrArg Prod.snd (by simpa [enter, w0] using h : (s, a) = (7, 1)))
    subst this; simp [enter, w0]
  · intro a h; simp [enter, w0] at h
  · intro a h; simp [enter] at h

/-- `get_trial` then `set_trial_user_attr`: the old reference still denotes the old value,
and a new read sees the write (the history is not a no-op). -/
example :
    let r := (callM [.load, .ret] args0 w0)
    let w2 := runEvs r.1 [.call [.load, .allocCopy, .copyField 2, .mutField 2, .publish] args0]
    r.2 = [.addr 1] ∧ denote 3 w2 (.addr 1) = denote 3 r.1 (.addr 1) ∧
      (callM [.load, .ret] args0 w2).2 = [.addr 2] ∧ denote 3 w2 (.addr 2) ≠ denote 3 w2 (.addr 1) := by decide

/-- A setter outside the discipline — an EXAMPLE of a breach, not a necessity proof (the discipline is sufficient; a body
outside it is not thereby shown to break snapshots, this one is shown to by evaluation): the setter with the dict copy removed
(`trial.user_attrs[key] = value` on the copied trial) is rejected by the discipline, and it does
change what a previously returned trial denotes. -/
theorem undisciplined_setter_breaks_snapshot :
    disciplined [.load, .allocCopy, .mutField 2, .publish] = false ∧
    ∃ r ∈ (callM [.load, .ret] args0 w0).2,
      denote 3 (runEvs (callM [.load, .ret] args0 w0).1 [.call [.load, .allocCopy, .mutField 2, .publish] args0]) r
        ≠ denote 3 (callM [.load, .ret] args0 w0).1 r := by
  refine ⟨by decide, .addr 1, by decide, by decide⟩

/-- the study-attribute setter before the repair 0937eec (`study.user_attrs[key] = value`, finding F8) is rejected too -/
example : disciplined [.load, .mutCur] = false := by decide

/-- A getter outside the discipline — again an EXAMPLE of a breach, not a necessity proof: a getter returning the
container itself is rejected, and
what it returned changes with the next write. -/
theorem live_container_is_not_a_snapshot :
    disciplined [.loadAll, .ret] = false ∧
    ∃ r ∈ (callM [.loadAll, .ret] args0 w0).2,
      denote 3 (runEvs (callM [.loadAll, .ret] args0 w0).1
        [.call [.load, .allocCopy, .setScalar 6, .publish] args0]) r
        ≠ denote 3 (callM [.loadAll, .ret] args0 w0).1 r := by
  refine ⟨by decide, .view [7], by decide, by decide⟩

/-- a deep copy really is a copy (same value, different objects), it is the user's, and writing into
it leaves the stored trial alone while the copy itself changes -/
example :
    let r := callM [.load, .retDeep] args0 w0
    let w2 := stepEv r.1 (.userMut 2 1 77)
    r.2 = [.copy 3] ∧ denote 3 r.1 (.copy 3) = denote 3 w0 (.addr 1) ∧ 3 ∈ r.1.uo ∧ 2 ∈ r.1.uo ∧
      denote 3 w2 (.addr 1) = denote 3 w0 (.addr 1) ∧ denote 3 w2 (.copy 3) ≠ denote 3 r.1 (.copy 3) := by decide

/-- `Trial.__init__` keeping the storage's object (no deep copy) is not a deep-copy getter -/
example : returnsOnlyDeep [.load, .ret] = false := by decide

example : HeapMethods.methods.length > 40 ∧ HeapMethods.deepApi.length > 10 := by decide +kernel

/-- `api_reads_are_snapshots` is about something: histories that interleave both kinds of calls exist (every `deepApi` body and
every storage method body is an admissible event) -/
example : ∀ m ∈ HeapMethods.deepApi, ∀ ar, fromSourceOrApi (.call m.body ar) := fun m hm _ => Or.inr ⟨m, hm, rfl⟩
example : ∀ m ∈ HeapMethods.methods, ∀ ar, fromSourceOrApi (.call m.body ar) := fun m hm _ => Or.inl ⟨m, hm, rfl⟩

end OptunaVerif.C20
