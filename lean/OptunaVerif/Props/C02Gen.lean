import OptunaVerif.Generated.TellMethods
import OptunaVerif.Lemmas.Basic
import OptunaVerif.Lemmas.TellIR
import OptunaVerif.Props.C02
/-!
# C02 (translator tie) — the trial life-cycle functions *as written in the source today* are the hand model

`Generated/TellMethods.lean` is regenerated on every run by `verif/translators/ttell.py` from
`optuna/study/_tell.py` (`_check_state_and_values`, `_check_values_are_feasible`, `_tell_with_warning`),
`optuna/study/_optimize.py` (`_run_trial`, `_optimize_sequential`) and `optuna/study/study.py` (the tail of
`Study.ask`; `_pop_waiting_trial_id` is used by `Props/C04Gen.lean`), as data of the statement language of
`Model/TellIR.lean`.

Proved here, for **all** inputs (no bound, no sampling):
* per function, the interpreter of the generated body equals the hand model (`interp_*`): `Tell.checkStateAndValues`,
  `Tell.checkValuesFeasible`, `Tell.tell` / `studyTell`, the `askRaises` branch of `runPlan`, `runPlan`/`runTrial`/
  `afterTell`, and — one `exec` of the generated loop body per iteration — `optimizeSeq`; the statements of
  `_optimize_sequential` around its loop are a frame that touches no trial (`seq_frame`);
* hence the composition in which every callee's denotation is the interpreter of its own generated body
  (`TellIR.Program.tell / runPlan / optimizeSeq` of `TellMethods.program`) equals the hand model (`gen_*_eq`);
* therefore the headline theorems of `Props/C02.lean` hold of the interpreter of the generated code (`gen_*`).

The longer bodies are cut into segments that follow their control flow (`Stmt.take` / `Stmt.drop`), one lemma per
segment about the state it is entered with. A segment is opened once, definitionally (`dsimp only` with the defining
equations of `exec` / `evalCond` / `block` and the machine table: `open_body`), which leaves
its run as a nest of matches on what the primitives read; only then are the cases split, and each case is a `simp` with
its hypotheses along the one path it takes. (Opening inside every case repeats the shared prefix per case; letting
`simp` unfold a machine table makes it rewrite all the arms of the table.)

A source change that alters a guard, the order of two checks, an `except` clause, what sits inside a `try` or a
`finally`, an argument of a call … changes the generated data, and one of the named equalities below no longer
type-checks.
-/
namespace OptunaVerif.C02Gen
open OptunaVerif.Tell OptunaVerif.TellIR
open OptunaVerif.Generated

/-- `_check_state_and_values` as written today raises ValueError exactly when the hand model says so. -/
theorem interp_checkStateAndValues (st : Option TState) (b : Bool) :
    interpCsv TellMethods.checkStateAndValues st b = some (Tell.checkStateAndValues st b) := by
  cases st with
  | none => cases b <;> rfl
  | some s => cases s <;> cases b <;> rfl
example : interpCsv TellMethods.checkStateAndValues (some .pruned) false = some true := by decide +kernel

/-- the body of the `for v in values:` loop of the generated `_check_values_are_feasible`, and what follows the loop -/
def feasLoopBody : Stmt :=
  match TellMethods.checkValuesAreFeasible with
  | .seq (.forIn _ b) _ => b
  | _ => .skip
def feasAfterLoop : Stmt :=
  match TellMethods.checkValuesAreFeasible with
  | .seq (.forIn _ _) r => r
  | _ => .skip

def flowOfScan : Feas → Flow Exn
  | .feasible => .next
  | .infeasible w => .ret (.msg w)
  | .raises c => .raised (.exc (.cast c))

theorem feas_loop (vals : List Elem) (s : FeasSt) :
    ∃ s', forLoop (exec feasM feasLoopBody none) (feasM.bind .values) vals s = (s', flowOfScan (scan vals)) ∧
      s'.nObj = s.nObj ∧ s'.values = s.values := by
  induction vals generalizing s with
  | nil => exact ⟨_, rfl, rfl, rfl⟩
  | cons e t ih =>
    cases e with
    | ok x =>
      by_cases hx : x = .nan
      · subst hx
        exact ⟨_, rfl, rfl, rfl⟩
      · have : exec feasM feasLoopBody none (feasM.bind .values (.ok x) s) = ({ s with v := some (.ok x) }, .next) := by
          open_body [feasLoopBody, TellMethods.checkValuesAreFeasible, feasM]
          simp [hx]
        rw [forLoop_cons, this]
        simp only [scan, hx, if_false]
        exact ih { s with v := some (.ok x) }
    | bad c =>
      cases c <;> exact ⟨_, rfl, rfl, rfl⟩

theorem interp_checkValuesAreFeasible (nObj : Nat) (vals : List Elem) :
    interpFeas TellMethods.checkValuesAreFeasible nObj vals = some (checkValuesFeasible nObj vals) := by
  have hdef : TellMethods.checkValuesAreFeasible = .seq (.forIn .values feasLoopBody) feasAfterLoop := rfl
  obtain ⟨s', h1, h2, h3⟩ := feas_loop vals { nObj := nObj, values := vals }
  unfold interpFeas checkValuesFeasible
  rw [hdef, exec_seq, exec_forIn]
  have hit : feasM.items .values ({ nObj := nObj, values := vals } : FeasSt) =
      (({ nObj := nObj, values := vals } : FeasSt), .ok vals) := rfl
  rw [hit]
  simp only []
  rw [h1]
  cases hs : scan vals with
  | feasible =>
    open_body [flowOfScan, feasAfterLoop, TellMethods.checkValuesAreFeasible, feasM]
    by_cases hl : vals.length = nObj
    · simp [h2, h3, hl, finishFeas]
    · have : (nObj != vals.length) = true := by simp; omega
      simp [h2, h3, hl, finishFeas, this]
  | infeasible w => simp [flowOfScan, finishFeas]
  | raises c => simp [flowOfScan, finishFeas]

def handP (nObj : Nat) (env : Env) (lk : Lookup) (a : TellArgs) : TellParams :=
  { nObj := nObj, env := env, lk := lk, args := a,
    csvD := fun s b => some (Tell.checkStateAndValues s b),
    feasD := fun n l => some (checkValuesFeasible n l) }

/-- what the caller of `_tell_with_warning` sees, by the hand model -/
def tellSpec (nObj : Nat) (env : Env) (lk : Lookup) (r : Rec) (a : TellArgs) : Rec × TellOut :=
  match lk with
  | .found => tell nObj env r a
  | .unknownNumber => (r, .raised .valueError)
  | .badType => (r, .raised .typeError)

/-- `_tell_with_warning` in three segments: the checks (the trial is looked up and must be RUNNING, or finished under
`skip_if_finished`; `values` is bound; `_check_state_and_values`), the `if state == …` chain that decides state and
values, and the rest (cast, `after_trial`, store, re-read). -/
abbrev tellChecks : Stmt := TellMethods.tellWithWarning.take 6
abbrev tellDecide : Stmt := (TellMethods.tellWithWarning.drop 6).take 1
def tellFinish : Stmt := (TellMethods.tellWithWarning.drop 6).drop 1

theorem tell_checks (nObj : Nat) (env : Env) (r : Rec) (a : TellArgs) :
    exec (tellM (handP nObj env .found a)) tellChecks none { stored := r, state := a.state } =
      if r.state.isFinished && a.skip then ({ stored := r, frozen := some r, state := a.state }, .ret .frozenCopy)
      else if r.state != .running then ({ stored := r, frozen := some r, state := a.state }, .raised (.exc .valueError))
      else if Tell.checkStateAndValues a.state a.v.elems?.isNone then
        ({ stored := r, frozen := some r, state := a.state, values := a.v.elems? }, .raised (.exc .valueError))
      else ({ stored := r, frozen := some r, state := a.state, values := a.v.elems? }, .next) := by
  obtain ⟨v, st, skip, sup⟩ := a
  open_body [tellChecks, TellMethods.tellWithWarning, tellM, handP]
  by_cases hr : r.state = .running
  · cases v with
    | none => cases hc : Tell.checkStateAndValues st true <;> simp [hr, hc, PyVal.elems?, TState.isFinished]
    | scalar e => cases hc : Tell.checkStateAndValues st false <;> simp [hr, hc, PyVal.elems?, TState.isFinished]
    | seq l => cases hc : Tell.checkStateAndValues st false <;> simp [hr, hc, PyVal.elems?, TState.isFinished]
  · cases hs : r.state <;> cases skip <;> first | exact absurd hs hr | simp [tstate_beq, hs, TState.isFinished]


/-- what the rest of `_tell_with_warning` reads of the locals once state and values are decided -/
def Decided (s : TellSt) (r : Rec) (fs : FinState) (vals : Option (List XVal)) (warn : Option Why) (sup : Bool) : Prop :=
  s.stored = r ∧ s.state = some fs.toState ∧ s.values.map floats = vals ∧ (∀ vs, s.values = some vs → firstBad vs = none) ∧
    s.warnMsg = (if sup then warn else none) ∧ s.warned = (if sup then none else warn)

theorem tell_decide (nObj : Nat) (env : Env) (r : Rec) (a : TellArgs) (st : Option TState) (vals : Option (List Elem))
    (hc : Tell.checkStateAndValues st vals.isNone = false) :
    match decideState nObj r st vals with
    | .raise e => ∃ s', exec (tellM (handP nObj env .found a)) tellDecide none
        { stored := r, frozen := some r, state := st, values := vals } = (s', .raised (.exc e)) ∧ s'.stored = r
    | .go fs vals' warn => ∃ s', exec (tellM (handP nObj env .found a)) tellDecide none
        { stored := r, frozen := some r, state := st, values := vals } = (s', .next) ∧
        Decided s' r fs vals' warn a.suppress := by
  obtain ⟨v, st', skip, sup⟩ := a
  open_body [tellDecide, TellMethods.tellWithWarning, tellM, handP]
  cases st with
  | none =>
    cases vals with
    | none => cases sup <;> simp [decideState, Decided, FinState.toState]
    | some vs =>
      cases hf : checkValuesFeasible nObj vs with
      | feasible =>
        have hfb := firstBad_of_feasible nObj vs hf
        simp [decideState, Decided, FinState.toState, hf, hfb]
      | infeasible w => cases sup <;> simp [decideState, Decided, FinState.toState, hf]
      | raises c => exact absurd hf (check_not_raises _ _ _)
  | some st =>
    cases st with
    | running => cases hc
    | waiting => cases hc
    | fail =>
      cases vals with
      | some vs => cases hc
      | none => simp [tstate_beq, decideState, Decided, FinState.toState]
    | complete =>
      cases vals with
      | none => cases hc
      | some vs =>
        cases hf : checkValuesFeasible nObj vs with
        | feasible =>
          have hfb := firstBad_of_feasible nObj vs hf
          simp [decideState, Decided, FinState.toState, hf, hfb]
        | infeasible w => simp [decideState, hf]
        | raises c => exact absurd hf (check_not_raises _ _ _)
    | pruned =>
      cases vals with
      | some vs => cases hc
      | none =>
        cases hl : lastStep r.inter with
        | none => simp [tstate_beq, decideState, Decided, FinState.toState, lastReport, hl]
        | some k =>
          obtain ⟨x, hx⟩ := interGet?_of_lastStep r.inter k hl
          cases hf : checkValuesFeasible nObj [.ok x] with
          | feasible => simp [tstate_beq, decideState, Decided, FinState.toState, lastReport, hl, hx, hf, floats, firstBad]
          | infeasible w => simp [tstate_beq, decideState, Decided, FinState.toState, lastReport, hl, hx, hf]
          | raises c => exact absurd hf (check_not_raises _ _ _)


theorem finOf_toState (fs : FinState) : finOf fs.toState = some fs := by
  cases fs <;> rfl

theorem tell_cast (P : TellParams) (s : TellSt) (st : TState) (hs : s.state = some st)
    (hcast : ∀ vs, s.values = some vs → firstBad vs = none) :
    exec (tellM P) (tellFinish.take 2) none s = (s, .next) := by
  open_body [tellFinish, TellMethods.tellWithWarning, tellM, handP]
  cases hv : s.values with
  | none => simp [hs, hv]
  | some vs => simp [hs, hv, hcast vs hv]

/-- the rest of `_tell_with_warning`: nothing is left to cast, `after_trial` runs inside the `try`, the `finally:` stores
(or finds the trial finished by somebody else), the trial is re-read and returned -/
theorem tell_finish (nObj : Nat) (env : Env) (a : TellArgs) (s : TellSt) (r : Rec) (fs : FinState)
    (vals : Option (List XVal)) (warn : Option Why) (h : Decided s r fs vals warn a.suppress) :
    finishTell (exec (tellM (handP nObj env .found a)) tellFinish none s) =
      some (postProcess env r fs vals warn a.suppress) := by
  obtain ⟨rfl, hstate, rfl, hcast, hwm, hwd⟩ := h
  obtain ⟨after, interfere⟩ := env
  rw [exec_take_drop _ 2, tell_cast _ s _ hstate hcast]
  open_body [tellFinish, TellMethods.tellWithWarning, tellM, handP]
  cases interfere with
  | some o => cases after <;> simp [finishTell, postProcess, finOf_toState, hstate]
  | none =>
    cases after with
    | ok => cases hsup : a.suppress <;> cases warn <;> simp [finishTell, postProcess, finOf_toState, hstate, hwm, hwd, hsup]
    | raises c => simp [finishTell, postProcess, finOf_toState, hstate]
    | raisesKbd => simp [finishTell, postProcess, finOf_toState, hstate]

/-- **interp_tellWithWarning**: `_tell_with_warning` as written today (over `_check_state_and_values` and
`_check_values_are_feasible` as the hand model has them) is `tellSpec`: the three segments composed, one case of `Tell.tell`
at a time. -/
theorem interp_tellWithWarning (nObj : Nat) (env : Env) (lk : Lookup) (r : Rec) (a : TellArgs) :
    interpTell TellMethods.tellWithWarning (handP nObj env lk a) r = some (tellSpec nObj env lk r a) := by
  cases lk with
  | unknownNumber => rfl
  | badType => rfl
  | found =>
    unfold interpTell tellSpec tell
    rw [show (handP nObj env .found a).args = a from rfl, exec_take_drop _ 6, tell_checks]
    by_cases hskip : (r.state.isFinished && a.skip) = true
    · simp only [if_pos hskip]
      rfl
    · simp only [if_neg hskip]
      by_cases hrun : (r.state != .running) = true
      · simp only [if_pos hrun]
        rfl
      · simp only [if_neg hrun]
        cases hc : Tell.checkStateAndValues a.state a.v.elems?.isNone with
        | true => rfl
        | false =>
          simp only [Bool.false_eq_true, if_false]
          rw [exec_take_drop _ 1]
          have hd := tell_decide nObj env r a a.state a.v.elems? hc
          cases hdec : decideState nObj r a.state a.v.elems? with
          | raise e =>
            rw [hdec] at hd
            obtain ⟨s', he, rfl⟩ := hd
            rw [he]
            rfl
          | go fs vals warn =>
            rw [hdec] at hd
            obtain ⟨s', he, h2⟩ := hd
            rw [he]
            exact tell_finish nObj env a s' _ fs vals warn h2

/-- what `study.ask()` does for the trial, by the hand model (`runPlan`) -/
def askSpec (askRaises : Option Nat) : Rec × Option Exc :=
  match askRaises with
  | some c => ({ state := .fail }, some (.user c))
  | none => ({}, none)

/-- **interp_ask**: the tail of `Study.ask` as written today — pop or create, then `Trial(...)` and the fixed
suggests inside a `try` whose handler for `(Exception, KeyboardInterrupt)` fails the trial and re-raises — hands out a
RUNNING trial, or leaves it FAIL and raises (repaired defect F21), whichever of pop / create supplied the trial. -/
theorem interp_ask (popFound : Bool) (askRaises : Option Nat) :
    interpAsk TellMethods.ask { popFound := popFound, askRaises := askRaises } = some (askSpec askRaises) := by
  cases popFound <;> cases askRaises <;> rfl
example : interpAsk TellMethods.ask { popFound := true, askRaises := some 3 } = some ({ state := .fail }, some (.user 3)) := by
  decide +kernel

def handRunP (cfg : Cfg) (hb : Bool) (p : TrialPlan) : RunParams :=
  { cfg := cfg, hb := hb, script := p.script, askD := some (askSpec p.askRaises),
    tellD := fun r a => some (tell cfg.nObj p.script.env r a) }

/-- `_run_trial` in three segments: up to the objective's return or exception (heartbeat, `ask`, the locals,
`func(trial)` inside its `try` and `with`), the call of `_tell_with_warning` with its `except` and `finally`, and the
final re-raise or `return`. -/
abbrev runObjective : Stmt := TellMethods.runTrial.take 8
def runTell : Stmt := (TellMethods.runTrial.drop 8).hd
def runReturn : Stmt := (TellMethods.runTrial.drop 8).tl
theorem runTrial_split : TellMethods.runTrial.drop 8 = .seq runTell runReturn := rfl

/-- the `try` around `_tell_with_warning` and its `finally:` block -/
def runTellTry : Stmt := match runTell with | .tryFinally b _ => b | _ => .skip
def runFinally : Stmt := match runTell with | .tryFinally _ f => f | _ => .skip
theorem runTell_split : runTell = .tryFinally runTellTry runFinally := rfl

section
-- which `except` clause catches what, for the cases of the opened segments
attribute [local simp] catches_exception_exc catches_pruned_exc catches_exception_kbd_exc catches_pruned_pruned tstate_beq

/-- local `func_err` after the objective -/
def funcErrOf : Outcome → Option Exn
  | .ret _ => none
  | .pruned => some .pruned
  | .exc x => some (.exc x)

theorem hasFuncErr_eq (s : Script) : s.hasFuncErr = (funcErrOf s.out).isSome := by
  unfold Script.hasFuncErr
  cases s.out <;> rfl

/-- the prologue of `_run_trial` (`fail_stale_trials` when heartbeats are enabled) touches nothing the model sees -/
theorem run_heartbeat (P : RunParams) (s : RunSt) : exec (runM P) (runObjective.take 1) none s = (s, .next) := by
  open_body [runObjective, TellMethods.runTrial, runM]
  cases hb : P.hb <;> rfl

/-- up to the objective's return or exception; `ask` is called outside every `try`, so its exception leaves `_run_trial` -/
theorem run_objective (P : RunParams) (r : Rec) (x : Option Exc) (hask : P.askD = some (r, x)) :
    exec (runM P) runObjective none {} =
      match x with
      | some e => ({ stored := r }, .raised (.exc e))
      | none =>
        ({ stored := P.script.initRec, haveTrial := true, state := P.script.tellArgs.state, vov := P.script.tellArgs.v,
           funcErr := funcErrOf P.script.out }, .next) := by
  rw [exec_take_drop _ 1, run_heartbeat]
  open_body [runObjective, TellMethods.runTrial, runM]
  cases x with
  | some e => simp [hask]
  | none => cases ho : P.script.out <;> simp [hask, ho, Script.tellArgs, funcErrOf]

/-- the `try` around `_tell_with_warning`: its answer binds `frozen_trial`; an Exception it raises is re-raised after
`frozen_trial` has been re-read from the storage, a KeyboardInterrupt at once -/
theorem run_tell_try (P : RunParams) (s : RunSt) (hT : s.haveTrial = true) (r2 : Rec) (o : TellOut)
    (htd : P.tellD s.stored ⟨s.vov, s.state, false, true⟩ = some (r2, o)) :
    exec (runM P) runTellTry none s =
      match o with
      | .ok st _ wk _ => ({ s with stored := r2, frozen := some (st, wk) }, .next)
      | .skipped st _ => ({ s with stored := r2, frozen := some (st, false) }, .next)
      | .raised e =>
        ({ s with stored := r2, frozen := if e.isBase then s.frozen else some (r2.state, false) }, .raised (.exc e)) := by
  open_body [runTellTry, runTell, TellMethods.runTrial, runM]
  cases o with
  | raised e => cases hb : e.isBase <;> simp [hT, htd, hb]
  | _ => simp [hT, htd]

/-- the `finally:` block logs or asserts; after a KeyboardInterrupt out of `_tell_with_warning` it finds `frozen_trial`
unbound -/
theorem run_finally (P : RunParams) (s : RunSt) :
    exec (runM P) runFinally none s =
      (s, match s.frozen with
        | none => .raised (.exc .unboundLocalError)
        | some (st, wk) => if finallyAsserts st s.funcErr.isSome wk then .raised (.exc .assertionError) else .next) := by
  open_body [runFinally, runTell, TellMethods.runTrial, runM]
  cases hf : s.frozen with
  | none => simp
  | some f =>
    obtain ⟨st, wk⟩ := f
    cases st with
    | fail => cases wk <;> cases he : s.funcErr <;> simp [hf, he, finallyAsserts]
    | _ => simp [hf, finallyAsserts]

/-- the end of `_run_trial` when the `finally:` block did not assert: a failed trial whose objective raised something
`catch` does not list re-raises it -/
theorem run_return (P : RunParams) (s : RunSt) (st : TState) (wk : Bool) (hf : s.frozen = some (st, wk))
    (he : s.funcErr = funcErrOf P.script.out) (hp : P.script.out = .pruned → st ≠ .fail)
    (hfa : finallyAsserts st P.script.hasFuncErr wk = false) (vals : Option (List XVal)) (wd : Option Why) :
    finishRun (exec (runM P) runReturn none s) = some (afterTell P.cfg P.script s.stored (.ok st vals wk wd)) := by
  simp only [afterTell, hfa]
  open_body [runReturn, TellMethods.runTrial, runM]
  by_cases hst : st = .fail
  · cases ho : P.script.out with
    | ret v => simp [finishRun, hf, he, ho, funcErrOf, hst]
    | pruned => exact absurd hst (hp ho)
    | exc x => cases hc : P.cfg.catches x <;> simp [finishRun, hf, he, ho, funcErrOf, hc, hst]
  · cases P.script.out <;> simp [finishRun, hf, hst]

end

theorem tellArgs_eta (s : Script) : (⟨s.tellArgs.v, s.tellArgs.state, false, true⟩ : TellArgs) = s.tellArgs := by
  unfold Script.tellArgs
  cases s.out <;> rfl

/-- **interp_runTrial**: `_run_trial` as written today (over `ask` and `_tell_with_warning` as the hand model has them)
is `runPlan` -/
theorem interp_runTrial (cfg : Cfg) (hb : Bool) (p : TrialPlan) :
    interpRun TellMethods.runTrial (handRunP cfg hb p) = some (runPlan cfg p) := by
  obtain ⟨ar, s, sl, sio, cbs⟩ := p
  unfold interpRun runPlan
  rw [exec_take_drop _ 8]
  cases ar with
  | some c =>
    rw [run_objective (handRunP cfg hb ⟨some c, s, sl, sio, cbs⟩) _ _ rfl]
    rfl
  | none =>
    have h := run_objective (handRunP cfg hb ⟨none, s, sl, sio, cbs⟩) _ _ rfl
    simp only [show (handRunP cfg hb ⟨none, s, sl, sio, cbs⟩).script = s from rfl] at h
    rw [h]
    dsimp only
    unfold Tell.runTrial
    have hans := C02.script_tell_answer cfg s
    rcases ht : tell cfg.nObj s.env s.initRec s.tellArgs with ⟨r2, o⟩
    rw [ht] at hans
    have htd : (handRunP cfg hb ⟨none, s, sl, sio, cbs⟩).tellD s.initRec ⟨s.tellArgs.v, s.tellArgs.state, false, true⟩ =
        some (r2, o) := by
      rw [tellArgs_eta]
      exact congrArg some ht
    rw [runTrial_split, exec_seq, runTell_split, exec_tryFinally, run_tell_try _ _ rfl r2 o htd]
    cases o with
    | skipped st vals => exact hans.elim
    | ok st vals wk wd =>
      dsimp only
      rw [run_finally]
      dsimp only
      cases hfa : finallyAsserts st (funcErrOf s.out).isSome wk with
      | true =>
        simp only [afterTell, hasFuncErr_eq, hfa]
        rfl
      | false =>
        refine run_return (handRunP cfg hb ⟨none, s, sl, sio, cbs⟩)
          ⟨r2, true, s.tellArgs.state, s.tellArgs.v, funcErrOf s.out, some (st, wk)⟩ st wk rfl rfl ?_
          (by rw [hasFuncErr_eq]; exact hfa) vals wd
        intro (hout : s.out = .pruned)
        rw [hans hout]
        simp
    | raised e =>
      dsimp only
      rw [run_finally]
      simp only [afterTell, hasFuncErr_eq]
      cases e.isBase
      · simp only [Bool.false_eq_true, if_false]
        cases finallyAsserts r2.state (funcErrOf s.out).isSome false <;> rfl
      · rfl

def handSeqP (cfg : Cfg) (fl : SeqFlags) (nT to : Option Nat) : SeqParams :=
  { nTrials := nT, timeout := to, gc := fl.gc, cbGiven := fl.cbGiven, pbGiven := fl.pbGiven,
    runD := fun p => some (runPlan cfg p) }

abbrev L : Stmt := TellMethods.optimizeSequentialLoop
/-- the loop body in four segments: the three break tests, the `try` around `_run_trial`, the callbacks, the progress bar -/
abbrev loopHead : Stmt := L.take 3
def loopTry : Stmt := (L.drop 3).hd
def loopCallbacks : Stmt := (L.drop 3).tl.hd
def loopProgress : Stmt := (L.drop 3).tl.tl
theorem loopTail_split : L.drop 3 = .seq loopTry (.seq loopCallbacks loopProgress) := rfl

section
variable (cfg : Cfg) (fl : SeqFlags) (nT to : Option Nat)

def afterHead (nT to : Option Nat) (s : SeqSt) : SeqSt :=
  { s with iTrial := if nT.isSome then s.iTrial + 1 else s.iTrial, elapsed := if to.isSome then s.clock else s.elapsed }

theorem afterHead_plan (s : SeqSt) : (afterHead nT to s).plan = s.plan := rfl

/-- the three break tests at the head of the loop body are `loopBreaks`; when none fires `i_trial` is bumped and the clock
read, as far as `n_trials` / `timeout` are given -/
theorem loop_head (s : SeqSt) (hit : nT.isSome = true → s.iTrial = s.idx) :
    (loopBreaks nT to s.idx s.clock s.stop = true →
      ∃ s', exec (seqM (handSeqP cfg fl nT to)) loopHead none s = (s', .brk) ∧ s'.stop = s.stop) ∧
    (loopBreaks nT to s.idx s.clock s.stop = false →
      exec (seqM (handSeqP cfg fl nT to)) loopHead none s = (afterHead nT to s, .next)) := by
  obtain ⟨plan, idx, iTrial, clock, stop, elapsed, started, frozen, cb, cbLog, exhausted⟩ := s
  simp only [] at hit
  cases stop with
  | true => exact ⟨fun _ => ⟨_, rfl, rfl⟩, nofun⟩
  | false =>
    cases nT with
    | none =>
      cases to with
      | none => exact ⟨nofun, fun _ => rfl⟩
      | some t => open_body [loopHead, L, TellMethods.optimizeSequentialLoop, seqM, handSeqP]; by_cases ht : t ≤ clock <;> simp [loopBreaks, afterHead, ht]
    | some n =>
      have hi := hit rfl
      subst hi
      open_body [loopHead, L, TellMethods.optimizeSequentialLoop, seqM, handSeqP]
      by_cases hn : n ≤ iTrial
      · simp [loopBreaks, hn]
      · cases to with
        | none => simp [loopBreaks, afterHead, hn]
        | some t => by_cases ht : t ≤ clock <;> simp [loopBreaks, afterHead, hn, ht]

def afterRun (cfg : Cfg) (p : TrialPlan) (s : SeqSt) : SeqSt :=
  { s with started := some (runPlan cfg p), stop := s.stop || p.stopInObj, clock := s.clock + p.sleep, frozen := true }

/-- the `try` around `_run_trial` (its `finally:` only collects garbage): with no plan left `_run_trial` cannot be
modelled, and the loop would have gone on; the trial's exception leaves the loop; else the trial is bound -/
theorem tail_try (s : SeqSt) :
    exec (seqM (handSeqP cfg fl nT to)) loopTry none s =
      match s.plan with
      | none => ({ s with exhausted := true }, .raised .unrep)
      | some p =>
        match (runPlan cfg p).raised with
        | some e =>
          ({ s with started := some (runPlan cfg p), stop := s.stop || p.stopInObj, clock := s.clock + p.sleep },
            .raised (.exc e))
        | none => (afterRun cfg p s, .next) := by
  obtain ⟨plan, idx, iTrial, clock, stop, elapsed, started, frozen, cb, cbLog, exhausted⟩ := s
  obtain ⟨hb, pf, gc, pb, cbg⟩ := fl
  cases plan with
  | none => cases gc <;> rfl
  | some p => open_body [loopTry, L, TellMethods.optimizeSequentialLoop, seqM, handSeqP]; cases gc <;> cases hr : (runPlan cfg p).raised <;> simp [afterRun]

theorem tail_callbacks (s : SeqSt) (p : TrialPlan) (hp : s.plan = some p) (hf : s.frozen = true) :
    CbRun s 0 (stripCbs fl.cbGiven p).cbs (exec (seqM (handSeqP cfg fl nT to)) loopCallbacks none s) := by
  obtain ⟨hb, pf, gc, pb, cb⟩ := fl
  cases cb with
  | false => exact CbRun.nil s 0
  | true =>
    open_body [loopCallbacks, L, TellMethods.optimizeSequentialLoop, seqM, handSeqP]
    simp only [Bool.not_true, Bool.not_false, hp]
    refine forLoop_callbacks _ _ ?_ 0 p.cbs s hf
    intro x s' hs'
    dsimp only [exec]
    cases hr : x.2.raises <;> simp [cbStep, hs', hr]

theorem tail_progress (s : SeqSt) :
    exec (seqM (handSeqP cfg fl nT to)) loopProgress none s =
      ({ s with elapsed := if fl.pbGiven then s.clock else s.elapsed }, .next) := by
  obtain ⟨hb, pf, gc, pb, cb⟩ := fl
  cases pb <;> rfl
end

theorem stripCbs_runPlan (cfg : Cfg) (g : Bool) (p : TrialPlan) : runPlan cfg (stripCbs g p) = runPlan cfg p := by
  cases g <;> rfl
theorem stripCbs_sleep (g : Bool) (p : TrialPlan) : (stripCbs g p).sleep = p.sleep := by cases g <;> rfl
theorem stripCbs_stopInObj (g : Bool) (p : TrialPlan) : (stripCbs g p).stopInObj = p.stopInObj := by cases g <;> rfl

/-- **interp_optimizeSeq**: the `while True:` loop of `_optimize_sequential`, one `exec` of the generated loop body per
iteration (over `_run_trial` as the hand model has it), is `optimizeSeq` — for every plan list, `n_trials`, timeout,
stop flag, whatever `gc_after_trial` / the progress bar are; with `callbacks=None` it is `optimizeSeq` of the plans
without their callbacks. -/
theorem interp_optimizeSeq (cfg : Cfg) (fl : SeqFlags) (nT to : Option Nat) (plans : List TrialPlan) (i it el : Nat)
    (stop : Bool) (hit : nT.isSome = true → it = i) :
    seqLoop L (handSeqP cfg fl nT to) plans i it el stop =
      some (optimizeSeq cfg nT to (plans.map (stripCbs fl.cbGiven)) i el stop) := by
  -- one iteration per plan, cut into `loopHead` and the three segments of `loopTail_split`. The code bumps `i_trial` only
  -- when `n_trials` is given, the model's `i` always: `hit` is what the head test needs and what an iteration keeps.
  induction plans generalizing i it el stop with
  | nil =>
    simp only [List.map_nil]
    unfold seqLoop optimizeSeq
    rw [exec_take_drop _ 3]
    cases hb : loopBreaks nT to i el stop with
    | true =>
      obtain ⟨s', h1, h2⟩ := (loop_head cfg fl nT to
        { plan := none, idx := i, iTrial := it, clock := el, stop := stop } hit).1 hb
      rw [h1]
      simp [h2]
    | false =>
      rw [(loop_head cfg fl nT to _ hit).2 hb]
      dsimp only
      -- the plans ran out and the loop goes on: `_run_trial` has no model (`tail_try`), both sides say `exhausted`
      rw [loopTail_split, exec_seq, tail_try]
      simp [afterHead]
  | cons p ps ih =>
    simp only [List.map_cons]
    unfold seqLoop optimizeSeq
    rw [exec_take_drop _ 3]
    cases hb : loopBreaks nT to i el stop with
    | true =>
      obtain ⟨s', h1, h2⟩ := (loop_head cfg fl nT to
        { plan := some p, idx := i, iTrial := it, clock := el, stop := stop } hit).1 hb
      rw [h1]
      simp [h2]
    | false =>
      rw [(loop_head cfg fl nT to _ hit).2 hb]
      dsimp only
      rw [loopTail_split, exec_seq, tail_try]
      simp only [Bool.false_eq_true, if_false, stripCbs_runPlan, stripCbs_sleep, stripCbs_stopInObj, afterHead_plan]
      cases hr : (runPlan cfg p).raised with
      | some e => simp [afterHead]
      | none =>
        simp only []
        -- of the state after the callbacks only what `CbRun` keeps is known (log, stop flag, trial, counter, clock):
        -- it is all that `seqLoop` and the next iteration read
        obtain ⟨s2, c1, c2, c3, c4, c5, c6⟩ := tail_callbacks cfg fl nT to
          (afterRun cfg p (afterHead nT to { plan := some p, idx := i, iTrial := it, clock := el, stop := stop })) p rfl rfl
        rw [exec_seq, c1]
        simp only [afterRun, afterHead] at c2 c3 c4 c5 c6 ⊢
        rcases hc : runCallbacks i 0 (stripCbs fl.cbGiven p).cbs with ⟨log, cbStop, rr⟩
        rw [hc] at c2 c3
        simp only [] at c2 c3
        cases rr with
        | some c => simp [c2, c3, c4]
        | none =>
          simp only []
          rw [tail_progress]
          simp only []
          rw [c4, c5, c6, c3]
          have := ih (i + 1) (if nT.isSome = true then it + 1 else it) (el + p.sleep) (stop || p.stopInObj || cbStop)
            (by intro h; simp [h]; exact hit h)
          rw [this]
          simp [c2]

/-- `_optimize_sequential` is its loop inside a frame that touches no trial: `in_optimize_loop = True`, the optional
`reseed_rng()`, `i_trial = 0`, the default of `time_start`, the loop, `remove_session()`. -/
theorem seq_frame :
    seqFrame TellMethods.optimizeSequential = some
      ([.act .enterOptimizeLoop, .ite (.prim .reseedSamplerRng) (.act .reseedRng) .skip, .act .initTrialCount,
        .ite (.prim .timeStartIsNone) (.act .initTimeStart) .skip],
       TellMethods.optimizeSequentialLoop, [.act .removeSession]) := by
  rfl

/-- the class table of `Model/TellIR.lean` (`Exn.mro`): TrialPruned and UpdateFinishedTrialError derive from
OptunaError (an Exception), the latter also from RuntimeError -/
theorem exc_hierarchy :
    TellMethods.excBases = [("OptunaError", ["Exception"]), ("TrialPruned", ["OptunaError"]),
      ("UpdateFinishedTrialError", ["OptunaError", "RuntimeError"])] :=
  rfl

abbrev G : Program := TellMethods.program

/-- **gen_tell_eq**: `_tell_with_warning` over the generated `_check_state_and_values` and
`_check_values_are_feasible` is `Tell.tell` (and the ValueError / TypeError of an unknown / ill-typed `trial`). -/
theorem gen_tell_eq (nObj : Nat) (env : Env) (lk : Lookup) (r : Rec) (a : TellArgs) :
    G.tell nObj env lk r a = some (tellSpec nObj env lk r a) := by
  have h1 : interpCsv G.checkStateAndValues = fun s b => some (Tell.checkStateAndValues s b) := by
    funext s b; exact interp_checkStateAndValues s b
  have h2 : interpFeas G.checkValuesAreFeasible = fun n l => some (checkValuesFeasible n l) := by
    funext n l; exact interp_checkValuesAreFeasible n l
  unfold Program.tell
  rw [h1, h2]
  exact interp_tellWithWarning nObj env lk r a
example : G.tell 1 {} .found {} { v := .scalar (.ok .nan) } = some ({ state := .fail }, .ok .fail none false (some .nan)) := by
  decide +kernel

/-- **interp_getFrozenTrial**: `_get_frozen_trial` as written today resolves a Trial object or the number of an existing
trial, raises ValueError for an unknown number (the storage's KeyError is translated) and TypeError for anything else —
the three cases of the hand model's `Lookup`. -/
theorem interp_getFrozenTrial (how : How) : interpLookup TellMethods.getFrozenTrial how = some how.lookup := by
  cases how <;> rfl
example : interpLookup TellMethods.getFrozenTrial .unknownNumber = some .unknownNumber := by decide +kernel

/-- **interp_studyTell**: `Study.tell` as written today passes its arguments through to `_tell_with_warning`, without
`suppress_warning`. -/
theorem interp_studyTell (tellD : TellArgs → Option (Rec × TellOut)) (a : TellArgs) :
    interpStudyTell TellMethods.studyTell tellD a = tellD { a with suppress := false } := by
  rfl

/-- **gen_studyTell_eq**: `Study.tell(trial, values, state, skip_if_finished)` over the generated `_get_frozen_trial`,
`_tell_with_warning`, `_check_state_and_values`, `_check_values_are_feasible` is `studyTell`, however the trial is named. -/
theorem gen_studyTell_eq (nObj : Nat) (env : Env) (how : How) (r : Rec) (a : TellArgs) :
    G.publicTell nObj env how r a = some (studyTell nObj env how.lookup r a) := by
  unfold Program.publicTell
  rw [show G.studyTell = TellMethods.studyTell from rfl, interp_studyTell, show interpLookup G.getFrozenTrial how = some how.lookup from interp_getFrozenTrial how]
  simp only []
  rw [gen_tell_eq]
  cases how <;> rfl
example : G.publicTell 1 {} .knownNumber {} { v := .scalar (.ok .nan), suppress := true } =
    some ({ state := .fail }, .ok .fail none false (some .nan)) := by decide +kernel
example : G.publicTell 1 {} .badType {} {} = some ({}, .raised .typeError) := by decide +kernel

/-- **gen_runPlan_eq**: `_run_trial` over the generated `Study.ask` and `_tell_with_warning` is `runPlan`, whether
heartbeats are enabled or not and whether `ask` popped a queued trial or created one. -/
theorem gen_runPlan_eq (cfg : Cfg) (hb popFound : Bool) (p : TrialPlan) :
    G.runPlan cfg hb popFound p = some (runPlan cfg p) := by
  have h1 : (fun r a => G.tell cfg.nObj p.script.env .found r a) = fun r a => some (tell cfg.nObj p.script.env r a) := by
    funext r a; exact gen_tell_eq cfg.nObj p.script.env .found r a
  unfold Program.runPlan
  rw [h1, show interpAsk G.ask { popFound := popFound, askRaises := p.askRaises } = some (askSpec p.askRaises) from
    interp_ask popFound p.askRaises]
  exact interp_runTrial cfg hb p
example : G.runPlan ⟨1, fun _ => false⟩ true false { script := { out := .ret (.scalar (.bad (.other 7))) } }
    = some ⟨{ state := .fail }, none⟩ := by decide +kernel
example : G.runPlan ⟨1, fun _ => false⟩ false true { script := { out := .exc .kbd } }
    = some ⟨{ state := .fail }, some .kbd⟩ := by decide +kernel

/-- **gen_optimizeSeq_eq**: the loop of `_optimize_sequential` over the generated `_run_trial` is `optimizeSeq` — on the plans
without their callbacks when `callbacks` is `None`, and for a counter `i_trial` that agrees with the model's `i` whenever
`n_trials` is given (`hit`; it does at the start, `gen_optimize_eq`). -/
theorem gen_optimizeSeq_eq (cfg : Cfg) (fl : SeqFlags) (nT to : Option Nat) (plans : List TrialPlan) (i it el : Nat)
    (stop : Bool) (hit : nT.isSome = true → it = i) :
    G.optimizeSeq cfg fl nT to plans i it el stop =
      some (optimizeSeq cfg nT to (plans.map (stripCbs fl.cbGiven)) i el stop) := by
  have h1 : G.runPlan cfg fl.hb fl.popFound = fun p => some (runPlan cfg p) := by
    funext p; exact gen_runPlan_eq cfg fl.hb fl.popFound p
  unfold Program.optimizeSeq
  rw [h1]
  exact interp_optimizeSeq cfg fl nT to plans i it el stop hit

theorem map_stripCbs_true (plans : List TrialPlan) : plans.map (stripCbs true) = plans := by
  induction plans with
  | nil => rfl
  | cons p ps ih => simp [stripCbs, ih]

/-- `gen_optimizeSeq_eq` started the way `_optimize_sequential` starts it (`i_trial = 0`, see `seq_frame`), callbacks given -/
theorem gen_optimize_eq (cfg : Cfg) (fl : SeqFlags) (hcb : fl.cbGiven = true) (nT to : Option Nat)
    (plans : List TrialPlan) :
    G.optimizeSeq cfg fl nT to plans 0 0 0 false = some (optimizeSeq cfg nT to plans 0 0 false) := by
  rw [gen_optimizeSeq_eq cfg fl nT to plans 0 0 0 false (fun _ => rfl), hcb, map_stripCbs_true]

/-- with `callbacks=None`: the same loop, no callback ever invoked -/
theorem gen_optimize_eq_nocb (cfg : Cfg) (fl : SeqFlags) (hcb : fl.cbGiven = false) (nT to : Option Nat)
    (plans : List TrialPlan) :
    G.optimizeSeq cfg fl nT to plans 0 0 0 false =
      some (optimizeSeq cfg nT to (plans.map (fun p => { p with cbs := [] })) 0 0 false) := by
  rw [gen_optimizeSeq_eq cfg fl nT to plans 0 0 0 false (fun _ => rfl), hcb]
  rfl
example : (G.optimizeSeq ⟨1, fun _ => false⟩ { cbGiven := false } (some 2) none
    [{ cbs := [{ raises := some 1 }] }, { cbs := [{}] }] 0 0 0 false).map (fun o => (o.cbLog, o.trials.length)) = some ([], 2) := by
  decide +kernel
example : (G.optimizeSeq ⟨1, fun _ => false⟩ { gc := true } (some 2) none
    [{ script := { out := .ret (.scalar (.ok (.fin 1))) }, cbs := [{}, {}] },
     { script := { out := .exc (.user 1) }, cbs := [{}, {}] }] 0 0 0 false).map (·.cbLog) = some [(0, 0), (0, 1)] := by decide +kernel

/-- **gen_runTrial_terminal**: whatever the objective, the sampler, another worker, `catch`, the heartbeat setting and
the queue do, `_run_trial` *as generated from the source* leaves its trial COMPLETE, PRUNED or FAIL — also when
`study.ask()` raises after the trial exists. -/
theorem gen_runTrial_terminal (cfg : Cfg) (hb popFound : Bool) (p : TrialPlan) :
    ∃ ro, G.runPlan cfg hb popFound p = some ro ∧ ro.final.state.isFinished = true := by
  exact ⟨_, gen_runPlan_eq cfg hb popFound p, C02.runPlan_terminal cfg p⟩
example : G.runPlan ⟨1, fun _ => false⟩ false false { askRaises := some 2 } = some ⟨{ state := .fail }, some (.user 2)⟩ := by
  decide +kernel

/-- **gen_complete_iff_feasible**: `C02.complete_iff_feasible` for the generated `_run_trial`, on the trial handed out by `ask`, nobody
else touching it -/
theorem gen_complete_iff_feasible (cfg : Cfg) (hb popFound : Bool) (p : TrialPlan) (ha : p.askRaises = none)
    (hu : C02.Undisturbed p.script) :
    ∃ ro, G.runPlan cfg hb popFound p = some ro ∧
      (ro.final.state = .complete ↔ ∃ v, p.script.out = .ret v ∧ C02.Feasible cfg.nObj v) ∧
      (∀ v es, p.script.out = .ret v → v.elems? = some es → C02.Feasible cfg.nObj v →
          ro.final.values = some (floats es) ∧ es = (floats es).map Elem.ok ∧
          (floats es).length = cfg.nObj ∧ ∀ x ∈ floats es, x ≠ .nan) := by
  refine ⟨_, gen_runPlan_eq cfg hb popFound p, ?_⟩
  rw [C02.runPlan_of_ask cfg p ha]
  exact C02.complete_iff_feasible cfg p.script hu
example : G.runPlan ⟨2, fun _ => false⟩ false false { script := { out := .ret (.seq [.ok (.fin 1), .ok .pinf]) } } =
    some ⟨{ state := .complete, values := some [.fin 1, .pinf] }, none⟩ := by decide +kernel

/-- **gen_fail_has_no_values**: `C02.fail_has_no_values` for the generated `_run_trial`: a trial handed out by `ask` that nobody else
touches and that ends FAIL carries no values -/
theorem gen_fail_has_no_values (cfg : Cfg) (hb popFound : Bool) (p : TrialPlan) (ha : p.askRaises = none)
    (hu : C02.Undisturbed p.script) :
    ∃ ro, G.runPlan cfg hb popFound p = some ro ∧ (ro.final.state = .fail → ro.final.values = none) := by
  refine ⟨_, gen_runPlan_eq cfg hb popFound p, ?_⟩
  rw [C02.runPlan_of_ask cfg p ha]
  exact C02.fail_has_no_values cfg p.script hu
example : G.runPlan ⟨1, fun _ => false⟩ false false { script := { out := .ret (.scalar (.ok .nan)) } } =
    some ⟨{ state := .fail, values := none }, none⟩ := by decide +kernel

/-- **gen_uncaught_propagates_after_fail** (generated code; the trial handed out by `ask`, nobody else touching it): an
objective exception that `catch` does not list leaves `_run_trial` after the trial has been failed -/
theorem gen_uncaught_propagates_after_fail (cfg : Cfg) (hb popFound : Bool) (p : TrialPlan) (e : Exc)
    (ha : p.askRaises = none) (hu : C02.Undisturbed p.script) (ho : p.script.out = .exc e) :
    ∃ ro, G.runPlan cfg hb popFound p = some ro ∧ ro.final.state = .fail ∧ ro.final.values = none ∧
      (cfg.catches e = false → ro.raised ≠ none) ∧
      (p.script.env.after = .ok → ro.raised = if cfg.catches e then none else some e) := by
  refine ⟨_, gen_runPlan_eq cfg hb popFound p, ?_⟩
  rw [C02.runPlan_of_ask cfg p ha]
  exact C02.uncaught_propagates_after_fail cfg p.script e hu ho

/-- **gen_tell_never_alters_finished** (generated code): `Study.tell` on a finished trial, for every argument
combination, sampler behaviour and interference, leaves the stored record as it was; with `skip_if_finished` it returns
that record, otherwise it raises ValueError. -/
theorem gen_tell_never_alters_finished (nObj : Nat) (env : Env) (how : How) (r : Rec) (a : TellArgs)
    (h : r.state.isFinished = true) :
    ∃ x, G.publicTell nObj env how r a = some x ∧ x.1 = r ∧
      (how.lookup = .found → x.2 = if a.skip then .skipped r.state r.values else .raised .valueError) := by
  refine ⟨_, gen_studyTell_eq nObj env how r a, ?_⟩
  exact C02.tell_never_alters_finished nObj env how.lookup r a h
example : G.publicTell 1 {} .trialObject { state := .complete, values := some [.fin 1] }
    { v := .scalar (.ok (.fin 2)), state := some .fail, skip := true } =
    some ({ state := .complete, values := some [.fin 1] }, .skipped .complete (some [.fin 1])) := by decide +kernel

/-- **gen_optimizeSeq_all_terminal** (generated code): when the loop of `_optimize_sequential` returns or raises, every
trial it started is COMPLETE, PRUNED or FAIL. -/
theorem gen_optimizeSeq_all_terminal (cfg : Cfg) (fl : SeqFlags) (nT to : Option Nat) (plans : List TrialPlan) :
    ∃ o, G.optimizeSeq cfg fl nT to plans 0 0 0 false = some o ∧ ∀ ro ∈ o.trials, ro.final.state.isFinished = true :=
  ⟨_, gen_optimizeSeq_eq cfg fl nT to plans 0 0 0 false (fun _ => rfl),
    C02.optimizeSeq_all_terminal cfg nT to _ 0 0 false⟩
example : (G.optimizeSeq ⟨1, fun _ => false⟩ {} (some 3) none
    [{ script := { out := .ret (.scalar (.ok .nan)) } }, { askRaises := some 1 }, {}] 0 0 0 false).map
      (fun o => o.trials.map (·.final.state)) = some [.fail, .fail] := by decide +kernel

/-- **gen_callbacks_exactly_once** (generated code): for the `k`-th trial the loop started and every callback index
`j`, the invocation `(trial k, callback j)` occurs in the log exactly once if the trial's exception did not propagate and
no earlier callback of that trial raised, and never otherwise. -/
theorem gen_callbacks_exactly_once (cfg : Cfg) (fl : SeqFlags) (hcb : fl.cbGiven = true) (nT to : Option Nat)
    (plans : List TrialPlan) :
    ∃ o, G.optimizeSeq cfg fl nT to plans 0 0 0 false = some o ∧
      ∀ k j, k < o.trials.length → ∃ p, plans[k]? = some p ∧ o.trials[k]? = some (runPlan cfg p) ∧
        List.count (k, j) o.cbLog =
          if (runPlan cfg p).raised = none ∧
              (j < p.cbs.length ∧ ∀ j', j' < j → ∀ a, p.cbs[j']? = some a → a.raises = none)
          then 1 else 0 := by
  refine ⟨_, gen_optimize_eq cfg fl hcb nT to plans, ?_⟩
  intro k j hk
  have := C02.callbacks_exactly_once cfg nT to plans 0 0 false k j hk
  simpa using this

/-- **gen_optimizeSeq_runs_exactly_n**: `C02.optimizeSeq_runs_exactly_n` for the generated loop started as `_optimize_sequential`
starts it, callbacks given: under the same hypotheses exactly `n` trials run, the first `n` plans each through `_run_trial`, and the loop returns normally -/
theorem gen_optimizeSeq_runs_exactly_n (cfg : Cfg) (fl : SeqFlags) (hcb : fl.cbGiven = true) (n : Nat)
    (plans : List TrialPlan) (hlen : n ≤ plans.length)
    (hq : ∀ p ∈ plans.take n, p.stopInObj = false ∧ (runPlan cfg p).raised = none ∧
            ∀ a ∈ p.cbs, a.stop = false ∧ a.raises = none) :
    ∃ o, G.optimizeSeq cfg fl (some n) none plans 0 0 0 false = some o ∧
      o.trials = (plans.take n).map (fun p => runPlan cfg p) ∧ o.trials.length = n ∧ o.raised = none := by
  refine ⟨_, gen_optimize_eq cfg fl hcb (some n) none plans, ?_⟩
  obtain ⟨h1, h2, h3, _, _⟩ := C02.optimizeSeq_runs_exactly_n cfg n plans 0 0 (by simpa using hlen) (by simpa using hq)
  exact ⟨by simpa using h1, by simpa using h2, h3⟩

end OptunaVerif.C02Gen
