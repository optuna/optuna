import OptunaVerif.Lemmas.Direction
import OptunaVerif.Lemmas.Nsga2Mirror
import OptunaVerif.Generated.DirectionSites
/-!
# C13 — maximising `f` behaves exactly like minimising `-f`

For every direction-dependent decision site of `Model/Direction.lean` a *mirror* theorem: the site
under `maximize` on values `v` decides exactly what it decides under `minimize` on `-v`, for **all**
inputs (any list lengths, any rationals, NaNs where the code accepts them) — no bound.  The
multi-objective paths read the objective values only through the loss normalisation
(`lvals *= ±1`, `_normalize_value`), which is invariant under flipping any subset of objectives
(`loss_row_flip`, `normalised_component_symmetric`).

Partial by nature (DESIGN §3 C13, MANIFEST): that the numpy/torch sampler bodies contain no other
direction dependence is tied by the T-sites inventory (`direction_sites_all_modelled`, a `decide`d
obligation over a table regenerated from `/repo` on every run) and by paired runs of the real code
(`verif/props/c13.py`); float rounding of numpy's interpolation (`lerp`) is outside ℚ.

Two sites were **not** symmetric and have been repaired in `/repo`.  NSGA-II `_crowding_distance_sort` (finding
F-C13-1: ties between equal crowding distances were ordered by the raw last objective) now sorts by
`(-distance, number)`: `crowding_order_symmetric` for ALL fronts with distinct numbers and pairwise-distinct values
per objective; `crowding_old_order_not_symmetric` keeps the old behaviour's witness (about `crowdingSortOld`), so that a
revert is recognised.  NSGA-III niching on raw values (finding F-C13-2): `nsga3_shift_symmetric`;
`nsga3_raw_shift_not_symmetric` keeps the old behaviour's witness.
-/
namespace OptunaVerif.C13
open OptunaVerif.Direction

/-- `_get_best_intermediate_result_over_steps`: `nanmax v = -nanmin (-v)` (NaN ↦ NaN). -/
theorem best_intermediate_mirror (vs : List V) :
    bestIntermediate .maximize vs = negV (bestIntermediate .minimize (negVL vs)) := nanmax_eq vs

example : bestIntermediate .maximize [some 1, none, some 3] = some 3 ∧
    bestIntermediate .minimize (negVL [some 1, none, some 3]) = some (-3) := by decide +kernel

/-- numpy's linearly interpolated percentile: `perc (100 - q) v = - perc q (-v)` for every
non-empty list (duplicates allowed) and every `0 ≤ q ≤ 100`. -/
theorem percentile_mirror (l : List Rat) (q : Rat) (hl : l ≠ []) (hq0 : 0 ≤ q) (hq1 : q ≤ 100) :
    percLin (sortR l) (100 - q) = -percLin (sortR (negL l)) q := by
  rw [sortR_negL]
  exact percLin_mirror _ _ (fun h => hl (by simpa using congrArg List.length h)) hq0 hq1

example : percLin (sortR [4, 1, 2]) (100 - 25) = 3 ∧ percLin (sortR (negL [4, 1, 2])) 25 = -3 := by
  decide +kernel

theorem nanpercentile_mirror (l : List V) (q : Rat) (hq0 : 0 ≤ q) (hq1 : q ≤ 100) :
    nanpercentile l (100 - q) = negV (nanpercentile (negVL l) q) := by
  unfold nanpercentile
  rw [finite_negVL]
  cases h : finite l with
  | nil => rfl
  | cons x t =>
    have := percentile_mirror (x :: t) q (by simp) hq0 hq1
    simp only [negL, List.map_cons] at this ⊢
    simp [negV, this]

/-- `_get_percentile_intermediate_result_over_trials`: under MAXIMIZE the source computes the mirror of the
minimisation case itself (`-np.nanpercentile(-values, percentile)`, repair of F41), so the mirror law holds by
construction — no appeal to `perc (100 - q) v = -perc q (-v)` (`nanpercentile_mirror`, true over ℚ only). -/
theorem percentile_over_trials_mirror (vals : List V) (q : Rat) (nMin : Nat) :
    percentileOverTrials .maximize vals q nMin =
      negV (percentileOverTrials .minimize (negVL vals) q nMin) := by
  unfold percentileOverTrials
  rw [show (negVL vals).length = vals.length from List.length_map _]
  split <;> rfl

/-- the mirror of the whole decision needs no bound on `q`: under MAXIMIZE the source negates, takes the percentile at
the same `q` and negates again (`percentile_over_trials_mirror`), it never forms `100 - q` -/
theorem percentile_prune_mirror_any_q (q : Rat) (nMin : Nat) (cur others : List V) :
    percentilePrune .maximize q nMin cur others =
      percentilePrune .minimize q nMin (negVL cur) (negVL others) := by
  unfold percentilePrune
  rw [best_intermediate_mirror cur, percentile_over_trials_mirror others q nMin]
  cases bestIntermediate .minimize (negVL cur) with
  | none => rfl
  | some b =>
    cases percentileOverTrials .minimize (negVL others) q nMin with
    | none => rfl
    | some p => simp only [negV, neg_lt_neg_iff, gt_iff_lt]

/-- `PercentilePruner.prune` / `MedianPruner.prune`: same decision in the mirrored study. -/
theorem percentile_prune_mirror (q : Rat) (nMin : Nat) (cur others : List V)
    (hq0 : 0 ≤ q) (hq1 : q ≤ 100) :
    percentilePrune .maximize q nMin cur others =
      percentilePrune .minimize q nMin (negVL cur) (negVL others) :=
  percentile_prune_mirror_any_q q nMin cur others

example : percentilePrune .maximize 50 1 [some 1] [some 2, some 3, some 4] = true ∧
    percentilePrune .maximize 50 1 [some 5] [some 2, some 3, some 4] = false ∧
    percentilePrune .minimize 50 1 [some (-1)] [some (-2), some (-3), some (-4)] = true := by
  decide +kernel

/-- `_is_trial_promotable_to_next_rung`: top-k under maximize = bottom-k of the negated values. -/
theorem promotable_mirror (value : Rat) (competing : List Rat) (rf : Nat) (hc : competing ≠ []) :
    promotable .maximize value competing rf = promotable .minimize (-value) (negL competing) rf := by
  have hidx : promotableIdx competing.length rf < competing.length := by
    have := Nat.div_le_self competing.length rf
    have := List.length_pos_iff.mpr hc
    unfold promotableIdx; split <;> omega
  unfold promotable
  simp only [negL_length]
  rw [sortR_negL, getD_negL_reverse _ _ (by simpa using hidx)]
  simp only [sortR_length, neg_le_neg_iff]

example : promotable .maximize 5 [1, 5, 3, 4] 2 = true ∧ promotable .maximize 3 [1, 5, 3, 4] 2 = false ∧
    promotable .minimize (-5) (negL [1, 5, 3, 4]) 2 = true := by decide +kernel

/-- `PatientPruner`: `nanmin(before) + δ < nanmin(after)` ⇔ mirrored `nanmax(before) - δ > nanmax(after)`. -/
theorem patient_mirror (before after : List V) (delta : Rat) :
    patientMaybePrune .maximize before after delta =
      patientMaybePrune .minimize (negVL before) (negVL after) delta := by
  unfold patientMaybePrune
  simp only
  rw [nanmax_eq before, nanmax_eq after]
  cases nanmin (negVL before) with
  | none => rfl
  | some b =>
    cases nanmin (negVL after) with
    | none => rfl
    | some a =>
      simp only [negV, decide_eq_decide]
      constructor <;> intro h <;> linarith

example : patientMaybePrune .maximize [some 5] [some 3, some 4] (1/2) = true ∧
    patientMaybePrune .maximize [some 5] [some 3, some 6] (1/2) = false := by decide +kernel

/-- `ThresholdPruner` with mirrored bounds (`lower' = -upper`, `upper' = -lower`). -/
theorem threshold_mirror (lower upper : Option Rat) (v : V) :
    thresholdPrune lower upper v =
      thresholdPrune (upper.map (fun x => -x)) (lower.map (fun x => -x)) (negV v) := by
  cases v with
  | none => rfl
  | some x =>
    simp only [thresholdPrune, negV]
    rw [Bool.or_comm]
    cases lower <;> cases upper <;> simp only [Option.map_none, Option.map_some, neg_lt_neg_iff]

example : thresholdPrune (some 0) (some 1) (some 2) = true ∧ thresholdPrune (some 0) none (some 2) = false := by
  decide +kernel

/-- `WilcoxonPruner`: the signed-rank sums swap under negation (`rPlus (-d) = rMinus d`), the
alternative flips `less ↔ greater`, `average_is_best` mirrors.  `hpv`: the null distribution of the
signed-rank statistic is symmetric (assumption about scipy, sampled by the tie). -/
theorem wilcoxon_mirror (pv : Alt → Rat → Rat → Nat → Rat)
    (hpv : ∀ rp rm n, pv .less rp rm n = pv .greater rm rp n)
    (pThr : Rat) (cur best : List (Int × Rat)) :
    wilcoxonPrune pv .maximize pThr cur best =
      wilcoxonPrune pv .minimize pThr (cur.map (fun p => (p.1, -p.2))) (best.map (fun p => (p.1, -p.2))) := by
  unfold wilcoxonPrune
  simp only [diffs_neg, rPlus_negL, rMinus_negL, negL_length, wilcoxonAlt, hpv, map_snd_neg, avgIsBest, mean_negL,
    neg_le_neg_iff]

/-- the signed-rank statistic itself: a concrete evaluation (ties and a zero) -/
example : rPlus [1, -2, 2, 0] = 6 ∧ rMinus [1, -2, 2, 0] = 4 ∧ rPlus (negL [1, -2, 2, 0]) = 4 := by decide +kernel

theorem sortBy_negT (ts : List TV) :
    sortBy (fun (a b : TV) => leR a.2 b.2) (negT ts) = negT (sortBy (fun (a b : TV) => leR b.2 a.2) ts) := by
  unfold negT
  rw [sortBy_map]
  simp only [leR, neg_le_neg_iff]

theorem negT_numbers (ts : List TV) : (negT ts).map (·.1) = ts.map (·.1) := by
  simp [negT, List.map_map, Function.comp_def]

/-- `_split_complete_trials_single_objective`: `sorted(reverse=True)` on `v` and `sorted` on `-v`
put the same trials below and above (stable both ways, so this holds even with equal values). -/
theorem split_complete_single_mirror (ts : List TV) (nBelow : Nat) :
    let a := splitCompleteSingle .maximize ts nBelow
    let b := splitCompleteSingle .minimize (negT ts) nBelow
    a.1.map (·.1) = b.1.map (·.1) ∧ a.2.map (·.1) = b.2.map (·.1) := by
  simp only [splitCompleteSingle, sortBy_negT, show (negT ts).length = ts.length from List.length_map _]
  unfold negT
  rw [← List.map_take, ← List.map_drop]
  exact ⟨(negT_numbers _).symm, (negT_numbers _).symm⟩

example : (splitCompleteSingle .maximize [(0, 1), (1, 5), (2, 3)] 2).1.map (·.1) = [1, 2] ∧
    (splitCompleteSingle .minimize (negT [(0, 1), (1, 5), (2, 3)]) 2).1.map (·.1) = [1, 2] := by
  decide +kernel

theorem lastEntry_negIV (iv : List (Int × V)) :
    lastEntry (negIV iv) = (lastEntry iv).map (fun p => (p.1, negV p.2)) := by
  induction iv with
  | nil => rfl
  | cons p t ih =>
    simp only [negIV, List.map_cons, lastEntry] at ih ⊢
    rw [ih]
    cases lastEntry t with
    | none => rfl
    | some m => simp only [Option.map_some]; split <;> rfl

/-- `_get_pruned_trial_score`: the score of a pruned trial is the same in both runs. -/
theorem pruned_score_mirror (iv : List (Int × V)) :
    prunedScore .maximize iv = prunedScore .minimize (negIV iv) := by
  unfold prunedScore
  rw [lastEntry_negIV]
  cases lastEntry iv with
  | none => rfl
  | some p =>
    obtain ⟨s, v⟩ := p
    cases v <;> rfl

example : prunedScore .maximize [(0, some 1), (3, some 2)] = (-3, .fin (-2)) ∧
    prunedScore .minimize [(0, some 1), (3, some 2)] = (-3, .fin 2) ∧
    prunedScore .maximize [(1, none)] = (-1, .pinf) := by decide +kernel

/-- `_split_pruned_trials`: same below / above numbers in both runs. -/
theorem split_pruned_mirror (ts : List (Nat × List (Int × V))) (nBelow : Nat) :
    splitPruned .maximize ts nBelow =
      splitPruned .minimize (ts.map (fun p => (p.1, negIV p.2))) nBelow := by
  unfold splitPruned
  simp only [sortBy_map, ← pruned_score_mirror, List.length_map, ← List.map_take, ← List.map_drop, List.map_map,
    Function.comp_def]

/-- `_split_trials` (single objective): the below / above sets handed to the two Parzen
estimators are the same trials in both runs — complete and pruned parts composed, with the quota
arithmetic in between. -/
theorem split_trials_single_mirror (complete : List TV) (pruned : List (Nat × List (Int × V)))
    (nBelow : Nat) :
    splitTrialsSingle .maximize complete pruned nBelow =
      splitTrialsSingle .minimize (negT complete) (pruned.map (fun p => (p.1, negIV p.2))) nBelow := by
  obtain ⟨h1, h2⟩ := split_complete_single_mirror complete nBelow
  have hlen := congrArg List.length h1
  simp only [List.length_map] at hlen
  unfold splitTrialsSingle
  simp only [h1, h2, hlen, split_pruned_mirror]

example : splitTrialsSingle .maximize [(0, 1), (3, 5)] [(1, [(0, some 2)]), (2, [(1, some 0)])] 3 = ([0, 2, 3], [1]) ∧
    splitTrialsSingle .minimize [(0, 1), (3, 5)] [(1, [(0, some 2)]), (2, [(1, some 0)])] 1 = ([0], [1, 2, 3]) := by
  decide +kernel

/-- `_normalize_value` -/
theorem normalize_mirror (v : Rat) : normalize .maximize v = normalize .minimize (-v) := rfl

theorem sign_flip_mul (d : Dir) (v : Rat) : sign d.flip * -v = sign d * v := by
  cases d <;> simp [sign, Dir.flip]

/-- `lvals *= ±1`: flipping the direction of any subset of objectives together with the sign of
their values leaves the loss row unchanged. -/
theorem loss_row_flip (mask : List Bool) (dirs : List Dir) (vals : List Rat)
    (h1 : mask.length = dirs.length) :
    lossRow (flipDirs mask dirs) (flipVals mask vals) = lossRow dirs vals := by
  induction mask generalizing dirs vals with
  | nil =>
    obtain rfl := List.length_eq_zero_iff.mp h1.symm
    rfl
  | cons m ms ih =>
    match dirs, vals with
    | [], _ => simp at h1
    | d :: ds, [] => rfl
    | d :: ds, v :: vs =>
      simp only [flipDirs, flipVals, lossRow, ih ds vs (by simpa using h1)]
      cases m
      · rfl
      · simp only [if_true, sign_flip_mul]

/-- `_normalize_value` component by component is the multiplication by `±1` -/
theorem lossRow_eq_normRow (dirs : List Dir) (vals : List Rat) : lossRow dirs vals = normRow dirs vals := by
  induction dirs generalizing vals with
  | nil => rfl
  | cons d ds ih =>
    cases vals with
    | nil => rfl
    | cons v vs =>
      simp only [lossRow, normRow, ih]
      cases d <;> simp [sign, normalize]

/-- Anything computed from the loss matrix (non-domination rank, HSSP tie-break, hypervolume
weights, NSGA rank) is the same in the two runs, for every subset of flipped objectives. -/
theorem normalised_component_symmetric {β : Type} (F : List (List Rat) → β)
    (mask : List Bool) (dirs : List Dir) (rows : List (List Rat)) (h1 : mask.length = dirs.length) :
    F (lossMatrix (flipDirs mask dirs) (rows.map (flipVals mask))) = F (lossMatrix dirs rows) := by
  congr 1
  unfold lossMatrix
  rw [List.map_map]
  exact List.map_congr_left (fun r _ => loss_row_flip mask dirs r h1)

example : lossMatrix (flipDirs [true, false] [.minimize, .minimize]) ([[1, 2], [3, 4]].map (flipVals [true, false]))
    = [[1, 2], [3, 4]] := by decide +kernel

/-- `_dominates` (Pareto front of `best_trials`, NSGA parent selection) -/
theorem dominates_flip (mask : List Bool) (dirs : List Dir) (v0 v1 : List Rat)
    (h1 : mask.length = dirs.length) :
    dominates (flipDirs mask dirs) (flipVals mask v0) (flipVals mask v1) = dominates dirs v0 v1 := by
  unfold dominates
  simp only [← lossRow_eq_normRow, loss_row_flip mask dirs _ h1]

example : dominates [.maximize, .minimize] [3, 1] [2, 1] = true ∧
    dominates [.maximize, .minimize] [2, 1] [3, 1] = false := by decide +kernel

/-- `_sign * value`: the score vector the GP is fitted on is the same in both runs. -/
theorem gp_score_mirror (v : Rat) : gpScore .maximize v = gpScore .minimize (-v) := by
  simp [gpScore]

theorem updateBest_mirror (best : Option TV) (new : TV) :
    (updateBest .minimize (best.map (fun p => (p.1, -p.2))) (new.1, -new.2)) =
      (updateBest .maximize best new).map (fun p => (p.1, -p.2)) := by
  cases best with
  | none => rfl
  | some b =>
    simp only [updateBest, Option.map_some, neg_lt_neg_iff]
    split <;> rfl

theorem bestTrial_negT (ts : List TV) :
    bestTrial .minimize (negT ts) = (bestTrial .maximize ts).map (fun p => (p.1, -p.2)) :=
  List.foldl_map.trans (List.foldl_hom (init := none) (Option.map fun (p : TV) => (p.1, -p.2)) updateBest_mirror)

/-- `InMemoryStorage._update_cache` over any history of COMPLETE trials, and the feasible
fallback `max(feasible, key=value)` / `min(...)` of `Study.best_trial`: same trial number. -/
theorem best_trial_mirror (ts : List TV) :
    (bestTrial .maximize ts).map (·.1) = (bestTrial .minimize (negT ts)).map (·.1) := by
  rw [bestTrial_negT, Option.map_map]
  rfl

example : (bestTrial .maximize [(0, 1), (1, 5), (2, 5), (3, 2)]).map (·.1) = some 1 ∧
    (bestTrial .minimize [(0, 1), (1, 5), (2, 5), (3, 2)]).map (·.1) = some 0 := by decide +kernel

def witnessPop : List Ind := [⟨0, [0, 0]⟩, ⟨1, [1, 1]⟩]

theorem toN_eq (n : Nat) (x : Ind) (hv : x.values.length = n) :
    Ind.toN n x = { number := x.number, values := x.values.map XVal.fin } := by
  subst hv
  unfold Ind.toN
  congr 1
  apply List.ext_getElem (by simp)
  intro i h1 h2
  simp only [List.length_map] at h2
  simp [List.getD_eq_getElem?_getD, List.getElem?_eq_getElem h2]

theorem toN_val (n : Nat) (x : Ind) (hv : x.values.length = n) (i : Nat) :
    (Ind.toN n x).val Nsga2.xnum i = XVal.fin (x.values.getD i 0) := by
  rw [toN_eq n x hv]
  simp [Nsga2.Ind.val, Nsga2.xnum, List.getD_eq_getElem?_getD]

theorem flipVals_length (mask : List Bool) (vs : List Rat) (h : mask.length = vs.length) :
    (flipVals mask vs).length = vs.length := by
  induction mask generalizing vs with
  | nil => exact h
  | cons m ms ih =>
    cases vs with
    | nil => rfl
    | cons v vs => simp only [flipVals, List.length_cons, ih vs (by simpa using h)]

theorem flipVals_fin (mask : List Bool) (vs : List Rat) (h : mask.length = vs.length) :
    Nsga2.flipVals mask (vs.map XVal.fin) = (flipVals mask vs).map XVal.fin := by
  induction mask generalizing vs with
  | nil => obtain rfl := List.length_eq_zero_iff.mp h.symm; rfl
  | cons m ms ih =>
    cases vs with
    | nil => rfl
    | cons v vs =>
      simp only [List.map_cons, Nsga2.flipVals, flipVals, ih vs (by simpa using h)]
      cases m <;> rfl

theorem toN_flipInd (mask : List Bool) (n : Nat) (x : Ind) (hm : mask.length = n) (hv : x.values.length = n) :
    Ind.toN n (flipInd mask x) = Nsga2.flipInd mask (Ind.toN n x) := by
  have hmv : mask.length = x.values.length := hm.trans hv.symm
  rw [toN_eq n x hv, toN_eq n (flipInd mask x) ((flipVals_length mask x.values hmv).trans hv)]
  unfold Nsga2.flipInd
  rw [flipVals_fin mask x.values hmv]
  rfl

/-- NSGA-II, after the repair of F-C13-1.  For EVERY front — any size, any number of
objectives `n`, any rational values — whose trial numbers are pairwise distinct and in which no two individuals
share a value in any objective (the property's quantifier: pairwise-distinct values), and for EVERY subset of
negated objectives: `_crowding_distance_sort` lists the same trials in the same order in the study and in its mirror
image.  (Crowding distances are equal trial by trial — `C13Nsga.crowding_distance_mirror` — and the order is a
function of (distance, number) only.) -/
theorem crowding_order_symmetric (pop : List Ind) (n : Nat) (mask : List Bool)
    (hnum : (pop.map (·.number)).Nodup) (hvals : ∀ x ∈ pop, x.values.length = n) (hmask : mask.length = n)
    (htf : ∀ i < n, (pop.map (fun x => x.values.getD i 0)).Nodup) :
    (crowdingSort (pop.map (flipInd mask)) n).map (·.number) = (crowdingSort pop n).map (·.number) := by
  cases pop with
  | nil => rfl
  | cons p0 t =>
    unfold crowdingSort
    have hflip : ((p0 :: t).map (flipInd mask)).map (Ind.toN n) = ((p0 :: t).map (Ind.toN n)).map (Nsga2.flipInd mask) := by
      simp only [List.map_map]
      exact List.map_congr_left (fun x hx => toN_flipInd mask n x hmask (hvals x hx))
    have hval : ∀ i, (p0 :: t).map (fun x => (Ind.toN n x).val Nsga2.xnum i) = (p0 :: t).map (fun x => XVal.fin (x.values.getD i 0)) :=
      fun i => List.map_congr_left (fun x hx => toN_val n x (hvals x hx) i)
    rw [hflip]
    apply Nsga2.crowdingSort_mirror mask (Ind.toN n p0) (t.map (Ind.toN n))
    · intro z hz i
      rw [← List.map_cons] at hz
      obtain ⟨w, hw, rfl⟩ := List.mem_map.1 hz
      rw [toN_val n w (hvals w hw)]
      simp [Nsga2.NotNaN]
    · rw [← List.map_cons, List.map_map]
      exact hnum
    · intro i hi
      rw [show (Ind.toN n p0).values.length = n by simp [Ind.toN]] at hi
      unfold Nsga2.TieFree
      rw [← List.map_cons, List.map_map]
      have h := (htf i hi).map (f := XVal.fin) (fun a b h => by simpa using h)
      rw [List.map_map] at h
      exact (hval i).symm ▸ h

-- non-vacuity: the witness front of the former finding, and a front of five trials with three objectives
example : (crowdingSort witnessPop 2).map (·.number) = [0, 1] ∧
    (crowdingSort (witnessPop.map (flipInd [false, true])) 2).map (·.number) = [0, 1] := by decide +kernel

example :
    let pop : List Ind := [⟨7, [0, 9, 3]⟩, ⟨2, [1, 7, 8]⟩, ⟨5, [4, 4, 0]⟩, ⟨3, [6, 1, 5]⟩, ⟨9, [3, 6, 4]⟩]
    (crowdingSort pop 3).map (·.number) = [2, 3, 5, 7, 9] ∧
    (crowdingSort (pop.map (flipInd [true, false, true])) 3).map (·.number) = [2, 3, 5, 7, 9] ∧
    (crowdingSortOld pop 3).map (·.number) ≠ (crowdingSortOld (pop.map (flipInd [true, false, true])) 3).map (·.number) := by
  decide +kernel

/-- What the code did before the repair (`sort(key=distance); reverse()`) is not symmetric: on the front
{#0 = (0,0), #1 = (1,1)} of a (minimize, maximize) study the two boundary individuals tie at distance `inf` and come
out as `[1, 0]`, in the mirrored (minimize, minimize) study as `[0, 1]`.  If the tie-break by number is lost again,
the K witness of `c13.py` reproduces exactly these two orders. -/
theorem crowding_old_order_not_symmetric :
    (crowdingSortOld witnessPop 2).map (·.number) = [1, 0] ∧
    (crowdingSortOld (witnessPop.map (flipInd [false, true])) 2).map (·.number) = [0, 1] := by
  decide +kernel

/-- NSGA-III (after the repair of finding F-C13-2): the matrix handed to the niching step is computed from the
loss matrix (`* signs` in `__call__`, then the ideal-point shift of `_normalize_objective_values`), so it is the
same in the two runs for every subset of flipped objectives, every population, every number of objectives. -/
theorem nsga3_shift_symmetric (mask : List Bool) (dirs : List Dir) (rows : List (List Rat))
    (h1 : mask.length = dirs.length) :
    nsga3Shift (flipDirs mask dirs) (rows.map (flipVals mask)) = nsga3Shift dirs rows := by
  unfold nsga3Shift
  exact normalised_component_symmetric nsga3ShiftRaw mask dirs rows h1

/-- non-vacuity: the witness of the former finding, now equal -/
example : nsga3Shift [.maximize, .minimize] [[0, 1], [1, 0]] = [[1, 1], [0, 0]] ∧
    nsga3Shift [.minimize, .minimize] ([[0, 1], [1, 0]].map (flipVals [true, false])) = [[1, 1], [0, 0]] := by
  decide +kernel

/-- What the code did before the repair (shift of the *raw* values, whatever the direction) is not symmetric:
if the `* signs` is lost again, the K witness of `c13.py` reproduces exactly these two matrices. -/
theorem nsga3_raw_shift_not_symmetric :
    nsga3ShiftRaw [[0, 1], [1, 0]] = [[0, 1], [1, 0]] ∧
    nsga3ShiftRaw ([[0, 1], [1, 0]].map (flipVals [true, false])) = [[1, 1], [0, 0]] := by
  decide +kernel

open OptunaVerif.Generated.DirectionSites

/-- kind codes that only move a direction value around or ask for the number of objectives:
annotation, param, import, alias, len, iter -/
def harmlessKinds : List Nat := [0, 1, 2, 3, 4, 5]

/-- A direction value may be handed on unchanged (kind `arg`) to these callees, each of which lies
inside the inventoried scope, so that its own uses are sites of the table.  (content key of the
callee name as computed by the translator, name) -/
def passThrough : List (Nat × String) := [
  (966219776530388589, "_dominates"),
  (769997335846989581, "_get_best_intermediate_result_over_steps"),
  (60858935606157838, "_get_pareto_front_trials_by_trials"),
  (992557294830636340, "_get_percentile_intermediate_result_over_trials"),
  (538001665542802874, "_init_optimizer"),
  (486194166520288950, "_is_trial_promotable_to_next_rung"),
  (242144034796757810, "_normalize_value"),
  (809392628677074164, "_rank_population"),
  (934855743950228633, "dominates")
]

/-- The comparison sites: content key of (file, function, kind, normalised source text of the
whole conditional statement / expression — both branches), where it is, the model definition and
theorem that mirror it, and the text the key was computed from (for the reader; the harness
re-checks that it hashes to the key). -/
def modelled : List (Nat × String × String × String) := [
  (303879651824230381, "optuna/pruners/_patient.py :: PatientPruner.prune", "patientMaybePrune / patient_mirror",
    "if direction == StudyDirection.MINIMIZE:\n    maybe_prune = np.nanmin(scores_before_patience) + self._min_delta < np.nanmin(scores_after_patience)\nelse:\n    maybe_prune = np.nanmax(scores_before_patience) - self._min_delta > np.nanmax(scores_after_patience)"),
  (302227148660013765, "optuna/pruners/_percentile.py :: PercentilePruner.prune", "percentilePrune / percentile_prune_mirror",
    "if direction == StudyDirection.MAXIMIZE:\n    return best_intermediate_result < p\nreturn best_intermediate_result > p"),
  (587249821687924554, "optuna/pruners/_percentile.py :: _get_best_intermediate_result_over_steps", "bestIntermediate / best_intermediate_mirror",
    "if direction == StudyDirection.MAXIMIZE:\n    return np.nanmax(values)\nreturn np.nanmin(values)"),
  (38630033197901168, "optuna/pruners/_percentile.py :: _get_percentile_intermediate_result_over_trials", "percentileOverTrials / percentile_over_trials_mirror",
    "if direction == StudyDirection.MAXIMIZE:\n    return float(-np.nanpercentile(-values, percentile))\nreturn float(np.nanpercentile(values, percentile))"),
  (961701887983855907, "optuna/pruners/_successive_halving.py :: _is_trial_promotable_to_next_rung", "promotable / promotable_mirror",
    "if study_direction == StudyDirection.MAXIMIZE:\n    return value >= competing_values[-(promotable_idx + 1)]\nreturn value <= competing_values[promotable_idx]"),
  (1003403920123082744, "optuna/pruners/_wilcoxon.py :: WilcoxonPruner.prune", "wilcoxonAlt, avgIsBest / wilcoxon_mirror",
    "if study.direction == StudyDirection.MAXIMIZE:\n    alt = 'less'\n    average_is_best = sum(best_step_values) / len(best_step_values) <= sum(step_values) / len(step_values)\nelse:\n    alt = 'greater'\n    average_is_best = sum(best_step_values) / len(best_step_values) >= sum(step_values) / len(step_values)"),
  (647806295106539706, "optuna/samplers/_cmaes.py :: CmaEsSampler._init_optimizer", "sign (cmaes is not installed here: inventory only, no paired runs)",
    "sign = 1 if direction == StudyDirection.MINIMIZE else -1"),
  (230445444235903133, "optuna/samplers/_cmaes.py :: CmaEsSampler.sample_relative", "normalize (cmaes is not installed here: inventory only, no paired runs)",
    "y = t.value if study.direction == StudyDirection.MINIMIZE else -t.value"),
  (1025251500456186751, "optuna/samplers/_gp/sampler.py :: GPSampler.sample_relative", "gpScore / gp_score_mirror",
    "_sign = -1.0 if study.direction == StudyDirection.MINIMIZE else 1.0"),
  (74504816849398637, "optuna/samplers/_tpe/sampler.py :: _calculate_weights_below_for_multi_objective", "lossRow / normalised_component_symmetric",
    "lvals *= np.array([-1.0 if d == StudyDirection.MAXIMIZE else 1.0 for d in study.directions])"),
  (617997911809762632, "optuna/samplers/_tpe/sampler.py :: _get_pruned_trial_score", "prunedScore / pruned_score_mirror",
    "if study.direction == StudyDirection.MINIMIZE:\n    return (-step, intermediate_value)\nelse:\n    return (-step, -intermediate_value)"),
  (797440649637856998, "optuna/samplers/_tpe/sampler.py :: _split_complete_trials_multi_objective", "lossRow / normalised_component_symmetric",
    "lvals *= np.array([-1.0 if d == StudyDirection.MAXIMIZE else 1.0 for d in study.directions])"),
  (548322413692360182, "optuna/samplers/_tpe/sampler.py :: _split_complete_trials_single_objective", "splitCompleteSingle / split_complete_single_mirror",
    "if study.direction == StudyDirection.MINIMIZE:\n    sorted_trials = sorted(trials, key=lambda trial: cast(float, trial.value))\nelse:\n    sorted_trials = sorted(trials, key=lambda trial: cast(float, trial.value), reverse=True)"),
  (1023719012774262988, "optuna/samplers/_nsgaiii/_elite_population_selection_strategy.py :: NSGAIIIElitePopulationSelectionStrategy.__call__", "nsga3Shift / nsga3_shift_symmetric",
    "signs = np.array([-1.0 if d == StudyDirection.MAXIMIZE else 1.0 for d in study.directions])"),
  (1009417229565642569, "optuna/samplers/nsgaii/_elite_population_selection_strategy.py :: _rank_population", "lossRow / normalised_component_symmetric",
    "objective_values *= np.array([-1.0 if d == StudyDirection.MAXIMIZE else 1.0 for d in directions])"),
  (483258862141608860, "optuna/storages/_in_memory.py :: InMemoryStorage._update_cache", "updateBest / best_trial_mirror",
    "if direction == StudyDirection.MAXIMIZE:\n    if best_value < new_value:\n        self._studies[study_id].best_trial_id = trial_id\nelif best_value > new_value:\n    self._studies[study_id].best_trial_id = trial_id"),
  (781127105785771589, "optuna/study/_multi_objective.py :: _normalize_value", "normalize / normalize_mirror, dominates_flip",
    "if direction is StudyDirection.MAXIMIZE:\n    value = -value\nreturn value"),
  (194436531777880718, "optuna/study/study.py :: Study.best_trial", "bestTrial / best_trial_mirror",
    "if self.direction == StudyDirection.MAXIMIZE:\n    best_trial = max(feasible_trials, key=lambda t: cast(float, t.value))\nelse:\n    best_trial = min(feasible_trials, key=lambda t: cast(float, t.value))")
]

/-- The places where a direction value is handed on (content key of file, function, callee and
number of such calls in the function): dropping one of them, e.g. calling `_dominates` with a
constant instead of `study.directions`, removes the key from the regenerated table. -/
def handedOn : List (Nat × String) := [
  (342128443367974480, "optuna/pruners/_percentile.py :: PercentilePruner.prune :: arg:_get_best_intermediate_result_over_steps x1"),
  (481892620949972523, "optuna/pruners/_percentile.py :: PercentilePruner.prune :: arg:_get_percentile_intermediate_result_over_trials x1"),
  (274944644098412827, "optuna/pruners/_successive_halving.py :: SuccessiveHalvingPruner.prune :: arg:_is_trial_promotable_to_next_rung x1"),
  (141722228062336961, "optuna/samplers/_cmaes.py :: CmaEsSampler.sample_relative :: arg:_init_optimizer x3"),
  (397384540408325075, "optuna/samplers/_nsgaiii/_elite_population_selection_strategy.py :: NSGAIIIElitePopulationSelectionStrategy.__call__ :: arg:_rank_population x1"),
  (771615535309437999, "optuna/samplers/nsgaii/_constraints_evaluation.py :: _constrained_dominates :: arg:_dominates x2"),
  (250947280829458419, "optuna/samplers/nsgaii/_crossover.py :: _select_parent :: arg:dominates x1"),
  (752245170275467178, "optuna/samplers/nsgaii/_elite_population_selection_strategy.py :: NSGAIIElitePopulationSelectionStrategy.__call__ :: arg:_rank_population x1"),
  (114542491584912774, "optuna/study/_multi_objective.py :: _dominates :: arg:_normalize_value x4"),
  (369806653867956746, "optuna/study/_multi_objective.py :: _get_pareto_front_trials :: arg:_get_pareto_front_trials_by_trials x1"),
  (33341047191780696, "optuna/study/_multi_objective.py :: _get_pareto_front_trials_by_trials :: arg:_normalize_value x2")
]

def siteOk (s : Site) : Bool :=
  harmlessKinds.contains s.kindCode ||
  (s.kindCode == 6 && (passThrough.map (·.1)).contains s.calleeKey) ||
  (s.kindCode == 7 && (modelled.map (·.1)).contains s.key)

/-- Every syntactic use of `StudyDirection` / `.direction(s)` in optuna/samplers, optuna/pruners,
optuna/_hypervolume, `_multi_objective.py`, `Study.best_trial` and the in-memory best-trial cache
(table regenerated from `/repo` by `verif/translators/tsites.py` on every run) is a pure
pass-through or one of the comparison sites modelled above — text of both branches included.  A new
or edited direction branch makes this obligation fail. -/
theorem direction_sites_all_modelled : sites.all siteOk = true := by decide

/-- Conversely every modelled comparison is still present in the code (a deleted mirroring
branch also breaks the tie). -/
theorem modelled_sites_all_present :
    (modelled.map (·.1)).all (fun k => (sites.map (·.key)).contains k) = true := by decide

/-- Every hand-on of a direction value is still there. -/
theorem handed_on_sites_all_present :
    (handedOn.map (·.1)).all (fun k => (sites.map (·.key)).contains k) = true := by decide

example : sites.length ≥ 60 ∧ modelled.length = 18 ∧ handedOn.length = 11 := by decide

end OptunaVerif.C13
