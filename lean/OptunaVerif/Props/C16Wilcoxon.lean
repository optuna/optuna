import OptunaVerif.Lemmas.Wilcoxon
/-!
# C16 / C13 — `WilcoxonPruner.prune`

Theorems about `Model/Wilcoxon.lean` (the decision structure of `prune` exactly as coded) for **all**
intermediate-value dicts (any lengths, NaN / ±inf anywhere, steps in any order), both directions, every
configuration and **every** p-value function `pv` (scipy is not modelled; the one hypothesis ever made
about it is `hpv` of `wilcoxon_direction_mirror`).

The theorems: an exact characterisation of `prune = True` (`wilcoxon_decision_iff`) and its consequences — the start-up
steps, no best trial, the best trial against itself, the "safety" exit, non-finite values —, when the missing-steps warning is
issued, and C13 at the whole `prune` (`wilcoxon_direction_mirror`: maximize on `v` ≡ minimize on `-v`).

`nCommon cur best` (Lemmas/Wilcoxon.lean) is the number of steps of the current trial that the best trial
also has; `diffValues_length : len(diff_values) = nCommon` whatever the report order.
-/
namespace OptunaVerif.C16Wilcoxon
open OptunaVerif.Direction OptunaVerif.Wilcoxon

/-- **`prune` returns True iff** the current trial has reports, all finite; `study.best_trial` exists,
has reports, all finite; at least `max(2, n_startup_steps)` steps are common; the p-value of the
differences (current − best, ascending step order) under the direction's alternative is below the
threshold; and the best trial's average is strictly better than the current trial's average. -/
theorem wilcoxon_decision_iff (pv : Alt → List Rat → V) (c : Cfg) (d : Dir) (best : Option IV) (cur : IV) :
    (prune pv c d best cur).prune = true ↔
      cur ≠ [] ∧ allFinite cur = true ∧
      ∃ b, best = some b ∧ b ≠ [] ∧ allFinite b = true ∧
        max 2 c.nStartup ≤ nCommon (finPart cur) (finPart b) ∧
        pLt (pv (wilcoxonAlt d) (diffValues (finPart cur) (finPart b))) c.pThr = true ∧
        avgIsBest d ((finPart b).map (·.2)) ((finPart cur).map (·.2)) = false := by
  -- the right side in the terms of the definition's own tests.  It has one conjunct for each of the seven exits of `prune` that answer
  -- False, in their order (`noReports` … `safety`), refuted by the test taken on the path of that exit; on the eighth path, `final`, all
  -- seven hold and `prune` answers the remaining conjunct, `pLt …`
  simp only [← diffValues_length, ← Nat.not_lt, ne_eq, ← List.length_eq_zero_iff, show max 2 c.nStartup = minSteps c from rfl]
  fun_cases prune pv c d best cur <;> simp_all +zetaDelta

/-- the form in which the characterisation is used below: `prune` answers False when the five conjuncts offered to `h` (a best
trial, enough common steps, both finiteness tests, the average) cannot hold together -/
theorem not_pruned_of (pv : Alt → List Rat → V) (c : Cfg) (d : Dir) (best : Option IV) (cur : IV)
    (h : ∀ b, best = some b → max 2 c.nStartup ≤ nCommon (finPart cur) (finPart b) → allFinite cur = true →
      allFinite b = true → avgIsBest d ((finPart b).map (·.2)) ((finPart cur).map (·.2)) = false → False) :
    (prune pv c d best cur).prune = false := by
  rw [← Bool.not_eq_true, wilcoxon_decision_iff]
  rintro ⟨_, hcf, b, hb, _, hbf, hn, _, ha⟩
  exact h b hb hn hcf hbf ha

/-- **No pruning before the start-up steps.**  If the current trial has fewer than
`max(2, n_startup_steps)` steps in common with the best trial, `prune` returns False — for every
p-value function, direction, threshold, and whatever else the two dicts contain. -/
theorem wilcoxon_no_prune_before_startup_steps (pv : Alt → List Rat → V) (c : Cfg) (d : Dir)
    (best : Option IV) (cur : IV)
    (h : ∀ b, best = some b → nCommon (finPart cur) (finPart b) < max 2 c.nStartup) :
    (prune pv c d best cur).prune = false :=
  not_pruned_of pv c d best cur fun b hb hn _ _ _ => absurd hn (Nat.not_le.mpr (h b hb))

example : (prune (fun _ _ => some 0) ⟨1, 3⟩ .minimize (some [(0, .fin 0), (1, .fin 0), (2, .fin 0)])
    [(0, .fin 5), (1, .fin 5), (7, .fin 5)]).prune = false ∧
    (prune (fun _ _ => some 0) ⟨1, 3⟩ .minimize (some [(0, .fin 0), (1, .fin 0), (2, .fin 0)])
    [(0, .fin 5), (1, .fin 5), (2, .fin 5)]).prune = true := by decide +kernel

/-- in terms of what the user sees: a trial with fewer than `max(2, n_startup_steps)` reports is never pruned, since it
cannot have more steps in common with the best trial than it has reports -/
theorem wilcoxon_no_prune_few_reports (pv : Alt → List Rat → V) (c : Cfg) (d : Dir)
    (best : Option IV) (cur : IV) (h : cur.length < max 2 c.nStartup) :
    (prune pv c d best cur).prune = false :=
  wilcoxon_no_prune_before_startup_steps pv c d best cur fun b _ =>
    Nat.lt_of_le_of_lt (diffValues_length _ _ ▸ diffValues_length_le cur b) h

theorem wilcoxon_no_prune_fewer_reports_than_startup (pv : Alt → List Rat → V) (c : Cfg) (d : Dir)
    (best : Option IV) (cur : IV) (h : cur.length < c.nStartup) :
    (prune pv c d best cur).prune = false :=
  wilcoxon_no_prune_few_reports pv c d best cur (by omega)

/-- What holds of the docstring's note "the trial is not pruned at the first and second steps even if the `n_startup_steps` is set to
0 or 1": a trial with FEWER THAN TWO reports is not pruned.  With two reports and `n_startup_steps = 0` the model prunes (the example
below; the test is `len(diff_values) < max(2, self._n_startup_steps)`). -/
theorem wilcoxon_no_prune_first_two_steps (pv : Alt → List Rat → V) (c : Cfg) (d : Dir)
    (best : Option IV) (cur : IV) (h : cur.length < 2) :
    (prune pv c d best cur).prune = false :=
  wilcoxon_no_prune_few_reports pv c d best cur (by omega)

example : (prune (fun _ _ => some 0) ⟨1, 0⟩ .minimize (some [(0, .fin 0), (1, .fin 0)]) [(0, .fin 5)]).prune = false ∧
    (prune (fun _ _ => some 0) ⟨1, 0⟩ .minimize (some [(0, .fin 0), (1, .fin 0)]) [(0, .fin 5), (1, .fin 6)]).prune = true := by
  decide +kernel

/-- **`study.best_trial` raised `ValueError` ⇒ no pruning.** -/
theorem wilcoxon_no_prune_without_best_trial (pv : Alt → List Rat → V) (c : Cfg) (d : Dir) (cur : IV) :
    (prune pv c d none cur).prune = false :=
  not_pruned_of pv c d none cur fun _ hb _ _ _ _ => by cases hb

/-- a study without COMPLETE trials never prunes -/
theorem wilcoxon_no_prune_without_complete_trial (pv : Alt → List Rat → V) (c : Cfg) (d : Dir) (cur : IV) :
    (pruneInStudy pv c d [] cur).prune = false := by
  have : bestOf d [] = none := rfl
  unfold pruneInStudy
  rw [this]
  exact wilcoxon_no_prune_without_best_trial pv c d cur

example : (prune (fun _ _ => some 0) ⟨1, 0⟩ .minimize none [(0, .fin 5), (1, .fin 6)]).exit = .noBestTrial := by decide +kernel

/-- **The best trial itself is never pruned**: comparing a trial with itself (all differences zero)
returns False whatever p-value scipy reports for the zero vector, because `average_is_best` holds
with equality and turns a small p into the "safety" exit. -/
theorem wilcoxon_best_trial_itself_never_pruned (pv : Alt → List Rat → V) (c : Cfg) (d : Dir) (cur : IV) :
    (prune pv c d (some cur) cur).prune = false :=
  not_pruned_of pv c d (some cur) cur fun b hb _ _ _ ha => by
    cases hb
    rw [avgIsBest_self] at ha
    exact Bool.noConfusion ha

/-- through the study: whenever the current trial is the one `study.best_trial` returns -/
theorem wilcoxon_best_trial_itself_never_pruned_in_study (pv : Alt → List Rat → V) (c : Cfg) (d : Dir)
    (done : List Done) (t : Done) (h : bestOf d done = some t) :
    (pruneInStudy pv c d done t.iv).prune = false := by
  unfold pruneInStudy
  rw [h]
  exact wilcoxon_best_trial_itself_never_pruned pv c d t.iv

/-- the p-value function of the example says "certainly worse" (p = 0) for everything: still no prune;
the same reports against a different best trial are pruned -/
example : (prune (fun _ _ => some 0) ⟨1/10, 2⟩ .maximize (some [(0, .fin 1), (1, .fin 2), (2, .fin 3)])
      [(0, .fin 1), (1, .fin 2), (2, .fin 3)]) = ⟨false, [], .safety⟩ ∧
    (prune (fun _ _ => some 0) ⟨1/10, 2⟩ .maximize (some [(0, .fin 2), (1, .fin 3), (2, .fin 4)])
      [(0, .fin 1), (1, .fin 2), (2, .fin 3)]) = ⟨true, [], .final⟩ := by decide +kernel

/-- the "safety" of the code: a trial whose average is at least as good as the best trial's is not
pruned, whatever the test says -/
theorem wilcoxon_never_prunes_when_average_not_worse (pv : Alt → List Rat → V) (c : Cfg) (d : Dir) (b cur : IV)
    (h : avgIsBest d ((finPart b).map (·.2)) ((finPart cur).map (·.2)) = true) :
    (prune pv c d (some b) cur).prune = false :=
  not_pruned_of pv c d (some b) cur fun b' hb _ _ _ ha => by
    cases hb
    rw [h] at ha
    exact Bool.noConfusion ha

/-- The docstring's "This pruner cannot handle ``infinity`` or ``nan`` values.  Trials containing those values are never
pruned." — on either side. -/
theorem wilcoxon_never_prunes_nonfinite (pv : Alt → List Rat → V) (c : Cfg) (d : Dir) (best : Option IV) (cur : IV)
    (h : allFinite cur = false ∨ ∃ b, best = some b ∧ allFinite b = false) :
    (prune pv c d best cur).prune = false :=
  not_pruned_of pv c d best cur fun b' hb _ hcf hbf _ => by
    rcases h with h | ⟨b, hb', hbf'⟩
    · rw [hcf] at h; exact Bool.noConfusion h
    · rw [hb] at hb'; cases hb'; rw [hbf] at hbf'; exact Bool.noConfusion hbf'

example : (prune (fun _ _ => some 0) ⟨1, 0⟩ .minimize (some [(0, .fin 0), (1, .fin 0)]) [(0, .fin 5), (1, .pinf)]) =
      ⟨false, [.curNotFinite], .curNotFinite⟩ ∧
    (prune (fun _ _ => some 0) ⟨1, 0⟩ .minimize (some [(0, .nan), (1, .fin 0)]) [(0, .fin 5), (1, .fin 6)]) =
      ⟨false, [.bestNotFinite], .bestNotFinite⟩ := by decide +kernel

/-- **C13 at the whole `prune`.**  Under the one hypothesis that the p-value is invariant under negating
all differences together with switching the alternative (`less` ↔ `greater`; a symmetry of the
signed-rank test, sampled on scipy by the tie), `prune` under maximize on the values `v` returns
exactly what it returns under minimize on `-v` — decision, warnings and exit — for every best trial
(or none), NaN / inf anywhere, missing steps, any configuration. -/
theorem wilcoxon_direction_mirror (pv : Alt → List Rat → V)
    (hpv : ∀ l, pv .less l = pv .greater (negL l))
    (c : Cfg) (best : Option IV) (cur : IV) :
    prune pv c .maximize best cur = prune pv c .minimize (best.map Wilcoxon.negIV) (Wilcoxon.negIV cur) := by
  have hlen : ∀ iv : IV, (Wilcoxon.negIV iv).length = iv.length := fun iv => List.length_map _
  have hq : ∀ l, (negQ l).length = l.length := fun l => List.length_map _
  cases best with
  | none => simp only [prune, Option.map_none, hlen, allFinite_negIV]
  | some b =>
    simp only [prune, Option.map_some, hlen, hq, allFinite_negIV, finPart_negIV, diffValues_negQ, negL_length,
      map_snd_negQ, ← avgIsBest_mirror, wilcoxonAlt, ← hpv]
    rfl

/-- non-vacuity: a p-value function satisfying `hpv` that is not constant (it looks at the sign of the
first difference), on which the two mirrored runs prune and a third does not -/
example :
    let pv : Alt → List Rat → V := fun a l => match a, l with
      | .greater, x :: _ => if 0 < x then some 0 else some 1
      | .less, x :: _ => if x < 0 then some 0 else some 1
      | _, [] => some 1
    prune pv ⟨1/10, 2⟩ .maximize (some [(0, .fin 5), (1, .fin 5)]) [(1, .fin 1), (0, .fin 2)] = ⟨true, [], .final⟩ ∧
    prune pv ⟨1/10, 2⟩ .minimize (some [(0, .fin (-5)), (1, .fin (-5))]) [(1, .fin (-1)), (0, .fin (-2))] = ⟨true, [], .final⟩ ∧
    prune pv ⟨1/10, 2⟩ .minimize (some [(0, .fin 5), (1, .fin 5)]) [(1, .fin 1), (0, .fin 2)] = ⟨false, [], .final⟩ := by
  decide +kernel

/-- `diff_values` is ordered by ascending step (what `np.intersect1d` returns), not by report order -/
example : diffValues [(3, 10), (1, 20), (2, 30)] [(2, 1), (3, 1), (0, 1)] = [29, 9] := by decide +kernel

/-- the missing-steps warning is issued exactly when some step of the current trial is absent from the
best trial (and both sides are finite and non-empty) -/
theorem wilcoxon_missing_steps_warning_iff (pv : Alt → List Rat → V) (c : Cfg) (d : Dir) (b cur : IV)
    (hc : cur ≠ []) (hcf : allFinite cur = true) (hb : b ≠ []) (hbf : allFinite b = true) :
    Warn.missingSteps ∈ (prune pv c d (some b) cur).warns ↔ nCommon (finPart cur) (finPart b) < cur.length := by
  rw [← diffValues_length, ← finPart_length_of_allFinite cur hcf]
  -- the hypotheses exclude the five exits taken before `w` is computed; the other three (`fewCommon`, `safety`, `final`) all return
  -- `w`, which holds the warning iff `df.length < cq.length`: the right side as just rewritten
  generalize hB : some b = best
  fun_cases prune pv c d best cur <;> simp_all +zetaDelta

example : (prune (fun _ _ => some 1) ⟨1/10, 2⟩ .minimize (some [(0, .fin 5), (1, .fin 5)]) [(1, .fin 1), (0, .fin 2), (9, .fin 0)]).warns
    = [.missingSteps] := by decide +kernel

end OptunaVerif.C16Wilcoxon
