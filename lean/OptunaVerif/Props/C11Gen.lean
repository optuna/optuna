import OptunaVerif.Generated.TransformGen
import OptunaVerif.Lemmas.TransformIR
import OptunaVerif.Props.C11
/-!
# C11 / C10 (translator tie) — `optuna/_transform.py` *as written in the source today* is the hand model

`Generated/TransformGen.lean` is regenerated on every run by `verif/translators/ttransform.py` from
`optuna/_transform.py`: the decision trees and expression trees of `_transform_numerical_param` /
`_untransform_numerical_param`, the loop body of `_transform_search_space` (bounds with half-step widening and log
of the bounds, one-hot columns with `[0, 1]` rows, the column bookkeeping), the loop body of `transform` and its
`transform_0_1` block (zero-width mask), `untransform` (un-scaling, column selection, `argmax`), the `bounds`
property — as DATA of the IR of `Model/TransformIR.lean`, which has one interpreter per function.

Proved here, for **all** distributions / search spaces / values / vectors / flag combinations and every monotone
pair `lg/ex` and clamp `below` (no bound, no sampling): each generated formula, each loop and the whole methods evaluate
to their hand-model counterparts (`gen_*_eq`; including which error is raised, and `none` for a vector of the wrong
length); hence `gen_untransform_transform_id`, `gen_untransform_in_domain` (C11) hold of the interpreters of the generated
IR; `Props/C10Gen.lean` does the same for `untransform_projection_in_domain` (C10).

A source change that drops or doubles the half step, clips before rounding, replaces the `nextafter` clamp, changes
the zero-width mask, takes another maximal index, applies `log` to the step, mis-advances `bound_idx` … changes the
generated data and the named equality no longer type-checks (or, outside the whitelist, the translator stops).
-/
namespace OptunaVerif.C11Gen
open OptunaVerif.Dist OptunaVerif.TransformIR
open OptunaVerif.Generated.TransformGen (prog)

/-- a concrete environment for the non-vacuity examples: `lg = ex = id`, clamp one below -/
def E0 : Env := ⟨id, id, fun h => h - 1⟩

/-- `_transform_numerical_param` as written today is the hand model's `tnum` (every numerical class, `log` and
`transform_log` on or off). -/

theorem gen_tnum_eq (E : Env) (c : TCfg) (d : Dist) (v : Rat) (hd : ∀ cs, d ≠ .cat cs) :
    tnumEval prog E c d v = some (Dist.tnum E c d v) := by
  cases d with
  | cat cs => exact absurd rfl (hd cs)
  | flt cl low high log step | int cl low high log step =>
    cases log <;> cases htl : c.tlog <;>
      simp [tnumEval, prog, Generated.TransformGen.tnum, T.pick, G.eval, X.eval, rhoD, Dist.tnum, Dist.isLog, htl]

example : tnumEval prog E0 ⟨true, true, false⟩ (.flt .float 1 8 true none) 3 = some 3 ∧
    tnumEval prog ⟨fun q => q - 1, fun q => q + 1, fun h => h - 1⟩ ⟨true, true, false⟩ (.int .int 1 8 true 1) 3 = some 2 ∧
    tnumEval prog ⟨fun q => q - 1, fun q => q + 1, fun h => h - 1⟩ ⟨false, true, false⟩ (.int .int 1 8 true 1) 3 = some 3 := by
  decide +kernel

/-- on a categorical distribution the function reaches its `assert False` -/
theorem gen_tnum_cat (E : Env) (c : TCfg) (cs : List Tok) (v : Rat) : tnumEval prog E c (.cat cs) v = none := by
  simp [tnumEval, prog, Generated.TransformGen.tnum, T.pick, G.eval]
example : tnumEval prog E0 ⟨true, true, false⟩ (.cat [.none, .nan]) 0 = none := by decide +kernel

/-- `_untransform_numerical_param` as written today is the hand model's `decode` on one column: log floats
(`exp`, clamp unless single), stepped floats (round to the grid, then clip), plain floats (clamp unless single), log ints
(`exp`, round, clip / plain `int` without `transform_log`), ints (round to the grid, clip); Python type of the result
(`int` vs `float`) included. -/
theorem gen_unum_eq (E : Env) (c : TCfg) (d : Dist) (x : Rat) (hd : ∀ cs, d ≠ .cat cs) :
    unumEval prog E c d x = decode E c d [x] := by
  cases d with
  | cat cs => exact absurd rfl (hd cs)
  | flt cl low high log step =>
    cases log
    · cases step with
      | none =>
        cases hs : (Dist.flt cl low high false Option.none).single <;>
          simp [unumEval, prog, Generated.TransformGen.unum, T.pick, G.eval, X.eval, leafTok, rhoD, decode, Dist.isLog, hs,
            highQ]
      | some s =>
        simp [unumEval, prog, Generated.TransformGen.unum, T.pick, G.eval, X.eval, leafTok, rhoD, decode, Dist.isLog,
          highQ, lowQ, stepQ]
    · cases hs : (Dist.flt cl low high true step).single <;> cases htl : c.tlog <;>
        simp [unumEval, prog, Generated.TransformGen.unum, T.pick, G.eval, X.eval, leafTok, rhoD, decode, Dist.isLog, hs, htl,
          highQ]
  | int cl low high log step =>
    cases log <;> cases htl : c.tlog <;>
      simp [unumEval, prog, Generated.TransformGen.unum, T.pick, G.eval, X.eval, leafTok, rhoD, decode, Dist.isLog, htl,
        highQ, lowQ, stepQ]

example : unumEval prog E0 ⟨true, true, false⟩ (.int .int 1 9 false 4) (26/5) = some (.int 5) ∧
    unumEval prog E0 ⟨true, true, false⟩ (.int .int 1 9 false 4) 100 = some (.int 9) ∧
    unumEval prog E0 ⟨true, true, false⟩ (.flt .float 0 1 false (some (1/4))) (3/8) = some (.flt (1/2)) ∧   -- tie 1.5: half to even
    unumEval prog E0 ⟨true, true, false⟩ (.flt .float 0 1 false (some (1/4))) (1/8) = some (.flt 0) ∧     -- tie 0.5: half to even
    unumEval prog E0 ⟨true, true, false⟩ (.flt .float 0 3 false none) 3 = some (.flt 2) ∧                    -- the clamp
    unumEval prog E0 ⟨true, true, false⟩ (.flt .float 3 3 false none) 3 = some (.flt 3) := by               -- single: no clamp
  decide +kernel

/-- the totalised call used inside the bounds expressions -/
theorem gen_tnumCall_eq (E : Env) (c : TCfg) (d : Dist) (hd : ∀ cs, d ≠ .cat cs) :
    tnumCall prog E c d = Dist.tnum E c d := by
  funext v
  simp [tnumCall, gen_tnum_eq E c d v hd]
example : tnumCall prog ⟨fun q => q - 1, fun q => q + 1, id⟩ ⟨true, true, false⟩ (.int .int 1 8 true 1) 3 = 2 := by decide +kernel

/-- the `bds` chain of `_transform_search_space` as written today is the hand model's `boundsOf`: stepped floats
and ints widened by half a step OUTSIDE the log, log ints widened INSIDE the log, nothing without `transform_step`. -/
theorem gen_bds_eq (E : Env) (c : TCfg) (d : Dist) (hd : ∀ cs, d ≠ .cat cs) :
    (bdsEval prog E c d).map (fun b => [b]) = some (boundsOf E c d) := by
  have hcall := gen_tnumCall_eq E c d hd
  cases d with
  | cat cs => exact absurd rfl (hd cs)
  | flt cl low high log step =>
    simp only [bdsEval, hcall]
    cases step with
    | none =>
      simp [prog, Generated.TransformGen.ssBds, T.pick, G.eval, X.eval, rhoD, boundsOf, highQ, lowQ]
    | some s =>
      cases hts : c.tstep <;>
        simp [prog, Generated.TransformGen.ssBds, T.pick, G.eval, X.eval, rhoD, boundsOf, highQ, lowQ, stepQ, hts, half_mul]
  | int cl low high log step =>
    simp only [bdsEval, hcall]
    cases log <;> cases hts : c.tstep <;>
      simp [prog, Generated.TransformGen.ssBds, T.pick, G.eval, X.eval, rhoD, boundsOf, highQ, lowQ, stepQ, hts,
        Dist.isLog, half_mul]

theorem gen_bds_row (E : Env) (c : TCfg) (d : Dist) (hd : ∀ cs, d ≠ .cat cs) :
    ∃ b, bdsEval prog E c d = some b ∧ boundsOf E c d = [b] := by
  have hb := gen_bds_eq E c d hd
  cases hbe : bdsEval prog E c d with
  | none => simp [hbe] at hb
  | some b => exact ⟨b, rfl, by simpa [hbe] using hb.symm⟩

example : bdsEval prog E0 ⟨true, true, false⟩ (.int .int 1 9 false 4) = some (-1, 11) ∧
    bdsEval prog E0 ⟨true, false, false⟩ (.int .int 1 9 false 4) = some (1, 9) ∧
    bdsEval prog ⟨fun q => 2 * q, id, id⟩ ⟨true, true, false⟩ (.int .int 1 9 true 1) = some (1, 19) ∧
    bdsEval prog E0 ⟨true, true, false⟩ (.flt .float 0 1 false (some (1/4))) = some (-1/8, 9/8) := by
  decide +kernel

/-- the `transform_0_1` block as written today is `scale01`: exactly the zero-width columns go to 1/2, every other
column is `(x - lo) / (hi - lo)`. -/
theorem gen_scale_eq (E : Env) (c : TCfg) (b : Rat × Rat) (x : Rat) :
    applyScale E c prog.tMask prog.tScale b x = scale01 b x := by
  by_cases h : b.1 = b.2 <;>
    simp [applyScale, prog, Mask.eval, X.eval, rhoS, scale01, h]
example : applyScale E0 default prog.tMask prog.tScale (2, 2) 2 = 1/2 ∧
    applyScale E0 default prog.tMask prog.tScale (2, 2 + 1/1000000000) (2 + 1/1000000000) = 1 := by   -- narrow is not zero-width
  decide +kernel

/-- the un-scaling of `untransform` as written today is `unscale01` -/
theorem gen_unscale_eq (E : Env) (c : TCfg) (b : Rat × Rat) (x : Rat) :
    prog.uUnscale.eval E c default (fun _ => 0) (rhoS b x) = unscale01 b x := by
  simp [prog, X.eval, rhoS, unscale01]
example : prog.uUnscale.eval E0 default default (fun _ => 0) (rhoS (2, 6) (1/4)) = 3 := by decide +kernel

/-- the index handed to `to_external_repr` as written today is the FIRST maximal column -/
theorem gen_argmax_eq (cols : List Rat) : prog.uCat.eval cols = ((argmax cols : Nat) : Int) := by
  simp [prog, IE.eval, VE.eval]
example : prog.uCat.eval [1/2, 1, 1, 0] = 1 := by decide +kernel

/-- one parameter of `untransform` as written today is the hand model's `decode`, for every distribution and every
list of columns (wrong widths included). -/
theorem gen_decode_eq (E : Env) (c : TCfg) (d : Dist) (cols : List Rat) :
    decodeGen prog E c d cols = decode E c d cols := by
  cases d with
  | cat cs => simp [decodeGen, show prog.uCatG = .isCat from rfl, G.eval, gen_argmax_eq, decode]
  | flt cl low high log step =>
    simp only [decodeGen, show prog.uCatG = .isCat from rfl, G.eval, Bool.false_eq_true, if_false]
    match cols with
    | [x] => simpa using gen_unum_eq E c _ x (by simp)
    | [] | _ :: _ :: _ => cases log <;> cases step <;> simp [decode]
  | int cl low high log step =>
    simp only [decodeGen, show prog.uCatG = .isCat from rfl, G.eval, Bool.false_eq_true, if_false]
    match cols with
    | [x] => simpa using gen_unum_eq E c _ x (by simp)
    | [] | _ :: _ :: _ => cases log <;> simp [decode]

example : decodeGen prog E0 ⟨true, true, false⟩ (.cat [.none, .nan, .int 3]) [1/2, 1, 1] = some .nan ∧
    decodeGen prog E0 ⟨true, true, false⟩ (.int .int 1 9 false 4) [1, 2] = none := by decide +kernel

theorem gen_nBounds_eq (c : TCfg) (space : List Dist) : nBounds prog c space = totalWidth space := by
  induction space with
  | nil => rfl
  | cons d ds ih =>
    simp only [nBounds, totalWidth, ih]
    cases d <;> simp [prog, G.eval, W.eval, Dist.width]
example : nBounds prog ⟨true, true, false⟩ [.cat [.none, .nan], .int .int 1 9 false 4] = 3 := by decide

theorem gen_ssStep_eq (E : Env) (c : TCfg) (s : SS) (d : Dist) (h1 : s.rows.length = s.idx) (h2 : s.e2c.length = s.idx) :
    ssStep prog E c s d = some
      { idx := s.idx + d.width, rows := s.rows ++ boundsOf E c d, c2e := s.c2e ++ [List.range' s.idx d.width],
        e2c := s.e2c ++ List.replicate d.width s.c2e.length, cur := some (List.range' s.idx d.width) } := by
  have hrow := gen_bds_row E c d
  cases d with
  | cat cs =>
    simp [ssStep, prog, G.eval, runB, BStmt.step, W.eval, boundsOf, Dist.width, h1, h2]
  | flt cl low high log step | int cl low high log step =>
    obtain ⟨b, hbe, hb⟩ := hrow (by simp)
    rw [ssStep, hbe, hb]
    simp [prog, G.eval, runB, BStmt.step, W.eval, Dist.width, h1, h2]
example : (ssStep prog E0 ⟨true, true, false⟩ SS.init (.cat [.none, .nan])).map (fun s => (s.idx, s.rows, s.c2e, s.e2c)) =
    some (2, [(0, 1), (0, 1)], [[0, 1]], [0, 0]) := by decide +kernel

theorem gen_ssLoop_eq (E : Env) (c : TCfg) (space : List Dist) (s : SS) (h1 : s.rows.length = s.idx) (h2 : s.e2c.length = s.idx) :
    ∃ s', ssLoop prog E c space s = some s' ∧ s'.idx = s.idx + totalWidth space ∧
      s'.rows = s.rows ++ space.flatMap (boundsOf E c) ∧ s'.c2e = s.c2e ++ colsOf s.idx space ∧
      s'.e2c = s.e2c ++ backOf s.c2e.length space := by
  induction space generalizing s with
  | nil => exact ⟨s, rfl, by simp [totalWidth], by simp, by simp [colsOf], by simp [backOf]⟩
  | cons d ds ih =>
    have hstep := gen_ssStep_eq E c s d h1 h2
    obtain ⟨s', hl, hi, hr, hc, he⟩ := ih
      { idx := s.idx + d.width, rows := s.rows ++ boundsOf E c d, c2e := s.c2e ++ [List.range' s.idx d.width],
        e2c := s.e2c ++ List.replicate d.width s.c2e.length, cur := some (List.range' s.idx d.width) }
      (by simp [boundsOf_length, h1]) (by simp [h2])
    refine ⟨s', by simp [ssLoop, hstep, hl], ?_, ?_, ?_, ?_⟩
    · simp [hi, totalWidth]; omega
    · simp [hr, List.flatMap_cons]
    · simp [hc, colsOf]
    · simp [he, backOf]
example : (ssLoop prog E0 ⟨true, true, false⟩ [.cat [.none, .nan], .int .int 1 9 false 4] SS.init).map (fun s => (s.idx, s.c2e, s.e2c)) =
    some (3, [[0, 1], [2]], [0, 0, 1]) := by decide +kernel

/-- `_transform_search_space` as written today returns, for every search space and flag
combination: the hand model's raw bounds, consecutive column ranges, and the matching back map. -/
theorem gen_search_space_eq (E : Env) (c : TCfg) (space : List Dist) :
    runSS prog E c space = some (space.flatMap (boundsOf E c), colsOf 0 space, backOf 0 space) := by
  obtain ⟨s', hl, hi, hr, hc, he⟩ := gen_ssLoop_eq E c space SS.init rfl rfl
  simp only [SS.init, List.nil_append, Nat.zero_add, List.length_nil] at hi hr hc he
  have h3 := flatMap_boundsOf_length E c space
  have h4 := backOf_length 0 space
  simp only [runSS, hl, gen_nBounds_eq, hi, hr, hc, he, h3, h4, and_self, if_true]

example : runSS prog E0 ⟨true, true, false⟩ [.cat [.none, .nan], .int .int 1 9 false 4, .cat [.none]] =
    some ([(0, 1), (0, 1), (-1, 11), (0, 1)], [[0, 1], [2], [3]], [0, 0, 1, 2]) := by decide +kernel

/-- The `bounds` property as written today is the hand model's `bounds` (unit rows under 0-1 scaling). -/
theorem gen_bounds_eq (E : Env) (c : TCfg) (space : List Dist) :
    boundsGen prog E c space = some (Dist.bounds E c space) := by
  simp only [boundsGen, gen_search_space_eq, Option.map_some, Dist.bounds]
  cases c.t01 <;> simp [prog]
example : boundsGen prog E0 ⟨true, true, true⟩ [.cat [.none, .nan], .int .int 1 9 false 4] = some [(0, 1), (0, 1), (0, 1)] ∧
    boundsGen prog E0 ⟨true, true, false⟩ [.cat [.none, .nan], .int .int 1 9 false 4] = some [(0, 1), (0, 1), (-1, 11)] := by
  decide +kernel

theorem gen_tArm_eq (E : Env) (c : TCfg) (d : Dist) (v : Tok) (out : List Rat) :
    runT (tnumEval prog E c d) prog.tInit d v (if prog.tCatG.eval c d then prog.tCat else prog.tNum) ⟨out, [], none⟩ =
      (encode E c d v).map (fun raw => ⟨out ++ raw, [], none⟩) := by
  have htn := gen_tnum_eq E c d
  cases d with
  | cat cs =>
    simp only [show prog.tCatG = .isCat from rfl, G.eval, if_true, encode]
    cases hi : catIndex cs v with
    | error e => simp [prog, runT, TStmt.step, hi, Except.map]
    | ok i =>
      have hlt := catIndex_lt cs v i hi
      have hw := window_hot cs.length i 1
      simp [prog, runT, TStmt.step, hi, Except.map, W.eval, hlt, oneHot] at hw ⊢
      exact hw
  | flt cl low high log step | int cl low high log step =>
    simp only [show prog.tCatG = .isCat from rfl, G.eval, Bool.false_eq_true, if_false, encode]
    cases hn : v.num? with
    | none => simp [prog, runT, TStmt.step, hn, Except.map]
    | some q =>
      have ht := htn q (by simp)
      generalize tnumEval prog E c _ = tn at ht
      simp [prog, runT, TStmt.step, hn, ht, W.eval, window, Except.map, List.range_succ]

example : (runT (tnumEval prog E0 ⟨true, true, false⟩ (.cat [.none, .nan])) prog.tInit (.cat [.none, .nan]) .nan prog.tCat
    ⟨[7], [], none⟩).toOption.map (fun s => s.out) = some [7, 0, 1] := by decide +kernel

theorem gen_tLoop_eq (E : Env) (c : TCfg) (space : List Dist) (params : List Tok) (out : List Rat) :
    tLoop prog E c space params out = (encodeAll E c space params).map (fun raw => out ++ raw) := by
  induction space generalizing params out with
  | nil => cases params <;> simp [tLoop, encodeAll, Except.map]
  | cons d ds ih =>
    cases params with
    | nil => simp [tLoop, encodeAll, Except.map]
    | cons v vs =>
      simp only [tLoop, encodeAll, gen_tArm_eq]
      cases he : encode E c d v with
      | error e => simp [Except.map]
      | ok a =>
        simp only [Except.map, List.isEmpty_nil, if_true, ih]
        cases hr : encodeAll E c ds vs with
        | error e => simp
        | ok b => simp
example : tLoop prog E0 ⟨true, true, false⟩ [.cat [.none, .nan], .int .int 1 9 false 4] [.nan, .int 5] [7] = .ok [7, 0, 1, 5] := by
  decide +kernel

/-- `_SearchSpaceTransform.transform` as written today (loop, one-hot writes, numerical writes,
the `transform_0_1` block with its zero-width mask) is the hand model's `transform`, for every search space,
configuration (also ill-typed / too short / too long ones: same error) and flag combination. -/
theorem gen_transform_eq (E : Env) (c : TCfg) (space : List Dist) (params : List Tok) :
    transformGen prog E c space params = Dist.transform E c space params := by
  have hs : applyScale E c prog.tMask prog.tScale = scale01 := by
    funext b x; exact gen_scale_eq E c b x
  simp only [transformGen, gen_tLoop_eq, transform_eq_encodeAll, gen_search_space_eq, hs]
  cases encodeAll E c space params with
  | error e => simp [Except.map]
  | ok raw => cases c.t01 <;> simp [Except.map]

example : transformGen prog E0 ⟨true, true, true⟩ [.cat [.none, .nan], .int .int 1 9 false 4, .flt .float 2 2 false none]
      [.nan, .int 5, .flt 2] = .ok [0, 1, 1/2, 1/2] ∧
    transformGen prog E0 ⟨true, true, false⟩ [.cat [.none, .nan], .int .int 1 9 false 4] [.int 7, .int 5] = .error .valueError ∧
    transformGen prog E0 ⟨true, true, false⟩ [.cat [.none, .nan]] [] = .error .keyError := by decide +kernel

theorem gen_uLoop_eq (E : Env) (c : TCfg) (ys : List Rat) (space : List Dist) (off : Nat)
    (h : off + totalWidth space = ys.length) :
    uLoop prog E c ys space (colsOf off space) = decodeAll E c space (ys.drop off) := by
  induction space generalizing off with
  | nil =>
    have : ys.drop off = [] := by
      apply List.eq_nil_of_length_eq_zero; simp only [List.length_drop, totalWidth] at *; omega
    simp [uLoop, this, decodeAll]
  | cons d ds ih =>
    simp only [totalWidth] at h
    have hg := gather_range ys off d.width (by omega)
    have hnlt : ¬ (ys.drop off).length < d.width := by simp only [List.length_drop]; omega
    simp only [colsOf, uLoop, hg, gen_decode_eq, ih (off + d.width) (by omega), decodeAll, if_neg hnlt, List.drop_drop]
    cases decode E c d ((ys.drop off).take d.width) <;> cases decodeAll E c ds (ys.drop (off + d.width)) <;> rfl
example : uLoop prog E0 ⟨true, true, false⟩ [9, 0, 1, 5] [.cat [.none, .nan], .int .int 1 9 false 4]
    (colsOf 1 [.cat [.none, .nan], .int .int 1 9 false 4]) = some [.nan, .int 5] := by decide +kernel

/-- `_SearchSpaceTransform.untransform` as written today (un-scaling, column selection through
`column_to_encoded_columns`, first-maximum `argmax` for categoricals, `_untransform_numerical_param` otherwise) is the
hand model's `untransform`, for every search space, every vector (also of the wrong length) and flag combination. -/
theorem gen_untransform_eq (E : Env) (c : TCfg) (space : List Dist) (xs : List Rat) :
    untransformGen prog E c space xs = untransform E c space xs := by
  have hu : (fun b x => prog.uUnscale.eval E c default (fun _ => 0) (rhoS b x)) = unscale01 := by
    funext b x; exact gen_unscale_eq E c b x
  simp only [untransformGen, gen_search_space_eq, hu, flatMap_boundsOf_length]
  by_cases h : xs.length = totalWidth space
  · rw [if_pos h, untransform_eq_decodeAll E c space xs h]
    have hl : (if c.t01 then List.zipWith unscale01 (space.flatMap (boundsOf E c)) xs else xs).length = totalWidth space := by
      have hf := flatMap_boundsOf_length E c space
      cases c.t01
      · simpa using h
      · simp only [if_true, List.length_zipWith, hf, h, Nat.min_self]
    have := gen_uLoop_eq E c _ space 0 (by rw [hl]; simp)
    simpa using this
  · rw [if_neg h, untransform_wrong_length E c space xs h]

example : untransformGen prog E0 ⟨true, true, true⟩ [.cat [.none, .nan], .int .int 1 9 false 4, .flt .float 2 2 false none]
      [1/3, 1/3, 7/10, 0] = some [.none, .int 9, .flt 2] ∧
    untransformGen prog E0 ⟨true, true, false⟩ [.cat [.none, .nan]] [1] = none := by decide +kernel

/-- C11, for the code as written today: every configuration of canonical contained
values is transformed without error into the declared bounds and `untransform` returns exactly the configuration;
every search space, every flag combination. -/
theorem gen_untransform_transform_id (E : Env) (c : TCfg) (hE : EnvOK E) (space : List Dist) (params : List Tok)
    (hwf : ∀ d ∈ space, WF d) (hv : List.Forall₂ (Canon E) space params) :
    ∃ xs bs, transformGen prog E c space params = .ok xs ∧ boundsGen prog E c space = some bs ∧
      List.Forall₂ InB bs xs ∧ untransformGen prog E c space xs = some params := by
  obtain ⟨xs, h1, h2, h3⟩ := C11.untransform_transform_id E c hE space params hwf hv
  exact ⟨xs, _, by rw [gen_transform_eq]; exact h1, gen_bounds_eq E c space, h2, by rw [gen_untransform_eq]; exact h3⟩
-- non-vacuity: a mixed space with a canonical configuration (the hypotheses of the theorem are met) …
example : List.Forall₂ (Canon E0) [.cat [.bool true, .int 1, .nan], .flt .float 0 1 false (some (1/4))]
    [.nan, .flt ((3 : Int) * (1/4) + 0)] :=
  .cons ⟨2, by simp, by simp [firstIdx, Tok.catEq, Tok.pyEq]⟩ (.cons ⟨3, rfl, by norm_num, by norm_num⟩ .nil)
-- … and the round trip computed by the interpreters of the generated IR
example : transformGen prog E0 ⟨true, true, false⟩ [.cat [.bool true, .int 1, .nan], .flt .float 0 1 false (some (1/4))]
      [.nan, .flt (3/4)] = .ok [0, 0, 1, 3/4] ∧
    untransformGen prog E0 ⟨true, true, false⟩ [.cat [.bool true, .int 1, .nan], .flt .float 0 1 false (some (1/4))]
      [0, 0, 1, 3/4] = some [.nan, .flt (3/4)] := by decide +kernel

/-- C11, for the code as written today: every point of the declared box untransforms
to a configuration of members of the declared domains (same hypotheses as `C11.untransform_in_domain`). -/
theorem gen_untransform_in_domain (E : Env) (c : TCfg) (hE : EnvOK E) (space : List Dist) (xs : List Rat)
    (hwf : ∀ d ∈ space, WF d) (hhc : ∀ d ∈ space, HC E d) (hcfg : c.tlog = true ∨ c.tstep = false)
    (bs : List (Rat × Rat)) (hbs : boundsGen prog E c space = some bs) (hb : List.Forall₂ InB bs xs) :
    ∃ params, untransformGen prog E c space xs = some params ∧ List.Forall₂ Member space params := by
  rw [gen_bounds_eq] at hbs
  cases hbs
  obtain ⟨ps, h1, h2⟩ := C11.untransform_in_domain E c hE space xs hwf hhc hcfg hb
  exact ⟨ps, by rw [gen_untransform_eq]; exact h1, h2⟩
-- non-vacuity: a corner of the widened box of a stepped float maps onto the last grid point
example : boundsGen prog E0 ⟨true, true, false⟩ [.flt .float 0 1 false (some (1/4))] = some [(-1/8, 9/8)] ∧
    untransformGen prog E0 ⟨true, true, false⟩ [.flt .float 0 1 false (some (1/4))] [9/8] = some [.flt 1] := by decide +kernel
example : InB (-1/8, 9/8) (9/8) := ⟨by norm_num, by norm_num⟩

end OptunaVerif.C11Gen
