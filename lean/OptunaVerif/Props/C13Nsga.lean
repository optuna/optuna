import OptunaVerif.Lemmas.Nsga2Src
import OptunaVerif.Lemmas.Nsga2Mirror
/-!
# C13 (NSGA-II part) — `_crowding_distance_sort` under `maximize f` ≡ `minimize −f`

The non-domination ranks are computed from direction-normalised values (`_rank_population`, C13's
`normalised_component_symmetric`), the crowding distance from the RAW `trial.values`.  Mirroring a study therefore
shows the crowding code a population with some objective columns negated (`flipInd mask`).  Proved here about
`Model/Nsga2.lean` (exact instance), for the code AFTER the repair of finding F-C13-1 (sort key `(-distance, number)`): on fronts
without ties inside a column (C13's quantifier: pairwise distinct values) every individual keeps its distance and the sorted front
lists the same trials in the same order, for every subset of negated objectives.  The code BEFORE the repair (`crowdingSortOld`: sort
by distance, reverse) ordered equal distances by the raw last objective: its recorded witnesses are kept so that a revert is
recognised.  `modelled_source_unchanged` (T-nsga2) ties the content keys of the three source functions modelled here to the
regenerated `Generated/Nsga2Src.lean`.
-/
namespace OptunaVerif.C13Nsga
open OptunaVerif.Nsga2 List

/-- One objective, any column of values as sorted by the code: negating the values
(the sorted order is then the reverse one) yields the reversed list of contributions — so the multiset of
contributions of that objective never depends on the direction. -/
theorem crowding_contrib_mirror (col : List XVal) :
    contribs xnum ((col.map xneg).reverse) = (contribs xnum col).reverse :=
  contribs_mirror col

example : contribs xnum [.ninf, .fin 0, .fin 1, .fin 4] = [.pinf, .pinf, .fin 1, .pinf] ∧
    contribs xnum [.fin (-4), .fin (-1), .fin 0, .pinf] = [.pinf, .fin 1, .pinf, .pinf] := by decide +kernel

/-- A front without NaN values, distinct trial numbers, and no two individuals sharing
a value in any objective: for every subset of negated objectives every individual's crowding distance is unchanged
(so is, a fortiori, the multiset of distances). -/
theorem crowding_distance_mirror (mask : List Bool) (p0 : Ind XVal) (t : List (Ind XVal)) (hnn : NoNaNPop (p0 :: t))
    (hnum : ((p0 :: t).map (·.number)).Nodup) (htf : ∀ i < p0.values.length, TieFree (p0 :: t) i) :
    (∀ n, lookupD xnum n (calcCrowding xnum ((p0 :: t).map (flipInd mask))).2 = lookupD xnum n (calcCrowding xnum (p0 :: t)).2) ∧
    ((p0 :: t).map (fun x => lookupD xnum x.number (calcCrowding xnum ((p0 :: t).map (flipInd mask))).2) =
      (p0 :: t).map (fun x => lookupD xnum x.number (calcCrowding xnum (p0 :: t)).2)) := by
  have h := calcCrowding_mirror mask p0 t hnn hnum htf
  exact ⟨h, map_congr_left (fun x _ => h x.number)⟩

-- non-vacuity: three mutually non-dominated trials, objective 1 negated: same distances
example :
    let pop : List (Ind XVal) := [⟨0, [.fin 0, .fin 5], none, true, []⟩, ⟨1, [.fin 1, .fin 3], none, true, []⟩, ⟨2, [.fin 4, .fin 0], none, true, []⟩]
    (pop.map (fun x => lookupD xnum x.number (calcCrowding xnum (pop.map (flipInd [false, true]))).2)) = [.pinf, .fin 2, .pinf] ∧
    (pop.map (fun x => lookupD xnum x.number (calcCrowding xnum pop).2)) = [.pinf, .fin 2, .pinf] := by decide +kernel

/-- Under the hypotheses of `crowding_distance_mirror`, reading the crowding
distances off the two sorted fronts (original and mirrored) gives the same sequence: position by
position the two orders hold individuals of equal distance. -/
theorem crowding_sorted_distances_mirror (mask : List Bool) (p0 : Ind XVal) (t : List (Ind XVal)) (hnn : NoNaNPop (p0 :: t))
    (hnum : ((p0 :: t).map (·.number)).Nodup) (htf : ∀ i < p0.values.length, TieFree (p0 :: t) i) :
    (crowdingSort xnum ((p0 :: t).map (flipInd mask))).map (fun x => lookupD xnum x.number (calcCrowding xnum (p0 :: t)).2) =
      (crowdingSort xnum (p0 :: t)).map (fun x => lookupD xnum x.number (calcCrowding xnum (p0 :: t)).2) := by
  -- the two sorted fronts list the same numbers in the same order, and a distance is looked up by number
  have h := congrArg (List.map fun n => lookupD xnum n (calcCrowding xnum (p0 :: t)).2) (crowdingSort_mirror mask p0 t hnn hnum htf)
  simpa only [map_map, Function.comp_def] using h

/-- Under the hypotheses of `crowding_distance_mirror` (no NaN, distinct numbers, no
per-objective ties), for every subset of negated objectives `_crowding_distance_sort` lists the same trial numbers
in the same order for the front and for its mirror image: the order is a function of (distance, number). -/
theorem crowding_sort_mirror (mask : List Bool) (p0 : Ind XVal) (t : List (Ind XVal)) (hnn : NoNaNPop (p0 :: t))
    (hnum : ((p0 :: t).map (·.number)).Nodup) (htf : ∀ i < p0.values.length, TieFree (p0 :: t) i) :
    (crowdingSort xnum ((p0 :: t).map (flipInd mask))).map (·.number) = (crowdingSort xnum (p0 :: t)).map (·.number) :=
  crowdingSort_mirror mask p0 t hnn hnum htf

/-- the front {#0 = (0,0), #1 = (1,1)} of a study with directions (minimize, maximize) -/
def witnessFront : List (Ind XVal) := [⟨0, [.fin 0, .fin 0], none, true, []⟩, ⟨1, [.fin 1, .fin 1], none, true, []⟩]

-- non-vacuity of `crowding_sort_mirror`: the witness front, both boundary individuals at distance inf: [0, 1] both ways
example : (crowdingSort xnum witnessFront).map (·.number) = [0, 1] ∧
    (crowdingSort xnum (witnessFront.map (flipInd [false, true]))).map (·.number) = [0, 1] := by
  constructor <;> decide +kernel

/-- The former finding F-C13-1.  Both individuals of `witnessFront` are
boundary individuals: distance `inf` in the study and in its mirror image alike.  The OLD sort
(`sort(key=distance); reverse()`) ordered a class of equal distances by the position the LAST per-objective sort left
them in, reversed: `[1, 0]` for the raw values, `[0, 1]` for the mirrored ones. -/
theorem crowding_old_tie_order_not_symmetric :
    (crowdingSortOld xnum witnessFront).map (·.number) = [1, 0] ∧
    (crowdingSortOld xnum (witnessFront.map (flipInd [false, true]))).map (·.number) = [0, 1] ∧
    (calcCrowding xnum witnessFront).2 = [(0, .pinf), (1, .pinf)] ∧
    (∀ i < 2, TieFree witnessFront i) := by
  refine ⟨by decide +kernel, by decide +kernel, by decide +kernel, ?_⟩
  intro i hi
  have : i = 0 ∨ i = 1 := by omega
  rcases this with rfl | rfl <;> (unfold TieFree; decide +kernel)

/-- The same as `crowding_old_tie_order_not_symmetric` with three trials on a line: #0 and #2 tie at `inf`, #1 has distance 2 in both runs; the old sort
listed `[2, 0, 1]` for the raw values and `[0, 2, 1]` for the mirrored ones; the repaired one `[0, 2, 1]` both ways. -/
theorem crowding_old_tie_order_three :
    (crowdingSortOld xnum [⟨0, [.fin 0, .fin 0], none, true, []⟩, ⟨1, [.fin 1, .fin 1], none, true, []⟩,
        ⟨2, [.fin 2, .fin 2], none, true, []⟩]).map (·.number) = [2, 0, 1] ∧
    (crowdingSortOld xnum ([⟨0, [.fin 0, .fin 0], none, true, []⟩, ⟨1, [.fin 1, .fin 1], none, true, []⟩,
        ⟨2, [.fin 2, .fin 2], none, true, []⟩].map (flipInd [false, true]))).map (·.number) = [0, 2, 1] ∧
    (crowdingSort xnum [⟨0, [.fin 0, .fin 0], none, true, []⟩, ⟨1, [.fin 1, .fin 1], none, true, []⟩,
        ⟨2, [.fin 2, .fin 2], none, true, []⟩]).map (·.number) = [0, 2, 1] ∧
    (crowdingSort xnum ([⟨0, [.fin 0, .fin 0], none, true, []⟩, ⟨1, [.fin 1, .fin 1], none, true, []⟩,
        ⟨2, [.fin 2, .fin 2], none, true, []⟩].map (flipInd [false, true]))).map (·.number) = [0, 2, 1] := by
  refine ⟨?_, ?_, ?_, ?_⟩ <;> decide +kernel

/-- Outside C13's quantifier, which asks for pairwise distinct values: when two
individuals share a value in an objective, which of them gets the larger contribution depends on the order the
previous sorts left them in — negating that objective changes individual distances, and the multiset of distances.
Front of a 3-objective study, objective 0 negated. -/
theorem crowding_column_tie_witness :
    let pop : List (Ind XVal) :=
      [⟨0, [.fin 1, .fin 0, .fin 5], none, true, []⟩, ⟨1, [.fin 1, .fin 5, .fin 0], none, true, []⟩,
       ⟨2, [.fin 0, .fin 6, .fin 6], none, true, []⟩, ⟨3, [.fin 3, .fin (-1), .fin 7], none, true, []⟩]
    pop.map (fun x => lookupD xnum x.number (calcCrowding xnum pop).2) ≠
      pop.map (fun x => lookupD xnum x.number (calcCrowding xnum (pop.map (flipInd [true, false, false]))).2) := by
  decide +kernel

/-- content keys (docstring-free, position-free AST; `verif/translators/nsga2_src.py`) of the functions of the tree
under test that the theorems of this file speak about, as they were when `Model/Nsga2.lean` was written -/
def modelledKeys : List (String × Nat) := [
  ("optuna/samplers/nsgaii/_elite_population_selection_strategy.py :: _calc_crowding_distance", 60815413682515448),
  ("optuna/samplers/nsgaii/_elite_population_selection_strategy.py :: _crowding_distance_sort", 458905545629052035),
  ("optuna/samplers/nsgaii/_elite_population_selection_strategy.py :: _rank_population", 645381497369769622)
]

/-- `_calc_crowding_distance`, `_crowding_distance_sort` and `_rank_population` are the functions the symmetry statements were proved about, in the state after the repair of F-C13-1 (sort key `(-distance, number)`); an edit — e.g. a revert of that repair — breaks this obligation. -/
theorem modelled_source_unchanged :
    modelledKeys.all (fun p => Generated.Nsga2Src.keyOf p.1 == p.2) = true :=
  Generated.Nsga2Src.all_keyOf_of_sublist ((List.take_sublist 3 _).trans (List.drop_sublist 1 Generated.Nsga2Src.keys))

end OptunaVerif.C13Nsga
