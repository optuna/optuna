import OptunaVerif.Generated.JournalHandlers
import OptunaVerif.Lemmas.JournalIR
import OptunaVerif.Props.C06
/-!
# C06 (translator tie) — the journal handlers *as written in the source today* are the hand model

`Generated/JournalHandlers.lean` is regenerated on every run by `verif/translators/tjournal.py` from
`optuna/storages/journal/_storage.py`: every `_apply_*` method of `JournalStorageReplayResult`, the
helpers `_study_exists` / `_trial_exists_and_updatable`, the dispatch chain of `apply_logs` and the
`JournalOperation` codes, as data of the statement language of `Model/JournalIR.lean`.

Proved here, for **all** replica states, records and workers (no bound, no sampling):
* per op code, the interpreter of the generated handler equals the corresponding branch of the
  hand-written `Journal.apply` (`interp_*`);
* the generated dispatch selects, for every record, the handler of its op code (`dispatch_table`,
  `select_handler`), hence `interpLog program = Journal.apply`, `interpLogs program = Journal.applyLogs`
  (cursor advanced before the record, abort at the first error), `interpAll program = Journal.applyAll`;
* therefore every theorem of `Props/C06.lean` holds of the interpreter of the generated handlers
  (`gen_*`).

A source change that alters a guard, its order, which worker raises, what is written before a raise,
the owned-trial bookkeeping, the cursor … changes the generated data and one of the `interp_*`
equalities no longer type-checks.
-/
namespace OptunaVerif.C06Gen
open OptunaVerif.Storage OptunaVerif.Journal OptunaVerif.JournalIR
open OptunaVerif.Generated.JournalHandlers


/-! ## the two helpers the handlers call

`if self._study_exists(…)` / `if self._trial_exists_and_updatable(…)` run as a whole: the helper answers `True`,
raises at the issuer of the record, or answers `False`. -/

@[journal_ir] theorem exec_studyExists (w : String) (r : Rec) (env : Env) (sid : Nat) (h : env.sid = some sid) :
    exec w r studyExists env = (env, match env.st.spec.study? sid with
      | some _ => .ret (some true)
      | none => if r.worker == w then .raised .keyError else .ret (some false)) := by
  cases hs : env.st.spec.study? sid <;> cases hw : r.worker == w <;>
    simp [studyExists, journal_ir, h, hs, hw]

/-- `_trial_exists_and_updatable` is `Journal.updatable` -/
@[journal_ir] theorem exec_trialExistsAndUpdatable (w : String) (r : Rec) (env : Env) (tid : Nat) (h : env.tid = some tid) :
    exec w r trialExistsAndUpdatable env = (env, match updatable env.st.spec tid with
      | .ok _ => .ret (some true)
      | .error x => if r.worker == w then .raised x else .ret (some false)) := by
  unfold updatable Spec.writable
  cases hs : env.st.spec.trial? tid with
  | none => cases hw : r.worker == w <;> simp [trialExistsAndUpdatable, journal_ir, h, hs, hw]
  | some t0 => cases hf : t0.state.isFinished <;> cases hw : r.worker == w <;>
      simp [trialExistsAndUpdatable, journal_ir, h, hs, hw, hf]

/-- the body shared by `_apply_set_study_user_attr` and `_apply_set_study_system_attr` -/
theorem interp_mergeStudyAttr (user : Bool) (w : String) (st : JState) (r : Rec) (sid : Nat) (k v : String)
    (hsid : recStudyId? r = some sid) (hattr : recAttr? user r = some (k, v)) :
    interp (block [.act (.setSid .log), .ifCall studyExists (.act (.mergeStudyAttr user user)) .skip]) w st r =
      match st.spec.study? sid with
      | none => reject (r.worker == w) .keyError st
      | some _ => ({ st with spec := st.spec.updStudy sid (fun x =>
          if user then { x with userAttrs := x.userAttrs.set k v }
          else { x with systemAttrs := x.systemAttrs.set k v }) }, none) := by
  cases hw : (r.worker == w) <;> cases h : st.spec.study? sid <;>
    simp [journal_ir, reject, hsid, hattr, hw, h]

/-- the body shared by `_apply_set_trial_intermediate_value`, `_apply_set_trial_user_attr` and
`_apply_set_trial_system_attr`: the statement `a` between the copy and the store turns the local `trial` into `f trial` -/
theorem interp_editTrial (a : Stmt) (f : TrialS → TrialS) (w : String) (st : JState) (r : Rec) (tid : Nat)
    (htid : recTrialId? r = some tid)
    (ha : ∀ (env : Env) t, env.trial = some t → exec w r a env = ({ env with trial := some (f t) }, .next)) :
    interp (block [.act (.setTid .log), .ifCall trialExistsAndUpdatable
        (block [.act .loadTrial, a, .act .storeTrial]) .skip]) w st r =
      match updatable st.spec tid with
      | .error e => reject (r.worker == w) e st
      | .ok _ => ({ st with spec := st.spec.updTrial tid f }, none) := by
  cases hu : updatable st.spec tid with
  | error e => cases hw : (r.worker == w) <;>
      simp [journal_ir, reject, htid, hu, hw]
  | ok t =>
    have h := ((writable_ok_iff _ _ _).1 hu).1
    simp [journal_ir, htid, hu, h, ha, updTrial_const st.spec tid t f h]

/-! ## one equality per op code

`interp_X`: `_apply_X` as written today is the `X` branch of the hand model's `Journal.apply`.
Each handler is executed with the equations of the interpreter (`journal_ir`, the lemmas of the two helpers among
them), once per outcome of its guards; the record's fields and the hand model are unfolded at the concrete record. -/

attribute [local journal_ir] recStudyId? recTrialId? recNewStudy? recAttr? recTmpl? recParam? recState? recValues? recInter?
  Journal.apply reject Rec.worker

theorem interp_createStudy (w : String) (st : JState) (w' name : String) (dirs : List Nat) :
    interp applyCreateStudy w st (.createStudy w' name dirs) = Journal.apply w st (.createStudy w' name dirs) := by
  cases hw : (w' == w) <;> cases hn : st.spec.nameTaken name <;>
    simp [applyCreateStudy, journal_ir, hw, hn, updAt_append_last]
example : (interp applyCreateStudy "A" JState.init (.createStudy "A" "s" [1])).1.spec.studies.length = 1 ∧
    (interp applyCreateStudy "B" (interp applyCreateStudy "A" JState.init (.createStudy "A" "s" [1])).1
      (.createStudy "B" "s" [2])).2 = some .duplicated := by decide +kernel

theorem interp_deleteStudy (w : String) (st : JState) (w' : String) (sid : Nat) :
    interp applyDeleteStudy w st (.deleteStudy w' sid) = Journal.apply w st (.deleteStudy w' sid) := by
  cases hw : (w' == w) <;> cases h : st.spec.study? sid <;>
    simp [applyDeleteStudy, journal_ir, hw, h]
example : (interp applyDeleteStudy "A" JState.init (.deleteStudy "A" 0)).2 = some .keyError ∧
    (interp applyDeleteStudy "B" JState.init (.deleteStudy "A" 0)).2 = none := by decide +kernel

theorem interp_setStudyUserAttr (w : String) (st : JState) (w' : String) (sid : Nat) (k v : String) :
    interp applySetStudyUserAttr w st (.setStudyUserAttr w' sid k v) = Journal.apply w st (.setStudyUserAttr w' sid k v) :=
  interp_mergeStudyAttr true w st _ sid k v rfl rfl

theorem interp_setStudySystemAttr (w : String) (st : JState) (w' : String) (sid : Nat) (k v : String) :
    interp applySetStudySystemAttr w st (.setStudySystemAttr w' sid k v) = Journal.apply w st (.setStudySystemAttr w' sid k v) :=
  interp_mergeStudyAttr false w st _ sid k v rfl rfl

theorem interp_createTrial (w : String) (st : JState) (w' : String) (sid : Nat) (tmpl : Option Template) :
    interp applyCreateTrial w st (.createTrial w' sid tmpl) = Journal.apply w st (.createTrial w' sid tmpl) := by
  cases h : st.spec.study? sid with
  | none => cases hw : (w' == w) <;>
      simp [applyCreateTrial, journal_ir, hw, h]
  | some x =>
    -- `storedRunning` reads the trial just appended
    have ht := trial?_appendTrial_self st.spec (mkTrial sid (st.spec.trialsOf sid).length tmpl) (by cases tmpl <;> simp [mkTrial, h])
    cases hw : (w' == w) <;> cases hs : (mkTrial sid (st.spec.trialsOf sid).length tmpl).state == TState.running <;>
      simp [applyCreateTrial, journal_ir, hw, h, buildTrial_all, ht, hs]
example : (interp applyCreateTrial "A" (interp applyCreateStudy "A" JState.init (.createStudy "A" "s" [1])).1
    (.createTrial "A" 0 none)).1.owned = [("A", 0)] := by decide +kernel

theorem interp_setTrialParam (w : String) (st : JState) (w' : String) (tid : Nat) (name : String) (p : Param) :
    interp applySetTrialParam w st (.setTrialParam w' tid name p) = Journal.apply w st (.setTrialParam w' tid name p) := by
  cases hu : updatable st.spec tid with
  | error e => cases hw : (w' == w) <;>
      simp [applySetTrialParam, journal_ir, hw, hu]
  | ok t =>
    have h := ((writable_ok_iff _ _ _).1 hu).1
    have h' := trial?_some h
    cases hd : firstDistOf st.spec t.study name with
    | none =>
      simp [applySetTrialParam, journal_ir, hu, h, h', hd, setParam, ← updTrial_const st.spec tid t _ h]
    | some d0 =>
      cases hc : d0.compat p.dist <;> cases hw : (w' == w) <;>
        simp [applySetTrialParam, journal_ir, hw, hu, h, h', hd, hc, setParam, ← updTrial_const st.spec tid t _ h]

/-! `_apply_set_trial_state_values` edits the copied trial by three `if` statements; each is one clause of the hand
model's record update, whatever the state in the record (`exec_startBlock`, `exec_completeBlock`, `exec_valuesBlock`:
the statement as `block` leaves it, on an environment that has the trial loaded). -/

section blocks
variable (w w' : String) (tid : Nat) (state : TState) (values : Option (List XVal)) (est : JState)
  (esid etid : Option Nat) (t : TrialS) (fx : Option (String × Dist)) (db : List Ghost)

/-- `if state == TrialState.RUNNING: trial.datetime_start = …; if issued by this worker: own the trial` -/
theorem exec_startBlock :
    exec w (.setTrialStateValues w' tid state values)
      (.ite (.stateIs .running) (.seq (.act .setStart) (.ite .issuedByMe (.act .ownedSet) .skip)) .skip)
      { st := est, sid := esid, tid := some tid, trial := some t, fixed := fx, debt := db } =
    ({ st := { est with owned := if state == .running && w' == w then est.owned.set w tid else est.owned },
       sid := esid, tid := some tid, trial := some { t with hasStart := t.hasStart || state == .running },
       fixed := fx, debt := db }, .next) := by
  cases est; cases t
  cases hs : state == .running <;> cases hw : w' == w <;> simp [journal_ir, hs, hw]

/-- `if state.is_finished(): trial.datetime_complete = …` -/
theorem exec_completeBlock :
    exec w (.setTrialStateValues w' tid state values) (.ite .stateFinished (.act .setComplete) .skip)
      { st := est, sid := esid, tid := etid, trial := some t, fixed := fx, debt := db } =
    ({ st := est, sid := esid, tid := etid, trial := some { t with hasComplete := t.hasComplete || state.isFinished },
       fixed := fx, debt := db }, .next) := by
  cases t
  cases hs : state.isFinished <;> simp [journal_ir, hs]

/-- `if log["values"] is not None: trial.values = log["values"]` -/
theorem exec_valuesBlock :
    exec w (.setTrialStateValues w' tid state values) (.ite .valuesGiven (.act .setValues) .skip)
      { st := est, sid := esid, tid := etid, trial := some t, fixed := fx, debt := db } =
    ({ st := est, sid := esid, tid := etid, trial := some { t with values := values.or t.values },
       fixed := fx, debt := db }, .next) := by
  cases t
  cases values <;> simp [journal_ir]

end blocks

/-- `state == stored state and state == RUNNING` is the hand model's "both are RUNNING" -/
theorem stored_and_running (a b : TState) : ((a == b) && (a == .running)) = (a == .running && b == .running) := by
  cases a <;> cases b <;> rfl

theorem interp_setTrialStateValues (w : String) (st : JState) (w' : String) (tid : Nat) (state : TState)
    (values : Option (List XVal)) :
    interp applySetTrialStateValues w st (.setTrialStateValues w' tid state values) =
      Journal.apply w st (.setTrialStateValues w' tid state values) := by
  cases hu : updatable st.spec tid with
  | error e => cases hw : (w' == w) <;>
      simp [applySetTrialStateValues, journal_ir, hw, hu]
  | ok t =>
    have h := ((writable_ok_iff _ _ _).1 hu).1
    cases hrr : (state == .running && t.state == .running) with
    | true => cases hw : (w' == w) <;>
        simp [applySetTrialStateValues, journal_ir, stored_and_running, hu, h, hrr, hw]
    | false =>
      -- the three blocks run as a whole, before `exec` is unfolded at them
      simp [applySetTrialStateValues, journal_ir, stored_and_running, ↓exec_startBlock, ↓exec_completeBlock,
        ↓exec_valuesBlock, hu, h, hrr, ← updTrial_const st.spec tid t _ h]

theorem interp_setTrialInter (w : String) (st : JState) (w' : String) (tid : Nat) (stp : Int) (v : XVal) :
    interp applySetTrialIntermediateValue w st (.setTrialInter w' tid stp v) = Journal.apply w st (.setTrialInter w' tid stp v) :=
  interp_editTrial (.act .setInter) (fun t => { t with inter := setInter t.inter stp v }) w st _ tid rfl
    (fun env t h => by simp only [journal_ir, h])

theorem interp_setTrialUserAttr (w : String) (st : JState) (w' : String) (tid : Nat) (k v : String) :
    interp applySetTrialUserAttr w st (.setTrialUserAttr w' tid k v) = Journal.apply w st (.setTrialUserAttr w' tid k v) :=
  interp_editTrial (.act (.mergeTrialAttr true true)) (fun t => { t with userAttrs := t.userAttrs.set k v }) w st _ tid rfl
    (fun env t h => by simp only [journal_ir, h, if_true])

theorem interp_setTrialSystemAttr (w : String) (st : JState) (w' : String) (tid : Nat) (k v : String) :
    interp applySetTrialSystemAttr w st (.setTrialSystemAttr w' tid k v) = Journal.apply w st (.setTrialSystemAttr w' tid k v) :=
  interp_editTrial (.act (.mergeTrialAttr false false)) (fun t => { t with systemAttrs := t.systemAttrs.set k v }) w st _ tid rfl
    (fun env t h => by simp only [journal_ir, h, Bool.false_eq_true, if_false])

deriving instance DecidableEq for Stmt

def handlerOf : Rec → Stmt
  | .createStudy .. => applyCreateStudy
  | .deleteStudy .. => applyDeleteStudy
  | .setStudyUserAttr .. => applySetStudyUserAttr
  | .setStudySystemAttr .. => applySetStudySystemAttr
  | .createTrial .. => applyCreateTrial
  | .setTrialParam .. => applySetTrialParam
  | .setTrialStateValues .. => applySetTrialStateValues
  | .setTrialInter .. => applySetTrialIntermediateValue
  | .setTrialUserAttr .. => applySetTrialUserAttr
  | .setTrialSystemAttr .. => applySetTrialSystemAttr

/-- `JournalOperation` numbers its members the way the record type (and the
driver's record parser) does, `apply_logs` tests them in this order and calls these methods, and it
advances `log_number_read` before it dispatches. -/
theorem dispatch_table :
    program.opCodes = [("CREATE_STUDY", 0), ("DELETE_STUDY", 1), ("SET_STUDY_USER_ATTR", 2),
      ("SET_STUDY_SYSTEM_ATTR", 3), ("CREATE_TRIAL", 4), ("SET_TRIAL_PARAM", 5), ("SET_TRIAL_STATE_VALUES", 6),
      ("SET_TRIAL_INTERMEDIATE_VALUE", 7), ("SET_TRIAL_USER_ATTR", 8), ("SET_TRIAL_SYSTEM_ATTR", 9)] ∧
    program.dispatch = [("CREATE_STUDY", "_apply_create_study"), ("DELETE_STUDY", "_apply_delete_study"),
      ("SET_STUDY_USER_ATTR", "_apply_set_study_user_attr"), ("SET_STUDY_SYSTEM_ATTR", "_apply_set_study_system_attr"),
      ("CREATE_TRIAL", "_apply_create_trial"), ("SET_TRIAL_PARAM", "_apply_set_trial_param"),
      ("SET_TRIAL_STATE_VALUES", "_apply_set_trial_state_values"),
      ("SET_TRIAL_INTERMEDIATE_VALUE", "_apply_set_trial_intermediate_value"),
      ("SET_TRIAL_USER_ATTR", "_apply_set_trial_user_attr"), ("SET_TRIAL_SYSTEM_ATTR", "_apply_set_trial_system_attr")] ∧
    program.cursorFirst = true := by
  decide +kernel

def handlerTable : List Stmt :=
  [applyCreateStudy, applyDeleteStudy, applySetStudyUserAttr, applySetStudySystemAttr, applyCreateTrial, applySetTrialParam,
   applySetTrialStateValues, applySetTrialIntermediateValue, applySetTrialUserAttr, applySetTrialSystemAttr]

/-- the if-chain of `apply_logs`, walked once for all ten op codes -/
theorem select_codes : (List.range 10).map program.select = handlerTable.map some := by
  decide +kernel

/-- for every record, the if-chain of `apply_logs` reaches the handler of the record's op code
(first matching arm; enum values looked up in `JournalOperation`) -/
theorem select_handler (r : Rec) : program.select (recOpCode r) = some (handlerOf r) := by
  have h : ∀ k s, k < 10 → handlerTable[k]? = some s → program.select k = some s := by
    intro k s hk hs
    have := congrArg (·[k]?) select_codes
    simp only [List.getElem?_map, List.getElem?_range hk, hs, Option.map_some] at this
    exact Option.some.inj this
  cases r <;> exact h _ _ (by simp only [recOpCode]; decide) rfl

/-- one iteration of the loop body of `apply_logs` (after the cursor update), as
generated from the source, is `Journal.apply` — for every worker, state and record. -/
theorem interpLog_eq (w : String) (st : JState) (r : Rec) :
    interpLog program w st r = Journal.apply w st r := by
  unfold interpLog
  rw [select_handler]
  cases r with
  | createStudy w' name dirs => exact interp_createStudy w st w' name dirs
  | deleteStudy w' sid => exact interp_deleteStudy w st w' sid
  | setStudyUserAttr w' sid k v => exact interp_setStudyUserAttr w st w' sid k v
  | setStudySystemAttr w' sid k v => exact interp_setStudySystemAttr w st w' sid k v
  | createTrial w' sid tmpl => exact interp_createTrial w st w' sid tmpl
  | setTrialParam w' tid name p => exact interp_setTrialParam w st w' tid name p
  | setTrialStateValues w' tid state values => exact interp_setTrialStateValues w st w' tid state values
  | setTrialInter w' tid stp v => exact interp_setTrialInter w st w' tid stp v
  | setTrialUserAttr w' tid k v => exact interp_setTrialUserAttr w st w' tid k v
  | setTrialSystemAttr w' tid k v => exact interp_setTrialSystemAttr w st w' tid k v

/-- `apply_logs` as generated (cursor first, abort at the first exception) is
`Journal.applyLogs`. -/
theorem interpLogs_eq (w : String) (st : JState) (rs : List Rec) :
    interpLogs program w st rs = Journal.applyLogs w st rs := by
  induction rs generalizing st with
  | nil => rfl
  | cons r rs ih =>
    have hc : program.cursorFirst = true := dispatch_table.2.2
    simp only [interpLogs, applyLogs, hc, if_true, bump, interpLog_eq]
    split <;> simp_all

theorem interpAll_eq (w : String) (st : JState) (rs : List Rec) :
    interpAll program w st rs = Journal.applyAll w st rs := by
  simp only [interpAll, applyAll, bump, interpLog_eq]

/-- `_sync_with_backend` over the generated `apply_logs` is `Journal.sync` -/
theorem syncLogs_eq (w : String) (st : JState) (log : List Rec) (upto : Nat) :
    syncLogs program w st log upto = Journal.sync w st log upto := by
  simp only [syncLogs, sync, interpLogs_eq]

/-- the generated handlers never leave the replica representation: the marker `unrepresentable`
(unpaid id-map maintenance, an unbound local, an id stored out of range) is never the answer -/
theorem gen_representable (w : String) (st : JState) (r : Rec) :
    (interpLog program w st r).2 ≠ some unrepresentable := by
  rw [interpLog_eq, (apply_spec w st r).2]
  split
  · intro h; rcases rejects_err _ _ _ h with h | h | h | h <;> cases h
  · simp

/-- whichever worker runs the generated handlers over a log, from
whatever local bookkeeping, it derives the same studies and trials. -/
theorem gen_issuer_independent (w w' : String) (st st' : JState) (rs : List Rec) (h : st.spec = st'.spec) :
    (interpAll program w st rs).spec = (interpAll program w' st' rs).spec := by
  rw [interpAll_eq, interpAll_eq]; exact C06.issuer_independent w w' st st' rs h
example : (JState.init).spec = (restore (interpAll program "A" JState.init [])).spec := by decide +kernel

/-- any split of a log into batches gives the same replica. -/
theorem gen_replay_is_fold (w : String) (st : JState) (l₁ l₂ : List Rec) :
    interpAll program w st (l₁ ++ l₂) = interpAll program w (interpAll program w st l₁) l₂ := by
  simp only [interpAll_eq]; exact C06.replay_is_fold w st l₁ l₂

/-- the generated handler raises only at the issuer of the record,
and a record it rejects changes no worker's public state. -/
theorem gen_rejected_changes_nothing (w : String) (st : JState) (r : Rec) (e : Err)
    (h : (interpLog program w st r).2 = some e) :
    r.worker = w ∧ (interpLog program w st r).1.spec = st.spec ∧
      ∀ w' (st' : JState), st'.spec = st.spec → (interpLog program w' st' r).1.spec = st'.spec := by
  simp only [interpLog_eq] at h ⊢
  exact C06.rejected_changes_nothing w st r e h
example : (interpLog program "B" (interpAll program "B" JState.init (C06.demoLog.take 1)) (C06.demoLog.getD 1 default)).2 =
    some .duplicated := by decide +kernel

/-- resume after error: a sync over the generated `apply_logs` — ended
normally or aborted by an error for one of this worker's own records — leaves the replica holding
exactly the replay of the prefix it has read. -/
theorem gen_sync_keeps_synced (w : String) (log : List Rec) (upto : Nat) (st : JState)
    (h : C06.Synced log st) : C06.Synced log (syncLogs program w st log upto).1 := by
  rw [syncLogs_eq]; exact C06.sync_keeps_synced w log upto st h
example : C06.Synced C06.demoLog JState.init := C06.init_synced _

/-- restoring a snapshot taken by any worker after `k` records and running
the generated handlers over the tail equals running them over the whole log. -/
theorem gen_snapshot_plus_tail (w by_ : String) (log : List Rec) (k : Nat) :
    (interpAll program w (restore (interpAll program by_ JState.init (log.take k))) (log.drop k)).spec =
      (interpAll program w JState.init log).spec := by
  simp only [interpAll_eq]; exact C06.snapshot_plus_tail w by_ log k

/-- the public state the generated handlers derive from any log is the
state the storage contract reaches by the calls the records stand for. -/
theorem gen_replay_refines_spec (w : String) (st : JState) (rs : List Rec) (h : JInv st.spec) :
    (interpAll program w st rs).spec = C01.after st.spec (C06.opsOf st.spec rs) := by
  rw [interpAll_eq, (C06.applyAll_pub w st rs).1]
  exact C06.replay_refines_spec st.spec rs h
example : JInv (JState.init).spec := jinv_init

/-- the error the generated handler raises at the issuer is the contract's error for that call -/
theorem gen_issuer_error_is_contract_error (rs : List Rec) (r : Rec) :
    let st := interpAll program r.worker JState.init rs
    (interpLog program r.worker st r).2 =
      errOf (Storage.step st.spec (opOf r ((interpLog program r.worker st r).2 == some .valueError))).2 := by
  intro st
  have hs : st.spec = C06.pubReplay Storage.init rs := by
    show (interpAll program r.worker JState.init rs).spec = _
    rw [interpAll_eq, (C06.applyAll_pub _ _ _).1]; rfl
  rw [interpLog_eq, apply_err_own _ st r rfl, hs]
  exact C06.issuer_error_is_contract_error rs r

/-! ## non-vacuity: the generated handlers run, reject at the issuer only, and own trials -/

example : (interpLogs program "B" JState.init C06.demoLog).2 = some .duplicated := by rw [interpLogs_eq]; decide +kernel
example : (interpLogs program "A" JState.init C06.demoLog).2 = some .updateFinished := by rw [interpLogs_eq]; decide +kernel
example : (interpLogs program "C" JState.init C06.demoLog).2 = none := by rw [interpLogs_eq]; decide +kernel
example : (interpLogs program "C" JState.init C06.demoLog).1.cursor = 6 := by rw [interpLogs_eq]; decide +kernel
example : (interpAll program "A" JState.init C06.demoLog).spec.trials.length = 1 := by rw [interpAll_eq]; decide +kernel
example : (interpAll program "A" JState.init C06.demoLog).owned = [("A", 0)] := by rw [interpAll_eq]; decide +kernel
example : (interpAll program "A" JState.init C06.demoLog).lastCreated = some 0 := by rw [interpAll_eq]; decide +kernel
example : (interpAll program "B" JState.init C06.demoLog).owned = [] := by rw [interpAll_eq]; decide +kernel
/-- a log with every op code (template trial, parameter conflict rejected at its issuer, claim of a
RUNNING trial answered False, deletion) -/
def demoAll : List Rec :=
  [ .createStudy "A" "s" [1], .setStudyUserAttr "A" 0 "k" "1", .setStudySystemAttr "B" 0 "k" "2",
    .createTrial "A" 0 none,
    .createTrial "B" 0 (some ⟨.waiting, none, [("x", ⟨"1/2", ⟨0, false, "d"⟩⟩)], [], [], [], false, false⟩),
    .setTrialParam "A" 0 "x" ⟨"1", ⟨1, false, "e"⟩⟩,            -- incompatible with trial 1's "x": rejected at A
    .setTrialParam "A" 0 "y" ⟨"1", ⟨1, false, "e"⟩⟩,
    .setTrialStateValues "B" 1 .running none, .setTrialStateValues "A" 1 .running none,  -- A's claim fails
    .setTrialInter "A" 0 3 (.fin 1), .setTrialUserAttr "A" 0 "u" "1", .setTrialSystemAttr "A" 0 "s" "1",
    .setTrialStateValues "A" 0 .complete (some [.fin 2]),
    .deleteStudy "B" 0, .setTrialUserAttr "A" 0 "u" "2" ]                                -- trial is gone: KeyError at A
example : C06.demoLog.map recOpCode = [0, 0, 4, 6, 8, 4] ∧
    demoAll.map recOpCode = [0, 2, 3, 4, 4, 5, 5, 6, 6, 7, 8, 9, 6, 1, 8] := by decide +kernel
example : (interpLogs program "A" JState.init demoAll).2 = some .valueError := by rw [interpLogs_eq]; decide +kernel
example : (interpLogs program "A" JState.init demoAll).1.cursor = 6 := by rw [interpLogs_eq]; decide +kernel
set_option maxRecDepth 20000 in
example : (interpAll program "A" JState.init demoAll).owned = [] ∧
    (interpAll program "B" JState.init demoAll).owned = [("B", 1)] := by simp only [interpAll_eq]; decide +kernel
set_option maxRecDepth 20000 in
example : (interpAll program "A" JState.init demoAll).spec = (interpAll program "B" JState.init demoAll).spec :=
  gen_issuer_independent "A" "B" _ _ demoAll rfl
set_option maxRecDepth 20000 in
example : (interpLog program "A" (interpAll program "A" JState.init (demoAll.take 14)) (demoAll.getD 14 default)).2 =
    some .keyError := by simp only [interpAll_eq, interpLog_eq]; decide +kernel

end OptunaVerif.C06Gen
