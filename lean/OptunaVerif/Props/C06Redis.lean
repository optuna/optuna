import OptunaVerif.Lemmas.JournalRedis
import OptunaVerif.Props.C06
/-!
# C06 / C03 / C01 — the Redis journal backend is one totally ordered, gap-checked log

Theorems about `Model/JournalRedis.lean` (small-step model of `JournalRedisBackend`: every Redis command is one
atomic step of one worker), for **every** number of workers, every interleaving, every crash point and both
`use_cluster` modes.  A state is *reachable* when it is `run cfg (init n) evs` for some event list.

"Acknowledged" is taken at its strongest: a record counts as acknowledged from the moment its `SET` / `EVAL`
has been executed (the call returns right after its last command), and a read "begins" with its first command
(the `GET` of the counter) — so everything acknowledged before the *call* began is covered a fortiori.
-/
namespace OptunaVerif.C06Redis
open OptunaVerif.JournalRedis

variable {ρ : Type}

/-- in every reachable state (1) the counter is ≥ -1, (2) no log key exists outside
`0..counter`, (3) in non-cluster mode every key `0..counter` is present — there is never a gap —, (4) in
cluster mode every absent key within `0..counter` is the pending `SET` of exactly one worker (who took that
number with `INCR`); and in every later state (5) the counter has not gone back and (6) a key that held a
record still holds that same record. -/
theorem redis_log_total_order (cfg : Cfg) (n : Nat) (evs more : List (Ev ρ)) :
    let st := run cfg (init n) evs
    let st' := run cfg st more
    (∀ c, st.db.counter = some c → -1 ≤ c) ∧
    (∀ k r, st.db.log k = some r → ∃ c, st.db.counter = some c ∧ 0 ≤ k ∧ k ≤ c) ∧
    (cfg.cluster = false → ∀ c, st.db.counter = some c → ∀ k, 0 ≤ k → k ≤ c → ∃ r, st.db.log k = some r) ∧
    (∀ c k, st.db.counter = some c → 0 ≤ k → k ≤ c → st.db.log k = none →
        ∃ w d r rest, pcOf st w = some (.appSet d k r rest) ∧
          ∀ w' d' r' rest', pcOf st w' = some (.appSet d' k r' rest') → w' = w) ∧
    (∀ c, st.db.counter = some c → ∃ c', st'.db.counter = some c' ∧ c ≤ c') ∧
    (∀ k r, st.db.log k = some r → st'.db.log k = some r) := by
  intro st st'
  have hinv : Inv cfg st := inv_reachable cfg n evs
  have hext : Ext st.db st'.db := ext_run cfg st more hinv
  refine ⟨hinv.cnt, hinv.range, fun hcl c hc k => hinv.no_gap hcl c k hc, ?_, hext.cnt, hext.log⟩
  intro c k hc h0 hle hk
  obtain ⟨w, d, r, rest, hw⟩ := hinv.owner c k hc h0 hle hk
  exact ⟨w, d, r, rest, hw, fun w' d' r' rest' hw' => hinv.uniq _ _ _ _ _ _ _ _ _ hw' hw⟩

/-- non-vacuity: cluster mode, three workers; worker 0 has taken number 0 and not yet SET it, worker 1 has
appended record 11 as number 1: a gap with its one owner, keys within range -/
example :
    let st := (run { cluster := true } (init 3)
      [.call 0 (.append [10]), .step 0, .step 0, .call 1 (.append [11]), .step 1, .step 1, .step 1] : St Nat)
    st.db.counter = some 1 ∧ st.db.log 0 = none ∧ st.db.log 1 = some 11 ∧
      pcOf st 0 = some (.appSet [] 0 10 []) := by decide +kernel

/-- the number `INCR` (or the script) is about to return is fresh: its key is
absent and no worker has a `SET` pending for it — so two records can never meet in one key. -/
theorem redis_number_handed_out_once (cfg : Cfg) (n : Nat) (evs : List (Ev ρ)) (c : Int) :
    let st := run cfg (init n) evs
    st.db.counter = some c →
      st.db.log (c + 1) = none ∧ ∀ v d r rest, pcOf st v ≠ some (.appSet d (c + 1) r rest) := by
  intro st hc
  have hinv : Inv cfg st := inv_reachable cfg n evs
  refine ⟨hinv.fresh c hc, ?_⟩
  intro v d r rest hv
  obtain ⟨_, ⟨c', hc', _, hle⟩, _, _⟩ := hinv.loc v _ hv
  rw [hc] at hc'; cases hc'; omega

example : (run { cluster := true } (init 2) [.call 0 (.append [10]), .step 0, .step 0] : St Nat).db.counter = some 0 := by
  decide +kernel

/-- let worker `w` be about to issue the first command of `read_logs(k)` in the
reachable state `s₀`; let the call return `l` (at the `step w` after any events `mid` in which `w` starts no other
call).  Then there is `m` (the counter value the reader fetched) such that `m ≥` the counter of `s₀` — hence `m`
covers every record acknowledged before the read began, see `redis_append_ack_durable` — and `l` is exactly the
records `k..m` in order: `|l| = m + 1 - k` and `l[i]` is the value of key `k+i` in the store (whole records: a
Redis value is stored whole). -/
theorem redis_read_is_prefix_slice (cfg : Cfg) (n : Nat) (pre mid : List (Ev ρ)) (w k : Nat) (l : List ρ) :
    let s₀ := run cfg (init n) pre
    let fin := step cfg (run cfg s₀ mid) (.step w)
    pcOf s₀ w = some (.rdCounter k) → NoCall w mid → fin.2.ret = some (.read l) →
    ∃ m : Int, (∀ c, s₀.db.counter = some c → c ≤ m) ∧ l.length = (m + 1 - k).toNat ∧
      ∀ i (h : i < l.length), fin.1.db.log ((k : Int) + (i : Nat)) = some l[i] := by
  intro s₀ fin hpc hnc hret
  exact reader_returns_slice cfg w k mid s₀ (inv_reachable cfg n pre) hpc hnc l hret

/-- the schedule of `clusterSlowWriter`: the reader meets the gap of a slow writer, polls, and returns both
records in order once the slow writer has SET its own -/
example :
    let pre : List (Ev Nat) := [.call 0 (.append [10]), .step 0, .step 0, .call 1 (.append [11]), .step 1, .step 1, .step 1,
                                .call 2 (.read 0)]
    let mid : List (Ev Nat) := [.step 2, .step 2, .step 2, .step 0, .step 2]
    pcOf (run { cluster := true } (init 3) pre) 2 = some (.rdCounter 0) ∧
      (step { cluster := true } (run { cluster := true } (run { cluster := true } (init 3) pre) mid) (.step 2)).2.ret
        = some (.read [10, 11]) := by decide +kernel

/-- a record that is in the store under number `a` when a `read_logs(k)` with
`k ≤ a` issues its first command is returned by that read, at position `a - k`. -/
theorem redis_append_ack_durable (cfg : Cfg) (n : Nat) (pre mid : List (Ev ρ)) (w k : Nat) (l : List ρ) (a : Int) (r : ρ) :
    let s₀ := run cfg (init n) pre
    let fin := step cfg (run cfg s₀ mid) (.step w)
    pcOf s₀ w = some (.rdCounter k) → NoCall w mid → fin.2.ret = some (.read l) →
    s₀.db.log a = some r → (k : Int) ≤ a → l[(a - k).toNat]? = some r := by
  intro s₀ fin hpc hnc hret ha hka
  have hinv := inv_reachable cfg n pre
  obtain ⟨c, hc, _, hle⟩ := hinv.range a r ha
  rw [← (reader_covers cfg w k mid s₀ hinv hpc hnc l hret a c hc hka hle).2]
  exact (ext_run cfg s₀ _ hinv).log a r ha

/-- an `append_logs(recs)` that returns has stored every record of
`recs`, in the order given, under strictly increasing numbers (so a later complete read returns them, by
`redis_append_ack_durable`, in that order). -/
theorem redis_append_returns_stored_in_order (cfg : Cfg) (n : Nat) (pre mid : List (Ev ρ)) (w : Nat) (recs : List ρ)
    (d : List (Int × ρ)) :
    let s₀ := run cfg (init n) pre
    let fin := step cfg (run cfg s₀ mid) (.step w)
    pcOf s₀ w = some (.appSetnx recs) → NoCall w mid → fin.2.ret = some (.appended d) →
    d.map Prod.snd = recs ∧ d.Pairwise (fun x y => x.1 < y.1) ∧ ∀ p ∈ d, fin.1.db.log p.1 = some p.2 := by
  intro s₀ fin hpc hnc hret
  exact writer_returns_stored cfg w recs mid s₀ (inv_reachable cfg n pre) hpc hnc d hret

/-- two writers interleaved in non-cluster mode: worker 0's records 10, 12 get the numbers 0 and 2 -/
example :
    let pre : List (Ev Nat) := [.call 0 (.append [10, 12]), .call 1 (.append [11])]
    let mid : List (Ev Nat) := [.step 0, .step 0, .step 1, .step 1]
    pcOf (run { cluster := false } (init 2) pre) 0 = some (.appSetnx [10, 12]) ∧
      (step { cluster := false } (run { cluster := false } (run { cluster := false } (init 2) pre) mid) (.step 0)).2.ret
        = some (.appended [(0, 10), (2, 12)]) := by decide +kernel

/-- one poll: a reader whose next key is absent neither skips it nor returns: its
program counter, its partial result and the store are unchanged by the poll (which may repeat without bound). -/
theorem cluster_gap_reader_waits (cfg : Cfg) (st : St ρ) (w : Nat) (wk : Worker ρ) (k : Nat) (cur mx : Int) (acc : List ρ)
    (hw : st.ws[w]? = some wk) (hl : wk.dead = false) (hpc : wk.pc = .rdGet k cur mx acc) (hgap : st.db.log cur = none) :
    (step cfg st (.step w)).2 = ⟨.getLog cur none, none⟩ ∧ (step cfg st (.step w)).1.db.log = st.db.log ∧
      pcOf (step cfg st (.step w)).1 w = some (.rdGet k cur mx acc) := by
  rw [step_step_live cfg st w wk hw hl, hpc]
  simp [stepW, hgap, pcOf, updAt_getElem?, hw]

/-- in non-cluster mode a reader never meets an absent key: in every reachable state
the key a reader's loop is about to `GET` is present.  (Consequence, not part of the statement: `read_logs(k)`
finishes after `m - k + 2` commands whatever the others do.) -/
theorem noncluster_read_wait_free (n : Nat) (evs : List (Ev ρ)) (w k : Nat) (cur mx : Int) (acc : List ρ) :
    let st := run { cluster := false } (init n) evs
    pcOf st w = some (.rdGet k cur mx acc) → ∃ r, st.db.log cur = some r := by
  intro st hpc
  have hinv : Inv { cluster := false } st := inv_reachable _ n evs
  obtain ⟨h1, h2, ⟨c, hc, hle⟩, _, _⟩ := hinv.loc w _ hpc
  exact hinv.no_gap rfl c cur hc (by omega) (by omega)

example : pcOf (run { cluster := false } (init 2)
    [.call 0 (.append [10]), .step 0, .step 0, .call 1 (.read 0), .step 1] : St Nat) 1 = some (.rdGet 0 0 0 []) := by decide +kernel

/-- in a reachable state let worker `v` be dead between its `INCR` (which
returned `g`) and its `SET`.  Then key `g` stays absent for ever, and no `read_logs(k)` with `k ≤ g` that issues
its first command from now on ever returns — whatever the other workers do, however long it polls. -/
theorem cluster_crash_gap_blocks_readers (cfg : Cfg) (n : Nat) (pre mid : List (Ev ρ)) (v : Nat) (wk : Worker ρ)
    (d : List (Int × ρ)) (g : Int) (r : ρ) (rest : List ρ) (w k : Nat) (l : List ρ) :
    let s₀ := run cfg (init n) pre
    s₀.ws[v]? = some wk → wk.dead = true → wk.pc = .appSet d g r rest →
    (∀ more, (run cfg s₀ more).db.log g = none) ∧
    (pcOf s₀ w = some (.rdCounter k) → (k : Int) ≤ g → NoCall w mid →
      (step cfg (run cfg s₀ mid) (.step w)).2.ret ≠ some (.read l)) := by
  intro s₀ hv hd hpc
  have hinv := inv_reachable cfg n pre
  have hgap := dead_gap_never_filled cfg s₀ hinv v wk hv hd d g r rest hpc
  refine ⟨hgap, ?_⟩
  intro hw hkg hnc hret
  -- `g` is within `0..counter`, so the read would have returned key `g`
  have hp := hinv.loc v wk.pc (pcOf_eq hv)
  rw [hpc] at hp
  obtain ⟨_, ⟨c, hc, _, hle⟩, _, _⟩ := hp
  obtain ⟨hi, h1⟩ := reader_covers cfg w k mid s₀ hinv hw hnc l hret g c hc hkg hle
  rw [hgap, eq_comm, List.getElem?_eq_none_iff] at h1
  omega

/-- what `use_cluster=True` costs today: three workers; writer 0 dies
between `INCR` and `SET`; writer 1 then appends record 11 and IS acknowledged (number 1); reader 2 asks for the whole
log, learns the counter 1 and polls key 0: after 6 polls it is still there, nothing was returned to it, the
acknowledged record 11 is in the store but unreachable through `read_logs(0)` — and (second part) whatever happens
after reader 2 has entered `read_logs(0)` (any events of any workers, any number of polls), the call never returns. -/
theorem cluster_crash_gap_blocks_readers_witness :
    (pcOf (clusterCrashGap 6).final 2 = some (.rdGet 0 0 1 []) ∧
      (clusterCrashGap 6).final.db.log 0 = none ∧ (clusterCrashGap 6).final.db.log 1 = some 11 ∧
      (clusterCrashGap 6).obs.map (·.ret) =
        [none, none, none, none, none, none, none, some (.appended [(1, 11)]), none, none, none, none, none, none, none, none]) ∧
    (∀ (mid : List (Ev Nat)) (l : List Nat), NoCall 2 mid →
        (step { cluster := true } (run { cluster := true } (run { cluster := true } (init 3) clusterCrashGapBase) mid) (.step 2)).2.ret
          ≠ some (.read l)) := by
  refine ⟨by decide, ?_⟩
  intro mid l hnc
  have h := cluster_crash_gap_blocks_readers (ρ := Nat) { cluster := true } 3 clusterCrashGapBase mid 0
    { pc := .appSet [] 0 10 [], dead := true } [] 0 10 [] 2 0 l (by decide) rfl rfl
  exact h.2 (by decide) (by simp) hnc

/-- the same schedule in non-cluster mode: the dying writer's record is either wholly there or not at all, the
reader returns both records at once -/
theorem noncluster_crash_leaves_no_gap_witness :
    nonClusterCrash.obs.map (·.ret) =
      [none, none, some (.appended [(0, 10)]), none, none, none, some (.appended [(1, 11)]), none, none, none,
       some (.read [10, 11])] := by decide +kernel

/-- the official log (records of the keys 0, 1, 2, … up to the counter or the first
gap) of a reachable state is a prefix of the official log of every later state. -/
theorem redis_official_log_grows (cfg : Cfg) (n : Nat) (evs more : List (Ev ρ)) :
    officialLog (run cfg (init n) evs).db <+: officialLog (run cfg (run cfg (init n) evs) more).db := by
  have hinv := inv_reachable cfg n evs
  exact officialLog_mono (inv_run cfg _ more hinv) (ext_run cfg _ more hinv)

example : officialLog (clusterSlowWriter.final.db) = [10, 11] := by decide +kernel

/-- a replica that has replayed the records `p` of the keys `0..k-1` (`k` = its
`log_number_read`) and whose `read_logs(k)` returns `l` has now replayed `p ++ l`, a prefix of the official log;
and feeding `l` to `apply_logs` is exactly `Journal.sync` against that log with `k + |l|` records visible — so the
theorems of `Props/C06.lean` (replay is a fold, issuer independence, resumption, snapshot + tail) apply to the
Redis backend as they do to the file backend. -/
theorem redis_sync_refines_journal (cfg : Cfg) (n : Nat) (pre mid : List (Ev Journal.Rec)) (w k : Nat)
    (l p : List Journal.Rec) (wid : String) (js : Journal.JState) :
    let s₀ := run cfg (init n) pre
    let fin := step cfg (run cfg s₀ mid) (.step w)
    pcOf s₀ w = some (.rdCounter k) → NoCall w mid → fin.2.ret = some (.read l) →
    (∀ i (h : i < p.length), s₀.db.log (i : Nat) = some p[i]) → p.length = k → js.cursor = k →
    (p ++ l) <+: officialLog fin.1.db ∧
      Journal.sync wid js (officialLog fin.1.db) (k + l.length) = Journal.applyLogs wid js l := by
  intro s₀ fin hpc hnc hret hp hk hcur
  have hinv := inv_reachable cfg n pre
  obtain ⟨m, _, _, hsl⟩ := reader_returns_slice cfg w k mid s₀ hinv hpc hnc l hret
  have hfin : fin.1 = run cfg s₀ (mid ++ [.step w]) := (run_snoc ..).symm
  have hinv' : Inv cfg fin.1 := by rw [hfin]; exact inv_run cfg _ _ hinv
  have hext : Ext s₀.db fin.1.db := by rw [hfin]; exact ext_run cfg _ _ hinv
  have hp' : Slice fin.1.db.log 0 p := by
    intro i hi
    have := hext.log _ _ (hp i hi)
    simpa using this
  have hpre : (p ++ l) <+: officialLog fin.1.db :=
    slice_prefix_official hinv' _ (slice_append.2 ⟨hp', by rw [hk, Int.zero_add]; exact hsl⟩)
  refine ⟨hpre, ?_⟩
  obtain ⟨t, ht⟩ := hpre
  unfold Journal.sync
  rw [← ht, hcur]
  have e1 : ((p ++ l ++ t).take (k + l.length)) = p ++ l := by
    rw [List.take_append_of_le_length (by simp [hk])]
    exact List.take_of_length_le (by simp [hk])
  rw [e1, ← hk, List.drop_left]

/-- two replicas (any workers, at any two moments of one run) that have replayed the
same number of records of the Redis log see the same studies and trials. -/
theorem redis_workers_converge (cfg : Cfg) (n : Nat) (evs more : List (Ev Journal.Rec)) (p₁ p₂ : List Journal.Rec)
    (w₁ w₂ : String) :
    p₁ <+: officialLog (run cfg (init n) evs).db → p₂ <+: officialLog (run cfg (run cfg (init n) evs) more).db →
    p₁.length = p₂.length →
    (Journal.applyAll w₁ Journal.JState.init p₁).spec = (Journal.applyAll w₂ Journal.JState.init p₂).spec := by
  intro h1 h2 hlen
  have h1' := h1.trans (redis_official_log_grows cfg n evs more)
  have : p₁ = p₂ := (List.prefix_of_prefix_length_le h1' h2 (by omega)).eq_of_length hlen
  subst this
  exact C06.issuer_independent w₁ w₂ _ _ p₁ rfl

/-- non-vacuity of the refinement: a `create_study` record appended through the Redis model and read back by
another worker is what `Journal.sync` consumes -/
example :
    let rec0 : Journal.Rec := .createStudy "w0" "s" [0]
    let pre : List (Ev Journal.Rec) := [.call 0 (.append [rec0]), .step 0, .step 0, .call 1 (.read 0)]
    pcOf (run { cluster := false } (init 2) pre) 1 = some (.rdCounter 0) ∧
      (step { cluster := false } (run { cluster := false } (run { cluster := false } (init 2) pre) [.step 1]) (.step 1)).2.ret
        = some (.read [rec0]) := by decide +kernel

/-- `save_snapshot` / `load_snapshot` never touch the counter or a log key, the log commands
never touch the snapshot key, and `load_snapshot` returns the value of the last `SET` of the snapshot key. -/
theorem snapshot_frame (cfg : Cfg) (db : Redis ρ) (pc : PC ρ) :
    ((∃ s, pc = .snapSet s) ∨ pc = .snapGet →
        (stepW cfg db pc).1.counter = db.counter ∧ (stepW cfg db pc).1.log = db.log) ∧
    ((∀ s, pc ≠ .snapSet s) → (stepW cfg db pc).1.snap = db.snap) ∧
    (∀ s, pc = .snapSet s → (stepW cfg db pc).1.snap = some s) ∧
    (pc = .snapGet → (stepW cfg db pc).2.2.ret = some (.snapLoaded db.snap)) := by
  refine ⟨?_, ?_, ?_, ?_⟩
  · rintro (⟨s, rfl⟩ | rfl) <;> exact ⟨rfl, rfl⟩
  · intro h
    cases pc with
    | snapSet s => exact absurd rfl (h s)
    | appSetnx recs => cases hc : db.counter <;> simp [stepW, hc]
    | rdCounter k => cases hc : db.counter <;> simp only [stepW, hc] <;> try split <;> rfl
    | rdGet k cur mx acc => cases hl : db.log cur <;> simp only [stepW, hl] <;> try split <;> rfl
    | _ => rfl
  · rintro s rfl; rfl
  · rintro rfl; rfl

example : ((run { cluster := false } (init 2)
    [.call 0 (.saveSnapshot 7), .step 0, .call 1 .loadSnapshot] : St Nat).db.snap) = some 7 := by decide +kernel

end OptunaVerif.C06Redis
