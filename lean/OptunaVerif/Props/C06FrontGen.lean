import OptunaVerif.Generated.JournalFront
import OptunaVerif.Generated.JournalHandlers
import OptunaVerif.Props.C06Gen
import OptunaVerif.Props.C03
import OptunaVerif.Lemmas.StepAnswer
/-!
# C06 (translator tie, front end) — a `JournalStorage` call IS the contract call

`Generated/JournalFront.lean` is regenerated on every run by `verif/translators/tjournalfront.py` from the
PUBLIC methods of `JournalStorage` (optuna/storages/journal/_storage.py): for every writer the statements
that build its record, the `JournalOperation` member, the step sequences before / inside / after
`with self._thread_lock:`; for every getter its sync + read; `__getstate__` / `__setstate__` /
`restore_replay_result` / `_write_log` / `_sync_with_backend` as tables.

Proved here (all workers, all replica states reachable by logs, any records of other workers in between):
* `front_builds` — the record a generated writer appends is the record of `Model/Journal.lean` for that call;
* `front_disciplined` — the replay result is touched only inside the lock, after write+sync / sync;
* `front_record_roundtrip` — that record, applied by the GENERATED handlers (`Generated/JournalHandlers`,
  `C06Gen.interpLogs_eq`), raises the contract's error at the caller and leaves the contract's state
  (composition of `C06Gen`, `Journal.apply_refines_step` of `Lemmas/JournalRefine.lean` and
  `C03.JournalLin.journal_log_linearizes`);
* `applyLogs_own`, `frontCall_spec` — what the sync that reads the caller's own record first leaves at the replica
  (answer, public state, cursor, the caller's bookkeeping), with no invariant assumed; the return expressions are read
  off it: `front_create_new_trial_returns_own_id`, `front_claim_answer`, `front_unit_answers`,
  `front_create_new_study_returns_id_partial` (+ the witness of what is false);
* `front_getter_is_contract_read`; `pickle_regenerates_worker_id`; `restore_table`.
-/
namespace OptunaVerif.C06FrontGen
open OptunaVerif.Storage OptunaVerif.Journal OptunaVerif.JournalFrontIR
open OptunaVerif.Generated.JournalFront

abbrev opCodes := OptunaVerif.Generated.JournalHandlers.program.opCodes

def recOf (w : String) : Op → Option Rec
  | .createStudy n d => some (.createStudy w n d)
  | .deleteStudy sid => some (.deleteStudy w sid)
  | .setStudyUserAttr sid k v => some (.setStudyUserAttr w sid k v)
  | .setStudySystemAttr sid k v => some (.setStudySystemAttr w sid k v)
  | .createTrial sid t _ => some (.createTrial w sid t)
  | .setTrialParam tid n p _ => some (.setTrialParam w tid n p)
  | .setTrialStateValues tid st vs => some (.setTrialStateValues w tid st vs)
  | .setTrialInter tid s v => some (.setTrialInter w tid s v)
  | .setTrialUserAttr tid k v => some (.setTrialUserAttr w tid k v)
  | .setTrialSystemAttr tid k v => some (.setTrialSystemAttr w tid k v)
  | _ => none

/-- what the callers of `create_new_trial` guarantee of a template (a `FrozenTrial`): `values` is not the
empty list (its `.value` would raise) and the parameter names are the keys of a dict -/
def frontOK : Op → Bool
  | .createTrial _ (some t) _ => t.values != some [] && decide ((t.params.map (·.1)).Nodup)
  | _ => true

def frontRec (w : String) (op : Op) : Option Rec := frontRecOf program opCodes w op

theorem get?_map_dist (all : AList Param) (k : String) (p : Param)
    (hn : (all.map (·.1)).Nodup) (hm : (k, p) ∈ all) :
    AList.get? (all.map (fun q => (q.1, q.2.dist))) k = some p.dist := by
  induction all with
  | nil => simp at hm
  | cons a rest ih =>
    obtain ⟨k', p'⟩ := a
    simp only [List.map_cons, List.nodup_cons] at hn
    simp only [List.map_cons, AList.get?]
    rcases List.mem_cons.1 hm with h | h
    · cases h; simp
    · have hne : k' ≠ k := by
        intro he; subst he
        exact hn.1 (List.mem_map.2 ⟨(k', p), h, rfl⟩)
      simp only [hne, if_false]
      exact ih hn.2 h

theorem mapM_params (all ps : AList Param) (hn : (all.map (·.1)).Nodup) (hsub : ∀ q ∈ ps, q ∈ all) :
    (ps.map (fun p => (p.1, p.2.internal))).mapM
      (fun p => (AList.get? (all.map (fun q => (q.1, q.2.dist))) p.1).map (fun ds => (p.1, (⟨p.2, ds⟩ : Param)))) = some ps := by
  induction ps with
  | nil => rfl
  | cons a rest ih =>
    obtain ⟨k, p⟩ := a
    have h1 := get?_map_dist all k p hn (hsub _ (by simp))
    have h2 := ih (fun q hq => hsub q (by simp [hq]))
    simp only [List.map_cons, List.mapM_cons, h1, Option.map_some, h2]
    rfl


def writerBody : Op → Option Method
  | .createStudy .. => some m_create_new_study | .deleteStudy .. => some m_delete_study
  | .setStudyUserAttr .. => some m_set_study_user_attr | .setStudySystemAttr .. => some m_set_study_system_attr
  | .createTrial .. => some m_create_new_trial | .setTrialParam .. => some m_set_trial_param
  | .setTrialStateValues .. => some m_set_trial_state_values | .setTrialInter .. => some m_set_trial_intermediate_value
  | .setTrialUserAttr .. => some m_set_trial_user_attr | .setTrialSystemAttr .. => some m_set_trial_system_attr
  | _ => none

theorem select_writer (op : Op) : (writerOf op).bind program.method? = writerBody op := by
  cases op <;> rfl

theorem frontRec_eq (w : String) (op : Op) :
    frontRec w op = (writerBody op).bind (fun m => buildRec opCodes m w op) := by
  unfold frontRec frontRecOf; rw [select_writer]

/-- `create_new_trial` passes `CREATE_TRIAL` (op code 4) to `_write_log`: its record is what `decodeRec 4` reads back from
the fields its statements logged -/
theorem buildRec_createTrial (w : String) (op : Op) :
    buildRec opCodes m_create_new_trial w op = (runFs op m_create_new_trial.log []).bind (decodeRec 4 w) := by
  unfold buildRec
  cases runFs op m_create_new_trial.log [] <;> rfl

/-! The two conditional blocks of `create_new_trial` that depend on the template alone, on an arbitrary record under
construction: `front_builds` runs each as one step, so that the template's `values` and `datetime_start` are
examined once, at the end, and not once per combination. -/

theorem tmpl_values_block (sid : Nat) (t : Template) (r : Bool) (d : LogD) (hv : t.values ≠ some []) :
    runF (.createTrial sid (some t) r)
        (.ite .tmplMultiValues [.set "value" .none, .set "values" .tmplValues] [.set "value" .tmplValue, .set "values" .none]) d =
      some ((d.set "value" (match t.values with | some [v] => .value (some v) | _ => .value none)).set "values"
        (match t.values with | some (_ :: _ :: _) => .values t.values | _ => .value none)) := by
  rcases h : t.values with _ | _ | ⟨v, _ | ⟨v2, l⟩⟩
  · simp [runF, runFs, evalFCond, evalField, aTmpl?, h]
  · exact absurd h hv
  · simp [runF, runFs, evalFCond, evalField, aTmpl?, h]
  · simp [runF, runFs, evalFCond, evalField, aTmpl?, h]

theorem tmpl_start_block (sid : Nat) (t : Template) (r : Bool) (d : LogD) :
    runF (.createTrial sid (some t) r)
        (.ite .tmplHasStart [.set "datetime_start" .tmplStartIso] [.set "datetime_start" .none]) d =
      some (d.set "datetime_start" (if t.hasStart then .time true else .value none)) := by
  cases h : t.hasStart <;> simp [runF, runFs, evalFCond, evalField, aTmpl?, h]

/-- Every writer but `create_new_trial` with a template logs its arguments unconditionally (`set_trial_state_values`: a
timestamp by the state): the op code of the method's `JournalOperation` member, its statements and `decodeRec` are
evaluated.  The template's fields are read back by `decodeTemplate`; that is where `frontOK` is used. -/
theorem front_builds (w : String) (op : Op) (hok : frontOK op = true) : frontRec w op = recOf w op := by
  rw [frontRec_eq]
  cases op with
  | createTrial sid tmpl r =>
    cases tmpl with
    | none => rfl
    | some t =>
      simp only [frontOK, Bool.and_eq_true, bne_iff_ne, ne_eq, decide_eq_true_eq] at hok
      obtain ⟨hv, hn⟩ := hok
      -- the record carries `params` (internal values) and `distributions` as two dicts; joined again by name they are
      -- `t.params` only if no name occurs twice (`hn`)
      have hp := mapM_params t.params t.params hn (fun q hq => hq)
      have hvb := fun d => tmpl_values_block sid t r d hv
      have hsb := tmpl_start_block sid t r
      show buildRec opCodes m_create_new_trial w _ = _
      rw [buildRec_createTrial]
      obtain ⟨st, values, params, ua, sa, inter, hs, hc⟩ := t
      simp only at hp hv hvb hsb
      -- the two blocks run as a whole (before `runF` is unfolded); what they logged is read back at the end
      cases hc <;>
        simp [recOf, runFs, runF, evalField, evalFCond, aSid?, aTmpl?, decodeRec, decodeTemplate, gNat,
          AList.set, AList.get?, m_create_new_trial, hp, ↓hvb, ↓hsb] <;>
        refine ⟨?_, by cases hs <;> rfl⟩ <;>
        rcases values with _ | _ | ⟨v, _ | ⟨v2, l⟩⟩ <;> first | rfl | exact absurd rfl hv
  | setTrialStateValues tid st vs => cases st <;> rfl
  | _ => rfl


abbrev handlers := OptunaVerif.Generated.JournalHandlers.program

/-- every public method of `JournalStorage` touches `self._replay_result` (reads, the
snapshot, the sync itself) only while it holds `_thread_lock`; a writer does so only after
`_write_log` + `_sync_with_backend`, a getter only after `_sync_with_backend`; nothing is read before or
after the `with` block. -/
theorem front_disciplined : ∀ m ∈ program.methods, m.disciplined = true := by decide +kernel

/-- `_write_log` stamps the record with the op code and with THIS thread's worker id; `_sync_with_backend`
reads from the replica's cursor and applies what it read -/
theorem write_sync_tables :
    program.writeLogKeys = [("op_code", "op_code"), ("worker_id", "self._replay_result.worker_id")] ∧
    program.syncCalls = ["self._backend.read_logs(self._replay_result.log_number_read)",
      "self._replay_result.apply_logs(logs)"] := by decide +kernel

/-- the contract call a record stands for is the call it was built from (up to the flag by which the
contract model is told whether the implementation answered `ValueError`: U1) -/
def withRaised : Op → Bool → Op
  | .createTrial sid t _, _ => .createTrial sid t false
  | .setTrialParam tid n p _, b => .setTrialParam tid n p b
  | op, _ => op

theorem opOf_recOf (w : String) (op : Op) (r : Rec) (b : Bool) (h : recOf w op = some r) :
    opOf r b = withRaised op b := by
  cases op <;> simp [recOf] at h <;> subst h <;> rfl

theorem recOf_worker (w : String) (op : Op) (r : Rec) (h : recOf w op = some r) : r.worker = w := by
  cases op <;> simp [recOf] at h <;> subst h <;> rfl

/-- **the sync that reads this worker's own record first**, the rest of the batch being other workers': `w` is told what
the public state says of `r` (nothing the others appended behind it matters); if `r` is accepted, the replica ends at the
replay of the whole batch, past everything read, with the bookkeeping that replaying `r` alone left. -/
theorem applyLogs_own (w : String) (st : JState) (r : Rec) (post : List Rec) (hw : r.worker = w)
    (hpost : ∀ x ∈ post, (x.worker == w) = false) :
    let s1 : JState := { st with cursor := st.cursor + 1 }
    let res := applyLogs w st (r :: post)
    res.2 = rejects st.spec r ∧
    (rejects st.spec r = none →
      res.1.spec = C06.pubReplay (applySpec st.spec r) post ∧ res.1.cursor = st.cursor + 1 + post.length ∧
      res.1.owned.get? w = (issuerLocal w s1 r).1.get? w ∧ res.1.lastCreated = (issuerLocal w s1 r).2) := by
  intro s1 res
  have hlin := C03.JournalLin.journal_log_linearizes w st r post hpost
  have herr : (apply w s1 r).2 = rejects st.spec r := apply_err_own w s1 r hw
  refine ⟨hlin.1.trans herr, fun hacc => ?_⟩
  obtain ⟨how, hlc, hs⟩ := hlin.2 (herr.trans hacc)
  have hown := apply_own w s1 r hw hacc
  refine ⟨by rw [hs, hown], ?_, by rw [how, hown], by rw [hlc, hown]⟩
  obtain ⟨n, _, hc, _, hfull, _⟩ := C06.applyLogs_prefix w st (r :: post)
  rw [hc, hfull (hlin.1.trans (herr.trans hacc))]; simp; omega

/-- **a call takes effect at the position of its record, with the contract's answer**: worker `w` reads a batch in
which its record `r` of the call `op` sits between records of other workers.  It is told the contract's error for
`op` in the state `s` just before `r`; if none, it ends at the contract's state after `op` followed by the records
behind `r`, past everything read, and its bookkeeping is what replaying `r` alone on `s` left. -/
theorem call_at_position (w : String) (st : JState) (op : Op) (r : Rec) (pre post : List Rec)
    (hr : recOf w op = some r) (hpre : ∀ x ∈ pre, (x.worker == w) = false)
    (hpost : ∀ x ∈ post, (x.worker == w) = false) (hJ : JInv (applyAll w st pre).spec) :
    let s1 : JState := { applyAll w st pre with cursor := (applyAll w st pre).cursor + 1 }
    let cop := withRaised op (rejects s1.spec r == some .valueError)
    let res := applyLogs w st (pre ++ r :: post)
    res.2 = errOf (Storage.step s1.spec cop).2 ∧
    (res.2 = none →
      res.1.spec = C06.pubReplay (Storage.step s1.spec cop).1 post ∧
      res.1.cursor = st.cursor + pre.length + 1 + post.length ∧
      res.1.owned.get? w = (issuerLocal w s1 r).1.get? w ∧ res.1.lastCreated = (issuerLocal w s1 r).2) := by
  intro s1 cop res
  -- the foreign records in front are replayed and say nothing to `w`; from there `r` is read first (`applyLogs_own`, no
  -- invariant needed); `hJ` serves only to make the application of `r` the contract's step
  have hres : res = applyLogs w (applyAll w st pre) (r :: post) := applyLogs_append_foreign w st pre _ hpre
  obtain ⟨herr, hrest⟩ := applyLogs_own w (applyAll w st pre) r post (recOf_worker w op r hr) hpost
  have href := apply_refines_step s1.spec r hJ
  rw [opOf_recOf w op r _ hr] at href
  rw [hres]
  refine ⟨herr.trans href.2, fun hnone => ?_⟩
  obtain ⟨hs, hc, how, hlc⟩ := hrest (herr.symm.trans hnone)
  exact ⟨hs.trans (congrArg (C06.pubReplay · post) href.1), by rw [hc, (C06.applyAll_pub w st pre).2], how, hlc⟩

theorem writer_cases (w : String) (op : Op) (h : (writerOf op).isSome = true) :
    ∃ m r, writerBody op = some m ∧ recOf w op = some r := by
  cases op <;> first | exact ⟨_, _, rfl, rfl⟩ | simp [writerOf] at h

/-- one call of a writer of the GENERATED front end by worker `w` whose replica is `st` (synced to the log
prefix before its record), with other workers' records `post` landing between its append and its
read: the replica after its sync (GENERATED handlers), the error raised, the value returned -/
def frontCall (w : String) (st : JState) (op : Op) (post : List Rec) : Option (JState × Option Err × Out) :=
  match (writerOf op).bind program.method?, frontRec w op with
  | some m, some r =>
    let res := JournalIR.interpLogs handlers w st (r :: post)
    some (res.1, res.2, m.answer w res.1 op)
  | _, _ => none

theorem frontCall_eq (w : String) (st : JState) (op : Op) (post : List Rec) (m : Method) (r : Rec)
    (hm : writerBody op = some m) (hr : recOf w op = some r) (hok : frontOK op = true) :
    frontCall w st op post =
      some ((applyLogs w st (r :: post)).1, (applyLogs w st (r :: post)).2, m.answer w (applyLogs w st (r :: post)).1 op) := by
  have hb := front_builds w op hok
  rw [hr] at hb
  simp only [frontCall, select_writer, hm, hb, C06Gen.interpLogs_eq]

/-- a `JournalStorage` call IS the contract call.  For every mutating call of the
storage contract, made by any worker on a replica holding any state reachable by logs, whatever records
other workers append between its append and its read: the record the generated front end builds, applied
by the generated handlers, raises at the caller exactly the contract's error, and if it raises nothing
the replica ends at the contract's state after that call followed by the other workers' records, with
the cursor past everything read. -/
theorem front_record_roundtrip (w : String) (st : JState) (op : Op) (post : List Rec)
    (hm : (writerOf op).isSome = true) (hok : frontOK op = true)
    (hpost : ∀ x ∈ post, (x.worker == w) = false) (hJ : JInv st.spec) :
    ∃ r st' err ans, recOf w op = some r ∧ frontCall w st op post = some (st', err, ans) ∧
      let cop := withRaised op (rejects st.spec r == some .valueError)
      err = errOf (Storage.step st.spec cop).2 ∧
      (err = none →
        st'.spec = C06.pubReplay (Storage.step st.spec cop).1 post ∧
        st'.cursor = st.cursor + 1 + post.length) := by
  obtain ⟨m, r, hmb, hr⟩ := writer_cases w op hm
  obtain ⟨herr, hrest⟩ := call_at_position w st op r [] post hr (fun _ hx => by cases hx) hpost hJ
  exact ⟨r, _, _, _, hr, frontCall_eq w st op post m r hmb hr hok, herr,
    fun hnone => ⟨(hrest hnone).1, (hrest hnone).2.1.trans (by simp)⟩⟩

/-- **what a writer call does at its replica**: the caller is told what the public state says of its record and handed
the method's return expression on the replica after the sync; that replica is described by `applyLogs_own` -/
theorem frontCall_spec (w : String) (st : JState) (op : Op) (post : List Rec) (m : Method) (r : Rec)
    (hm : writerBody op = some m) (hr : recOf w op = some r) (hok : frontOK op = true)
    (hpost : ∀ x ∈ post, (x.worker == w) = false) (st' : JState) (err : Option Err) (ans : Out)
    (h : frontCall w st op post = some (st', err, ans)) :
    err = rejects st.spec r ∧ ans = m.answer w st' op ∧
    (err = none →
      st'.spec = C06.pubReplay (applySpec st.spec r) post ∧ st'.cursor = st.cursor + 1 + post.length ∧
      st'.owned.get? w = (issuerLocal w { st with cursor := st.cursor + 1 } r).1.get? w ∧
      st'.lastCreated = (issuerLocal w { st with cursor := st.cursor + 1 } r).2) := by
  rw [frontCall_eq w st op post m r hm hr hok] at h
  simp only [Option.some.injEq, Prod.mk.injEq] at h
  obtain ⟨rfl, rfl, rfl⟩ := h
  obtain ⟨herr, hrest⟩ := applyLogs_own w st r post (recOf_worker w op r hr) hpost
  exact ⟨herr, rfl, fun hn => hrest (herr.symm.trans hn)⟩

theorem get?_erase (l : AList Nat) (k : String) : (Journal.erase l k).get? k = none := by
  induction l with
  | nil => rfl
  | cons a t ih =>
    obtain ⟨k', v⟩ := a
    by_cases h : k' = k
    · subst h; simpa [Journal.erase, List.filter] using ih
    · have : (k' != k) = true := by simpa using h
      simp only [Journal.erase, List.filter, this, AList.get?, h, if_false]
      exact ih

/-- `create_new_trial` returns the id ITS OWN record created —
`_last_created_trial_id_by_this_process` read inside the lock after the sync — even when other workers'
`CREATE_TRIAL` records sit in the same batch; it is the id the contract gives that call. -/
theorem front_create_new_trial_returns_own_id (w : String) (st : JState) (sid : Nat) (tmpl : Option Template) (b : Bool)
    (post : List Rec) (hok : frontOK (.createTrial sid tmpl b) = true)
    (hpost : ∀ x ∈ post, (x.worker == w) = false) (st' : JState) (ans : Out)
    (h : frontCall w st (.createTrial sid tmpl b) post = some (st', none, ans)) :
    ans = .newId st.spec.trials.length ∧ ans = (Storage.step st.spec (.createTrial sid tmpl false)).2 ∧
      st'.lastCreated = some st.spec.trials.length := by
  obtain ⟨he, rfl, hst⟩ := frontCall_spec w st _ post m_create_new_trial (.createTrial w sid tmpl) rfl rfl hok hpost _ _ _ h
  -- the handler, at the issuer
  have hl : st'.lastCreated = some st.spec.trials.length := (hst rfl).2.2.2
  have ha : m_create_new_trial.answer w st' (.createTrial sid tmpl b) = .newId st.spec.trials.length := by
    simp [Method.answer, m_create_new_trial, readOut, hl]
  refine ⟨ha, ?_, hl⟩
  rw [ha]
  cases hs : st.spec.study? sid with
  | none => simp [rejects, hs] at he
  | some x => simp [Storage.step, hs]

/-- `set_trial_state_values` answers `True` iff this record made the transition
(`owned_trial_id == trial_id` read inside the lock after the sync): it is the contract's answer. -/
theorem front_claim_answer (w : String) (st : JState) (tid : Nat) (state : TState) (values : Option (List XVal))
    (post : List Rec) (hpost : ∀ x ∈ post, (x.worker == w) = false) (st' : JState) (ans : Out)
    (h : frontCall w st (.setTrialStateValues tid state values) post = some (st', none, ans)) :
    ans = (Storage.step st.spec (.setTrialStateValues tid state values)).2 := by
  obtain ⟨he, rfl, hst⟩ := frontCall_spec w st _ post m_set_trial_state_values (.setTrialStateValues w tid state values)
    rfl rfl rfl hpost _ _ _ h
  have ha : m_set_trial_state_values.answer w st' (.setTrialStateValues tid state values) = .bool (claimAnswer w st' tid state) := by
    simp [Method.answer, m_set_trial_state_values, readOut]
  rw [ha, claimAnswer, (hst rfl).2.2.1]
  cases hu : st.spec.writable tid with
  | error e => simp [rejects, updatable, hu] at he
  | ok t =>
    -- a writable trial is RUNNING or WAITING: the journal's "already running" is the contract's "not waiting"
    have hnf := ((writable_ok_iff _ _ _).1 hu).2
    cases hts : t.state <;> simp [hts, TState.isFinished] at hnf <;> cases hsr : state == .running <;>
      simp [Storage.step, issuerLocal, updatable, hu, hts, hsr, get?_erase, AList.get?_set_same]


/-- calls whose method returns `None` -/
def unitCall : Op → Bool
  | .deleteStudy .. | .setStudyUserAttr .. | .setStudySystemAttr .. | .setTrialParam .. | .setTrialInter ..
  | .setTrialUserAttr .. | .setTrialSystemAttr .. => true
  | _ => false

/-- the writers that return `None` return it exactly when the contract's call
succeeds (they raise the contract's error otherwise: `front_record_roundtrip`). -/
theorem front_unit_answers (w : String) (st : JState) (op : Op) (post : List Rec) (hu : unitCall op = true)
    (hpost : ∀ x ∈ post, (x.worker == w) = false) (hJ : JInv st.spec) (st' : JState) (ans : Out)
    (h : frontCall w st op post = some (st', none, ans)) :
    ans = .unit ∧ (Storage.step st.spec (withRaised op false)).2 = .unit := by
  have hok : frontOK op = true := by cases op <;> first | rfl | simp [unitCall] at hu
  have hm : (writerOf op).isSome = true := by cases op <;> first | rfl | simp [unitCall] at hu
  obtain ⟨m, r, hmb, hr⟩ := writer_cases w op hm
  obtain ⟨he, rfl, _⟩ := frontCall_spec w st op post m r hmb hr hok hpost _ _ _ h
  constructor
  · cases op <;> simp [unitCall] at hu <;> simp [writerBody] at hmb <;> subst hmb <;> rfl
  · -- the record is accepted, so the contract answers no error: what is left is `unit`
    have href := (apply_refines_step st.spec r hJ).2
    rw [opOf_recOf w op r _ hr, ← he] at href
    rcases Storage.step_unit_or_err st.spec (withRaised op false)
      (by cases op <;> first | rfl | exact Bool.noConfusion hu) with h1 | ⟨e, h1⟩
    · exact h1
    · have h2 : none = errOf (Storage.step st.spec (withRaised op false)).2 := href
      rw [h1] at h2; cases h2

theorem findIdx_append_last {α : Type} (p : α → Bool) (l : List α) (a : α) (i : Nat)
    (hl : ∀ x ∈ l, p x = false) (ha : p a = true) : findIdx p (l ++ [a]) i = some (i + l.length) := by
  induction l generalizing i with
  | nil => simp [findIdx, ha]
  | cons x t ih =>
    simp only [List.cons_append, findIdx, hl x (by simp), Bool.false_eq_true, if_false, List.length_cons]
    rw [ih (i + 1) (fun y hy => hl y (by simp [hy]))]; congr 1; omega

/-- the search by name that `create_new_study` runs after its sync finds the study its record appended -/
theorem find_new_study (s : Spec) (name : String) (dirs : List Nat) (hn : s.nameTaken name = false) :
    (Storage.step { s with studies := s.studies ++ [some (StudyS.mk name dirs [] [] [])] } (.getStudyIdFromName name)).2 =
      .nat s.studies.length := by
  simp only [Storage.step]
  rw [findIdx_append_last _ _ _ 0 (fun x hx => ?_) (by simp)]
  · simp
  · cases x with
    | none => rfl
    | some a =>
      obtain ⟨i, hi⟩ := List.getElem?_of_mem hx
      exact beq_false_of_ne ((Storage.nameTaken_false_iff s name).1 hn i a hi)

/-- with nothing appended by others between the append
and the read, `create_new_study` returns the id the contract gives.  (PARTIAL: with records of other
workers in between the statement needs "none of them deletes the new study" — see
`front_create_new_study_deleted_in_between_witness`; the general form under that hypothesis is not proved.) -/
theorem front_create_new_study_returns_id_partial (w : String) (st : JState) (name : String) (dirs : List Nat)
    (st' : JState) (ans : Out)
    (h : frontCall w st (.createStudy name dirs) [] = some (st', none, ans)) :
    ans = .newId st.spec.studies.length ∧ ans = (Storage.step st.spec (.createStudy name dirs)).2 := by
  obtain ⟨he, rfl, hst⟩ := frontCall_spec w st _ [] m_create_new_study (.createStudy w name dirs) rfl rfl rfl
    (fun _ hx => by cases hx) _ _ _ h
  cases hn : st.spec.nameTaken name with
  | true => simp [rejects, hn] at he
  | false =>
    have hs : st'.spec = { st.spec with studies := st.spec.studies ++ [some (StudyS.mk name dirs [] [] [])] } := by
      rw [(hst rfl).1]; simp [C06.pubReplay, applySpec, rejects, hn]
    have ha : m_create_new_study.answer w st' (.createStudy name dirs) = .newId st.spec.studies.length := by
      simp [Method.answer, m_create_new_study, readOut, hs, find_new_study _ _ _ hn]
    exact ⟨ha, by rw [ha]; simp [Storage.step, hn]⟩

/-- what is NOT true of today's code: if another worker's `DELETE_STUDY` of the id being handed out lands
between the append and the read of `create_new_study`, the search by name finds nothing and the method
runs into `assert False, "Should not reach."` (here the marker `runtimeError`), although its record was
accepted by every replica. -/
theorem front_create_new_study_deleted_in_between_witness :
    frontCall "A" JState.init (.createStudy "s" [1]) [.deleteStudy "B" 0] =
      some ((applyLogs "A" JState.init [.createStudy "A" "s" [1], .deleteStudy "B" 0]).1, none, .err .runtimeError) := by
  rw [frontCall_eq "A" JState.init _ _ m_create_new_study (.createStudy "A" "s" [1]) rfl rfl rfl]
  decide +kernel


def getterBody : Op → Option Method
  | .getStudyIdFromName .. => some m_get_study_id_from_name | .getStudyNameFromId .. => some m_get_study_name_from_id
  | .getStudyDirections .. => some m_get_study_directions | .getStudyUserAttrs .. => some m_get_study_user_attrs
  | .getStudySystemAttrs .. => some m_get_study_system_attrs | .getAllStudies => some m_get_all_studies
  | .getTrialIdFromNumber .. => some m_get_trial_id_from_study_id_trial_number | .getTrial .. => some m_get_trial
  | .getAllTrials .. => some m_get_all_trials
  | _ => none

theorem select_getter (op : Op) : (getterOf op).bind program.method? = getterBody op := by
  cases op <;> rfl

/-- each getter of `JournalStorage` syncs first and then answers what the
contract's getter answers on the public state of the replica (same `KeyError` conditions, in source order),
and changes nothing. -/
theorem front_getter_is_contract_read (w : String) (st : JState) (op : Op) (m : Method) (h : getterBody op = some m) :
    m.locked.head? = some .sync ∧ m.answer w st op = (Storage.step st.spec op).2 ∧ (Storage.step st.spec op).1 = st.spec := by
  refine ⟨?_, ?_, Storage.step_reads st.spec op (by cases op <;> first | rfl | cases h)⟩
  · cases op <;> cases h <;> rfl
  · cases op <;> cases h <;>
      simp [Method.answer, readOut, readOut.aSidG, Storage.step, m_get_study_id_from_name, m_get_study_name_from_id,
        m_get_study_directions, m_get_study_user_attrs, m_get_study_system_attrs, m_get_all_studies,
        m_get_trial_id_from_study_id_trial_number, m_get_trial, m_get_all_trials] <;>
      (repeat' split) <;> simp_all


/-- `__getstate__` drops the worker id prefix (with the replay result and
the lock) and `__setstate__` draws a FRESH prefix before it rebuilds the replay result from it — an
unpickled storage never speaks under the id of the object it was copied from (so "issued by this
worker" stays a per-object notion: the hypothesis `hpost` of the theorems above). -/
theorem pickle_regenerates_worker_id :
    "_worker_id_prefix" ∈ program.getstateDrops ∧ "_replay_result" ∈ program.getstateDrops ∧
    "_thread_lock" ∈ program.getstateDrops ∧
    program.setstateSets = [("_worker_id_prefix", "str(uuid.uuid4()) + '-'"),
      ("_replay_result", "JournalStorageReplayResult(self._worker_id_prefix)"), ("_thread_lock", "threading.Lock()")] := by
  decide +kernel

/-- `restore_replay_result` adopts a snapshot by overwriting exactly the worker-local
fields — the prefix becomes this object's, the owned-trial map is emptied, the last created id reset —
which is `Journal.restore` (`owned := []`, `lastCreated := none`; `C06.snapshot_plus_tail`). -/
theorem restore_table :
    program.restoreSets = [("r._worker_id_prefix", "self._worker_id_prefix"), ("r._worker_id_to_owned_trial_id", "{}"),
      ("r._last_created_trial_id_by_this_process", "-1"), ("self._replay_result", "r")] := by
  decide +kernel
example (snap : JState) : (restore snap).owned = [] ∧ (restore snap).lastCreated = none ∧ (restore snap).spec = snap.spec :=
  ⟨rfl, rfl, rfl⟩

/-- why `front_disciplined` matters for `create_new_trial`: two threads of one process share the replay result;
once thread A has left the lock, thread B's own `CREATE_TRIAL` sync overwrites
`_last_created_trial_id_by_this_process` — a read outside the lock returns B's id to A. -/
theorem late_read_returns_other_threads_id_witness :
    let stA := (applyLogs "p-A" JState.init [.createStudy "p-A" "s" [1], .createTrial "p-A" 0 none]).1
    let stB := (applyLogs "p-B" stA [.createTrial "p-B" 0 none]).1
    stA.lastCreated = some 0 ∧ stB.lastCreated = some 1 := by decide +kernel

/-! ## non-vacuity -/

def demoTmpl : Template :=
  { state := .waiting, values := none, params := [("x", ⟨"1/2", ⟨0, false, "F"⟩⟩), ("y", ⟨"3", ⟨1, false, "I"⟩⟩)],
    userAttrs := [("u", "1")], systemAttrs := [], inter := [(0, .fin 1)], hasStart := false, hasComplete := false }

example : frontOK (.createTrial 0 (some demoTmpl) false) = true := by decide
example : frontRec "A" (.createTrial 0 (some demoTmpl) false) = some (.createTrial "A" 0 (some demoTmpl)) := by
  rw [front_builds _ _ (by decide)]; rfl
example : frontRec "A" (.createTrial 0 (some { demoTmpl with values := some [] }) false) = none := by
  rw [frontRec_eq]; decide +kernel
example : frontRec "A" (.setTrialStateValues 3 .complete (some [.fin 2])) =
    some (.setTrialStateValues "A" 3 .complete (some [.fin 2])) := by rw [front_builds _ _ rfl]; rfl
example : frontRec "A" (.getTrial 3) = none := by rw [front_builds _ _ rfl]; rfl
/-- two workers: A creates a study and a trial while B's `CREATE_TRIAL` lands in A's batch; A is answered its own id 0 -/
example : frontCall "A" (applyAll "A" JState.init [.createStudy "A" "s" [1]]) (.createTrial 0 none false)
    [.createTrial "B" 0 none] =
    some ((applyLogs "A" (applyAll "A" JState.init [.createStudy "A" "s" [1]]) [.createTrial "A" 0 none, .createTrial "B" 0 none]).1,
      none, .newId 0) := by
  rw [frontCall_eq "A" _ _ _ m_create_new_trial (.createTrial "A" 0 none) rfl rfl rfl]; decide +kernel
/-- a claim of a trial that B has just claimed is answered False, B's is answered True -/
example : (frontCall "A" (applyAll "A" JState.init [.createStudy "B" "s" [1], .createTrial "B" 0 (some demoTmpl),
      .setTrialStateValues "B" 0 .running none]) (.setTrialStateValues 0 .running none) []).map (·.2.2) = some (.bool false) := by
  rw [frontCall_eq "A" _ _ _ m_set_trial_state_values (.setTrialStateValues "A" 0 .running none) rfl rfl rfl]; decide +kernel
example : (frontCall "B" (applyAll "B" JState.init [.createStudy "B" "s" [1], .createTrial "B" 0 (some demoTmpl)])
      (.setTrialStateValues 0 .running none) []).map (·.2.2) = some (.bool true) := by
  rw [frontCall_eq "B" _ _ _ m_set_trial_state_values (.setTrialStateValues "B" 0 .running none) rfl rfl rfl]; decide +kernel
example : JInv (JState.init).spec := jinv_init
example : getterBody (.getAllTrials 0 none) = some m_get_all_trials := rfl

end OptunaVerif.C06FrontGen

