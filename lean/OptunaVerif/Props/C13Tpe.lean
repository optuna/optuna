import OptunaVerif.Lemmas.TpeSplit
/-!
# C13 / C09 — TPE's trial split and weighting (`Model/TpeSplit.lean`)

For **all** trial lists (any length, any mix of states, tied / infinite values, NaN reports, any
constraints), every `n_below`, both directions, every pair of numeric kernels unless said otherwise: the split is a partition
with `|below| = min(n_below, #non-RUNNING)` (for several objectives from the contracts of the two kernels, C15), both halves are
sorted by trial number and determined by their members (C09), RUNNING trials only ever join `above` (constant liar), the direction
mirror (C13), the gamma and weight functions.  `default_gamma_is_ceil`, `hyperopt_gamma_is_ceil` are the arithmetic of the two
ceilings `(x+9)/10`, `(⌈√x⌉+3)/4` only; about `defaultGamma` itself: `C13Bridge.default_gamma_is_ceil`.
The hypothesis `NoBad` / `hnd` of several theorems follows from "the real call does not raise" (`noBad_of_err_none`,
`no_direction_read_of_err_none`).
-/
namespace OptunaVerif.C13Tpe
open OptunaVerif.TpeSplit
open OptunaVerif.Direction (Dir sortBy_perm sortBy_length)

/-- no FAIL / WAITING trial reaches the `assert False` of the classification loop -/
def NoBad (ce : Bool) (ts : List Trial) : Prop := ∀ t ∈ ts, classify ce t ≠ .bad

/-- the hypothesis `NoBad` of the theorems below follows from "the real call does not raise" (`err = none`) -/
theorem noBad_of_err_none (dirs : List Dir) (ce : Bool) (ts : List Trial) (h : err dirs ce ts = none) : NoBad ce ts := by
  intro t ht hbad
  unfold err at h
  have : ts.any (fun t => classify ce t = .bad) = true := by
    rw [List.any_eq_true]; exact ⟨t, ht, by simp [hbad]⟩
  simp [this] at h

theorem no_direction_read_of_err_none (dirs : List Dir) (ce : Bool) (ts : List Trial) (hd : 1 < dirs.length)
    (h : err dirs ce ts = none) : ∀ t ∈ ofClass ce .pruned ts, needsDirection t = false := by
  intro t ht
  by_contra hn
  have hany : (ofClass ce .pruned ts).any needsDirection = true :=
    List.any_eq_true.mpr ⟨t, ht, by simpa using hn⟩
  unfold err at h
  simp only [hany, hd, decide_true, Bool.and_self, if_true] at h
  split at h <;> cases h

/-- **`below ++ above` is a permutation of the input trials** (every considered trial lands in exactly
one half; RUNNING trials included, in `above`). -/
theorem split_is_partition (K : Kernels) (dirs : List Dir) (ce : Bool) (ts : List Trial) (nBelow : Nat)
    (h : NoBad ce ts) :
    ((splitTrials K dirs ce ts nBelow).1 ++ (splitTrials K dirs ce ts nBelow).2).Perm ts := by
  unfold splitTrials sortByNumber
  simp only
  -- each class is split into a permutation of itself whatever quota it is handed (so the three results are generalised, quotas and
  -- all); the four classes make up `ts` (`classes_perm`, the one place that needs `NoBad`); sorting by number permutes
  have hc := splitComplete_perm K dirs (ofClass ce .complete ts) nBelow
  generalize splitComplete K dirs (ofClass ce .complete ts) nBelow = c at hc ⊢
  have hp := splitPruned_perm (dir0 dirs) (ofClass ce .pruned ts) (nBelow - c.1.length)
  generalize splitPruned (dir0 dirs) (ofClass ce .pruned ts) (nBelow - c.1.length) = p at hp ⊢
  have hi := splitInfeasible_perm (ofClass ce .infeasible ts) (nBelow - c.1.length - p.1.length)
  generalize splitInfeasible (ofClass ce .infeasible ts) (nBelow - c.1.length - p.1.length) = i at hi ⊢
  refine ((sortBy_perm _ _).append (sortBy_perm _ _)).trans ?_
  refine List.Perm.trans ?_ (classes_perm ce ts h)
  refine List.Perm.trans ?_ (((hc.append hp).append hi).append_right _)
  -- what remains sets `(c.1 ++ p.1 ++ i.1) ++ (c.2 ++ p.2 ++ i.2 ++ running)` against `c.1 ++ c.2 ++ (p.1 ++ p.2) ++ (i.1 ++ i.2) ++ running`,
  -- the same seven pieces in another order: the occurrences of any trial are the same seven numbers added up
  rw [List.perm_iff_count]
  intro a
  simp only [List.count_append]
  omega

example : splitTrials ⟨fun _ _ => [], fun _ _ _ => []⟩ [.minimize] false
    [⟨0, .complete, [.fin 3], [], none⟩, ⟨1, .running, [], [], none⟩, ⟨2, .complete, [.fin 1], [], none⟩,
     ⟨3, .pruned, [], [(2, .fin 0)], none⟩] 2 =
    ([⟨0, .complete, [.fin 3], [], none⟩, ⟨2, .complete, [.fin 1], [], none⟩],
     [⟨1, .running, [], [], none⟩, ⟨3, .pruned, [], [(2, .fin 0)], none⟩]) := by decide +kernel

/-- what the multi-objective index selection must deliver for the size claim: `n` distinct positions
inside the list (for the real kernels this is C15: `rank_eq_peeling`, `hssp_returns_k_distinct_members`;
`mo_select_ok` below derives it from those two facts) -/
def SelOk (K : Kernels) (dirs : List Dir) : Prop :=
  ∀ (ts : List Trial) (n : Nat), 0 < n → n < ts.length →
    (moSelect K dirs ts n).selected.Nodup ∧ (∀ i ∈ (moSelect K dirs ts n).selected, i < ts.length) ∧
    (moSelect K dirs ts n).selected.length = n

theorem splitComplete_length (K : Kernels) (dirs : List Dir) (ts : List Trial) (nBelow : Nat)
    (hsel : 1 < dirs.length → SelOk K dirs) :
    (splitComplete K dirs ts nBelow).1.length = min nBelow ts.length := by
  unfold splitComplete
  simp only
  split
  · rw [splitCompleteSingle_length]; omega
  · rename_i hd
    unfold splitCompleteMulti
    split
    · rename_i h0; simp; omega
    split
    · rename_i h0 h1; simp; omega
    · rename_i h0 h1
      have hs := hsel (by omega) ts (min nBelow ts.length) (by omega) (by omega)
      rw [byMembership_length ts _ hs.1 hs.2.1, hs.2.2]

/-- a quota `n` spent on a list of `a` trials and what is left of it, `max(0, n − len(below))`, on a list of `b` trials is
the quota spent on the `a + b` trials together -/
theorem quota2 (n a b : Nat) : min n a + min (n - min n a) b = min n (a + b) := by omega

theorem quota (n a b c : Nat) :
    min n a + min (n - min n a) b + min (n - min n a - min (n - min n a) b) c = min n (a + b + c) := by
  rw [Nat.sub_sub, quota2, quota2]

/-- **`|below| = min(n_below, number of non-RUNNING trials)`** — the three quotas
`min(n_below, …)`, `max(0, n_below − len(below_complete))`, … add up exactly.  Unconditional for a
single-objective study; for several objectives under `SelOk` (the index selection returns `n` distinct
positions). -/
theorem split_sizes (K : Kernels) (dirs : List Dir) (ce : Bool) (ts : List Trial) (nBelow : Nat)
    (h : NoBad ce ts) (hsel : 1 < dirs.length → SelOk K dirs) :
    (splitTrials K dirs ce ts nBelow).1.length = min nBelow (nFinished ts) ∧
    (splitTrials K dirs ce ts nBelow).2.length = ts.length - min nBelow (nFinished ts) := by
  have hperm := (split_is_partition K dirs ce ts nBelow h).length_eq
  rw [List.length_append] at hperm
  have h1 : (splitTrials K dirs ce ts nBelow).1.length = min nBelow (nFinished ts) := by
    unfold splitTrials sortByNumber
    simp only [sortBy_length, List.length_append]
    rw [splitInfeasible_length, splitPruned_length, splitComplete_length K dirs _ _ hsel, quota, classes_length ce ts h]
  exact ⟨h1, by omega⟩

theorem split_sizes_single (K : Kernels) (d : Dir) (ce : Bool) (ts : List Trial) (nBelow : Nat) (h : NoBad ce ts) :
    (splitTrials K [d] ce ts nBelow).1.length = min nBelow (nFinished ts) :=
  (split_sizes K [d] ce ts nBelow h (fun h => absurd h (by simp))).1

example : (splitTrials ⟨fun _ _ => [], fun _ _ _ => []⟩ [.maximize] true
    [⟨0, .complete, [.fin 3], [], some [.fin 1]⟩, ⟨1, .running, [], [], none⟩, ⟨2, .complete, [.fin 1], [], some [.fin (-1)]⟩,
     ⟨3, .pruned, [], [(2, .fin 0)], some []⟩] 5).1.map (·.number) = [0, 2, 3] := by decide +kernel

/-- what C15 establishes about the two kernels, as far as the split needs it:
`_fast_non_domination_rank` returns one rank per row and the ranks used are contiguous from 0
(`C15.rank_eq_peeling`, `C15.rank_n_below_spec`; the code itself asserts it), `_solve_hssp` returns `subset_size` distinct
members of the index array it was given (`C15.hssp_returns_k_distinct_members`). -/
structure KernelsOk (K : Kernels) : Prop where
  rank_length : ∀ rows n, (K.rank rows n).length = rows.length
  rank_contiguous : ∀ rows n, ∀ r ∈ K.rank rows n, ∀ r' < r, r' ∈ K.rank rows n
  hssp_ok : ∀ rows idx k, idx.Nodup → k ≤ idx.length →
    (K.hssp rows idx k).Nodup ∧ (∀ i ∈ K.hssp rows idx k, i ∈ idx) ∧ (K.hssp rows idx k).length = k

/-- **The multi-objective index selection returns exactly `n_below` distinct positions**, given the
kernel contracts: `len(indices_below) ≤ n_below` by the definition of `last_rank_before_tiebreak`;
when it is smaller, the rows of rank `last + 1` are strictly more than the `subset_size` missing
ones (so the HSSP precondition `subset_size ≤ len(rank_i_indices)` holds — the two `assert`s of the
code cannot fire), and the HSSP result is disjoint from `indices_below`. -/
theorem mo_select_ok (K : Kernels) (hK : KernelsOk K) (dirs : List Dir) : SelOk K dirs := by
  intro ts n hn0 hnlt
  unfold moSelect
  simp only
  generalize hr : K.rank (lossMatrix dirs ts) n = ranks
  have hlen : ranks.length = ts.length := by
    rw [← hr, hK.rank_length]; simp [lossMatrix]
  have hlt : ∀ p, ∀ i ∈ indicesWhere p ranks, i < ts.length :=
    fun p i hi => hlen ▸ indicesWhere_lt p ranks i hi
  have hBlen := idxBelow_length_le ranks n
  split
  · rename_i hsmall
    dsimp only
    have hTk := tie_large_enough ranks n (hr ▸ hK.rank_contiguous _ _) hsmall (by omega)
    obtain ⟨hnd, hsub, hl⟩ := hK.hssp_ok (pick (lossMatrix dirs ts) _) _ _ (indicesWhere_nodup _ ranks) hTk.le
    refine ⟨List.nodup_append.mpr ⟨indicesWhere_nodup _ _, hnd, ?_⟩, ?_, by rw [List.length_append, hl]; omega⟩
    · -- a position cannot have rank `≤ last` and rank `= last + 1`
      intro a ha b hb hab
      subst hab
      obtain ⟨r1, h1, p1⟩ := (mem_indicesWhere _ _ _).mp ha
      obtain ⟨r2, h2, p2⟩ := (mem_indicesWhere _ _ _).mp (hsub a hb)
      rw [h1] at h2
      cases h2
      simp only [decide_eq_true_eq] at p1 p2
      omega
    · intro i hi
      rcases List.mem_append.mp hi with h | h
      · exact hlt _ i h
      · exact hlt _ i (hsub i h)
  · rename_i hge
    dsimp only
    exact ⟨indicesWhere_nodup _ _, hlt _, by omega⟩

theorem split_sizes_of_kernels (K : Kernels) (hK : KernelsOk K) (dirs : List Dir) (ce : Bool) (ts : List Trial) (nBelow : Nat)
    (h : NoBad ce ts) :
    (splitTrials K dirs ce ts nBelow).1.length = min nBelow (nFinished ts) :=
  (split_sizes K dirs ce ts nBelow h (fun _ => mo_select_ok K hK dirs)).1

/-- non-vacuity: a pair of kernels meeting `KernelsOk` (every row rank 0; HSSP takes the first `k` indices) -/
example : KernelsOk ⟨fun rows _ => rows.map (fun _ => 0), fun _ idx k => idx.take k⟩ where
  rank_length := by intro rows n; simp
  rank_contiguous := by
    intro rows n r hr r' hlt
    simp only [List.mem_map] at hr
    obtain ⟨_, _, rfl⟩ := hr
    omega
  hssp_ok := by
    intro rows idx k hnd hk
    exact ⟨(List.take_sublist k idx).nodup hnd, fun i hi => List.mem_of_mem_take hi, by simp; omega⟩

example :
    let K : Kernels := ⟨fun rows _ => rows.map (fun _ => 0), fun _ idx k => idx.take k⟩
    (moSelect K [.minimize, .minimize]
      [⟨0, .complete, [.fin 1, .fin 1], [], none⟩, ⟨1, .complete, [.fin 0, .fin 2], [], none⟩, ⟨2, .complete, [.fin 0, .fin 3], [], none⟩] 2)
      = ⟨[0, 0, 0], -1, [], some ⟨[[.fin 1, .fin 1], [.fin 0, .fin 2], [.fin 0, .fin 3]], [0, 1, 2], 2⟩, [0, 1]⟩ := by
  decide +kernel

/-- **Both halves are returned sorted by trial number.**  The model's trial has no `_trial_id`
field, so the split is by construction a function of the id-erased history; together with
`split_halves_strictly_sorted` each half is determined by WHICH trials it holds. -/
theorem split_sorted_by_number (K : Kernels) (dirs : List Dir) (ce : Bool) (ts : List Trial) (nBelow : Nat) :
    (splitTrials K dirs ce ts nBelow).1.Pairwise (fun a b => a.number ≤ b.number) ∧
    (splitTrials K dirs ce ts nBelow).2.Pairwise (fun a b => a.number ≤ b.number) := by
  unfold splitTrials
  exact ⟨sortByNumber_pairwise _, sortByNumber_pairwise _⟩

/-- with pairwise distinct trial numbers (as in any study) the order is strict -/
theorem split_halves_strictly_sorted (K : Kernels) (dirs : List Dir) (ce : Bool) (ts : List Trial) (nBelow : Nat)
    (h : NoBad ce ts) (hnd : (ts.map (·.number)).Nodup) :
    (splitTrials K dirs ce ts nBelow).1.Pairwise (fun a b => a.number < b.number) ∧
    (splitTrials K dirs ce ts nBelow).2.Pairwise (fun a b => a.number < b.number) := by
  have hnd2 := ((split_is_partition K dirs ce ts nBelow h).map (·.number)).nodup_iff.mpr hnd
  rw [List.map_append, List.nodup_append] at hnd2
  have hs := split_sorted_by_number K dirs ce ts nBelow
  have key : ∀ l : List Trial, (l.map (·.number)).Nodup → l.Pairwise (fun a b => a.number ≤ b.number) →
      l.Pairwise (fun a b => a.number < b.number) :=
    fun l h1 h2 => (h2.and (List.pairwise_map.mp h1)).imp (fun h => Nat.lt_of_le_of_ne h.1 h.2)
  exact ⟨key _ hnd2.1 hs.1, key _ hnd2.2.1 hs.2⟩

/-- two strictly number-sorted lists holding the same trials are the same list: the order in which
the storage hands the trials over does not matter beyond membership -/
theorem strictly_sorted_eq_of_perm (l₁ l₂ : List Trial) (hp : l₁.Perm l₂)
    (h1 : l₁.Pairwise (fun a b => a.number < b.number)) (h2 : l₂.Pairwise (fun a b => a.number < b.number)) :
    l₁ = l₂ := by
  apply List.Perm.eq_of_pairwise (le := fun a b => a.number < b.number) _ h1 h2 hp
  intro a b _ _ hab hba
  omega

example : (splitTrials ⟨fun _ _ => [], fun _ _ _ => []⟩ [.minimize] false
    [⟨0, .complete, [.fin 3], [], none⟩, ⟨1, .complete, [.fin 2], [], none⟩, ⟨2, .complete, [.fin 1], [], none⟩] 2).1.map (·.number)
    = [1, 2] := by decide +kernel

/-- **A RUNNING trial is never in `below`** (it only ever joins `above`: the "constant liar"). -/
theorem running_never_below (K : Kernels) (dirs : List Dir) (ce : Bool) (ts : List Trial) (nBelow : Nat) :
    ∀ t ∈ (splitTrials K dirs ce ts nBelow).1, t.state ≠ .running := by
  intro t ht
  unfold splitTrials sortByNumber at ht
  simp only at ht
  have ht' := (sortBy_perm _ _).subset ht
  simp only [List.mem_append] at ht'
  rcases ht' with (h | h) | h
  · have := (splitComplete_perm K dirs (ofClass ce .complete ts) nBelow).subset (List.mem_append_left _ h)
    exact not_running_of_class (mem_ofClass this) (by decide)
  · have := (splitPruned_perm (dir0 dirs) (ofClass ce .pruned ts) _).subset (List.mem_append_left _ h)
    exact not_running_of_class (mem_ofClass this) (by decide)
  · have := (splitInfeasible_perm (ofClass ce .infeasible ts) _).subset (List.mem_append_left _ h)
    exact not_running_of_class (mem_ofClass this) (by decide)

/-- **RUNNING trials do not influence `below`**: deleting them from the input leaves the below half
(the trials the "good" density is built from) unchanged — they neither take quota nor shift the cut. -/
theorem split_below_independent_of_running (K : Kernels) (dirs : List Dir) (ce : Bool) (ts : List Trial) (nBelow : Nat) :
    (splitTrials K dirs ce (ts.filter (fun t => t.state ≠ .running)) nBelow).1 = (splitTrials K dirs ce ts nBelow).1 := by
  unfold splitTrials
  simp only [ofClass_filter_notRunning ce .complete (by decide), ofClass_filter_notRunning ce .pruned (by decide),
    ofClass_filter_notRunning ce .infeasible (by decide)]

/-- what `_sample` passes on never trips the `assert False` (only COMPLETE / PRUNED / RUNNING trials are fetched) -/
theorem sample_never_asserts (constantLiar ce : Bool) (all : List Trial) : NoBad ce (considered constantLiar all) := by
  intro t ht
  unfold considered at ht
  have := (List.mem_filter.mp ht).2
  unfold classify
  split
  · simp
  split
  · simp
  split
  · simp
  split
  · simp
  · rename_i h1 _ h3 h4
    simp [h1, h3, h4] at this

/-- without `constant_liar` no RUNNING trial is in either half -/
theorem sample_no_running_without_constant_liar (K : Kernels) (gamma : Nat → Nat) (dirs : List Dir) (ce : Bool) (all : List Trial) :
    ∀ t ∈ (sampleSplit K gamma false dirs ce all).1 ++ (sampleSplit K gamma false dirs ce all).2, t.state ≠ .running := by
  intro t ht
  unfold sampleSplit at ht
  have := (split_is_partition K dirs ce _ _ (sample_never_asserts false ce all)).subset ht
  unfold considered at this
  have h := (List.mem_filter.mp this).2
  intro hs
  simp [hs] at h

/-- with `constant_liar` every RUNNING trial is in `above` (and `n_below = gamma(number of finished trials)`
does not count them: by the definition of `sampleSplit`, not part of the statement) -/
theorem sample_running_above_with_constant_liar (K : Kernels) (gamma : Nat → Nat) (dirs : List Dir) (ce : Bool) (all : List Trial)
    (t : Trial) (ht : t ∈ all) (hs : t.state = .running) : t ∈ (sampleSplit K gamma true dirs ce all).2 := by
  have hc : t ∈ considered true all := by
    unfold considered; exact List.mem_filter.mpr ⟨ht, by simp [hs]⟩
  unfold sampleSplit
  have hp := (split_is_partition K dirs ce _ (gamma (nFinished (considered true all))) (sample_never_asserts true ce all))
  have := hp.symm.subset hc
  rcases List.mem_append.mp this with h | h
  · exact absurd hs (running_never_below K dirs ce _ _ t h)
  · exact h

example : (sampleSplit ⟨fun _ _ => [], fun _ _ _ => []⟩ defaultGamma true [.minimize] false
      [⟨0, .complete, [.fin 3], [], none⟩, ⟨1, .running, [], [], none⟩, ⟨2, .fail, [], [], none⟩, ⟨3, .complete, [.fin 1], [], none⟩]).2.map (·.number) = [0, 1] ∧
    (sampleSplit ⟨fun _ _ => [], fun _ _ _ => []⟩ defaultGamma false [.minimize] false
      [⟨0, .complete, [.fin 3], [], none⟩, ⟨1, .running, [], [], none⟩, ⟨2, .fail, [], [], none⟩, ⟨3, .complete, [.fin 1], [], none⟩]).2.map (·.number) = [0] := by
  decide +kernel

/-- **C13 for the whole `_split_trials` pipeline, single objective.**  The split of the negated
history under `minimize` is the split of the original history under `maximize`, trial for trial
(the same trials below, the same above, in the same order) — for every mix of states, every
`n_below`, constraints on or off, ±inf values, NaN reports.

Tie-breaking, precisely: `sorted(trials, key=value)` and `sorted(trials, key=value, reverse=True)` are
both STABLE — among equal values the earlier trial (smaller position in the list the storage
returned, i.e. smaller number) comes first in both — and `-v` has the same ties as `v`; the pruned
and infeasible sorts are plain stable `sorted`; no numpy argsort / argpartition is involved in the
single-objective path.  Hence the symmetry **survives ties**: no distinctness hypothesis here. -/
theorem split_direction_mirror (K : Kernels) (ce : Bool) (ts : List Trial) (nBelow : Nat) :
    splitTrials K [.minimize] ce (ts.map negT) nBelow =
      ((splitTrials K [.maximize] ce ts nBelow).1.map negT, (splitTrials K [.maximize] ce ts nBelow).2.map negT) :=
  splitTrials_map K [.maximize] [.minimize] ce negT ts nBelow (classify_negT ce) (fun _ => rfl) infeasibleScore_negT
    (splitComplete_single_negT K) (fun t _ => prunedScore_negT t)

/-- ties: two trials with the same value, the cut between them — the earlier one is `below` under both
directions' mirrored runs -/
example : (splitTrials ⟨fun _ _ => [], fun _ _ _ => []⟩ [.maximize] false
      [⟨0, .complete, [.fin 1], [], none⟩, ⟨1, .complete, [.fin 2], [], none⟩, ⟨2, .complete, [.fin 2], [], none⟩] 1).1.map (·.number) = [1] ∧
    (splitTrials ⟨fun _ _ => [], fun _ _ _ => []⟩ [.minimize] false
      [⟨0, .complete, [.fin (-1)], [], none⟩, ⟨1, .complete, [.fin (-2)], [], none⟩, ⟨2, .complete, [.fin (-2)], [], none⟩] 1).1.map (·.number) = [1] := by
  decide +kernel

/-- **C13 per objective in multi-objective studies.**  Flipping the direction of any subset of the
objectives and negating those objective values leaves the split unchanged, trial for trial — for
every pair of numeric kernels (they only ever see the loss matrix `lvals *= ±1`, which is the same
matrix in both runs).  `hnd`: no PRUNED trial makes `_get_pruned_trial_score` read `study.direction`
(it would raise `RuntimeError` in a multi-objective study: `err = some runtimeError`). -/
theorem split_direction_mirror_multi (K : Kernels) (mask : List Bool) (dirs : List Dir) (ce : Bool) (ts : List Trial)
    (nBelow : Nat) (hd : 1 < dirs.length) (hm : mask.length = dirs.length)
    (hnd : ∀ t ∈ ofClass ce .pruned ts, needsDirection t = false) :
    splitTrials K (Direction.flipDirs mask dirs) ce (ts.map (flipT mask)) nBelow =
      ((splitTrials K dirs ce ts nBelow).1.map (flipT mask), (splitTrials K dirs ce ts nBelow).2.map (flipT mask)) :=
  -- `flipT` touches the objective values only; a PRUNED trial whose score reads no direction keeps its score
  splitTrials_map K dirs _ ce (flipT mask) ts nBelow (fun _ => rfl) (fun _ => rfl) (fun _ => rfl)
    (fun l n => splitComplete_flip K mask dirs l n hd hm) (fun t ht => prunedScore_indep _ _ (flipT mask t) (hnd t ht))

/-- non-vacuity: two objectives, the first flipped; the kernels of the example put rank-0 rows below -/
example :
    let K : Kernels := ⟨fun rows _ => rows.map (fun r => if r = [.fin (-1), .fin 1] then 0 else 1), fun _ idx k => idx.take k⟩
    (splitTrials K [.maximize, .minimize] false
      [⟨0, .complete, [.fin 1, .fin 1], [], none⟩, ⟨1, .complete, [.fin 0, .fin 2], [], none⟩, ⟨2, .complete, [.fin 0, .fin 3], [], none⟩] 2).1.map (·.number) = [0, 1] ∧
    (splitTrials K [.minimize, .minimize] false
      [⟨0, .complete, [.fin (-1), .fin 1], [], none⟩, ⟨1, .complete, [.fin 0, .fin 2], [], none⟩, ⟨2, .complete, [.fin 0, .fin 3], [], none⟩] 2).1.map (·.number) = [0, 1] := by
  decide +kernel

/-- **`0 ≤ gamma(n) ≤ min(n, 25)`** for `default_gamma` and `hyperopt_default_gamma` (so `n_below`
never exceeds the number of finished trials, nor 25). -/
theorem gamma_bounds (x : Nat) : defaultGamma x ≤ min x 25 ∧ hyperoptGamma x ≤ min x 25 := by
  unfold defaultGamma hyperoptGamma
  have := ceilSqrt_le_self x
  constructor <;> omega

/-- the arithmetic behind `default_gamma(x) = min(⌈x/10⌉, 25)`: `(x+9)/10` is the least `k` with `x/10 ≤ k` (about `defaultGamma`
itself: `C13Bridge.default_gamma_is_ceil`) -/
theorem default_gamma_is_ceil (x k : Nat) : (x + 9) / 10 ≤ k ↔ x ≤ 10 * k := by omega

/-- the arithmetic behind `hyperopt_default_gamma(x) = min(⌈√x/4⌉, 25)`: `(⌈√x⌉+3)/4` is the least `k` with `√x ≤ 4k` -/
theorem hyperopt_gamma_is_ceil (x k : Nat) : (ceilSqrt x + 3) / 4 ≤ k ↔ x ≤ (4 * k) * (4 * k) := by
  rw [← ceilSqrt_le_iff]; omega

example : defaultGamma 0 = 0 ∧ defaultGamma 1 = 1 ∧ defaultGamma 30 = 3 ∧ defaultGamma 31 = 4 ∧ defaultGamma 1000 = 25 ∧
    hyperoptGamma 0 = 0 ∧ hyperoptGamma 16 = 1 ∧ hyperoptGamma 17 = 2 ∧ hyperoptGamma 100000 = 25 := by decide +kernel

theorem defaultWeights_lt (x : Nat) (h : x < 25) : defaultWeights x = List.replicate x 1 := by
  unfold defaultWeights
  split
  · subst_vars; rfl
  · rfl

theorem defaultWeights_ge (x : Nat) (h : 25 ≤ x) :
    defaultWeights x = linspace (1 / (x : Rat)) 1 (x - 25) ++ List.replicate 25 1 := by
  unfold defaultWeights
  rw [if_neg (by omega), if_neg (by omega)]

/-- **`default_weights(x)`**: length `x`; every weight in `(0, 1]`; the newest `min(x, 25)` trials have
weight exactly 1; before them the ramp `linspace(1/x, 1, x − 25)`; the weights never decrease with the
trial's position (older trials never weigh more). -/
theorem weights_spec (x : Nat) :
    (defaultWeights x).length = x ∧
    (∀ w ∈ defaultWeights x, 0 < w ∧ w ≤ 1) ∧
    (defaultWeights x).drop (x - 25) = List.replicate (min x 25) 1 ∧
    (defaultWeights x).take (x - 25) = linspace (1 / (x : Rat)) 1 (x - 25) ∧
    (defaultWeights x).Pairwise (· ≤ ·) := by
  have hone : ∀ w ∈ List.replicate (min x 25) (1 : Rat), 0 < w ∧ w ≤ 1 :=
    fun w hw => by rw [List.eq_of_mem_replicate hw]; exact ⟨one_pos, le_refl _⟩
  have hmono : (List.replicate (min x 25) (1 : Rat)).Pairwise (· ≤ ·) :=
    List.pairwise_replicate.mpr (Or.inr (le_refl _))
  rcases Nat.lt_or_ge x 25 with h | h
  · rw [defaultWeights_lt x h, show x - 25 = 0 by omega]
    rw [show min x 25 = x by omega] at hone hmono ⊢
    exact ⟨List.length_replicate, hone, rfl, rfl, hmono⟩
  · rw [defaultWeights_ge x h]
    rw [show min x 25 = 25 by omega] at hone hmono ⊢
    have ha0 : (0 : Rat) < 1 / (x : Rat) := by
      have : (0 : Rat) < (x : Rat) := by exact_mod_cast (by omega : 0 < x)
      positivity
    have ha1 : 1 / (x : Rat) ≤ 1 := by
      rw [div_le_one (by exact_mod_cast (by omega : 0 < x))]; exact_mod_cast (by omega : 1 ≤ x)
    have hlen : (linspace (1 / (x : Rat)) 1 (x - 25)).length = x - 25 := by simp [linspace]
    have hramp : ∀ w ∈ linspace (1 / (x : Rat)) 1 (x - 25), 0 < w ∧ w ≤ 1 := by
      intro w hw
      obtain ⟨i, hi, rfl⟩ := List.mem_map.mp hw
      have := linspaceAt_bounds (1 / (x : Rat)) (x - 25) i ha1 (List.mem_range.mp hi)
      exact ⟨lt_of_lt_of_le ha0 this.1, this.2⟩
    refine ⟨by rw [List.length_append, hlen, List.length_replicate]; omega, ?_, ?_, ?_, ?_⟩
    · intro w hw
      exact (List.mem_append.mp hw).elim (hramp w) (hone w)
    · rw [List.drop_append_of_le_length (by omega), List.drop_eq_nil_of_le (by omega)]; rfl
    · rw [List.take_append_of_le_length (by omega), List.take_of_length_le (by omega)]
    · refine List.pairwise_append.mpr ⟨?_, hmono, fun a ha b hb => by
        rw [List.eq_of_mem_replicate hb]; exact (hramp a ha).2⟩
      unfold linspace
      rw [List.pairwise_map]
      exact (List.pairwise_lt_range).imp (fun {i j} hij => linspaceAt_mono _ _ i j ha1 (le_of_lt hij))

example : defaultWeights 27 = [1/27, 1] ++ List.replicate 25 1 ∧ defaultWeights 3 = [1, 1, 1] ∧
    (defaultWeights 30).take 5 = [1/30, 11/40, 31/60, 91/120, 1] := by decide +kernel

/-- **`_calculate_weights_below_for_multi_objective`**: one weight per below trial, every weight in
`[EPS, 1]` (so `np.isfinite(weights_below).all()` and no trial is weighted out entirely), infeasible
trials get exactly `EPS` — for every feasibility mask and every contribution vector (`none` = infinite
hypervolume). -/
theorem mo_weights_spec (feasible : List Bool) (contribs : Option (List Rat)) :
    (moWeights feasible contribs).length = feasible.length ∧
    (∀ w ∈ moWeights feasible contribs, eps ≤ w ∧ w ≤ 1) ∧
    (∀ p ∈ List.zip feasible (moWeights feasible contribs), p.1 = false → p.2 = eps) := by
  unfold moWeights
  simp only
  split
  · exact fill_spec _ _ (by simp)
  · cases contribs with
    | none => exact fill_spec _ _ (by simp)
    | some cs =>
      refine fill_spec _ _ ?_
      intro v hv
      obtain ⟨c, hc, rfl⟩ := List.mem_map.mp hv
      have hm : eps ≤ Direction.rmax (maxR cs) eps := Direction.rmax_eq_max _ _ ▸ le_max_right _ _
      have hm2 : maxR cs ≤ Direction.rmax (maxR cs) eps := Direction.rmax_eq_max _ _ ▸ le_max_left _ _
      have hpos : 0 < Direction.rmax (maxR cs) eps := lt_of_lt_of_le eps_pos hm
      have hc1 : c / Direction.rmax (maxR cs) eps ≤ 1 := by
        rw [div_le_one hpos]; exact le_trans (le_maxR cs c hc) hm2
      exact rmax_eps_bounds _ hc1

example : moWeights [true, false, true, true] (some [1/2, 0, 2]) = [1/4, eps, eps, 1] ∧
    moWeights [true, false, true] none = [1, eps, 1] ∧ moWeights [false, true] (some [5]) = [eps, 1] := by decide +kernel

end OptunaVerif.C13Tpe
