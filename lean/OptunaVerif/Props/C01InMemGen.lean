import OptunaVerif.Lemmas.InMemoryIR
import OptunaVerif.Props.C01InMem
/-!
# C01 (translator tie, in-memory backend) — the methods of `InMemoryStorage` *as written in the source
today* are the hand model `Model/InMemory.lean`

`Generated/InMemoryMethods.lean` is regenerated on every run by `verif/translators/tinmem.py` from
`optuna/storages/_in_memory.py` (+ `BaseStorage.check_trial_is_updatable` / `get_n_trials`): every public
method, the helpers `_check_study_id`, `_check_trial_id`, `_get_trial`, `_set_trial`, `_update_cache`,
and the initialisers of `_StudyInfo` / `InMemoryStorage`, as data of the statement language of
`Model/InMemoryIR.lean`.

Proved here, for **all** states and arguments (no bound, no sampling):
* per method, the interpreter of the generated body equals the corresponding branch of the hand-written
  `InMemory.step` (`interp_*`, 23 theorems; helper calls through the `call_*` / `exec_*` lemmas of
  `Lemmas/InMemoryIR.lean`);
* the initialisers are the model's `newStudy` / `init` (`init_tables`), every op of the harness reaches
  the method of its name (`select_method`), hence `interpOp program = InMemory.step` (`interpOp_eq`);
* therefore the refinement theorem of `Props/C01InMem.lean` and its corollaries hold of the interpreter
  of the generated methods (`gen_*`).

A source change that drops or reorders a check, changes what is written before a raise, the comparison
of `_update_cache`, the WAITING cursor, `param_distribution`, the numbering … changes the generated data
and one of the `interp_*` equalities (or a `call_*` lemma) no longer type-checks.
-/
namespace OptunaVerif.C01InMemGen
open OptunaVerif.Storage OptunaVerif.InMemory OptunaVerif.InMemoryIR
open OptunaVerif.Generated.InMemoryMethods

theorem interp_createStudy (m : State) (name : String) (dirs : List Nat) :
    interp createNewStudyM m (.createStudy name dirs) = InMemory.step m (.createStudy name dirs) := by
  cases h : (m.nameToId.get? name).isSome <;> ir_simp [createNewStudyM, InMemory.step, h]
example : (interp createNewStudyM InMemory.init (.createStudy "a" [1])).2 = .newId 0 ∧
    (interp createNewStudyM (interp createNewStudyM InMemory.init (.createStudy "a" [1])).1 (.createStudy "a" [2])) =
      ({ (interp createNewStudyM InMemory.init (.createStudy "a" [1])).1 with nextStudyId := 2 }, .err .duplicated) := by decide

theorem interp_setStudyUserAttr (m : State) (sid : Nat) (k v : String) :
    interp setStudyUserAttrM m (.setStudyUserAttr sid k v) = InMemory.step m (.setStudyUserAttr sid k v) := by
  cases h : m.studies.get? sid <;> ir_simp [setStudyUserAttrM, InMemory.step, h]

theorem interp_setStudySystemAttr (m : State) (sid : Nat) (k v : String) :
    interp setStudySystemAttrM m (.setStudySystemAttr sid k v) = InMemory.step m (.setStudySystemAttr sid k v) := by
  cases h : m.studies.get? sid <;> ir_simp [setStudySystemAttrM, InMemory.step, h]

theorem interp_getStudyIdFromName (m : State) (name : String) :
    interp getStudyIdFromNameM m (.getStudyIdFromName name) = InMemory.step m (.getStudyIdFromName name) := by
  cases h : m.nameToId.get? name <;> ir_simp [getStudyIdFromNameM, InMemory.step, h]

theorem interp_getStudyNameFromId (m : State) (sid : Nat) :
    interp getStudyNameFromIdM m (.getStudyNameFromId sid) = InMemory.step m (.getStudyNameFromId sid) := by
  cases h : m.studies.get? sid <;> ir_simp [getStudyNameFromIdM, InMemory.step, h]

theorem interp_getStudyDirections (m : State) (sid : Nat) :
    interp getStudyDirectionsM m (.getStudyDirections sid) = InMemory.step m (.getStudyDirections sid) := by
  cases h : m.studies.get? sid <;> ir_simp [getStudyDirectionsM, InMemory.step, h]

theorem interp_getStudyUserAttrs (m : State) (sid : Nat) :
    interp getStudyUserAttrsM m (.getStudyUserAttrs sid) = InMemory.step m (.getStudyUserAttrs sid) := by
  cases h : m.studies.get? sid <;> ir_simp [getStudyUserAttrsM, InMemory.step, h]

theorem interp_getStudySystemAttrs (m : State) (sid : Nat) :
    interp getStudySystemAttrsM m (.getStudySystemAttrs sid) = InMemory.step m (.getStudySystemAttrs sid) := by
  cases h : m.studies.get? sid <;> ir_simp [getStudySystemAttrsM, InMemory.step, h]

theorem interp_getAllStudies (m : State) :
    interp getAllStudiesM m .getAllStudies = InMemory.step m .getAllStudies := by
  ir_simp [getAllStudiesM, InMemory.step]

theorem interp_getTrialIdFromNumber (m : State) (sid n : Nat) :
    interp getTrialIdFromStudyIdTrialNumberM m (.getTrialIdFromNumber sid n) = InMemory.step m (.getTrialIdFromNumber sid n) := by
  cases h : m.studies.get? sid with
  | none => ir_simp [getTrialIdFromStudyIdTrialNumberM, InMemory.step, h]
  | some si =>
    cases h2 : si.trials[n]? with
    | none =>
      have : si.trials.length ≤ n := by simpa using h2
      ir_simp [getTrialIdFromStudyIdTrialNumberM, InMemory.step, h, this]
    | some p =>
      have : ¬ si.trials.length ≤ n := by
        intro hle
        have := List.getElem?_eq_none hle
        simp [h2] at this
      ir_simp [getTrialIdFromStudyIdTrialNumberM, InMemory.step, h, h2, this]

theorem interp_getTrialNumberFromId (m : State) (tid : Nat) :
    interp getTrialNumberFromIdM m (.getTrialNumberFromId tid) = InMemory.step m (.getTrialNumberFromId tid) := by
  cases h : m.tidMap.get? tid <;> ir_simp [getTrialNumberFromIdM, InMemory.step, h]

theorem interp_getTrial (m : State) (tid : Nat) :
    interp getTrialM m (.getTrial tid) = InMemory.step m (.getTrial tid) := by
  cases h : InMemory.getTrial m tid <;> ir_simp [getTrialM, InMemory.step, h]
example : (interp getTrialM InMemory.init (.getTrial 3)).2 = .err .keyError := by decide

theorem interp_deleteStudy (m : State) (sid : Nat) :
    interp deleteStudyM m (.deleteStudy sid) = InMemory.step m (.deleteStudy sid) := by
  cases h : m.studies.get? sid <;> ir_simp [deleteStudyM, InMemory.step, h]

theorem interp_setTrialInter (m : State) (tid : Nat) (stp : Int) (v : XVal) :
    interp setTrialIntermediateValueM m (.setTrialInter tid stp v) = InMemory.step m (.setTrialInter tid stp v) := by
  rw [setTrialIntermediateValueM, interp_updatable (.setTrialInter tid stp v) m tid _ _ rfl]
  simp only [InMemory.step, modTrial]
  cases h : getUpdatable m tid with
  | error e => rfl
  | ok f => ir_simp [getUpdatable_tidMap h]

theorem interp_setTrialUserAttr (m : State) (tid : Nat) (k v : String) :
    interp setTrialUserAttrM m (.setTrialUserAttr tid k v) = InMemory.step m (.setTrialUserAttr tid k v) := by
  rw [setTrialUserAttrM, interp, exec_check_get, ← interp, interp_updatable (.setTrialUserAttr tid k v) m tid _ _ rfl]
  simp only [InMemory.step, modTrial]
  cases h : getUpdatable m tid with
  | error e => rfl
  | ok f => ir_simp [getUpdatable_tidMap h]

theorem interp_setTrialSystemAttr (m : State) (tid : Nat) (k v : String) :
    interp setTrialSystemAttrM m (.setTrialSystemAttr tid k v) = InMemory.step m (.setTrialSystemAttr tid k v) := by
  rw [setTrialSystemAttrM, interp_updatable (.setTrialSystemAttr tid k v) m tid _ _ rfl]
  simp only [InMemory.step, modTrial]
  cases h : getUpdatable m tid with
  | error e => rfl
  | ok f => ir_simp [getUpdatable_tidMap h]

theorem interp_getTrialParam (m : State) (tid : Nat) (name : String) :
    interp getTrialParamM m (.getTrialParam tid name) = InMemory.step m (.getTrialParam tid name) := by
  cases h : InMemory.getTrial m tid with
  | error e => ir_simp [getTrialParamM, InMemory.step, h]
  | ok f => cases h2 : f.t.params.get? name <;> ir_simp [getTrialParamM, InMemory.step, h, h2]

theorem interp_getBestTrial (m : State) (sid : Nat) :
    interp getBestTrialM m (.getBestTrial sid) = InMemory.step m (.getBestTrial sid) := by
  cases h : m.studies.get? sid with
  | none => ir_simp [getBestTrialM, InMemory.step, h]
  | some si =>
    cases hb : si.bestTrialId with
    | none => ir_simp [getBestTrialM, InMemory.step, h, hb]
    | some b =>
      by_cases hd : si.directions.length > 1
      · ir_simp [getBestTrialM, InMemory.step, h, hb, hd]
      · cases hg : InMemory.getTrial m b <;> ir_simp [getBestTrialM, InMemory.step, h, hb, hd, hg]

theorem interp_setTrialParam (m : State) (tid : Nat) (name : String) (p : Param) (r : Bool) :
    interp setTrialParamM m (.setTrialParam tid name p r) = InMemory.step m (.setTrialParam tid name p r) := by
  rw [setTrialParamM, interp_updatable (.setTrialParam tid name p r) m tid _ _ rfl]
  simp only [InMemory.step]
  cases h : getUpdatable m tid with
  | error e => rfl
  | ok f =>
    have ht := getUpdatable_tidMap h
    cases hs : m.studies.get? f.sid with
    | none => ir_simp [ht, hs]
    | some si =>
      cases hd : si.paramDist.get? name with
      | none => ir_simp [ht, hs, hd]
      | some d0 => cases hc : d0.compat p.dist <;> ir_simp [ht, hs, hd, hc]

theorem interp_createTrial (m : State) (sid : Nat) (tmpl : Option Template) (r : Bool) :
    interp createNewTrialM m (.createTrial sid tmpl r) = InMemory.step m (.createTrial sid tmpl r) := by
  cases h : m.studies.get? sid with
  | none => ir_simp [createNewTrialM, InMemory.step, h]
  | some si =>
    cases tmpl
    all_goals
      ir_simp [createNewTrialM, InMemory.step, h, mkTrial]
      generalize updateCache _ _ _ = u
      cases u <;> simp

theorem interp_setTrialStateValues (m : State) (tid : Nat) (st : TState) (values : Option (List XVal)) :
    interp setTrialStateValuesM m (.setTrialStateValues tid st values) = InMemory.step m (.setTrialStateValues tid st values) := by
  rw [setTrialStateValuesM, interp_updatable (.setTrialStateValues tid st values) m tid _ _ rfl]
  simp only [InMemory.step]
  cases h : getUpdatable m tid with
  | error e => rfl
  | ok f =>
    have ht := getUpdatable_tidMap h
    -- the record is written with `values` and `state` open (`exec_ifValues`, `exec_ifRunning`); the state decides the
    -- claim guard (RUNNING: the stored state is looked at, and only `== WAITING`) and which cache is repaired
    cases hr : (st == TState.running) with
    | true =>
      have : st = .running := by simpa using hr
      subst this
      by_cases hw : f.t.state = TState.waiting <;> ir_simp [setTrial, tstate_beq, isFinished_running, ht, hw]
    | false =>
      cases hfin : st.isFinished with
      | true =>
        ir_simp [setTrial, ht, hr, hfin]
        generalize updateCache _ _ _ = u; cases u <;> simp
      | false => cases hwt : (st == TState.waiting) <;> ir_simp [setTrial, ht, hr, hfin, hwt]

theorem interp_getAllTrials (m : State) (sid : Nat) (states : Option (List TState)) :
    interp getAllTrialsM m (.getAllTrials sid states) = InMemory.step m (.getAllTrials sid states) := by
  obtain ⟨h1, h2⟩ := exec_getAllTrials (.getAllTrials sid states) m sid states rfl
  have he : Env.entry m (.getAllTrials sid states) = frameSid m sid := rfl
  rw [interp, he, finish_eq, h2, h1]
  cases h : m.studies.get? sid <;> simp [InMemory.step, outFor, h]

theorem interp_getNTrials (m : State) (sid : Nat) (states : Option (List TState)) :
    interp getNTrialsM m (.getNTrials sid states) = InMemory.step m (.getNTrials sid states) := by
  have hc := call_getAllTrials_val (.getNTrials sid states) (Env.entry m (.getNTrials sid states)) sid states rfl rfl
  simp only [interp, getNTrialsM, block, exec.eq_2, hc]
  cases h : m.studies.get? sid <;>
    simp [inmem_ir, h, InMemory.step]


/-- **init_tables**: `_StudyInfo.__init__` and `InMemoryStorage.__init__` initialise exactly the fields
the model's `newStudy` / `init` have, with these values (`_max_*_id = -1` is `next*Id = 0`). -/
theorem init_tables :
    program.studyInfoInit = [("trials", "[]"), ("param_distribution", "{}"), ("user_attrs", "{}"),
      ("system_attrs", "{}"), ("name", "name"), ("directions", "directions"), ("best_trial_id", "None")] ∧
    program.storageInit = [("_trial_id_to_study_id_and_number", "{}"), ("_study_name_to_id", "{}"), ("_studies", "{}"),
      ("_max_study_id", "-1"), ("_max_trial_id", "-1"), ("_lock", "threading.RLock()"),
      ("_prev_waiting_trial_number", "{}")] := by
  constructor <;> decide

def bodyOf : Op → Stmt
  | .createStudy .. => createNewStudyM | .deleteStudy .. => deleteStudyM
  | .setStudyUserAttr .. => setStudyUserAttrM | .setStudySystemAttr .. => setStudySystemAttrM
  | .createTrial .. => createNewTrialM | .setTrialParam .. => setTrialParamM
  | .setTrialStateValues .. => setTrialStateValuesM | .setTrialInter .. => setTrialIntermediateValueM
  | .setTrialUserAttr .. => setTrialUserAttrM | .setTrialSystemAttr .. => setTrialSystemAttrM
  | .getStudyIdFromName .. => getStudyIdFromNameM | .getStudyNameFromId .. => getStudyNameFromIdM
  | .getStudyDirections .. => getStudyDirectionsM | .getStudyUserAttrs .. => getStudyUserAttrsM
  | .getStudySystemAttrs .. => getStudySystemAttrsM | .getAllStudies => getAllStudiesM
  | .getTrialIdFromNumber .. => getTrialIdFromStudyIdTrialNumberM
  | .getTrialNumberFromId .. => getTrialNumberFromIdM | .getTrialParam .. => getTrialParamM
  | .getTrial .. => getTrialM | .getAllTrials .. => getAllTrialsM | .getNTrials .. => getNTrialsM
  | .getBestTrial .. => getBestTrialM

/-- every op of the harness reaches the generated body of the method of its name -/
theorem select_method (op : Op) : lookup (methodOf op) program.methods = some (bodyOf op) := by
  cases op <;> simp [methodOf, program, lookup, bodyOf]

/-- **interpOp_eq**: calling a method of the generated class is one step of the hand model — for every
state and every call. -/
theorem interpOp_eq (m : State) (op : Op) : interpOp program m op = InMemory.step m op := by
  unfold interpOp
  rw [select_method]
  cases op with
  | createStudy name dirs => exact interp_createStudy m name dirs
  | deleteStudy sid => exact interp_deleteStudy m sid
  | setStudyUserAttr sid k v => exact interp_setStudyUserAttr m sid k v
  | setStudySystemAttr sid k v => exact interp_setStudySystemAttr m sid k v
  | createTrial sid tmpl r => exact interp_createTrial m sid tmpl r
  | setTrialParam tid name p r => exact interp_setTrialParam m tid name p r
  | setTrialStateValues tid st vs => exact interp_setTrialStateValues m tid st vs
  | setTrialInter tid stp v => exact interp_setTrialInter m tid stp v
  | setTrialUserAttr tid k v => exact interp_setTrialUserAttr m tid k v
  | setTrialSystemAttr tid k v => exact interp_setTrialSystemAttr m tid k v
  | getStudyIdFromName name => exact interp_getStudyIdFromName m name
  | getStudyNameFromId sid => exact interp_getStudyNameFromId m sid
  | getStudyDirections sid => exact interp_getStudyDirections m sid
  | getStudyUserAttrs sid => exact interp_getStudyUserAttrs m sid
  | getStudySystemAttrs sid => exact interp_getStudySystemAttrs m sid
  | getAllStudies => exact interp_getAllStudies m
  | getTrialIdFromNumber sid n => exact interp_getTrialIdFromNumber m sid n
  | getTrialNumberFromId tid => exact interp_getTrialNumberFromId m tid
  | getTrialParam tid name => exact interp_getTrialParam m tid name
  | getTrial tid => exact interp_getTrial m tid
  | getAllTrials sid states => exact interp_getAllTrials m sid states
  | getNTrials sid states => exact interp_getNTrials m sid states
  | getBestTrial sid => exact interp_getBestTrial m sid

def genStep : State → Op → State × Out := interpOp program

theorem genStep_eq : genStep = InMemory.step := by
  funext m op; exact interpOp_eq m op

/-- the generated methods never leave what the interpreter can express (no unbound local, no value
of the wrong kind, no call with a missing argument) -/
theorem gen_representable (m : State) (op : Op) : (genStep m op).2 ≠ unrepresentable := by
  rw [genStep_eq]
  cases op <;> simp only [InMemory.step, modTrial, unrepresentable] <;> (repeat' split) <;> simp

def pairStepG (stp : State → Op → State × Out) (ms : State × Spec) (op : Op) : State × Spec :=
  ((stp ms.1 op).1, (specStep ms.2 (opFor op (stp ms.1 op).2)).1)

def pairRunG (stp : State → Op → State × Out) (ms : State × Spec) (ops : List Op) : State × Spec :=
  ops.foldl (pairStepG stp) ms

def legalFromG (stp : State → Op → State × Out) : State × Spec → List Op → Bool
  | _, [] => true
  | ms, op :: rest => Legal ms.2 op && legalFromG stp (pairStepG stp ms op) rest

def acceptedFromG (stp : State → Op → State × Out) : State × Spec → List Op → Bool
  | _, [] => true
  | ms, op :: rest =>
    accepts op (specStep ms.2 (opFor op (stp ms.1 op).2)).2 (stp ms.1 op).2 &&
      acceptedFromG stp (pairStepG stp ms op) rest

theorem pairStepG_step : pairStepG InMemory.step = C01InMem.pairStep := rfl

theorem pairRunG_step (ms : State × Spec) (ops : List Op) :
    pairRunG InMemory.step ms ops = C01InMem.pairRun ms ops := rfl

theorem legalFromG_step (ms : State × Spec) (ops : List Op) :
    legalFromG InMemory.step ms ops = C01InMem.legalFrom ms ops := by
  induction ops generalizing ms with
  | nil => rfl
  | cons op rest ih => simp only [legalFromG, C01InMem.legalFrom, ih, pairStepG_step]

theorem acceptedFromG_step (ms : State × Spec) (ops : List Op) :
    acceptedFromG InMemory.step ms ops = C01InMem.acceptedFrom ms ops := by
  induction ops generalizing ms with
  | nil => rfl
  | cons op rest ih => simp only [acceptedFromG, C01InMem.acceptedFrom, ih, pairStepG_step]

/-- **gen_refines_spec**: for EVERY history of legal calls, from any related pair of states, every
answer of the generated methods is allowed by the contract, the invariant of the redundant fields is
kept and the states stay related. -/
theorem gen_refines_spec (ms : State × Spec) (ops : List Op) (hI : Inv ms.1) (hR : Rel ms.1 ms.2)
    (hL : legalFromG genStep ms ops = true) :
    acceptedFromG genStep ms ops = true ∧ Inv (pairRunG genStep ms ops).1 ∧
      Rel (pairRunG genStep ms ops).1 (pairRunG genStep ms ops).2 := by
  rw [genStep_eq, legalFromG_step] at hL
  rw [genStep_eq, acceptedFromG_step, pairRunG_step]
  exact C01InMem.inMemory_refines_spec ms ops hI hR hL
example : legalFromG genStep (InMemory.init, Storage.init) C01InMem.demo = true := by
  rw [genStep_eq, legalFromG_step]; decide

theorem gen_refines_spec_init (ops : List Op) (hL : legalFromG genStep (InMemory.init, Storage.init) ops = true) :
    acceptedFromG genStep (InMemory.init, Storage.init) ops = true ∧
    Inv (pairRunG genStep (InMemory.init, Storage.init) ops).1 ∧
    Rel (pairRunG genStep (InMemory.init, Storage.init) ops).1 (pairRunG genStep (InMemory.init, Storage.init) ops).2 :=
  gen_refines_spec _ ops C01InMem.init_ok.1 C01InMem.init_ok.2 hL

/-- **gen_numbers_dense**: in every state the generated methods reach by legal calls, the trial stored at
position `n` of a study's list has number `n`, belongs to that study, and the id table says so. -/
theorem gen_numbers_dense (ops : List Op) (hL : legalFromG genStep (InMemory.init, Storage.init) ops = true)
    (sid : Nat) (si : StudyInfo) (n tid : Nat) (t : TrialS)
    (hs : (pairRunG genStep (InMemory.init, Storage.init) ops).1.studies.get? sid = some si)
    (ht : si.trials[n]? = some (tid, t)) :
    t.number = n ∧ t.study = sid ∧
    (pairRunG genStep (InMemory.init, Storage.init) ops).1.tidMap.get? tid = some (sid, n) := by
  rw [genStep_eq, legalFromG_step] at hL
  rw [genStep_eq, pairRunG_step] at hs ⊢
  exact C01InMem.inMemory_numbers_dense ops hL sid si n tid t hs ht
example : (pairRunG genStep (InMemory.init, Storage.init) (C01InMem.demo.take 6)).1.tidMap.get? 2 = some (2, 0) := by
  rw [genStep_eq, pairRunG_step]; decide

/-- **gen_finished_frozen**: a finished trial read through the generated methods reads the same after
any further legal history. -/
theorem gen_finished_frozen (ms : State × Spec) (ops : List Op) (hI : Inv ms.1) (hR : Rel ms.1 ms.2)
    (hL : legalFromG genStep ms ops = true) (tid : Nat) (f f' : Found)
    (h : InMemory.getTrial ms.1 tid = .ok f) (hf : f.t.state.isFinished = true)
    (h' : InMemory.getTrial (pairRunG genStep ms ops).1 tid = .ok f') : f'.t = f.t := by
  rw [genStep_eq, legalFromG_step] at hL
  rw [genStep_eq, pairRunG_step] at h'
  exact C01InMem.inMemory_finished_frozen ms ops hI hR hL tid f f' h hf h'
example : (InMemory.getTrial (pairRunG genStep (InMemory.init, Storage.init) (C01InMem.demo.take 20)).1 0).toOption.map
    (fun f => f.t.state.isFinished) = some true := by
  rw [genStep_eq, pairRunG_step]; decide

/-- **gen_waiting_filter_complete**: the generated `get_all_trials(states=(WAITING,))` (cursor shortcut)
returns exactly the WAITING trials of the study, in number order, in every state satisfying the invariant. -/
theorem gen_waiting_filter_complete (ms : State × Spec) (hI : Inv ms.1) (sid : Nat) (si : StudyInfo)
    (h : ms.1.studies.get? sid = some si) :
    (genStep ms.1 (.getAllTrials sid (some [.waiting]))).2 =
      .trials (si.trials.filter (fun p => p.2.state == .waiting)) := by
  rw [genStep_eq]; exact C01InMem.inMemory_waiting_filter_complete ms hI sid si h
example : (genStep (pairRunG genStep (InMemory.init, Storage.init) (C01InMem.demo.take 12)).1
    (.getAllTrials 0 (some [.waiting]))).2 =
      .trials (((pairRunG genStep (InMemory.init, Storage.init) (C01InMem.demo.take 12)).1.studies.get? 0).get!.trials.filter
        (fun p => p.2.state == .waiting)) := by
  rw [genStep_eq, pairRunG_step]; decide

/-- **gen_best_is_optimal**: the generated `get_best_trial` of a single-objective study answers a COMPLETE
trial no COMPLETE trial of the study beats (or `ValueError` when there is none). -/
theorem gen_best_is_optimal (m : State) (hI : Inv m) (sid d : Nat) (si : StudyInfo)
    (h : m.studies.get? sid = some si) (hd : si.directions = [d]) :
    (∃ b t, (genStep m (.getBestTrial sid)).2 = .trial b t ∧ (b, t) ∈ bestSet d si.trials) ∨
    ((genStep m (.getBestTrial sid)).2 = .err .valueError ∧ bestSet d si.trials = []) := by
  rw [genStep_eq]; exact C01InMem.inMemory_best_is_optimal m hI sid d si h hd

/-! ## non-vacuity: the generated class runs the demo history of `Props/C01InMem.lean` -/

def runOutG : State → List Op → List Out
  | _, [] => []
  | m, op :: rest => (genStep m op).2 :: runOutG (genStep m op).1 rest

theorem runOutG_eq (m : State) (ops : List Op) : runOutG m ops = InMemory.runOut m ops := by
  induction ops generalizing m with
  | nil => rfl
  | cons op rest ih => simp only [runOutG, InMemory.runOut, ih, genStep_eq]

theorem runGen_eq (ops : List Op) : runGen program ops = InMemory.run ops := by
  simp only [runGen, InMemory.run, interpOp_eq]

set_option maxRecDepth 20000 in
example : runOutG InMemory.init C01InMem.demo = InMemory.runOut InMemory.init C01InMem.demo := runOutG_eq _ _
set_option maxRecDepth 20000 in
example : runGen program C01InMem.demo = InMemory.run C01InMem.demo := runGen_eq _
set_option maxRecDepth 20000 in
example : (runOutG InMemory.init C01InMem.demo)[2]? = some (.newId 2) ∧
    (runOutG InMemory.init C01InMem.demo)[9]? = some (.err .valueError) ∧
    (runOutG InMemory.init C01InMem.demo)[10]? = some (.nat 0) ∧
    (runOutG InMemory.init C01InMem.demo)[19]? = some (.err .updateFinished) ∧
    (runOutG InMemory.init C01InMem.demo)[21]? = some (.err .keyError) := by decide
example : Inv InMemory.init ∧ Rel InMemory.init Storage.init := C01InMem.init_ok

end OptunaVerif.C01InMemGen
