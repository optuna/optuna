import OptunaVerif.Lemmas.SearchSpaceHist
import OptunaVerif.Lemmas.SearchSpaceGroups
/-!
# C17 — incrementally inferred search spaces equal a from-scratch computation

Model: `Model/SearchSpace.lean` (`_calculate`, `IntersectionSearchSpace.calculate`,
`intersection_search_space`, `_SearchSpaceGroup.add_distributions`, `_GroupDecomposedSearchSpace.calculate`;
the integer expressions and state lists of `_calculate` are the constants `SearchSpace.SearchSpaceCode.*`, tied
to the source on every run by `Props/C17Gen.lean`).

Every history theorem quantifies over **all** finite lists of steps (`Step`: create a trial in any state
with any parameters / write a parameter of an unfinished trial / change the state of an unfinished trial
in any way / call either calculator / hand the calculator another study), with no bound on the length,
the number of trials or the order in which trials finish.  The two facts used about the storage
(numbers are dense in creation order, finished trials never change — `Props/C01.lean`) are built into
the step function.
-/
namespace OptunaVerif.C17
open OptunaVerif.SearchSpace

def run (sid : Nat) (ipI ipG : Bool) (h : List Step) : Sys := after sid (Sys.init ipI ipG) h

theorem after_cons (sid : Nat) (s : Sys) (st : Step) (h : List Step) :
    after sid s (st :: h) = after sid (step sid s st).1 h := rfl

theorem after_append (sid : Nat) (s : Sys) (h1 h2 : List Step) :
    after sid s (h1 ++ h2) = after sid (after sid s h1) h2 := by
  simp [after, List.foldl_append]

/-- On a trial list as the storage gives it (`WF`: the trial at position `i` has number `i`, every
`distributions` is a dict), `intersection_search_space(trials, include_pruned)` returns exactly the
items `name ↦ distribution` that *every* COMPLETE trial (and every PRUNED one iff `include_pruned`) has —
and nothing when there is no such trial.  RUNNING / WAITING / FAIL trials do not matter. -/
theorem scratch_is_intersection (trials : List Trial) (ip : Bool) (hwf : WF trials) (p : String × Nat) :
    p ∈ intersectionSearchSpace trials ip ↔
      (∃ t ∈ trials, t.state = .complete ∨ (t.state = .pruned ∧ ip = true)) ∧
      ∀ t ∈ trials, (t.state = .complete ∨ (t.state = .pruned ∧ ip = true)) → AList.get? t.dists p.1 = some p.2 := by
  rw [intersectionSearchSpace, mem_output, (scratch_rep hwf).getD.2]
  simp only [FOI, finished_ofInterest_iff, Has, and_imp]

theorem scratch_sorted_unique (trials : List Trial) (ip : Bool) (hwf : WF trials) :
    (intersectionSearchSpace trials ip).Pairwise (fun p q => p.1 < q.1) := by
  have h2 : (intersectionSearchSpace trials ip).Pairwise (fun p q => p.1 ≠ q.1) :=
    List.pairwise_map.mp (nodupKeys_sortByName (scratch_rep hwf).getD.1)
  exact ((sorted_sortByName _).and h2).imp fun h => lt_of_le_of_ne h.1 h.2

theorem scratch_antitone {old new : List Trial} (ip : Bool) (hold : WF old) (hnew : WF new)
    (hest : ∃ t ∈ old, t.state = .complete ∨ (t.state = .pruned ∧ ip = true))
    (hsub : ∀ t ∈ old, (t.state = .complete ∨ (t.state = .pruned ∧ ip = true)) → t ∈ new) :
    ∀ p ∈ intersectionSearchSpace new ip, p ∈ intersectionSearchSpace old ip := by
  intro p hp
  rw [scratch_is_intersection _ _ hold]
  rw [scratch_is_intersection _ _ hnew] at hp
  exact ⟨hest, fun t ht ho => hp.2 t (hsub t ht ho) ho⟩

structure Inv (sid : Nat) (ipI ipG : Bool) (s : Sys) : Prop where
  wf : WF s.trials
  flagI : s.isp.includePruned = ipI
  flagG : s.gsp.includePruned = ipG
  /-- unless the calculator was first handed another study, `CursorInv` holds -/
  cursor : (∀ x, s.isp.studyId = some x → x = sid) → CursorInv ipI s.trials s.isp.space s.isp.cursor
  /-- the groups are the canonical partition for a set of dicts that all belong to trials of interest -/
  groups : ∃ A, GInv A s.gsp.groups ∧
    ∀ d ∈ A, ∃ t ∈ s.trials, groupOfInterest ipG t.state = true ∧ t.dists = d

theorem inv_init (sid : Nat) (ipI ipG : Bool) : Inv sid ipI ipG (Sys.init ipI ipG) :=
  ⟨wf_nil, rfl, rfl, fun _ => cursorInv_init ipI [] (cursorInit_eq.trans_le (by decide)), ⟨[], ginv_nil, by simp⟩⟩

/-- A calculator that has served one study answers `ValueError` for a study
with another id and keeps all of its state. -/
theorem wrong_study_rejected (c : Calc) (sid sid' : Nat) (trials : List Trial)
    (h : c.studyId = some sid) (hne : sid' ≠ sid) : c.calculate sid' trials = (c, .valueError) := by
  rcases calculate_cases c sid' trials with ⟨e, _⟩ | ⟨hx, _⟩
  · exact e
  · exact absurd (hx sid h).symm hne

theorem wrong_study_rejected_groups (c : GCalc) (sid sid' : Nat) (trials : List Trial)
    (h : c.studyId = some sid) (hne : sid' ≠ sid) : c.calculate sid' trials = (c, .valueError) := by
  rcases gcalculate_cases c sid' trials with ⟨e, _⟩ | ⟨hx, _⟩
  · exact e
  · exact absurd (hx sid h).symm hne

theorem step_isp_gsp (sid : Nat) (s : Sys) (st : Step) :
    ((step sid s st).1.isp = s.isp ∧ (step sid s st).1.gsp = s.gsp) ∨
      st = .callI ∨ st = .callG ∨ ∃ a b, st = .callForeign a b := by
  cases st with
  | create st params => exact .inl ⟨rfl, rfl⟩
  | setParam i name tok =>
    left; simp only [step]; split
    · split <;> exact ⟨rfl, rfl⟩
    · exact ⟨rfl, rfl⟩
  | setState i st =>
    left; simp only [step]; split
    · split <;> exact ⟨rfl, rfl⟩
    · exact ⟨rfl, rfl⟩
  | callI => exact .inr (.inl rfl)
  | callForeign a b => exact .inr (.inr (.inr ⟨a, b, rfl⟩))
  | callG => exact .inr (.inr (.inl rfl))

theorem inv_of_evolves {sid : Nat} {ipI ipG : Bool} {s s' : Sys} (h : Inv sid ipI ipG s)
    (he : Evolves s.trials s'.trials) (hwf : WF s'.trials) (hi : s'.isp = s.isp) (hg : s'.gsp = s.gsp) :
    Inv sid ipI ipG s' := by
  obtain ⟨_, h2, h3, h4, A, hA1, hA2⟩ := h
  refine ⟨hwf, by rw [hi]; exact h2, by rw [hg]; exact h3, ?_, ⟨A, by rw [hg]; exact hA1, ?_⟩⟩
  · rw [hi]; intro hx; exact cursorInv_evolves (h4 hx) he
  · intro d hd
    obtain ⟨t, ht, hgo, e⟩ := hA2 d hd
    exact ⟨t, he.frozen t ht (groupOfInterest_finished _ _ hgo), hgo, e⟩

theorem ginv_call {sid : Nat} {ipI ipG : Bool} {s : Sys} (h : Inv sid ipI ipG s) :
    GInv (goiDists ipG s.trials) ((goiDists ipG s.trials).foldl addDistributions s.gsp.groups) := by
  obtain ⟨A, hA1, hA2⟩ := h.groups
  refine (ginv_foldl _ hA1 fun d hd => ?_).congr fun x => ?_
  · obtain ⟨t, ht, -, rfl⟩ := mem_goiDists.mp hd
    exact (wf_mem h.wf ht).2.2
  · rw [List.mem_append]
    exact ⟨fun hx => hx.elim (fun hx => mem_goiDists.mpr (hA2 x hx)) id, Or.inr⟩

theorem cursor_inv_step (sid : Nat) (ipI ipG : Bool) (s : Sys) (st : Step) (h : Inv sid ipI ipG s) :
    Inv sid ipI ipG (step sid s st).1 := by
  have hev := step_evolves sid s st h.wf
  rcases step_isp_gsp sid s st with ⟨e1, e2⟩ | rfl | rfl | ⟨sid', trials', rfl⟩
  · exact inv_of_evolves h hev.1 hev.2 e1 e2
  · -- `IntersectionSearchSpace.calculate` on this study
    obtain ⟨h1, h2, h3, h4, h5⟩ := h
    simp only [step]
    rcases calculate_cases s.isp sid s.trials with ⟨e, _⟩ | ⟨hx, e⟩
    · rw [e]; exact ⟨h1, h2, h3, h4, h5⟩
    · rw [e]
      refine ⟨h1, h2, h3, fun _ => ?_, h5⟩
      have := (calcRaw_correct h1 (h4 hx)).1
      rw [h2]; exact this
  · -- `_GroupDecomposedSearchSpace.calculate` on this study
    simp only [step]
    rcases gcalculate_cases s.gsp sid s.trials with ⟨e, -⟩ | ⟨-, e⟩ <;> rw [e]
    · exact h
    · refine ⟨h.wf, h.flagI, h.flagG, h.cursor, goiDists ipG s.trials, ?_, fun d hd => mem_goiDists.mp hd⟩
      rw [h.flagG]; exact ginv_call h
  · -- the intersection calculator handed another study: rejected, or bound to that study for good
    obtain ⟨h1, h2, h3, h4, h5⟩ := h
    simp only [step]
    split
    · exact ⟨h1, h2, h3, h4, h5⟩
    · rename_i hne
      rcases calculate_cases s.isp sid' trials' with ⟨e, _⟩ | ⟨hx, e⟩
      · rw [e]; exact ⟨h1, h2, h3, h4, h5⟩
      · rw [e]
        refine ⟨h1, h2, h3, fun hx' => ?_, h5⟩
        exact absurd (hx' sid' rfl) hne

theorem inv_after (sid : Nat) (ipI ipG : Bool) (h : List Step) :
    ∀ s, Inv sid ipI ipG s → Inv sid ipI ipG (after sid s h) := fun _ hs =>
  List.foldlRecOn h _ hs fun s hs st _ => cursor_inv_step sid ipI ipG s st hs

/-- After *any* history every unfinished trial has a number ≥ the cursor, the
cursor is at most the number the next trial will get, and the stored space is the intersection over
a set `P` with {finished of interest below the cursor} ⊆ P ⊆ {finished of interest} — as long as the
calculator has not been bound to another study. -/
theorem cursor_inv_reachable (sid : Nat) (ipI ipG : Bool) (h : List Step)
    (hs : ∀ x, (run sid ipI ipG h).isp.studyId = some x → x = sid) :
    CursorInv ipI (run sid ipI ipG h).trials (run sid ipI ipG h).isp.space (run sid ipI ipG h).isp.cursor :=
  (inv_after sid ipI ipG h _ (inv_init sid ipI ipG)).cursor hs

theorem call_eq_scratch {sid : Nat} {ipI ipG : Bool} {s : Sys} (h : Inv sid ipI ipG s) {r : Dists}
    (hr : (step sid s .callI).2 = .result r) : r = intersectionSearchSpace s.trials ipI := by
  simp only [step] at hr
  rcases calculate_cases s.isp sid s.trials with ⟨e, _⟩ | ⟨hx, e⟩
  · rw [e] at hr; cases hr
  · rw [e, h.flagI] at hr
    cases hr
    exact calcRaw_eq_scratch h.wf (h.cursor hx)

/-- Whatever happened before (trials created, written, finished, pruned or
failed in any order; earlier calls at any points; calls with other studies), whenever
`IntersectionSearchSpace.calculate(study)` returns, it returns exactly
`intersection_search_space(study.trials, include_pruned)` computed from scratch on the current trials.
Holds for both values of `include_pruned` (the `include_pruned` variant is the case `ipI = true`). -/
theorem incremental_eq_scratch (sid : Nat) (ipI ipG : Bool) (h : List Step) (r : Dists)
    (hr : (step sid (run sid ipI ipG h) .callI).2 = .result r) :
    r = intersectionSearchSpace (run sid ipI ipG h).trials ipI :=
  call_eq_scratch (inv_after sid ipI ipG h _ (inv_init sid ipI ipG)) hr

theorem incremental_eq_scratch_include_pruned (sid : Nat) (ipG : Bool) (h : List Step) (r : Dists)
    (hr : (step sid (run sid true ipG h) .callI).2 = .result r) :
    r = intersectionSearchSpace (run sid true ipG h).trials true :=
  incremental_eq_scratch sid true ipG h r hr

theorem finished_stay (sid : Nat) (h : List Step) : ∀ s : Sys, WF s.trials →
    ∀ t ∈ s.trials, t.state.isFinished = true → t ∈ (after sid s h).trials := fun _ hwf t ht hf =>
  (List.foldlRecOn (motive := fun s => WF s.trials ∧ t ∈ s.trials) h _ ⟨hwf, ht⟩ fun s hs st _ =>
    have hev := step_evolves sid s st hs.1
    ⟨hev.2, hev.1.frozen t hs.2 hf⟩).2

theorem never_grows_from {sid : Nat} {ipI ipG : Bool} {s : Sys} (hinv1 : Inv sid ipI ipG s) (h2 : List Step)
    (r1 r2 : Dists) (hr1 : (step sid s .callI).2 = .result r1)
    (hest : ∃ t ∈ s.trials, t.state = .complete ∨ (t.state = .pruned ∧ ipI = true))
    (hr2 : (step sid (after sid (step sid s .callI).1 h2) .callI).2 = .result r2) :
    ∀ p ∈ r2, p ∈ r1 := by
  have hinv1' := cursor_inv_step sid ipI ipG _ .callI hinv1
  have hinv2 := inv_after sid ipI ipG h2 _ hinv1'
  obtain rfl := call_eq_scratch hinv1 hr1
  obtain rfl := call_eq_scratch hinv2 hr2
  -- a trial that counts now is finished, so it is still there, unchanged, at the later call
  exact scratch_antitone ipI hinv1.wf hinv2.wf hest fun t ht ho =>
    finished_stay sid h2 _ hinv1'.wf t ht ((finished_ofInterest_iff ipI _).mpr ho).1

/-- Once a finished trial of interest exists, the result of any later call is a sub-map
of the result of an earlier call (`h2` is any history in between, including further calls). -/
theorem never_grows (sid : Nat) (ipI ipG : Bool) (h1 h2 : List Step) (r1 r2 : Dists)
    (hr1 : (step sid (run sid ipI ipG h1) .callI).2 = .result r1)
    (hest : ∃ t ∈ (run sid ipI ipG h1).trials, t.state = .complete ∨ (t.state = .pruned ∧ ipI = true))
    (hr2 : (step sid (after sid (step sid (run sid ipI ipG h1) .callI).1 h2) .callI).2 = .result r2) :
    ∀ p ∈ r2, p ∈ r1 :=
  never_grows_from (inv_after sid ipI ipG h1 _ (inv_init sid ipI ipG)) h2 r1 r2 hr1 hest hr2

/-- before any finished trial of interest exists the result is empty -/
theorem empty_until_established (sid : Nat) (ipI ipG : Bool) (h : List Step) (r : Dists)
    (hr : (step sid (run sid ipI ipG h) .callI).2 = .result r)
    (hnone : ∀ t ∈ (run sid ipI ipG h).trials, ¬ (t.state = .complete ∨ (t.state = .pruned ∧ ipI = true))) :
    r = [] := by
  have hinv := inv_after sid ipI ipG h _ (inv_init sid ipI ipG)
  obtain rfl := call_eq_scratch hinv hr
  refine List.eq_nil_iff_forall_not_mem.mpr fun p hp => ?_
  obtain ⟨⟨t, ht, ho⟩, -⟩ := (scratch_is_intersection _ _ hinv.wf p).mp hp
  exact hnone t ht ho

theorem ginv_scratch (ds : List Dists) (hnd : ∀ d ∈ ds, NodupKeys d) : GInv ds (ds.foldl addDistributions []) :=
  ginv_foldl ds ginv_nil hnd

/-- After any sequence of `add_distributions` calls the groups are non-empty,
each is a dict, they are pairwise disjoint, and together they cover exactly the names seen. -/
theorem groups_partition (ds : List Dists) (hnd : ∀ d ∈ ds, NodupKeys d) :
    (∀ g ∈ ds.foldl addDistributions [], g ≠ []) ∧
    (∀ g ∈ ds.foldl addDistributions [], (keys g).Nodup) ∧
    ((ds.foldl addDistributions []).map keys).Pairwise List.Disjoint ∧
    ∀ k, (∃ g ∈ ds.foldl addDistributions [], k ∈ keys g) ↔ ∃ d ∈ ds, k ∈ keys d :=
  have h := ginv_scratch ds hnd
  ⟨h.nonempty, h.disjoint.1, h.disjoint.2, h.cover⟩

/-- Two names are in the same group exactly when they occur in the same added
dicts — the groups are the coarsest partition in which every added dict is a union of groups. -/
theorem groups_canonical (ds : List Dists) (hnd : ∀ d ∈ ds, NodupKeys d) (g : Dists)
    (hg : g ∈ ds.foldl addDistributions []) (a : String) (ha : a ∈ keys g) (b : String) :
    b ∈ keys g ↔ (∃ d ∈ ds, b ∈ keys d) ∧ ∀ d ∈ ds, (a ∈ keys d ↔ b ∈ keys d) :=
  (ginv_scratch ds hnd).canon g hg a ha b

/-- Every added dict's name set is a union of groups (each of its names
lies in a group that is contained in it). -/
theorem trial_is_union_of_groups (ds : List Dists) (hnd : ∀ d ∈ ds, NodupKeys d) (d : Dists) (hd : d ∈ ds)
    (k : String) (hk : k ∈ keys d) :
    ∃ g ∈ ds.foldl addDistributions [], k ∈ keys g ∧ ∀ n ∈ keys g, n ∈ keys d :=
  (ginv_scratch ds hnd).union hd hk

/-- the partition does not depend on the order or on repetitions of the added dicts: this is what makes
the incrementally kept groups equal (as a partition of names) to groups computed from scratch -/
theorem groups_order_irrelevant (ds ds' : List Dists) (hnd : ∀ d ∈ ds, NodupKeys d) (hnd' : ∀ d ∈ ds', NodupKeys d)
    (hsame : ∀ d, d ∈ ds ↔ d ∈ ds') (g : Dists) (hg : g ∈ ds.foldl addDistributions []) :
    ∃ g' ∈ ds'.foldl addDistributions [], ∀ k, k ∈ keys g ↔ k ∈ keys g' :=
  ((ginv_scratch ds hnd).congr hsame).unique (ginv_scratch ds' hnd') hg

theorem callG_ginv {sid : Nat} {ipI ipG : Bool} {s : Sys} (hinv : Inv sid ipI ipG s) {gs : List Dists}
    (hr : (step sid s .callG).2 = .groups gs) : GInv (goiDists ipG s.trials) gs := by
  simp only [step] at hr
  rcases gcalculate_cases s.gsp sid s.trials with ⟨e, -⟩ | ⟨-, e⟩ <;> rw [e] at hr <;> cases hr
  rw [hinv.flagG]; exact ginv_call hinv

/-- After any history, whenever `_GroupDecomposedSearchSpace.calculate(study)`
returns, the groups are non-empty and pairwise disjoint, they cover exactly the parameter names of
the current COMPLETE (and PRUNED iff `include_pruned`) trials, every such trial's name set is a union
of groups, and two names share a group exactly when they occur in the same such trials. -/
theorem groups_history (sid : Nat) (ipI ipG : Bool) (h : List Step) (gs : List Dists)
    (hr : (step sid (run sid ipI ipG h) .callG).2 = .groups gs) :
    let trials := (run sid ipI ipG h).trials
    let ofI := fun (t : Trial) => t.state = .complete ∨ (t.state = .pruned ∧ ipG = true)
    (∀ g ∈ gs, g ≠ []) ∧
    (gs.map keys).Pairwise List.Disjoint ∧
    (∀ k, (∃ g ∈ gs, k ∈ keys g) ↔ ∃ t ∈ trials, ofI t ∧ k ∈ keys t.dists) ∧
    (∀ t ∈ trials, ofI t → ∀ k ∈ keys t.dists, ∃ g ∈ gs, k ∈ keys g ∧ ∀ n ∈ keys g, n ∈ keys t.dists) ∧
    (∀ g ∈ gs, ∀ a ∈ keys g, ∀ b, b ∈ keys g ↔
      (∃ t ∈ trials, ofI t ∧ b ∈ keys t.dists) ∧ ∀ t ∈ trials, ofI t → (a ∈ keys t.dists ↔ b ∈ keys t.dists)) := by
  intro trials ofI
  have hG : GInv (goiDists ipG trials) gs := callG_ginv (inv_after sid ipI ipG h _ (inv_init sid ipI ipG)) hr
  -- `Seen` and `SameSig` over the dicts of the trials of interest, said of the trials
  have hD : ∀ d, d ∈ goiDists ipG trials ↔ ∃ t ∈ trials, ofI t ∧ t.dists = d := fun d => by
    simp only [mem_goiDists, groupOfInterest_iff, ofI]
  have hseen : ∀ k, Seen (goiDists ipG trials) k ↔ ∃ t ∈ trials, ofI t ∧ k ∈ keys t.dists := fun k =>
    ⟨fun ⟨d, hd, hk⟩ => by obtain ⟨t, ht, ho, rfl⟩ := (hD d).mp hd; exact ⟨t, ht, ho, hk⟩,
     fun ⟨t, ht, ho, hk⟩ => ⟨t.dists, (hD _).mpr ⟨t, ht, ho, rfl⟩, hk⟩⟩
  have hsig : ∀ a b, SameSig (goiDists ipG trials) a b ↔
      ∀ t ∈ trials, ofI t → (a ∈ keys t.dists ↔ b ∈ keys t.dists) := fun a b =>
    ⟨fun hs t ht ho => hs t.dists ((hD _).mpr ⟨t, ht, ho, rfl⟩),
     fun hs d hd => by obtain ⟨t, ht, ho, rfl⟩ := (hD d).mp hd; exact hs t ht ho⟩
  refine ⟨hG.nonempty, hG.disjoint.2, fun k => (hG.cover k).trans (hseen k),
    fun t ht ho k hk => hG.union ((hD _).mpr ⟨t, ht, ho, rfl⟩) hk, fun g hg a ha b => ?_⟩
  rw [hG.canon g hg a ha b, hseen, hsig]


/-! ## non-vacuity: concrete histories that exercise the hypotheses above

`demo1`: trials 0 (`x`, `y`, `z`) and 1 (`x`, `y`) run, trial 1 finishes first (out of creation order);
`demo2`: trial 0 completes, a call, trial 2 completes with another distribution for `x`; `demo3`: trial 3
(`q` only) is pruned.  The examples call the calculators after `demo1`, after `demo2`, after `demo3`. -/

def demo1 : List Step :=
  [ .create .running [], .create .running [],
    .setParam 1 "x" 7, .setParam 1 "y" 3, .setParam 0 "x" 7, .setParam 0 "y" 3, .setParam 0 "z" 5,
    .setState 1 .complete ]

def demo2 : List Step :=
  [ .setState 0 .complete, .callI,
    .create .waiting [], .setState 2 .running, .setParam 2 "x" 8, .setParam 2 "y" 3, .setState 2 .complete ]

def demo3 : List Step := [ .create .running [("q", 1)], .setState 3 .pruned ]

-- the first call sees only trial 1 finished; the cursor stays at the unfinished trial 0
example : (step 0 (run 0 false false demo1) .callI).2 = .result [("x", 7), ("y", 3)] := by decide
example : (step 0 (run 0 false false demo1) .callI).1.isp.cursor = 0 := by decide
-- hypotheses of `never_grows`: established, and a later call after more history
example : ∃ t ∈ (run 0 false false demo1).trials, t.state = .complete ∨ (t.state = .pruned ∧ false = true) :=
  ⟨⟨1, .complete, [("x", 7), ("y", 3)]⟩, by decide, Or.inl rfl⟩
example : (step 0 (after 0 (step 0 (run 0 false false demo1) .callI).1 demo2) .callI).2 = .result [("y", 3)] := by
  decide
example : (step 0 (after 0 (step 0 (run 0 false false demo1) .callI).1 demo2) .callI).1.isp.cursor = 3 := by
  decide
-- the include_pruned flag matters
example : (step 0 (run 0 true false (demo1 ++ demo2 ++ demo3)) .callI).2 = .result [] := by decide
example : (step 0 (run 0 false false (demo1 ++ demo2 ++ demo3)) .callI).2 = .result [("y", 3)] := by decide
-- a foreign study is rejected once the calculator is bound, and binds it when it comes first
example : (step 0 (run 0 false false (demo1 ++ [.callI])) (.callForeign 5 [])).2 = .valueError := by decide
example : (step 0 (run 0 false false (.callForeign 5 [] :: demo1)) .callI).2 = .valueError := by decide
-- writes to a finished trial are rejected
example : (step 0 (run 0 false false demo1) (.setParam 1 "w" 1)).2 = .rejected := by decide
-- groups: {x,y} {z} after trials 0, 1 and 2; x and y stay together although x changed its distribution
example : (step 0 (run 0 false false (demo1 ++ demo2)) .callG).2 =
    .groups [[("x", 7), ("y", 3)], [("z", 5)]] := by decide
example : (step 0 (run 0 false true (demo1 ++ demo2 ++ demo3)) .callG).2 =
    .groups [[("x", 7), ("y", 3)], [("z", 5)], [("q", 1)]] := by decide
example : [[("a", 1), ("b", 1)], [("b", 1), ("c", 1)]].foldl addDistributions [] =
    [[("b", 1)], [("a", 1)], [("c", 1)]] := by decide

end OptunaVerif.C17
