import OptunaVerif.Lemmas.Conc
import OptunaVerif.Props.C01
import OptunaVerif.Generated.LockTable
import OptunaVerif.Props.C06
/-!
# C03 — concurrent use of one study is linearizable (partial: see DESIGN.md §3 C03)

`lock_atomicity` (with `mutual_exclusion`, `completed_run_is_sequential`): for code in which every
call touches the shared state only inside one critical section of one lock — preempted between any
two micro-steps, by any number of threads, under any schedule — the execution equals the sequential
execution of the calls in completion order.  The lock discipline is part of the thread model
(`Conc.step`), so the theorem itself has no hypothesis about the code; that the code has this shape
is the generated table `Generated.LockTable` (regenerated from /repo by `verif/translators/tlock.py`
on every run), checked by `decide` below and turned into `Conc` calls in
`Props/C03InMem.lean` and `Props/C03Journal.lean`.
Also here: `concurrent_numbers_dense` (C01's numbering invariant under any interleaving) and
`JournalLin.journal_log_linearizes` (a journal call takes effect at the position of its own record).
What this cannot exhibit: switch points inside C extensions, SQLite's own locking, gRPC server
threads — those are sampled by the deterministic scheduler in `verif/props/c03.py`.
-/
namespace OptunaVerif.C03
open OptunaVerif.Conc OptunaVerif.Storage

variable {σ L ρ : Type} [DecidableEq ρ]

/-- **lock_atomicity** (every schedule, every number of threads and calls, every decomposition of
the bodies into micro-steps): the invariant `Conc.Inv` holds in every reachable state. -/
theorem lock_atomicity (s0 : σ) (progs : List (List (Call σ L ρ))) (sched : List Nat) :
    Inv s0 progs (exec (initSys s0 progs) sched) :=
  List.foldlRecOn (motive := Inv s0 progs) sched _ (inv_init s0 progs) fun sys h t _ => inv_step s0 progs sys t h

/-- Mutual exclusion: never two threads inside a critical section. -/
theorem mutual_exclusion (s0 : σ) (progs : List (List (Call σ L ρ))) (sched : List Nat)
    (t t' : Nat) (th th' : Thread σ L ρ)
    (h : (exec (initSys s0 progs) sched).threads[t]? = some th)
    (h' : (exec (initSys s0 progs) sched).threads[t']? = some th')
    (hc : th.cs.isSome = true) (hc' : th'.cs.isSome = true) : t = t' := by
  obtain ⟨_, _, _, hcs⟩ := lock_atomicity s0 progs sched
  cases hk : th.cs with
  | none => simp [hk] at hc
  | some kl =>
    obtain ⟨k, l⟩ := kl
    by_cases e : t' = t
    · exact e.symm
    · have := (hcs t th k l h hk).2 t' th' e h'
      simp [this] at hc'

/-- **completed_run_is_sequential**: when every thread has finished, the final shared state
and every returned value are those of the calls executed one at a time in completion order (the order
of the critical sections, which keeps each thread's program order).  `Conc.Sys.hist` records completions
only, there are no invocation events: real-time order is not part of the statement. -/
theorem completed_run_is_sequential (s0 : σ) (progs : List (List (Call σ L ρ))) (sched : List Nat)
    (hdone : ∀ (t : Nat) (th : Thread σ L ρ), (exec (initSys s0 progs) sched).threads[t]? = some th →
      th.todo = [] ∧ th.cs = none) :
    ∃ rem, seqRun progs (exec (initSys s0 progs) sched).hist s0 =
        some ((exec (initSys s0 progs) sched).shared, rem) ∧ ∀ p ∈ rem, p = [] := by
  obtain ⟨σseq, hseq, hfree, _⟩ := lock_atomicity s0 progs sched
  have hsh := hfree (fun t th h => (hdone t th h).2)
  refine ⟨_, by rw [hseq, hsh], ?_⟩
  intro p hp
  simp only [List.mem_map] at hp
  obtain ⟨th, hth, rfl⟩ := hp
  obtain ⟨t, ht⟩ := List.getElem?_of_mem hth
  exact (hdone t th ht).1

/-- A call body implements the storage operation `op` (whatever its decomposition into lines). -/
def Implements (c : Call Spec L Out) (op : Op) : Prop := ∀ s, c.run s = step s op

theorem concurrent_invariant (P : Spec → Prop) (hP : ∀ s op, P s → P (step s op).1)
    (progs : List (List (Call Spec L Out))) (sched : List Nat) (s0 : Spec)
    (himpl : ∀ p ∈ progs, ∀ c ∈ p, ∃ op, Implements c op) (hn : P s0)
    (hfree : ∀ (t : Nat) (th : Thread Spec L Out), (exec (initSys s0 progs) sched).threads[t]? = some th → th.cs = none) :
    P (exec (initSys s0 progs) sched).shared := by
  obtain ⟨σseq, hseq, hsh, _⟩ := lock_atomicity s0 progs sched
  rw [hsh hfree]
  refine seqRun_invariant P progs _ s0 _ _ (fun p hp c hc s hs => ?_) hn hseq
  obtain ⟨op, hop⟩ := himpl p hp c hc
  rw [hop]; exact hP s op hs

/-- C01's numbering invariant under any interleaving: when every thread has finished, trial numbers are unique and gap-free. -/
theorem concurrent_numbers_dense (progs : List (List (Call Spec L Out))) (sched : List Nat) (s0 : Spec)
    (himpl : ∀ p ∈ progs, ∀ c ∈ p, ∃ op, Implements c op) (hn : C01.Numbered s0)
    (hdone : ∀ (t : Nat) (th : Thread Spec L Out), (exec (initSys s0 progs) sched).threads[t]? = some th →
      th.todo = [] ∧ th.cs = none) :
    C01.Numbered (exec (initSys s0 progs) sched).shared :=
  concurrent_invariant C01.Numbered C01.numbered_step progs sched s0 himpl hn fun t th h => (hdone t th h).2

namespace JournalLin
open OptunaVerif.Journal

theorem applyLogs_foreign (w : String) (st : JState) (post : List Rec)
    (h : ∀ x ∈ post, (x.worker == w) = false) : applyLogs w st post = (applyAll w st post, none) := by
  have := applyLogs_append_foreign w st post [] h
  rwa [List.append_nil] at this

/-- **journal_log_linearizes**: a `JournalStorage` call appends one record `r` (atomically: C07) and
then syncs; whatever other workers appended between the append and the read (`post`), the call's
outcome — the error raised, the id returned by `create_new_trial`, the answer of a claim — is the
outcome of applying `r` alone to the state of the log prefix before it, and the replica ends at the
replay of the whole prefix read.  So every call takes effect at the position of its own record: the
log order is the order in which the calls take effect.  Invocation and return times are not modelled, so
real-time order is not part of the statement. -/
theorem journal_log_linearizes (w : String) (st : JState) (r : Rec) (post : List Rec)
    (hpost : ∀ x ∈ post, (x.worker == w) = false) :
    (applyLogs w st (r :: post)).2 = (apply w { st with cursor := st.cursor + 1 } r).2 ∧
    ((apply w { st with cursor := st.cursor + 1 } r).2 = none →
      (applyLogs w st (r :: post)).1.owned.get? w = (apply w { st with cursor := st.cursor + 1 } r).1.owned.get? w ∧
      (applyLogs w st (r :: post)).1.lastCreated = (apply w { st with cursor := st.cursor + 1 } r).1.lastCreated ∧
      (applyLogs w st (r :: post)).1.spec = C06.pubReplay (apply w { st with cursor := st.cursor + 1 } r).1.spec post) := by
  rw [applyLogs_cons]
  cases (apply w { st with cursor := st.cursor + 1 } r).2 with
  | some e => exact ⟨rfl, fun h => by cases h⟩
  | none =>
    simp only [applyLogs_foreign w _ post hpost]
    exact ⟨trivial, fun _ => ⟨(applyAll_foreign_local w _ post hpost).1, (applyAll_foreign_local w _ post hpost).2,
      (C06.applyAll_pub w _ post).1⟩⟩

end JournalLin

open Generated.LockTable in
/-- Every public method of `InMemoryStorage` runs inside `with self._lock:` (return of a local aside). -/
theorem inMemory_all_locked :
    ∀ m ∈ Generated.LockTable.inMemory, m.2 = Shape.whole ∨ m.2 = Shape.preludeThenLocked := by decide

open Generated.LockTable in
/-- Every public method of `JournalStorage` builds its record from its arguments only and then does
append + sync + result computation inside `with self._thread_lock:`. -/
theorem journal_all_locked :
    ∀ m ∈ Generated.LockTable.journal, m.2 = Shape.whole ∨ m.2 = Shape.preludeThenLocked := by decide

open Generated.LockTable in
/-- The gRPC client cache reads and updates its cache under one lock. -/
theorem grpcClientCache_all_locked :
    ∀ m ∈ Generated.LockTable.grpcClientCache, m.2 = Shape.whole ∨ m.2 = Shape.preludeThenLocked := by decide

open Generated.LockTable in
/-- `_CachedStorage`: the seven `set_*` writes pass straight through to the backend (whose own
atomicity applies).  Only these rows are decided here; the rows of shape `other` (a backend
call combined with lock-protected sections on the cache) are the subject of C08's invariant, and of
`Props/C03Cache.lean` for `get_all_trials`. -/
theorem cached_writes_pass_through :
    ∀ m ∈ Generated.LockTable.cached,
      m.1 ∈ ["set_trial_param", "set_trial_state_values", "set_trial_intermediate_value",
              "set_trial_user_attr", "set_trial_system_attr", "set_study_user_attr",
              "set_study_system_attr"] → m.2 = Shape.passthrough := by decide

/-! ## non-vacuity: two threads, two-line bodies, a schedule that interleaves them -/

def incr : Call Nat Nat Nat :=
  { n := 2, init := 0, result := id,
    micro := fun k p => if k = 0 then (p.1, p.1) else (p.2 + 1, p.2 + 1) }  -- read; write back +1

example : (exec (initSys 0 [[incr, incr], [incr]]) [0, 1, 0, 1, 0, 0, 1, 1, 1, 1, 0, 0, 0, 0, 1, 1]).shared = 3 := by
  decide
example : (exec (initSys 0 [[incr, incr], [incr]]) [0, 1, 0, 1, 0, 0, 1, 1, 1, 1, 0, 0, 0, 0, 1, 1]).hist.length = 3 := by
  decide

end OptunaVerif.C03
