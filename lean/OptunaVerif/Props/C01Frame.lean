import OptunaVerif.Props.C01
import OptunaVerif.Lemmas.StepAnswer
/-!
# C01 — read-your-writes, frame and atomicity for EVERY mutating call of the contract

For the contract model `Model/Storage.lean` and each of the ten mutating calls:
* (a) `<op>_read` — when the call succeeds, the matching getter issued right after returns exactly what
  was written (for the overwriting calls the WHOLE new record is given: the new value under the key, every
  other key and every other field unchanged, the contract's state / timestamp changes spelled out);
* (b) `step_frame_study` / `step_frame_trial_raw` / `step_frame_trial` / `step_frame_getters` — ONE generic
  statement over all calls: every study and every trial the call does not ADDRESS (`addrStudy`, `addrTrial`,
  defined with `Storage.Effect` in Lemmas/Storage, make the relation explicit per call) reads the same before and
  after; they are read off `step_effect`;
* (c) `failed_op_changes_nothing` — a call answered with an error leaves the whole state, hence every getter's
  answer, unchanged (atomicity).
All statements are for EVERY state `s`, so in particular for every reachable state (`s := after init ops`).
-/
namespace OptunaVerif.C01
open OptunaVerif.Storage

/-- **failed_op_changes_nothing**: a call that answers an error changes nothing — the state after it is the
state before it, so every getter answers as before. -/
theorem failed_op_changes_nothing (s : Spec) (op : Op) (e : Err) (h : (step s op).2 = .err e) :
    (step s op).1 = s ∧ ∀ g, (step (step s op).1 g) = (step s g) := by
  have h1 := ((step_answer s op).err e h).1
  exact ⟨h1, fun g => by rw [h1]⟩

theorem addrStudy_setParam (s : Spec) (tid : Nat) (name : String) (p : Param) (ir : Bool) (t0 : TrialS)
    (hw : s.writable tid = .ok t0) : addrStudy s (.setTrialParam tid name p ir) = some t0.study := by
  simp only [addrStudy, (writable_ok s tid t0 hw).1, Option.map_some]

/-- **step_frame_study**: every study the call does not address reads the same before and after. -/
theorem step_frame_study (s : Spec) (op : Op) (sid' : Nat) (h : addrStudy s op ≠ some sid') :
    (step s op).1.study? sid' = s.study? sid' := by
  have he := step_effect s op
  generalize (step s op).1 = s' at he ⊢
  cases he with
  | none | newTrial | updTrial => rfl
  | newStudy name dirs _ =>
    rw [study?_append, if_neg (fun e => h (by rw [e]; rfl))]
  | delStudy sid _ => rw [study?_delete, if_neg (fun e => h (by rw [e]; rfl))]
  | updStudy _ sid f haddr => rw [study?_updStudy, if_neg (fun e => h (by rw [e]; exact haddr))]
  | setParam tid name p ir t0 hw =>
    rw [study?_updStudy, if_neg (fun e => h (by rw [e]; exact addrStudy_setParam s tid name p ir t0 hw))]; rfl

/-- **step_frame_trial_raw**: the stored record of every trial the call does not address is the same before and after. -/
theorem step_frame_trial_raw (s : Spec) (op : Op) (tid' : Nat) (h : addrTrial s op ≠ some tid') :
    (step s op).1.trials[tid']? = s.trials[tid']? := by
  have he := step_effect s op
  generalize (step s op).1 = s' at he ⊢
  cases he with
  | none | newStudy | delStudy | updStudy => rfl
  | newTrial sid tmpl ir _ =>
    show (s.trials ++ _)[tid']? = _
    rw [getElem?_snoc, if_neg (fun e => h (by rw [e]; rfl))]
  | updTrial _ tid f t0 haddr => exact updTrial_get_other s tid tid' f (fun e => h (by rw [e]; exact haddr))
  | setParam tid name p ir t0 hw => exact updTrial_get_other s tid tid' _ (fun e => h (by rw [e]; rfl))

/-- **step_frame_trial**: every live trial the call does not address — and whose study the call does not delete —
reads the same before and after. -/
theorem step_frame_trial (s : Spec) (op : Op) (tid' : Nat) (t : TrialS) (h1 : addrTrial s op ≠ some tid')
    (h2 : s.trial? tid' = some t) (h3 : op ≠ .deleteStudy t.study) : (step s op).1.trial? tid' = some t := by
  obtain ⟨hraw, hlive⟩ := (trial?_some_iff s tid' t).1 h2
  exact (trial?_some_iff _ tid' t).2 ⟨by rw [step_frame_trial_raw s op tid' h1]; exact hraw,
    step_study_live s op t.study h3 hlive⟩

def readsStudy (sid : Nat) : Op → Bool
  | .getStudyNameFromId x | .getStudyDirections x | .getStudyUserAttrs x | .getStudySystemAttrs x => x == sid
  | _ => false
def readsTrial (tid : Nat) : Op → Bool
  | .getTrial x | .getTrialNumberFromId x | .getTrialParam x _ => x == tid
  | _ => false

/-- **step_frame_getters**: after ANY call `op`, every by-id getter of a study `op` does not address, and of a live
trial `op` does not address (in a study `op` does not delete), answers what it answered before. -/
theorem step_frame_getters (s : Spec) (op g : Op) :
    (∀ sid', readsStudy sid' g = true → addrStudy s op ≠ some sid' → (step (step s op).1 g).2 = (step s g).2) ∧
    (∀ tid' t, readsTrial tid' g = true → addrTrial s op ≠ some tid' → s.trial? tid' = some t →
      op ≠ .deleteStudy t.study → (step (step s op).1 g).2 = (step s g).2) := by
  constructor
  · intro sid' hr ha
    have e := step_frame_study s op sid' ha
    generalize (step s op).1 = s' at e ⊢
    cases g <;> simp [readsStudy] at hr <;> subst hr <;> simp only [step, e] <;> (split <;> rfl)
  · intro tid' t hr ha ht hd
    have e := step_frame_trial s op tid' t ha ht hd
    generalize (step s op).1 = s' at e ⊢
    cases g <;> simp [readsTrial] at hr <;> subst hr <;> simp only [step, e, ht] <;> (try (split <;> rfl))


theorem updTrial_read (s : Spec) (tid : Nat) (t : TrialS) (f : TrialS → TrialS) (hw : s.writable tid = .ok t)
    (hf : (f t).study = t.study) : (s.updTrial tid f).trial? tid = some (f t) := by
  obtain ⟨hget, _⟩ := writable_ok s tid t hw
  refine (trial?_some_iff _ tid (f t)).2 ⟨updTrial_get_same s tid f t hget, ?_⟩
  rw [hf, updTrial_study?]; exact writable_live s tid t hw

theorem getTrial_of (s : Spec) (tid : Nat) (t : TrialS) (h : s.trial? tid = some t) :
    (step s (.getTrial tid)).2 = .trial tid t := by simp [step, h]

/-- **setTrialUserAttr_read**: the trial read right after is the old record with `k ↦ v` in `user_attrs` — the new value
under the key, every other key and every other field unchanged. -/
theorem setTrialUserAttr_read (s : Spec) (tid : Nat) (k v : String) (h : (step s (.setTrialUserAttr tid k v)).2 = .unit) :
    ∃ t, s.trial? tid = some t ∧
      (step (step s (.setTrialUserAttr tid k v)).1 (.getTrial tid)).2 = .trial tid { t with userAttrs := t.userAttrs.set k v } ∧
      (t.userAttrs.set k v).get? k = some v ∧ ∀ k', k' ≠ k → (t.userAttrs.set k v).get? k' = t.userAttrs.get? k' := by
  obtain ⟨s', e, hw⟩ := wrote_of_out h rfl (fun _ he => Out.noConfusion he)
  rw [e]
  cases hw with
  | userAttr _ _ _ t hw =>
    exact ⟨t, ((writable_ok_iff s tid t).1 hw).1, getTrial_of _ tid _ (updTrial_read s tid t _ hw rfl),
      AList.get?_set_same _ _ _, fun k' hk => AList.get?_set_other _ _ _ _ hk⟩

theorem setTrialSystemAttr_read (s : Spec) (tid : Nat) (k v : String) (h : (step s (.setTrialSystemAttr tid k v)).2 = .unit) :
    ∃ t, s.trial? tid = some t ∧
      (step (step s (.setTrialSystemAttr tid k v)).1 (.getTrial tid)).2 = .trial tid { t with systemAttrs := t.systemAttrs.set k v } ∧
      (t.systemAttrs.set k v).get? k = some v ∧ ∀ k', k' ≠ k → (t.systemAttrs.set k v).get? k' = t.systemAttrs.get? k' := by
  obtain ⟨s', e, hw⟩ := wrote_of_out h rfl (fun _ he => Out.noConfusion he)
  rw [e]
  cases hw with
  | systemAttr _ _ _ t hw =>
    exact ⟨t, ((writable_ok_iff s tid t).1 hw).1, getTrial_of _ tid _ (updTrial_read s tid t _ hw rfl),
      AList.get?_set_same _ _ _, fun k' hk => AList.get?_set_other _ _ _ _ hk⟩

/-- **setTrialInter_read**: the trial read right after is the old record with `step ↦ value` in `intermediate_values`. -/
theorem setTrialInter_read (s : Spec) (tid : Nat) (stp : Int) (x : XVal) (h : (step s (.setTrialInter tid stp x)).2 = .unit) :
    ∃ t, s.trial? tid = some t ∧
      (step (step s (.setTrialInter tid stp x)).1 (.getTrial tid)).2 = .trial tid { t with inter := setInter t.inter stp x } := by
  obtain ⟨s', e, hw⟩ := wrote_of_out h rfl (fun _ he => Out.noConfusion he)
  rw [e]
  cases hw with
  | inter _ _ _ t hw =>
    exact ⟨t, ((writable_ok_iff s tid t).1 hw).1, getTrial_of _ tid _ (updTrial_read s tid t _ hw rfl)⟩

/-- **setTrialStateValues_read**: when the call answers `True`, the trial read right after has the new state, the new values
(the old ones when `None` was passed), `datetime_start` present if it was or the state is RUNNING, `datetime_complete`
present if it was or the state is finished — and every other field unchanged. -/
theorem setTrialStateValues_read (s : Spec) (tid : Nat) (st : TState) (vals : Option (List XVal))
    (h : (step s (.setTrialStateValues tid st vals)).2 = .bool true) :
    ∃ t, s.trial? tid = some t ∧
      (step (step s (.setTrialStateValues tid st vals)).1 (.getTrial tid)).2 = .trial tid { t with
        state := st, values := vals.or t.values, hasStart := t.hasStart || st == .running,
        hasComplete := t.hasComplete || st.isFinished } := by
  obtain ⟨s', e, hw⟩ := wrote_of_out h rfl (fun _ he => Out.noConfusion he)
  rw [e]
  cases hw with
  | state _ _ _ t hw =>
    exact ⟨t, ((writable_ok_iff s tid t).1 hw).1, getTrial_of _ tid _ (updTrial_read s tid t _ hw rfl)⟩

/-- **setTrialParam_read**: the trial read right after is the old record with `name ↦ (value, distribution)` in its
parameters, and `get_trial_param` returns the stored internal value. -/
theorem setTrialParam_read (s : Spec) (tid : Nat) (name : String) (p : Param) (ir : Bool)
    (h : (step s (.setTrialParam tid name p ir)).2 = .unit) :
    ∃ t, s.trial? tid = some t ∧
      (step (step s (.setTrialParam tid name p ir)).1 (.getTrial tid)).2 = .trial tid { t with params := t.params.set name p } ∧
      (step (step s (.setTrialParam tid name p ir)).1 (.getTrialParam tid name)).2 = .str p.internal := by
  obtain ⟨s', e, hw⟩ := wrote_of_out h rfl (fun _ he => Out.noConfusion he)
  rw [e]
  cases hw with
  | param _ _ _ _ t st hw =>
    have hread : ((s.updTrial tid (fun t => { t with params := t.params.set name p })).updStudy t.study
        (fun st => { st with paramDist := st.paramDist.set name p.dist })).trial? tid =
        some { t with params := t.params.set name p } := by
      rw [trial?_updStudy]; exact updTrial_read s tid t _ hw rfl
    refine ⟨t, ((writable_ok_iff s tid t).1 hw).1, getTrial_of _ tid _ hread, ?_⟩
    simp [step, hread, AList.get?_set_same]

/-- **createTrial_read** (plain and template): the call answers the next unused id, and the trial read right after under
that id is the template's record field by field (`mkTrial`: RUNNING with a start time and nothing else when no template
was given), numbered with the count of the study's trials. -/
theorem createTrial_read (s : Spec) (sid : Nat) (tmpl : Option Template) (ir : Bool) (n : Nat)
    (h : (step s (.createTrial sid tmpl ir)).2 = .newId n) :
    n = s.trials.length ∧
    (step (step s (.createTrial sid tmpl ir)).1 (.getTrial n)).2 = .trial n (mkTrial sid (s.trialsOf sid).length tmpl) := by
  obtain ⟨s', e, hw⟩ := wrote_of_out h rfl (fun _ he => Out.noConfusion he)
  rw [e]
  cases hw with
  | createTrial _ _ _ st hst =>
    refine ⟨rfl, getTrial_of _ _ _ ?_⟩
    exact trial?_appendTrial_self _ _ (by rw [mkTrial_study, hst]; rfl)

/-- **setStudyUserAttr_read** / **setStudySystemAttr_read**: the attributes read right after are the old ones with `k ↦ v`. -/
theorem setStudyUserAttr_read (s : Spec) (sid : Nat) (k v : String) (h : (step s (.setStudyUserAttr sid k v)).2 = .unit) :
    ∃ st, s.study? sid = some st ∧
      (step (step s (.setStudyUserAttr sid k v)).1 (.getStudyUserAttrs sid)).2 = .attrs (st.userAttrs.set k v) ∧
      (step (step s (.setStudyUserAttr sid k v)).1 (.getStudySystemAttrs sid)).2 = .attrs st.systemAttrs ∧
      (st.userAttrs.set k v).get? k = some v ∧ ∀ k', k' ≠ k → (st.userAttrs.set k v).get? k' = st.userAttrs.get? k' := by
  obtain ⟨s', e, hw⟩ := wrote_of_out h rfl (fun _ he => Out.noConfusion he)
  rw [e]
  cases hw with
  | studyUserAttr _ _ _ st hst =>
    have hnew := updStudy_study? s sid (fun st => { st with userAttrs := st.userAttrs.set k v }) st hst
    exact ⟨st, hst, by simp [step, hnew], by simp [step, hnew], AList.get?_set_same _ _ _,
      fun k' hk => AList.get?_set_other _ _ _ _ hk⟩

theorem setStudySystemAttr_read (s : Spec) (sid : Nat) (k v : String) (h : (step s (.setStudySystemAttr sid k v)).2 = .unit) :
    ∃ st, s.study? sid = some st ∧
      (step (step s (.setStudySystemAttr sid k v)).1 (.getStudySystemAttrs sid)).2 = .attrs (st.systemAttrs.set k v) ∧
      (step (step s (.setStudySystemAttr sid k v)).1 (.getStudyUserAttrs sid)).2 = .attrs st.userAttrs ∧
      (st.systemAttrs.set k v).get? k = some v ∧ ∀ k', k' ≠ k → (st.systemAttrs.set k v).get? k' = st.systemAttrs.get? k' := by
  obtain ⟨s', e, hw⟩ := wrote_of_out h rfl (fun _ he => Out.noConfusion he)
  rw [e]
  cases hw with
  | studySystemAttr _ _ _ st hst =>
    have hnew := updStudy_study? s sid (fun st => { st with systemAttrs := st.systemAttrs.set k v }) st hst
    exact ⟨st, hst, by simp [step, hnew], by simp [step, hnew], AList.get?_set_same _ _ _,
      fun k' hk => AList.get?_set_other _ _ _ _ hk⟩

/-- **createStudy_read**: the call answers the next unused id and the study read right after under that id has the given
name and directions and no attributes. -/
theorem createStudy_read (s : Spec) (name : String) (dirs : List Nat) (n : Nat)
    (h : (step s (.createStudy name dirs)).2 = .newId n) :
    n = s.studies.length ∧
    (step (step s (.createStudy name dirs)).1 (.getStudyNameFromId n)).2 = .str name ∧
    (step (step s (.createStudy name dirs)).1 (.getStudyDirections n)).2 = .nats dirs ∧
    (step (step s (.createStudy name dirs)).1 (.getStudyUserAttrs n)).2 = .attrs [] ∧
    (step (step s (.createStudy name dirs)).1 (.getStudySystemAttrs n)).2 = .attrs [] := by
  obtain ⟨s', e, hw⟩ := wrote_of_out h rfl (fun _ he => Out.noConfusion he)
  rw [e]
  cases hw with
  | createStudy _ _ hn =>
    have hnew := (study?_append s (StudyS.mk name dirs [] [] []) s.studies.length).trans (if_pos rfl)
    exact ⟨rfl, by simp [step, hnew], by simp [step, hnew], by simp [step, hnew], by simp [step, hnew]⟩

/-- **deleteStudy_read**: right after a successful deletion every getter of the study answers `KeyError`, and so does
`get_trial` for each of its trials. -/
theorem deleteStudy_read (s : Spec) (sid : Nat) (h : (step s (.deleteStudy sid)).2 = .unit) :
    (step (step s (.deleteStudy sid)).1 (.getStudyNameFromId sid)).2 = .err .keyError ∧
    (step (step s (.deleteStudy sid)).1 (.getAllTrials sid none)).2 = .err .keyError ∧
    ∀ tid t, s.trials[tid]? = some t → t.study = sid →
      (step (step s (.deleteStudy sid)).1 (.getTrial tid)).2 = .err .keyError := by
  obtain ⟨s', e, hw⟩ := wrote_of_out h rfl (fun _ he => Out.noConfusion he)
  rw [e]
  cases hw with
  | deleteStudy _ st hst =>
    have hnew := (study?_delete s sid sid).trans (if_pos rfl)
    refine ⟨by simp [step, hnew], by simp [step, hnew], ?_⟩
    intro tid t ht hs
    have : ({ s with studies := updAt s.studies sid (fun _ => none) } : Spec).trial? tid = none := by
      rw [trial?_delete, (trial?_some_iff s tid t).2 ⟨ht, by rw [hs, hst]; rfl⟩]
      simp [hs]
    simp [step, this]

/-! ## non-vacuity -/

def demoF : Spec := after init [.createStudy "a" [1], .createStudy "b" [2], .createTrial 0 none false, .createTrial 1 none false]

example : (step demoF (.setTrialUserAttr 0 "k" "v")).2 = .unit := by decide
example : addrTrial demoF (.setTrialUserAttr 0 "k" "v") ≠ some 1 := by decide
example : demoF.trial? 1 = some (mkTrial 1 0 none) := by decide
example : (step demoF (.setTrialUserAttr 9 "k" "v")).2 = .err .keyError := by decide
example : (step demoF (.createStudy "a" [1])).2 = .err .duplicated := by decide
example : (step demoF (.deleteStudy 0)).2 = .unit ∧ addrStudy demoF (.deleteStudy 0) ≠ some 1 := by decide
example : (step demoF (.setTrialStateValues 0 .complete (some [.fin 1]))).2 = .bool true := by decide
example : (step demoF (.setTrialParam 0 "x" ⟨"1", ⟨0, false, "F"⟩⟩ false)).2 = .unit := by decide
example : (step demoF (.createTrial 1 (some ⟨.waiting, none, [], [("u", "1")], [], [], false, false⟩) false)).2 = .newId 2 := by decide

end OptunaVerif.C01
