import OptunaVerif.Lemmas.BruteForce
import OptunaVerif.Lemmas.Grid
/-!
# C14 — exhaustive samplers visit every point of a finite space exactly once, then stop

First half: the brute-force sampler (`optuna/samplers/_brute_force.py`), model in `Model/BruteForce.lean`.  Second half
(`section grid`): the grid sampler, model in `Model/Grid.lean`, with its own list of quantifiers at the head of the section.
Both sessions are instances of the one optimize loop of `Lemmas/OptimizeLoop.lean`; the theorems here read the invariants of
`Lemmas/BruteForce.lean` / `Lemmas/Grid.lean` (`session_inv`, `session_ginv`) in the property's terms.

Quantifiers of the brute-force theorems (nothing is bounded):
* `p : Prog` — **every** finite define-by-run program (finitely branching tree of suggest calls;
  conditional branches, shared sub-spaces, single-valued domains, branches of different depth, early
  failing branches are all just shapes of `p`), well-formed in the sense of `Prog.WF`
  (candidate lists non-empty and duplicate-free — proved for every distribution in
  `enumerate_ne_nil` / `enumerate_nodup` —, the `single` flag only on one-candidate lists, and no
  parameter name twice on one path);
* `cx.ω` — **every** RNG (an arbitrary stream of proposals, see `pick`);
* the outcomes at the leaves (complete / pruned / fail, caught or re-raised) — every pattern;
* `cx.cuts` — KeyboardInterrupts, any pattern, as long as they hit after the last suggest of a
  trial (`NoMidCut`; the other case is `interrupt_mid_trial_loses_subspace` below);
* `ks` — **every** split of the run into `optimize(n_trials=k)` calls;
* `cx.avoid` — both modes; `R` — stale RUNNING trials left by a dead worker (any number, standing at
  any node) are allowed in the strict mode `avoid_premature_stop=True`; in the default mode the
  study must not contain RUNNING trials (`stale_running_default_mode_stops_early` shows why).
-/
namespace OptunaVerif.C14
open OptunaVerif.BruteForce

structure Setting (p : Prog) (cx : Ctx) (R : List Trial) : Prop where
  wf : p.WF
  cuts : NoMidCut cx
  stale : ∀ t ∈ R, t.finished = false ∧ Walk p t.steps
  mode : cx.avoid = true ∨ R = []

theorem setting_init {p : Prog} {cx : Ctx} {R : List Trial} (h : Setting p cx R) :
    Inv (!cx.avoid) p (initSt R) :=
  inv_init _ p h.wf R h.stale (h.mode.imp (fun hm => by simp [hm]) id)

theorem setting_inv {p : Prog} {cx : Ctx} {R : List Trial} (h : Setting p cx R) (ks : List Nat) :
    Inv (!cx.avoid) p (session cx p ks (initSt R)) :=
  session_inv cx p h.wf h.cuts ks _ (setting_init h)

/-- supporting invariant "visited paths = finished trials": the tree the sampler builds from the
trials of the study is the specification tree of that history, and building it never raises -/
theorem tree_is_spec (p : Prog) (H : List Trial) (h : ∀ t ∈ H, TrialOK p t) :
    populate (Tree.unexp false) H [] = some (specTree p H) :=
  populate_from_empty p H h

/-- supporting invariant "the chosen child has an unexpanded descendant" (every RNG), for an expanded
node that has one itself (`h`) -/
theorem chosen_child_has_unexpanded (excl : Bool) (n : Option String) (ks : List Val) (ch : Val → Tree)
    (r : Bool) (proposal : Val) (h : 0 < (Tree.exp n ks ch r).count excl) :
    (Tree.exp n ks ch r).sampleChild excl proposal ∈ ks ∧
      0 < (ch ((Tree.exp n ks ch r).sampleChild excl proposal)).count excl :=
  sampleChild_pos excl n ks ch r proposal h

/-- supporting invariant "single-valued domains add exactly one edge" -/
theorem single_valued_one_edge (d : Dist) (h : d.WF) (hs : d.single = true) :
    d.enumerate = [d.singleValue] :=
  single_one_edge d h hs

theorem candidates_wellformed (d : Dist) (h : d.WF) : d.enumerate ≠ [] ∧ d.enumerate.Nodup :=
  ⟨enumerate_ne_nil d h, enumerate_nodup d h⟩

/-- the candidate enumeration misses no point of a stepped domain (in particular not the last one) -/
theorem candidates_complete_float (low high step : Rat) (h : (Dist.float low high step).WF) (k : Nat)
    (hk : low + (k : Rat) * step ≤ high) : low + (k : Rat) * step ∈ (Dist.float low high step).enumerate :=
  enumerate_complete_float low high step h k hk

theorem candidates_complete_int (low high step : Int) (h : (Dist.int low high step).WF) (k : Nat)
    (hk : low + (k : Int) * step ≤ high) :
    ((low + (k : Int) * step : Int) : Rat) ∈ (Dist.int low high step).enumerate :=
  enumerate_complete_int low high step h k hk

/-- the candidate enumeration contains nothing above `high` -/
theorem candidates_bounded (high step : Rat) (fuel : Nat) (value x : Rat)
    (h : x ∈ loopQ high step fuel value) : x ≤ high :=
  loopQ_le_high high step fuel value x h

/-- the last point `1 = 0.1 + 3·0.3` of `FloatDistribution(0.1, 1.0, step=0.3)` is a candidate -/
example : (1 / 10 : Rat) + ((3 : Nat) : Rat) * (3 / 10) ∈ (Dist.float (1 / 10) 1 (3 / 10)).enumerate :=
  candidates_complete_float _ _ _ ⟨by grind, by grind⟩ 3 (by grind)

example : (Dist.int 3 3 2).single = true ∧ (Dist.cat 1).single = true ∧ (Dist.int 1 7 3).single = false := by
  decide

/-- **Never twice, never outside.**  After any number of `optimize` calls: the sampler never raised,
every evaluated combination is a root-to-leaf path of the program and no combination was evaluated
twice. -/
theorem bruteforce_never_twice (p : Prog) (cx : Ctx) (R : List Trial) (h : Setting p cx R)
    (ks : List Nat) :
    (session cx p ks (initSt R)).crashed = false ∧
    (∀ l ∈ evaluated (session cx p ks (initSt R)), LeafPath p l) ∧
    (evaluated (session cx p ks (initSt R))).Nodup := by
  have hinv := setting_inv h ks
  exact ⟨hinv.noCrash, fun l hl => hinv.ok ⟨l, true⟩ (mem_evalOf.mp hl), hinv.nodup⟩

/-- **Stops exactly when everything is evaluated**: the stop flag is set iff every root-to-leaf
path of the program is among the evaluated combinations. -/
theorem bruteforce_stop_iff_all (p : Prog) (cx : Ctx) (R : List Trial) (h : Setting p cx R)
    (ks : List Nat) :
    (session cx p ks (initSt R)).stop = true ↔
      ∀ l, LeafPath p l → l ∈ evaluated (session cx p ks (initSt R)) := by
  rw [(setting_inv h ks).stop, remaining_zero_iff]
  rfl

/-- the number of trials: the stale ones plus the finished ones, never more than the number of
leaves; and the stop flag is set iff that number is reached (so: not one trial early, not one late) -/
theorem bruteforce_trial_count (p : Prog) (cx : Ctx) (R : List Trial) (h : Setting p cx R)
    (ks : List Nat) :
    (session cx p ks (initSt R)).trials.length ≤ R.length + numLeaves p ∧
    ((session cx p ks (initSt R)).stop = true ↔
      (session cx p ks (initSt R)).trials.length = R.length + numLeaves p) := by
  have hl := session_len cx p h.wf h.cuts ks (initSt R) (setting_init h)
  rw [remaining_all_running p (initSt R).trials (fun t ht => (h.stale t ht).1)] at hl
  have hR : (initSt R).trials.length = R.length := rfl
  refine ⟨by omega, ?_⟩
  rw [(setting_inv h ks).stop]
  omega

/-- For every program, RNG, outcome pattern, end-of-trial interruption
pattern and split into `optimize` calls: as soon as the stop flag is set, the evaluated
combinations are exactly the root-to-leaf paths of the program, each exactly once, and the study
holds exactly `numLeaves p` finished trials (plus the stale ones it started with). -/
theorem bruteforce_exhaustive (p : Prog) (cx : Ctx) (R : List Trial) (h : Setting p cx R)
    (ks : List Nat) (hstop : (session cx p ks (initSt R)).stop = true) :
    (session cx p ks (initSt R)).crashed = false ∧
    (evaluated (session cx p ks (initSt R))).Nodup ∧
    (∀ l, l ∈ evaluated (session cx p ks (initSt R)) ↔ LeafPath p l) ∧
    (session cx p ks (initSt R)).trials.length = R.length + numLeaves p := by
  obtain ⟨h1, h2, h3⟩ := bruteforce_never_twice p cx R h ks
  have h4 := (bruteforce_stop_iff_all p cx R h ks).mp hstop
  have h5 := (bruteforce_trial_count p cx R h ks).2.mp hstop
  exact ⟨h1, h3, fun l => ⟨h2 l, h4 l⟩, h5⟩

/-- the same as a statement about multisets: the evaluated combinations are a permutation of the
explicit list `leaves p` of all root-to-leaf paths -/
theorem bruteforce_exhaustive_perm (p : Prog) (cx : Ctx) (R : List Trial) (h : Setting p cx R)
    (ks : List Nat) (hstop : (session cx p ks (initSt R)).stop = true) :
    (evaluated (session cx p ks (initSt R))).Perm (leaves p) := by
  obtain ⟨_, hnd, hmem, _⟩ := bruteforce_exhaustive p cx R h ks hstop
  rw [List.perm_ext_iff_of_nodup hnd (leaves_nodup p h.wf)]
  intro l
  rw [mem_leaves_iff]
  exact hmem l

/-- **It does stop by itself** — programs that never raise, no interruption: for every split `ks`
of the run, the number of trials is `min (total budget) (number of leaves)`; in particular a
single `optimize()` without budget (= any budget ≥ the number of leaves) runs exactly `numLeaves p`
trials and ends with the stop flag set. -/
theorem bruteforce_stops_by_itself (p : Prog) (cx : Ctx) (R : List Trial) (h : Setting p cx R)
    (hnc : NoCut cx) (hnr : NoRaise p) (ks : List Nat) :
    (session cx p ks (initSt R)).trials.length = R.length + min ks.sum (numLeaves p) ∧
    (numLeaves p ≤ ks.sum → (session cx p ks (initSt R)).stop = true) := by
  have hcnt := session_count cx p h.wf hnc hnr ks (initSt R) (setting_init h)
  have hrem : remaining p (initSt R).trials = numLeaves p :=
    remaining_all_running p R (fun t ht => (h.stale t ht).1)
  rw [hrem] at hcnt
  have hlen : (initSt R).trials.length = R.length := rfl
  rw [hlen] at hcnt
  refine ⟨hcnt, fun hle => ?_⟩
  rw [(bruteforce_trial_count p cx R h ks).2, hcnt]
  omega

/-- **It does stop by itself** — general case (leaves may raise exceptions that end the current
`optimize` call, trials may be interrupted after their last suggest): every call with a positive
budget on a study that has not stopped yet runs at least one trial, so after at most `numLeaves p`
resumptions the stop flag is set. -/
theorem bruteforce_stops_after_resumptions (p : Prog) (cx : Ctx) (R : List Trial) (h : Setting p cx R)
    (ks : List Nat) (hks : ∀ k ∈ ks, 1 ≤ k) (hlen : numLeaves p ≤ ks.length) :
    (session cx p ks (initSt R)).stop = true := by
  rcases session_progress cx p h.wf h.cuts ks hks (initSt R) (setting_init h) with h1 | h1
  · exact h1
  · have hrem : remaining p (initSt R).trials = numLeaves p :=
      remaining_all_running p R (fun t ht => (h.stale t ht).1)
    exact (setting_inv h ks).stop.mpr (by omega)

/-- `c ∈ {0,1}`; `c = 0`: `x ∈ {1,2,3}` (the trial with `x = 2` raises an uncaught exception);
`c = 1`: `a ∈ {1,2}`, then a single-valued `s ∈ {5}`, then `b ∈ {a..2}` (a sub-space shared by the
two `a` branches, with different ranges); `b = 2` is pruned, the other one fails (caught). -/
def demo : Prog :=
  .node "c" false [0, 1] (fun c =>
    if c = 0 then .node "x" false [1, 2, 3] (fun x => .leaf (if x = 2 then .fail true else .complete))
    else .node "a" false [1, 2] (fun a =>
      .node "s" true [5] (fun _ =>
        .node "b" false (if a = 1 then [1, 2] else [2])
          (fun b => .leaf (if b = 2 then .pruned else .fail false)))))

theorem demo_wf : demo.WF := by
  simp [demo, Prog.WF, HasName]

/-- RNG proposals 0,1,2,…; trial 1 is interrupted after its last suggest -/
def demoCx (avoid : Bool) : Ctx := ⟨avoid, fun n => (n : Rat), fun n => if n = 1 then .atEnd else .none⟩

/-- a stale RUNNING trial that stands at `c = 1, a = 1, s = 5` -/
def demoStale : List Trial := [⟨[⟨"c", [0, 1], 1⟩, ⟨"a", [1, 2], 1⟩, ⟨"s", [5], 5⟩], false⟩]

theorem demo_setting_default : Setting demo (demoCx false) [] :=
  ⟨demo_wf, by intro n j; simp only [demoCx]; split <;> simp, by simp, Or.inr rfl⟩

theorem demo_setting_strict : Setting demo (demoCx true) demoStale :=
  ⟨demo_wf, by intro n j; simp only [demoCx]; split <;> simp,
   by
    intro t ht
    simp only [demoStale, List.mem_singleton] at ht
    subst ht
    refine ⟨rfl, ?_⟩
    simp only [demo, Walk]
    refine Or.inr ⟨1, _, rfl, by simp, ?_⟩
    have h10 : ¬ ((1 : Rat) = 0) := by decide
    simp only [h10, if_false, Walk]
    refine Or.inr ⟨1, _, rfl, by simp, ?_⟩
    exact Or.inr ⟨5, _, rfl, by simp, Or.inl rfl⟩, Or.inl rfl⟩

def evaluatedVals (st : St) : List (List Val) := (evaluated st).map (fun l => l.map (·.value))

example : numLeaves demo = 6 := by decide

/-- the hypotheses of `bruteforce_exhaustive` are satisfiable and its conclusion is not trivial:
a run split into calls with budgets 2, 1, 1, 1, 10 (trial 1, the last of the first call, ends with the
interrupt, trial 2 with the uncaught failure) evaluates six different combinations and then has the stop flag -/
example : (session (demoCx false) demo [2, 1, 1, 1, 10] (initSt [])).stop = true ∧
    evaluatedVals (session (demoCx false) demo [2, 1, 1, 1, 10] (initSt [])) =
      [[0, 1], [0, 3], [0, 2], [1, 1, 5, 1], [1, 1, 5, 2], [1, 2, 5, 2]] := by decide +kernel

/-- … and before the last one the flag is not set -/
example : (session (demoCx false) demo [2, 1, 1, 1] (initSt [])).stop = false ∧
    (session (demoCx false) demo [2, 1, 1, 1] (initSt [])).trials.length = 5 := by decide +kernel

/-- strict mode with a stale RUNNING trial: still all six -/
example : (session (demoCx true) demo [20, 20, 20] (initSt demoStale)).stop = true ∧
    (evaluated (session (demoCx true) demo [20, 20, 20] (initSt demoStale))).length = 6 := by decide +kernel

/-! ## where the full-strength statement is false on today's code (model witnesses; the harness
replays `interrupt_mid_trial_loses_subspace` and `stale_running_default_mode_stops_early` on the real sampler) -/

def pxy : Prog := .node "x" false [0, 1] (fun _ => .node "y" false [0, 1] (fun _ => .leaf .complete))

theorem pxy_wf : pxy.WF := by simp [pxy, Prog.WF, HasName]

/-- **Interrupted before all parameters were suggested.**  Trial 0 gets a KeyboardInterrupt after
`x = 0` and before `y` is asked for; it is stored as FAIL with the partial path, `optimize`
re-raises, the user resumes: the sampler now treats the prefix `x = 0` as a finished leaf, the two
combinations below it are never evaluated, and the study stops "by itself" after 3 trials: the partial one and 2 of the
4 combinations (known finding F19). -/
theorem interrupt_mid_trial_loses_subspace :
    let cx : Ctx := ⟨false, fun _ => 0, fun n => if n = 0 then .mid 1 else .none⟩
    let st := session cx pxy [1, 10] (initSt [])
    st.stop = true ∧ st.crashed = false ∧ numLeaves pxy = 4 ∧
      evaluatedVals st = [[0], [1, 0], [1, 1]] := by decide +kernel

/-- the same in the strict mode -/
theorem interrupt_mid_trial_loses_subspace_strict :
    let cx : Ctx := ⟨true, fun _ => 0, fun n => if n = 0 then .mid 1 else .none⟩
    let st := session cx pxy [1, 10] (initSt [])
    st.stop = true ∧ evaluatedVals st = [[0], [1, 0], [1, 1]] := by decide +kernel

/-- When the prefix had already been explored further by an earlier trial, the partial FAIL
trial makes `_populate_tree` raise `ValueError` in the sampler's next call: the session ends `crashed`,
without the stop flag (trial 0 evaluates `x=0,y=0`, trial 1 is interrupted after `x = 0`). -/
theorem interrupt_mid_trial_breaks_sampler :
    let cx : Ctx := ⟨false, fun _ => 0, fun n => if n = 1 then .mid 1 else .none⟩
    let st := session cx pxy [1, 1, 10] (initSt [])
    st.crashed = true ∧ st.stop = false := by decide +kernel

/-- **Default mode and a stale RUNNING trial** (a worker was killed after `x = 0`): the node is
counted as explored, the study stops after 2 of 4 combinations.  (Documented for
`avoid_premature_stop=False`; `bruteforce_exhaustive` covers the strict mode.) -/
theorem stale_running_default_mode_stops_early :
    let cx : Ctx := ⟨false, fun _ => 0, fun _ => .none⟩
    let st := session cx pxy [10] (initSt [⟨[⟨"x", [0, 1], 0⟩], false⟩])
    st.stop = true ∧ evaluatedVals st = [[1, 0], [1, 1]] := by decide +kernel

/-! # Grid sampler (`optuna/samplers/_grid.py`), model in `Model/Grid.lean`

Quantifiers: every grid size `n`, every RNG `cx.ω`, every pattern `cx.raises` of trials that end
with an exception leaving `optimize` (uncaught failure, KeyboardInterrupt — the trial is finished in
every case), every split `ks` into `optimize` calls, and every initial content `pre` of the study
that satisfies `GridSetting`: trials without grid id in any state (other samplers, `add_trial`,
enqueued trials waiting in the queue, RUNNING leftovers) and grid trials left by an earlier,
interrupted run of the same sampler (finished or still RUNNING). -/

section grid
open OptunaVerif.Grid

def ginit (pre : List GTrial) : Grid.St := { trials := pre }

/-- What is assumed about the trials already in the study. `idx`: a grid id held by trial number
`i` is below `n`, and is `i` itself or `i ≥ n` (true of everything the sampler itself ever assigns); `nodup`: no cell
was finished twice; WAITING trials carry no grid id (not a retried grid trial); some cell is free. -/
structure GridSetting (n : Nat) (pre : List GTrial) : Prop where
  idx : ∀ (i : Nat) (t : GTrial) (g : Nat), pre[i]? = some t → t.gridId = some g → g < n ∧ (g = i ∨ n ≤ i)
  nodup : (visitedIds pre).Nodup
  waitingNoId : ∀ t ∈ pre, t.state = .waiting → t.gridId = none
  notDone : 0 < remainingG n (visitedIds pre)

theorem gridSetting_ginv {n : Nat} {pre : List GTrial} (h : GridSetting n pre) : GInv n (ginit pre) :=
  ⟨h.idx, h.nodup, h.waitingNoId, by
    have := h.notDone
    simp only [ginit]
    constructor
    · intro h; simp at h
    · intro h; omega⟩

/-- the usual case: nothing in the study carries a grid id yet -/
theorem gridSetting_of_noIds (n : Nat) (hn : 0 < n) (pre : List GTrial) (h : ∀ t ∈ pre, t.gridId = none) :
    GridSetting n pre := by
  refine ⟨?_, ?_, fun t ht _ => h t ht, ?_⟩
  · intro i t g hi hg
    have := h t (List.mem_of_getElem? hi)
    rw [this] at hg
    simp at hg
  · rw [visitedIds_of_noIds pre h]; simp
  · rw [visitedIds_of_noIds pre h, remainingG_nil]; exact hn

/-- After any number of `optimize` calls no grid cell has been finished twice,
every finished cell is a cell of the grid, and the stop flag is set exactly when every cell has
been finished (not one trial early, not one late). -/
theorem grid_exhaustive (n : Nat) (cx : Grid.Ctx) (pre : List GTrial) (h : GridSetting n pre)
    (ks : List Nat) :
    (visitedIds (Grid.session cx n ks (ginit pre)).trials).Nodup ∧
    (∀ g ∈ visitedIds (Grid.session cx n ks (ginit pre)).trials, g < n) ∧
    ((Grid.session cx n ks (ginit pre)).stop = true ↔
      ∀ g, g < n → g ∈ visitedIds (Grid.session cx n ks (ginit pre)).trials) :=
  (session_ginv cx n ks (ginit pre) (gridSetting_ginv h)).exhaustive

theorem gridSetting_ginvCount {n : Nat} {pre : List GTrial} (h : GridSetting n pre) :
    GInvCount n (pre.length + remainingG n (visitedIds pre)) (ginit pre) :=
  ⟨gridSetting_ginv h, rfl, by
    intro h0
    have := h.notDone
    simp only [ginit] at h0
    omega⟩

/-- **It stops by itself — enqueued trials included.**  If no trial raises out of `optimize`, then
for every split `ks` the number of trials brought to a finished state is
`min (total budget) (queued trials + free cells)`: the run first works off the queue
(`enqueue_trial`; such a trial has no grid id and never sets the stop flag), then the free cells; and
with enough budget it ends with the stop flag set, an empty queue, and exactly one new trial per
free cell. -/
theorem grid_stops_by_itself (n : Nat) (cx : Grid.Ctx) (pre : List GTrial) (h : GridSetting n pre)
    (hnr : ∀ i, cx.raises i = false) (ks : List Nat) :
    nDone (Grid.session cx n ks (ginit pre)).trials =
      nDone pre + min ks.sum (nWaiting pre + remainingG n (visitedIds pre)) ∧
    (nWaiting pre + remainingG n (visitedIds pre) ≤ ks.sum →
      (Grid.session cx n ks (ginit pre)).stop = true ∧
      nWaiting (Grid.session cx n ks (ginit pre)).trials = 0 ∧
      (Grid.session cx n ks (ginit pre)).trials.length = pre.length + remainingG n (visitedIds pre)) := by
  have h3 := gridSetting_ginvCount h
  have hinv := session_ginvCount cx n _ ks (ginit pre) h3
  obtain ⟨hc1, hc2⟩ := Grid.session_count cx n _ hnr ks (ginit pre) h3
  have htodo : todo n (ginit pre) = nWaiting pre + remainingG n (visitedIds pre) := rfl
  have hd : nDone (ginit pre).trials = nDone pre := rfl
  rw [htodo] at hc1 hc2
  rw [hd] at hc1
  refine ⟨hc1, fun hle => ?_⟩
  have hz : todo n (Grid.session cx n ks (ginit pre)) = 0 := by rw [hc2]; omega
  simp only [todo] at hz
  have hr0 : remainingG n (visitedIds (Grid.session cx n ks (ginit pre)).trials) = 0 := by omega
  refine ⟨hinv.stop.mpr hr0, by omega, ?_⟩
  have := hinv.lenInv
  omega

/-- a fresh study and a 2×3 grid run in calls of 4 + 1 + 10 trials, trial 2 raising: six cells, six
trials, stop — the hypotheses are satisfiable and the conclusion is not trivial -/
example : (visitedIds (Grid.session ⟨fun c => c, fun i => i == 2⟩ 6 [4, 1, 10] (ginit [])).trials) =
      [0, 1, 2, 3, 4, 5] ∧
    (Grid.session ⟨fun c => c, fun i => i == 2⟩ 6 [4, 1, 10] (ginit [])).stop = true ∧
    (Grid.session ⟨fun c => c, fun i => i == 2⟩ 6 [4, 1] (ginit [])).stop = false := by decide +kernel

/-- with two non-grid trials already in the study (one finished, one enqueued and waiting) the
number-based assignment covers only cells 2,3 and the RNG fills in 0 and 1 -/
example : (visitedIds (Grid.session ⟨fun _ => 1, fun _ => false⟩ 4 [10]
      (ginit [⟨none, .finished⟩, ⟨none, .waiting⟩])).trials) = [2, 3, 1, 0] ∧
    (Grid.session ⟨fun _ => 1, fun _ => false⟩ 4 [10]
      (ginit [⟨none, .finished⟩, ⟨none, .waiting⟩])).trials.length = 6 := by decide +kernel

example : GridSetting 4 [⟨none, .finished⟩, ⟨none, .waiting⟩] :=
  gridSetting_of_noIds 4 (by omega) _ (by simp)

/-- a cell whose worker was killed (stale RUNNING grid trial 1) is evaluated again at the end -/
example : (visitedIds (Grid.session ⟨fun _ => 0, fun _ => false⟩ 3 [10]
      (ginit [⟨some 0, .finished⟩, ⟨some 1, .running⟩])).trials) = [0, 2, 1] := by decide +kernel

/-- **Enqueued trial and a one-cell grid** (the input on which `after_trial` used to raise
`KeyError('grid_id')` before the repair f91818c, replayed on the real sampler by the harness): the
enqueued trial is evaluated, does not stop the study, then the cell is evaluated and the study stops. -/
theorem grid_enqueued_then_grid :
    let st := Grid.session ⟨fun _ => 0, fun _ => false⟩ 1 [10] (ginit [⟨none, .waiting⟩])
    st.stop = true ∧ st.trials = [⟨none, .finished⟩, ⟨some 0, .finished⟩] := by decide +kernel

/-- an enqueued trial added between two calls, when exactly one cell is free -/
example : (Grid.session ⟨fun _ => 0, fun _ => false⟩ 2 [10]
      (ginit [⟨some 0, .finished⟩, ⟨none, .waiting⟩])).trials =
    [⟨some 0, .finished⟩, ⟨none, .finished⟩, ⟨some 1, .finished⟩] := by decide +kernel

end grid

end OptunaVerif.C14
