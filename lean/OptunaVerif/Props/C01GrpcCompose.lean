import OptunaVerif.Props.C01GrpcGenSpec
import OptunaVerif.Props.C01InMemGen
/-!
# C01 — the gRPC proxy composed with the refinements of the REAL backends

`Proto.proxyStep` (and so `C01Grpc.proxy_refines_backend` / `C01GrpcGen.gen_proxy_refines_contract`) hard-wires the IDEAL backend
`Storage.step`.  The wire model over an arbitrary backend (`proxyStepOver B`; `proxyStepOver ideal = proxyStep`) and the theorem that
the wire is transparent over it (`proxyStepOver_primary`) are in Lemmas/ProtoOver.lean.  Here a one-step refinement interface
`Sim B` is read off the refinement theorems of the backends (`C01InMem.step_refines` / `sim_all`, `Rdb.step_sim` of Lemmas/RdbRefine.lean),
the proxy over any refining backend is shown to refine the contract with the same domain hypotheses
(`proxy_over_refining_backend_refines_contract`), and that is instantiated with the GENERATED in-memory methods
(`C01InMemGen.genStep`: `simInMemoryGen`, `grpc_over_inmemory_refines_contract`).  `Sim` has the shape of `Rdb.step_sim` as well,
but this file gives no instance for the relational RDB model.
-/

namespace OptunaVerif.C01GrpcCompose
open OptunaVerif.Storage OptunaVerif.Proto OptunaVerif.Generated OptunaVerif.C01Grpc
open OptunaVerif.Generated.GrpcTables (Rpc)
open OptunaVerif.C01GrpcGen (shapeOK)

/-- the generated client + servicer + converter bodies, interpreted, are `proxyStepOver ideal` -/
theorem gen_proxy_eq_over_ideal (s : Spec) (u : String) (op : Op) :
    GrpcIR.proxyStepGen GrpcMethods.program s u op = some (proxyStepOver ideal s u op) := by
  rw [proxyStepOver_ideal]; exact C01GrpcGen.gen_proxy_eq s u op

/-- the one-step refinement the theorems of a backend establish (`C01InMem.step_refines`, `Rdb.step_sim`): a relation
to the contract state (with the backend's invariant), the domain hypothesis on calls (`Legal` / `WfOp`), how a call is presented
to the contract given the backend's answer (`opFor` / `withRaised`: the U1 bit), the contract step (`Storage.step`, or
`InMemory.specStep` = it plus one dead slot), which answers the contract allows (`accepts` / `Allowed`), plus the two facts about
allowed answers the wire needs (right reply shape; only the error classes the contract knows in that rpc) -/
structure Sim (B : Backend) where
  R : B.σ → Spec → Prop
  dom : Spec → Op → Prop
  specOp : Op → Out → Op
  specStep : Spec → Op → Spec × Out
  ok : Op → Out → Out → Prop
  sim : ∀ b s op, R b s → dom s op →
    R (B.step b op).1 (specStep s (specOp op (B.step b op).2)).1 ∧ ok op (specStep s (specOp op (B.step b op).2)).2 (B.step b op).2
  shape : ∀ b s op rpc, R b s → dom s op → rpcOf op = some rpc → shapeOK op (B.step b op).2 = true
  errs : ∀ b s op rpc e, R b s → dom s op → rpcOf op = some rpc → (B.step b op).2 = .err e → (rpc, e) ∈ raisable

theorem rpcOf_backendOp (u : String) (op : Op) : rpcOf (backendOp u op) = rpcOf op := by
  cases op <;> first | rfl | exact rpcOf_normOp u _

theorem clientPost_eq_err (op : Op) (o : Out) (e : Err) (h : clientPost op o = .err e) : o = .err e := by
  cases op <;> first | exact h | (cases o <;> first | exact h | cases h)

theorem proxy_over_refining_backend_step (B : Backend) (S : Sim B) (b : B.σ) (s : Spec) (u : String) (op : Op) (rpc : Rpc)
    (h : rpcOf op = some rpc) (hR : S.R b s) (hd : S.dom s (backendOp u op)) :
    S.R (proxyStepOver B b u op).1 (S.specStep s (S.specOp (backendOp u op) (B.step b (backendOp u op)).2)).1 ∧
    S.ok (backendOp u op) (S.specStep s (S.specOp (backendOp u op) (B.step b (backendOp u op)).2)).2 (B.step b (backendOp u op)).2 ∧
    (proxyStepOver B b u op).2 = .ok (normOut (clientPost op (B.step b (backendOp u op)).2)) := by
  have hr : rpcOf (backendOp u op) = some rpc := by rw [rpcOf_backendOp]; exact h
  rw [proxyStepOver_primary B b u op rpc h (S.shape b s _ rpc hR hd hr)]
  obtain ⟨h1, h2⟩ := S.sim b s _ hR hd
  exact ⟨h1, h2, wireOut_of_raisable rpc _ fun e he => S.errs b s _ rpc e hR hd hr (clientPost_eq_err _ _ _ he)⟩

def pairStepP {B : Backend} (S : Sim B) (bs : B.σ × Spec) (c : String × Op) : B.σ × Spec :=
  ((proxyStepOver B bs.1 c.1 c.2).1, (S.specStep bs.2 (S.specOp (backendOp c.1 c.2) (B.step bs.1 (backendOp c.1 c.2)).2)).1)

def pairRunP {B : Backend} (S : Sim B) (bs : B.σ × Spec) (h : List (String × Op)) : B.σ × Spec := h.foldl (pairStepP S) bs

def domFromP {B : Backend} (S : Sim B) : B.σ × Spec → List (String × Op) → Prop
  | _, [] => True
  | bs, c :: rest => S.dom bs.2 (backendOp c.1 c.2) ∧ domFromP S (pairStepP S bs c) rest

def okFromP {B : Backend} (S : Sim B) : B.σ × Spec → List (String × Op) → Prop
  | _, [] => True
  | bs, c :: rest =>
    (S.ok (backendOp c.1 c.2) (S.specStep bs.2 (S.specOp (backendOp c.1 c.2) (B.step bs.1 (backendOp c.1 c.2)).2)).2
        (B.step bs.1 (backendOp c.1 c.2)).2 ∧
      (proxyStepOver B bs.1 c.1 c.2).2 = .ok (normOut (clientPost c.2 (B.step bs.1 (backendOp c.1 c.2)).2))) ∧
    okFromP S (pairStepP S bs c) rest

/-- **proxy_over_refining_backend_refines_contract**: if `B` refines the contract (`Sim B`: the shape of the backends' refinement
theorems, with their domain hypothesis), then the gRPC proxy over `B` refines the contract with the SAME domain hypothesis, for
every history of operations that go over the wire as one rpc: the states stay related, every answer of the backend is allowed by
the contract, and the caller gets it normalised by `normOut`.  (The four `BaseStorage` defaults that run in the client —
`get_trial_number_from_id`, `get_trial_param`, `get_n_trials`, `get_best_trial` — are compositions of such calls: not covered here.) -/
theorem proxy_over_refining_backend_refines_contract (B : Backend) (S : Sim B) (bs : B.σ × Spec) (h : List (String × Op))
    (hprim : ∀ c ∈ h, (rpcOf c.2).isSome = true) (hR : S.R bs.1 bs.2) (hd : domFromP S bs h) :
    S.R (pairRunP S bs h).1 (pairRunP S bs h).2 ∧ okFromP S bs h := by
  induction h generalizing bs with
  | nil => exact ⟨hR, trivial⟩
  | cons c rest ih =>
    obtain ⟨rpc, hrpc⟩ := Option.isSome_iff_exists.1 (hprim c (List.mem_cons_self ..))
    obtain ⟨h1, h2, h3⟩ := proxy_over_refining_backend_step B S bs.1 bs.2 c.1 c.2 rpc hrpc hR hd.1
    obtain ⟨i1, i2⟩ := ih (pairStepP S bs c) (fun x hx => hprim x (List.mem_cons_of_mem _ hx)) h1 hd.2
    exact ⟨i1, ⟨h2, h3⟩, i2⟩

open OptunaVerif.InMemory (Inv Rel Legal specStep opFor accepts)
open OptunaVerif.C01InMem (step_refines)
open OptunaVerif.C01GrpcGen (step_shape)

/-- `InMemoryStorage` as the interpreter of its generated method bodies (`C01InMemGen.genStep`) -/
def inMemoryGen : Backend := { σ := InMemory.State, step := C01InMemGen.genStep }

theorem shapeOK_opFor (op : Op) (io o : Out) : shapeOK (opFor op io) o = shapeOK op o := by
  cases op <;> first | rfl | (cases o <;> rfl)

theorem rpcOf_opFor (op : Op) (io : Out) : rpcOf (opFor op io) = rpcOf op := by cases op <;> rfl

/-- the in-memory reading of the contract (`specStep`: a rejected `create_new_study` burns an id) answers as the contract does -/
theorem specStep_snd (s : Spec) (op : Op) : (specStep s op).2 = (step s op).2 := by
  cases op with
  | createStudy name dirs => simp only [specStep, step]; split <;> rfl
  | _ => rfl

/-- for an operation with an rpc of its own, an answer the contract accepts IS the contract's answer (U3 / U4 concern `get_best_trial`) -/
theorem accepts_primary (op : Op) (rpc : Rpc) (so io : Out) (h : accepts op so io = true) (hp : rpcOf op = some rpc)
    (hso : shapeOK op so = true) : io = so := by
  unfold accepts at h
  rcases Bool.or_eq_true_iff.1 h with h1 | h2
  · exact (eq_of_beq h1).symm
  · exfalso
    split at h2
    · cases op <;> simp [shapeOK, rpcOf] at hso hp
    · split at h2
      · simp [rpcOf] at hp
      · exact Bool.noConfusion h2
    · exact Bool.noConfusion h2

theorem inMemory_answer (b : InMemory.State) (s : Spec) (op : Op) (rpc : Rpc) (hR : Inv b ∧ Rel b s) (hd : Legal s op = true)
    (hp : rpcOf op = some rpc) : (InMemory.step b op).2 = (step s (opFor op (InMemory.step b op).2)).2 := by
  obtain ⟨_, _, c⟩ := step_refines b s op hR.1 hR.2 hd
  rw [specStep_snd] at c
  exact accepts_primary op rpc _ _ c hp (by rw [← shapeOK_opFor op (InMemory.step b op).2]; exact step_shape s _)

/-- the refinement `C01InMem.step_refines` (= `C01InMemGen.gen_refines_spec`, since `genStep = InMemory.step`) as a `Sim` -/
def simInMemoryGen : Sim inMemoryGen where
  R m s := Inv m ∧ Rel m s
  dom s op := Legal s op = true
  specOp := opFor
  specStep := specStep
  ok op so io := accepts op so io = true
  sim := by
    intro b s op hR hd
    have hg : inMemoryGen.step = InMemory.step := C01InMemGen.genStep_eq
    rw [hg]
    obtain ⟨a, b', c⟩ := step_refines b s op hR.1 hR.2 hd
    exact ⟨⟨a, b'⟩, c⟩
  shape := by
    intro b s op rpc hR hd hp
    show shapeOK op (C01InMemGen.genStep b op).2 = true
    rw [C01InMemGen.genStep_eq, inMemory_answer b s op rpc hR hd hp, ← shapeOK_opFor op (InMemory.step b op).2]
    exact step_shape s _
  errs := by
    intro b s op rpc e hR hd hp he
    change (C01InMemGen.genStep b op).2 = .err e at he
    rw [C01InMemGen.genStep_eq, inMemory_answer b s op rpc hR hd hp] at he
    exact step_err_raisable s _ rpc e (by rw [rpcOf_opFor]; exact hp) he

/-- **grpc_over_inmemory_refines_contract**: the gRPC layer (whose generated bodies are `proxyStepOver ideal`,
`gen_proxy_eq_over_ideal`; over another backend the same wire model `proxyStepOver`) over the GENERATED in-memory methods refines
the storage contract for every history of legal calls that go over the wire as one rpc, from the empty storage: the in-memory state
stays `Inv` and `Rel`-related to the contract state, every in-memory answer is accepted by the contract, and the caller of the
proxy gets that answer normalised by `normOut` -/
theorem grpc_over_inmemory_refines_contract (h : List (String × Op)) (hprim : ∀ c ∈ h, (rpcOf c.2).isSome = true)
    (hL : domFromP simInMemoryGen (InMemory.init, Storage.init) h) :
    (Inv (pairRunP simInMemoryGen (InMemory.init, Storage.init) h).1 ∧
      Rel (pairRunP simInMemoryGen (InMemory.init, Storage.init) h).1 (pairRunP simInMemoryGen (InMemory.init, Storage.init) h).2) ∧
    okFromP simInMemoryGen (InMemory.init, Storage.init) h :=
  proxy_over_refining_backend_refines_contract inMemoryGen simInMemoryGen _ h hprim
    ⟨C01InMem.init_ok.1, C01InMem.init_ok.2⟩ hL

/-- non-vacuity: a history whose calls are legal and all go over the wire; the proxied in-memory backend ends `Rel`-related to the
contract state with two trials -/
def demoHistory : List (String × Op) :=
  [("u", .createStudy "s" [1]), ("u", .createTrial 0 none false), ("u", .setTrialStateValues 0 .complete (some [default])),
   ("u", .createTrial 0 none false), ("u", .getAllTrials 0 (some [.complete])), ("u", .getTrial 7)]

example : (∀ c ∈ demoHistory, (rpcOf c.2).isSome = true) ∧
    ((pairRunP simInMemoryGen (InMemory.init, Storage.init) demoHistory).2.trials.length = 2) ∧
    (proxyStepOver inMemoryGen (pairRunP simInMemoryGen (InMemory.init, Storage.init) (demoHistory.take 4)).1 "u"
      (.getAllTrials 0 (some [.complete]))).2 ≠ .ok (.trials []) ∧
    (proxyStepOver inMemoryGen InMemory.init "u" (.getTrial 7)).2 = .ok (.err .keyError) := by
  decide

end OptunaVerif.C01GrpcCompose
