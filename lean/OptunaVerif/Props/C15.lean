import OptunaVerif.Lemmas.Hypervolume
import OptunaVerif.Lemmas.Rank
import OptunaVerif.Lemmas.Hssp
import OptunaVerif.Lemmas.HsspReal
/-!
# C15 — hypervolume, non-domination rank and subset selection are exact (property theorems)

Models: `Model/Hypervolume.lean` (`optuna/_hypervolume/wfg.py`, `_is_pareto_front*`),
`Model/Rank.lean` (`_calculate_nondomination_rank`, `_fast_non_domination_rank`),
`Model/Hssp.lean` (`optuna/_hypervolume/hssp.py`).  Rows are lists of integers (lattice points; the harness scales float inputs
to integers by a common power of two — no theorem here is about that scaling); no theorem bounds the dimension, the number
of rows or their size, and duplicates, per-coordinate ties and dominated rows are admitted.  What a theorem does assume
is in its statement: rows `≤ r` (the reference-point check) in every volume theorem, `r.length = 2` for the 2-D routines,
`r.length ≠ 2` or a `Staircase` / `Antichain` for the greedy statements.

Specification of the volume: `hvSpec S r` = the number of unit cells `c < r` with `p ≤ c` for some row
`p ∈ S` (`hvSpec_is_dominated_cell_count`).  `Le`/`Lt` are the pointwise orders (lengths equal).
The models are tied to `/repo` by `verif/props/c15.py`.
-/
namespace OptunaVerif.C15
open OptunaVerif.Hypervolume OptunaVerif.Rank OptunaVerif.Hssp

/-- The specification is what it should be: the cardinality of the set of dominated unit cells. -/
theorem hvSpec_is_dominated_cell_count (S : List Pt) (r : Pt) :
    hvSpec S r = Set.ncard {c : Pt | Lt c r ∧ ∃ p ∈ S, Le p c} :=
  hvSpec_eq_ncard S r

example : hvSpec [[0, 0], [1, 1]] [2, 2] = 4 := by decide +kernel

/-- The brute-force cell count that the compiled driver reports next to the model's result (and that the
harness compares with its own numpy count) is this specification. -/
theorem hvBrute_is_spec (S : List Pt) (r : Pt) (hS : ∀ p ∈ S, Le p r) : hvBrute S r = hvSpec S r :=
  hvBrute_eq_spec S r hS

example : hvBrute [[0, 2, 1], [1, 1, 1], [1, 1, 1], [2, 0, 0]] [3, 3, 3] = 15 := by decide +kernel

/-- `_compute_hv` (1-point and 2-point base cases, WFG sum of exclusive volumes with
limit = pointwise maximum and the weakly-dominated filter) returns the dominated volume, for every
dimension and every column-0-sorted list of rows that weakly dominate the reference point. -/
theorem wfg_eq_spec (r : Pt) (S : List Pt) (hS : ∀ p ∈ S, Le p r) (hs : Sorted0 S) :
    computeHv r.length r S = hvSpec S r :=
  computeHv_eq_spec r S hS hs

example : computeHv 3 [3, 3, 3] [[0, 2, 1], [1, 1, 1], [1, 1, 1], [2, 0, 0]] = 15 := by decide +kernel
example : hvSpec [[0, 2, 1], [1, 1, 1], [1, 1, 1], [2, 0, 0]] [3, 3, 3] = 15 := by decide +kernel

/-- The model's recursion budget plays no role: `computeHv` satisfies the equations of `_compute_hv`. -/
theorem computeHv_recursion (d : Nat) (r : Pt) (S : List Pt) :
    computeHv d r S =
      match S with
      | [] => 0
      | [p] => vol r p
      | [p, q] => vol r p + vol r q - vol r (pmax p q)
      | _ => sumExcl d r (computeHv d r) S :=
  computeHv_unfold d r S

/-- The inclusion–exclusion shortcut for two rows. -/
theorem two_point_path_eq_spec (r p q : Pt) (hp : Le p r) (hq : Le q r) :
    vol r p + vol r q - vol r (pmax p q) = hvSpec [p, q] r :=
  vol_two_eq_spec hp hq

example : vol [4, 4] [0, 3] + vol [4, 4] [3, 0] - vol [4, 4] (pmax [0, 3] [3, 0]) = 7 := by decide +kernel

/-- `_is_pareto_front(limited_sols, True)` applied to a column-0-sorted array (not necessarily unique or
lexsorted) returns an array with the same union of boxes (in the proof: it keeps a sub-array, and what it drops is
weakly dominated by something it keeps). -/
theorem filter_weakly_dominated_preserves_union (r : Pt) (L : List Pt) (hL : ∀ q ∈ L, Le q r)
    (hs : Sorted0 L) : unionF r (frontSorted id r.length L) = unionF r L :=
  unionF_eq_of_cover r _ _ (fun _ hq => (frontSorted_sublist r.length L).subset hq)
    (frontSorted_cover r.length L (fun q hq => (hL q hq).length_eq) hs)

example : frontSorted id 3 [[0, 1, 1], [0, 1, 1], [1, 0, 2], [1, 1, 1]] = [[0, 1, 1], [1, 0, 2]] := by decide +kernel

/-- The sweep `_compute_2d` (running minimum of the second coordinate) on rows `≤ r` sorted
by column 0 — in ANY order of the rows that tie in column 0, dominated rows and duplicates included — is the
dominated area. -/
theorem compute2d_eq_spec (r : Pt) (hr : r.length = 2) (S : List Pt) (hS : ∀ p ∈ S, Le p r)
    (hs : Sorted0 S) : compute2d r S = hvSpec S r :=
  Hypervolume.compute2d_eq_spec r hr S hS hs

/-- The result of `_compute_2d` does not depend on which order `argsort` of column 0 gives to tied rows. -/
theorem compute2d_any_tie_order (r : Pt) (hr : r.length = 2) (S S' : List Pt) (hS : ∀ p ∈ S, Le p r)
    (hp : S'.Perm S) (hs : Sorted0 S') : compute2d r S' = hvSpec S r :=
  OptunaVerif.Hypervolume.compute2d_any_tie_order r hr S S' hS hp hs

-- non-vacuity: x-ties in both orders, a dominated row, a duplicate
example : compute2d [4, 4] [[0, 3], [1, 2], [1, 1], [1, 1], [2, 3], [3, 0]] = 11 ∧
    compute2d [4, 4] [[0, 3], [1, 1], [1, 2], [1, 1], [2, 3], [3, 0]] = 11 ∧
    hvSpec [[0, 3], [1, 2], [1, 1], [1, 1], [2, 3], [3, 0]] [4, 4] = 11 := by decide +kernel

example : compute2d [4, 4] [[0, 3], [1, 1], [1, 1], [3, 0]] = 11 := by decide +kernel
example : hvSpec [[0, 3], [1, 1], [1, 1], [3, 0]] [4, 4] = 11 := by decide +kernel

/-- **compute_hypervolume is exact** (default path: `np.unique`, Pareto pre-filter, 2-D sweep or WFG):
for finite inputs, any dimension, any rows that pass the reference-point check. -/
theorem compute_hypervolume_exact (S : List Pt) (r : Pt) (hS : ∀ p ∈ S, Le p r) :
    computeHypervolume (S.map liftPt) (liftPt r) false = HvOut.fin (hvSpec S r) := by
  exact computeHypervolume_eq_spec S r false hS

example : computeHypervolume [[.fin 0, .fin 0], [.fin 1, .fin 1], [.fin 1, .fin 1]] [.fin 2, .fin 2] false
    = HvOut.fin 4 := by decide +kernel

/-- `assume_pareto=True` (sort by column 0 only, no `unique`, no Pareto filter) is exact for every dimension and
every rows `≤ r`. -/
theorem compute_hypervolume_assume_pareto_exact (S : List Pt) (r : Pt) (hS : ∀ p ∈ S, Le p r) :
    computeHypervolume (S.map liftPt) (liftPt r) true = HvOut.fin (hvSpec S r) := by
  exact computeHypervolume_eq_spec S r true hS

example : computeHypervolume [[.fin 0, .fin 0, .fin 0], [.fin 1, .fin 1, .fin 1]] [.fin 2, .fin 2, .fin 2] true
    = HvOut.fin 8 := by decide +kernel

/-- 2-D included, with NO Pareto hypothesis (dominated rows, duplicates, ties in either coordinate). -/
theorem compute_hypervolume_assume_pareto_2d_exact (S : List Pt) (r : Pt) (hS : ∀ p ∈ S, Le p r)
    (_hd : r.length = 2) :
    computeHypervolume (S.map liftPt) (liftPt r) true = HvOut.fin (hvSpec S r) :=
  compute_hypervolume_assume_pareto_exact S r hS

example : computeHypervolume [[.fin 1, .fin 0], [.fin 0, .fin 1], [.fin 0, .fin 1]] [.fin 2, .fin 2] true
    = HvOut.fin 3 := by decide +kernel

/-- The docstring's promise ("does not change the result even if this
argument is wrongly given") holds in every dimension: for all finite rows that pass the reference-point check the
two settings of the flag give the same value, the dominated volume. -/
theorem assume_pareto_never_changes_result (S : List Pt) (r : Pt) (hS : ∀ p ∈ S, Le p r) :
    computeHypervolume (S.map liftPt) (liftPt r) true = computeHypervolume (S.map liftPt) (liftPt r) false ∧
      computeHypervolume (S.map liftPt) (liftPt r) true = HvOut.fin (hvSpec S r) := by
  rw [compute_hypervolume_assume_pareto_exact S r hS, compute_hypervolume_exact S r hS]
  exact ⟨rfl, rfl⟩

-- non-vacuity: the input of the repaired finding F22 ([[0,0],[2,3]] is not a Pareto set): 24 with and without the flag
example : computeHypervolume [[.fin 0, .fin 0], [.fin 2, .fin 3]] [.fin 4, .fin 6] true = HvOut.fin 24 ∧
    computeHypervolume [[.fin 0, .fin 0], [.fin 2, .fin 3]] [.fin 4, .fin 6] false = HvOut.fin 24 ∧
    hvSpec [[0, 0], [2, 3]] [4, 6] = 24 := by decide +kernel

/-- **reference-point check**: finite rows that do not all weakly dominate the reference point are
rejected (`ValueError`). -/
theorem reference_check (S : List Pt) (r : Pt) (ap : Bool) (h : ¬ ∀ p ∈ S, Le p r) :
    computeHypervolume (S.map liftPt) (liftPt r) ap = HvOut.error :=
  computeHypervolume_lift_error S r ap h

example : computeHypervolume [[.fin 0, .fin 2]] [.fin 1, .fin 1] false = HvOut.error := by decide +kernel
example : computeHypervolume [[.fin 0, .nan]] [.fin 1, .fin 1] false = HvOut.error := by decide +kernel

/-- a row has infinite extent below the reference point and is not flat in any coordinate -/
def InfiniteBox (p r : List EInt) : Prop :=
  List.Forall₂ (fun a b => a.le b = true ∧ a ≠ b) p r ∧
    ((∃ a ∈ p, a = EInt.ninf) ∨ (∃ b ∈ r, b = EInt.pinf))

/-- **infinite ⇒ inf.** When the check passes and some row dominates a box of infinite volume, the
result is `inf`.  (One direction only.  A non-finite reference point gives `inf` for any rows that pass the
check, rows with a degenerate box included: `infinite_reference_is_inf` below, proved on its own.) -/
theorem infinite_volume_is_inf (S : List (List EInt)) (r : List EInt) (ap : Bool)
    (hcheck : S.all (fun p => allLeE p r) = true) (p : List EInt) (hp : p ∈ S) (hbox : InfiniteBox p r) :
    computeHypervolume S r ap = HvOut.inf := by
  unfold computeHypervolume
  simp only [hcheck, Bool.not_true, Bool.false_eq_true, if_false]
  by_cases hr : r.all EInt.isFinite = true
  · simp only [hr, Bool.not_true, Bool.false_eq_true, if_false]
    have hmem : p ∈ S.filter (fun p => allLtE p r) := List.mem_filter.2 ⟨hp, allLtE_of_forall₂ hbox.1⟩
    have hne : (S.filter (fun p => allLtE p r)).isEmpty = false := by
      cases hS' : S.filter (fun p => allLtE p r) with
      | nil => rw [hS'] at hmem; simp at hmem
      | cons _ _ => rfl
    have : (S.filter (fun p => allLtE p r)).any (fun p => p.any (fun c => !c.isFinite)) = true := by
      rcases hbox.2 with ⟨a, ha, rfl⟩ | ⟨b, hb, rfl⟩
      · exact List.any_eq_true.2 ⟨p, hmem, List.any_eq_true.2 ⟨_, ha, by simp [EInt.isFinite]⟩⟩
      · have := List.all_eq_true.1 hr _ hb
        simp [EInt.isFinite] at this
    simp [hne, this]
  · simp [hr]

theorem infinite_reference_is_inf (S : List (List EInt)) (r : List EInt) (ap : Bool)
    (hcheck : S.all (fun p => allLeE p r) = true) (hr : r.all EInt.isFinite = false) :
    computeHypervolume S r ap = HvOut.inf := by
  unfold computeHypervolume
  simp [hcheck, hr]

example : computeHypervolume [[.fin 0, .fin 0]] [.pinf, .fin 1] false = HvOut.inf := by decide +kernel
example : computeHypervolume [[.ninf, .fin 4], [.fin 1, .fin 1]] [.fin 5, .fin 5] false = HvOut.inf := by decide +kernel

/-- A first row that passes the check but touches the reference point in some coordinate (its box is degenerate) can
be dropped without changing the result, whatever its other coordinates (`-inf` included) and whatever the other rows
are.  (Stated for the head of the array only.) -/
theorem touching_rows_contribute_nothing (S : List (List EInt)) (r p : List EInt) (ap : Bool)
    (hp : allLeE p r = true) (htouch : allLtE p r = false) :
    computeHypervolume (p :: S) r ap = computeHypervolume S r ap := by
  unfold computeHypervolume
  simp [List.all_cons, hp, htouch]

/-- When every row touches the (finite) reference point the hypervolume is 0. -/
theorem degenerate_rows_only_is_zero (S : List (List EInt)) (r : List EInt) (ap : Bool)
    (hcheck : S.all (fun p => allLeE p r) = true) (hr : r.all EInt.isFinite = true)
    (htouch : ∀ p ∈ S, allLtE p r = false) : computeHypervolume S r ap = HvOut.fin 0 := by
  unfold computeHypervolume
  have : S.filter (fun p => allLtE p r) = [] := List.filter_eq_nil_iff.2 (fun p hp => by simp [htouch p hp])
  simp [hcheck, hr, this]

/-- The input of the repaired finding F23: the only row has an infinite extent in
one coordinate and touches the reference point in the other — dominated volume 0, and 0 is returned; next to a
proper row it changes nothing. -/
theorem degenerate_box_is_zero :
    computeHypervolume [[.ninf, .fin 5]] [.fin 5, .fin 5] false = HvOut.fin 0 ∧
    computeHypervolume [[.ninf, .fin 5]] [.fin 5, .fin 5] true = HvOut.fin 0 ∧
    computeHypervolume [[.ninf, .fin 5], [.fin 1, .fin 1]] [.fin 5, .fin 5] false = HvOut.fin 16 ∧
      ¬ InfiniteBox [.ninf, .fin 5] [.fin 5, .fin 5] := by
  refine ⟨by decide, by decide, by decide, ?_⟩
  rintro ⟨h, _⟩
  cases h with
  | cons _ h => cases h with
    | cons h _ => exact h.2 rfl

/-- what is left of the old behaviour, by convention (the suite's `test_wfg_with_inf` pins it): a NON-FINITE
reference point answers `inf` before any row is looked at, also when the only row touches it. -/
theorem nonfinite_reference_is_inf_by_convention :
    computeHypervolume [[.pinf, .fin 0]] [.pinf, .fin 1] false = HvOut.inf := by decide

-- a `-inf` row that does NOT touch the reference point still gives inf
example : computeHypervolume [[.ninf, .fin 4]] [.fin 5, .fin 5] false = HvOut.inf := by decide +kernel

/-- **front exactness.** On a unique-lexsorted array `_is_pareto_front(·, assume_unique_lexsorted=True)`
selects exactly the rows that no row dominates (1-, 2- and n-objective branches). -/
theorem front_exact_on_unique_lexsorted (r : Pt) (L : List Pt) (hL : LexSorted L) (hb : ∀ q ∈ L, Le q r)
    (p : Pt) : p ∈ frontSorted id r.length L ↔ p ∈ L ∧ ∀ q ∈ L, ¬ Dom q p :=
  mem_frontSorted_iff r.length L hL (fun q hq => (hb q hq).length_eq) p

example : frontSorted id 2 (uniqueLex [[1, 1], [0, 2], [2, 0], [1, 1], [2, 2]]) = [[0, 2], [1, 1], [2, 0]] := by
  decide +kernel

/-- For every array of rows (any dimension, duplicates, ties) the rank computed by
`_calculate_nondomination_rank` without `n_below` (`rankFn d S none`, the entry of `calcRank`; `_fast_non_domination_rank`,
which passes `n_below = len`, does not occur in the statement) is the rank given by
repeatedly peeling the Pareto front: for every level `j`, the rows of rank `j` are exactly the rows of
rank `≥ j` that no row of rank `≥ j` dominates. -/
theorem rank_eq_peeling (d : Nat) (S : List Pt) (hS : ∀ q ∈ S, q.length = d) :
    IsPeeling S (rankFn d S none) :=
  rankFn_isPeeling d S hS

/-- The peeling rank function is unique, so `rank_eq_peeling` pins every rank down. -/
theorem peeling_rank_unique (S : List Pt) (ρ ρ' : Pt → Nat) (h : IsPeeling S ρ) (h' : IsPeeling S ρ') :
    ∀ p ∈ S, ρ p = ρ' p :=
  isPeeling_unique S ρ ρ' h h'

example : calcRank 2 [[0, 1], [1, 0], [1, 1], [1, 1], [2, 2]] none = [0, 0, 1, 1, 2] := by decide +kernel
example : calcRank 1 [[3], [1], [3], [2]] none = [2, 0, 2, 1] := by decide +kernel

/-- The O(n²) reference peeling that the driver reports next to the model's ranks (no sorting, no `unique`,
duplicates in place: rank 0 = rows no row dominates, remove them, repeat) gives exactly the modelled ranks. -/
theorem rank_eq_naive_peeling (d : Nat) (S : List Pt) (hS : ∀ q ∈ S, q.length = d) :
    naiveRanks S = calcRank d S none :=
  naive_eq_rank d S hS

example : naiveRanks [[0, 1], [1, 0], [1, 1], [1, 1], [2, 2]] = [0, 0, 1, 1, 2] := by decide +kernel

/-- **rank with `n_below`.** There is a stopping level `K`: ranks below `K` are exact peeling ranks, every
other row gets `K`; `K` is the first level at which at least `min(n_below, n_unique)` unique rows have
been ranked (`n_objectives ≠ 1`; for one objective the ranks are always exact).  Not about the early return
`trivialCase` (no rows, or `n_below ≤ 0`), which `ht` excludes. -/
theorem rank_n_below_spec (d : Nat) (S : List Pt) (hS : ∀ q ∈ S, q.length = d) (nBelow : Option Int)
    (h1 : d ≠ 1) (ht : trivialCase S nBelow = false) :
    ∃ K, IsPeelingUpTo S (rankFn d S nBelow) K ∧
      clipNBelow nBelow (uniqueLex S).length
        ≤ (uniqueLex S).length - ((uniqueLex S).filter (fun p => rankFn d S nBelow p = K)).length ∧
      (0 < K → (uniqueLex S).length - ((uniqueLex S).filter (fun p => K - 1 ≤ rankFn d S nBelow p)).length
        < clipNBelow nBelow (uniqueLex S).length) :=
  rankFn_upTo d S hS nBelow h1 ht

example : calcRank 2 [[0, 1], [1, 0], [1, 1], [1, 1], [2, 2], [3, 3]] (some 2) = [0, 0, 1, 1, 1, 1] := by decide +kernel
example : calcRank 2 [[0, 1], [1, 0], [1, 1], [1, 1], [2, 2], [3, 3]] (some 3) = [0, 0, 1, 1, 2, 2] := by decide +kernel

/-- With penalties (`none` = NaN) and no `n_below`,
`_fast_non_domination_rank` ranks every row by repeated peeling under the constrained domination `CDom`
(feasible before infeasible before unknown; Pareto dominance among feasible and among unknown rows; smaller
penalty among infeasible rows): the rows of rank `j` are exactly the rows of rank `≥ j` that no row of
rank `≥ j` constrained-dominates. -/
theorem rank_constrained_eq_spec (d : Nat) (S : List Pt) (pen : List (Option Int))
    (hS : ∀ q ∈ S, q.length = d) (hlen : pen.length = S.length) :
    ∃ ρ : Row → Nat, fastRank d S (some pen) none = some ((S.zip pen).map ρ) ∧ IsCPeeling (S.zip pen) ρ :=
  fastRank_constrained d S pen hS hlen

example : fastRank 2 [[0, 1], [1, 0], [1, 1], [1, 1], [2, 2], [3, 3]]
    (some [some 0, some 1, none, some (-1), some 2, some 1]) none = some [0, 2, 4, 1, 3, 2] := by decide +kernel

/-- The dominated volume is a coverage function: gains are non-negative and
only shrink when more rows are selected. -/
theorem hv_monotone_submodular (r : Pt) (T T' : List Pt) (h : ∀ x ∈ T, x ∈ T') (p : Pt) :
    0 ≤ gain r T' p ∧ gain r T' p ≤ gain r T p ∧ hvSpec T r ≤ hvSpec T' r :=
  ⟨gain_nonneg r T' p, gain_antitone r T T' h p, hvSpec_mono r T T' h⟩

/-- If the stored contributions are upper bounds of the true
non-negative marginal gains `g`, then after `_lazy_contribs_update` — visiting the candidates in *any*
order that covers them (so numpy's order of ties in `argsort` is irrelevant) — they still are, and
`np.argmax` of the updated array is an exactly recomputed entry that maximises the true gain. -/
theorem lazy_step_picks_true_argmax (g : Nat → Int) (cs : List Int) (order : List Nat) (hne : cs ≠ [])
    (hg0 : ∀ i < cs.length, 0 ≤ g i) (hub : ∀ i < cs.length, g i ≤ cs.getD i 0)
    (hord : ∀ i ∈ order, i < cs.length) (hcov : ∀ i < cs.length, i ∈ order) :
    (lazyGo g order 0 cs).length = cs.length ∧ (∀ i < cs.length, g i ≤ (lazyGo g order 0 cs).getD i 0) ∧
      argmax (lazyGo g order 0 cs) < cs.length ∧
      (lazyGo g order 0 cs).getD (argmax (lazyGo g order 0 cs)) 0 = g (argmax (lazyGo g order 0 cs)) ∧
      ∀ i < cs.length, g i ≤ g (argmax (lazyGo g order 0 cs)) :=
  lazy_argmax_exact g cs order hne hg0 hub hord hcov

example : lazyGo (fun i => [3, 2, 4].getD i 0) [2, 0, 1] 0 [5, 3, 9] = [3, 3, 4] := by decide +kernel

/-- **the main loop is a greedy run.** `_solve_hssp_on_unique_loss_vals` (finite reference, dimension ≠ 2,
`k < n_unique`) returns the labels of `k` picks, each of which maximises the *true* marginal hypervolume
gain among the candidates still available (the lazily skipped recomputations never change a pick). -/
theorem greedy_loop_is_greedy_run (r : Pt) (hd : r.length ≠ 2) (U : List Pt) (labels : List Nat)
    (hlen : labels.length = U.length) (hU : ∀ p ∈ U, Le p r) (k : Nat) (hk : k < U.length) :
    ∃ picks : List (Pt × Nat), solveOnUnique U labels k r true = picks.map (·.2) ∧ picks.length = k ∧
      GreedyRun r [] (U.zip labels) picks :=
  solveOnUnique_greedy r hd U labels hlen hU k hk

/-- `_solve_hssp` returns exactly `k` distinct positions of the
array: every branch (k = n, duplicates branch, non-finite reference, k = n_unique, 2-D solver, lazy
greedy), every dimension. -/
theorem hssp_returns_k_distinct_members (vals : List Pt) (r : Pt) (hv : ∀ p ∈ vals, Le p r) (k : Nat)
    (hk : k ≤ vals.length) (fin : Bool) :
    (solveHssp vals k r fin).length = k ∧ (solveHssp vals k r fin).Nodup ∧
      ∀ i ∈ solveHssp vals k r fin, i < vals.length :=
  solveHssp_distinct vals r hv k hk fin

example : solveHssp [[0, 1, 1], [1, 0, 1], [1, 1, 0], [1, 1, 0], [0, 0, 2], [2, 0, 0]] 3 [3, 3, 3] true
    = [0, 5, 4] := by decide +kernel
example : solveHssp [[0, 3], [1, 2], [0, 3], [1, 2]] 3 [4, 4] true = [0, 1, 2] := by decide +kernel

/-- **greedy gap (Nemhauser–Wolsey–Fisher), integer form.** For the selection of `_solve_hssp` (finite
reference, dimension ≠ 2) and *every* set `O` of at most `k` rows of the array:
`k^k · (hv(O) − hv(selection)) ≤ (k−1)^k · hv(O)`. -/
theorem hssp_greedy_gap (vals : List Pt) (r : Pt) (hv : ∀ p ∈ vals, Le p r) (hd : r.length ≠ 2) (k : Nat)
    (hk : k ≤ vals.length) (O : List Pt) (hO : ∀ o ∈ O, o ∈ vals) (hOk : O.length ≤ k) :
    (k : Int) ^ k * ((hvSpec O r : Int) - hvSpec (rowsAt vals (solveHssp vals k r true)) r)
      ≤ ((k : Int) - 1) ^ k * (hvSpec O r : Int) :=
  solveHssp_bound vals r hv hd k hk O hO hOk

/-- Hence (`hssp_greedy_gap`) the selected subset has at least `(1 − 1/e)` of the hypervolume of
the best subset of the same size. -/
theorem greedy_one_minus_inv_e (vals : List Pt) (r : Pt) (hv : ∀ p ∈ vals, Le p r) (hd : r.length ≠ 2)
    (k : Nat) (hk : k ≤ vals.length) (O : List Pt) (hO : ∀ o ∈ O, o ∈ vals) (hOk : O.length ≤ k) :
    (1 - Real.exp (-1)) * (hvSpec O r : ℝ)
      ≤ (hvSpec (rowsAt vals (solveHssp vals k r true)) r : ℝ) :=
  one_sub_inv_e_of_gap k _ _ (fun hk0 => by rw [List.eq_nil_of_length_eq_zero (by omega : O.length = 0)]; rfl)
    (hssp_greedy_gap vals r hv hd k hk O hO hOk)

/-- Under the invariant `Inv2` of `_solve_hssp_2d` (the rectangle `[row, (dx, dy))` of every remaining candidate
is exactly the part of its box not covered by the selected rows) the stored rectangle area is the true marginal
hypervolume gain.  That the initial diagonals establish `Inv2` is shown inside `Hssp.solveOnUnique_greedy2d`; that
every round preserves it is the next theorem. -/
theorem hssp2d_contribution_exact (r0 r1 : Int) (T : List Pt) (cs : List Cand2) (h : Inv2 r0 r1 T cs)
    (c : Cand2) (hc : c ∈ cs) : gain [r0, r1] T c.pt = contrib2 c :=
  inv2_gain r0 r1 T cs h c hc

/-- One round of `_solve_hssp_2d` (remove the pick, clip `dx` of the rows before it and `dy` of the rows
after it) re-establishes that invariant for the enlarged selection. -/
theorem hssp2d_round_preserves_invariant (r0 r1 : Int) (T : List Pt) (cs : List Cand2) (h : Inv2 r0 r1 T cs)
    (m : Nat) (hm : m < cs.length) :
    Inv2 r0 r1 (T ++ [cs[m].pt])
      ((cs.take m).map (fun e => { e with dx := min (x0 cs[m].pt) e.dx }) ++
        (cs.drop (m + 1)).map (fun e => { e with dy := min (y1 cs[m].pt) e.dy })) :=
  inv2_step r0 r1 T cs h m hm

/-- **the 2-D solver is a greedy run** on unique-lexsorted mutually non-dominated rows (a staircase). -/
theorem hssp2d_is_greedy_run (r : Pt) (hr : r.length = 2) (U : List Pt) (labels : List Nat)
    (hlen : labels.length = U.length) (hU : ∀ p ∈ U, Le p r) (hst : Staircase U) (k : Nat)
    (hk : k < U.length) :
    ∃ picks : List (Pt × Nat), solveOnUnique U labels k r true = picks.map (·.2) ∧ picks.length = k ∧
      GreedyRun r [] (U.zip labels) picks :=
  solveOnUnique_greedy2d r hr U labels hlen hU hst k hk

example : solveHssp [[0, 3], [1, 2], [2, 1], [3, 0], [1, 2]] 2 [4, 4] true = [1, 2] := by decide +kernel

/-- **greedy gap in 2-D** for mutually non-dominated rows (duplicates allowed) — what the TPE sampler passes
(the rows of one non-domination rank). -/
theorem hssp_greedy_gap_2d (vals : List Pt) (r : Pt) (hv : ∀ p ∈ vals, Le p r) (hr : r.length = 2)
    (ha : Antichain vals) (k : Nat) (hk : k ≤ vals.length) (O : List Pt) (hO : ∀ o ∈ O, o ∈ vals)
    (hOk : O.length ≤ k) :
    (k : Int) ^ k * ((hvSpec O r : Int) - hvSpec (rowsAt vals (solveHssp vals k r true)) r)
      ≤ ((k : Int) - 1) ^ k * (hvSpec O r : Int) :=
  solveHssp_bound_2d vals r hv hr ha k hk O hO hOk

theorem greedy_one_minus_inv_e_2d (vals : List Pt) (r : Pt) (hv : ∀ p ∈ vals, Le p r) (hr : r.length = 2)
    (ha : Antichain vals) (k : Nat) (hk : k ≤ vals.length) (O : List Pt) (hO : ∀ o ∈ O, o ∈ vals)
    (hOk : O.length ≤ k) :
    (1 - Real.exp (-1)) * (hvSpec O r : ℝ)
      ≤ (hvSpec (rowsAt vals (solveHssp vals k r true)) r : ℝ) :=
  one_sub_inv_e_of_gap k _ _ (fun hk0 => by rw [List.eq_nil_of_length_eq_zero (by omega : O.length = 0)]; rfl)
    (hssp_greedy_gap_2d vals r hv hr ha k hk O hO hOk)

/- Not claimed: the greedy property / the `1 - 1/e` bound of `_solve_hssp` in 2-D for rows that dominate one
   another (`_solve_hssp_2d`'s rectangles are then not the marginal gains; the sampler never passes such rows).
   The tie still checks k-distinctness and the bound against the exhaustive optimum on such inputs. -/

end OptunaVerif.C15
