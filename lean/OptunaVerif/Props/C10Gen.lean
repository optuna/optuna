import OptunaVerif.Props.C11Gen
import OptunaVerif.Props.C10
/-!
# C10 (translator tie) — the projection at the end of the transform-based sampler paths, as written today

`_untransform_numerical_param` is what Random / QMC / NSGA-II / NSGA-III (and the start-up phase or independent
fallback of most other samplers) apply to whatever raw number their internals produce.  `Props/C11Gen.lean` proves
that the formula REGENERATED from `optuna/_transform.py` on every run evaluates to the hand model's `decode`
(`gen_unum_eq`); here `C10.untransform_projection_in_domain` is restated for the evaluator of the generated formula,
and the float paths (which have no clip, only the half-open clamp) get their own statement.
-/
namespace OptunaVerif.C10Gen
open OptunaVerif.Dist OptunaVerif.TransformIR OptunaVerif.C11Gen
open OptunaVerif.Generated.TransformGen (prog)

/-- **gen_untransform_projection_in_domain** — for the code as written today: on the clip-and-round paths (stepped
floats, ints, log ints with `transform_log`) EVERY raw column value, inside or outside the bounds, is projected to a
member of the declared domain (in range, on the grid, hence a whole number for int distributions; that the token is an
`int` is not part of `Member`). -/
theorem gen_untransform_projection_in_domain (E : Env) (c : TCfg) (d : Dist) (x : Rat) (h : WF d)
    (hkind : match d with
      | .flt _ _ _ _ (some _) => True
      | .int _ _ _ log _ => log = false ∨ c.tlog = true
      | _ => False) :
    ∃ v, unumEval prog E c d x = some v ∧ Member d v := by
  have hd : ∀ cs, d ≠ .cat cs := by
    intro cs hcs; subst hcs; exact hkind
  rw [gen_unum_eq E c d x hd]
  exact C10.untransform_projection_in_domain E c d x h hkind

-- non-vacuity: a raw value far outside the range is pulled onto the last grid point / into the range, as an `int`
example : unumEval prog E0 ⟨true, true, false⟩ (.int .int 1 9 false 4) 1000 = some (.int 9) ∧
    unumEval prog E0 ⟨true, true, false⟩ (.int .int 1 9 false 4) (-1000) = some (.int 1) ∧
    unumEval prog E0 ⟨true, true, false⟩ (.flt .float 0 1 false (some (1/4))) 7 = some (.flt 1) := by decide +kernel
example : WF (.int .int 1 9 false 4) := by simp [WF, IClsOK]

/-- **gen_untransform_clamp_in_domain** — the float paths without step (plain and log floats): a raw value inside the
transformed bounds is projected into `[low, high]`, provided the half-open clamp stays in the domain (`HC`: this is
the hypothesis that `high - eps` violates on narrow ranges, and that `nextafter(high, high - 1)` meets in floats), for
`EnvOK E` and a configuration with `transform_log` or without `transform_step` (`hcfg`). -/
theorem gen_untransform_clamp_in_domain (E : Env) (c : TCfg) (hE : EnvOK E) (d : Dist) (x : Rat) (h : WF d) (hc : HC E d)
    (hkind : match d with
      | .flt _ _ _ _ Option.none => True
      | _ => False)
    (hcfg : c.tlog = true ∨ c.tstep = false)
    (hb : List.Forall₂ InB (boundsOf E c d) [x]) :
    ∃ v, unumEval prog E c d x = some v ∧ Member d v := by
  have hd : ∀ cs, d ≠ .cat cs := by
    intro cs hcs; subst hcs; exact hkind
  rw [gen_unum_eq E c d x hd]
  exact decode_in_domain E c d [x] hE h hc hcfg hb

example : unumEval prog E0 ⟨true, true, false⟩ (.flt .float 0 3 false none) 3 = some (.flt 2) ∧
    HC E0 (.flt .float 0 3 false none) := by
  refine ⟨by decide +kernel, ?_⟩
  intro _; simp [E0]

end OptunaVerif.C10Gen
