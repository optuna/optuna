import OptunaVerif.Lemmas.ReproCopy
import OptunaVerif.Model.GACache
import OptunaVerif.Generated.TrialIdSites
/-!
# C09 — optimisation is reproducible from the seed and independent of the storage

*Partial by nature* (DESIGN.md §3 C09, §4): what is proved here, for all objective programs, all
histories, all id offsets and all splits of a run, is that the **loop** (`Study.optimize` →
ask / suggest / report / should_prune / tell) never lets a storage id reach the sampler or pruner,
so that the id-erased history is a function of the id-erased history before — for *any* sampler and
pruner that are functions of (their in-process state, the id-erased history).  That every concrete
numpy-based sampler is such a function is NOT a theorem: it is established by the `_trial_id`
site inventory (`sites_allowed`, regenerated from the source on every run) and by the differential
matrix of `verif/props/c09.py`.  The one sampler that is not — the GA parent cache, F7 — is
modelled separately (`GACache`) and its failure is proved.
-/
namespace OptunaVerif.C09
open OptunaVerif.Storage OptunaVerif.Repro

/-- **loop_storage_independent.**  Two storages related by an id-renaming simulation (same
id-erased study, whatever the ids) stay related through any run — any objective program, any
sampler/pruner pair, any number of `optimize` calls of any lengths — and leave the sampler/pruner
objects in the same state.  In particular the id-erased histories are equal after every call. -/
theorem loop_storage_independent {ρ : Type} {S₁ S₂ : Store} (sim : Sim S₁ S₂) (A : Algo ρ)
    (obj : Nat → Prog) (reseed : Bool) (calls : List Nat) (s₁ : S₁.σ) (s₂ : S₂.σ) (r : ρ)
    (h : sim.R s₁ s₂) :
    S₁.view (runCalls S₁ A obj reseed calls s₁ r).1 = S₂.view (runCalls S₂ A obj reseed calls s₂ r).1 ∧
    (runCalls S₁ A obj reseed calls s₁ r).2 = (runCalls S₂ A obj reseed calls s₂ r).2 := by
  obtain ⟨h1, h2⟩ := runCalls_sim sim A obj reseed calls s₁ s₂ r h
  exact ⟨sim.view_eq h1, h2⟩

theorem loop_storage_independent_every_step {ρ : Type} {S₁ S₂ : Store} (sim : Sim S₁ S₂)
    (A : Algo ρ) (obj : Nat → Prog) (k : Nat) (s₁ : S₁.σ) (s₂ : S₂.σ) (r : ρ) (h : sim.R s₁ s₂) :
    S₁.view (runTrials S₁ A obj k s₁ r).1 = S₂.view (runTrials S₂ A obj k s₂ r).1 ∧
    (runTrials S₁ A obj k s₁ r).2 = (runTrials S₂ A obj k s₂ r).2 := by
  obtain ⟨h1, h2⟩ := runTrials_sim sim A obj k s₁ s₂ r h
  exact ⟨sim.view_eq h1, h2⟩

/-- **loop_refines_erased.**  The storage contract model, in *any* state (any other studies and
trials before, between and around the study's own: any id offsets, contiguous or not) and at any
study id, shows after a run exactly what the canonical id-free storage shows after the same run
started from the id-erased study. -/
theorem loop_refines_erased {ρ : Type} (A : Algo ρ) (obj : Nat → Prog) (reseed ir : Bool)
    (calls : List Nat) (s : Spec) (sid : Nat) (v : View) (r : ρ) (h : specView sid s = some v) :
    specView sid (runCalls (specStore sid ir) A obj reseed calls s r).1 =
      some (runCalls (viewStore ir) A obj reseed calls v r).1 ∧
    (runCalls (specStore sid ir) A obj reseed calls s r).2 =
      (runCalls (viewStore ir) A obj reseed calls v r).2 :=
  loop_storage_independent (specSim sid ir) A obj reseed calls s v r h

/-- **Storage independence for the contract model**: two storages holding the same id-erased
study under different study ids and arbitrary trial-id offsets produce equal id-erased histories
(every field of every trial, and the study's attributes) and equal sampler states. -/
theorem loop_storage_independent_spec {ρ : Type} (A : Algo ρ) (obj : Nat → Prog) (reseed ir : Bool)
    (calls : List Nat) (s₁ s₂ : Spec) (sid₁ sid₂ : Nat) (v : View) (r : ρ)
    (h₁ : specView sid₁ s₁ = some v) (h₂ : specView sid₂ s₂ = some v) :
    specView sid₁ (runCalls (specStore sid₁ ir) A obj reseed calls s₁ r).1 =
      specView sid₂ (runCalls (specStore sid₂ ir) A obj reseed calls s₂ r).1 ∧
    (runCalls (specStore sid₁ ir) A obj reseed calls s₁ r).2 =
      (runCalls (specStore sid₂ ir) A obj reseed calls s₂ r).2 := by
  obtain ⟨a1, a2⟩ := loop_refines_erased A obj reseed ir calls s₁ sid₁ v r h₁
  obtain ⟨b1, b2⟩ := loop_refines_erased A obj reseed ir calls s₂ sid₂ v r h₂
  exact ⟨a1.trans b1.symm, a2.trans b2.symm⟩

theorem runTrials_add {ρ : Type} (S : Store) (A : Algo ρ) (obj : Nat → Prog) (a b : Nat)
    (s : S.σ) (r : ρ) :
    runTrials S A obj (a + b) s r =
      runTrials S A obj b (runTrials S A obj a s r).1 (runTrials S A obj a s r).2 := by
  induction b with
  | zero => rfl
  | succ b ih =>
    show runTrials S A obj ((a + b) + 1) s r = _
    simp only [runTrials, ih]

/-- **split_irrelevant.**  With `reseed_sampler_rng = False` (what `_optimize` passes on the
`n_jobs == 1` path — tied to the source by `reseed_flag_tied`), a run split into several
`optimize` calls is the same run: same storage state, same sampler state. -/
theorem split_irrelevant {ρ : Type} (S : Store) (A : Algo ρ) (obj : Nat → Prog) (calls : List Nat)
    (s : S.σ) (r : ρ) :
    runCalls S A obj false calls s r = runTrials S A obj calls.sum s r := by
  induction calls generalizing s r with
  | nil => rfl
  | cons n rest ih =>
    simp only [runCalls, List.sum_cons, optimizeSeq_eq_runTrials, Bool.false_eq_true, if_false, ih, runTrials_add]

/-- The flag that `_optimize` passes to `_optimize_sequential` on the sequential path, as read from
optuna/study/_optimize.py by the translator on this run, is `False`. -/
theorem reseed_flag_tied : Generated.TrialIdSites.reseedSequential = false := by decide

theorem split_irrelevant_tied {ρ : Type} (S : Store) (A : Algo ρ) (obj : Nat → Prog)
    (c₁ c₂ : List Nat) (hsum : c₁.sum = c₂.sum) (s : S.σ) (r : ρ) :
    runCalls S A obj Generated.TrialIdSites.reseedSequential c₁ s r =
      runCalls S A obj Generated.TrialIdSites.reseedSequential c₂ s r := by
  rw [reseed_flag_tied, split_irrelevant, split_irrelevant, hsum]

/-- **optimisation_storage_and_split_independent_partial** — the property itself, as far as it can
be a theorem.  Full-strength statement (NOT provable here, kept for the record):

    for every built-in sampler `s` constructed with a seed, every built-in pruner `p`, every
    deterministic objective and any two storages `b₁ b₂` (any backend or proxy, any pre-existing
    studies/trials, any split of the run into optimize calls):
      history (run s p objective b₁ calls₁) = history (run s p objective b₂ calls₂)

What is proved: the same statement for every sampler/pruner pair that is an `Algo`, i.e. a function
of its own in-process state and of the id-erased history, on the contract model in any two states
and at any two study ids that show the same id-erased study (`specStore`; for two storages related
by a `Sim`: `loop_storage_independent`), with the sequential path's real reseed flag.  What is missing: that each concrete
numpy/scipy/torch sampler and pruner body *is* such a function (supported by `sites_allowed` and the
differential matrix only), and it is false for NSGA-II today (`ga_cache_ids_wrong`, F7). -/
theorem optimisation_storage_and_split_independent_partial {ρ : Type} (A : Algo ρ)
    (obj : Nat → Prog) (ir : Bool) (c₁ c₂ : List Nat) (hsum : c₁.sum = c₂.sum) (s₁ s₂ : Spec)
    (sid₁ sid₂ : Nat) (v : View) (r : ρ)
    (h₁ : specView sid₁ s₁ = some v) (h₂ : specView sid₂ s₂ = some v) :
    specView sid₁ (runCalls (specStore sid₁ ir) A obj Generated.TrialIdSites.reseedSequential c₁ s₁ r).1 =
      specView sid₂ (runCalls (specStore sid₂ ir) A obj Generated.TrialIdSites.reseedSequential c₂ s₂ r).1 ∧
    (runCalls (specStore sid₁ ir) A obj Generated.TrialIdSites.reseedSequential c₁ s₁ r).2 =
      (runCalls (specStore sid₂ ir) A obj Generated.TrialIdSites.reseedSequential c₂ s₂ r).2 := by
  rw [split_irrelevant_tied (specStore sid₁ ir) A obj c₁ c₂ hsum s₁ r]
  exact loop_storage_independent_spec A obj _ ir c₂ s₁ s₂ sid₁ sid₂ v r h₁ h₂

/-- `study._get_trials()` is ordered by number and numbers are 0,1,2,… (C01 `numbers_dense`). -/
def NumberDense (trials : List GACache.T) : Prop :=
  ∀ (i : Nat) (t : GACache.T), trials[i]? = some t → t.number = i

open GACache in
theorem read_map_iff (trials parents : List T) (f : T → Nat) :
    read trials (parents.map f) = some parents ↔ ∀ p ∈ parents, trials[f p]? = some p := by
  induction parents with
  | nil => simp [GACache.read]
  | cons p rest ih =>
    simp only [List.map_cons, GACache.read, List.mem_cons, forall_eq_or_imp, ← ih]
    cases trials[f p]? <;> cases read trials (rest.map f) <;> simp

open GACache in
theorem read_of_dense (trials : List T) (hd : NumberDense trials) (f : T → Nat)
    (parents : List T) (hp : ∀ p ∈ parents, p ∈ trials) (hf : ∀ p ∈ parents, f p = p.number) :
    read trials (parents.map f) = some parents := by
  refine (read_map_iff trials parents f).mpr (fun p hpm => ?_)
  obtain ⟨i, hi⟩ := List.getElem?_of_mem (hp p hpm)
  rw [hf p hpm, hd i p hi]
  exact hi

open GACache in
/-- **ga_cache_roundtrip.**  A cache of trial *numbers* (what NSGA-III stores) read back from a
number-dense trial list returns exactly the selected parents — on every storage, whatever the ids. -/
theorem ga_cache_roundtrip (trials parents : List T) (hd : NumberDense trials)
    (hp : ∀ p ∈ parents, p ∈ trials) : roundTrip writeNumbers trials parents = some parents :=
  read_of_dense trials hd _ parents hp (fun _ _ => rfl)

open GACache in
/-- The cache of `_trial_id`s (what `BaseGASampler` stores) is read back correctly when ids happen
to equal numbers — a fresh in-memory or journal storage holding one study, which is all the test
suite exercises. -/
theorem ga_cache_ids_ok_when_ids_are_numbers (trials parents : List T) (hd : NumberDense trials)
    (hp : ∀ p ∈ parents, p ∈ trials) (hid : ∀ t ∈ trials, t.id = t.number) :
    roundTrip writeIds trials parents = some parents :=
  read_of_dense trials hd _ parents hp (fun p hpm => hid p (hp p hpm))

open GACache in
theorem contiguous_eq_map (off n : Nat) : contiguous off n = (List.range n).map (fun i => ⟨off + i, i⟩) := by
  induction n with
  | zero => rfl
  | succ n ih => simp only [contiguous, ih, List.range_succ, List.map_append, List.map_cons, List.map_nil]

open GACache in
theorem contiguous_get (off n i : Nat) :
    (contiguous off n)[i]? = if i < n then some ⟨off + i, i⟩ else none := by
  rw [contiguous_eq_map, List.getElem?_map]
  split
  · rename_i h; rw [List.getElem?_range h]; rfl
  · rename_i h; rw [List.getElem?_eq_none (by simpa using h)]; rfl

open GACache in
/-- position `i` holds the id `off + i` -/
theorem contiguous_id_not_index (off n : Nat) (hoff : 1 ≤ off) (p : T) : (contiguous off n)[p.id]? ≠ some p := by
  rw [contiguous_get]
  split
  · intro h
    have := congrArg T.id (Option.some.inj h)
    simp only at this
    omega
  · intro h; cases h

open GACache in
/-- **ga_cache_ids_wrong** (F7, for every offset).  On a storage where the study's trial ids are
its numbers shifted by any `off ≥ 1` (SQLite: 1; any storage that already holds `off` trials of
other studies), reading back the cache that `get_parent_population` wrote NEVER returns the
selected parents, whatever non-empty selection it was: the read falls off the list
(`IndexError`) or returns other trials. -/
theorem ga_cache_ids_wrong (off n : Nat) (hoff : 1 ≤ off) (parents : List T)
    (hne : parents ≠ []) (hp : ∀ p ∈ parents, p ∈ contiguous off n) :
    roundTrip writeIds (contiguous off n) parents ≠ some parents := by
  intro hcontra
  obtain ⟨p, rest, rfl⟩ := List.exists_cons_of_ne_nil hne
  exact contiguous_id_not_index off n hoff p ((read_map_iff _ _ (·.id)).mp hcontra p List.mem_cons_self)

open GACache in
/-- **ga_cache_ids_wrong_witness** (the replayed F7 witnesses).  SQLite-like ids 1..4 for trials
0..3, selected parents = trials 0 and 2: the second call returns trials 1 and 3.  A storage that
already holds 5 trials of another study: the second call raises `IndexError`, while a cache of
numbers (`writeNumbers`) reads back the selected parents there. -/
theorem ga_cache_ids_wrong_witness :
    roundTrip writeIds (contiguous 1 4) [⟨1, 0⟩, ⟨3, 2⟩] = some [⟨2, 1⟩, ⟨4, 3⟩] ∧
    roundTrip writeIds (contiguous 5 4) [⟨5, 0⟩, ⟨7, 2⟩] = none ∧
    roundTrip writeNumbers (contiguous 5 4) [⟨5, 0⟩, ⟨7, 2⟩] = some [⟨5, 0⟩, ⟨7, 2⟩] := by
  decide

/-- **copy_preserves_fields.**  `copy_study` (create the study, copy the study attributes, then a
fold of `create_new_trial(template)` over the source's trials) into ANY state of ANY backend that
implements the storage contract reproduces the id-erased study: every trial with every field
(number, state, values, parameters with distributions, user and system attributes, intermediate
values incl. NaN/±∞, start/complete timestamps), the directions and both attribute dictionaries.
Hypotheses: the name is free; no trial of the destination refers to the id the new study gets
(true in every reachable state); the source's numbers are dense (C01 `numbers_dense`); attribute
dictionaries have distinct keys (they are Python dicts); and — only for backends that check
templates against the study (`ir`, looseness U1) — the source's distributions are pairwise
compatible. -/
theorem copy_preserves_fields (src dst : Spec) (sidFrom : Nat) (name : String) (ir : Bool)
    (st : StudyS) (hsrc : src.study? sidFrom = some st) (hfree : dst.nameTaken name = false)
    (hwf : ∀ t ∈ dst.trials, t.study ≠ dst.studies.length)
    (hnum : ∀ (n : Nat) (p : Nat × TrialS), (src.trialsOf sidFrom)[n]? = some p → p.2.number = n)
    (hsys : (st.systemAttrs.map Prod.fst).Nodup) (husr : (st.userAttrs.map Prod.fst).Nodup)
    (hacc : Accepts ir ((src.trialsOf sidFrom).map Prod.snd)) :
    ∃ sidTo v, (copyStudy src sidFrom dst name ir).2 = some sidTo ∧
      specView sidTo (copyStudy src sidFrom dst name ir).1 = some v ∧
      v.trials = (src.trialsOf sidFrom).map (fun p => eraseT p.2) ∧
      v.study = { name := name, directions := st.directions, userAttrs := st.userAttrs,
                  systemAttrs := st.systemAttrs, paramDist := [] } := by
  have hcreate : step dst (.createStudy name st.directions) =
      ({ dst with studies := dst.studies ++ [some ⟨name, st.directions, [], [], []⟩] },
        .newId dst.studies.length) := by
    simp only [step, hfree, Bool.false_eq_true, if_false]
  -- the view of the new study, call by call: empty, with the attributes, with the copies
  have h := addTrials_view ir _ hacc _ (fun _ h => h)
    (setStudyUser_view st.userAttrs (setStudySys_view st.systemAttrs
      (specView_appendStudy dst ⟨name, st.directions, [], [], []⟩ hwf))) rfl (by intro e he; cases he)
  simp only [foldl_set_nodup st.systemAttrs [] (by simpa using hsys),
    foldl_set_nodup st.userAttrs [] (by simpa using husr), List.nil_append, List.length_nil] at h
  rw [copied_eq _ 0 _ (by
    intro n t h
    rw [List.getElem?_map] at h
    obtain ⟨p, hp, rfl⟩ := Option.map_eq_some_iff.mp h
    simpa using hnum n p hp), List.map_map] at h
  exact ⟨dst.studies.length, _, by simp only [copyStudy, hsrc, hcreate],
    by simp only [copyStudy, hsrc, hcreate]; exact h, rfl, rfl⟩

/-- The two sites of the F7 defect: the parent cache stores `_trial_id`s in a study attribute and
uses the cached values as list indices. -/
def f7Site (s : Generated.TrialIdSites.Site) : Bool :=
  s.file == "optuna/samplers/_ga/_base.py" && s.func == "BaseGASampler.get_parent_population" &&
    (s.kind == .storedInStudyAttr || s.kind == .usedAsIndex)

/-- What the loop model allows: the id is handed back to the storage as the trial-id argument of a
call on the current trial (`Write`s of `Algo`), nothing else. -/
def allowedSite (s : Generated.TrialIdSites.Site) : Bool := s.kind == .storageArg || f7Site s

open Generated.TrialIdSites in
/-- **sites_allowed.**  In the tree under test (inventory regenerated on this run), every read of
`._trial_id` and every use of a local `trial_id` under optuna/samplers and optuna/pruners is the
trial-id argument of a storage call — except the two F7 sites.  A sampler or pruner that starts to
key memory by, compare, format or index with a storage id breaks this obligation. -/
theorem sites_allowed : sites.all allowedSite = true := by decide

open Generated.TrialIdSites in
/-- The F7 sites are there (the exception is not vacuous). -/
theorem f7_sites_present : (sites.filter f7Site).length = 2 := by decide

/-! ## non-vacuity: concrete storages, sampler, objective -/

namespace Demo

def dist : Dist := { kind := 2, log := false, body := "[\"a\",\"b\"]" }

/-- A toy seeded sampler/pruner: the "RNG" is a counter; it remembers something in a trial system
attr and in a study system attr; it prunes every other trial. -/
def algo : Algo Nat where
  beforeTrial := fun r _ _ => (r + 1, [.trialSys "seen" "1"])
  sample := fun r vw _ _ _ => (r + 3, [.studySys "last" (if vw.trials.length % 2 == 0 then "e" else "o")],
    if vw.trials.length == 3 then "b" else "a")
  prune := fun r vw _ => (r, [], vw.trials.length % 2 == 0)
  afterTrial := fun r _ _ _ _ => (r + 5, [])
  reseed := fun r => r + 100

def obj : Nat → Prog := fun number =>
  .suggest "x" dist (fun v =>
    if v == "a" then
      .report 0 (.fin 1) (.report 0 (.fin 2) (.shouldPrune (fun b => if b then .prune else .ret [.fin 3])))
    else if number == 1 then .fail
    else .setUserAttr "u" v (.ret [.nan]))

/-- storage A: the study is alone (ids = numbers). -/
def sA : Spec := (step Storage.init (.createStudy "s" [1])).1

/-- storage B: two other studies and three foreign trials first (one of them in a deleted study),
so the study has id 2 and its trials get ids 3, 4, … -/
def sB : Spec :=
  [Op.createStudy "other" [2], .createStudy "gone" [1], .createTrial 0 none false,
   .createTrial 1 none false, .createTrial 0 none false, .deleteStudy 1, .createStudy "s" [1]].foldl
    (fun s op => (step s op).1) Storage.init

example : specView 0 sA = specView 2 sB := by decide
example : specView 0 sA = some ⟨⟨"s", [1], [], [], []⟩, []⟩ := by decide

/-- different ids ... -/
example : ((runCalls (specStore 0 false) algo obj false [2, 1] sA 0).1.trialsOf 0).map Prod.fst = [0, 1, 2] ∧
    ((runCalls (specStore 2 true) algo obj false [3] sB 0).1.trialsOf 2).map Prod.fst = [3, 4, 5] := by
  decide

/-- ... and a history that exercises pruning (with the last intermediate value as value), a
failure, a NaN return (→ FAIL), a duplicate report, sampler writes. -/
example : ((runCalls (viewStore false) algo obj false [3] ⟨⟨"s", [1], [], [], []⟩, []⟩ 0).1.trials.map
    (fun t => (t.state, t.values, t.inter))) =
    [(.complete, some [.fin 3], [(0, .fin 1)]), (.pruned, some [.fin 1], [(0, .fin 1)]), (.fail, none, [])] := by
  decide

/-- reseeding on every call (what `n_jobs > 1` does) makes a split run differ: the hypothesis
`reseed = false` of `split_irrelevant` is needed. -/
example : (runCalls (viewStore false) algo obj true [1, 1] ⟨⟨"s", [1], [], [], []⟩, []⟩ 0).2 ≠
    (runCalls (viewStore false) algo obj true [2] ⟨⟨"s", [1], [], [], []⟩, []⟩ 0).2 := by
  decide

/-- copy_study of the finished demo study into storage B's state. -/
example : (copyStudy (runCalls (specStore 0 false) algo obj false [3] sA 0).1 0 sB "copy" true).2 = some 3 := by
  decide

end Demo

end OptunaVerif.C09
