import OptunaVerif.Generated.BruteForceMethods
import OptunaVerif.Generated.GridMethods
import OptunaVerif.Props.C14
import OptunaVerif.Lemmas.SamplerIR
/-!
# C14 (translator tie) — the brute-force and grid sampler methods *as written in the source* are the hand models

`Generated/BruteForceMethods.lean` (`_TreeNode.expand / set_running / set_leaf / add_path / count_unexpanded / sample_child`,
`BruteForceSampler._populate_tree / sample_independent / after_trial`, `_enumerate_candidates`, `_param_value_equal`) and
`Generated/GridMethods.lean` (`_grid_value_equal`, `_same_search_space`, `_get_unvisited_grid_ids`, `before_trial`, `after_trial`) are
data of the statement language of `Model/SamplerIR.lean`.  Per method the interpreter of the generated body equals the function of
`Model/BruteForce.lean` / `Model/Grid.lean`, a `none` of the hand model being the one error the method raises (`interp_*`, through
`liftErr`).  A loop is an induction over its list, its body a `def … Body` with a `*_shape` equation; a larger body with several paths is
opened once, definitionally (`dsimp only [<body>, block, exec, <vocabulary>]`), before the case split, and each path is closed by
`simp` with its case hypotheses.  Hence the optimize loop over the generated hooks is the hand model's session (`genSession_eq`,
`genGridSession_eq`) and the theorems of `Props/C14.lean` hold of it (`gen_*`).
-/
namespace OptunaVerif.C14Gen
open OptunaVerif.BruteForce OptunaVerif.SamplerIR
open OptunaVerif.Generated OptunaVerif.Generated.BruteForceMethods

@[simp] theorem treeSem_cond (f) : (treeSem f).cond = evalTCond := rfl
@[simp] theorem treeSem_act (f) : (treeSem f).act = doTAct f := rfl
@[simp] theorem treeSem_iter (f) : (treeSem f).iter = iterT := rfl
@[simp] theorem treeSem_retv (f) : (treeSem f).retv = retT := rfl
attribute [sampler_ir] treeSem_cond treeSem_act treeSem_iter treeSem_retv

theorem isRunning_exp (n : Option String) (ks : List Val) (ch : Val → Tree) (r : Bool) :
    (Tree.exp n ks ch r).isRunning = r := rfl
theorem nameOf_exp (n : Option String) (ks : List Val) (ch : Val → Tree) (r : Bool) :
    Tree.nameOf (Tree.exp n ks ch r) = n := rfl
attribute [sampler_ir] isRunning_exp nameOf_exp

theorem interp_expand (t : Tree) (name : Option String) (cands : List Val) :
    interpExpand expand t name cands = liftErr .valueError (t.expand name cands) := by
  dsimp only [interpExpand, expand, block, exec, treeSem, evalTCond, doTAct]
  cases t with
  | unexp r =>
    simp [sampler_ir, Tree.expand]
  | exp n ks ch r =>
    cases hn : (n == name) <;> cases hk : sameKeys ks cands <;>
    simp [sampler_ir, Tree.expand, hn, hk, bne]

/-- non-vacuity (the interpreter on concrete nodes): expanding an unexpanded RUNNING node gives three unexpanded
children and keeps the flag; expanding it again with another name or another candidate set raises; `set_leaf` on
an inner node raises -/
example : (toOpt (interpExpand expand (.unexp true) (some "x") [0, 1, 2])).map (fun t => (t.count false, t.isRunning)) =
      some (3, true) ∧
    toOpt (match interpExpand expand (.unexp false) (some "x") [0, 1] with
      | .ok t => interpExpand expand t (some "y") [0, 1]
      | .error e => .error e) = none ∧
    toOpt (match interpExpand expand (.unexp false) (some "x") [0, 1] with
      | .ok t => interpExpand expand t (some "x") [0, 1, 2]
      | .error e => .error e) = none ∧
    toOpt (match interpExpand expand (.unexp false) (some "x") [0, 1] with
      | .ok t => interpSetLeaf setLeaf expand t
      | .error e => .error e) = none := by decide +kernel

theorem interp_setRunning (t : Tree) : interpSetRunning setRunning t = .ok t.setRunning := by
  cases t <;>
    simp [sampler_ir, interpSetRunning, setRunning, Tree.setRunning]

theorem self_setSelf (env : TEnv) (t : Tree) : (env.setSelf t).self = t := by
  cases t <;> simp [sampler_ir]

theorem self_ofTree (t : Tree) (cc : Bool → Val → Except Err Nat) : (TEnv.ofTree t cc).self = t := by
  cases t <;> simp [sampler_ir]

theorem interp_setLeaf (t : Tree) : interpSetLeaf setLeaf expand t = liftErr .valueError t.setLeaf := by
  have h := interp_expand t none []
  simp only [interpSetLeaf, setLeaf, exec_act, treeSem_act, doTAct, evalNameArg, evalSpaceArg, self_ofTree, h, Tree.setLeaf]
  cases t.expand none [] <;> simp [liftErr, finishNode, self_setSelf]

/-- what the caller of `add_path` does with the returned pointer: `fin` on the node (a `ValueError` where it is
`none`), the tree rebuilt -/
def closePath (fin : Tree → Option Tree) : Except Err (Tree × List Frame × Bool) → Except Err Tree
  | .ok (t, fs, true) => liftErr .valueError ((fin t).map (fun t' => zipUp t' fs))
  | .ok (t, fs, false) => .ok (zipUp t fs)
  | .error e => .error e

def pathBody : TStmt :=
  block [(.act .curExpand), (.assert (.not .curChildrenIsNone)),
    (.ite (.not .valueInCur) (.ret .none) .skip), (.act .curDescend)]

theorem addPath_shape : addPath = block [(.act .curFromSelf), (.loop .pathTriples pathBody), (.ret .cur)] := rfl

theorem path_step (env : TEnv) (t : Tree) (s : Step) (hc : env.cur = some t) (hs : env.step = some s) :
    exec (treeSem (interpExpand expand)) pathBody env =
      match t.expand (some s.name) s.cands with
      | none => (env, .raised .valueError)
      | some (.unexp r) => ({ env with cur := some (.unexp r) }, .raised .assertion)
      | some (.exp n ks ch r) =>
        if ks.contains s.value then
          ({ env with cur := some (ch s.value), frames := ⟨n, ks, ch, r, s.value⟩ :: env.frames }, .next)
        else ({ env with cur := some (.exp n ks ch r) }, .ret .none) := by
  have he := interp_expand t (some s.name) s.cands
  dsimp only [pathBody, block, exec, treeSem, evalTCond, doTAct, retT]
  cases hx : t.expand (some s.name) s.cands with
  | none => simp [sampler_ir, hc, hs, he, hx]
  | some t' =>
    cases t' with
    | unexp r => simp [sampler_ir, hc, hs, he, hx]
    | exp n ks ch r =>
      by_cases hv : s.value ∈ ks <;>
        simp [sampler_ir, hc, hs, he, hx, hv]

theorem addPath_loop (fin : Tree → Option Tree) (path : List Step) :
    ∀ (env : TEnv) (t : Tree) (fs : List Frame), env.cur = some t → env.frames = fs →
      closePath fin (finishPath
        (andThen (loopAux (fun e => exec (treeSem (interpExpand expand)) pathBody e)
            (path.map (fun s => fun (e : TEnv) => { e with step := some s })) env)
          (fun e => exec (treeSem (interpExpand expand)) (.ret .cur) e))) =
      liftErr .valueError ((Tree.addPath fin path t).map (fun t' => zipUp t' fs)) := by
  -- the source moves a pointer down a tree it mutates in place, the model rebuilds the tree on the way back: `env.cur` is the
  -- node `t` under the pointer, `env.frames` the zipper above it, and both are generalised, so that the descent (one more frame)
  -- is the induction hypothesis and `zipUp` of that frame the model's `exp n keys (fun k => if k = s.value then c' else ch k) r`
  induction path with
  | nil =>
    intro env t fs hc hf
    simp [sampler_ir, loopAux, hc, hf, closePath, Tree.addPath]
  | cons s rest ih =>
    intro env t fs hc hf
    have hstep := path_step { env with step := some s } t s hc rfl
    rw [List.map_cons]
    cases hx : t.expand (some s.name) s.cands with
    | none =>
      simp only [hx] at hstep
      rw [loopAux_cons_raised _ _ _ _ _ _ hstep]
      simp [sampler_ir, closePath, Tree.addPath, hx]
    | some t' =>
      obtain ⟨n', ks, ch, r, rfl⟩ := expand_isExp t t' _ _ hx
      simp only [hx] at hstep
      by_cases hv : ks.contains s.value = true
      · rw [if_pos hv] at hstep
        rw [loopAux_cons_next _ _ _ _ _ hstep,
          ih _ (ch s.value) (⟨n', ks, ch, r, s.value⟩ :: fs) rfl (by simp [hf])]
        simp only [Tree.addPath, hx, hv, if_true]
        cases Tree.addPath fin rest (ch s.value) <;> simp [zipUp, liftErr]
      · rw [if_neg hv] at hstep
        rw [loopAux_cons_ret _ _ _ _ _ _ hstep]
        have hv' : s.value ∉ ks := by simpa using hv
        simp [sampler_ir, closePath, Tree.addPath, hx, hv', hf]

theorem interp_addPath (fin : Tree → Option Tree) (t : Tree) (path : List Step) :
    closePath fin (interpAddPath addPath expand t path) = liftErr .valueError (Tree.addPath fin path t) := by
  have h := addPath_loop fin path
    { TEnv.ofTree t noCount with path := path, cur := some t, frames := [] } t [] rfl rfl
  have hs : ({ TEnv.ofTree t noCount with path := path } : TEnv).self = t := self_ofTree t noCount
  simp only [zipUp, Option.map_id'] at h
  rw [interpAddPath, addPath_shape]
  simp only [block_cons, block_one, exec_seq, exec_act, exec_ret, treeSem_act, treeSem_retv, doTAct, hs, andThen] at h ⊢
  exact h

/-- non-vacuity: `add_path` of `x = 1, y = 0` into an empty tree returns a pointer two levels down (two frames);
a value off the candidate list returns `None` and keeps the expansion made so far -/
example : (toOpt (interpAddPath addPath expand (.unexp false) [⟨"x", [0, 1], 1⟩, ⟨"y", [0, 1], 0⟩])).map
      (fun r => (r.2.1.length, r.2.2, (zipUp r.1 r.2.1).count false)) = some (2, true, 3) ∧
    (toOpt (interpAddPath addPath expand (.unexp false) [⟨"x", [0, 1], 7⟩])).map
      (fun r => (r.2.1.length, r.2.2, (zipUp r.1 r.2.1).count false)) = some (0, false, 2) := by decide +kernel

theorem sumE_ok {α : Type} (l : List α) (f : α → Nat) :
    sumE (l.map (fun k => (Except.ok (f k) : Except Err Nat))) = .ok ((l.map f).sum) := by
  induction l with
  | nil => rfl
  | cons a l ih => simp [sumE, ih]

theorem mapE_ok {α β : Type} (l : List α) (f : α → β) :
    mapE (fun k => (Except.ok (f k) : Except Err β)) l = .ok (l.map f) := by
  induction l with
  | nil => rfl
  | cons a l ih => simp [mapE, ih]

theorem interp_countUnexpanded (t : Tree) : ∀ (excl : Bool),
    interpCount countUnexpanded t excl = .ok (t.count excl) := by
  induction t with
  | unexp r =>
    intro excl
    cases excl <;> cases r <;>
      simp [sampler_ir, interpCount, countUnexpanded, Tree.count]
  | exp n ks ch r ih =>
    intro excl
    rw [interpCount]
    simp only [ih]
    simp only [sampler_ir, countUnexpanded, Option.isNone, sumE_ok, Tree.count]

/-- the weight of a child after the "prioritise non-running" loop -/
def zeroed (excl : Bool) (ch : Val → Tree) (k : Val) : Nat := if (ch k).isRunning then 0 else (ch k).count excl

def zeroBody : TStmt := .ite .childRunning (.act .zeroWeight) .skip

theorem zero_step (env : TEnv) (ks : List Val) (ch : Val → Tree) (ws : List Nat) (i : Nat) (k : Val)
    (hk : env.kids = some (ks, ch)) (hw : env.weights = some ws) (hi : env.idx = some i) (hki : ks[i]? = some k) :
    exec (treeSem noExpand) zeroBody env =
      (if (ch k).isRunning then { env with weights := some (ws.set i 0) } else env, .next) := by
  cases hr : (ch k).isRunning <;>
    simp [sampler_ir, zeroBody, hk, hw, hi, hki, hr]

theorem zero_loop (excl : Bool) (ch : Val → Tree) (rest : List Val) :
    ∀ (pre : List Val) (pre' : List Nat) (env : TEnv), pre'.length = pre.length →
      env.kids = some (pre ++ rest, ch) →
      env.weights = some (pre' ++ rest.map (fun k => (ch k).count excl)) →
      ∃ env', loopAux (fun e => exec (treeSem noExpand) zeroBody e)
          ((List.range' pre.length rest.length).map (fun i => fun (e : TEnv) => { e with idx := some i })) env = (env', .next) ∧
        env'.weights = some (pre' ++ rest.map (zeroed excl ch)) ∧ env'.kids = env.kids ∧ env'.proposal = env.proposal := by
  induction rest with
  | nil =>
    intro pre pre' env hl hk hw
    exact ⟨env, by simp [loopAux], by simpa using hw, rfl, rfl⟩
  | cons k rest ih =>
    intro pre pre' env hl hk hw
    have hidx : (pre ++ k :: rest)[pre.length]? = some k := by simp
    have hstep := zero_step { env with idx := some pre.length } _ ch _ pre.length k hk
      (by simpa using hw) rfl hidx
    -- the environment after the step, whichever branch was taken
    obtain ⟨env1, henv, hk1, hw1, hp1⟩ : ∃ env1 : TEnv,
        exec (treeSem noExpand) zeroBody { env with idx := some pre.length } = (env1, .next) ∧
        env1.kids = env.kids ∧
        env1.weights = some (pre' ++ zeroed excl ch k :: rest.map (fun k => (ch k).count excl)) ∧
        env1.proposal = env.proposal := by
      cases hr : (ch k).isRunning <;> simp only [hr, if_true, Bool.false_eq_true, if_false] at hstep
      · exact ⟨_, hstep, rfl, by simp [zeroed, hr, hw], rfl⟩
      · exact ⟨_, hstep, rfl, by rw [← hl]; simp [zeroed, hr], rfl⟩
    obtain ⟨env', h1, h2, h3, h5⟩ := ih (pre ++ [k]) (pre' ++ [zeroed excl ch k]) env1
      (by simp [hl]) (by simp [hk1, hk]) (by simp [hw1])
    refine ⟨env', ?_, by rw [h2]; simp, by rw [h3, hk1], by rw [h5, hp1]⟩
    simp only [List.length_cons, List.range'_succ, List.map_cons]
    rw [loopAux_cons_next _ _ _ _ _ henv]
    simp only [List.length_append, List.length_singleton] at h1
    exact h1

theorem anyE_range {α : Type} (f : Nat → Except Err Bool) (g : α → Bool) (l : List α) :
    ∀ (off : Nat), (∀ i (h : i < l.length), f (off + i) = .ok (g l[i])) →
      anyE f (List.range' off l.length) = .ok (l.any g) := by
  induction l with
  | nil => intro off _; rfl
  | cons a l ih =>
    intro off h
    have h0 := h 0 (by simp)
    have hl := ih (off + 1) (fun i hi => by
      have := h (i + 1) (by simp; omega)
      rwa [List.getElem_cons_succ, ← Nat.add_assoc, Nat.add_right_comm] at this)
    simp only [Nat.add_zero, List.getElem_cons_zero] at h0
    simp only [List.length_cons, List.range'_succ, anyE, h0, List.any_cons]
    cases g a <;> simp [hl]

theorem interp_sampleChild_unexp (excl r : Bool) (proposal : Val) :
    interpSampleChild sampleChild countUnexpanded excl (.unexp r) proposal = .error .assertion := by
  simp [sampler_ir, interpSampleChild, sampleChild]

theorem sampleChild_shape : sampleChild = block [
    (.assert (.not .childrenIsNone)), (.act (.setWeights .excl)),
    (.ite (.anyChild (.and (.not .childRunning) .weightPos)) (.loop .children zeroBody) .skip),
    (.act .normalise), (.ret .choice)] := rfl

theorem interp_sampleChild (excl : Bool) (n : Option String) (ks : List Val) (ch : Val → Tree) (r : Bool)
    (proposal : Val) :
    interpSampleChild sampleChild countUnexpanded excl (.exp n ks ch r) proposal =
      .ok ((Tree.exp n ks ch r).weights excl, (Tree.exp n ks ch r).sampleChild excl proposal) := by
  rw [interpSampleChild, sampleChild_shape]
  simp only [sampler_ir, nameOf_exp, isRunning_exp, Option.isNone, Bool.not_false, interp_countUnexpanded, mapE_ok]
  rw [List.range_eq_range', anyE_range _ (fun k => !(ch k).isRunning && decide (0 < (ch k).count excl)) ks 0 (by
    intro i hi
    simp only [Nat.zero_add, List.getElem?_eq_getElem hi, List.getElem?_map, Option.map_some]
    cases (ch ks[i]).isRunning <;> simp)]
  cases hp : ks.any (fun k => !(ch k).isRunning && decide (0 < (ch k).count excl)) with
  | false =>
    simp [sampler_ir, Tree.weights, Tree.sampleChild, Tree.keys, hp]
  | true =>
    simp only [sampler_ir]
    rw [List.range_eq_range']
    obtain ⟨env', h1, h2, h3, h5⟩ := zero_loop excl ch ks [] []
      { name := n, kids := some (ks, ch), running := r,
        childCount := fun e k => interpCount countUnexpanded (ch k) e, argName := none, argSpace := [], excl := excl,
        path := [], proposal := proposal, cur := none, frames := [], step := none,
        weights := some (ks.map (fun k => (ch k).count excl)), normalised := false, idx := none }
      rfl rfl rfl
    have hz : zeroed excl ch = fun k => if (ch k).isRunning then 0 else (ch k).count excl := rfl
    simp only [List.length_nil, List.nil_append, hz] at h1 h2
    simp only [interp_countUnexpanded] at h1
    rw [h1]
    simp [sampler_ir, h2, h3, h5, Tree.weights, Tree.sampleChild, Tree.keys, hp]

/-- non-vacuity: children `0` (RUNNING, unexpanded), `1` (unexpanded), `2` (a finished leaf).  Strict mode counts
the running child, the default mode does not; the weight vector zeroes the running child because `1` is free,
and the RNG proposal `0` (weight 0) is replaced by the first child of positive weight.  In the second tree the only
unexpanded child is the running one: it keeps its weight, and the proposal `1` (a finished leaf, weight 0) is replaced by it -/
example :
    let t : Tree := .exp (some "x") [0, 1, 2]
      (fun k => if k = 0 then .unexp true else if k = 1 then .unexp false else .exp none [] (fun _ => .unexp false) false) false
    toOpt (interpCount countUnexpanded t false) = some 2 ∧ toOpt (interpCount countUnexpanded t true) = some 1 ∧
    toOpt (interpSampleChild sampleChild countUnexpanded false t 0) = some ([0, 1, 0], 1) ∧
    toOpt (interpSampleChild sampleChild countUnexpanded false
      (.exp (some "x") [0, 1] (fun k => if k = 0 then .unexp true else .exp none [] (fun _ => .unexp false) false) false) 1) =
        some ([1, 0], 0) := by decide +kernel

@[simp] theorem bfSem_cond (c) : (bfSem c).cond = evalBCond c := rfl
@[simp] theorem bfSem_act (c) : (bfSem c).act = doBAct c := rfl
@[simp] theorem bfSem_iter (c) : (bfSem c).iter = iterB := rfl
@[simp] theorem bfSem_retv (c) : (bfSem c).retv = retB c := rfl
attribute [sampler_ir] bfSem_cond bfSem_act bfSem_iter bfSem_retv

def popBody : BStmt :=
  block [(.ite (.not .paramsMatch) .cont .skip), (.act .leafAddPath),
    (.ite (.not .leafIsNone) (.ite .trialFinished (.act .leafSetLeaf) (.act .leafSetRunning)) .skip)]

theorem populateTree_shape : populateTree = .loop .trials popBody := rfl

theorem populate_step (pf) (env : BEnv) (tree : Tree) (params : List (String × Val)) (t : ITrial)
    (ht : env.tree = some tree) (hp : env.pParams = params) :
    match (if dictMatch params t.toTrial then tree.addPath (finOf t.toTrial) (restSteps params t.toTrial) else some tree),
        exec (bfSem (treeCalls treeProg pf)) popBody { env with trial := some t } with
    | none, r => r.2 = .raised .valueError
    | some tree', r => (r.2 = .next ∨ r.2 = .cont) ∧ r.1.pParams = params ∧ r.1.tree = some tree' := by
  dsimp only [popBody, block, exec, bfSem, evalBCond, doBAct, treeCalls, treeProg]
  cases hm : dictMatch params t.toTrial with
  | false => simp [sampler_ir, hp, hm, ht]
  | true =>
    -- the hand model's outcome is read off the interpreter's `add_path`, closed as the loop body closes it
    have hap := interp_addPath (finOf t.toTrial) tree (restSteps params t.toTrial)
    have hw : tree.addPath (finOf t.toTrial) (restSteps params t.toTrial) =
        toOpt (closePath (finOf t.toTrial) (interpAddPath addPath expand tree (restSteps params t.toTrial))) := by
      rw [hap, toOpt_liftErr]
    rw [if_pos rfl, hw]
    cases hR : interpAddPath addPath expand tree (restSteps params t.toTrial) with
    | error e =>
      -- `add_path` raises nothing but that `ValueError`
      have he : e = .valueError := by
        rw [hR] at hap
        cases hA : Tree.addPath (finOf t.toTrial) (restSteps params t.toTrial) tree <;> rw [hA] at hap <;> cases hap
        rfl
      simp [sampler_ir, closePath, hp, hm, ht, hR, he]
    | ok res =>
      obtain ⟨focus, frames, found⟩ := res
      cases found with
      | false => simp [sampler_ir, closePath, hp, hm, ht, hR]
      | true =>
        have hf : t.toTrial.finished = t.state.isFinished := rfl
        cases hfin : t.state.isFinished with
        | true =>
          have hsl := interp_setLeaf focus
          cases hx : focus.setLeaf <;>
            simp [sampler_ir, closePath, finOf, hf, hp, hm, ht, hR, hfin, hsl, hx]
        | false =>
          have hsr := interp_setRunning focus
          simp [sampler_ir, closePath, finOf, hf, hp, hm, ht, hR, hfin, hsr]

theorem populate_loop (pf) (params : List (String × Val)) (ts : List ITrial) :
    ∀ (env : BEnv) (tree : Tree), env.tree = some tree → env.pParams = params →
      finishTree (loopAux (fun e => exec (bfSem (treeCalls treeProg pf)) popBody e)
        (ts.map (fun t => fun (e : BEnv) => { e with trial := some t })) env) =
      liftErr .valueError (populate tree (ts.map ITrial.toTrial) params) := by
  induction ts with
  | nil =>
    intro env tree ht hp
    simp [sampler_ir, loopAux, ht, populate]
  | cons t rest ih =>
    intro env tree ht hp
    have hs := populate_step pf env tree params t ht hp
    rw [List.map_cons, List.map_cons, populate_cons]
    generalize (if dictMatch params t.toTrial = true then _ else _) = w at hs ⊢
    generalize hR : exec (bfSem (treeCalls treeProg pf)) popBody { env with trial := some t } = R at hs
    obtain ⟨env', fl⟩ := R
    cases w with
    | none =>
      subst hs
      rw [loopAux_cons_raised _ _ _ _ _ _ hR]
      rfl
    | some tree' =>
      obtain ⟨hfl, hpp, ht'⟩ := hs
      rw [Option.bind_some, ← ih env' tree' ht' hpp]
      rcases hfl with h | h <;> subst h
      · rw [loopAux_cons_next _ _ _ _ _ hR]
      · rw [loopAux_cons_cont _ _ _ _ _ hR]

theorem interp_populateTree (tree : Tree) (ts : List ITrial) (params : List (String × Val)) :
    interpPopulate treeProg populateTree tree ts params = liftErr .valueError (populate tree (ts.map ITrial.toTrial) params) := by
  rw [interpPopulate, populateTree_shape]
  simp only [sampler_ir]
  exact populate_loop noPopulate params ts _ tree rfl rfl

/-- non-vacuity: three stored trials (COMPLETE `x=0,y=0`; FAIL `x=0,y=1`; RUNNING at `x=1`) populate a tree with
one unexpanded node left in the strict mode and none in the default mode (`y` below `x=1` is running); with the
prefix `x = 1` only the trial that has `x = 1` is entered (second list: one of the two `y` values is left) -/
example : (toOpt (interpPopulate treeProg populateTree (.unexp false)
      [⟨0, [⟨"x", [0, 1], 0⟩, ⟨"y", [0, 1], 0⟩], .complete⟩, ⟨1, [⟨"x", [0, 1], 0⟩, ⟨"y", [0, 1], 1⟩], .fail⟩,
       ⟨2, [⟨"x", [0, 1], 1⟩], .running⟩] [])).map (fun t => (t.count false, t.count true)) = some (1, 0) ∧
    (toOpt (interpPopulate treeProg populateTree (.exp (some "y") [0, 1] (fun _ => .unexp false) false)
      [⟨0, [⟨"x", [0, 1], 0⟩, ⟨"y", [0, 1], 0⟩], .complete⟩, ⟨2, [⟨"x", [0, 1], 1⟩, ⟨"y", [0, 1], 1⟩], .pruned⟩]
      [("x", 1)])).map (fun t => t.count false) = some 1 := by decide +kernel

/-- the trials `study.get_trials(states=(COMPLETE, PRUNED, RUNNING, FAIL))` returns -/
def visible (study : List ITrial) : List ITrial :=
  study.filter (fun t => [TState.complete, TState.pruned, TState.running, TState.fail].contains t.state)

theorem sampleChild_of_isExp (excl : Bool) (t : Tree) (proposal : Val) (h : t.isExp = true) :
    interpSampleChild sampleChild countUnexpanded excl t proposal = .ok (t.weights excl, t.sampleChild excl proposal) := by
  cases t with
  | unexp r => cases h
  | exp n ks ch r => exact interp_sampleChild excl n ks ch r proposal

theorem interp_sampleIndependent (avoid : Bool) (study : List ITrial) (number : Nat) (pre : List Step)
    (name : String) (cands : List Val) (proposal : Val) :
    interpSampleIndependent treeProg populateTree BruteForceMethods.sampleIndependent avoid study number (paramsOf pre) name
      cands proposal =
    liftErr .valueError (BruteForce.sampleIndependent avoid
      (((visible study).filter (fun t => t.number != number)).map ITrial.toTrial) pre name cands proposal) := by
  have hexp := interp_expand (.unexp false) (some name) cands
  simp only [sampler_ir, Tree.expand] at hexp
  have hpop := interp_populateTree
  simp only [treeProg] at hpop
  simp only [sampler_ir, interpSampleIndependent, BruteForceMethods.sampleIndependent, treeProg, hexp, hpop,
    BruteForce.sampleIndependent, buildTree, Tree.expand, visible]
  cases hP : populate (.exp (some name) cands (fun _ => .unexp false) false) _ (paramsOf pre) with
  | none => rfl
  | some tree' =>
    have hE := populate_isExp _ _ _ _ rfl hP
    simp only [sampler_ir, interp_countUnexpanded]
    cases hc : (tree'.count (!avoid) == 0) with
    | true =>
      have : tree'.count (!avoid) = 0 := by simpa using hc
      simp [sampler_ir, this]
    | false =>
      have : ¬ tree'.count (!avoid) = 0 := by simpa using hc
      simp [sampler_ir, this, sampleChild_of_isExp _ _ _ hE]

/-- the hand model is given the trials of the study with the current one in the state being told -/
theorem interp_afterTrial (avoid : Bool) (study : List ITrial) (number : Nat) (state : TState) :
    interpAfterTrial treeProg populateTree BruteForceMethods.afterTrial avoid study number state =
    liftErr .valueError (BruteForce.afterTrial avoid
      (((visible study).map (fun t => if t.number != number then t else { t with state := state })).map
        ITrial.toTrial)) := by
  have hpop := interp_populateTree
  simp only [treeProg] at hpop
  simp only [sampler_ir, interpAfterTrial, BruteForceMethods.afterTrial, treeProg, hpop, BruteForce.afterTrial, visible]
  cases populate (.unexp false) _ [] with
  | none => rfl
  | some tree' =>
    simp only [sampler_ir, interp_countUnexpanded]
    cases hc : (tree'.count (!avoid) == 0) <;> simp [sampler_ir]

theorem rangeZ_loopQ (high step : Int) : ∀ (fuel : Nat) (v : Int),
    (rangeZ (high + 1) step fuel v).map (fun (i : Int) => (i : Rat)) = loopQ (high : Rat) (step : Rat) fuel (v : Rat) := by
  intro fuel
  induction fuel with
  | zero => intro v; rfl
  | succ f ih =>
    intro v
    simp only [rangeZ, loopQ]
    by_cases h : v < high + 1
    · have h' : (v : Rat) ≤ (high : Rat) := by exact_mod_cast (Int.lt_add_one_iff.mp h)
      simp only [h, h', if_true, List.map_cons]
      rw [ih (v + step)]
      congr 2
      push_cast; rfl
    · have h' : ¬ (v : Rat) ≤ (high : Rat) := by
        intro hc
        have : v ≤ high := by exact_mod_cast hc
        omega
      simp [h, h']

/-- the shape of `_enumerate_candidates`: the `isinstance` chain float / int / categorical, every Decimal built
from `str(x)`, `step is None` refused, `range(low, high + 1, step)`, unknown distributions refused -/
theorem enumerate_shape :
    enumerateCandidates = { arms := [(.float, .floatLoop .ofStr .ofStr .ofStr true), (.int, .intRange 1), (.cat, .catRange)],
                            elseRaises := true } := rfl

/-- `_enumerate_candidates` as generated is `Dist.enumerate`, whatever the rounding `toFloat` of decimals to doubles
is (no Decimal is built from a float) -/
theorem interp_enumerateCandidates (toFloat : Rat → Rat) (d : Dist) :
    interpEnumerate enumerateCandidates toFloat d = .ok d.enumerate := by
  cases d with
  | int low high step =>
    have h : interpEnumerate enumerateCandidates toFloat (.int low high step) =
        .ok ((rangeZ (high + 1) step ((high - low).toNat + 1) low).map (fun (i : Int) => (i : Rat))) := rfl
    rw [h, rangeZ_loopQ]
    rfl
  | float low high step => rfl
  | cat n => rfl
/-- the last point `1 = 0.1 + 3·0.3` of `FloatDistribution(0.1, 1.0, step=0.3)` is a candidate of the generated
enumeration, however decimals round to doubles -/
example (toFloat : Rat → Rat) : ∃ l, interpEnumerate enumerateCandidates toFloat (.float (1 / 10) 1 (3 / 10)) = .ok l ∧
    (1 / 10 : Rat) + ((3 : Nat) : Rat) * (3 / 10) ∈ l :=
  ⟨_, interp_enumerateCandidates toFloat _, C14.candidates_complete_float _ _ _ ⟨by grind, by grind⟩ 3 (by grind)⟩
example : toOpt (interpEnumerate enumerateCandidates id (.int 1 7 3)) = some [1, 4, 7] := by decide

theorem fstate_finished (f : FState) : f.toT.isFinished = true := by cases f <;> rfl
theorem fstate_visible (f : FState) :
    [TState.complete, TState.pruned, TState.running, TState.fail].contains f.toT = true := by cases f <;> rfl

theorem embedFrom_mem (σ : Nat → FState) : ∀ (H : List Trial) (i : Nat) (t : ITrial), t ∈ embedFrom σ i H →
    t.number < i + H.length ∧
      [TState.complete, TState.pruned, TState.running, TState.fail].contains t.state = true := by
  intro H
  induction H with
  | nil => intro i t h; simp [embedFrom] at h
  | cons a rest ih =>
    intro i t h
    simp only [embedFrom, List.mem_cons] at h
    rcases h with h | h
    · subst h
      refine ⟨by simp, ?_⟩
      cases a.finished
      · rfl
      · simp only [if_true]; exact fstate_visible _
    · obtain ⟨h2, h3⟩ := ih (i + 1) t h
      exact ⟨by simp only [List.length_cons]; omega, h3⟩

theorem embedFrom_toTrial (σ : Nat → FState) : ∀ (H : List Trial) (i : Nat),
    (embedFrom σ i H).map ITrial.toTrial = H := by
  intro H
  induction H with
  | nil => intro i; rfl
  | cons a rest ih =>
    intro i
    simp only [embedFrom, List.map_cons, ih, ITrial.toTrial]
    congr 1
    cases hf : a.finished
    · cases a; simp_all [TState.isFinished]
    · cases a; simp_all [fstate_finished]

theorem visible_embed (σ : Nat → FState) (H : List Trial) (n : Nat) (steps : List Step) :
    visible (embedFrom σ 0 H ++ [(⟨n, steps, .running⟩ : ITrial)]) = embedFrom σ 0 H ++ [(⟨n, steps, .running⟩ : ITrial)] := by
  simp only [visible]
  rw [List.filter_eq_self]
  intro t ht
  simp only [List.mem_append, List.mem_singleton] at ht
  rcases ht with ht | ht
  · exact (embedFrom_mem σ H 0 t ht).2
  · subst ht; rfl

theorem others_embed (σ : Nat → FState) (H : List Trial) (steps : List Step) :
    (embedFrom σ 0 H ++ [(⟨H.length, steps, .running⟩ : ITrial)]).filter (fun t => t.number != H.length) = embedFrom σ 0 H := by
  rw [List.filter_append]
  have h1 : (embedFrom σ 0 H).filter (fun t => t.number != H.length) = embedFrom σ 0 H := by
    rw [List.filter_eq_self]
    intro t ht
    have := (embedFrom_mem σ H 0 t ht).1
    simp only [bne_iff_ne, ne_eq]
    omega
  rw [h1]
  simp

theorem replaced_embed (σ : Nat → FState) (H : List Trial) (steps : List Step) (st : TState) :
    (embedFrom σ 0 H ++ [(⟨H.length, steps, .running⟩ : ITrial)]).map
        (fun (t : ITrial) => if t.number != H.length then t else { t with state := st }) =
      embedFrom σ 0 H ++ [(⟨H.length, steps, st⟩ : ITrial)] := by
  rw [List.map_append]
  congr 1
  · conv => rhs; rw [← List.map_id (embedFrom σ 0 H)]
    apply List.map_congr_left
    intro t ht
    have := (embedFrom_mem σ H 0 t ht).1
    have hne : (t.number != H.length) = true := by simp only [bne_iff_ne, ne_eq]; omega
    simp [hne]
  · simp

/-- **the hooks generated from the source are the hand model's hooks** on every study content the loop
produces, whatever finished state (`σ`) the trials ended in -/
theorem genImpl_eq (σ : Nat → FState) :
    genImpl treeProg populateTree BruteForceMethods.sampleIndependent BruteForceMethods.afterTrial σ = handImpl := by
  simp only [genImpl, handImpl]
  congr 1
  · funext avoid others pre name cands proposal
    rw [interp_sampleIndependent, toOpt_liftErr, visible_embed, others_embed, embedFrom_toTrial]
  · funext avoid others steps
    rw [interp_afterTrial, toOpt_liftErr, visible_embed, replaced_embed, List.map_append, embedFrom_toTrial]
    simp [ITrial.toTrial, fstate_finished]

theorem runObjW_hand (avoid : Bool) (ω : Nat → Val) (others : List Trial) (p : Prog) :
    ∀ (pre : List Step) (c : Nat) (cut : Cut),
      runObjW handImpl avoid ω others p pre c cut = runObj avoid ω others p pre c cut := by
  induction p with
  | leaf o => intro pre c cut; rfl
  | node name single cands child ih =>
    intro pre c cut
    have hs : handImpl.sample = BruteForce.sampleIndependent := rfl
    simp only [runObjW, runObj, hs, ih]
    generalize BruteForce.sampleIndependent avoid others pre name cands (ω c) = R
    cases R <;> rfl

theorem runTrialW_hand (cx : BruteForce.Ctx) (p : Prog) (st : BruteForce.St) :
    runTrialW handImpl cx p st = runTrial cx p st := by
  simp only [runTrialW, runTrial, runObjW_hand]
  rfl

theorem optimizeLoopW_hand (cx : BruteForce.Ctx) (p : Prog) (k : Nat) :
    ∀ (st : BruteForce.St), optimizeLoopW handImpl cx p k st = optimizeLoop cx p k st := by
  induction k with
  | zero => intro st; rfl
  | succ k ih => intro st; simp only [optimizeLoopW, optimizeLoop, runTrialW_hand, ih]

theorem sessionW_hand (cx : BruteForce.Ctx) (p : Prog) (ks : List Nat) (st : BruteForce.St) :
    sessionW handImpl cx p ks st = session cx p ks st := by
  simp only [sessionW, session, optimizeW, optimize, optimizeLoopW_hand]

/-- the optimize loop driven by the interpreter of the GENERATED `sample_independent` / `after_trial` -/
def genSession (σ : Nat → FState) (cx : BruteForce.Ctx) (p : Prog) (ks : List Nat) (st : BruteForce.St) : BruteForce.St :=
  sessionW (genImpl treeProg populateTree BruteForceMethods.sampleIndependent BruteForceMethods.afterTrial σ) cx p ks st

/-- that loop is the hand model's `session` — for every program, RNG, interruption pattern,
split and assignment of COMPLETE / PRUNED / FAIL to the finished trials -/
theorem genSession_eq (σ : Nat → FState) (cx : BruteForce.Ctx) (p : Prog) (ks : List Nat) (st : BruteForce.St) :
    genSession σ cx p ks st = session cx p ks st := by
  rw [genSession, genImpl_eq, sessionW_hand]

/-- `C14.bruteforce_never_twice` of the loop over the generated methods: the sampler methods as written in the source never
raise, every evaluated combination is a root-to-leaf path of the program, none is evaluated twice. -/
theorem gen_bruteforce_never_twice (σ : Nat → FState) (p : Prog) (cx : BruteForce.Ctx) (R : List Trial)
    (h : C14.Setting p cx R) (ks : List Nat) :
    (genSession σ cx p ks (initSt R)).crashed = false ∧
    (∀ l ∈ evaluated (genSession σ cx p ks (initSt R)), LeafPath p l) ∧
    (evaluated (genSession σ cx p ks (initSt R))).Nodup := by
  rw [genSession_eq]; exact C14.bruteforce_never_twice p cx R h ks

/-- As soon as the generated `after_trial` has set the stop flag, the evaluated
combinations are exactly the root-to-leaf paths of the program, each exactly once. -/
theorem gen_bruteforce_exhaustive (σ : Nat → FState) (p : Prog) (cx : BruteForce.Ctx) (R : List Trial)
    (h : C14.Setting p cx R) (ks : List Nat) (hstop : (genSession σ cx p ks (initSt R)).stop = true) :
    (genSession σ cx p ks (initSt R)).crashed = false ∧
    (evaluated (genSession σ cx p ks (initSt R))).Nodup ∧
    (∀ l, l ∈ evaluated (genSession σ cx p ks (initSt R)) ↔ LeafPath p l) ∧
    (genSession σ cx p ks (initSt R)).trials.length = R.length + numLeaves p := by
  rw [genSession_eq] at hstop ⊢; exact C14.bruteforce_exhaustive p cx R h ks hstop

/-- the generated `after_trial` has set the stop flag exactly when every combination has been evaluated
(`C14.bruteforce_stop_iff_all`) -/
theorem gen_bruteforce_stop_iff_all (σ : Nat → FState) (p : Prog) (cx : BruteForce.Ctx) (R : List Trial)
    (h : C14.Setting p cx R) (ks : List Nat) :
    (genSession σ cx p ks (initSt R)).stop = true ↔
      ∀ l, LeafPath p l → l ∈ evaluated (genSession σ cx p ks (initSt R)) := by
  rw [genSession_eq]; exact C14.bruteforce_stop_iff_all p cx R h ks

/-- `C14.bruteforce_stops_by_itself` of the loop over the generated methods: without raising leaves and interruptions the number
of trials is `min (total budget) (number of leaves)` and with enough budget the run ends with the stop flag. -/
theorem gen_bruteforce_stops_by_itself (σ : Nat → FState) (p : Prog) (cx : BruteForce.Ctx) (R : List Trial)
    (h : C14.Setting p cx R) (hnc : NoCut cx) (hnr : NoRaise p) (ks : List Nat) :
    (genSession σ cx p ks (initSt R)).trials.length = R.length + min ks.sum (numLeaves p) ∧
    (numLeaves p ≤ ks.sum → (genSession σ cx p ks (initSt R)).stop = true) := by
  rw [genSession_eq]; exact C14.bruteforce_stops_by_itself p cx R h hnc hnr ks

/-- general case: after at most `numLeaves p` resumptions the stop flag is set -/
theorem gen_bruteforce_stops_after_resumptions (σ : Nat → FState) (p : Prog) (cx : BruteForce.Ctx) (R : List Trial)
    (h : C14.Setting p cx R) (ks : List Nat) (hks : ∀ k ∈ ks, 1 ≤ k) (hlen : numLeaves p ≤ ks.length) :
    (genSession σ cx p ks (initSt R)).stop = true := by
  rw [genSession_eq]; exact C14.bruteforce_stops_after_resumptions p cx R h ks hks hlen

/-- non-vacuity: the hypotheses are satisfiable and the loop over the generated methods runs the four
combinations of `pxy` and stops; the F19 counter-witness is reproduced by it as well -/
example : C14.Setting C14.pxy ⟨false, fun n => (n : Rat), fun _ => .none⟩ [] :=
  ⟨C14.pxy_wf, by intro n j; simp, by simp, Or.inr rfl⟩
example : (genSession (fun i => if i = 1 then .fail else .pruned) ⟨false, fun n => (n : Rat), fun _ => .none⟩ C14.pxy [3, 10]
      (initSt [])).stop = true ∧
    C14.evaluatedVals (genSession (fun i => if i = 1 then .fail else .pruned) ⟨false, fun n => (n : Rat), fun _ => .none⟩
      C14.pxy [3, 10] (initSt [])) = [[0, 1], [0, 0], [1, 0], [1, 1]] := by
  rw [genSession_eq]; decide +kernel
example : (genSession (fun _ => .fail) ⟨false, fun _ => 0, fun n => if n = 0 then .mid 1 else .none⟩ C14.pxy [1, 10]
    (initSt [])).stop = true ∧
    C14.evaluatedVals (genSession (fun _ => .fail) ⟨false, fun _ => 0, fun n => if n = 0 then .mid 1 else .none⟩ C14.pxy
      [1, 10] (initSt [])) = [[0], [1, 0], [1, 1]] := by
  rw [genSession_eq]; decide +kernel
/-- the interpreter itself, on a one-parameter study: after `x = 0` (FAIL) and `x = 1` (being told COMPLETE) the
generated `after_trial` calls `study.stop()`; one trial earlier it does not; and the generated
`sample_independent` then draws the remaining value `1` although the RNG proposes `0` -/
example : toOpt (interpAfterTrial treeProg populateTree BruteForceMethods.afterTrial false
      [⟨0, [⟨"x", [0, 1], 0⟩], .fail⟩, ⟨1, [⟨"x", [0, 1], 1⟩], .running⟩] 1 .complete) = some true ∧
    toOpt (interpAfterTrial treeProg populateTree BruteForceMethods.afterTrial false
      [⟨0, [⟨"x", [0, 1], 0⟩], .running⟩] 0 .fail) = some false ∧
    toOpt (interpSampleIndependent treeProg populateTree BruteForceMethods.sampleIndependent false
      [⟨0, [⟨"x", [0, 1], 0⟩], .fail⟩, ⟨1, [], .running⟩] 1 [] "x" [0, 1] 0) = some 1 := by decide +kernel

section grid
open OptunaVerif.Grid

@[simp] theorem gridSem_cond (c) : (gridSem c).cond = evalGCond c := rfl
@[simp] theorem gridSem_act (c) : (gridSem c).act = doGAct c := rfl
@[simp] theorem gridSem_iter (c) : (gridSem c).iter = iterG := rfl
@[simp] theorem gridSem_retv (c) : (gridSem c).retv = retG := rfl
attribute [sampler_ir] gridSem_cond gridSem_act gridSem_iter gridSem_retv

theorem interp_gridValueEqual (a b : GVal) :
    interpValueEqual GridMethods.gridValueEqual a b = .ok (Grid.gridValueEqual a b) := by
  -- `or` and `and` evaluate their second argument only after the first: the values of `a == b` and of "a is NaN" pick the path
  cases h3 : a.pyEq b <;> cases h1 : a.isNaN <;>
    simp [interpValueEqual, GridMethods.gridValueEqual, evalLets, evalVExpr, VArg.get, List.find?, Grid.gridValueEqual, h1, h3]
/-- two different NaN objects (a NaN read back from a serialising storage) are equal grid values -/
example : toOpt (interpValueEqual GridMethods.gridValueEqual (.nan 0) (.nan 1)) = some true ∧
    toOpt (interpValueEqual GridMethods.gridValueEqual (.int 1) (.float 1)) = some true ∧
    toOpt (interpValueEqual GridMethods.gridValueEqual (.int 1) (.str "1")) = some false := by decide

/-- `_param_value_equal` (the comparison of `_populate_tree`'s prefix filter since the repair of finding F38) as generated: the
same NaN-aware equality - `==`, or both NaN whatever objects they are.  No theorem connects it with the `paramsMatch`
primitive, whose interpreter compares the model's values (rationals, no NaN) with a reflexive `==`: that this reads the source
faithfully also for a NaN categorical choice is argued from this equation and `param_value_equal_refl`, outside Lean.  With the
plain `trial.params[p] == v` of before the repair, a NaN choice never matched itself and the combinations below it were
evaluated more than once. -/
theorem interp_paramValueEqual (a b : GVal) :
    interpValueEqual BruteForceMethods.paramValueEqual a b = .ok (Grid.gridValueEqual a b) :=
  -- the method is, word for word, `GridSampler._grid_value_equal`
  interp_gridValueEqual a b
/-- a NaN choice read back from a serialising storage (another object) matches the NaN choice of the current prefix -/
example : toOpt (interpValueEqual BruteForceMethods.paramValueEqual (.nan 0) (.nan 1)) = some true ∧
    toOpt (interpValueEqual BruteForceMethods.paramValueEqual (.nan 0) (.float 1)) = some false ∧
    toOpt (interpValueEqual BruteForceMethods.paramValueEqual (.str "a") (.str "a")) = some true := by decide
/-- the NaN-aware equality is reflexive on every value, NaN included (plain `==` is not: `pyEq` of a NaN with itself is false) -/
theorem param_value_equal_refl (a : GVal) : interpValueEqual BruteForceMethods.paramValueEqual a a = .ok true := by
  rw [interp_paramValueEqual, gridValueEqual_refl]
example : GVal.pyEq (.nan 0) (.nan 0) = false := by decide

def valBody : GStmt := .ite (.not .valueEqualCall) (.ret (.bool false)) .skip
def keyBody : GStmt := block [(.ite .lensDiffer (.ret (.bool false)) .skip), (.loop .theirValuesEnum valBody)]

theorem sameSearchSpace_shape : GridMethods.sameSearchSpace =
    block [(.ite .keySetsDiffer (.ret (.bool false)) .skip), (.loop .theirKeys keyBody), (.ret (.bool true))] := rfl

def veqCalls : GCalls := { noCallsG with valueEqual := interpValueEqual GridMethods.gridValueEqual }

theorem values_loop (p : String) (W : List GVal) (vs : List GVal) :
    ∀ (off : Nat) (ws : List GVal) (env : GEnv), env.paramName = some p → AList.get? env.inp.mine p = some W →
      W.drop off = ws → vs.length = ws.length →
      ∃ env', loopAux (fun e => exec (gridSem veqCalls) valBody e)
          ((enumFrom off vs).map (fun iv => fun (e : GEnv) => { e with vidx := some iv.1, paramValue := some iv.2 })) env =
          (env', if valuesEqual vs ws then .next else .ret (.bool false)) ∧ env'.inp = env.inp := by
  -- the source reads `self._search_space[p][i]` by index, the model walks the two lists together: `W.drop off = ws` ties the
  -- loop's index `off` to what the model has left, so `W[off]` is the head of `ws` (`hw`) and the step moves both (`hd'`)
  induction vs with
  | nil =>
    intro off ws env hp hW hd hl
    cases ws with
    | nil => exact ⟨env, by simp [enumFrom, loopAux, valuesEqual], rfl⟩
    | cons _ _ => simp at hl
  | cons v vs ih =>
    intro off ws env hp hW hd hl
    cases ws with
    | nil => simp at hl
    | cons w ws =>
      have hw : W[off]? = some w := by
        have := congrArg (fun l => l[0]?) hd
        simpa using this
      have hd' : W.drop (off + 1) = ws := by
        have := congrArg List.tail hd
        simpa [List.tail_drop] using this
      have hveq := interp_gridValueEqual v w
      have hstep : exec (gridSem veqCalls) valBody { env with vidx := some off, paramValue := some v } =
          ({ env with vidx := some off, paramValue := some v },
            if Grid.gridValueEqual v w then .next else .ret (.bool false)) := by
        cases hc : Grid.gridValueEqual v w <;> simp [sampler_ir, valBody, hp, hW, hw, veqCalls, hveq, hc]
      rw [enumFrom, List.map_cons]
      cases hc : Grid.gridValueEqual v w with
      | false =>
        rw [hc] at hstep
        exact ⟨{ env with vidx := some off, paramValue := some v },
          by rw [loopAux_cons_ret _ _ _ _ _ _ hstep]; simp [valuesEqual, hc], rfl⟩
      | true =>
        rw [hc] at hstep
        obtain ⟨env', h1, h2⟩ := ih (off + 1) ws { env with vidx := some off, paramValue := some v } hp hW hd'
          (by simpa using hl)
        exact ⟨env', by rw [loopAux_cons_next _ _ _ _ _ hstep, h1]; simp [valuesEqual, hc], h2⟩

/-- one key of `search_space` (the key is a key of `self._search_space` too) -/
theorem key_step (env : GEnv) (p : String) (vs W : List GVal)
    (hv : AList.get? env.inp.theirs p = some vs) (hW : AList.get? env.inp.mine p = some W) :
    ∃ env', exec (gridSem veqCalls) keyBody { env with paramName := some p } =
      (env', if valuesEqual vs W then .next else .ret (.bool false)) ∧ env'.inp = env.inp := by
  by_cases hl : vs.length = W.length
  · obtain ⟨env', h1, h2⟩ := values_loop p W vs 0 W { env with paramName := some p } rfl hW rfl hl
    refine ⟨env', ?_, h2⟩
    simp only [sampler_ir, keyBody, hv, hW, hl, bne_self_eq_false]
    exact h1
  · refine ⟨{ env with paramName := some p }, ?_, rfl⟩
    have : (vs.length != W.length) = true := by simpa using hl
    simp [sampler_ir, keyBody, hv, hW, this, valuesEqual_length vs W hl]

theorem keys_loop (keys : List (String × List GVal)) :
    ∀ (env : GEnv), (∀ kv ∈ keys, ∃ vs W, AList.get? env.inp.theirs kv.1 = some vs ∧ AList.get? env.inp.mine kv.1 = some W) →
      ∃ env', loopAux (fun e => exec (gridSem veqCalls) keyBody e)
          (keys.map (fun kv => fun (e : GEnv) => { e with paramName := some kv.1 })) env =
          (env', if keys.all (fun kv => entryEqual env.inp.mine env.inp.theirs kv.1) then .next else .ret (.bool false)) ∧
          env'.inp = env.inp := by
  -- the body writes only the loop variables: `env'.inp = env.inp` is carried so that the hypothesis on the keys and `entryEqual`,
  -- both stated of the first environment, still speak of the environment a later iteration starts from
  induction keys with
  | nil => intro env _; exact ⟨env, by simp [loopAux], rfl⟩
  | cons kv rest ih =>
    intro env h
    obtain ⟨vs, W, hv, hW⟩ := h kv (by simp)
    obtain ⟨env1, h1, h1i⟩ := key_step env kv.1 vs W hv hW
    have he : entryEqual env.inp.mine env.inp.theirs kv.1 = valuesEqual vs W := by simp [entryEqual, hv, hW]
    cases hc : valuesEqual vs W with
    | false =>
      refine ⟨env1, ?_, h1i⟩
      simp only [hc, Bool.false_eq_true, if_false] at h1
      simp only [List.map_cons]
      rw [loopAux_cons_ret _ _ _ _ _ _ h1]
      simp [he, hc]
    | true =>
      simp only [hc, if_true] at h1
      obtain ⟨env2, h2, h2i⟩ := ih env1 (by
        intro kv' hkv'
        rw [h1i]
        exact h kv' (by simp [hkv']))
      refine ⟨env2, ?_, by rw [h2i, h1i]⟩
      simp only [List.map_cons]
      rw [loopAux_cons_next _ _ _ _ _ h1, h2, h1i]
      simp only [List.all_cons, he, hc, Bool.true_and]

theorem interp_sameSearchSpace (mine theirs : Space) :
    interpSameSpace GridMethods.gridValueEqual GridMethods.sameSearchSpace mine theirs = .ok (Grid.sameSearchSpace mine theirs) := by
  rw [interpSameSpace, sameSearchSpace_shape]
  cases hk : sameKeySets (theirs.map (·.1)) (mine.map (·.1)) with
  | false =>
    simp [sampler_ir, hk, Grid.sameSearchSpace]
  | true =>
    have hmem : ∀ kv ∈ theirs, ∃ vs W, AList.get? theirs kv.1 = some vs ∧ AList.get? mine kv.1 = some W := by
      intro kv hkv
      have h1 : kv.1 ∈ theirs.map (·.1) := List.mem_map_of_mem hkv
      have h2 : kv.1 ∈ mine.map (·.1) := by
        simp only [sameKeySets, Bool.and_eq_true, List.all_eq_true] at hk
        have := hk.1 kv.1 h1
        simpa using this
      obtain ⟨vs, hvs⟩ := AList.get?_isSome_of_mem theirs kv.1 h1
      obtain ⟨W, hW⟩ := AList.get?_isSome_of_mem mine kv.1 h2
      exact ⟨vs, W, hvs, hW⟩
    obtain ⟨env', h1, h2⟩ := keys_loop theirs (GEnv.ofIn { GIn.init mine 0 [] with theirs := theirs }) hmem
    simp only [sampler_ir, hk, Bool.not_true] at h1 ⊢
    unfold veqCalls at h1
    rw [h1]
    by_cases hall : theirs.all (fun kv => entryEqual mine theirs kv.1) = true
    · simp only [sampler_ir, hall, if_true, Grid.sameSearchSpace, hk, Bool.and_self]
    · simp only [sampler_ir, hall, Grid.sameSearchSpace, hk, Bool.true_and]
      simp [sampler_ir]

def trialBody : GStmt :=
  .ite (.and .tHasGridId .tSameSpace)
    (.ite .tFinished (.act .appendVisited) (.ite (.tStateIs .running) (.act .appendRunning) .skip)) .skip

theorem getUnvisited_shape : GridMethods.getUnvisitedGridIds = block [
    (.act .initVisited), (.act .initRunning), (.act .getAllTrials), (.loop .trials trialBody),
    (.act (.setUnvisited [.visited, .running])),
    (.ite (.lenUnvisitedIs 0) (.act (.setUnvisited [.visited])) .skip), (.ret .listUnvisited)] := rfl

def ssCalls (mine : Space) : GCalls :=
  { noCallsG with sameSpace := fun sp => interpSameSpace GridMethods.gridValueEqual GridMethods.sameSearchSpace mine sp }

theorem trial_step (mine : Space) (env : GEnv) (t : RTrial) (V R : List Nat)
    (hv : env.visited = some V) (hr : env.running = some R) :
    exec (gridSem (ssCalls mine)) trialBody { env with t := some t } =
      match t.view mine with
      | none => ({ env with t := some t }, .raised .keyError)
      | some g => ({ env with t := some t, visited := some (V ++ visitedIds [g]),
                                running := some (R ++ runningIds [g]) }, .next) := by
  have e1 : (TS.running == TS.finished) = false := rfl
  have e2 : (TS.waiting == TS.finished) = false := rfl
  have e3 : (TS.waiting == TS.running) = false := rfl
  dsimp only [trialBody, exec, gridSem, evalGCond, doGAct, ssCalls]
  rcases t with ⟨_ | g, sp, fx, st⟩
  · simp [RTrial.view, visitedIds, runningIds, hv, hr]
  rcases sp with _ | sp
  · simp [RTrial.view]
  · have hss := interp_sameSearchSpace mine sp
    cases hs : Grid.sameSearchSpace mine sp
    · simp [RTrial.view, hss, hs, visitedIds, runningIds, hv, hr]
    · cases st <;> simp [RTrial.view, hss, hs, visitedIds, runningIds, hv, hr, e1, e2, e3]

theorem trials_loop (mine : Space) (ts : List RTrial) :
    ∀ (env : GEnv) (V R : List Nat), env.visited = some V → env.running = some R →
      ∃ env', loopAux (fun e => exec (gridSem (ssCalls mine)) trialBody e)
          (ts.map (fun t => fun (e : GEnv) => { e with t := some t })) env =
          (env', match viewAll mine ts with | none => .raised .keyError | some _ => .next) ∧
        ∀ gs, viewAll mine ts = some gs →
          env'.visited = some (V ++ visitedIds gs) ∧ env'.running = some (R ++ runningIds gs) ∧ env'.inp = env.inp := by
  -- `visited_grids` / `running_grids` grow by one `append` per trial, the model filters the list of views once: generalised over
  -- what the two lists hold on entry, so that `V ++ visitedIds [g]` of `trial_step` is the entry value of the rest of the loop
  induction ts with
  | nil =>
    intro env V R hv hr
    refine ⟨env, rfl, ?_⟩
    intro gs hgs
    cases hgs
    simp [hv, hr, visitedIds, runningIds]
  | cons t rest ih =>
    intro env V R hv hr
    have hstep := trial_step mine env t V R hv hr
    rw [List.map_cons]
    cases hg : t.view mine with
    | none =>
      rw [hg] at hstep
      exact ⟨{ env with t := some t }, by rw [loopAux_cons_raised _ _ _ _ _ _ hstep]; simp [viewAll, hg],
        by simp [viewAll, hg]⟩
    | some g =>
      rw [hg] at hstep
      obtain ⟨env2, h5, h6⟩ :=
        ih { env with t := some t, visited := some (V ++ visitedIds [g]),
                      running := some (R ++ runningIds [g]) } _ _ rfl rfl
      refine ⟨env2, ?_, ?_⟩
      · rw [loopAux_cons_next _ _ _ _ _ hstep, h5]
        simp only [viewAll, hg]
        cases viewAll mine rest <;> rfl
      · intro gs hgs
        simp only [viewAll, hg, Option.map_eq_some_iff] at hgs
        obtain ⟨gs', hgs', rfl⟩ := hgs
        obtain ⟨h7, h8, h9⟩ := h6 gs' hgs'
        exact ⟨by rw [h7, List.append_assoc, ← visitedIds_append]; rfl,
          by rw [h8, List.append_assoc, ← runningIds_append]; rfl, h9⟩

/-- the `KeyError`: some trial has a grid id and no search space -/
theorem interp_getUnvisitedGridIds (mine : Space) (n : Nat) (study : List RTrial) :
    interpUnvisited GridMethods.gridProg mine n study = liftErr .keyError (unvisitedR mine n study) := by
  rw [interpUnvisited]
  dsimp only [GridMethods.gridProg]
  rw [getUnvisited_shape]
  have hl := trials_loop mine study
    { GEnv.ofIn (GIn.init mine n study) with visited := some [], running := some [], trials := some study } [] [] rfl rfl
  simp only [sampler_ir]
  simp only [sampler_ir, ssCalls] at hl
  obtain ⟨env', h1, hall⟩ := hl
  rw [h1]
  cases hgs : viewAll mine study with
  | none => simp [sampler_ir, unvisitedR, hgs]
  | some gs =>
    obtain ⟨h2, h3, h4⟩ := hall gs hgs
    simp only [List.nil_append] at h2 h3
    have hn : env'.inp.nMin = n := by rw [h4]
    simp only [sampler_ir, unvisitedR, hgs, Option.map_some, Grid.unvisited, unvisitedOf, mapE, h2, h3, hn, List.all_cons, List.all_nil, Bool.and_true]
    generalize ((List.range n).filter (fun g => !(visitedIds gs).contains g && !(runningIds gs).contains g)) = u
    cases u with
    | nil => simp [sampler_ir, mapE, hn]
    | cons a l => simp [sampler_ir]

/-- `before_trial` as generated is the hand model's: the same early returns, the same choice of the target cells,
and the two attribute writes IN THE SAME ORDER (`search_space` first) -/
theorem interp_beforeTrial (mine : Space) (n : Nat) (study : List RTrial) (cur : RTrial) (number proposal : Nat) :
    interpBeforeTrial GridMethods.gridProg mine n study cur number proposal =
      liftErr .keyError (beforeTrialR mine n study cur number proposal) := by
  have hP : GridMethods.gridProg.beforeTrial = GridMethods.beforeTrial := rfl
  have hu := interp_getUnvisitedGridIds mine n study
  rw [interpBeforeTrial, hP, beforeTrialR]
  dsimp only [GridMethods.beforeTrial, block, exec, gridSem, evalGCond, doGAct, retG]
  cases hg : cur.gridId.isSome <;> cases hf : cur.fixed
  case false.false =>
    by_cases hlt : number < n
    · simp [sampler_ir, hg, hf, hlt]
    · cases hU : unvisitedR mine n study with
      | none => simp [sampler_ir, hg, hf, hlt, hu, hU]
      | some target => cases target <;> simp [sampler_ir, hg, hf, hlt, hu, hU]
  all_goals simp [sampler_ir, hg, hf]

theorem interp_gridAfterTrial (mine : Space) (n : Nat) (study : List RTrial) (curStored : Option Nat) :
    interpGridAfterTrial GridMethods.gridProg mine n study curStored =
      liftErr .keyError (afterTrialR mine n study curStored) := by
  have hP : GridMethods.gridProg.afterTrial = GridMethods.afterTrial := rfl
  have hu := interp_getUnvisitedGridIds mine n study
  rw [interpGridAfterTrial, hP, afterTrialR]
  dsimp only [GridMethods.afterTrial, block, exec, gridSem, evalGCond, doGAct]
  cases hU : unvisitedR mine n study with
  | none => simp [sampler_ir, hu, hU]
  | some target =>
    rcases target with _ | ⟨t0, _ | ⟨t1, rest'⟩⟩
    · simp [sampler_ir, hu, hU]
    · cases curStored with
      | none => simp [sampler_ir, hu, hU]
      | some v => cases hb : (v == t0) <;> simp [sampler_ir, hu, hU, hb]
    · simp [sampler_ir, hu, hU]

theorem writes_safe (g : Nat) : writesPrefixSafe [.searchSpace, .gridId g] = true := rfl

/-- The order of the two attribute writes: whenever the generated `before_trial`
writes, every prefix of its write sequence — every point at which the worker process can die — leaves the trial
in a state `_get_unvisited_grid_ids` can read (a grid id never without its search space). -/
theorem gen_before_writes_safe (mine : Space) (n : Nat) (study : List RTrial) (cur : RTrial) (number proposal : Nat)
    (ws : List Write) (used : Bool)
    (h : interpBeforeTrial GridMethods.gridProg mine n study cur number proposal = .ok (ws, used)) :
    writesPrefixSafe ws = true := by
  rw [interp_beforeTrial, beforeTrialR] at h
  by_cases h1 : (cur.gridId.isSome || cur.fixed) = true
  · rw [if_pos h1] at h; cases h; rfl
  rw [if_neg h1] at h
  by_cases h2 : number < n
  · rw [if_pos h2] at h; cases h; exact writes_safe _
  rw [if_neg h2] at h
  cases hU : unvisitedR mine n study with
  | none => rw [hU] at h; cases h
  | some target => rw [hU] at h; cases h; exact writes_safe _
/-- the other order is not safe: a trial killed between the writes has a grid id and no search space, and every
later `_get_unvisited_grid_ids` raises `KeyError('search_space')` (seeded change C14-4) -/
example : writesPrefixSafe [.gridId 3, .searchSpace] = false ∧
    unvisitedR [("a", [.int 1])] 4 [⟨some 3, none, false, .running⟩] = none := by decide

/-- **the grid hooks generated from the source are the hand model's hooks** on the stored form of every study -/
theorem genGImpl_eq (mine : Space) : genGImpl GridMethods.gridProg mine = handGImpl := by
  simp only [genGImpl, handGImpl]
  congr 1
  · funext n ts number proposal
    rw [interp_beforeTrial]
    simp only [beforeTrialR, unvisitedR_store, Grid.beforeTrial]
    by_cases hlt : number < n
    · simp [sampler_ir, hlt, writtenId]
    · simp [sampler_ir, hlt, writtenId]
  · funext n ts cur
    rw [interp_gridAfterTrial]
    simp only [afterTrialR, unvisitedR_store, Grid.afterTrial]
    by_cases h0 : (Grid.unvisited n ts).length = 0
    · simp [sampler_ir, h0]
    · by_cases h1 : (Grid.unvisited n ts).length = 1
      · cases cur <;> simp [sampler_ir, h1]
      · simp [sampler_ir, h0, h1]

theorem grunTrialW_hand (cx : Grid.Ctx) (n : Nat) (st : Grid.St) :
    grunTrialW handGImpl cx n st = Grid.runTrial cx n st := by
  simp only [grunTrialW, Grid.runTrial, handGImpl]
  cases firstWaiting st.trials <;> rfl

theorem goptimizeLoopW_hand (cx : Grid.Ctx) (n : Nat) (k : Nat) :
    ∀ (st : Grid.St), goptimizeLoopW handGImpl cx n k st = Grid.optimizeLoop cx n k st := by
  induction k with
  | zero => intro st; rfl
  | succ k ih => intro st; simp only [goptimizeLoopW, Grid.optimizeLoop, grunTrialW_hand, ih]

theorem gsessionW_hand (cx : Grid.Ctx) (n : Nat) (ks : List Nat) (st : Grid.St) :
    gsessionW handGImpl cx n ks st = Grid.session cx n ks st := by
  simp only [gsessionW, Grid.session, goptimizeW, Grid.optimize, goptimizeLoopW_hand]

/-- the optimize loop driven by the interpreter of the GENERATED `before_trial` / `after_trial` (which call the
generated `_get_unvisited_grid_ids`, `_same_search_space`, `_grid_value_equal`) of a sampler with search space `mine` -/
def genGridSession (mine : Space) (cx : Grid.Ctx) (n : Nat) (ks : List Nat) (st : Grid.St) : Grid.St :=
  gsessionW (genGImpl GridMethods.gridProg mine) cx n ks st

theorem genGridSession_eq (mine : Space) (cx : Grid.Ctx) (n : Nat) (ks : List Nat) (st : Grid.St) :
    genGridSession mine cx n ks st = Grid.session cx n ks st := by
  rw [genGridSession, genGImpl_eq, gsessionW_hand]

/-- `__init__` sets `_n_min_trials = len(_all_grids)` (the loops above use one `n` for both) -/
theorem nMin_is_len_all_grids : GridMethods.gridProg.nMinIsLenAllGrids = true := rfl

/-- Pins the flag the translator sets when `__init__` shuffles the cells with `LazyRandomState(seed or 0)`, and no more.
What the flag is for — a run resumed with a NEW sampler object (same arguments, `seed=None` included) reads the stored grid
ids as the same cells — is not part of the statement (seeded change C14-2 drops the `or 0`) -/
theorem grid_ids_stable_across_sampler_objects : GridMethods.gridProg.shuffleSeedFixed = true := rfl

/-- With the grid methods as written in the source — any search space (NaN and
infinities included), any grid size, RNG, raise pattern, split and admissible initial content — no cell is
finished twice, every finished cell is a cell of the grid, and the stop flag is set exactly when every cell has
been finished. -/
theorem gen_grid_exhaustive (mine : Space) (n : Nat) (cx : Grid.Ctx) (pre : List GTrial) (h : C14.GridSetting n pre)
    (ks : List Nat) :
    (visitedIds (genGridSession mine cx n ks (C14.ginit pre)).trials).Nodup ∧
    (∀ g ∈ visitedIds (genGridSession mine cx n ks (C14.ginit pre)).trials, g < n) ∧
    ((genGridSession mine cx n ks (C14.ginit pre)).stop = true ↔
      ∀ g, g < n → g ∈ visitedIds (genGridSession mine cx n ks (C14.ginit pre)).trials) := by
  rw [genGridSession_eq]; exact C14.grid_exhaustive n cx pre h ks

/-- `C14.grid_stops_by_itself` of the loop over the generated methods: if no trial raises out of `optimize`, it works off
the queue, then the free cells, and with enough budget (at least queue plus free cells) ends with the stop flag, an empty
queue and exactly one new trial per free cell. -/
theorem gen_grid_stops_by_itself (mine : Space) (n : Nat) (cx : Grid.Ctx) (pre : List GTrial)
    (h : C14.GridSetting n pre) (hnr : ∀ i, cx.raises i = false) (ks : List Nat) :
    nDone (genGridSession mine cx n ks (C14.ginit pre)).trials =
      nDone pre + min ks.sum (nWaiting pre + remainingG n (visitedIds pre)) ∧
    (nWaiting pre + remainingG n (visitedIds pre) ≤ ks.sum →
      (genGridSession mine cx n ks (C14.ginit pre)).stop = true ∧
      nWaiting (genGridSession mine cx n ks (C14.ginit pre)).trials = 0 ∧
      (genGridSession mine cx n ks (C14.ginit pre)).trials.length = pre.length + remainingG n (visitedIds pre)) := by
  rw [genGridSession_eq]; exact C14.grid_stops_by_itself n cx pre h hnr ks

/-- non-vacuity: the interpreter of the generated grid methods on a grid with a NaN value: a finished cell 0
stored by another process (its NaN is another object), a stale RUNNING cell 1, an enqueued trial; cell 2 is free, and
`before_trial` of trial 3 takes it (search space written first); with cells 0 and 2 finished, `after_trial` of the trial that
holds cell 1 stops the study -/
example : toOpt (interpUnvisited GridMethods.gridProg [("a", [.nan 0, .int 1, .int 2])] 3
      [⟨some 0, some [("a", [.nan 9, .float 1, .int 2])], false, .finished⟩,
       ⟨some 1, some [("a", [.nan 0, .int 1, .int 2])], false, .running⟩, ⟨none, none, true, .waiting⟩]) = some [2] ∧
    toOpt (interpBeforeTrial GridMethods.gridProg [("a", [.nan 0, .int 1, .int 2])] 3
      [⟨some 0, some [("a", [.nan 9, .float 1, .int 2])], false, .finished⟩,
       ⟨some 1, some [("a", [.nan 0, .int 1, .int 2])], false, .running⟩, ⟨none, none, true, .waiting⟩]
      ⟨none, none, false, .running⟩ 3 0) = some ([.searchSpace, .gridId 2], true) ∧
    toOpt (interpGridAfterTrial GridMethods.gridProg [("a", [.nan 0, .int 1, .int 2])] 3
      [⟨some 0, some [("a", [.nan 9, .float 1, .int 2])], false, .finished⟩,
       ⟨some 2, some [("a", [.nan 0, .int 1, .int 2])], false, .finished⟩,
       ⟨some 1, some [("a", [.nan 0, .int 1, .int 2])], false, .running⟩] (some 1)) = some true := by decide +kernel
example : (genGridSession [("a", [.nan 0, .int 1])] ⟨fun c => c, fun i => i == 1⟩ 2 [1, 1, 10] (C14.ginit [])).stop = true := by
  rw [genGridSession_eq]; decide +kernel

end grid

end OptunaVerif.C14Gen
