import OptunaVerif.Generated.ReportMethods
import OptunaVerif.Generated.PrunersSkel
import OptunaVerif.Props.C16
/-!
# C16 (translator tie of the glue) — `Trial.report` / `Trial.should_prune` as translated from the source are the hand model

`Generated/ReportMethods.lean` is regenerated on every run by `verif/translators/treport.py` from `optuna/trial/_trial.py`
(`Trial.report`, `Trial.should_prune`, `_get_latest_trial`), `_fixed.py`, `_frozen.py` (`report` / `should_prune`) and
`optuna/pruners/__init__.py` (`_filter_study`).  Proved here for ALL inputs: `<method>_shape` (the generated body is literally
the expected term), `interp_<method>` (the interpreter of `Model/ReportIR.lean` on it equals the hand model of
`Model/Pruners.lean`), `stepG_eq` / `afterG_eq` (a call, and so a history of calls, through the generated glue is the hand
model's), and from it
the protections of `Props/C16.lean` end to end over sequences of `report` / `should_prune` calls.  The delegation shapes of
`PatientPruner.prune` and `HyperbandPruner.prune` are stated over `Generated/PrunersSkel.lean`.
-/
namespace OptunaVerif.C16ReportGen
open OptunaVerif.Pruners OptunaVerif.ReportIR
open OptunaVerif.Generated

@[simp] theorem reportSem_cond : reportSem.cond = evalRCond := rfl
@[simp] theorem reportSem_act : reportSem.act = doRAct := rfl
@[simp] theorem reportSem_iter : reportSem.iter = iterR := rfl
@[simp] theorem reportSem_retv : reportSem.retv = retR := rfl

/-- multi-objective → NotImplementedError; `float(value)` / `int(step)` (TypeError); `step < 0` → ValueError;
a step already in the cached trial → warn and RETURN (nothing written); else the storage write, THEN the cache update -/
theorem report_shape : ReportMethods.report = block [
    (.ite .multiObjective (.raise .notImplemented) .skip),
    (.act .valueToFloat),
    (.act .stepToInt),
    (.ite (.stepLt 0) (.raise .valueError) .skip),
    (.ite .stepInCached (block [(.act .warnDuplicate), (.ret .none)]) .skip),
    (.act .storageWrite),
    (.act .cacheSet)] := rfl

theorem interSet_fresh (l : List (Int × XVal)) (k : Int) (v : XVal) (h : interGet l k = none) :
    interSet l k v = l ++ [(k, v)] := by
  induction l with
  | nil => rfl
  | cons p rest ih =>
    obtain ⟨s, w⟩ := p
    simp only [interGet] at h
    by_cases hs : s = k
    · simp [hs] at h
    · simp only [hs, if_false] at h
      simp [interSet, hs, ih h]

/-- `Trial.report` as generated is `reportTrial` — for every trial object, every (convertible or not)
value and step, and whether or not the storage accepts the write -/
theorem interp_report (o : TrialObj) (value : Option XVal) (stp : Option Int) (ok : Bool) :
    interpReport ReportMethods.report o value stp ok = .ok (reportTrial o value stp ok) := by
  rw [interpReport, report_shape]
  -- the run of the body and the hand model side by side, every test still open; then down the tests, in the body's order
  dsimp only [block, exec, andThen, reportSem, evalRCond, doRAct, retR, REnv.ofIn, RIn.init, reportTrial]
  by_cases hd : 1 < o.nDirs
  · simp [hd, errOf]
  · cases value with
    | none => simp [hd, errOf]
    | some v =>
      cases stp with
      | none => simp [hd, errOf]
      | some st =>
        by_cases hneg : st < 0
        · simp [hd, hneg, errOf]
        · cases hdup : interGet o.cached.inter st with
          | some w => simp [hd, hneg, hdup]
          | none => cases ok <;> simp [hd, hneg, hdup, errOf, interSet_fresh _ _ _ hdup]

/-- multi-objective → NotImplementedError; `trial = self._get_latest_trial()`;
`return self.study.pruner.prune(self.study, trial)` -/
theorem shouldPrune_shape : ReportMethods.shouldPrune = block [
    (.ite .multiObjective (.raise .notImplemented) .skip),
    (.act (.setTrial .latestCopy)),
    (.ret .prunerCall)] := rfl

/-- `_get_latest_trial` hands out `copy.copy(self._cached_frozen_trial)` (a new object), not the cached trial -/
theorem latest_trial_is_a_copy : ReportMethods.reportProg.latestIsCopy = true := rfl

/-- `Trial.should_prune` as generated is `shouldPruneTrial`: the pruner's decision on the snapshot, the
trial object (its cache) untouched whatever the pruner does to the object it is handed — for every pruner function -/
theorem interp_shouldPrune (o : TrialObj) (prunerF : PTrial → Bool × PTrial) :
    interpShouldPrune ReportMethods.shouldPrune ReportMethods.reportProg.latestIsCopy o prunerF = .ok (shouldPruneTrial o prunerF) := by
  rw [interpShouldPrune, shouldPrune_shape, latest_trial_is_a_copy]
  dsimp only [block, exec, andThen, reportSem, evalRCond, doRAct, retR, REnv.ofIn, RIn.init, shouldPruneTrial]
  by_cases hd : 1 < o.nDirs <;> simp [hd]

/-- `FixedTrial.report` / `FrozenTrial.report` are `pass`; their `should_prune` is `return False` -/
theorem inert_trials_shape :
    ReportMethods.fixedReport = .skip ∧ ReportMethods.frozenReport = .skip ∧
    ReportMethods.fixedShouldPrune = .ret (.bool false) ∧ ReportMethods.frozenShouldPrune = .ret (.bool false) :=
  ⟨rfl, rfl, rfl, rfl⟩

/-- Fixed and Frozen trials never prune and `report` does nothing to them -/
theorem gen_fixed_frozen_never_prune (o : TrialObj) (value : Option XVal) (stp : Option Int) :
    interpConstPrune ReportMethods.fixedShouldPrune = .ok false ∧
    interpConstPrune ReportMethods.frozenShouldPrune = .ok false ∧
    interpInertReport ReportMethods.fixedReport o value stp = .ok ⟨o, [], false, none⟩ ∧
    interpInertReport ReportMethods.frozenReport o value stp = .ok ⟨o, [], false, none⟩ := by
  obtain ⟨h1, h2, h3, h4⟩ := inert_trials_shape
  refine ⟨?_, ?_, ?_, ?_⟩
  · rw [h3]; rfl
  · rw [h4]; rfl
  · rw [h1]; rfl
  · rw [h2]; rfl

/-- `isinstance(study.pruner, HyperbandPruner)` → the bracket study of the trial's bracket, else the study -/
theorem filterStudy_shape : ReportMethods.filterStudy =
    .ite .prunerIsHyperband (block [(.act .bindHyperband), (.ret .bracketStudy)]) (.ret .study) := rfl

theorem interp_filterStudy (isHB : Bool) (bracketIdF : Nat → Nat) (bracketView : Nat → List PTrial) (trials : List PTrial) (n : Nat) :
    interpFilterStudy ReportMethods.filterStudy isHB bracketIdF bracketView trials n =
      .ok (filterStudyView isHB bracketIdF bracketView trials n) := by
  rw [interpFilterStudy, filterStudy_shape]
  -- with the class of the pruner known the run is closed: both sides evaluate
  cases isHB <;> rfl

/-- every `return` of a skeleton whose expression is atom `k`, together with the chain of `if` tests (and the branch taken)
above it -/
def returnsOfAtom (k : Nat) : Skel.Prog → List (Skel.Exp × Bool) → List (List (Skel.Exp × Bool))
  | .ret _ (.atom j), path => if j = k then [path] else []
  | .ret _ _, _ => []
  | .raise _ _, _ => []
  | .set _ _ rest, path => returnsOfAtom k rest path
  | .effect _ rest, path => returnsOfAtom k rest path
  | .ite c th el, path => returnsOfAtom k th (path ++ [(c, true)]) ++ returnsOfAtom k el (path ++ [(c, false)])
  | .seq a b, path => returnsOfAtom k a path ++ returnsOfAtom k b path
  | .whileTrue b, path => returnsOfAtom k b path
  | .whileC _ b a, path => returnsOfAtom k b path ++ returnsOfAtom k a path
  | .forRange _ _ b a, path => returnsOfAtom k b path ++ returnsOfAtom k a path
  | .skip, _ => []

def isLvar0 : Skel.Exp × Bool → Bool
  | (.lvar 0, true) => true
  | _ => false

/-- In `PatientPruner.prune` the call `self._wrapped_pruner.prune(study, trial)` (atom 11)
is returned at exactly one place, and that place lies inside `if maybe_prune:` (local 0, the only local) — the wrapped pruner is
consulted only after the patience test.  (What `maybe_prune` is assigned from is not part of the statement.) -/
theorem patient_delegates_only_after_patience_test :
    PrunersSkel.patientPrune.atoms[11]? = some "self._wrapped_pruner.prune(study, trial)" ∧
    PrunersSkel.patientPrune.locals = ["maybe_prune"] ∧
    (returnsOfAtom 11 PrunersSkel.patientPrune.body []).length = 1 ∧
    (returnsOfAtom 11 PrunersSkel.patientPrune.body []).all (fun path => path.any isLvar0) = true := by
  refine ⟨rfl, rfl, rfl, rfl⟩

/-- Pins four texts of `Generated/PrunersSkel.lean`: atom 2 of `HyperbandPruner.prune` is
`self._pruners[bracket_id].prune(bracket_study, trial)`; its three data statements are `bracket_id = self._get_bracket_id(study, trial)`,
the debug line and `bracket_study = self._create_bracket_study(study, bracket_id)`; the only atom of the bracket study's `get_trials` is
the filter `pruner._get_bracket_id(self, t) == self._bracket_id`, returned at one place.  That `prune` RETURNS atom 2 is not among the
conjuncts (the interpreter of that skeleton is `C16SkelGen.gen_hb_prune`), and `_filter_study`, which composes the same two
functions in the source, is not mentioned. -/
theorem hyperband_delegates_to_bracket_view :
    PrunersSkel.hbPrune.atoms[2]? = some "self._pruners[bracket_id].prune(bracket_study, trial)" ∧
    PrunersSkel.hbPrune.data = ["bracket_id = self._get_bracket_id(study, trial)",
      "_logger.debug('{}th bracket is selected'.format(bracket_id))",
      "bracket_study = self._create_bracket_study(study, bracket_id)"] ∧
    PrunersSkel.bracketGetTrials.atoms = ["[t for t in trials if pruner._get_bracket_id(self, t) == self._bracket_id]"] ∧
    (returnsOfAtom 0 PrunersSkel.bracketGetTrials.body []).length = 1 := by
  refine ⟨rfl, rfl, rfl, rfl⟩

/-- `Trial.report` on a single-objective trial whose storage accepts the write exactly while the trial is running leaves in the
cache what `Pruners.step` leaves in the study: the two test the same three conditions, in different orders -/
theorem reportTrial_cached (t : PTrial) (v : XVal) (st : Int) :
    (reportTrial ⟨1, t⟩ (some v) (some st) (t.state == .running)).obj.cached =
      if t.state != .running || st < 0 || (interGet t.inter st).isSome then t
      else { t with inter := t.inter ++ [(st, v)] } := by
  simp only [reportTrial, Nat.lt_irrefl, if_false, bne]
  by_cases hneg : st < 0 <;> by_cases hd : (interGet t.inter st).isSome = true <;>
    by_cases hr : (t.state == .running) = true <;> simp [hneg, hd, hr]

/-- one call (`ask` / `report` / `should_prune` with any pruner / `tell`) through the interpreter of the generated
`Trial.report` / `Trial.should_prune` is the hand model's `step` — every study state, every call -/
theorem stepG_eq (crc : Nat → Nat) (s : Study) (op : Op) : stepG ReportMethods.reportProg crc s op = step crc s op := by
  cases op with
  | ask => rfl
  | tell n st => rfl
  | report n st v =>
    simp only [stepG, step, show ReportMethods.reportProg.report = ReportMethods.report from rfl, interp_report,
      reportTrial_cached]
    cases hn : s.trials[n]? with
    | none => rfl
    | some t =>
      dsimp only
      split
      · rw [updAt_id_of_get _ _ _ hn]
      · rw [updAt_const s.trials n t (fun t => { t with inter := t.inter ++ [(st, v)] }) hn]
  | shouldPrune n p =>
    simp only [stepG, step, show ReportMethods.reportProg.shouldPrune = ReportMethods.shouldPrune from rfl,
      interp_shouldPrune, shouldPruneTrial, Nat.lt_irrefl, if_false]
    rfl

theorem afterG_eq (crc : Nat → Nat) (s : Study) (ops : List Op) :
    afterG ReportMethods.reportProg crc s ops = after crc s ops := by
  simp only [afterG, after, stepG_eq]

theorem interGet_append_fresh (l : List (Int × XVal)) (k : Int) (v : XVal) (h : interGet l k = none) :
    interGet (l ++ [(k, v)]) k = some v := by
  rw [interGet_eq_lookup] at h ⊢
  rw [List.lookup_append, h]
  simp

/-- On a single-objective trial and for a step `≥ 0`: once the step has a value in the trial, the generated `report` for that step —
whatever the new value — stores nothing, changes nothing and only warns; and an accepted report makes its step such a step.  (One
`report` call each; that a pruner therefore sees the FIRST reports is the reading of this together with
`gen_should_prune_is_pruner_on_snapshot`, not a statement here.) -/
theorem gen_report_first_value_wins (o : TrialObj) (v : XVal) (st : Int) (ok : Bool) (hd : ¬ 1 < o.nDirs) (hst : ¬ st < 0) :
    (∀ w, interGet o.cached.inter st = some w →
      interpReport ReportMethods.report o (some v) (some st) ok = .ok ⟨o, [], true, none⟩) ∧
    (interGet o.cached.inter st = none →
      ∃ r, interpReport ReportMethods.report o (some v) (some st) true = .ok r ∧ r.writes = [(st, v)] ∧
        interGet r.obj.cached.inter st = some v ∧
        ∀ v' ok', interpReport ReportMethods.report r.obj (some v') (some st) ok' = .ok ⟨r.obj, [], true, none⟩) := by
  constructor
  · intro w hw
    rw [interp_report]
    simp [reportTrial, hd, hst, hw]
  · intro hnone
    refine ⟨_, interp_report o (some v) (some st) true, ?_, ?_, ?_⟩
    · simp [reportTrial, hd, hst, hnone]
    · simp [reportTrial, hd, hst, hnone, interGet_append_fresh _ _ _ hnone]
    · intro v' ok'
      rw [interp_report]
      simp [reportTrial, hd, hst, hnone, interGet_append_fresh _ _ _ hnone]

/-- a negative step is refused with ValueError before anything is written -/
theorem gen_report_rejects_negative_step (o : TrialObj) (v : XVal) (st : Int) (ok : Bool) (hd : ¬ 1 < o.nDirs) (hneg : st < 0) :
    interpReport ReportMethods.report o (some v) (some st) ok = .ok ⟨o, [], false, some .valueError⟩ := by
  rw [interp_report]
  simp [reportTrial, hd, hneg]

/-- on a single-objective study the generated `should_prune()` answers exactly
`pruner.prune(study, snapshot)`, the snapshot carrying the cached trial's `intermediate_values` — the reports accepted so far — and
the call leaves the trial object as it was -/
theorem gen_should_prune_is_pruner_on_snapshot (o : TrialObj) (prunerF : PTrial → Bool × PTrial) (hd : ¬ 1 < o.nDirs) :
    interpShouldPrune ReportMethods.shouldPrune ReportMethods.reportProg.latestIsCopy o prunerF = .ok (o, some (prunerF o.cached).1) := by
  rw [interp_shouldPrune]
  simp [shouldPruneTrial, hd]

/-- Inside a history: the answer of `should_prune` for the running trial `n` is the model's `prune` on the study and on the
trial as the accepted reports left it -/
theorem gen_should_prune_in_history (crc : Nat → Nat) (d : Dir) (ops : List Op) (n : Nat) (t : PTrial) (p : Pruner)
    (hn : (afterG ReportMethods.reportProg crc (Study.init d) ops).trials[n]? = some t) (hrun : t.state = .running) :
    (stepG ReportMethods.reportProg crc (afterG ReportMethods.reportProg crc (Study.init d) ops) (.shouldPrune n p)).2 =
      some (prune crc (afterG ReportMethods.reportProg crc (Study.init d) ops) n t p).prune := by
  rw [stepG_eq]
  simp [step, hn, hrun]

/-- after ANY sequence of `ask` / `report` / `should_prune` / `tell` calls made through the
generated glue, `should_prune()` of a running trial whose last accepted step is below `n_warmup_steps` answers False — for the
percentile / median / threshold pruners and a patient pruner around one of them -/
theorem gen_no_prune_before_warmup_e2e (crc : Nat → Nat) (d : Dir) (ops : List Op) (n : Nat) (t : PTrial) (p : Pruner)
    (w : Nat) (stp : Int)
    (hn : (afterG ReportMethods.reportProg crc (Study.init d) ops).trials[n]? = some t) (hrun : t.state = .running)
    (hw : C16.nWarmup? p = some w) (hs : lastStep t.inter = some stp) (hlt : stp < (w : Int)) :
    (stepG ReportMethods.reportProg crc (afterG ReportMethods.reportProg crc (Study.init d) ops) (.shouldPrune n p)).2 = some false := by
  rw [gen_should_prune_in_history crc d ops n t p hn hrun, C16.no_prune_before_warmup crc _ n t p w stp hw hs hlt]

/-- After ANY such sequence, a trial none of whose accepted values is NaN and each of whose accepted values is strictly better than
every non-NaN value accepted so far from any other trial (`C16.StrictlyBest`) is never answered True by `should_prune()` under a
protective pruner -/
theorem gen_strictly_best_never_pruned_e2e (crc : Nat → Nat) (d : Dir) (ops : List Op) (n : Nat) (t : PTrial) (p : Pruner)
    (hp : C16.Protective p)
    (hb : C16.StrictlyBest (afterG ReportMethods.reportProg crc (Study.init d) ops) n t) :
    (stepG ReportMethods.reportProg crc (afterG ReportMethods.reportProg crc (Study.init d) ops) (.shouldPrune n p)).2 ≠ some true := by
  rw [afterG_eq] at hb ⊢
  rw [stepG_eq]
  exact C16.strictly_best_should_prune_false crc d ops n t p hp hb

/-- first report accepted and stored; the second for the same step warns and keeps 3; a negative step is a ValueError; a value that
is not float-like a TypeError; NaN is accepted; a finished trial's storage refuses and the cache stays; multi-objective is refused -/
example :
    interpReport ReportMethods.report ⟨1, ⟨.running, [], []⟩⟩ (some (.fin 3)) (some 0) true =
      .ok ⟨⟨1, ⟨.running, [(0, .fin 3)], []⟩⟩, [(0, .fin 3)], false, none⟩ ∧
    interpReport ReportMethods.report ⟨1, ⟨.running, [(0, .fin 3)], []⟩⟩ (some (.fin 9)) (some 0) true =
      .ok ⟨⟨1, ⟨.running, [(0, .fin 3)], []⟩⟩, [], true, none⟩ ∧
    interpReport ReportMethods.report ⟨1, ⟨.running, [], []⟩⟩ (some (.fin 3)) (some (-1)) true =
      .ok ⟨⟨1, ⟨.running, [], []⟩⟩, [], false, some .valueError⟩ ∧
    interpReport ReportMethods.report ⟨1, ⟨.running, [], []⟩⟩ none (some 0) true =
      .ok ⟨⟨1, ⟨.running, [], []⟩⟩, [], false, some .typeError⟩ ∧
    interpReport ReportMethods.report ⟨1, ⟨.running, [], []⟩⟩ (some .nan) (some 2) true =
      .ok ⟨⟨1, ⟨.running, [(2, .nan)], []⟩⟩, [(2, .nan)], false, none⟩ ∧
    interpReport ReportMethods.report ⟨1, ⟨.complete, [], []⟩⟩ (some (.fin 3)) (some 0) false =
      .ok ⟨⟨1, ⟨.complete, [], []⟩⟩, [], false, some .storageError⟩ ∧
    interpReport ReportMethods.report ⟨2, ⟨.running, [], []⟩⟩ (some (.fin 3)) (some 0) true =
      .ok ⟨⟨2, ⟨.running, [], []⟩⟩, [], false, some .notImplemented⟩ := by
  refine ⟨?_, ?_, ?_, ?_, ?_, ?_, ?_⟩ <;> rfl

/-- a pruner that rewrites the object it is handed does not reach the cache; its decision comes back -/
example : interpShouldPrune ReportMethods.shouldPrune ReportMethods.reportProg.latestIsCopy ⟨1, ⟨.running, [(0, .fin 3)], []⟩⟩
    (fun t => (t.inter.length == 1, { t with inter := [] })) = .ok (⟨1, ⟨.running, [(0, .fin 3)], []⟩⟩, some true) := by rfl

/-- C16's demo history through the generated glue: trial 1 is pruned by the median pruner, the strictly best trial 2 is not -/
example :
    (stepG ReportMethods.reportProg (fun _ => 0) (afterG ReportMethods.reportProg (fun _ => 0) (Study.init .minimize) C16.demo)
      (.shouldPrune 1 (Pruner.median 0 0 1 1))).2 = some true ∧
    (stepG ReportMethods.reportProg (fun _ => 0) (afterG ReportMethods.reportProg (fun _ => 0) (Study.init .minimize) C16.demo)
      (.shouldPrune 2 (Pruner.median 0 0 1 1))).2 = some false := by
  rw [afterG_eq, stepG_eq, stepG_eq]
  decide +kernel

end OptunaVerif.C16ReportGen
