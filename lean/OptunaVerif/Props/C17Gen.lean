import OptunaVerif.Generated.SearchSpaceMethods
import OptunaVerif.Generated.SearchSpaceCode
import OptunaVerif.Props.C17
import OptunaVerif.Lemmas.SpaceIR
/-!
# C17 (translator tie) — the search-space calculators as translated from the source are the hand model

`Generated/SearchSpaceMethods.lean` is regenerated on every run by `verif/translators/tspace.py` from
`optuna/search_space/intersection.py` and `optuna/search_space/group_decomposed.py`: the whole bodies of
`_calculate`, `IntersectionSearchSpace.calculate`, `intersection_search_space`,
`_SearchSpaceGroup.add_distributions`, `_GroupDecomposedSearchSpace.calculate` (+ the defaults of `_calculate` and
the `__init__` facts) as data of the statement language of `Model/SpaceIR.lean`.

Proved here, for **all** inputs (trial lists of any length in any states, any cached space / cursor, any group
list, any study ids — no bound, no sampling):
* `<method>_shape`: the generated body is literally the expected term (any source edit that reaches the IR
  changes it);
* `interp_<method>`: the interpreter on the generated body equals the corresponding function of
  `Model/SearchSpace.lean`;
* `code_constants_pinned`: the expressions `verif/translators/search_space.py` reads out of the source
  (`Generated/SearchSpaceCode.lean`) are the constants the hand model uses;
* `genRun_eq`: a history driven through the interpreter of the generated calculators is the hand model's history,
  hence the theorems of `Props/C17.lean` hold of it; the `gen_*` restate them, all but `empty_until_established`,
  `cursor_inv_reachable`, `wrong_study_rejected_groups` and `scratch_antitone`.
-/
namespace OptunaVerif.C17Gen
open OptunaVerif.SearchSpace OptunaVerif.SpaceIR
open OptunaVerif.Generated

@[simp] theorem spaceSem_cond (c) : (spaceSem c).cond = evalSCond := rfl
@[simp] theorem spaceSem_act (c) : (spaceSem c).act = doSAct c := rfl
@[simp] theorem spaceSem_iter (c) : (spaceSem c).iter = iterS := rfl
@[simp] theorem spaceSem_retv (c) : (spaceSem c).retv = retS := rfl

/-- the expressions the expression translator (`verif/translators/search_space.py`) reads out of `_calculate`,
`IntersectionSearchSpace.__init__` and `_GroupDecomposedSearchSpace.calculate` are the constants of the hand model -/
theorem code_constants_pinned :
    Generated.SearchSpaceCode.statesBase = SearchSpace.SearchSpaceCode.statesBase ∧
    Generated.SearchSpaceCode.statesPrunedExtra = SearchSpace.SearchSpaceCode.statesPrunedExtra ∧
    Generated.SearchSpaceCode.cachedDefault = SearchSpace.SearchSpaceCode.cachedDefault ∧
    Generated.SearchSpaceCode.nextInit = SearchSpace.SearchSpaceCode.nextInit ∧
    Generated.SearchSpaceCode.nextUnsetTest = SearchSpace.SearchSpaceCode.nextUnsetTest ∧
    Generated.SearchSpaceCode.nextFirst = SearchSpace.SearchSpaceCode.nextFirst ∧
    Generated.SearchSpaceCode.breakTest = SearchSpace.SearchSpaceCode.breakTest ∧
    Generated.SearchSpaceCode.nextUnfinished = SearchSpace.SearchSpaceCode.nextUnfinished ∧
    Generated.SearchSpaceCode.cursorInit = SearchSpace.SearchSpaceCode.cursorInit ∧
    Generated.SearchSpaceCode.groupStates = SearchSpace.SearchSpaceCode.groupStates ∧
    Generated.SearchSpaceCode.groupStatesPruned = SearchSpace.SearchSpaceCode.groupStatesPruned :=
  ⟨rfl, rfl, rfl, rfl, rfl, rfl, rfl, rfl, rfl, rfl, rfl⟩

/-- the body of the trial loop of `_calculate`, as generated -/
def calcBody : SStmt :=
  block [
    (.ite (.not .stateOfInterest) .cont .skip),
    (.ite (.cmp .eq .next (.lit (-1))) (.act (.setNext (.add .number (.lit 1)))) .skip),
    (.ite (.cmp .gt .cached .number) .brk .skip),
    (.ite (.not .stateFinished) (block [(.act (.setNext .number)), .cont]) .skip),
    (.ite .spaceIsNone (block [(.act .spaceCopyDists), .cont]) .skip),
    (.act (.spaceIntersect .getEq))]

theorem calculate_shape : SearchSpaceMethods.calculate = block [
    (.act (.setStates [.complete, .waiting, .running])),
    (.ite .includePrunedArg (.act (.appendState .pruned)) .skip),
    (.act (.setNext (.lit (-1)))),
    (.loop .trialsReversed calcBody),
    (.ret .spaceAndNext)] := rfl

def calcRest : SStmt :=
  block [
    (.ite (.cmp .gt .cached .number) .brk .skip),
    (.ite (.not .stateFinished) (block [(.act (.setNext .number)), .cont]) .skip),
    (.ite .spaceIsNone (block [(.act .spaceCopyDists), .cont]) .skip),
    (.act (.spaceIntersect .getEq))]

theorem calcBody_head {ip : Bool} {S : List TState} (hS : ∀ st, S.contains st = ofInterest ip st)
    {env : SEnv} {nx : Int} (hs : env.states = some S) (hn : env.next = some nx) (t : Trial) :
    exec (spaceSem noCalls) calcBody { env with trial := some t } =
      if ofInterest ip t.state then
        exec (spaceSem noCalls) calcRest { env with trial := some t, next := some (
          if SearchSpace.SearchSpaceCode.nextUnsetTest nx then SearchSpace.SearchSpaceCode.nextFirst t.number else nx) }
      else ({ env with trial := some t }, .cont) := by
  have h1 : (spaceSem noCalls).cond { env with trial := some t } (.not .stateOfInterest) = .ok (!ofInterest ip t.state) := by
    simp only [spaceSem_cond, evalSCond, hs, hS]
  have h2 : (spaceSem noCalls).cond { env with trial := some t } (.cmp .eq .next (.lit (-1))) =
      .ok (SearchSpace.SearchSpaceCode.nextUnsetTest nx) := by
    simp only [spaceSem_cond, evalSCond, evalIExp, hn, Cmp.eval, SearchSpace.SearchSpaceCode.nextUnsetTest]
  rw [calcBody, block_cons_cons, exec_seq, exec_ite_ok _ _ h1]
  cases ofInterest ip t.state with
  | false => rfl
  | true =>
    simp only [Bool.not_true, Bool.false_eq_true, if_false, if_true, exec_skip, andThen_next, block_cons_cons, exec_seq,
      exec_ite_ok _ _ h2, calcRest]
    cases SearchSpace.SearchSpaceCode.nextUnsetTest nx with
    | true => simp [exec_act, doSAct, evalIExp, andThen_next, SearchSpace.SearchSpaceCode.nextFirst]
    | false =>
      -- `next` is not assigned: the environment is the one with `next := some nx` spelled out
      have : ({ env with trial := some t } : SEnv) = { env with trial := some t, next := some nx } := by
        rw [← hn]
      simp only [Bool.false_eq_true, if_false, andThen_next, ← this]

theorem calcRest_exec {cached : Int} {env : SEnv} (hc : env.inp.argCached = cached) {t : Trial}
    (ht : env.trial = some t) :
    exec (spaceSem noCalls) calcRest env =
      if SearchSpace.SearchSpaceCode.breakTest cached t.number then (env, .brk)
      else if !t.state.isFinished then
        ({ env with next := some (SearchSpace.SearchSpaceCode.nextUnfinished t.number) }, .cont)
      else ({ env with space := absorb env.space t.dists }, if env.space.isNone then .cont else .next) := by
  have h1 : (spaceSem noCalls).cond env (.cmp .gt .cached .number) =
      .ok (SearchSpace.SearchSpaceCode.breakTest cached t.number) := by
    simp only [spaceSem_cond, evalSCond, evalIExp, ht, hc, Cmp.eval, SearchSpace.SearchSpaceCode.breakTest]
  have h2 : (spaceSem noCalls).cond env (.not .stateFinished) = .ok (!t.state.isFinished) := by
    simp only [spaceSem_cond, evalSCond, ht]
  have h3 : (spaceSem noCalls).cond env .spaceIsNone = .ok env.space.isNone := rfl
  rw [calcRest, block_cons_cons, exec_seq, exec_ite_ok _ _ h1]
  cases SearchSpace.SearchSpaceCode.breakTest cached t.number with
  | true => rfl
  | false =>
    simp only [Bool.false_eq_true, if_false, exec_skip, andThen_next, block_cons_cons, exec_seq, exec_ite_ok _ _ h2]
    cases t.state.isFinished with
    | false =>
      simp [block_one, exec_act, exec_cont, andThen_next, andThen_cont, doSAct, evalIExp, ht,
        SearchSpace.SearchSpaceCode.nextUnfinished]
    | true =>
      simp only [Bool.not_true, Bool.false_eq_true, if_false, exec_skip, andThen_next, block_one, exec_ite_ok _ _ h3]
      cases hsp : env.space with
      | none =>
        simp [exec_seq, exec_act, exec_cont, andThen_next, andThen_cont, doSAct, ht, absorb]
      | some s => simp [exec_act, andThen_next, doSAct, ht, hsp, absorb, interBy, inter]

theorem calc_loop (ip : Bool) (cached : Int) (S : List TState) (hS : ∀ st, S.contains st = ofInterest ip st)
    (l : List Trial) :
    ∀ (env : SEnv) (nx : Int), env.states = some S → env.next = some nx → env.inp.argCached = cached →
      finishPair (andThen (loopAux (fun e => exec (spaceSem noCalls) calcBody e)
          (l.map (fun t => fun (e : SEnv) => { e with trial := some t })) env)
        (fun e => exec (spaceSem noCalls) (.ret .spaceAndNext) e)) = .ok (scan ip cached l env.space nx) := by
  -- this loop can `break`, so how it ends depends on the input: the statement takes the `return` after the loop with it and speaks
  -- of the returned pair only, the model's loop state being `(env.space, nx)`.  The loops of `add_loop` / `gadd_loop` always fall
  -- through; their statements give the environment after the loop by the fields the following statements read
  induction l with
  | nil =>
    intro env nx hs hn hc
    simp [loopAux_nil, andThen_next, exec_ret, retS, hn, finishPair, scan]
  | cons t rest ih =>
    intro env nx hs hn hc
    have hstep := calcBody_head hS hs hn t
    rw [calcRest_exec (env := { env with trial := some t, next := some _ }) hc rfl] at hstep
    simp only [List.map_cons, scan]
    cases hi : ofInterest ip t.state with
    | false =>
      rw [loopAux_cons_cont _ _ _ _ (by simpa [hi] using hstep)]
      simpa using ih { env with trial := some t } nx hs hn hc
    | true =>
      simp only [hi, if_true] at hstep
      simp only [Bool.not_true, Bool.false_eq_true, if_false]
      cases hb : SearchSpace.SearchSpaceCode.breakTest cached (t.number : Int) with
      | true =>
        rw [loopAux_cons_brk _ _ _ _ (by simpa [hb] using hstep)]
        simp [andThen_next, exec_ret, retS, finishPair]
      | false =>
        simp only [hb, Bool.false_eq_true, if_false] at hstep ⊢
        cases hf : t.state.isFinished with
        | false =>
          rw [loopAux_cons_cont _ _ _ _ (by simpa [hf] using hstep)]
          exact ih _ _ hs rfl hc
        | true =>
          simp only [hf, Bool.not_true, Bool.false_eq_true, if_false] at hstep ⊢
          -- the first space copied (`continue`) and a later one intersected (fall through) are both the model's `absorb`
          cases hsp : env.space with
          | none =>
            rw [loopAux_cons_cont _ _ _ _ (by simpa [hsp] using hstep)]
            simpa [hsp] using ih { env with trial := some t, next := some _, space := absorb env.space t.dists } _ hs rfl hc
          | some sp =>
            rw [loopAux_cons_next _ _ _ _ (by simpa [hsp] using hstep)]
            simpa [hsp] using ih { env with trial := some t, next := some _, space := absorb env.space t.dists } _ hs rfl hc

theorem interp_calculate (trials : List Trial) (ip : Bool) (sp : Option Dists) (cached : Int) :
    interpCalculate SearchSpaceMethods.calculate trials ip sp cached = .ok (calcRaw trials ip sp cached) := by
  rw [interpCalculate, calculate_shape]
  -- once `include_pruned` is a constant the statements before the loop run by evaluation, which also finds the
  -- environment and the states of interest the loop is entered with
  cases ip <;>
    exact calc_loop _ cached _ (by intro st; cases st <;> rfl) trials.reverse _ (-1) rfl rfl rfl

/-- the unfinished trial 1 holds the cursor back although trial 3 is finished -/
example : interpCalculate SearchSpaceMethods.calculate
    [⟨0, .complete, [("x", 1), ("y", 2)]⟩, ⟨1, .running, [("x", 1)]⟩, ⟨2, .pruned, [("x", 1)]⟩,
     ⟨3, .complete, [("y", 2), ("x", 1), ("z", 5)]⟩, ⟨4, .waiting, []⟩] false none (-1) =
    .ok (some [("y", 2), ("x", 1)], 1) := by decide
/-- with `include_pruned` trial 2 counts -/
example : interpCalculate SearchSpaceMethods.calculate
    [⟨0, .complete, [("x", 1), ("y", 2)]⟩, ⟨1, .running, [("x", 1)]⟩, ⟨2, .pruned, [("x", 1)]⟩,
     ⟨3, .complete, [("y", 2), ("x", 1), ("z", 5)]⟩] true (some [("x", 1), ("q", 3)]) 2 = .ok (some [("x", 1)], 4) := by decide

/-- the defaults of `_calculate`'s parameters: `include_pruned=False, search_space=None, cached_trial_number=-1` -/
theorem calculate_defaults : SearchSpaceMethods.calcDefaults = ⟨false, true, SearchSpace.SearchSpaceCode.cachedDefault⟩ := rfl

theorem functional_shape : SearchSpaceMethods.functional = block [
    (.act (.callCalculate .argTrials .argIncludePruned .default .default .localSpace)),
    (.act (.setOut .localSpaceOrEmpty)), (.act .sortOut), (.ret .out)] := rfl

theorem interp_functional (trials : List Trial) (ip : Bool) :
    interpFunctional SearchSpaceMethods.interProg trials ip = .ok (intersectionSearchSpace trials ip) := by
  simp only [interpFunctional, SearchSpaceMethods.interProg, functional_shape, block, exec, andThen, spaceSem_act,
    spaceSem_retv, doSAct, retS, evalSpSrc, evalTrialsSrc, evalBSrc, evalCSrc, interCalls, interp_calculate, SEnv.mk',
    SIn.init, calculate_defaults, if_true, finishDists, intersectionSearchSpace, output]

theorem exec_guard (calls : SCalls) (env : SEnv) :
    exec (spaceSem calls) (.ite .studyIdIsNone (.act .bindStudyId) (.ite .studyIdDiffers (.raise .valueError) .skip)) env =
      if env.obj.studyId.isSome && env.obj.studyId != some env.inp.sid then (env, .raised .valueError)
      else ({ env with obj := { env.obj with studyId := some env.inp.sid } }, .next) := by
  cases h : env.obj.studyId with
  | none => simp [exec, evalSCond, doSAct, h]
  | some x =>
    by_cases hx : x = env.inp.sid
    · -- bound to this study already: binding it again changes nothing
      have : env = { env with obj := { env.obj with studyId := some env.inp.sid } } := by rw [← hx, ← h]
      simp [exec, evalSCond, h, hx, ← this]
    · have hne : (some x != some env.inp.sid) = true := by simpa using hx
      simp [exec, evalSCond, h, hne]

theorem objCalculate_shape : SearchSpaceMethods.objCalculate = block [
    (.ite .studyIdIsNone (.act .bindStudyId) (.ite .studyIdDiffers (.raise .valueError) .skip)),
    (.act (.callCalculate .getTrials .selfIncludePruned .selfSpace .selfCursor .selfFields)),
    (.act (.setOut .selfSpaceOrEmpty)), (.act .sortOut), (.ret .outDeepcopy)] := rfl

def exceptOfCalcOut : CalcOut → Except Err Dists
  | .valueError => .error .valueError
  | .result d => .ok d

/-- `IntersectionSearchSpace.calculate(study)` as generated is `Calc.calculate` on the CURRENT trials, whatever a
cached read (`stale`) would answer -/
theorem interp_objCalculate (c : Calc) (sid : Nat) (trials stale : List Trial) :
    interpObjCalculate SearchSpaceMethods.interProg c sid trials stale =
      ((c.calculate sid trials).1, exceptOfCalcOut (c.calculate sid trials).2) := by
  rw [interpObjCalculate, SearchSpaceMethods.interProg, objCalculate_shape, block_cons_cons, exec_seq, exec_guard,
    Calc.calculate]
  by_cases hg : (c.studyId.isSome && c.studyId != some sid) = true
  · simp [hg, SEnv.mk', SIn.init, objOfCalc, calcOfObj, andThen, finishDists, exceptOfCalcOut]
  · simp [hg, SEnv.mk', SIn.init, objOfCalc, calcOfObj, andThen, finishDists, exceptOfCalcOut, block, exec, doSAct, retS,
      evalSpSrc, evalTrialsSrc, evalBSrc, evalCSrc, interCalls, interp_calculate, output]
example : (interpObjCalculate SearchSpaceMethods.interProg (Calc.init false) 7
      [⟨0, .complete, [("y", 2), ("x", 1)]⟩, ⟨1, .running, []⟩, ⟨2, .complete, [("x", 1)]⟩] []).2 = .ok [("x", 1)] ∧
    (interpObjCalculate SearchSpaceMethods.interProg (Calc.init false) 7
      [⟨0, .complete, [("y", 2), ("x", 1)]⟩, ⟨1, .running, []⟩, ⟨2, .complete, [("x", 1)]⟩] []).1.cursor = 1 ∧
    (interpObjCalculate SearchSpaceMethods.interProg
      (interpObjCalculate SearchSpaceMethods.interProg (Calc.init false) 7 [] []).1 8 [] []).2 = .error .valueError := by decide

/-- the body of the group loop, as generated -/
def addBody : SStmt :=
  block [(.act .setKeys), (.act (.appendRestrict .group .keysAndDistKeys)),
    (.act (.appendRestrict .group .keysMinusDistKeys)), (.act .distKeysMinusKeys)]

theorem addDistributions_shape : SearchSpaceMethods.addDistributions = block [
    (.act (.setDistKeys .all)), (.act .initNextSpaces), (.loop .groups addBody),
    (.act (.appendRestrict .distributions .distKeys)), (.act .storeNonEmpty)] := rfl

/-- `keys & dist_keys`, `keys - dist_keys` select from a group whose names `keys` are: the test for `keys` is idle -/
theorem filter_keys_and (g : Dists) (f : String → Bool) :
    g.filter (fun p => (keys g).contains p.1 && f p.1) = g.filter (fun p => f p.1) :=
  List.filter_congr fun p hp => by simp [List.mem_map_of_mem (f := Prod.fst) hp, keys]

theorem add_loop (gs : List Dists) :
    ∀ (env : SEnv) (acc : List Dists) (dk : List String), env.nextSpaces = some acc → env.distKeys = some dk →
      ∃ env', loopAux (fun e => exec (spaceSem noCalls) addBody e)
          (gs.map (fun g => fun (e : SEnv) => { e with group := some g })) env = (env', .next) ∧
        env'.nextSpaces = some (acc ++ (addAux gs dk).1) ∧ env'.distKeys = some (addAux gs dk).2 ∧
        env'.inp = env.inp := by
  -- `next_search_spaces` grows by `append`, the model conses in front of its result for the rest: hence `acc`, what the list holds on
  -- entry, in front of `(addAux gs dk).1`; `dk` is `dist_keys` as the groups before `gs` have left it
  induction gs with
  | nil =>
    intro env acc dk hn hd
    exact ⟨env, by simp [loopAux], by simp [addAux, hn], by simp [addAux, hd], rfl⟩
  | cons g rest ih =>
    intro env acc dk hn hd
    have hstep : exec (spaceSem noCalls) addBody { env with group := some g } =
        ({ env with group := some g,
                    keys := some (SearchSpace.keys g),
                    nextSpaces := some (acc ++ [g.filter (fun p => dk.contains p.1)] ++ [g.filter (fun p => !dk.contains p.1)]),
                    distKeys := some (dk.filter (fun k => !(SearchSpace.keys g).contains k)) }, .next) := by
      simp only [addBody, block, exec, andThen, spaceSem_act, doSAct, selNames, hn, hd, filter_keys_and g dk.contains,
        filter_keys_and g (fun k => !dk.contains k)]
    obtain ⟨env', h1, h2, h3, h4⟩ := ih
      { env with group := some g,
                 keys := some (SearchSpace.keys g),
                 nextSpaces := some (acc ++ [g.filter (fun p => dk.contains p.1)] ++ [g.filter (fun p => !dk.contains p.1)]),
                 distKeys := some (dk.filter (fun k => !(SearchSpace.keys g).contains k)) }
      (acc ++ [g.filter (fun p => dk.contains p.1)] ++ [g.filter (fun p => !dk.contains p.1)])
      (dk.filter (fun k => !(SearchSpace.keys g).contains k)) rfl rfl
    refine ⟨env', ?_, ?_, ?_, h4⟩
    · simp only [List.map_cons]
      rw [loopAux_cons_next _ _ _ _ hstep]; exact h1
    · rw [h2]; simp [addAux]
    · rw [h3]; simp [addAux]

/-- whatever `single()` says: `add_distributions` as generated does not consult it -/
theorem interp_addDistributions (single : Nat → Bool) (gs : List Dists) (d : Dists) :
    interpAdd SearchSpaceMethods.addDistributions single gs d = .ok (SearchSpace.addDistributions gs d) := by
  rw [interpAdd, addDistributions_shape]
  obtain ⟨env', h1, h2, h3, h4⟩ := add_loop gs
    { SEnv.mk' { SIn.init [] 0 with distributions := d, single := single } { SObj.init with groups := gs } with
      distKeys := some (keys d), nextSpaces := some [] } [] (keys d) rfl rfl
  simp only [block, exec, andThen, spaceSem_act, spaceSem_iter, doSAct, iterS, SEnv.mk', SIn.init, SObj.init] at h1 ⊢
  rw [h1]
  simp only [List.nil_append] at h2
  simp only [selNames, h2, h3, h4, finishGroupsObj, SearchSpace.addDistributions, SEnv.mk', SIn.init]
example : interpAdd SearchSpaceMethods.addDistributions (fun _ => true) [[("a", 1), ("b", 1)], [("c", 1)]]
    [("b", 1), ("c", 1), ("d", 1)] = .ok [[("b", 1)], [("a", 1)], [("c", 1)], [("d", 1)]] := by decide

def gaddBody : SStmt := .act .groupAdd

theorem groupCalculate_shape : SearchSpaceMethods.groupCalculate = block [
    (.ite .studyIdIsNone (.act .bindStudyId) (.ite .studyIdDiffers (.raise .valueError) .skip)),
    (.ite .selfIncludePruned (.act (.setStates [.complete, .pruned])) (.act (.setStates [.complete]))),
    (.loop (.studyTrialsOfStates false) gaddBody), (.ret .groupsDeepcopy)] := rfl

def addCalls (single : Nat → Bool) : SCalls :=
  { noCalls with addF := interpAdd SearchSpaceMethods.addDistributions single }

theorem gadd_loop (single : Nat → Bool) (ts : List Trial) :
    ∀ (env : SEnv), ∃ env', loopAux (fun e => exec (spaceSem (addCalls single)) gaddBody e)
        (ts.map (fun t => fun (e : SEnv) => { e with trial := some t })) env = (env', .next) ∧
      env'.obj = { env.obj with groups := ts.foldl (fun gs t => SearchSpace.addDistributions gs t.dists) env.obj.groups } := by
  induction ts with
  | nil => intro env; exact ⟨env, by simp [loopAux], rfl⟩
  | cons t rest ih =>
    intro env
    -- the call `self._search_space.add_distributions(…)` runs the interpreter of the generated callee (`addCalls`), which
    -- `interp_addDistributions` has tied to the model: the loop is the model's fold over the trials
    have hstep : exec (spaceSem (addCalls single)) gaddBody { env with trial := some t } =
        ({ env with trial := some t, obj := { env.obj with groups := SearchSpace.addDistributions env.obj.groups t.dists } }, .next) := by
      simp [gaddBody, exec, doSAct, addCalls, interp_addDistributions]
    obtain ⟨env', h1, h2⟩ := ih { env with trial := some t, obj := { env.obj with groups := SearchSpace.addDistributions env.obj.groups t.dists } }
    refine ⟨env', ?_, by rw [h2]; rfl⟩
    simp only [List.map_cons]
    rw [loopAux_cons_next _ _ _ _ hstep]; exact h1

def groupRest : SStmt := block [
  (.ite .selfIncludePruned (.act (.setStates [.complete, .pruned])) (.act (.setStates [.complete]))),
  (.loop (.studyTrialsOfStates false) gaddBody), (.ret .groupsDeepcopy)]

theorem groupRest_exec (single : Nat → Bool) (env : SEnv) :
    ∃ env', exec (spaceSem (addCalls single)) groupRest env = (env', .ret (.groups env'.obj.groups)) ∧
      env'.obj = { env.obj with groups :=
        ((env.inp.trials.filter (fun t => groupOfInterest env.obj.includePruned t.state)).foldl
          (fun gs t => SearchSpace.addDistributions gs t.dists) env.obj.groups) } := by
  obtain ⟨env', h1, h2⟩ := gadd_loop single
    (env.inp.trials.filter fun t =>
      (if env.obj.includePruned then [TState.complete, .pruned] else [.complete]).contains t.state)
    { env with states := some (if env.obj.includePruned then [.complete, .pruned] else [.complete]) }
  -- `groupOfInterest` is this membership test by definition
  refine ⟨env', ?_, h2⟩
  cases hip : env.obj.includePruned <;> simp only [hip, Bool.false_eq_true, if_false, if_true] at h1 <;>
    simp only [groupRest, block, exec, andThen_next, spaceSem_cond, spaceSem_act, spaceSem_iter, spaceSem_retv, evalSCond,
      hip, doSAct, iterS, Bool.false_eq_true, if_false, h1, retS]

def exceptOfGOut : GOut → Except Err (List Dists)
  | .valueError => .error .valueError
  | .groups g => .ok g

/-- `_GroupDecomposedSearchSpace.calculate(study)` as generated is `GCalc.calculate` on the CURRENT trial list, whatever a
cached read (`stale`) and `single()` would answer -/
theorem interp_groupCalculate (single : Nat → Bool) (c : GCalc) (sid : Nat) (trials stale : List Trial) :
    interpGroupCalculate SearchSpaceMethods.groupProg single c sid trials stale =
      ((c.calculate sid trials).1, exceptOfGOut (c.calculate sid trials).2) := by
  rw [interpGroupCalculate, SearchSpaceMethods.groupProg, groupCalculate_shape, block_cons_cons, exec_seq, exec_guard,
    GCalc.calculate]
  by_cases hg : (c.studyId.isSome && c.studyId != some sid) = true
  · simp [hg, SEnv.mk', SIn.init, objOfGCalc, gcalcOfObj, andThen, finishGroups, exceptOfGOut]
  · obtain ⟨env', h1, h2⟩ := groupRest_exec single
      { SEnv.mk' { SIn.init trials sid with stale := stale, single := single } (objOfGCalc c) with
        obj := { objOfGCalc c with studyId := some sid } }
    simp only [SEnv.mk', SIn.init, objOfGCalc, hg, Bool.false_eq_true, if_false, andThen_next, groupRest, addCalls]
      at h1 h2 ⊢
    rw [h1]
    simp [h2, gcalcOfObj, finishGroups, exceptOfGOut]
example : (interpGroupCalculate SearchSpaceMethods.groupProg (fun _ => false) (GCalc.init true) 7
    [⟨0, .complete, [("x", 1), ("y", 2)]⟩, ⟨1, .running, [("w", 1)]⟩, ⟨2, .pruned, [("x", 1)]⟩, ⟨3, .fail, [("v", 1)]⟩] []).2 =
    .ok [[("x", 1)], [("y", 2)]] := by decide

/-- `__init__`: `_cached_trial_number = -1`, `_search_space = None`, `_study_id = None` (both classes),
`_SearchSpaceGroup._search_spaces = []` -/
theorem init_facts :
    SearchSpaceMethods.interProg.cursorInit = SearchSpace.SearchSpaceCode.cursorInit ∧
    SearchSpaceMethods.interProg.initSpaceNone = true ∧ SearchSpaceMethods.interProg.initStudyNone = true ∧
    SearchSpaceMethods.groupProg.initGroupsEmpty = true ∧ SearchSpaceMethods.groupProg.initStudyNone = true :=
  ⟨rfl, rfl, rfl, rfl, rfl⟩

theorem genImpl_eq (single : Nat → Bool) :
    genImpl SearchSpaceMethods.interProg SearchSpaceMethods.groupProg single = handImpl := by
  simp only [genImpl, handImpl]
  congr 1
  · funext c sid trials
    simp only [interp_objCalculate]
    generalize c.calculate sid trials = r
    obtain ⟨c', o⟩ := r
    cases o <;> rfl
  · funext c sid trials
    simp only [interp_groupCalculate]
    generalize c.calculate sid trials = r
    obtain ⟨c', o⟩ := r
    cases o <;> rfl

theorem stepW_hand (sid : Nat) (s : Sys) (st : Step) : stepW handImpl sid s st = step sid s st := by
  cases st <;> rfl

theorem afterW_hand (sid : Nat) (s : Sys) (h : List Step) : afterW handImpl sid s h = after sid s h := by
  simp only [afterW, after, stepW_hand]

/-- one step / a whole history of (study, intersection calculator, group calculator) with both calculators run by the
interpreter of the GENERATED methods -/
def genStep (single : Nat → Bool) (sid : Nat) (s : Sys) (st : Step) : Sys × Out :=
  stepW (genImpl SearchSpaceMethods.interProg SearchSpaceMethods.groupProg single) sid s st

def genRun (single : Nat → Bool) (sid : Nat) (ipI ipG : Bool) (h : List Step) : Sys :=
  afterW (genImpl SearchSpaceMethods.interProg SearchSpaceMethods.groupProg single) sid
    (initW (genImpl SearchSpaceMethods.interProg SearchSpaceMethods.groupProg single) ipI ipG) h

theorem genStep_eq (single : Nat → Bool) (sid : Nat) (s : Sys) (st : Step) : genStep single sid s st = step sid s st := by
  rw [genStep, genImpl_eq, stepW_hand]

/-- A history driven through the interpreter of the generated calculators is the hand model's history. -/
theorem genRun_eq (single : Nat → Bool) (sid : Nat) (ipI ipG : Bool) (h : List Step) :
    genRun single sid ipI ipG h = C17.run sid ipI ipG h := by
  rw [genRun, genImpl_eq, afterW_hand]; rfl

/-- Whatever happened before (trials created, written, finished, pruned or failed in any
order — in particular finishing out of order —, earlier calls at any points, calls with other studies), whenever the
generated `IntersectionSearchSpace.calculate` returns, it returns exactly what the generated `intersection_search_space`
computes from scratch on the current trials (both values of `include_pruned`). -/
theorem gen_incremental_eq_scratch (single : Nat → Bool) (sid : Nat) (ipI ipG : Bool) (h : List Step) (r : Dists)
    (hr : (genStep single sid (genRun single sid ipI ipG h) .callI).2 = .result r) :
    interpFunctional SearchSpaceMethods.interProg (genRun single sid ipI ipG h).trials ipI = .ok r := by
  rw [genStep_eq, genRun_eq] at hr
  rw [interp_functional, genRun_eq, ← C17.incremental_eq_scratch sid ipI ipG h r hr]

theorem gen_incremental_eq_scratch_include_pruned (single : Nat → Bool) (sid : Nat) (ipG : Bool) (h : List Step) (r : Dists)
    (hr : (genStep single sid (genRun single sid true ipG h) .callI).2 = .result r) :
    interpFunctional SearchSpaceMethods.interProg (genRun single sid true ipG h).trials true = .ok r :=
  gen_incremental_eq_scratch single sid true ipG h r hr

/-- Order independence: on a trial list as the storage gives it (`WF`: the trial at position `i` has number `i`, every
`distributions` is a dict) the generated `intersection_search_space` returns exactly the
items every COMPLETE (and PRUNED iff `include_pruned`) trial has, sorted by name, each name once — a description in which
neither the order of the trials nor the order in which they finished occurs. -/
theorem gen_scratch_is_intersection (trials : List Trial) (ip : Bool) (hwf : WF trials) :
    ∃ d, interpFunctional SearchSpaceMethods.interProg trials ip = .ok d ∧ d.Pairwise (fun p q => p.1 < q.1) ∧
      ∀ p, p ∈ d ↔
        (∃ t ∈ trials, t.state = .complete ∨ (t.state = .pruned ∧ ip = true)) ∧
        ∀ t ∈ trials, (t.state = .complete ∨ (t.state = .pruned ∧ ip = true)) → AList.get? t.dists p.1 = some p.2 :=
  ⟨_, interp_functional trials ip, C17.scratch_sorted_unique trials ip hwf, C17.scratch_is_intersection trials ip hwf⟩

/-- Once a finished trial of interest exists, a later answer is a sub-map of an earlier one -/
theorem gen_never_grows (single : Nat → Bool) (sid : Nat) (ipI ipG : Bool) (h1 h2 : List Step) (r1 r2 : Dists)
    (hr1 : (genStep single sid (genRun single sid ipI ipG h1) .callI).2 = .result r1)
    (hest : ∃ t ∈ (genRun single sid ipI ipG h1).trials, t.state = .complete ∨ (t.state = .pruned ∧ ipI = true))
    (hr2 : (genStep single sid (afterW (genImpl SearchSpaceMethods.interProg SearchSpaceMethods.groupProg single) sid
      (genStep single sid (genRun single sid ipI ipG h1) .callI).1 h2) .callI).2 = .result r2) :
    ∀ p ∈ r2, p ∈ r1 := by
  rw [genImpl_eq, afterW_hand] at hr2
  simp only [genStep_eq, genRun_eq] at hr1 hest hr2
  exact C17.never_grows sid ipI ipG h1 h2 r1 r2 hr1 hest hr2

/-- A generated calculator bound to one study answers `ValueError` for another and keeps
its state -/
theorem gen_wrong_study_rejected (c : Calc) (sid sid' : Nat) (trials stale : List Trial)
    (h : c.studyId = some sid) (hne : sid' ≠ sid) :
    interpObjCalculate SearchSpaceMethods.interProg c sid' trials stale = (c, .error .valueError) := by
  rw [interp_objCalculate, C17.wrong_study_rejected c sid sid' trials h hne]; rfl

/-- the groups after adding the dicts `ds` one by one with the generated `add_distributions` -/
def genGroups (single : Nat → Bool) (ds : List Dists) : Except Err (List Dists) :=
  ds.foldl (fun acc d => match acc with
    | .ok gs => interpAdd SearchSpaceMethods.addDistributions single gs d
    | .error e => .error e) (.ok [])

theorem genGroups_eq (single : Nat → Bool) (ds : List Dists) :
    genGroups single ds = .ok (ds.foldl SearchSpace.addDistributions []) := by
  unfold genGroups
  generalize ([] : List Dists) = g0
  induction ds generalizing g0 with
  | nil => rfl
  | cons d rest ih =>
    simp only [List.foldl_cons]
    rw [interp_addDistributions]
    exact ih _

/-- After any sequence of generated `add_distributions` calls the groups are non-empty dicts,
pairwise disjoint, and together cover exactly the names seen -/
theorem gen_groups_partition (single : Nat → Bool) (ds : List Dists) (hnd : ∀ d ∈ ds, NodupKeys d) :
    ∃ gs, genGroups single ds = .ok gs ∧
      (∀ g ∈ gs, g ≠ []) ∧ (∀ g ∈ gs, (keys g).Nodup) ∧ (gs.map keys).Pairwise List.Disjoint ∧
      ∀ k, (∃ g ∈ gs, k ∈ keys g) ↔ ∃ d ∈ ds, k ∈ keys d :=
  ⟨_, genGroups_eq single ds, C17.groups_partition ds hnd⟩

/-- `C17.groups_canonical` and `C17.trial_is_union_of_groups` in one statement: two names share a
group exactly when they occur in the same added dicts; every added dict is a union of groups -/
theorem gen_groups_canonical (single : Nat → Bool) (ds : List Dists) (hnd : ∀ d ∈ ds, NodupKeys d) :
    ∃ gs, genGroups single ds = .ok gs ∧
      (∀ g ∈ gs, ∀ a ∈ keys g, ∀ b, b ∈ keys g ↔ (∃ d ∈ ds, b ∈ keys d) ∧ ∀ d ∈ ds, (a ∈ keys d ↔ b ∈ keys d)) ∧
      (∀ d ∈ ds, ∀ k ∈ keys d, ∃ g ∈ gs, k ∈ keys g ∧ ∀ n ∈ keys g, n ∈ keys d) :=
  ⟨_, genGroups_eq single ds, fun g hg a ha b => C17.groups_canonical ds hnd g hg a ha b,
    fun d hd k hk => C17.trial_is_union_of_groups ds hnd d hd k hk⟩

/-- The partition does not depend on the order or on repetitions of the added dicts
(incrementally kept groups = groups from scratch, as partitions of names) -/
theorem gen_groups_order_irrelevant (single : Nat → Bool) (ds ds' : List Dists) (hnd : ∀ d ∈ ds, NodupKeys d)
    (hnd' : ∀ d ∈ ds', NodupKeys d) (hsame : ∀ d, d ∈ ds ↔ d ∈ ds') :
    ∃ gs gs', genGroups single ds = .ok gs ∧ genGroups single ds' = .ok gs' ∧
      ∀ g ∈ gs, ∃ g' ∈ gs', ∀ k, k ∈ keys g ↔ k ∈ keys g' :=
  ⟨_, _, genGroups_eq single ds, genGroups_eq single ds',
    fun g hg => C17.groups_order_irrelevant ds ds' hnd hnd' hsame g hg⟩

/-- After any history, whenever the generated `_GroupDecomposedSearchSpace.calculate` returns, the
groups are non-empty and pairwise disjoint, cover exactly the names of the current COMPLETE (and PRUNED iff
`include_pruned`) trials, every such trial is a union of groups, and two names share a group exactly when they occur in
the same such trials -/
theorem gen_groups_history (single : Nat → Bool) (sid : Nat) (ipI ipG : Bool) (h : List Step) (gs : List Dists)
    (hr : (genStep single sid (genRun single sid ipI ipG h) .callG).2 = .groups gs) :
    let trials := (genRun single sid ipI ipG h).trials
    let ofI := fun (t : Trial) => t.state = .complete ∨ (t.state = .pruned ∧ ipG = true)
    (∀ g ∈ gs, g ≠ []) ∧
    (gs.map keys).Pairwise List.Disjoint ∧
    (∀ k, (∃ g ∈ gs, k ∈ keys g) ↔ ∃ t ∈ trials, ofI t ∧ k ∈ keys t.dists) ∧
    (∀ t ∈ trials, ofI t → ∀ k ∈ keys t.dists, ∃ g ∈ gs, k ∈ keys g ∧ ∀ n ∈ keys g, n ∈ keys t.dists) ∧
    (∀ g ∈ gs, ∀ a ∈ keys g, ∀ b, b ∈ keys g ↔
      (∃ t ∈ trials, ofI t ∧ b ∈ keys t.dists) ∧ ∀ t ∈ trials, ofI t → (a ∈ keys t.dists ↔ b ∈ keys t.dists)) := by
  rw [genStep_eq, genRun_eq] at hr
  rw [genRun_eq]
  exact C17.groups_history sid ipI ipG h gs hr

/-! ## non-vacuity: the histories of `Props/C17.lean` through the generated calculators -/

/-- out-of-order finish (`C17.demo1`: trial 1 finishes before trial 0); the next call returns the from-scratch answer -/
example : (genStep (fun _ => false) 0 (genRun (fun _ => false) 0 false false C17.demo1) .callI).2 = .result [("x", 7), ("y", 3)] := by
  rw [genStep_eq, genRun_eq]; decide
example : (genStep (fun _ => false) 0 (genRun (fun _ => false) 0 false false (C17.demo1 ++ [.callI] ++ C17.demo2)) .callI).2 =
    .result [("y", 3)] := by
  rw [genStep_eq, genRun_eq]; decide
example : (genStep (fun _ => false) 0 (genRun (fun _ => false) 0 false false (C17.demo1 ++ [.callI])) (.callForeign 5 [])).2 =
    .valueError := by
  rw [genStep_eq, genRun_eq]; decide
example : genGroups (fun _ => true) [[("a", 1), ("b", 1)], [("b", 1), ("c", 1)]] =
    .ok [[("b", 1)], [("a", 1)], [("c", 1)]] := by decide
example : ∀ d ∈ [[("a", 1), ("b", 1)], [("b", 1), ("c", 1)]], NodupKeys d := by
  intro d hd; simp only [List.mem_cons, List.not_mem_nil, or_false] at hd
  rcases hd with rfl | rfl <;> (unfold NodupKeys keys; decide)
/-- the interpreter itself on a two-call history with an out-of-order finish (no rewriting by `genRun_eq`) -/
example : (genStep (fun _ => false) 0 (genRun (fun _ => false) 0 false false
      [.create .running [("x", 1)], .create .running [("x", 1), ("y", 2)], .setState 1 .complete, .callI, .setState 0 .complete])
      .callI).2 = .result [("x", 1)] ∧
    (genRun (fun _ => false) 0 false false
      [.create .running [("x", 1)], .create .running [("x", 1), ("y", 2)], .setState 1 .complete, .callI]).isp.cursor = 0 := by
  decide

end OptunaVerif.C17Gen
