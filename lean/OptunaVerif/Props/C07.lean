import OptunaVerif.Lemmas.JournalFile
/-!
# C07 — the journal file reader returns exactly the complete records and keeps its offset cache true

`readLoop` is the loop of `JournalFileBackend.read_logs` (size snapshot, seek by cached offset,
per-line bookkeeping, tolerated bad last line).  The theorems hold for every file whose lines are
complete valid records except possibly the last one (what the appender protocol with the tail repair
guarantees — see C05), every size snapshot, every starting record and every consistent cache.
-/
namespace OptunaVerif.C07
open OptunaVerif.JournalFile

/-- the lines of a file produced by the appender protocol: every terminated line is a valid record
(no glued or garbage lines) and only the last line may be unterminated (in flight / torn) -/
def WF (all : List Line) : Prop :=
  (∀ (i : Nat) (ln : Line), all[i]? = some ln → ln.terminated = true → ln.valid = true) ∧
  (∀ (i : Nat) (ln : Line), all[i]? = some ln → i + 1 < all.length → ln.terminated = true)

def Consistent (all : List Line) (c : Cache) : Prop :=
  ∀ k o, c.get? k = some o → k ≤ all.length ∧ o = offsetOf all k ∧
    ∀ j ln, j < k → all[j]? = some ln → Complete ln = true

theorem consistent_set (all : List Line) (c : Cache) (k : Nat) (h : Consistent all c)
    (hk : k ≤ all.length) (hc : ∀ j ln, j < k → all[j]? = some ln → Complete ln = true) :
    Consistent all (c.set k (offsetOf all k)) := by
  intro k' o hget
  rw [get?_set] at hget
  split at hget
  · rename_i e
    subst e
    simp only [Option.some.injEq] at hget
    exact ⟨hk, hget.symm, hc⟩
  · exact h k' o hget

theorem Consistent.mono {all : List Line} {c c' : Cache} (h : Consistent all c)
    (hsub : ∀ k o, c'.get? k = some o → c.get? k = some o) : Consistent all c' :=
  fun k o hk => h k o (hsub k o hk)

theorem complete_before_succ {all : List Line} {n : Nat} {ln : Line}
    (hpre : ∀ j l, j < n → all[j]? = some l → Complete l = true) (hget : all[n]? = some ln) (hcomp : Complete ln = true) :
    ∀ j l, j < n + 1 → all[j]? = some l → Complete l = true := fun j l hj hl => by
  rcases Nat.lt_or_ge j n with h1 | h1
  · exact hpre j l h1 hl
  · obtain rfl : j = n := by omega
    rw [hget] at hl
    cases hl; exact hcomp

theorem noteNext_consistent {all : List Line} {c : Cache} {n : Nat} {ln : Line} (hget : all[n]? = some ln)
    (hcons : Consistent all c) (hn : c.get? n = some (offsetOf all n))
    (hpre : ∀ j l, j < n → all[j]? = some l → Complete l = true) :
    ∃ c1, noteNext c n ln.len = some c1 ∧ c1.get? (n + 1) = some (offsetOf all (n + 1)) ∧
      (Complete ln = true → Consistent all c1) ∧ Consistent all (c1.del (n + 1)) := by
  have hoff := offsetOf_succ all n ln hget
  -- without the entry of line `n + 1` the new cache has no entry that the old one lacks
  have hdel : ∀ c1, noteNext c n ln.len = some c1 → Consistent all (c1.del (n + 1)) := fun c1 h1 =>
    hcons.mono fun k o h => by
      rw [get?_del] at h
      split at h
      · cases h
      · rwa [noteNext_get? h1 ‹_›] at h
  by_cases hs : (c.get? (n + 1)).isSome = true
  · obtain ⟨o, ho⟩ := Option.isSome_iff_exists.1 hs
    have h1 : noteNext c n ln.len = some c := by simp [noteNext, hs]
    exact ⟨c, h1, by rw [ho, (hcons (n + 1) o ho).2.1], fun _ => hcons, hdel c h1⟩
  · have h1 : noteNext c n ln.len = some (c.set (n + 1) (offsetOf all n + ln.len)) := by simp [noteNext, hs, hn]
    refine ⟨_, h1, by rw [get?_set, if_pos rfl, hoff], fun hcomp => ?_, hdel _ h1⟩
    rw [← hoff]
    exact consistent_set all c (n + 1) hcons (List.getElem?_eq_some_iff.1 hget).1 (complete_before_succ hpre hget hcomp)

def Returns (all : List Line) (from_ size n : Nat) (acc : List Nat) (res : Res) : Prop :=
  ∃ m cache', res = .ok (acc.reverse ++ List.range' (max n from_) (m - max n from_)) cache' ∧
    n ≤ m ∧ m ≤ all.length ∧ Consistent all cache' ∧
    (∀ j ln, n ≤ j → j < m → all[j]? = some ln → Complete ln = true ∧ offsetOf all (j + 1) ≤ size) ∧
    (∀ ln, all[m]? = some ln → Complete ln = false ∨ size < offsetOf all (m + 1))

theorem Returns.stop {all : List Line} {from_ size n : Nat} {acc : List Nat} {c : Cache} (hn : n ≤ all.length)
    (hc : Consistent all c) (hbad : ∀ ln, all[n]? = some ln → Complete ln = false ∨ size < offsetOf all (n + 1)) :
    Returns all from_ size n acc (.ok acc.reverse c) :=
  ⟨n, c, by simp; omega, Nat.le_refl _, hn, hc, fun j l h1 h2 => by omega, hbad⟩

theorem Returns.step {all : List Line} {from_ size n : Nat} {acc : List Nat} {res : Res} {ln : Line}
    (hget : all[n]? = some ln) (hcomp : Complete ln = true) (hfit : offsetOf all (n + 1) ≤ size)
    (h : Returns all from_ size (n + 1) (if n < from_ then acc else n :: acc) res) : Returns all from_ size n acc res := by
  obtain ⟨m, cache', hres, h1, h2, h3, h4, h5⟩ := h
  refine ⟨m, cache', ?_, by omega, h2, h3, fun j l hj1 hj2 hl => ?_, h5⟩
  · rw [hres]
    by_cases hlow : n < from_
    · rw [if_pos hlow, Nat.max_eq_right (Nat.le_of_lt hlow), Nat.max_eq_right hlow]
    · rw [if_neg hlow, Nat.max_eq_left (by omega), Nat.max_eq_left (by omega),
        show m - n = (m - (n + 1)) + 1 by omega, List.range'_succ]
      simp
  · rcases Nat.lt_or_ge n j with hh | hh
    · exact h4 j l hh hj2 hl
    · obtain rfl : j = n := by omega
      rw [hget] at hl; cases hl; exact ⟨hcomp, hfit⟩

/-- **The reader theorem.**  Started at line number `n` of the file (`rest` = the lines from `n` on),
with `remaining` = snapshot size minus the offset of line `n` and a consistent cache that knows line
`n`, the loop returns — never raises — the line numbers `max n from_ … m-1` for some `m`, all of
them complete records lying inside the snapshot, `m` being the first line that is incomplete or
crosses the snapshot (or the end of the file); and the cache it leaves is consistent. -/
theorem readLoop_spec (all : List Line) (hwf : WF all) (from_ size : Nat) :
    ∀ (rest pre : List Line) (n : Nat) (cache : Cache) (acc : List Nat),
      all = pre ++ rest → pre.length = n → Consistent all cache →
      cache.get? n = some (offsetOf all n) →
      (∀ j ln, j < n → all[j]? = some ln → Complete ln = true) →
      ∃ m cache', readLoop from_ rest n ((size : Int) - offsetOf all n) false cache acc =
          .ok (acc.reverse ++ List.range' (max n from_) (m - max n from_)) cache' ∧
        n ≤ m ∧ m ≤ all.length ∧ Consistent all cache' ∧
        (∀ j ln, n ≤ j → j < m → all[j]? = some ln → Complete ln = true ∧ offsetOf all (j + 1) ≤ size) ∧
        (∀ ln, all[m]? = some ln → Complete ln = false ∨ size < offsetOf all (m + 1)) := by
  intro rest
  induction rest with
  | nil =>
    intro pre n cache acc hall hlen hcons _ _
    have hn : all.length = n := by rw [hall]; simp [hlen]
    exact Returns.stop (Nat.le_of_eq hn.symm) hcons fun ln hget => by
      rw [List.getElem?_eq_none (Nat.le_of_eq hn)] at hget; cases hget
  | cons ln rest ih =>
    intro pre n cache acc hall hlen hcons hn hpre
    have hget : all[n]? = some ln := by
      rw [hall, List.getElem?_append_right (by omega)]; simp [hlen]
    have hlt : n < all.length := (List.getElem?_eq_some_iff.1 hget).1
    have hrem : (size : Int) - offsetOf all n - ln.len = (size : Int) - offsetOf all (n + 1) := by
      rw [offsetOf_succ all n ln hget]; push_cast; omega
    have stop : ∀ {c}, Consistent all c → (Complete ln = false ∨ size < offsetOf all (n + 1)) →
        Returns all from_ size n acc (.ok acc.reverse c) := fun hc hbad =>
      Returns.stop (Nat.le_of_lt hlt) hc fun l hl => by rw [hget] at hl; cases hl; exact hbad
    obtain ⟨c1, hc1, hc1get, hc1cons, hc1del⟩ := noteNext_consistent hget hcons hn hpre
    rw [readLoop_cons, hrem]
    split
    · exact stop hcons (.inr (by omega))
    · simp only [Bool.false_eq_true, if_false, hc1]
      by_cases hterm : ln.terminated = true
      · -- a terminated line is a valid record: the loop goes on behind it
        have hvalid : ln.valid = true := hwf.1 n ln hget hterm
        have hcomp : Complete ln = true := by simp [Complete, hterm, hvalid]
        simp only [hterm, hvalid, Bool.or_true, Bool.and_self, if_true]
        refine Returns.step hget hcomp (by omega) ?_
        exact ih (pre ++ [ln]) (n + 1) c1 _ (by rw [hall]; simp) (by simp [hlen]) (hc1cons hcomp) hc1get
          (complete_before_succ hpre hget hcomp)
      · -- an unterminated line: by well-formedness it is the last one; it is dropped, its offset forgotten
        have hterm' : ln.terminated = false := by simpa using hterm
        have hlast : rest = [] := by
          cases rest with
          | nil => rfl
          | cons x xs =>
            have := hwf.2 n ln hget (by rw [hall]; simp [hlen])
            rw [hterm'] at this; cases this
        subst hlast
        simp only [hterm', Bool.false_and, Bool.false_eq_true, if_false, readLoop]
        exact stop hc1del (.inl (by simp [Complete, hterm']))

/-- `read_logs(k)` on a well-formed file, from a consistent cache that knows record `k`'s offset,
returns exactly records `k … m-1` (contiguous, in order, never a partly written one), where `m`
covers every complete record that lies inside the size snapshot, and leaves a consistent cache. -/
theorem read_returns_contiguous_complete (all : List Line) (hwf : WF all) (k size off : Nat) (cache : Cache)
    (hcons : Consistent all cache) (hk : cache.get? k = some off) :
    ∃ m cache', readLogs size cache k (fun o => if o = offsetOf all k then all.drop k else []) =
        .ok (List.range' k (m - k)) cache' ∧ k ≤ m ∧ m ≤ all.length ∧ Consistent all cache' ∧
      (∀ j ln, k ≤ j → j < m → all[j]? = some ln → Complete ln = true ∧ offsetOf all (j + 1) ≤ size) ∧
      (∀ ln, all[m]? = some ln → Complete ln = false ∨ size < offsetOf all (m + 1)) := by
  obtain ⟨hkle, hoff, hpre⟩ := hcons k off hk
  subst hoff
  unfold readLogs
  simp only [hk, if_true]
  obtain ⟨m, cache', hres, h1, h2, h3, h4, h5⟩ :=
    readLoop_spec all hwf k size (all.drop k) (all.take k) k cache [] (by simp)
      (by simp [Nat.min_eq_left hkle]) hcons hk hpre
  refine ⟨m, cache', ?_, h1, h2, h3, h4, h5⟩
  rw [hres]; simp

/-- A cold reader (offset of `k` unknown; `h0`: the cache still has the entry `0 ↦ 0` it is created with,
`_log_number_offset = {0: 0}`) scans from the start and returns the same records. -/
theorem read_cold_returns_contiguous_complete (all : List Line) (hwf : WF all) (k size : Nat) (cache : Cache)
    (hcons : Consistent all cache) (hk : cache.get? k = none) (h0 : cache.get? 0 = some 0) :
    ∃ m cache', readLogs size cache k (fun o => if o = 0 then all else []) =
        .ok (List.range' (max 0 k) (m - max 0 k)) cache' ∧ m ≤ all.length ∧ Consistent all cache' ∧
      (∀ j ln, j < m → all[j]? = some ln → Complete ln = true ∧ offsetOf all (j + 1) ≤ size) ∧
      (∀ ln, all[m]? = some ln → Complete ln = false ∨ size < offsetOf all (m + 1)) := by
  unfold readLogs
  simp only [hk, if_true]
  have hoff0 : offsetOf all 0 = 0 := by simp [offsetOf]
  obtain ⟨m, cache', hres, _, h2, h3, h4, h5⟩ :=
    readLoop_spec all hwf k size all [] 0 cache [] (by simp) rfl hcons (by rw [hoff0]; exact h0)
      (by intro j ln hj; omega)
  refine ⟨m, cache', ?_, h2, h3, fun j ln hj => h4 j ln (Nat.zero_le _) hj, h5⟩
  rw [hoff0] at hres
  simpa using hres

/-! ### non-vacuity: a three-line file that is `WF`, and two runs of the loop on it -/

def demoFile : List Line :=
  [⟨24, true, true⟩, ⟨30, true, true⟩, ⟨7, false, false⟩]     -- two records and a torn tail

theorem demoFile_get (i : Nat) (ln : Line) (h : demoFile[i]? = some ln) :
    (i = 0 ∧ ln = ⟨24, true, true⟩) ∨ (i = 1 ∧ ln = ⟨30, true, true⟩) ∨ (i = 2 ∧ ln = ⟨7, false, false⟩) := by
  match i, h with
  | 0, h => left; simp [demoFile] at h; exact ⟨rfl, h.symm⟩
  | 1, h => right; left; simp [demoFile] at h; exact ⟨rfl, h.symm⟩
  | 2, h => right; right; simp [demoFile] at h; exact ⟨rfl, h.symm⟩
  | i + 3, h => simp [demoFile] at h

example : WF demoFile := by
  refine ⟨?_, ?_⟩
  · intro i ln h ht
    rcases demoFile_get i ln h with ⟨_, e⟩ | ⟨_, e⟩ | ⟨_, e⟩ <;> subst e <;> simp at ht ⊢
  · intro i ln h hlt
    rcases demoFile_get i ln h with ⟨_, e⟩ | ⟨_, e⟩ | ⟨hi, e⟩
    · subst e; rfl
    · subst e; rfl
    · subst hi; simp [demoFile] at hlt
example : readLoop 1 demoFile 0 61 false [(0, 0)] [] = .ok [1] [(2, 54), (1, 24), (0, 0)] := by decide
example : readLoop 0 demoFile 0 30 false [(0, 0)] [] = .ok [0] [(1, 24), (0, 0)] := by decide

end OptunaVerif.C07
