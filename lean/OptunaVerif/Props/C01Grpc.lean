import OptunaVerif.Lemmas.ProtoRefine
import OptunaVerif.Lemmas.ProtoOver
import OptunaVerif.Props.C01
/-!
# C01, gRPC proxy — the wire level (property theorems)

`GrpcStorageProxy` in front of `OptunaStorageProxyService` must give the same return values, error
classes and state as the backend behind it.  The model is `Model/Proto.lean` (`proxyStep`: encode the
request, `Storage.step` on the backend, encode the reply or abort with a status code, decode); the
tables of except-clauses, status codes and enum conversions are `Generated/GrpcTables.lean`, rewritten
from servicer.py / client.py / api.proto on every run, so every theorem below is re-proved against
what the code says now.  Tie: verif/props/c01_grpc.py.

The precise normal form ("what a value looks like after one trip over the wire"):
`normTemplate` / `normTrial` / `normStudy` / `normOp` / `normOut` —
  * `values = []` becomes `None` (`normValues`);
  * every dictionary (params, user/system attributes, intermediate values) becomes the key-sorted
    representative of the same finite map (`smap`, `imap`; same look-ups, a permutation of the items);
  * a direction other than MINIMIZE becomes MAXIMIZE (`normDir`; identity on MINIMIZE and MAXIMIZE);
  * an empty study name becomes `"no-name-" ++ uuid4()`;
  * model-only bookkeeping that `FrozenTrial` / `FrozenStudy` do not carry (`TrialS.study`,
    `StudyS.paramDist`) is blanked.
-/
namespace OptunaVerif.C01Grpc
open OptunaVerif.Storage OptunaVerif.Proto OptunaVerif.Generated
open OptunaVerif.Generated.GrpcTables (Exc Status Rpc)

/-- **proto_state_roundtrip**: every `TrialState` has a wire code and comes back as itself. -/
theorem proto_state_roundtrip (s : TState) : (stateToProto s).bind stateFromProto = some s := by
  obtain ⟨c, h1, h2⟩ := state_roundtrip s
  simp [h1, h2]

example : (stateToProto .waiting).bind stateFromProto = some .waiting := by decide

/-- the state tables are inverse to each other in the other direction too: a wire code that decodes at all
re-encodes to itself -/
theorem proto_state_wire_roundtrip (n : Nat) (s : TState) (h : stateFromProto n = some s) : stateToProto s = some n := by
  match n with
  | 0 | 1 | 2 | 3 | 4 => revert h; cases s <;> decide
  | n + 5 => simp [stateFromProto, lookup, GrpcTables.stateFromProto] at h

example : stateFromProto 3 = some .fail := by decide

/-- **proto_direction_roundtrip**: MINIMIZE and MAXIMIZE come back as themselves. -/
theorem proto_direction_roundtrip (d : Nat) (h : d = 1 ∨ d = 2) : dirFromProto (dirToProto d) = d := by
  rcases h with rfl | rfl <;> decide

example : dirFromProto (dirToProto 1) = 1 := by decide

/-- No other direction comes back as itself: `StudyDirection.NOT_SET` (0), accepted by every backend's
`create_new_study`, is stored as MAXIMIZE by a backend behind the proxy (the conversions are
`MINIMIZE if d == MINIMIZE else MAXIMIZE`).  Full-strength `∀ d, dirFromProto (dirToProto d) = d` is false. -/
theorem proto_direction_not_set_witness : dirFromProto (dirToProto 0) = 2 := by decide

/-- every conversion site in servicer.py / client.py is the same conditional expression -/
theorem dir_sites_uniform :
    (∀ s ∈ GrpcTables.dirToProtoSites, s.2 = (GrpcTables.dirToProtoTest, GrpcTables.dirToProtoThen, GrpcTables.dirToProtoElse)) ∧
    (∀ s ∈ GrpcTables.dirFromProtoSites, s.2 = (GrpcTables.dirFromProtoTest, GrpcTables.dirFromProtoThen, GrpcTables.dirFromProtoElse)) ∧
    GrpcTables.dirToProtoSites.length = 3 ∧ GrpcTables.dirFromProtoSites.length = 3 := by decide

example : ("client.py:create_new_study", 1, 0, 1) ∈ GrpcTables.dirToProtoSites := by decide

/-- the statement shapes the model assumes beyond the tables (template flag, datetime '' convention, the
parameter join, the GetTrials filter, the empty-name default, delegation of get_all_trials) are in the source -/
theorem shape_checks_hold : ∀ c ∈ GrpcTables.shapeChecks, c.2 = true := by decide

example : GrpcTables.shapeChecks.length = 13 := by decide

/-- **proto_values_roundtrip**: `None` and `[]` are the same empty field; both receivers read it as `None`. -/
theorem proto_values_roundtrip (v : Option (List XVal)) :
    decodeValues GrpcTables.trialValuesDecode (encodeValues v) = normValues v ∧
    decodeValues GrpcTables.setStateValuesDecode (encodeValues v) = normValues v :=
  ⟨values_roundtrip v, setStateValues_roundtrip v⟩

example : decodeValues GrpcTables.trialValuesDecode (encodeValues (some [])) = none ∧
    normValues (some [XVal.nan]) = some [XVal.nan] := by decide

/-- **proto_frozen_roundtrip**: `_from_proto_trial(_to_proto_trial(t))` is `t` in normal form, for every
`FrozenTrial` (any state, any values incl. NaN/±inf, any dictionaries, any id/number). -/
theorem proto_frozen_roundtrip (f : Frozen) :
    ∃ p, toProtoTrial f = some p ∧ fromProtoTrial p = .ok (normFrozen f) := frozen_roundtrip f

/-- **proto_template_roundtrip**: the template of `create_new_trial` as the servicer's backend receives it. -/
theorem proto_template_roundtrip (t : Template) :
    ∃ p, toProtoTrial { id := -1, number := -1, body := t } = some p ∧
      (fromProtoTrial p).map (·.body) = .ok (normTemplate t) := by
  obtain ⟨p, h1, h2⟩ := proto_frozen_roundtrip { id := -1, number := -1, body := t }
  exact ⟨p, h1, by rw [h2]; rfl⟩

/-- **proto_trial_roundtrip**: a stored trial as `get_trial` / `get_all_trials` hand it to the caller. -/
theorem proto_trial_roundtrip (id : Nat) (t : TrialS) :
    ∃ p, toProtoTrial (frozenOf (id, t)) = some p ∧
      (fromProtoTrial p).map trialOfFrozen = .ok (id, normTrial t) := by
  obtain ⟨p, f, h1, h2, h3⟩ := trial_roundtrip (id, t)
  exact ⟨p, h1, by rw [h2]; exact congrArg Except.ok h3⟩

example : ∃ p, toProtoTrial (frozenOf (4, mkTrial 2 7 none)) = some p ∧
    (fromProtoTrial p).map trialOfFrozen = .ok (4, { mkTrial 0 7 none with study := 0 }) :=
  proto_trial_roundtrip 4 (mkTrial 2 7 none)

def exampleTemplate : Template :=
  { state := .complete, values := some [], hasStart := true, hasComplete := false,
    params := [("z", ⟨"1/2", ⟨0, false, "F"⟩⟩), ("a", ⟨"2/1", ⟨1, false, "I"⟩⟩)],
    userAttrs := [("k9", "1"), ("b", "[1, 2]")], systemAttrs := [],
    inter := [(5, .nan), (1, .pinf), (-3, .fin 2)] }

/-- non-vacuity: a template whose every normalisation is visible (values `[]`, three unsorted dictionaries) -/
example :
    (toProtoTrial { id := -1, number := -1, body := exampleTemplate }).map (·.values) = some [] ∧
    (toProtoTrial { id := -1, number := -1, body := exampleTemplate }).map (·.params) = some [("a", "2/1"), ("z", "1/2")] ∧
    (toProtoTrial { id := -1, number := -1, body := exampleTemplate }).map (·.intermediateValues) =
      some [(-3, .fin 2), (1, .pinf), (5, .nan)] ∧
    (toProtoTrial { id := -1, number := -1, body := exampleTemplate }).bind
      (fun p => (fromProtoTrial p).toOption.map (·.body)) = some (normTemplate exampleTemplate) ∧
    normTemplate exampleTemplate ≠ exampleTemplate ∧ (normTemplate exampleTemplate).values = none := by
  decide

/-- **proto_study_roundtrip**: a `FrozenStudy` of `get_all_studies` comes back in normal form (`normStudy`: directions
through `normDir`, attributes key-sorted, `paramDist` blanked). -/
theorem proto_study_roundtrip (p : Nat × StudyS) : fromProtoStudy (toProtoStudy p) = (p.1, normStudy p.2) := study_roundtrip p

example : fromProtoStudy (toProtoStudy (3, ⟨"s", [1, 2], [("b", "1"), ("a", "2")], [], [("p", ⟨0, false, "F"⟩)]⟩)) =
    (3, ⟨"s", [1, 2], [("a", "2"), ("b", "1")], [], []⟩) := by decide

/-! ### the normal form is a projection that changes no look-up -/

theorem normTemplate_idem (t : Template) : normTemplate (normTemplate t) = normTemplate t := by
  simp [normTemplate, smap_idem, imap_idem, normValues_idem]

theorem normTrial_idem (t : TrialS) : normTrial (normTrial t) = normTrial t := by
  simp [normTrial, smap_idem, imap_idem, normValues_idem]

example : normTemplate (normTemplate exampleTemplate) = normTemplate exampleTemplate ∧
    normTemplate exampleTemplate ≠ exampleTemplate := by decide

/-- every parameter / attribute read of a normalised trial gives what the original gives -/
theorem normTrial_lookups (t : TrialS) (k : String) :
    (normTrial t).params.get? k = t.params.get? k ∧
    (normTrial t).userAttrs.get? k = t.userAttrs.get? k ∧
    (normTrial t).systemAttrs.get? k = t.systemAttrs.get? k ∧
    (∀ step, lookup (normTrial t).inter step = lookup t.inter step) ∧
    (normTrial t).number = t.number ∧ (normTrial t).state = t.state ∧
    (normTrial t).hasStart = t.hasStart ∧ (normTrial t).hasComplete = t.hasComplete :=
  ⟨get?_smap _ k, get?_smap _ k, get?_smap _ k, fun st => lookup_ofList intLt _ st, rfl, rfl, rfl, rfl⟩

/-- keys being unique, as in any Python dict, a normalised trial holds the same items as the original -/
theorem normTrial_perm (t : TrialS) (hp : (t.params.map (·.1)).Nodup) (hu : (t.userAttrs.map (·.1)).Nodup)
    (hs : (t.systemAttrs.map (·.1)).Nodup) (hi : (t.inter.map (·.1)).Nodup) :
    (normTrial t).params.Perm t.params ∧ (normTrial t).userAttrs.Perm t.userAttrs ∧
    (normTrial t).systemAttrs.Perm t.systemAttrs ∧ (normTrial t).inter.Perm t.inter :=
  ⟨ofList_perm strLt _ hp, ofList_perm strLt _ hu, ofList_perm strLt _ hs, ofList_perm intLt _ hi⟩

example : (normTrial (mkTrial 0 0 (some exampleTemplate))).params = [("a", ⟨"2/1", ⟨1, false, "I"⟩⟩), ("z", ⟨"1/2", ⟨0, false, "F"⟩⟩)] := by
  decide

/-- which contract error classes a backend can raise inside which rpc (`step_err_raisable`: this is all of them) -/
def raisable : List (Rpc × Err) := [
  (.createNewStudy, .duplicated),
  (.deleteStudy, .keyError), (.setStudyUserAttribute, .keyError), (.setStudySystemAttribute, .keyError),
  (.getStudyIdFromName, .keyError), (.getStudyNameFromId, .keyError), (.getStudyDirections, .keyError),
  (.getStudyUserAttributes, .keyError), (.getStudySystemAttributes, .keyError),
  (.createNewTrial, .keyError), (.createNewTrial, .valueError),
  (.setTrialParameter, .keyError), (.setTrialParameter, .updateFinished), (.setTrialParameter, .valueError),
  (.getTrialIdFromStudyIdTrialNumber, .keyError),
  (.setTrialStateValues, .keyError), (.setTrialStateValues, .updateFinished),
  (.setTrialIntermediateValue, .keyError), (.setTrialIntermediateValue, .updateFinished),
  (.setTrialUserAttribute, .keyError), (.setTrialUserAttribute, .updateFinished),
  (.setTrialSystemAttribute, .keyError), (.setTrialSystemAttribute, .updateFinished),
  (.getTrial, .keyError), (.getTrials, .keyError)]

/-- the table `raisable` is complete: whatever error the contract answers inside an rpc is listed -/
theorem step_err_raisable (s : Spec) (op : Op) (rpc : Rpc) (e : Err)
    (hr : rpcOf op = some rpc) (he : (step s op).2 = .err e) : (rpc, e) ∈ raisable := by
  -- the classes `step` can answer `op` with (`step_answer`) are all listed under the rpc of `op`
  have hall : (stepErrs op).all (fun e => raisable.elem (rpc, e)) = true := by cases op <;> cases hr <;> rfl
  exact List.mem_of_elem_eq_true (List.all_eq_true.1 hall e ((step_answer s op).err e he).2)

example : (step Storage.init (.deleteStudy 0)).2 = .err .keyError ∧ (Rpc.deleteStudy, Err.keyError) ∈ raisable := by decide

/-- **error_class_preserved**: a contract exception raised by the backend inside an rpc — caught by the first
matching `except` clause of the servicer method, turned into a status code, turned back by the client method —
reaches the caller as the same class; for every (rpc, class) pair the contract can produce (`step_err_raisable`),
`create_new_trial` + `ValueError` (U1: SQLite rejecting a conflicting template) included.  Checked against the
tables read from today's servicer.py / client.py / exceptions.py. -/
theorem error_class_preserved : ∀ p ∈ raisable, transport p.1 p.2 = .ok (.err p.2) := by decide

/-- the pair that was lost before the repair of `CreateNewTrial` / `create_new_trial` now goes INVALID_ARGUMENT and back -/
example : (Rpc.createNewTrial, Err.valueError) ∈ raisable ∧
    abortStatus .createNewTrial .valueError = .invalidArgument ∧
    transport .createNewTrial .valueError = .ok (.err .valueError) := by decide

example : (Rpc.setTrialParameter, Err.valueError) ∈ raisable ∧
    transport .setTrialParameter .valueError = .ok (.err .valueError) ∧
    abortStatus .setTrialParameter .updateFinished = .failedPrecondition := by decide

theorem wireOut_of_raisable (rpc : Rpc) (o : Out) (h : ∀ e, o = .err e → (rpc, e) ∈ raisable) :
    wireOut rpc o = .ok (normOut o) := by
  cases o with
  | err e => exact error_class_preserved (rpc, e) (h e rfl)
  | _ => rfl

/-- table level: on every rpc the client's chain inverts the servicer's clauses (each status code the servicer can
abort with is turned back into the class it was chosen for), no two clauses of a method share a status code, and
a clause for a class never sits behind a clause for one of its base classes (the first match is the exact one) -/
theorem client_inverts_servicer :
    ∀ rpc ∈ Rpc.all, ∀ c ∈ GrpcTables.servicerCatches rpc,
      lookup (GrpcTables.clientRaises rpc) c.2 = some c.1 ∧
      (GrpcTables.servicerCatches rpc).find? (fun q => isSubclass c.1 q.1) = some c := by decide

example : (Exc.keyError, Status.notFound) ∈ GrpcTables.servicerCatches .getTrials := by decide

/-- `UpdateFinishedTrialError` is a `RuntimeError` (optuna/exceptions.py): a clause for `RuntimeError` placed before
it would swallow it; `isSubclass` is what decides the first matching clause -/
example : isSubclass .updateFinishedTrialError .runtimeError = true ∧ isSubclass .keyError .valueError = false ∧
    isSubclass .duplicatedStudyError .exception = true := by decide

/-- each servicer method calls the `BaseStorage` method the model says it calls, each stub method is called from
the client function the model says calls it -/
theorem rpc_call_sites :
    Rpc.all.map GrpcTables.servicerBackend =
      ["create_new_study", "delete_study", "set_study_user_attr", "set_study_system_attr", "get_study_id_from_name",
       "get_study_name_from_id", "get_study_directions", "get_study_user_attrs", "get_study_system_attrs",
       "get_all_studies", "create_new_trial", "set_trial_param", "get_trial_id_from_study_id_trial_number",
       "set_trial_state_values", "set_trial_intermediate_value", "set_trial_user_attr", "set_trial_system_attr",
       "get_trial", "get_all_trials"] ∧
    Rpc.all.map GrpcTables.clientMethod =
      ["GrpcStorageProxy.create_new_study", "GrpcStorageProxy.delete_study", "GrpcStorageProxy.set_study_user_attr",
       "GrpcStorageProxy.set_study_system_attr", "GrpcStorageProxy.get_study_id_from_name",
       "GrpcStorageProxy.get_study_name_from_id", "GrpcStorageProxy.get_study_directions",
       "GrpcStorageProxy.get_study_user_attrs", "GrpcStorageProxy.get_study_system_attrs",
       "GrpcStorageProxy.get_all_studies", "GrpcStorageProxy.create_new_trial", "GrpcStorageProxy.set_trial_param",
       "GrpcStorageProxy.get_trial_id_from_study_id_trial_number", "GrpcStorageProxy.set_trial_state_values",
       "GrpcStorageProxy.set_trial_intermediate_value", "GrpcStorageProxy.set_trial_user_attr",
       "GrpcStorageProxy.set_trial_system_attr", "GrpcStorageProxy.get_trial",
       "GrpcClientCache._read_trials_from_remote_storage"] := ⟨rfl, rfl⟩

example : Rpc.all.length = 19 := by decide

/-- a 3-call history after which a conflicting template makes the backend (with the U1 bit set, as SQLite
behaves) raise `ValueError` -/
def u1State : Spec :=
  C01.after Storage.init [.createStudy "s" [1], .createTrial 0 none false,
    .setTrialParam 0 "p" ⟨"1/2", ⟨0, false, "F"⟩⟩ false]

def u1Template : Template :=
  { state := .running, values := none, params := [("p", ⟨"0/1", ⟨2, false, "C"⟩⟩)], userAttrs := [], systemAttrs := [],
    inter := [], hasStart := true, hasComplete := false }

/-- `GetTrials` for any cache state `(included, greater_than)`: the decoded reply is the servicer's selection
(`Cache.servicerFilter`, the function C08 reasons about) of the backend's list, in normal form -/
theorem getTrials_wire (s : Spec) (ir : Bool) (sid : Nat) (inc : List Nat) (w : Int) :
    (servicer s ir (.getTrials sid inc w)).1 = s ∧
    match s.study? sid with
    | none => (servicer s ir (.getTrials sid inc w)).2 = .abort (abortStatus .getTrials .keyError)
    | some _ => ∃ ps, (servicer s ir (.getTrials sid inc w)).2 = .ok (.trials ps) ∧
        (fromProtoTrials ps).map (·.map trialOfFrozen) = .ok ((Cache.servicerFilter inc w (s.trialsOf sid)).map normIdTrial) := by
  simp only [servicer, step]
  cases h : s.study? sid with
  | none => simp [finish]
  | some st =>
    rw [filter_stateIn_none]
    obtain ⟨ps, fs, h1, h2, h3⟩ := trials_roundtrip (Cache.servicerFilter inc w (s.trialsOf sid))
    refine ⟨by simp [finish, h1], ps, by simp [finish, h1], ?_⟩
    rw [h2]
    exact congrArg Except.ok h3

example : (servicer u1State false (.getTrials 0 [] 5)).2 = .ok (.trials []) ∧
    (servicer u1State false (.getTrials 0 [0] 5)).2 ≠ .ok (.trials []) ∧
    (servicer u1State false (.getTrials 7 [] (-1))).2 = .abort .notFound := by decide

theorem fetchAll_spec (s : Spec) (sid : Nat) :
    fetchAll s sid = match s.study? sid with
      | none => (s, .error (transport .getTrials .keyError))
      | some _ => (s, .ok ((s.trialsOf sid).map normIdTrial)) := by
  rw [← C01GrpcCompose.fetchAllOver_ideal, C01GrpcCompose.fetchAllOver_eq C01GrpcCompose.ideal s sid (step_answer s _).shape]
  simp only [C01GrpcCompose.ideal, step]
  cases s.study? sid with
  | none => rfl
  | some st => rw [filter_stateIn_none]

example : (fetchAll u1State 0).2.toOption.map (·.map (·.1)) = some [0] := by decide

theorem fetchTrial_spec (s : Spec) (tid : Nat) :
    fetchTrial s tid = match s.trial? tid with
      | none => (s, .error (transport .getTrial .keyError))
      | some t => (s, .ok (tid, normTrial t)) := by
  rw [← C01GrpcCompose.fetchTrialOver_ideal, C01GrpcCompose.fetchTrialOver_eq C01GrpcCompose.ideal s tid (step_answer s _).shape]
  simp only [C01GrpcCompose.ideal, step]
  cases s.trial? tid <;> rfl

example : (fetchTrial u1State 0).2.toOption.map (·.2.params) = some [("p", ⟨"1/2", ⟨0, false, "F"⟩⟩)] := by decide

open C01GrpcCompose in
theorem proxy_primary (s : Spec) (u : String) (op : Op) (rpc : Rpc) (h : rpcOf op = some rpc) :
    proxyStep s u op = ((step s (normOp u op)).1, wireOut rpc (step s (normOp u op)).2) := by
  rw [← proxyStepOver_ideal, proxyStepOver_primary ideal s u op rpc h (step_answer s _).shape]
  cases op with
  | getAllTrials sid sts =>
    -- the backend is asked for all states and the client filters: the contract's own filter
    simp only [ideal, backendOp, normOp, clientPost, step]
    cases s.study? sid with
    | none => rfl
    | some st => simp [List.filter_filter, stateIn]
  | _ => rfl

example : rpcOf (.getTrial 0) = some .getTrial ∧
    proxyStep Storage.init "u" (.getTrial 0) = (Storage.init, .ok (.err .keyError)) := by decide

/-- `get_trial_number_from_id`, `get_trial_param`, `get_n_trials`, `get_best_trial` are not rpcs: the
`BaseStorage` code runs in the client on what `GetTrial` / `GetTrials` / `GetStudyDirections` returned; the
answer is the backend's own, in normal form -/
theorem proxy_derived (s : Spec) (u : String) (op : Op) (h : rpcOf op = none) :
    proxyStep s u op = ((step s op).1, .ok (normOut (step s op).2)) := by
  have hk1 : transport .getTrial .keyError = .ok (.err .keyError) := by decide
  have hk2 : transport .getTrials .keyError = .ok (.err .keyError) := by decide
  cases op <;> simp only [rpcOf, reduceCtorEq] at h
  case getTrialNumberFromId tid =>
    simp only [proxyStep, fetchTrial_spec, step]
    cases s.trial? tid with
    | none => simp [hk1, normOut]
    | some t => simp [normOut, normTrial]
  case getTrialParam tid name =>
    simp only [proxyStep, fetchTrial_spec, step]
    cases s.trial? tid with
    | none => simp [hk1, normOut]
    | some t =>
      simp only [trialParamOut_norm]
      unfold Cache.trialParamOut
      cases t.params.get? name <;> rfl
  case getNTrials sid states =>
    simp only [proxyStep, fetchAll_spec, step]
    cases s.study? sid with
    | none => simp [hk2, normOut]
    | some st => simp [normOut, List.filter_map, Function.comp_def, normIdTrial, normTrial]
  case getBestTrial sid =>
    cases hst : s.study? sid with
    | none => simp [proxyStep, fetchAll_spec, step, hst, hk2, normOut]
    | some st =>
      rw [step_getBestTrial s sid st hst]
      simp only [proxyStep, fetchAll_spec, hst, servicer, step, finish, recv, List.map_map]
      have : (dirFromProto ∘ dirToProto) = normDir := rfl
      rw [this, bestOut_norm]

example : rpcOf (.getBestTrial 0) = none ∧
    proxyStep Storage.init "u" (.getBestTrial 0) = (Storage.init, .ok (.err .keyError)) := by decide

/-- **proxy_refines_backend** (all operations, all states, all arguments): a call through the proxy leaves the
backend in the state `Storage.step` gives for the operation in normal form, and returns / raises what
`Storage.step` answers, in normal form. -/
theorem proxy_refines_backend (s : Spec) (u : String) (op : Op) :
    proxyStep s u op = ((step s (normOp u op)).1, .ok (normOut (step s (normOp u op)).2)) := by
  cases hr : rpcOf op with
  | none => rw [normOp_of_derived u op hr]; exact proxy_derived s u op hr
  | some rpc =>
    rw [proxy_primary s u op rpc hr, wireOut_of_raisable]
    exact fun e hout => step_err_raisable s (normOp u op) rpc e (by rw [rpcOf_normOp]; exact hr) hout

/-- `proxy_refines_backend` for the state alone: the backend's state is the contract's -/
theorem proxy_state_refines (s : Spec) (u : String) (op : Op) :
    (proxyStep s u op).1 = (step s (normOp u op)).1 := by
  cases hr : rpcOf op with
  | none => rw [normOp_of_derived u op hr, proxy_derived s u op hr]
  | some rpc => rw [proxy_primary s u op rpc hr]

/-- a history through the proxy drives the backend through a history of the contract model -/
theorem proxy_run_is_contract_run (s : Spec) (h : List (String × Op)) :
    (proxyRun s h).1 = C01.after s (h.map (fun p => normOp p.1 p.2)) := by
  induction h generalizing s with
  | nil => rfl
  | cons hd t ih =>
    obtain ⟨u, op⟩ := hd
    simp only [proxyRun, List.map_cons, C01.after_cons, ih, proxy_state_refines]

/-- every invariant of C01 holds of the proxied storage; for instance `numbers_dense` -/
theorem proxy_numbers_dense (h : List (String × Op)) : C01.Numbered (proxyRun Storage.init h).1 := by
  rw [proxy_run_is_contract_run]; exact C01.numbers_dense _

/-- the U1 case: the backend (with the U1 bit set, as SQLite behaves) rejects the conflicting template with
`ValueError`, and that is what the caller of the proxy gets (before the repair: `grpc.RpcError(UNKNOWN)`) -/
example :
    (step u1State (normOp "u" (.createTrial 0 (some u1Template) true))).2 = .err .valueError ∧
    proxyStep u1State "u" (.createTrial 0 (some u1Template) true) = (u1State, .ok (.err .valueError)) := by decide

/-- non-vacuity of the refinement: a history that is *changed* by the wire at every normal-form clause
(NOT_SET direction, empty name, values `[]` in a template and in `set_trial_state_values`, unsorted
dictionaries) and whose answers come back through every reply shape -/
example :
    let h : List (String × Op) := [
      ("u1", .createStudy "" [0]), ("", .createTrial 0 (some exampleTemplate) false), ("", .createTrial 0 none false),
      ("", .setTrialStateValues 1 .fail (some [])), ("", .setTrialUserAttr 1 "k" "v"), ("", .getAllTrials 0 (some [.complete])),
      ("", .getStudyDirections 0), ("", .getAllStudies), ("", .getBestTrial 0), ("", .getTrialParam 0 "z")]
    (proxyRun Storage.init h).2.drop 5 =
      [.ok (.trials [(0, normTrial (mkTrial 0 0 (some exampleTemplate)))]), .ok (.nats [2]),
       .ok (.studies [(0, ⟨"no-name-u1", [2], [], [], []⟩)]), .ok (.err .valueError), .ok (.str "1/2")] ∧
    (proxyRun Storage.init h).1.trials.map (·.values) = [none, none] := by
  decide

end OptunaVerif.C01Grpc
