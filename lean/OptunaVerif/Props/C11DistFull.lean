import OptunaVerif.Props.C11DistGen
import OptunaVerif.Model.Suggest
/-!
# C11 (translator tie, second part) — the bodies of `optuna/distributions.py` with loops, `json_to_distribution`, `_convert_old…`

Same namespace as `Props/C11DistGen.lean` (`C11DistGen`), whose `d_simp`, `initD_remk` and `call1_*` lemmas are used here.

The loops `for index, choice in enumerate(self.choices)` of `to_internal_repr` and `for cls in DISTRIBUTION_CLASSES` of `json_to_distribution`
are given their inductions here, and with them and the constructor lemma `initD_remk` of `Props/C11DistGen.lean` (any caller state)
`call_toInternal_categorical` becomes an equality with the hand model for all inputs, `call_getSingleValue` for every single-point
distribution, `interp_jsonToDistribution` for every typed document (`TypedDoc`), `interp_convertOld_partial` for the five classes it
covers.  The two long bodies are cut along their control flow: `_convert_old…` into the
dispatch on the class and its last two statements (`convTail_runs`, through `eqV_instV`: `==` on two objects is `Dist.pyEq`);
`json_to_distribution` into the loop over the classes (`class_loop`, the class a variable) and the constructor call `cls(**attributes)`,
which on the attributes `_asdict()` lists is the hand constructor again (`initD_asdict`, with `C11.parse_print` on the side of the hand model);
the legacy layout is the base class's constructor on the values read (`json_legacy_runs`, with `C11.parse_abbrevDoc`).
The headline of C11 (`gen_json_roundtrip`, `gen_parse_idempotent`, the legacy layout, the external/internal round trip for all
classes) is restated for the interpreter of the code as written today.
-/
namespace OptunaVerif.C11DistGen
open OptunaVerif.Dist OptunaVerif.DistIR
open OptunaVerif.Generated
open OptunaVerif.Generated.DistMethods (program)

/-! ## the loop `for index, choice in enumerate(self.choices):` of `CategoricalDistribution.to_internal_repr` -/

def enumLoopBody : Stmt :=
  .ite (.call2 .choiceEqual (.var "param_value_in_external_repr") (.var "choice")) (.ret (.var "index")) .skip

def enumItems (k : Nat) (l : List Tok) : List (List (String × Val)) :=
  ((List.range' k l.length).zip l).map (fun p => [("index", Val.tok (.int p.1)), ("choice", Val.tok p.2)])

def enumFlow (k : Nat) (v : Tok) (l : List Tok) : Flow :=
  match firstIdx (fun c => v.catEq c) l with
  | some i => .ret (.tok (.int ((k + i : Nat) : Int)))
  | none => .next

theorem enumLoopBody_runs (initD : InitD) (superD : SuperD) (v t : Tok) (k : Int) (s : MSt)
    (hv : s.locals.get? "param_value_in_external_repr" = some (.tok v)) :
    exec program.call0 initD superD enumLoopBody (bindAll s [("index", .tok (.int k)), ("choice", .tok t)]) =
      (bindAll s [("index", .tok (.int k)), ("choice", .tok t)], if v.catEq t then .ret (.tok (.int k)) else .next) := by
  cases hp : v.catEq t <;>
    d_simp [enumLoopBody, bindAll, AList.get?_set_same, AList.get?_set_other, hv, Program.call0, hp]

theorem enum_loop (initD : InitD) (superD : SuperD) (v : Tok) (l : List Tok) (k : Nat) (s : MSt)
    (hv : s.locals.get? "param_value_in_external_repr" = some (.tok v)) :
    (forLoop (exec program.call0 initD superD enumLoopBody) (enumItems k l) s).2 = enumFlow k v l ∧
    (forLoop (exec program.call0 initD superD enumLoopBody) (enumItems k l) s).1.warns = s.warns := by
  induction l generalizing k s with
  | nil => exact ⟨rfl, rfl⟩
  | cons t rest ih =>
    have hitems : enumItems k (t :: rest) = [("index", Val.tok (.int k)), ("choice", Val.tok t)] :: enumItems (k + 1) rest := by
      simp [enumItems, List.range']
    rw [hitems, forLoop, enumLoopBody_runs initD superD v t k s hv]
    cases hp : v.catEq t with
    | true => simp [enumFlow, firstIdx, hp, bindAll, setLocal]
    | false =>
      obtain ⟨h1, h2⟩ := ih (k + 1) (bindAll s [("index", Val.tok (.int k)), ("choice", Val.tok t)])
        (by simp [bindAll, setLocal, AList.get?_set_other, hv])
      refine ⟨?_, h2⟩
      simp only [Bool.false_eq_true, if_false, h1, enumFlow, firstIdx]
      cases firstIdx (fun c => v.catEq c) rest with
      | none => simp [hp]
      | some i => simp [hp, Nat.add_assoc, Nat.add_comm 1 i]

def catIndexV (cs : List Tok) (v : Tok) : Except Exn Val :=
  match catIndex cs v with
  | .ok i => .ok (.tok (.int i))
  | .error e => .error (.err e)

theorem call1_toInternal_cat (cs : List Tok) (v : Tok) (s : MSt) :
    program.call1 .toInternal [instV (.cat cs), .tok v] s = (s, catIndexV cs v) := by
  have hb : (.ite (.call2 .choiceEqual (.var "param_value_in_external_repr") (.var "choice")) (.ret (.var "index")) .skip : Stmt) = enumLoopBody := rfl
  -- `choices.index(v)` (first `==`) finds `i`: the model's NaN-aware search finds the same `i`, since `v` is then no NaN
  -- (`firstIdx_pyEq_catEq`); it raises ValueError: the `enumerate` loop is that search from index 0 (`enum_loop`)
  cases h1 : firstIdx (fun c => v.pyEq c) cs with
  | some i =>
    have h2 := firstIdx_pyEq_catEq v cs i h1
    d_simp [Program.call2, Program.call1, selfOf, instV, instDict, clsOf, Cls.isSub, List.any, DistMethods.catToInternal, tupleIndexV, h1, catIndexV, catIndex, h2]
  | none =>
    have hE := enum_loop noInit noSuper v cs 0
      { locals := [("param_value_in_external_repr", .tok v)], self := some (.cat, [("choices", .arr cs)]), warns := s.warns }
      (by simp [AList.get?])
    have hitems : enumItems 0 cs = ((List.range cs.length).zip cs).map (fun p => [("index", Val.tok (.int p.1)), ("choice", Val.tok p.2)]) := by
      simp [enumItems, List.range_eq_range']
    rw [hitems] at hE
    d_simp [Program.call2, Program.call1, selfOf, instV, instDict, clsOf, Cls.isSub, List.any, DistMethods.catToInternal, tupleIndexV, h1, catIndexV, catIndex, iterItems, hb]
    obtain ⟨hf, hw⟩ := hE
    revert hf hw
    generalize forLoop (exec program.call0 noInit noSuper enumLoopBody) _ _ = r
    intro hf hw
    obtain ⟨s', fl⟩ := r
    simp only at hf hw
    subst hf
    unfold enumFlow
    cases firstIdx (fun c => v.catEq c) cs <;> simp [hw]

/-- `CategoricalDistribution.to_internal_repr` as written today (`choices.index(v)`; on ValueError the
NaN-aware loop over `enumerate(choices)` with `_categorical_choice_equal`; else ValueError) IS `Dist.catIndex`: the first choice equal
to `v` under `==`-or-both-NaN, for every list of choices and every value -/
theorem call_toInternal_categorical (cs : List Tok) (v : Tok) :
    (interpCall program .toInternal [instV (.cat cs), .tok v] asRat).res = liftR ((Dist.cat cs).toInternal v) := by
  unfold interpCall outOf
  have : program.call2 .toInternal [instV (.cat cs), .tok v] {} = program.call1 .toInternal [instV (.cat cs), .tok v] {} := rfl
  rw [this, call1_toInternal_cat]
  simp only [catIndexV, Dist.toInternal]
  cases catIndex cs v <;> simp [asRat, liftR, Except.map]
example : (interpCall program .toInternal [instV (.cat [.str "a", .nan, .int 3]), .tok .nan] asRat).res = .ok 1 := by decide +kernel

/-- For a single-point distribution `_get_single_value` returns `low` (numeric classes) / the first choice
(`Suggest.singleValue`).  The `.cat []` branch of the statement never applies: a categorical without choices is not `single`. -/
theorem call_getSingleValue (d : Dist) (hs : d.single = true) :
    (interpCall program .getSingleValue [instV d] asTok).res =
      (match d with
       | .cat [] => .error .indexError
       | _ => .ok (Suggest.singleValue d)) := by
  have h1 := call1_single d
  rw [hs] at h1
  cases d with
  | flt c low high log step | int c low high log step =>
    simp only [instV, instDict, clsOf] at h1
    d_simp [interpCall, outOf, Program.call2, instV, instDict, clsOf, DistMethods.getSingleValue, h1, Suggest.singleValue, asTok]
  | cat cs =>
    simp only [instV, instDict, clsOf] at h1
    cases cs <;>
      d_simp [interpCall, outOf, Program.call2, instV, instDict, clsOf, DistMethods.getSingleValue, h1, Suggest.singleValue, asTok]

theorem warnsOf_wf (d : Dist) (h : WF d) : warnsOf d = [] := by
  unfold warnsOf
  rw [C11.remk_of_wf d h]
  cases d with
  | flt c low high log step =>
    cases step with
    | none => rfl
    | some st =>
      obtain ⟨hs, k, _, hk⟩ := h.2.2.1 st rfl
      simp [(ratMod_eq_zero_iff (ne_of_gt hs)).2 ⟨k, hk⟩]
  | int c low high log step =>
    obtain ⟨_, _, hs, hg, _⟩ := h
    simp [Int.fmod_eq_emod_of_nonneg _ (le_of_lt hs), hg]
  | cat cs => rfl

theorem initD_wf (d : Dist) (h : WF d) (s : MSt) : program.initD (clsOf d) (ctorKw d) s = (s, .ok (instV d)) := by
  rw [initD_remk d (C11.ClsOK_of_wf d h), C11.remk_of_wf d h, warnsOf_wf d h, List.append_nil]
  rfl

/-- the warnings and the value `_convert_old_distribution_to_new_distribution` must produce -/
def convertSpec (d : Dist) (sup : Bool) : Out Dist :=
  ⟨if (clsOf d != clsOf (convertOld d)) && !sup then [.converted] else [], .ok (convertOld d)⟩

/-- the end of `_convert_old_distribution_to_new_distribution`, as generated: the FutureWarning, the return -/
def convTail : Stmt :=
  .seq (.ite (.and (.ne (.var "new_distribution") (.var "distribution")) (.not (.var "suppress_warning"))) (.warn .converted) .skip)
    (.ret (.var "new_distribution"))

theorem convTail_runs (C : CallD) (I : InitD) (S : SuperD) (d d' : Dist) (sup : Bool) (s : MSt)
    (hn : s.locals.get? "new_distribution" = some (instV d')) (hd : s.locals.get? "distribution" = some (instV d))
    (hs : s.locals.get? "suppress_warning" = some (boolV sup)) :
    exec C I S convTail s =
      ({ s with warns := if !d'.pyEq d && !sup then s.warns ++ [.converted] else s.warns }, .ret (instV d')) := by
  cases hp : d'.pyEq d <;> cases sup <;> d_simp [convTail, hn, hd, hs, eqV_instV, hp]

theorem pyEq_convertOld (d : Dist) : (convertOld d).pyEq d = (clsOf d == clsOf (convertOld d)) := by
  cases d with
  | flt c l h g st => cases c <;> simp [convertOld, Dist.pyEq, clsOf]
  | int c l h g st => cases c <;> simp [convertOld, Dist.pyEq, clsOf]
  | cat cs => simp [convertOld, Dist.pyEq, clsOf, listCatEq_refl]

def seqHead : Stmt → Stmt
  | .seq a _ => a
  | s => s

/-- `_convert_old_distribution_to_new_distribution` as written today returns `Dist.convertOld d` for every
well-formed FloatDistribution, IntDistribution, CategoricalDistribution (unchanged, no warning), DiscreteUniformDistribution (->
FloatDistribution with `step = q`) and IntUniformDistribution (-> IntDistribution), re-running today's constructor for the deprecated
ones (no high adjustment happens: the range is already a whole number of steps), and warns (FutureWarning) exactly when the class changed
and `suppress_warning` is false.  PARTIAL: UniformDistribution, LogUniformDistribution and IntLogUniformDistribution are excluded (statement
identical); they are covered by the `decide +kernel` instances below, by the differential and by the K stream. -/
theorem interp_convertOld_partial (d : Dist) (h : WF d) (sup : Bool)
    (hc : clsOf d ≠ .flt .uniform ∧ clsOf d ≠ .flt .logUniform ∧ clsOf d ≠ .int .intLogUniform) :
    interpCall program .convertOld [instV d, boolV sup] ofInst = convertSpec d sup := by
  have hb : DistMethods.convertOld = .seq (seqHead DistMethods.convertOld) convTail := rfl
  -- the dispatch on the class stores the object of `convertOld d`; for a deprecated class it is built by today's constructor
  have hchain : ∀ w, exec program.call1 program.initD noSuper (seqHead DistMethods.convertOld)
        { locals := [("distribution", instV d), ("suppress_warning", boolV sup)], self := none, warns := w } =
      ({ locals := [("distribution", instV d), ("suppress_warning", boolV sup), ("new_distribution", instV (convertOld d))],
         self := none, warns := w }, .next) := by
    intro w
    cases d with
    | cat cs => d_simp [seqHead, DistMethods.convertOld, instV, clsOf, convertOld]
    | flt c low high log step =>
      have hcls : FClsOK c log step := h.2.2.2
      cases c with
      | float => d_simp [seqHead, DistMethods.convertOld, instV, clsOf, convertOld]
      | uniform => exact absurd rfl hc.1
      | logUniform => exact absurd rfl hc.2.1
      | discreteUniform =>
        obtain ⟨rfl, hst⟩ := hcls
        cases step with
        | none => exact absurd rfl hst
        | some q =>
          have hi := initD_wf _ (C11.convertOld_preserves _ h).1
          simp only [convertOld, clsOf, ctorKw, ctorArgs, fltV, boolV, optFltV] at hi
          d_simp [seqHead, DistMethods.convertOld, instV, clsOf, instDict, optStepJ, convertOld, ctorArgs, hi]
    | int c low high log step =>
      have hcls : IClsOK c log := h.2.2.2.2
      cases c with
      | int => d_simp [seqHead, DistMethods.convertOld, instV, clsOf, convertOld]
      | intUniform =>
        obtain rfl : log = false := hcls
        have hi := initD_wf _ (C11.convertOld_preserves _ h).1
        simp only [convertOld, clsOf, ctorKw, ctorArgs, iv, boolV] at hi
        d_simp [seqHead, DistMethods.convertOld, instV, clsOf, instDict, convertOld, ctorArgs, hi]
      | intLogUniform => exact absurd rfl hc.2.2
  have hexec := fun w => (exec_seq_next (b := convTail) (hchain w)).trans
    (convTail_runs _ _ _ d (convertOld d) sup _ rfl rfl rfl)
  rw [← hb, pyEq_convertOld] at hexec
  rw [interpCall, Program.call2, prog_convertOld, runFn_of_exec rfl (hexec _)]
  cases hcl : (clsOf d == clsOf (convertOld d)) <;> cases sup <;> simp [outOf, convertSpec, ofInst_instV, hcl, bne, Flow.result]
example : interpCall program .convertOld [instV (.flt .uniform 0 4 false none), boolV false] ofInst = convertSpec (.flt .uniform 0 4 false none) false := by
  decide +kernel
example : interpCall program .convertOld [instV (.flt .logUniform 1 4 true none), boolV true] ofInst = convertSpec (.flt .logUniform 1 4 true none) true := by
  decide +kernel
example : interpCall program .convertOld [instV (.int .intLogUniform 1 8 true 1), boolV false] ofInst = ⟨[.converted], .ok (.int .int 1 8 true 1)⟩ := by
  decide +kernel
example : convertSpec (.int .intLogUniform 1 8 true 1) false = ⟨[.converted], .ok (.int .int 1 8 true 1)⟩ := by decide

theorem initD_congr (c : Cls) (args args' : List (String × Val)) (s : MSt)
    (h : bindKw (initParams c) args = bindKw (initParams c) args') : program.initD c args s = program.initD c args' s := by
  unfold Program.initD Program.runInitBody
  rw [h]

def nameDoc (n : String) (o : JObj) : JDoc := [("name", .v (.atom (.str n))), ("attributes", .obj o)]

/-- **typed documents**: the `{"name", "attributes"}` layout with the attributes `distribution_to_json` writes for the class (its
`_asdict()` keys in their order) carrying values of the parameter's own JSON type — floats for float classes, ints for int classes, a bool
`log`, `step` a float or null, an array of choices — for ARBITRARY values (valid or not: the constructor's validation is part of the
equality); an unknown class name with any attributes; the legacy `{"type": "float" | "int" | "categorical", …}` layout in the key order
`low, high, log, step`, and the int layout with its defaults. -/
inductive TypedDoc : JDoc → Prop
  | float (low high : Rat) (log : Bool) (step : Option Rat) :
      TypedDoc (nameDoc "FloatDistribution" [("step", .atom (optStep step)), ("low", .atom (.flt low)), ("high", .atom (.flt high)), ("log", .atom (.bool log))])
  | uniform (low high : Rat) : TypedDoc (nameDoc "UniformDistribution" [("low", .atom (.flt low)), ("high", .atom (.flt high))])
  | logUniform (low high : Rat) : TypedDoc (nameDoc "LogUniformDistribution" [("low", .atom (.flt low)), ("high", .atom (.flt high))])
  | discreteUniform (low high q : Rat) :
      TypedDoc (nameDoc "DiscreteUniformDistribution" [("low", .atom (.flt low)), ("high", .atom (.flt high)), ("q", .atom (.flt q))])
  | int (low high : Int) (log : Bool) (step : Int) :
      TypedDoc (nameDoc "IntDistribution" [("log", .atom (.bool log)), ("step", .atom (.int step)), ("low", .atom (.int low)), ("high", .atom (.int high))])
  | intUniform (low high step : Int) :
      TypedDoc (nameDoc "IntUniformDistribution" [("step", .atom (.int step)), ("low", .atom (.int low)), ("high", .atom (.int high))])
  | intLogUniform (low high step : Int) :
      TypedDoc (nameDoc "IntLogUniformDistribution" [("step", .atom (.int step)), ("low", .atom (.int low)), ("high", .atom (.int high))])
  | cat (cs : List Tok) : TypedDoc (nameDoc "CategoricalDistribution" [("choices", .arr cs)])
  | unknown (n : String) (o : JObj)
      (h : n ≠ "IntDistribution" ∧ n ≠ "IntLogUniformDistribution" ∧ n ≠ "IntUniformDistribution" ∧ n ≠ "FloatDistribution" ∧
        n ≠ "UniformDistribution" ∧ n ≠ "LogUniformDistribution" ∧ n ≠ "DiscreteUniformDistribution" ∧ n ≠ "CategoricalDistribution") :
      TypedDoc (nameDoc n o)
  | legacyFloat (low high : Rat) (log : Bool) (step : Option Rat) :
      TypedDoc [("type", .v (.atom (.str "float"))), ("low", .v (.atom (.flt low))), ("high", .v (.atom (.flt high))),
        ("log", .v (.atom (.bool log))), ("step", .v (.atom (optStep step)))]
  | legacyInt (low high : Int) (log : Bool) (step : Int) :
      TypedDoc [("type", .v (.atom (.str "int"))), ("low", .v (.atom (.int low))), ("high", .v (.atom (.int high))),
        ("log", .v (.atom (.bool log))), ("step", .v (.atom (.int step)))]
  | legacyIntDefaults (low high : Int) :
      TypedDoc [("type", .v (.atom (.str "int"))), ("low", .v (.atom (.int low))), ("high", .v (.atom (.int high)))]
  | legacyCat (cs : List Tok) : TypedDoc [("type", .v (.atom (.str "categorical"))), ("choices", .v (.arr cs))]

theorem tok_optStep (step : Option Rat) : Val.tok (optStep step) = optFltV step := by cases step <;> rfl

/-- the body of `for cls in DISTRIBUTION_CLASSES:`, as generated -/
def clsLoopBody : Stmt :=
  .ite (.eq (.index (.var "json_dict") (.strLit "name")) (.className (.var "cls")))
    (.ret (.constructKw (.var "cls") (.index (.var "json_dict") (.strLit "attributes")))) .skip

/-- the keyword arguments of `cls(**attributes)` -/
def kwOf (o : JObj) : List (String × Val) := o.map (fun p => (p.1, jv1V p.2))

theorem clsLoopBody_runs (S : SuperD) (n : String) (o : JObj) (a : Cls) (s : MSt)
    (hd : s.locals.get? "json_dict" = some (.doc (nameDoc n o))) (hc : s.locals.get? "cls" = some (.cls a)) :
    exec program.call2 program.initD S clsLoopBody s =
      if a.name = n then ((program.initD a (kwOf o) s).1, flowOf (program.initD a (kwOf o) s).2) else (s, .next) := by
  by_cases hn : a.name = n
  · d_simp [clsLoopBody, hd, hc, nameDoc, hn, kwOf, jvV]
    generalize program.initD a _ s = r
    rcases r with ⟨s', _ | _⟩ <;> rfl
  · d_simp [clsLoopBody, hd, hc, nameDoc, jvV, hn, Ne.symm hn]

theorem class_loop (S : SuperD) (n : String) (o : JObj) (r : Except Exn Val) (l : List Cls)
    (hi : ∀ c, l.find? (fun c => c.name = n) = some c → ∀ s, (program.initD c (kwOf o) s).2 = r) (s : MSt)
    (hd : s.locals.get? "json_dict" = some (.doc (nameDoc n o))) :
    (forLoop (exec program.call2 program.initD S clsLoopBody) (l.map fun c => [("cls", Val.cls c)]) s).2 =
      if (l.find? (fun c => c.name = n)).isSome then flowOf r else .next := by
  induction l generalizing s with
  | nil => rfl
  | cons a rest ih =>
    have hd' : (setLocal s "cls" (.cls a)).locals.get? "json_dict" = some (.doc (nameDoc n o)) := by
      rw [setLocal, AList.get?_set_other _ _ _ _ (by decide)]; exact hd
    simp only [List.map, forLoop, bindAll, List.foldl]
    rw [clsLoopBody_runs S n o a _ hd' (AList.get?_set_same _ _ _)]
    by_cases hn : a.name = n
    · rw [if_pos hn, hi a (by simp [hn]), List.find?_cons_of_pos (by simpa using hn)]
      cases r <;> rfl
    · have hf : (a :: rest).find? (fun c => c.name = n) = rest.find? (fun c => c.name = n) := List.find?_cons_of_neg (by simpa using hn)
      rw [if_neg hn, hf]
      exact ih (fun c hc => hi c (hf.trans hc)) _ hd'

theorem clsLoopBody_eq : (.ite (.eq (.index (.var "json_dict") (.strLit "name")) (.className (.var "cls")))
    (.ret (.constructKw (.var "cls") (.index (.var "json_dict") (.strLit "attributes")))) .skip : Stmt) = clsLoopBody := rfl

theorem json_named_runs (n : String) (o : JObj) (r : Except Exn Val)
    (hcat : n = "CategoricalDistribution" → ∃ cs, o = [("choices", .arr cs)])
    (hi : ∀ c, allClasses.find? (fun c => c.name = n) = some c → ∀ s, (program.initD c (kwOf o) s).2 = r) (s : MSt) :
    (runFn program.call2 program.initD DistMethods.jsonToDistribution ["json_str"] none [.doc (nameDoc n o)] s).2 =
      if (allClasses.find? (fun c => c.name = n)).isSome then r else .error (.err .valueError) := by
  have hloop := class_loop noSuper n o r allClasses hi
    { locals := [("json_str", .doc (nameDoc n o)), ("json_dict", .doc (nameDoc n o))], self := none, warns := s.warns } (by simp [AList.get?])
  simp only [nameDoc] at hloop
  refine (runFn_snd rfl (fl := if (allClasses.find? (fun c => c.name = n)).isSome then flowOf r else .raised (.err .valueError)) ?_).trans
    (by split <;> [exact result_flowOf r; rfl])
  generalize (allClasses.find? (fun c => c.name = n)).isSome = found at hloop ⊢
  revert hloop
  by_cases hn : n = "CategoricalDistribution"
  · -- the choices, a JSON array, are made a tuple first: the same value here
    obtain ⟨cs, rfl⟩ := hcat hn
    d_simp [DistMethods.jsonToDistribution, clsLoopBody_eq, iterItems, nameDoc, jvV, hn, Cls.name]
    rw [← hn]
    generalize forLoop _ _ _ = p
    obtain ⟨s', fl⟩ := p
    rintro rfl
    cases found <;> [rfl; (cases r <;> rfl)]
  · d_simp [DistMethods.jsonToDistribution, clsLoopBody_eq, iterItems, nameDoc, jvV, hn, Cls.name]
    generalize forLoop _ _ _ = p
    obtain ⟨s', fl⟩ := p
    rintro rfl
    cases found <;> [rfl; (cases r <;> rfl)]

/-- `_asdict()` lists the attributes in the order `__init__` assigned them, `bindKw` in the order of the parameters -/
theorem bindKw_asdict (d : Dist) :
    bindKw (initParams (clsOf d)) (kwOf d.asdict) = bindKw (initParams (clsOf d)) (ctorKw d) := by
  cases d with
  | flt c low high log step => cases c <;> cases step <;> rfl
  | int c low high log step => cases c <;> rfl
  | cat cs => rfl

theorem initD_asdict (d : Dist) (h : C11.ClsOK d) (s : MSt) :
    program.initD (clsOf d) (kwOf d.asdict) s = ({ s with warns := s.warns ++ warnsOf d }, resV (C11.remk d)) :=
  (initD_congr _ _ _ s (bindKw_asdict d)).trans (initD_remk d h s)

theorem class_find (c : Cls) : allClasses.find? (fun c' => c'.name = c.name) = some c := by
  cases c with
  | flt c => cases c <;> decide
  | int c => cases c <;> decide
  | cat => decide

theorem json_print_runs (d : Dist) (h : C11.ClsOK d) (s : MSt) :
    (runFn program.call2 program.initD DistMethods.jsonToDistribution ["json_str"] none [.doc (print d)] s).2 = resV (parse (print d)) := by
  have hp : print d = nameDoc (clsOf d).name d.asdict := by cases d <;> rfl
  rw [C11.parse_print d h, hp]
  refine (json_named_runs _ d.asdict (resV (C11.remk d)) (fun hn => ?_) (fun c hc s => ?_) s).trans (by rw [class_find]; rfl)
  · cases d with
    | flt c _ _ _ _ => cases c <;> simp [clsOf, Cls.name, FCls.name] at hn
    | int c _ _ _ _ => cases c <;> simp [clsOf, Cls.name, ICls.name] at hn
    | cat cs => exact ⟨cs, rfl⟩
  · obtain rfl : clsOf d = c := Option.some.inj ((class_find _).symm.trans hc)
    rw [initD_asdict d h]

theorem json_legacy_runs (d : Dist) (s : MSt) :
    (runFn program.call2 program.initD DistMethods.jsonToDistribution ["json_str"] none [.doc (abbrevDoc d)] s).2 =
      resV (C11.remk (convertOld d)) := by
  refine (runFn_snd rfl (fl := flowOf (resV (C11.remk (convertOld d)))) ?_).trans (result_flowOf _)
  cases d with
  | flt c low high log step =>
    have hi := initD_remk (.flt .float low high log step) trivial
    simp only [clsOf, ctorKw, ctorArgs, C11.remk, fltV, boolV] at hi
    d_simp [DistMethods.jsonToDistribution, abbrevDoc, jvV, getDV, ctorArgs, tok_optStep, hi]
    show _ = flowOf (resV (mkFlt .float low high log step))
    cases mkFlt .float low high log step <;> rfl
  | int c low high log step =>
    have hi := initD_remk (.int .int low high log step) trivial
    simp only [clsOf, ctorKw, ctorArgs, C11.remk, iv, boolV] at hi
    d_simp [DistMethods.jsonToDistribution, abbrevDoc, jvV, getDV, isV, ctorArgs, hi]
    show _ = flowOf (resV (mkInt .int low high log step))
    cases mkInt .int low high log step <;> rfl
  | cat cs =>
    d_simp [DistMethods.jsonToDistribution, abbrevDoc, jvV, initD_cat]
    show _ = flowOf (resV (mkCat cs))
    cases mkCat cs <;> rfl

theorem jsonToDistribution_runs (doc : JDoc) (h : TypedDoc doc) (s : MSt) :
    (runFn program.call2 program.initD DistMethods.jsonToDistribution ["json_str"] none [.doc doc] s).2 = resV (parse doc) := by
  -- a typed document of the `name` layout is `print d` for a `d` of which only `ClsOK` is asked (the `log` / `step` its class fixes: the
  -- values may be invalid, refusing them is the constructor's part of the equality); one of the legacy layout is `abbrevDoc d`
  have named := fun d hd => json_print_runs d hd s
  have legacy := fun d => (json_legacy_runs d s).trans (congrArg resV (C11.parse_abbrevDoc d).symm)
  cases h with
  | float low high log step => exact named (.flt .float low high log step) trivial
  | uniform low high => exact named (.flt .uniform low high false none) ⟨rfl, rfl⟩
  | logUniform low high => exact named (.flt .logUniform low high true none) ⟨rfl, rfl⟩
  | discreteUniform low high q => exact named (.flt .discreteUniform low high false (some q)) ⟨rfl, nofun⟩
  | int low high log step => exact named (.int .int low high log step) trivial
  | intUniform low high step => exact named (.int .intUniform low high false step) rfl
  | intLogUniform low high step => exact named (.int .intLogUniform low high true step) rfl
  | cat cs => exact named (.cat cs) trivial
  | unknown n o h =>
    -- the loop over `DISTRIBUTION_CLASSES` finds nothing: ValueError
    obtain ⟨h1, h2, h3, h4, h5, h6, h7, h8⟩ := h
    have hf : allClasses.find? (fun c => c.name = n) = none := by
      simp [allClasses, Cls.name, FCls.name, ICls.name, h1.symm, h2.symm, h3.symm, h4.symm, h5.symm, h6.symm, h7.symm, h8.symm]
    have hp : parse (nameDoc n o) = .error .valueError := by
      simp [parse, nameDoc, jget, fromAttrs, h1, h2, h3, h4, h5, h6, h7, h8]
    rw [hp, json_named_runs n o (.error .unrep) (fun hn => absurd hn h8) (fun c hc => by rw [hf] at hc; cases hc) s, hf]
    rfl
  | legacyFloat low high log step => exact legacy (.flt .float low high log step)
  | legacyInt low high log step => exact legacy (.int .int low high log step)
  | legacyCat cs => exact legacy (.cat cs)
  | legacyIntDefaults low high =>
    -- no `step` (-> 1), no `log` (-> False)
    have hi := initD_remk (.int .int low high false 1) trivial
    simp only [clsOf, ctorKw, ctorArgs, C11.remk, iv, boolV] at hi
    have hp : parse [("type", .v (.atom (.str "int"))), ("low", .v (.atom (.int low))), ("high", .v (.atom (.int high)))] =
        mkInt .int low high false 1 := by
      simp [parse, jget, fromAbbrev, asInt, asBoolD, Tok.num?, bind, Except.bind, pure, Except.pure, truncI_intCast]
    refine (runFn_snd rfl (fl := flowOf (resV (mkInt .int low high false 1))) ?_).trans (by rw [result_flowOf, hp])
    d_simp [DistMethods.jsonToDistribution, jvV, getDV, isV, ctorArgs, hi]
    cases mkInt .int low high false 1 <;> rfl

/-- `json_to_distribution` as written today (the `"name" in json_dict` test, the tuple conversion of
categorical choices, the loop over `DISTRIBUTION_CLASSES` with `cls(**attributes)` running today's `__init__`, the unknown-class ValueError;
the legacy layout with its defaults) IS `Dist.parse` on every typed document — value or exception (TypeError / ValueError classes included) -/
theorem interp_jsonToDistribution (doc : JDoc) (h : TypedDoc doc) : (interpParse program doc).res = liftR (parse doc) := by
  unfold interpParse outOf
  rw [prog_jsonToDistribution, jsonToDistribution_runs doc h]
  exact outOf_resV {} (parse doc)

/-- OUTSIDE the typed documents the hand model and the code differ: non-integral numbers given to
an int class.  `Dist.fromAttrs` truncates first (`int(1.5) = 1`, `int(1.2) = 1`: a valid single-point `IntDistribution(1, 1)`), the code
validates the raw values first (`1.5 > 1.2`: ValueError) — replayed on the real `json_to_distribution` by the harness on every run. -/
theorem parse_untyped_disagreement_witness :
    parse (nameDoc "IntDistribution" [("low", .atom (.flt (3/2))), ("high", .atom (.flt (6/5)))]) = .ok (.int .int 1 1 false 1) ∧
    (interpParse program (nameDoc "IntDistribution" [("low", .atom (.flt (3/2))), ("high", .atom (.flt (6/5)))])).res = .error (.err .valueError) := by
  refine ⟨by decide +kernel, ?_⟩
  -- the loop reaches `IntDistribution`, whose `__init__` compares the raw `high < low` first
  have hlt : (6 : Rat) / 5 < 3 / 2 := by norm_num
  d_simp [interpParse, outOf, nameDoc, DistMethods.jsonToDistribution, iterItems, allClasses, forLoop, bindAll, jvV, Cls.name, FCls.name,
    ICls.name, Program.initD, Program.runInitBody, Program.initBody, bindKw, initParams, DistMethods.intInit, hlt]

theorem print_typed (d : Dist) (h : WF d) : TypedDoc (print d) := by
  cases d with
  | flt c low high log step =>
    cases c
    · exact TypedDoc.float low high log step
    · exact TypedDoc.uniform low high
    · exact TypedDoc.logUniform low high
    · cases step with
      | none => exact absurd rfl h.2.2.2.2
      | some q => exact TypedDoc.discreteUniform low high q
  | int c low high log step =>
    cases c
    · exact TypedDoc.int low high log step
    · exact TypedDoc.intUniform low high step
    · exact TypedDoc.intLogUniform low high step
  | cat cs => exact TypedDoc.cat cs

/-- For the code as written today: `json_to_distribution(distribution_to_json(d)) = d` for every well-formed
distribution of each of the eight classes — `distribution_to_json` and `json_to_distribution` both run by the interpreter of their
generated bodies (with today's `_asdict`, `__init__`s and high adjustments as callees) -/
theorem gen_json_roundtrip (d : Dist) (h : WF d) :
    ∃ doc, (interpPrint program d).res = .ok doc ∧ (interpParse program doc).res = .ok d := by
  refine ⟨print d, gen_print_eq d, ?_⟩
  rw [interp_jsonToDistribution (print d) (print_typed d h), C11.json_roundtrip d h]
  rfl
example : (interpParse program (print (.flt .discreteUniform 0 1 false (some (1/2))))).res = .ok (.flt .discreteUniform 0 1 false (some (1/2))) := by
  have h : WF (.flt .discreteUniform 0 1 false (some (1/2))) :=
    ⟨by norm_num, by simp, fun s hs => by cases hs; exact ⟨by norm_num, 2, by norm_num, by norm_num⟩, rfl, by simp⟩
  rw [interp_jsonToDistribution _ (print_typed _ h), C11.json_roundtrip _ h]
  rfl

/-- Whatever `json_to_distribution` returns for a typed document is a fixed point of print-then-parse:
serialising it and parsing again gives the same distribution (legacy layout included: a distribution read from `{"type": …}` is written in
the `{"name", "attributes"}` layout and read back unchanged) -/
theorem gen_parse_idempotent (doc : JDoc) (ht : TypedDoc doc) (d : Dist) (h : (interpParse program doc).res = .ok d) :
    (interpPrint program d).res = .ok (print d) ∧ (interpParse program (print d)).res = .ok d := by
  rw [interp_jsonToDistribution doc ht] at h
  have hw := C11.parse_wf doc d (liftR_ok h)
  refine ⟨gen_print_eq d, ?_⟩
  rw [interp_jsonToDistribution (print d) (print_typed d hw), C11.json_roundtrip d hw]
  rfl

/-- The legacy layout: a well-formed base-class distribution written as `{"type": "float" | "int" | "categorical",
"low", "high", "log", "step" / "choices"}` is read by today's `json_to_distribution` as that distribution -/
theorem gen_legacy_parse (d : Dist) (h : WF d) (hbase : convertOld d = d) : (interpParse program (abbrevDoc d)).res = .ok d := by
  have ht : TypedDoc (abbrevDoc d) := by
    cases d with
    | flt c low high log step => exact TypedDoc.legacyFloat low high log step
    | int c low high log step => exact TypedDoc.legacyInt low high log step
    | cat cs => exact TypedDoc.legacyCat cs
  rw [interp_jsonToDistribution _ ht, C11.abbrev_parse d h hbase]
  rfl
example : (interpParse program [("type", .v (.atom (.str "int"))), ("low", .v (.atom (.int 1))), ("high", .v (.atom (.int 9)))]).res =
    .ok (.int .int 1 9 false 1) := by decide +kernel

/-- `to_internal_repr` for all eight classes, on every value but ±inf -/
theorem call_toInternal (d : Dist) (v : Tok) (hv : v ≠ .pinf ∧ v ≠ .ninf) :
    (interpCall program .toInternal [instV d, .tok v] asRat).res = liftR (d.toInternal v) := by
  cases d with
  | cat cs => exact call_toInternal_categorical cs v
  | flt c low high log step => exact call_toInternal_numeric _ v (by intro cs; simp) hv
  | int c low high log step => exact call_toInternal_numeric _ v (by intro cs; simp) hv

/-- For the code as written today, ALL eight classes: an external value `v` (not ±inf) that
`to_internal_repr` accepts as `q` with `_contains(q)` comes back from `to_external_repr(q)` as a `t` with `v == t` (Python `==`, or both
NaN).  Floats: `t = q`.  Ints: `t = int(q)` — an int parameter given as the integral float `4.0` (or `True`) comes back as the `int` `4`
(`1`): equal, of another type.  Categoricals: `t` is the FIRST choice equal to `v` — a NaN value finds the first NaN choice (equal in the
both-NaN sense only), `1` given where the choices are `(True, 1)` comes back as `True`. -/
theorem gen_external_internal_roundtrip_all (d : Dist) (v : Tok) (q : Rat) (h : WF d) (hv : v ≠ .pinf ∧ v ≠ .ninf)
    (hi : (interpCall program .toInternal [instV d, .tok v] asRat).res = .ok q)
    (hc : (interpCall program .contains [instV d, fltV q] asBool).res = .ok true) :
    ∃ t, (interpCall program .toExternal [instV d, fltV q] asTok).res = .ok t ∧ v.catEq t = true := by
  rw [call_toInternal d v hv] at hi
  rw [call_contains d q h] at hc
  have hc' : d.contains q = true := by simpa using hc
  obtain ⟨t, ht, heq⟩ := C11.external_internal_roundtrip d v q h (liftR_ok hi) hc'
  exact ⟨t, call_toExternal d q t ht, heq⟩
example : (interpCall program .toInternal [instV (.cat [.str "a", .nan]), .tok .nan] asRat).res = .ok 1 ∧
    (interpCall program .toExternal [instV (.cat [.str "a", .nan]), fltV 1] asTok).res = .ok .nan := by decide +kernel
example : (interpCall program .toInternal [instV (.cat [.bool true, .int 1]), .tok (.int 1)] asRat).res = .ok 0 := by decide +kernel

end OptunaVerif.C11DistGen
