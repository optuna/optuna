import OptunaVerif.Props.C03
import OptunaVerif.Props.C06Run
/-!
# C03 for the threads of ONE `JournalStorage` object (and what follows for several processes)

`JournalStorage` keeps one replica (`_replay_result`) per object; every public method runs inside
`with self._thread_lock:` (T-lock table `LockTable.journal`, all rows `whole` / `preludeThenLocked`: the
prelude builds the record from the arguments only) and, inside the lock, appends its record and syncs
before it touches the replica (`C06FrontGen.front_disciplined`).  The threads of one object speak under
different worker ids (`worker_id` = prefix + thread ident) but share the replica.

* `objCall w op` — the effect of one public call made under worker id `w` on the pair (shared log, this
  object's replica), through the GENERATED front end and handlers; for a writer on a replica that has read the
  whole log it is the `call w op` event of `Model/JournalRun.lean` (`objCall_is_call_event`).
* `denoteJ` / `journal_progs_denote` — every method of the regenerated lock table has a generated front-end
  method that is `disciplined`, and denotes ONE atomic step of the thread model with effect `objCall`.
* `journal_threads_sequential` — any number of threads of one object, any schedule: the answers are those of
  the calls run one at a time in completion order (each thread's order preserved).
* `journal_threads_linearizable_partial` — that composed with `C06FrontGen.frontCall_eq` (GENERATED front end +
  handlers = hand model), `Journal.apply_refines_step` (hand model = contract) and `front_getter_is_contract_read`:
  along that order errors, reads and state changes are the contract's.  PARTIAL: see the theorem.
* `processes_linearize_in_log_order_partial` — several processes on one file: what `C06Run` gives, with the
  issuer hypothesis `hpre`; `processes_linearize_in_log_order_freshids_partial` — the same without `hpre`, for
  runs in which worker ids are never re-used, and with the getters (sync, then read).
-/
namespace OptunaVerif.C03Journal
open OptunaVerif.Storage OptunaVerif.Journal OptunaVerif.JournalFrontIR
open OptunaVerif.Generated.LockTable

/-- a call that does all its work on the shared state in one micro-step (inside the lock) -/
def atomic {σ ρ : Type} (f : σ → σ × ρ) (dflt : ρ) : Conc.Call σ (Option ρ) ρ :=
  { n := 1, init := none, micro := fun _ p => ((f p.1).1, some (f p.1).2), result := fun l => l.getD dflt }

theorem atomic_run {σ ρ : Type} (f : σ → σ × ρ) (dflt : ρ) (s : σ) : (atomic f dflt).run s = f s := by
  simp [Conc.Call.run, Conc.Call.iter, atomic]

/-- take the next call of thread `t`, for each `t` of the list in turn: an interleaving of the programs that
keeps every thread's own order -/
def takeSeq {α : Type} : List (List α) → List Nat → Option (List α × List (List α))
  | progs, [] => some ([], progs)
  | progs, t :: rest =>
    match progs[t]? with
    | some (a :: as) =>
      match takeSeq (updAt progs t (fun _ => as)) rest with
      | some (l, rem) => some (a :: l, rem)
      | none => none
    | _ => none

theorem takeSeq_mem {α : Type} : ∀ (ns : List Nat) (progs : List (List α)) (l : List α) (rem : List (List α)),
    takeSeq progs ns = some (l, rem) → ∀ a ∈ l, ∃ p ∈ progs, a ∈ p
  | [], _, _, _, h, a, ha => by
    simp only [takeSeq, Option.some.injEq, Prod.mk.injEq] at h
    rw [← h.1] at ha; cases ha
  | t :: rest, progs, l, rem, h, a, ha => by
    simp only [takeSeq] at h
    split at h
    · rename_i b bs hp
      split at h
      · rename_i l' rem' hts
        cases h
        rcases List.mem_cons.1 ha with rfl | ha'
        · exact ⟨_, List.mem_of_getElem? hp, List.mem_cons_self⟩
        · obtain ⟨p, hp', hap⟩ := takeSeq_mem rest _ _ _ hts a ha'
          rcases mem_updAt hp' with hm | ⟨y, hy, rfl⟩
          · exact ⟨p, hm, hap⟩
          · exact ⟨_, List.mem_of_getElem? hp, List.mem_cons_of_mem _ hap⟩
      · cases h
    · cases h

def runSt {α σ ρ : Type} (f : α → σ → σ × ρ) (s : σ) (l : List α) : σ := l.foldl (fun s a => (f a s).1) s
def runOuts {α σ ρ : Type} (f : α → σ → σ × ρ) : σ → List α → List ρ
  | _, [] => []
  | s, a :: rest => (f a s).2 :: runOuts f (f a s).1 rest

theorem seqRun_atomic {α σ ρ : Type} [DecidableEq ρ] (f : α → σ → σ × ρ) (dflt : ρ) (hist : List (Nat × ρ)) :
    ∀ (progs : List (List α)) (s s' : σ) (rem : List (List (Conc.Call σ (Option ρ) ρ))),
    Conc.seqRun (progs.map (·.map (fun a => atomic (f a) dflt))) hist s = some (s', rem) →
    ∃ l rem', takeSeq progs (hist.map (·.1)) = some (l, rem') ∧ rem = rem'.map (·.map (fun a => atomic (f a) dflt)) ∧
      s' = runSt f s l ∧ hist.map (·.2) = runOuts f s l := by
  induction hist with
  | nil =>
    intro progs s s' rem h
    simp only [Conc.seqRun, Option.some.injEq, Prod.mk.injEq] at h
    exact ⟨[], progs, rfl, h.2.symm, h.1.symm, rfl⟩
  | cons x hist ih =>
    intro progs s s' rem h
    obtain ⟨t, r⟩ := x
    simp only [Conc.seqRun, List.getElem?_map] at h
    cases hp : progs[t]? with
    | none => simp [hp] at h
    | some p =>
      cases p with
      | nil => simp [hp] at h
      | cons a as =>
        simp only [hp, Option.map_some, List.map_cons, atomic_run] at h
        -- `seqRun` accepts the entry only if the recorded answer is the one the call gives on the state so far (`hr`)
        split at h
        · rename_i hr
          rw [← map_updAt_const] at h
          obtain ⟨l, rem', h1, h2, h3, h4⟩ := ih (updAt progs t (fun _ => as)) (f a s).1 s' rem h
          refine ⟨a :: l, rem', ?_, h2, ?_, ?_⟩
          · simp only [List.map_cons, takeSeq, hp, h1]
          · simp only [runSt, List.foldl_cons] at h3 ⊢; exact h3
          · simp only [List.map_cons, runOuts, hr, h4]
        · simp at h

/-- the shared log (as far as this object is concerned) and the object's replica -/
structure Obj where
  log : List Rec
  st : JState
deriving Repr, Inhabited

/-- what a call answers: the error raised (if any) and the value returned -/
abbrev Ans := Option Err × Out

/-- a call of the harness made under worker id `w` -/
abbrev JCall := String × Op

/-- **the effect of one public call of the object under its lock**: a writer appends the record built by the
generated front end and the generated handlers replay it (`frontCall … []`: inside one object nothing else is
appended between its append and its read); a getter syncs and reads through the generated getter; any other op
(`BaseStorage`'s `get_n_trials`, `get_best_trial`, … built on these) is not a method of the class: no effect -/
def objCall (c : JCall) (s : Obj) : Obj × Ans :=
  match C06FrontGen.frontRec c.1 c.2, C06FrontGen.frontCall c.1 s.st c.2 [] with
  | some r, some (st', e, a) => ({ log := s.log ++ [r], st := st' }, (e, a))
  | _, _ =>
    match C06FrontGen.getterBody c.2 with
    | some m =>
      let res := sync c.1 s.st s.log s.log.length
      ({ s with st := res.1 }, (res.2, m.answer c.1 res.1 c.2))
    | none => (s, (none, .unit))

def jcall (c : JCall) : Conc.Call Obj (Option Ans) Ans := atomic (objCall c) (none, Out.unit)

/-- **denoteJ**: the thread-model call a public `JournalStorage` method stands for under the shape T-lock found:
`whole` / `preludeThenLocked` (the record is built from the arguments, then everything happens inside
`with self._thread_lock:`) = ONE atomic step with effect `objCall`; any other shape: none -/
def denoteJ (sh : Shape) (c : JCall) : Option (Conc.Call Obj (Option Ans) Ans) :=
  match sh with
  | .whole | .preludeThenLocked => some (jcall c)
  | _ => none

theorem denoteJ_isSome (sh : Shape) (c : JCall) : (denoteJ sh c).isSome = (sh == .whole || sh == .preludeThenLocked) := by
  cases sh <;> rfl

example : (denoteJ .preludeThenLocked ("w", .createTrial 0 none false)).isSome = true ∧
    (denoteJ .other ("w", .createTrial 0 none false)).isSome = false := by decide +kernel

/-- **journal_progs_denote**: every public method of `JournalStorage` in the lock table regenerated from /repo has
a method in the generated front end (T-journalfront) which touches the replica only under the lock after its
append + sync (`disciplined`), and denotes an atomic step for every call — the hypothesis of the lock theorem
from generated data (`C03.journal_all_locked`, `C06FrontGen.front_disciplined`) -/
theorem journal_progs_denote :
    ∀ m ∈ Generated.LockTable.journal, ∃ fm, Generated.JournalFront.program.method? m.1 = some fm ∧
      fm.disciplined = true ∧ ∀ c, (denoteJ m.2 c).isSome = true := by
  intro m hm
  have hshape := C03.journal_all_locked m hm
  have hbody : (Generated.JournalFront.program.method? m.1).isSome = true := by
    have : ∀ x ∈ Generated.LockTable.journal, (Generated.JournalFront.program.method? x.1).isSome = true := by decide +kernel
    exact this m hm
  obtain ⟨fm, hb⟩ := Option.isSome_iff_exists.mp hbody
  have hmem : fm ∈ Generated.JournalFront.program.methods := by
    unfold Program.method? at hb
    exact List.mem_of_find?_eq_some hb
  refine ⟨fm, hb, C06FrontGen.front_disciplined fm hmem, fun c => ?_⟩
  rw [denoteJ_isSome]
  rcases hshape with h | h <;> simp [h]

def lookup {α : Type} (k : String) : List (String × α) → Option α
  | [] => none
  | (k', v) :: t => if k' == k then some v else lookup k t

theorem lookup_mem {α : Type} (k : String) (v : α) : ∀ (l : List (String × α)), lookup k l = some v → (k, v) ∈ l
  | [], h => by cases h
  | (k', v') :: t, h => by
    simp only [lookup] at h
    split at h
    · rename_i hk
      cases h; rw [beq_iff_eq.1 hk]; exact List.mem_cons_self
    · exact List.mem_cons_of_mem _ (lookup_mem k v t h)

/-- both generated tables describe the same class: every front-end method is in the lock table -/
theorem journal_tables_agree :
    ∀ fm ∈ Generated.JournalFront.program.methods,
      (lookup fm.name Generated.LockTable.journal).isSome = true := by decide +kernel

def shapeOfJ (op : Op) : Option Shape :=
  match (writerOf op), (getterOf op) with
  | some n, _ => lookup n Generated.LockTable.journal
  | none, some n => lookup n Generated.LockTable.journal
  | none, none => none

def denoteOpJ (c : JCall) : Option (Conc.Call Obj (Option Ans) Ans) := (shapeOfJ c.2).bind (fun sh => denoteJ sh c)

theorem method_denotes (c : JCall) (n : String) (fm : Method) (h : Generated.JournalFront.program.method? n = some fm) :
    (lookup n Generated.LockTable.journal).bind (fun sh => denoteJ sh c) = some (jcall c) := by
  have hn : fm.name = n := by simpa using List.find?_some h
  have hs := journal_tables_agree fm (List.mem_of_find?_eq_some h)
  rw [hn] at hs
  obtain ⟨sh, hsh⟩ := Option.isSome_iff_exists.1 hs
  rw [hsh]
  rcases C03.journal_all_locked _ (lookup_mem n sh _ hsh) with e | e <;> simp only at e <;> subst e <;> rfl

/-- every call that goes to a method of `JournalStorage` itself denotes `jcall` -/
theorem denoteOpJ_eq (c : JCall) (h : (writerOf c.2).isSome = true ∨ (getterOf c.2).isSome = true) :
    denoteOpJ c = some (jcall c) := by
  obtain ⟨w, op⟩ := c
  unfold denoteOpJ shapeOfJ
  -- the call reaches a generated method (`select_writer` / `select_getter`)
  cases hw : writerOf op with
  | some n =>
    obtain ⟨m, _, hm, _⟩ := C06FrontGen.writer_cases w op (by rw [hw]; rfl)
    have hsel := C06FrontGen.select_writer op
    rw [hw, hm] at hsel
    exact method_denotes _ n m hsel
  | none =>
    cases hg : getterOf op with
    | none => simp [hw, hg] at h
    | some n =>
      have hm : ∃ m, C06FrontGen.getterBody op = some m := by
        cases op <;> first | exact ⟨_, rfl⟩ | cases hg
      obtain ⟨m, hm⟩ := hm
      have hsel := C06FrontGen.select_getter op
      rw [hg, hm] at hsel
      exact method_denotes _ n m hsel

abbrev JProgs := List (List JCall)

def sysJ (s0 : Obj) (progs : JProgs) (sched : List Nat) : Conc.Sys Obj (Option Ans) Ans :=
  Conc.exec (Conc.initSys s0 (progs.map (·.map jcall))) sched

/-- **journal_threads_sequential** — any number of threads of ONE `JournalStorage` object, any programs of
denoted calls (each under its thread's worker id), any schedule: the answers recorded so far are those of the
calls run one at a time (`objCall`) in completion order, an interleaving that keeps every thread's order; and
whenever no thread is inside the lock the shared (log, replica) is the state of that sequential run -/
theorem journal_threads_sequential (s0 : Obj) (progs : JProgs) (sched : List Nat) :
    ∃ calls rem, takeSeq progs ((sysJ s0 progs sched).hist.map (·.1)) = some (calls, rem) ∧
      (sysJ s0 progs sched).threads.map (·.todo) = rem.map (·.map jcall) ∧
      (sysJ s0 progs sched).hist.map (·.2) = runOuts objCall s0 calls ∧
      ((∀ (t : Nat) (th : Conc.Thread Obj (Option Ans) Ans), (sysJ s0 progs sched).threads[t]? = some th → th.cs = none) →
        (sysJ s0 progs sched).shared = runSt objCall s0 calls) := by
  obtain ⟨sseq, hseq, hfree, _⟩ := C03.lock_atomicity s0 (progs.map (·.map jcall)) sched
  obtain ⟨l, rem, h1, h2, h3, h4⟩ := seqRun_atomic objCall (none, Out.unit) _ progs s0 sseq _ hseq
  exact ⟨l, rem, h1, h2, h4, fun hf => by rw [← h3]; exact hfree hf⟩

def ObjInv (s : Obj) : Prop := s.st.cursor = s.log.length ∧ s.st.spec = C06Run.fresh s.log

/-- the calls the theorems below speak about: a writer the front end can encode (`frontOK`: template values ≠ [],
dict-like params), or a getter of `JournalStorage` itself -/
def callOK (c : JCall) : Bool :=
  ((writerOf c.2).isSome && C06FrontGen.frontOK c.2) || (C06FrontGen.getterBody c.2).isSome

/-- the contract along a sequential order of calls, from the log `log`: at every position the error is the
contract's error in the state `fresh log` (the replay of everything appended before), a call that raises nothing
moves that state exactly as `Storage.step` says, a getter answers the contract's read -/
def ContractRun : List Rec → List JCall → List Ans → Prop
  | _, [], [] => True
  | log, c :: rest, a :: outs =>
    (match C06FrontGen.recOf c.1 c.2 with
     | some r =>
       let cop := C06FrontGen.withRaised c.2 (rejects (C06Run.fresh log) r == some .valueError)
       a.1 = errOf (Storage.step (C06Run.fresh log) cop).2 ∧
       (a.1 = none → C06Run.fresh (log ++ [r]) = (Storage.step (C06Run.fresh log) cop).1) ∧
       ContractRun (log ++ [r]) rest outs
     | none =>
       a.1 = none ∧ a.2 = (Storage.step (C06Run.fresh log) c.2).2 ∧ (Storage.step (C06Run.fresh log) c.2).1 = C06Run.fresh log ∧
       ContractRun log rest outs)
  | _, _, _ => False

/-- **objCall_is_call_event**: for a writer on a replica that has read the whole log, `objCall` is the `call w op`
event of `Model/JournalRun.lean` (append + sync under the lock) on the system whose log is this log and whose
replica of `w` is this replica -/
theorem objCall_is_call_event (w : String) (op : Op) (s : Obj) (hw : (writerOf op).isSome = true)
    (hok : C06FrontGen.frontOK op = true) (hc : s.st.cursor = s.log.length) :
    let sys : JournalRun.Sys := { log := s.log, reps := [(w, s.st)], snaps := [] }
    (JournalRun.stepEv sys (.call w op)).log = (objCall (w, op) s).1.log ∧
    (JournalRun.stepEv sys (.call w op)).rep? w = some (objCall (w, op) s).1.st := by
  intro sys
  have hb := C06FrontGen.front_builds w op hok
  obtain ⟨m, r, hmb, hr⟩ := C06FrontGen.writer_cases w op hw
  have hfc := C06FrontGen.frontCall_eq w s.st op [] m r hmb hr hok
  have hiss : JournalRun.issue w op = some r := by rw [C06Run.issue_eq_recOf]; exact hr
  have hrep : sys.rep? w = some s.st := by simp [sys, JournalRun.Sys.rep?]
  simp only [objCall, hb, hr, hfc, JournalRun.stepEv, JournalRun.doAppend, hrep, hiss, JournalRun.doSync]
  have hrep2 : JournalRun.Sys.rep? { sys with log := sys.log ++ [r] } w = some s.st := hrep
  simp only [hrep2]
  refine ⟨rfl, ?_⟩
  simp only [JournalRun.Sys.setRep, JournalRun.Sys.rep?, List.find?_cons, beq_self_eq_true, Option.map_some, sys,
    C06Run.sync_all, hc, List.drop_left]

/-- one call keeps the replica at the replay of the whole log and answers as the contract says: a contract run from the
log it leaves extends to one from the log it found -/
theorem objCall_contract (c : JCall) (s : Obj) (hI : ObjInv s) (hok : callOK c = true) :
    ObjInv (objCall c s).1 ∧
    ∀ rest outs, ContractRun (objCall c s).1.log rest outs → ContractRun s.log (c :: rest) ((objCall c s).2 :: outs) := by
  obtain ⟨w, op⟩ := c
  obtain ⟨hcur, hspec⟩ := hI
  have hJ : JInv s.st.spec := by rw [hspec]; exact C06.jinv_replay _ s.log jinv_init
  simp only [callOK, Bool.or_eq_true, Bool.and_eq_true] at hok
  rcases hok with ⟨hw, hfo⟩ | hg
  · -- a writer
    obtain ⟨m, r, hmb, hr⟩ := C06FrontGen.writer_cases w op hw
    -- the call appends `r` and replays exactly that record: one handler step from the replay of the log
    have hobj : objCall (w, op) s =
        ({ log := s.log ++ [r], st := (Journal.apply w { s.st with cursor := s.st.cursor + 1 } r).1 },
         ((Journal.apply w { s.st with cursor := s.st.cursor + 1 } r).2,
          m.answer w (Journal.apply w { s.st with cursor := s.st.cursor + 1 } r).1 op)) := by
      simp only [objCall, C06FrontGen.front_builds w op hfo, hr, C06FrontGen.frontCall_eq w s.st op [] m r hmb hr hfo,
        applyLogs_single]
    have hsp := (apply_spec w { s.st with cursor := s.st.cursor + 1 } r).1
    have hfresh : C06Run.fresh (s.log ++ [r]) = applySpec s.st.spec r := by
      rw [hspec]; exact C06.pubReplay_append _ s.log [r]
    have href := apply_refines_step s.st.spec r hJ
    rw [C06FrontGen.opOf_recOf w op r _ hr, hspec] at href
    rw [hobj]
    refine ⟨⟨?_, by rw [hfresh]; exact hsp⟩, fun rest outs h => ?_⟩
    · rw [apply_cursor]; simp [hcur]
    · simp only [ContractRun, hr]
      refine ⟨?_, fun _ => ?_, h⟩
      · rw [apply_err_own w _ r (C06FrontGen.recOf_worker w op r hr)]; exact hspec ▸ href.2
      · rw [hfresh]; exact hspec ▸ href.1
  · -- a getter
    obtain ⟨m, hm⟩ := Option.isSome_iff_exists.mp hg
    have hrec : C06FrontGen.recOf w op = none := by cases op <;> first | rfl | cases hm
    have hfr : C06FrontGen.frontRec w op = none := by
      rw [C06FrontGen.front_builds w op (by cases op <;> first | rfl | cases hm), hrec]
    have hsync : sync w s.st s.log s.log.length = (s.st, none) := by rw [C06Run.sync_all, hcur, List.drop_length]; rfl
    obtain ⟨_, hans, hsame⟩ := C06FrontGen.front_getter_is_contract_read w s.st op m hm
    have hobj : objCall (w, op) s = (s, (none, m.answer w s.st op)) := by
      simp only [objCall, hfr, hm, hsync]
    rw [hobj]
    refine ⟨⟨hcur, hspec⟩, fun rest outs h => ?_⟩
    simp only [ContractRun, hrec]
    rw [← hspec]
    exact ⟨trivial, hans, hsame, h⟩

theorem contractRun_of_run (calls : List JCall) : ∀ (s : Obj), ObjInv s → calls.all callOK = true →
    ContractRun s.log calls (runOuts objCall s calls) ∧ ObjInv (runSt objCall s calls) := by
  induction calls with
  | nil => intro s hI _; exact ⟨trivial, hI⟩
  | cons c rest ih =>
    intro s hI hok
    simp only [List.all_cons, Bool.and_eq_true] at hok
    obtain ⟨hI', hc⟩ := objCall_contract c s hI hok.1
    obtain ⟨h1, h2⟩ := ih (objCall c s).1 hI' hok.2
    exact ⟨hc _ _ h1, h2⟩

def Obj.init : Obj := { log := [], st := JState.init }

theorem objInv_init : ObjInv Obj.init := by constructor <;> rfl

/-- **journal_threads_linearizable_partial** — threads of ONE `JournalStorage` object, started empty, any number
of threads, any schedule, every call either a writer the front end can encode or a getter of the class (`callOK`):
there is an order of the completed calls that keeps every thread's order (the completion order) such that, run
through the contract model `Storage.step` in that order (`ContractRun`): every error a thread was answered is the
contract's error at its position, every getter's answer is the contract's read, every call that is not rejected
moves the contract state as the contract says; and whenever no thread is inside the lock the replica has read the
whole log and shows its replay.
There is no issuer-id hypothesis (`hpre` of `C06Run.ack_is_contract_answer_run_partial` is vacuous here: inside one
object a call reads exactly its own record) and no `Legal` hypothesis (the journal refinement needs none).
PARTIAL — not composed here: the VALUES returned by writers (the id of `create_new_trial` / `create_new_study`, the
claim answer of `set_trial_state_values`), proved per call in `C06FrontGen`
(`front_create_new_trial_returns_own_id`, `front_claim_answer`, `front_unit_answers`,
`front_create_new_study_returns_id_partial`); ops of `BaseStorage` built on these (`get_n_trials`, `get_best_trial`, …) -/
theorem journal_threads_linearizable_partial (progs : JProgs) (sched : List Nat)
    (hok : ∀ p ∈ progs, p.all callOK = true) :
    ∃ calls rem, takeSeq progs ((sysJ Obj.init progs sched).hist.map (·.1)) = some (calls, rem) ∧
      ContractRun [] calls ((sysJ Obj.init progs sched).hist.map (·.2)) ∧
      ((∀ (t : Nat) (th : Conc.Thread Obj (Option Ans) Ans), (sysJ Obj.init progs sched).threads[t]? = some th → th.cs = none) →
        ObjInv (sysJ Obj.init progs sched).shared) := by
  obtain ⟨calls, rem, h1, _, h3, h4⟩ := journal_threads_sequential Obj.init progs sched
  have hcalls : calls.all callOK = true := List.all_eq_true.2 fun c hc => by
    obtain ⟨p, hp, hcp⟩ := takeSeq_mem _ _ _ _ h1 c hc
    exact List.all_eq_true.1 (hok p hp) c hcp
  obtain ⟨hcr, hinv⟩ := contractRun_of_run calls Obj.init objInv_init hcalls
  refine ⟨calls, rem, h1, ?_, fun hf => ?_⟩
  · rw [h3]; exact hcr
  · rw [h4 hf]; exact hinv

/-- **processes_linearize_in_log_order_partial** — what `Props/C06Run.lean` gives for any number of PROCESSES (each
a `JournalStorage` object with its own replica) on one log, for EVERY list of events in which appends and syncs of
different workers interleave freely (the file lock serialises the appends only): (1) the public state of every
worker is the replay of the log prefix it has read, so a worker that has read everything shows the replay of the
whole log (the log order IS the order in which all workers see the calls take effect); (2) workers that have read
equally far agree; (3) a worker `w` whose unread part of the log contains none of its own records (`hpre`) and that
now makes the call `op` is answered the contract's error for `op` at the position of its record in the log, and if
none, its replica shows the contract's state there.  Real-time order is not part of the statement: the events of
`JournalRun` are appends and syncs, not invocations and returns.
PARTIAL — what this statement lacks for "the concurrent history of all processes is linearizable": (a) `hpre` is a
hypothesis here, not a run invariant (it needs worker ids unique per object and every own record read by the sync
of its own call — broken only by `restore` / `join` re-using an id; under `FreshIds` it is an invariant:
`processes_linearize_in_log_order_freshids_partial` below); (b) the returned VALUES (see
`journal_threads_linearizable_partial`); (c) getters: a worker that has NOT read the whole log answers the contract's
read of an EARLIER prefix — a stale but consistent read; a getter syncs first inside its own call and so reads
everything appended before its sync — the `sync` event followed by a read is part (2) of the theorem below -/
theorem processes_linearize_in_log_order_partial (evs : List JournalRun.Ev) :
    (∀ w st, (JournalRun.run JournalRun.Sys.init evs).rep? w = some st →
      st.cursor ≤ (JournalRun.run JournalRun.Sys.init evs).log.length ∧
      st.spec = C06Run.fresh ((JournalRun.run JournalRun.Sys.init evs).log.take st.cursor)) ∧
    (∀ w w' st st', (JournalRun.run JournalRun.Sys.init evs).rep? w = some st →
      (JournalRun.run JournalRun.Sys.init evs).rep? w' = some st' → st.cursor = st'.cursor → st.spec = st'.spec) ∧
    (∀ w st op r, (JournalRun.run JournalRun.Sys.init evs).rep? w = some st → JournalRun.issue w op = some r →
      (∀ x ∈ (JournalRun.run JournalRun.Sys.init evs).log.drop st.cursor, (x.worker == w) = false) →
      let log := (JournalRun.run JournalRun.Sys.init evs).log
      let res := sync w st (log ++ [r]) (log ++ [r]).length
      let cop := C06FrontGen.withRaised op (rejects (C06Run.fresh log) r == some .valueError)
      res.2 = errOf (Storage.step (C06Run.fresh log) cop).2 ∧
      (res.2 = none → res.1.spec = (Storage.step (C06Run.fresh log) cop).1)) := by
  refine ⟨(C06Run.replica_is_replay_of_prefix evs).1, ?_, ?_⟩
  · intro w w' st st' h h' hc
    exact (C06Run.workers_converge_run evs w w' st st' h h').1 hc
  · intro w st op r h hr hpre log res cop
    obtain ⟨_, h2, h3⟩ := C06Run.ack_is_contract_answer_run_partial evs w st op r h hr hpre
    exact ⟨h2, fun hn => (h3 hn).1⟩

/-- the hypotheses of part (3) hold in a run where the unread tail is not empty: after `demoRun.take 9` worker A has
read 3 of 4 records, the unread one is B's -/
example : ((JournalRun.run JournalRun.Sys.init (C06Run.demoRun.take 9)).rep? "A").map
      (fun st => (st.cursor, (JournalRun.run JournalRun.Sys.init (C06Run.demoRun.take 9)).log.length,
        ((JournalRun.run JournalRun.Sys.init (C06Run.demoRun.take 9)).log.drop st.cursor).all (fun x => !(x.worker == "A"))))
      = some (3, 4, true) ∧
    (JournalRun.issue "A" (.setTrialStateValues 0 .complete (some [.fin 1]))).isSome = true := by decide +kernel

/-- **processes_linearize_in_log_order_freshids_partial** — the form of `processes_linearize_in_log_order_partial` WITHOUT
the issuer hypothesis `hpre`, for every run in which worker ids are never re-used (`FreshIds`: every `JournalStorage`
object draws a fresh uuid4; decidable on the event list) and for a live worker `w` that is between calls
(`pending w evs = 0`: every writer syncs before it returns; `C06Run.hpre_invariant`), any number of processes, appends
and syncs of different workers interleaved freely:
(1) the WRITER call `op` that `w` makes now is answered the contract's error for `op` in the fresh replay of the whole
log before its record (its position in the log order), and if none is raised its replica then shows the contract's state
after the call and has read the whole log;
(2) the GETTER call `op` that `w` makes now (sync, then read through the generated getter `m`) raises nothing and
answers the contract's read in the fresh replay of the whole log — everything appended before its sync, by whomever;
(3) after a `call` the worker is between calls again (the discipline is kept by calls).
With `processes_linearize_in_log_order_partial` (1)(2) (replica = replay of the prefix read; equal prefixes agree) the
log order is a linearization order for errors, reads and state of EVERY call of EVERY process.
PARTIAL — what remains: the VALUES returned by writers are proved per call in C06FrontGen (`front_unit_answers`,
`front_create_new_trial_returns_own_id`, `front_claim_answer`) and not composed here; for `create_new_study` the value
is NOT the contract's in one interleaving of the real code (known finding F36: the id is looked up by name after the
sync, a foreign `delete_study` of that id in between kills the call) -/
theorem processes_linearize_in_log_order_freshids_partial (evs : List JournalRun.Ev)
    (hf : JournalRun.FreshIds evs = true) (w : String) (st : JState)
    (h : (JournalRun.run JournalRun.Sys.init evs).rep? w = some st) (hp : JournalRun.pending w evs = 0) :
    let log := (JournalRun.run JournalRun.Sys.init evs).log
    (∀ op r, JournalRun.issue w op = some r →
      let res := sync w st (log ++ [r]) (log ++ [r]).length
      let cop := C06FrontGen.withRaised op (rejects (C06Run.fresh log) r == some .valueError)
      (JournalRun.stepEv (JournalRun.run JournalRun.Sys.init evs) (.call w op)).rep? w = some res.1 ∧
      res.2 = errOf (Storage.step (C06Run.fresh log) cop).2 ∧
      (res.2 = none → res.1.spec = (Storage.step (C06Run.fresh log) cop).1 ∧ res.1.cursor = (log ++ [r]).length)) ∧
    (∀ op m, C06FrontGen.getterBody op = some m →
      let res := sync w st log log.length
      (JournalRun.stepEv (JournalRun.run JournalRun.Sys.init evs) (.sync w)).rep? w = some res.1 ∧
      res.2 = none ∧ m.answer w res.1 op = (Storage.step (C06Run.fresh log) op).2 ∧
      (Storage.step (C06Run.fresh log) op).1 = C06Run.fresh log) ∧
    (∀ op, JournalRun.pending w (evs ++ [.call w op]) = 0) := by
  intro log
  refine ⟨?_, ?_, fun op => by rw [C06Run.pending_call]; exact hp⟩
  · intro op r hr res cop
    obtain ⟨h1, h2, h3⟩ := C06Run.ack_is_contract_answer_run evs hf w st op r h hp hr
    exact ⟨h1, h2, fun hn => ⟨(h3 hn).1, (h3 hn).2.1⟩⟩
  · intro op m hm res
    obtain ⟨h1, h2, h3, _⟩ := C06Run.sync_between_calls_reads_all evs hf w st h hp
    obtain ⟨_, ha, hs⟩ := C06FrontGen.front_getter_is_contract_read w res.1 op m hm
    have h3' : res.1.spec = C06Run.fresh log := h3
    rw [h3'] at ha hs
    exact ⟨h1, h2, ha, hs⟩

/-- the hypotheses hold in `C06Run.demoRun` (three joined workers, a crash, a restore under a new id) for each live worker -/
example : JournalRun.FreshIds C06Run.demoRun = true ∧
    ((JournalRun.run JournalRun.Sys.init C06Run.demoRun).rep? "A").isSome = true ∧ JournalRun.pending "A" C06Run.demoRun = 0 ∧
    ((JournalRun.run JournalRun.Sys.init C06Run.demoRun).rep? "D").isSome = true ∧ JournalRun.pending "D" C06Run.demoRun = 0 := by decide +kernel
/-- the hypotheses also hold in a state where the worker has NOT read everything: after `demoRun.take 9` A has read 3 of 4 records -/
example : JournalRun.FreshIds (C06Run.demoRun.take 9) = true ∧ JournalRun.pending "A" (C06Run.demoRun.take 9) = 0 := by decide +kernel

/-! ## non-vacuity: three threads of one object — create_new_study / create_new_trial / get_all_trials racing -/

def demoJ : JProgs :=
  [[("t0", .createStudy "s" [1]), ("t0", .createTrial 0 none false)],
   [("t1", .createTrial 0 none false)],
   [("t2", .getAllTrials 0 none), ("t2", .getAllStudies)]]
/-- thread 1 creates its trial before the study exists (KeyError), thread 2 reads in between -/
def demoJSched : List Nat := [1, 0, 2, 1, 1, 0, 0, 0, 2, 2, 2, 0, 0, 0, 2, 2, 2]

example : demoJ.all (fun p => p.all callOK) = true := by decide +kernel
set_option maxRecDepth 30000 in
example : (sysJ Obj.init demoJ demoJSched).hist.map (·.1) = [1, 0, 2, 0, 2] := by decide +kernel
set_option maxRecDepth 30000 in
example : (sysJ Obj.init demoJ demoJSched).hist.map (fun p => p.2.1) = [some .keyError, none, none, none, none] := by decide +kernel
set_option maxRecDepth 30000 in
example : (sysJ Obj.init demoJ demoJSched).shared.log.length = 3 ∧
    (sysJ Obj.init demoJ demoJSched).shared.st.cursor = 3 := by decide +kernel

end OptunaVerif.C03Journal
