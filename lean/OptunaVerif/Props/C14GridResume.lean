import OptunaVerif.Props.C14
import OptunaVerif.Props.C14Gen
/-!
# C14 — the grid sampler with failures, killed workers and resumptions

`grid_stops_by_itself` (Props/C14.lean) assumes that no trial raises out of `optimize`.  This file is the grid counterpart of
`bruteforce_stops_after_resumptions`: the run is split into any number of `optimize` calls, a trial may end with an exception
that leaves `optimize` (`raises`), and a worker may be KILLED while the objective runs (`killed`: the trial stays RUNNING with
the `grid_id` that `before_trial` wrote, `after_trial` never runs, the `optimize` call ends).

What `_get_unvisited_grid_ids` reads is `t.state.is_finished()` — COMPLETE, PRUNED and FAIL are the same to it (the model's
`TS.finished`): which of the three outcomes a trial has is not even an input of the model.  So the guarantee of today's code is

* a cell is FINISHED at most once, whatever the outcomes — in particular a FAILED (or pruned) grid point is never retried;
* a cell whose worker was killed is started again (once all cells have been started), so it can have several RUNNING
  corpses, but still at most one finished trial;
* the stop flag is set exactly when every cell has a finished trial;
* every `optimize` call with a positive budget on a study that has not stopped either finishes a trial or loses its first
  trial to a kill, so after at most `queued + free cells + number of kills` resumptions the stop flag is set.

NOT guaranteed (and false, `grid_rerun_after_exhaustion_duplicates`): calling `optimize` again on a study whose grid is already
exhausted evaluates one duplicate point (the source warns "re-evaluating a configuration because the grid has been exhausted").
`session` / `sessionK` model a user who stops resuming once a call ended with the stop flag set.
-/
namespace OptunaVerif.C14
open OptunaVerif.Grid OptunaVerif.SamplerIR

/-- RNG proposals, exceptions leaving `optimize`, and workers killed while the objective of trial number `i` runs -/
structure KCtx where
  ω : Nat → Nat
  raises : Nat → Bool
  killed : Nat → Bool

def KCtx.base (cx : KCtx) : Grid.Ctx := ⟨cx.ω, cx.raises⟩

/-- `_run_trial` with kills, over any implementation `S` of the two hooks.  A killed queued trial was popped (RUNNING) and stays
so; a killed fresh trial was created, `before_trial` wrote its `grid_id`, and it stays RUNNING.  `true` = the call ends. -/
def runTrialKW (S : GImpl) (cx : KCtx) (n : Nat) (st : Grid.St) : Grid.St × Bool :=
  match firstWaiting st.trials with
  | some i =>
    if cx.killed i then ({ st with trials := setState st.trials i .running }, true)
    else grunTrialW S cx.base n st
  | none =>
    if cx.killed st.trials.length then
      let b := S.before n st.trials st.trials.length (cx.ω st.calls)
      ({ trials := st.trials ++ [⟨some b.1, .running⟩], stop := st.stop, calls := if b.2 then st.calls + 1 else st.calls }, true)
    else grunTrialW S cx.base n st

def optimizeLoopKW (S : GImpl) (cx : KCtx) (n : Nat) : Nat → Grid.St → Grid.St
  | 0, st => st
  | k + 1, st =>
    if st.stop then st
    else
      let r := runTrialKW S cx n st
      if r.2 then r.1 else optimizeLoopKW S cx n k r.1

def optimizeKW (S : GImpl) (cx : KCtx) (n : Nat) (k : Nat) (st : Grid.St) : Grid.St :=
  optimizeLoopKW S cx n k { st with stop := false }

def sessionKW (S : GImpl) (cx : KCtx) (n : Nat) (ks : List Nat) (st : Grid.St) : Grid.St :=
  ks.foldl (fun st k => if st.stop then st else optimizeKW S cx n k st) st

def runTrialK := runTrialKW handGImpl
def sessionK := sessionKW handGImpl

theorem optimizeLoopKW_eq (S : GImpl) (cx : KCtx) (n k : Nat) : ∀ (st : Grid.St),
    optimizeLoopKW S cx n k st = runLoop (·.stop) (runTrialKW S cx n) k st :=
  eq_runLoop _ (fun _ => rfl) (fun _ _ => rfl) k

theorem sessionK_eq (cx : KCtx) (n : Nat) (ks : List Nat) (st : Grid.St) :
    sessionK cx n ks st = runSession (·.stop) (runTrialK cx n) ks st := by
  simp only [sessionK, sessionKW, optimizeKW, optimizeLoopKW_eq, runTrialK]
  exact foldl_optimize_eq reset_stop ks st

theorem runTrialK_alive (cx : KCtx) (n : Nat) (st : Grid.St)
    (h : ∀ i, firstWaiting st.trials = some i → cx.killed i = false)
    (h' : firstWaiting st.trials = none → cx.killed st.trials.length = false) :
    runTrialK cx n st = Grid.runTrial cx.base n st := by
  simp only [runTrialK, runTrialKW]
  cases hfw : firstWaiting st.trials with
  | some i => simp [h i hfw, C14Gen.grunTrialW_hand]
  | none => simp [h' hfw, C14Gen.grunTrialW_hand]

theorem runTrialK_gstep (cx : KCtx) (n : Nat) (st : Grid.St) (hinv : GInv n st) (hns : st.stop = false) :
    GStep n st .finished (runTrialK cx n st).1 ∨
    GStep n st .running (runTrialK cx n st).1 ∧ (nWaiting st.trials = 0 → cx.killed st.trials.length = true) := by
  cases hfw : firstWaiting st.trials with
  | some i =>
    cases hk : cx.killed i with
    | false =>
      rw [runTrialK_alive cx n st (fun i' hi' => by rw [hfw] at hi'; cases hi'; exact hk)
        (fun h => by rw [hfw] at h; cases h)]
      exact .inl (runTrial_gstep cx.base n st hinv hns)
    | true =>
      obtain ⟨t, hti, htw, hnoid⟩ := ginv_popped hinv hfw
      have he : runTrialK cx n st = ({ st with trials := setState st.trials i .running }, true) := by
        simp [runTrialK, runTrialKW, hfw, hk]
      rw [he]
      exact .inr ⟨.queued i t hti htw hnoid rfl rfl,
        fun h0 => by rw [(firstWaiting_none_iff _).mpr h0] at hfw; cases hfw⟩
  | none =>
    cases hk : cx.killed st.trials.length with
    | false =>
      rw [runTrialK_alive cx n st (fun i' hi' => by rw [hfw] at hi'; cases hi') (fun _ => hk)]
      exact .inl (runTrial_gstep cx.base n st hinv hns)
    | true =>
      obtain ⟨hlt, hnv, hnum⟩ := beforeTrial_free n st hinv hns (cx.ω st.calls)
      have he : ∃ c, (runTrialK cx n st).1 =
          { trials := st.trials ++ [⟨some (freshId cx.base n st), .running⟩], stop := st.stop, calls := c } :=
        ⟨_, by simp only [runTrialK, runTrialKW, hfw, hk, handGImpl, if_true]; rfl⟩
      obtain ⟨c, he⟩ := he
      rw [he]
      exact .inr ⟨.fresh _ hlt hnv hnum ((firstWaiting_none_iff _).mp hfw) rfl rfl, fun _ => rfl⟩

/-- Things to do, plus the kills that can still hit a fresh trial: the numbers in `Ks` no trial has yet.  (A kill
that hits a queued trial takes it out of the queue, which `todo` counts.) -/
def mu (n : Nat) (Ks : List Nat) (st : Grid.St) : Nat := todo n st + Ks.countP (fun i => st.trials.length ≤ i)

theorem countP_lt_of_imp {α : Type} (p q : α → Bool) (l : List α) (h : ∀ x ∈ l, q x = true → p x = true)
    (x0 : α) (hx0 : x0 ∈ l) (hp0 : p x0 = true) (hq0 : q x0 = false) : l.countP q + 1 ≤ l.countP p := by
  induction l with
  | nil => cases hx0
  | cons a l ih =>
    have hle := List.countP_mono_left (fun x hx => h x (List.mem_cons_of_mem _ hx))
    rw [List.countP_cons, List.countP_cons]
    rcases List.mem_cons.1 hx0 with rfl | hmem
    · simp [hp0, hq0]; omega
    · have ih' := ih (fun x hx => h x (List.mem_cons_of_mem _ hx)) hmem
      have := h a (by simp)
      cases hq : q a <;> cases hp : p a <;> simp_all <;> omega

theorem runTrialK_step (cx : KCtx) (n : Nat) (st : Grid.St) (hinv : GInv n st) (hns : st.stop = false) :
    GInv n (runTrialK cx n st).1 ∧
    ∀ Ks : List Nat, (∀ i, cx.killed i = true → i ∈ Ks) → mu n Ks (runTrialK cx n st).1 + 1 ≤ mu n Ks st := by
  rcases runTrialK_gstep cx n st hinv hns with h | ⟨h, hk⟩
  · refine ⟨h.ginv hinv (by simp), fun Ks _ => ?_⟩
    obtain ⟨_, he⟩ := h.effect (by simp)
    rw [if_pos rfl] at he
    have hp := List.countP_mono_left (l := Ks) (p := fun i => decide ((runTrialK cx n st).1.trials.length ≤ i))
      (q := fun i => decide (st.trials.length ≤ i)) (fun x _ hx => by simp only [decide_eq_true_eq] at hx ⊢; omega)
    simp only [mu, todo]
    omega
  · refine ⟨h.ginv hinv (by simp), fun Ks hK => ?_⟩
    obtain ⟨_, he⟩ := h.effect (by simp)
    rw [if_neg (by simp)] at he
    simp only [mu, todo]
    rcases he with he | ⟨hq, hq', hlen, hrem⟩
    · rw [he.2.1]; omega
    · -- a fresh trial was killed: nothing is done, but its number is used up
      have := countP_lt_of_imp (fun i => decide (st.trials.length ≤ i))
        (fun i => decide ((runTrialK cx n st).1.trials.length ≤ i)) Ks
        (fun x _ hx => by simp only [decide_eq_true_eq] at hx ⊢; omega) st.trials.length (hK _ (hk hq))
        (by simp) (by simp [hlen])
      omega

theorem sessionK_ginv (cx : KCtx) (n : Nat) (ks : List Nat) (st : Grid.St) (h : GInv n st) :
    GInv n (sessionK cx n ks st) := by
  rw [sessionK_eq]
  exact runSession_inv _ (fun st h hs => (runTrialK_step cx n st h hs).1) ks st h

/-- For every grid, every initial content of the study that `GridSetting` admits, every split `ks` of the run into `optimize`
calls, every pattern of trials whose exception leaves `optimize` (`raises`) and of workers killed mid-trial (`killed`: the trial
is left RUNNING) — and
whatever the outcomes COMPLETE / PRUNED / FAIL of the finished trials, which the sampler cannot tell apart —
(1) no grid cell is ever FINISHED twice: a failed or pruned grid point is not retried, and a cell whose worker was killed gets
at most one finished trial besides its RUNNING corpses; (2) every finished cell is a cell of the grid; (3) the stop flag is
set exactly when every cell has been finished; (4) and then every cell has been finished exactly once. -/
theorem grid_exhaustive_with_failures (n : Nat) (cx : KCtx) (pre : List GTrial) (h : GridSetting n pre) (ks : List Nat) :
    (visitedIds (sessionK cx n ks (ginit pre)).trials).Nodup ∧
    (∀ g ∈ visitedIds (sessionK cx n ks (ginit pre)).trials, g < n) ∧
    ((sessionK cx n ks (ginit pre)).stop = true ↔ ∀ g, g < n → g ∈ visitedIds (sessionK cx n ks (ginit pre)).trials) ∧
    ((sessionK cx n ks (ginit pre)).stop = true →
      ∀ g, g < n → (visitedIds (sessionK cx n ks (ginit pre)).trials).count g = 1) := by
  obtain ⟨hnd, hlt, hiff⟩ := (sessionK_ginv cx n ks (ginit pre) (gridSetting_ginv h)).exhaustive
  exact ⟨hnd, hlt, hiff, fun hs g hg => by rw [hnd.count, if_pos (hiff.mp hs g hg)]⟩

/-- Every `optimize` call with a positive budget on a study that has not stopped either
brings a trial to a finished state or loses its first trial to a kill.  Hence: if at most the trial numbers in `Ks` are ever
killed, then after `queued trials + free cells + Ks.length` resumptions (each with budget ≥ 1, any number of exceptions leaving
`optimize` in between) the stop flag is set — every cell finished exactly once (`grid_exhaustive_with_failures`). -/
theorem grid_stops_after_resumptions (n : Nat) (cx : KCtx) (pre : List GTrial) (h : GridSetting n pre)
    (ks : List Nat) (hks : ∀ k ∈ ks, 1 ≤ k) (Ks : List Nat) (hK : ∀ i, cx.killed i = true → i ∈ Ks)
    (hlen : nWaiting pre + remainingG n (visitedIds pre) + Ks.length ≤ ks.length) :
    (sessionK cx n ks (ginit pre)).stop = true := by
  have hinv0 := gridSetting_ginv h
  have hinv := sessionK_ginv cx n ks (ginit pre) hinv0
  have prog := runSession_progress (GInv n) (mu n Ks)
    (fun st h hs => ⟨(runTrialK_step cx n st h hs).1, (runTrialK_step cx n st h hs).2 Ks hK⟩)
    ks hks (ginit pre) hinv0
  rw [← sessionK_eq] at prog
  rcases prog with h1 | h1
  · exact h1
  · have hmu0 : mu n Ks (ginit pre) ≤ nWaiting pre + remainingG n (visitedIds pre) + Ks.length :=
      Nat.add_le_add_left List.countP_le_length _
    have hz : todo n (sessionK cx n ks (ginit pre)) = 0 := by
      simp only [mu] at h1 hmu0; omega
    simp only [todo] at hz
    exact hinv.stop.mpr (by omega)

theorem sessionK_noKill (ω : Nat → Nat) (raises : Nat → Bool) (n : Nat) (ks : List Nat) (st : Grid.St) :
    sessionK ⟨ω, raises, fun _ => false⟩ n ks st = Grid.session ⟨ω, raises⟩ n ks st := by
  have hrun : runTrialK ⟨ω, raises, fun _ => false⟩ n = Grid.runTrial ⟨ω, raises⟩ n :=
    funext fun st => runTrialK_alive ⟨ω, raises, fun _ => false⟩ n st (fun _ _ => rfl) (fun _ => rfl)
  rw [sessionK_eq, Grid.session_eq, hrun]

/-- the counterpart of `bruteforce_stops_after_resumptions` for the model `Grid.session` of `Model/Grid.lean` (trials may raise out
of `optimize`, nobody is killed): after `queued trials + free cells` resumptions with a positive budget the stop flag is set -/
theorem grid_stops_after_resumptions_raising (n : Nat) (cx : Grid.Ctx) (pre : List GTrial) (h : GridSetting n pre)
    (ks : List Nat) (hks : ∀ k ∈ ks, 1 ≤ k) (hlen : nWaiting pre + remainingG n (visitedIds pre) ≤ ks.length) :
    (Grid.session cx n ks (ginit pre)).stop = true := by
  have := grid_stops_after_resumptions n ⟨cx.ω, cx.raises, fun _ => false⟩ pre h ks hks [] (fun i hi => by cases hi)
    (by simpa using hlen)
  rwa [sessionK_noKill] at this

/-- the run with kills driven by the interpreter of the generated `before_trial` / `after_trial` -/
def genSessionK (mine : Space) (cx : KCtx) (n : Nat) (ks : List Nat) (st : Grid.St) : Grid.St :=
  sessionKW (genGImpl Generated.GridMethods.gridProg mine) cx n ks st

theorem genSessionK_eq (mine : Space) (cx : KCtx) (n : Nat) (ks : List Nat) (st : Grid.St) :
    genSessionK mine cx n ks st = sessionK cx n ks st := by
  rw [genSessionK, C14Gen.genGImpl_eq]; rfl

theorem gen_grid_exhaustive_with_failures (mine : Space) (n : Nat) (cx : KCtx) (pre : List GTrial) (h : GridSetting n pre)
    (ks : List Nat) :
    (visitedIds (genSessionK mine cx n ks (ginit pre)).trials).Nodup ∧
    (∀ g ∈ visitedIds (genSessionK mine cx n ks (ginit pre)).trials, g < n) ∧
    ((genSessionK mine cx n ks (ginit pre)).stop = true ↔
      ∀ g, g < n → g ∈ visitedIds (genSessionK mine cx n ks (ginit pre)).trials) ∧
    ((genSessionK mine cx n ks (ginit pre)).stop = true →
      ∀ g, g < n → (visitedIds (genSessionK mine cx n ks (ginit pre)).trials).count g = 1) := by
  rw [genSessionK_eq]; exact grid_exhaustive_with_failures n cx pre h ks

theorem gen_grid_stops_after_resumptions (mine : Space) (n : Nat) (cx : KCtx) (pre : List GTrial) (h : GridSetting n pre)
    (ks : List Nat) (hks : ∀ k ∈ ks, 1 ≤ k) (Ks : List Nat) (hK : ∀ i, cx.killed i = true → i ∈ Ks)
    (hlen : nWaiting pre + remainingG n (visitedIds pre) + Ks.length ≤ ks.length) :
    (genSessionK mine cx n ks (ginit pre)).stop = true := by
  rw [genSessionK_eq]; exact grid_stops_after_resumptions n cx pre h ks hks Ks hK hlen

theorem gen_grid_stops_after_resumptions_raising (mine : Space) (n : Nat) (cx : Grid.Ctx) (pre : List GTrial)
    (h : GridSetting n pre) (ks : List Nat) (hks : ∀ k ∈ ks, 1 ≤ k)
    (hlen : nWaiting pre + remainingG n (visitedIds pre) ≤ ks.length) :
    (C14Gen.genGridSession mine cx n ks (ginit pre)).stop = true := by
  rw [C14Gen.genGridSession_eq]; exact grid_stops_after_resumptions_raising n cx pre h ks hks hlen

/-- a 3-cell grid, budget 1 per call; trial 1 raises out of `optimize`, the worker of trial 2 is killed: cell 2 has a RUNNING
corpse (trial 2) and is finished by trial 3; cells 0, 1, 2 finished exactly once; stop after the 4th call, not after the 3rd -/
example :
    (sessionK ⟨fun _ => 0, fun i => i == 1, fun i => i == 2⟩ 3 [1, 1, 1, 1] (ginit [])).trials =
      [⟨some 0, .finished⟩, ⟨some 1, .finished⟩, ⟨some 2, .running⟩, ⟨some 2, .finished⟩] ∧
    (sessionK ⟨fun _ => 0, fun i => i == 1, fun i => i == 2⟩ 3 [1, 1, 1, 1] (ginit [])).stop = true ∧
    (sessionK ⟨fun _ => 0, fun i => i == 1, fun i => i == 2⟩ 3 [1, 1, 1] (ginit [])).stop = false := by decide +kernel

/-- the bound of `grid_stops_after_resumptions` is met by that run: 0 queued + 3 free cells + 1 kill ≤ 4 calls -/
example : (sessionK ⟨fun _ => 0, fun i => i == 1, fun i => i == 2⟩ 3 [1, 1, 1, 1] (ginit [])).stop = true :=
  grid_stops_after_resumptions 3 _ [] (gridSetting_of_noIds 3 (by omega) [] (by simp)) [1, 1, 1, 1] (by simp) [2]
    (by intro i hi; simp only [beq_iff_eq] at hi; simp [hi]) (by decide)

/-- a killed worker on a QUEUED (enqueued) trial: the trial stays RUNNING without a grid id and is lost — it is not a grid cell;
the grid itself is still covered -/
example : (sessionK ⟨fun _ => 0, fun _ => false, fun i => i == 0⟩ 2 [5, 5] (ginit [⟨none, .waiting⟩])).trials =
    [⟨none, .running⟩, ⟨some 1, .finished⟩, ⟨some 0, .finished⟩] := by decide +kernel

/-- **NOT guaranteed.**  `optimize` called once more on a study whose grid is already
exhausted (the previous call ended with the stop flag set) evaluates ONE duplicate point and then stops: cell 0 is finished
twice.  This is today's code (replayed on the real `GridSampler`: it warns "re-evaluating a configuration because the grid has
been exhausted"); `grid_exhaustive` / `grid_exhaustive_with_failures` are about sessions that stop resuming at the stop flag. -/
theorem grid_rerun_after_exhaustion_duplicates :
    let done := Grid.session ⟨fun _ => 0, fun _ => false⟩ 2 [10] (ginit [])
    done.stop = true ∧ visitedIds done.trials = [0, 1] ∧
    visitedIds (Grid.optimize ⟨fun _ => 0, fun _ => false⟩ 2 10 done).trials = [0, 1, 0] ∧
    ¬ (visitedIds (Grid.optimize ⟨fun _ => 0, fun _ => false⟩ 2 10 done).trials).Nodup := by decide +kernel


end OptunaVerif.C14
