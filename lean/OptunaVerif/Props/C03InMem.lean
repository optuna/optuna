import OptunaVerif.Props.C03
import OptunaVerif.Props.C01InMemGen
/-!
# C03 at `InMemory.State` — the lock theorem instantiated with the TRANSLATED in-memory methods

`C03.lock_atomicity` is a theorem about the abstract thread model `Model/Conc.lean`, whose lock discipline
is built into `Conc.step`; by itself it says nothing about the code.  Here the hypothesis "a call
touches the shared state only inside one critical section of one lock" is DISCHARGED from generated data:

* `denote` turns a method body of `Generated/InMemoryMethods.lean` (T-inmem) into a `Conc.Call` over
  `InMemory.State` — ONE atomic step whose effect is the interpreter `InMemoryIR.interp` of that body — but
  only for the shapes `whole` / `preludeThenLocked` that `Generated/LockTable.lean` (T-lock) assigns to the
  method; any other shape has no denotation;
* `inmem_progs_denote`: every method of `LockTable.inMemory` has a generated body and a denotation (uses the
  `decide`d `C03.inMemory_all_locked`); `denoteOp_eq`: the call an op of the harness makes denotes
  `callOf op`, whose atomic run is `C01InMemGen.genStep` (= `interpOp program`);
* `inmem_concurrent_sequential`: any number of threads, any programs of such calls, any schedule — the
  answers are those of ONE sequential run of the same calls in completion order, which keeps every thread's
  own order (`takeOps`).  It is the order of the atomic steps; `Model/Conc.lean` has no invocation events,
  so real-time order is not part of the statement;
* `inmem_concurrent_linearizable`: that composed with `C01InMemGen.gen_refines_spec_init` (generated methods =
  hand model, hand model refines the contract), for orders that are legal histories of the contract;
  `inmem_concurrent_numbers_dense` etc. are corollaries at `InMemory.State`.

What stays trusted (see `tables_agree` for what Lean can check): T-lock's classification of a Python body
into a `Shape` and T-inmem's unwrapping of `with self._lock:` (the IR of `Model/InMemoryIR.lean` does not
carry the `with` structure, so Lean cannot re-check that a `whole` body has no statement outside the
lock); that CPython executes the body of `with self._lock:` (an `RLock`) under mutual exclusion; that the
statements outside the lock (`return trials` of a local) touch no shared state.
-/
namespace OptunaVerif.C03InMem
open OptunaVerif.Storage OptunaVerif.InMemory OptunaVerif.InMemoryIR
open OptunaVerif.Generated.InMemoryMethods OptunaVerif.Generated.LockTable
open OptunaVerif.C01InMemGen

/-- a call that does all its work on the shared state in ONE micro-step (inside the lock); the local
state holds the answer until the call returns -/
def atomic {σ ρ : Type} (f : σ → σ × ρ) (dflt : ρ) : Conc.Call σ (Option ρ) ρ :=
  { n := 1, init := none, micro := fun _ p => ((f p.1).1, some (f p.1).2), result := fun l => l.getD dflt }

theorem atomic_run {σ ρ : Type} (f : σ → σ × ρ) (dflt : ρ) (s : σ) : (atomic f dflt).run s = f s := by
  simp [Conc.Call.run, Conc.Call.iter, atomic]

abbrev ICall := Conc.Call State (Option Out) Out

/-- **denote**: the thread-model call a generated method body stands for, given the shape T-lock found for
the method.  `whole`: the entire body is inside `with self._lock:`; `preludeThenLocked`: statements that
touch no `self.` state, then the locked block (then at most `return <local>`).  In both cases the call is
one atomic step on `InMemory.State` whose effect is the interpreter of the body.  Any other shape: none. -/
def denote (sh : Shape) (body : Stmt) (op : Op) : Option ICall :=
  match sh with
  | .whole | .preludeThenLocked => some (atomic (fun m => interp body m op) unrepresentable)
  | _ => none

theorem denote_isSome (sh : Shape) (body : Stmt) (op : Op) :
    (denote sh body op).isSome = (sh == .whole || sh == .preludeThenLocked) := by
  cases sh <;> rfl

example : (denote .whole createNewTrialM (.createTrial 0 none false)).isSome = true ∧
    (denote .other createNewTrialM (.createTrial 0 none false)).isSome = false ∧
    (denote .passthrough createNewTrialM (.createTrial 0 none false)).isSome = false := by decide

/-- what Lean can check about the two translators' agreement: both tables describe the same class — every
method of the lock table has a generated body and every generated method except `BaseStorage.get_n_trials`
(which is `len(self.get_all_trials(..))`: one locked call, then a function of a local) is in the lock table -/
theorem tables_agree :
    (∀ x ∈ Generated.LockTable.inMemory, (lookup x.1 program.methods).isSome = true) ∧
    (∀ y ∈ program.methods, y.1 = "get_n_trials" ∨ (lookup y.1 Generated.LockTable.inMemory).isSome = true) := by
  constructor <;> decide

/-- **inmem_progs_denote**: every public method of `InMemoryStorage` listed in the lock table regenerated
from /repo has a body in the generated class and that body has a denotation for every call — the
hypothesis of the lock theorem, from generated data (`C03.inMemory_all_locked` is the `decide`). -/
theorem inmem_progs_denote :
    ∀ m ∈ Generated.LockTable.inMemory, ∃ body, lookup m.1 program.methods = some body ∧
      ∀ op, (denote m.2 body op).isSome = true := by
  intro m hm
  have hshape := C03.inMemory_all_locked m hm
  obtain ⟨body, hb⟩ := Option.isSome_iff_exists.mp (tables_agree.1 m hm)
  refine ⟨body, hb, fun op => ?_⟩
  rw [denote_isSome]
  rcases hshape with h | h <;> simp [h]

example : ("get_all_trials", Shape.preludeThenLocked) ∈ Generated.LockTable.inMemory := by decide

/-- the lock-table row that governs a call of the harness (`get_n_trials` is not a method of
`InMemoryStorage` itself: its only access to the storage is its call of `get_all_trials`) -/
def shapeOfOp (op : Op) : Option Shape :=
  lookup (if methodOf op == "get_n_trials" then "get_all_trials" else methodOf op) Generated.LockTable.inMemory

def denoteOp (op : Op) : Option ICall :=
  match shapeOfOp op, lookup (methodOf op) program.methods with
  | some sh, some body => denote sh body op
  | _, _ => none

def callOf (op : Op) : ICall := atomic (fun m => genStep m op) unrepresentable

theorem lookup_mem {α : Type} (k : String) (v : α) : ∀ l : List (String × α), lookup k l = some v → (k, v) ∈ l
  | [], h => by cases h
  | (k', v') :: t, h => by
    simp only [lookup] at h
    split at h
    · rename_i hk
      rw [← beq_iff_eq.1 hk, ← Option.some.inj h]; exact List.mem_cons_self
    · exact List.mem_cons_of_mem _ (lookup_mem k v t h)

theorem shapeOfOp_locked (op : Op) : shapeOfOp op = some .whole ∨ shapeOfOp op = some .preludeThenLocked := by
  unfold shapeOfOp
  by_cases hn : methodOf op = "get_n_trials"
  · rw [hn]; decide
  · rw [if_neg (by simpa using hn)]
    rcases tables_agree.2 _ (lookup_mem _ _ _ (select_method op)) with h | h
    · exact absurd h hn
    · obtain ⟨sh, hsh⟩ := Option.isSome_iff_exists.1 h
      rw [hsh]
      simpa using C03.inMemory_all_locked _ (lookup_mem _ _ _ hsh)

/-- **every call of the harness denotes, and what it denotes is `callOf`** (the atomic step `genStep`) -/
theorem denoteOp_eq (op : Op) : denoteOp op = some (callOf op) := by
  unfold denoteOp
  rw [select_method]
  have hcall : atomic (fun m => interp (bodyOf op) m op) unrepresentable = callOf op := by
    unfold callOf genStep interpOp
    simp only [select_method]
  rcases shapeOfOp_locked op with h | h <;> rw [h] <;> simp only [denote, hcall]

theorem callOf_run (op : Op) (m : State) : (callOf op).run m = genStep m op := atomic_run _ _ m

abbrev Progs := List (List Op)

def sysOf (m0 : State) (progs : Progs) (sched : List Nat) : Conc.Sys State (Option Out) Out :=
  Conc.exec (Conc.initSys m0 (progs.map (·.map callOf))) sched

/-- take the next call of thread `t`, for each `t` of the list in turn: an interleaving of the programs
that keeps every thread's own order; returns the calls in that order and what is left of the programs -/
def takeOps : Progs → List Nat → Option (List Op × Progs)
  | progs, [] => some ([], progs)
  | progs, t :: rest =>
    match progs[t]? with
    | some (op :: ops) =>
      match takeOps (updAt progs t (fun _ => ops)) rest with
      | some (l, rem) => some (op :: l, rem)
      | none => none
    | _ => none

def runG (m : State) (ops : List Op) : State := ops.foldl (fun m op => (genStep m op).1) m

theorem pairRunG_fst (l : List Op) (ms : State × Spec) : (pairRunG genStep ms l).1 = runG ms.1 l := by
  induction l generalizing ms with
  | nil => rfl
  | cons op rest ih => simp only [pairRunG, runG, List.foldl_cons] at ih ⊢; exact ih _

theorem seqRun_ops (hist : List (Nat × Out)) : ∀ (progs : Progs) (m m' : State) (rem : List (List ICall)),
    Conc.seqRun (progs.map (·.map callOf)) hist m = some (m', rem) →
    ∃ ops rem', takeOps progs (hist.map (·.1)) = some (ops, rem') ∧ rem = rem'.map (·.map callOf) ∧
      m' = runG m ops ∧ hist.map (·.2) = runOutG m ops := by
  induction hist with
  | nil =>
    intro progs m m' rem h
    simp only [Conc.seqRun, Option.some.injEq, Prod.mk.injEq] at h
    exact ⟨[], progs, rfl, h.2.symm, h.1.symm, rfl⟩
  | cons a hist ih =>
    intro progs m m' rem h
    obtain ⟨t, r⟩ := a
    simp only [Conc.seqRun, List.getElem?_map] at h
    cases hp : progs[t]? with
    | none => simp [hp] at h
    | some p =>
      cases p with
      | nil => simp [hp] at h
      | cons op ops =>
        simp only [hp, Option.map_some, List.map_cons, callOf_run] at h
        -- `seqRun` accepts the entry only if the recorded answer is the one the call gives on the state so far (`hr`)
        split at h
        · rename_i hr
          rw [← map_updAt_const] at h
          obtain ⟨l, rem', h1, h2, h3, h4⟩ := ih (updAt progs t (fun _ => ops)) (genStep m op).1 m' rem h
          refine ⟨op :: l, rem', ?_, h2, ?_, ?_⟩
          · simp only [List.map_cons, takeOps, hp, h1]
          · simp only [runG, List.foldl_cons] at h3 ⊢; exact h3
          · simp only [List.map_cons, runOutG, hr, h4]
        · simp at h

/-- **inmem_concurrent_sequential** — for any number of threads, any programs built from the denoted calls
of the translated in-memory methods and any schedule (preemption between any two steps): the answers
recorded so far are the answers of the calls run ONE AT A TIME by `genStep` in the completion order, which
is an interleaving that preserves every thread's program order; what remains to be done is what that
interleaving left; and whenever no thread is inside its critical section the shared `InMemory.State` is
the state of that sequential run. -/
theorem inmem_concurrent_sequential (m0 : State) (progs : Progs) (sched : List Nat) :
    ∃ ops rem, takeOps progs ((sysOf m0 progs sched).hist.map (·.1)) = some (ops, rem) ∧
      (sysOf m0 progs sched).threads.map (·.todo) = rem.map (·.map callOf) ∧
      (sysOf m0 progs sched).hist.map (·.2) = runOutG m0 ops ∧
      ((∀ (t : Nat) (th : Conc.Thread State (Option Out) Out), (sysOf m0 progs sched).threads[t]? = some th → th.cs = none) →
        (sysOf m0 progs sched).shared = runG m0 ops) := by
  obtain ⟨mseq, hseq, hfree, _⟩ := C03.lock_atomicity m0 (progs.map (·.map callOf)) sched
  obtain ⟨ops, rem, h1, h2, h3, h4⟩ := seqRun_ops _ progs m0 mseq _ hseq
  exact ⟨ops, rem, h1, h2, h4, fun hf => by rw [← h3]; exact hfree hf⟩

/-- never two threads inside a method of the storage at once -/
theorem inmem_mutual_exclusion (m0 : State) (progs : Progs) (sched : List Nat) (t t' : Nat)
    (th th' : Conc.Thread State (Option Out) Out)
    (h : (sysOf m0 progs sched).threads[t]? = some th) (h' : (sysOf m0 progs sched).threads[t']? = some th')
    (hc : th.cs.isSome = true) (hc' : th'.cs.isSome = true) : t = t' :=
  C03.mutual_exclusion m0 _ sched t t' th th' h h' hc hc'

/-- **inmem_concurrent_linearizable** — every concurrent history of the TRANSLATED in-memory methods is
linearizable w.r.t. the storage contract: started on the empty storage, with the calls `ops` of the
sequential order of `inmem_concurrent_sequential` (completion order, every thread's order preserved; real-time order is
not claimed), if that order is a legal history of the contract (`Legal`: the calls are inside the contract's domain), then
every answer any thread received is an answer the contract model `Storage.step` allows when run in that
order (`acceptedFromG`), the invariant of the redundant fields holds, and — whenever no thread is inside its
critical section — the shared state is related (`Rel`) to the contract state after that order. -/
theorem inmem_concurrent_linearizable (progs : Progs) (sched : List Nat) :
    ∃ ops rem, takeOps progs ((sysOf InMemory.init progs sched).hist.map (·.1)) = some (ops, rem) ∧
      (sysOf InMemory.init progs sched).hist.map (·.2) = runOutG InMemory.init ops ∧
      (legalFromG genStep (InMemory.init, Storage.init) ops = true →
        acceptedFromG genStep (InMemory.init, Storage.init) ops = true ∧
        ((∀ (t : Nat) (th : Conc.Thread State (Option Out) Out),
            (sysOf InMemory.init progs sched).threads[t]? = some th → th.cs = none) →
          InMemory.Inv (sysOf InMemory.init progs sched).shared ∧
          Rel (sysOf InMemory.init progs sched).shared (pairRunG genStep (InMemory.init, Storage.init) ops).2)) := by
  obtain ⟨ops, rem, h1, _, h3, h4⟩ := inmem_concurrent_sequential InMemory.init progs sched
  refine ⟨ops, rem, h1, h3, fun hL => ?_⟩
  obtain ⟨hacc, hinv, hrel⟩ := gen_refines_spec_init ops hL
  refine ⟨hacc, fun hf => ?_⟩
  rw [h4 hf, ← pairRunG_fst ops (InMemory.init, Storage.init)]
  exact ⟨hinv, hrel⟩

/-- `C03.concurrent_numbers_dense` at `InMemory.State`: after any concurrent execution of legal calls of
the translated methods, in a state where no thread is inside the lock, the trial at position `n` of a
study's list has number `n`, belongs to that study, and the id table says so -/
theorem inmem_concurrent_numbers_dense (progs : Progs) (sched : List Nat)
    (hfree : ∀ (t : Nat) (th : Conc.Thread State (Option Out) Out),
      (sysOf InMemory.init progs sched).threads[t]? = some th → th.cs = none)
    (hlegal : ∀ ops rem, takeOps progs ((sysOf InMemory.init progs sched).hist.map (·.1)) = some (ops, rem) →
      legalFromG genStep (InMemory.init, Storage.init) ops = true)
    (sid : Nat) (si : StudyInfo) (n tid : Nat) (t : TrialS)
    (hs : (sysOf InMemory.init progs sched).shared.studies.get? sid = some si) (ht : si.trials[n]? = some (tid, t)) :
    t.number = n ∧ t.study = sid ∧ (sysOf InMemory.init progs sched).shared.tidMap.get? tid = some (sid, n) := by
  obtain ⟨ops, rem, h1, _, _, h4⟩ := inmem_concurrent_sequential InMemory.init progs sched
  have hL := hlegal ops rem h1
  have hsh : (sysOf InMemory.init progs sched).shared = (pairRunG genStep (InMemory.init, Storage.init) ops).1 := by
    rw [h4 hfree, pairRunG_fst]
  rw [hsh] at hs ⊢
  exact gen_numbers_dense ops hL sid si n tid t hs ht

/-- a finished run: every thread has returned from all its calls — then the sequential order contains
every call of every program -/
theorem inmem_completed_run (m0 : State) (progs : Progs) (sched : List Nat)
    (hdone : ∀ (t : Nat) (th : Conc.Thread State (Option Out) Out), (sysOf m0 progs sched).threads[t]? = some th →
      th.todo = [] ∧ th.cs = none) :
    ∃ ops rem, takeOps progs ((sysOf m0 progs sched).hist.map (·.1)) = some (ops, rem) ∧ (∀ p ∈ rem, p = []) ∧
      (sysOf m0 progs sched).hist.map (·.2) = runOutG m0 ops ∧ (sysOf m0 progs sched).shared = runG m0 ops := by
  obtain ⟨ops, rem, h1, h2, h3, h4⟩ := inmem_concurrent_sequential m0 progs sched
  refine ⟨ops, rem, h1, ?_, h3, h4 (fun t th h => (hdone t th h).2)⟩
  intro p hp
  have hmem : p.map callOf ∈ rem.map (·.map callOf) := List.mem_map_of_mem hp
  rw [← h2] at hmem
  obtain ⟨th, hth, hte⟩ := List.mem_map.mp hmem
  obtain ⟨t, ht⟩ := List.getElem?_of_mem hth
  have := (hdone t th ht).1
  rw [this] at hte
  cases p with
  | nil => rfl
  | cons a b => simp at hte

/-! ## non-vacuity: three threads — create_new_trial / set_trial_state_values / get_all_trials racing -/

/-- the study exists; thread 0 creates two trials, thread 1 finishes trial 0, thread 2 reads twice -/
def m1 : State := (genStep InMemory.init (.createStudy "s" [1])).1
def demoProgs : Progs :=
  [[.createTrial 0 none false, .createTrial 0 none false],
   [.setTrialStateValues 0 .complete (some [.fin 2])],
   [.getAllTrials 0 none, .getNTrials 0 none]]
/-- thread 1 tries first (its trial does not exist yet: KeyError), thread 2 reads an empty study while thread
0 is waiting for the lock, … every call takes 3 picks: enter, the atomic step, return -/
def demoSched : List Nat := [1, 0, 2, 1, 1, 2, 2, 0, 2, 0, 0, 2, 0, 2, 0, 0, 2, 2, 2, 2, 0, 0, 0]

set_option maxRecDepth 20000 in
example : (sysOf m1 demoProgs demoSched).hist.map (·.1) = [1, 2, 0, 2, 0] := by decide
-- the sequential order that explains it: finish (KeyError: the trial does not exist yet), read (empty), create, count (1), create
example : takeOps demoProgs [1, 2, 0, 2, 0] =
    some ([.setTrialStateValues 0 .complete (some [.fin 2]), .getAllTrials 0 none, .createTrial 0 none false,
           .getNTrials 0 none, .createTrial 0 none false], [[], [], []]) := by rfl
set_option maxRecDepth 20000 in
example : (sysOf m1 demoProgs demoSched).hist.map (·.2) =
    [.err .keyError, .trials [], .newId 0, .nat 1, .newId 1] := by decide
set_option maxRecDepth 20000 in
example : (sysOf m1 demoProgs demoSched).threads.all (fun th => th.todo.isEmpty && th.cs.isNone) = true := by decide
-- a blocked pick is a stutter: thread 2's pick while thread 1 is inside changes nothing
set_option maxRecDepth 20000 in
example : (sysOf m1 demoProgs [1, 2]).threads.map (fun th => th.cs.isSome) = [false, true, false] := by decide

end OptunaVerif.C03InMem
