import OptunaVerif.Model.PoolRun
import OptunaVerif.Props.C02
/-!
# C02 — `optimize(n_jobs = k)`: every trial any worker started is terminal and well-formed at exit

The thread-pool theorems of `Props/C02.lean` (`Pool.step`: `optimizePool_*`) speak of *futures*, the others of
one `_run_trial` / one `_optimize_sequential`.  Here a future's `Pool.Res` is linked to the trial the
future ran, on the refined system of `Model/PoolRun.lean`, where every future is
a run of `_optimize_sequential(n_trials = 1)` (`Tell.optimizeSeq`) over a storage shared by all workers, and
where `_optimize` may also be left by an exception raised in the main thread itself (KeyboardInterrupt)
through `ThreadPoolExecutor.__exit__`.

The one hypothesis that is modelled and not verified is the guard of `exit` (normal and exceptional):
the executor's `__exit__` joins every submitted future.  Storage calls are taken atomic (C03's subject);
a trial row is written by its own worker only, except for the interference that `runTrial` already takes as
an arbitrary input (`Script.pre`, `Env.interfere`) and that only `Undisturbed` excludes.
-/
namespace OptunaVerif.C02PoolRun
open OptunaVerif.Tell OptunaVerif.PoolRun

theorem jobOut_break (P : Params) (st : Bool) (i : Nat) (h : jobBreaks P st i = true) :
    jobOut P st i = { stopFlag := st } := by
  unfold jobBreaks at h
  unfold jobOut
  simp [optimizeSeq, h]

/-- the job of a future whose loop head lets it go on: one `_run_trial`, its callbacks if nothing propagated, and the loop
ends on `n_trials = 1` -/
theorem jobOut_go (P : Params) (st : Bool) (i : Nat) (h : jobBreaks P st i = false) :
    jobOut P st i =
      match (runPlan P.cfg (P.jobs i).plan).raised with
      | some e => { trials := [runPlan P.cfg (P.jobs i).plan], raised := some e, stopFlag := st || (P.jobs i).plan.stopInObj }
      | none =>
        { trials := [runPlan P.cfg (P.jobs i).plan], cbLog := (runCallbacks 0 0 (P.jobs i).plan.cbs).1,
          raised := (runCallbacks 0 0 (P.jobs i).plan.cbs).2.2.map .user,
          stopFlag := st || (P.jobs i).plan.stopInObj || (runCallbacks 0 0 (P.jobs i).plan.cbs).2.1 } := by
  unfold jobBreaks at h
  unfold jobOut
  simp only [optimizeSeq, h, Bool.false_eq_true, if_false]
  cases (runPlan P.cfg (P.jobs i).plan).raised with
  | some e => rfl
  | none =>
    simp only []
    rcases runCallbacks 0 0 (P.jobs i).plan.cbs with ⟨log, cbStop, r⟩
    cases r <;> simp [loopBreaks]

theorem jobOut_trials (P : Params) (st : Bool) (i : Nat) (h : jobBreaks P st i = false) :
    (jobOut P st i).trials = [runPlan P.cfg (P.jobs i).plan] := by
  rw [jobOut_go P st i h]
  split <;> rfl

theorem jobOut_cb_fst (P : Params) (st : Bool) (i : Nat) : ∀ x ∈ (jobOut P st i).cbLog, x.1 = 0 := by
  cases h : jobBreaks P st i with
  | true => rw [jobOut_break P st i h]; simp
  | false =>
    rw [jobOut_go P st i h]
    split
    · simp
    · simp [C02.runCallbacks_log]

theorem count_retag (l : List (Nat × Nat)) (h : ∀ x ∈ l, x.1 = 0) (t t' j : Nat) :
    List.count (t', j) (l.map (fun x => (t, x.2))) = if t' = t then List.count (0, j) l else 0 := by
  induction l with
  | nil => simp
  | cons x l ih =>
    obtain ⟨a, b⟩ := x
    have ha : a = 0 := h (a, b) List.mem_cons_self
    subst ha
    have ih' := ih (fun y hy => h y (List.mem_cons_of_mem _ hy))
    simp only [List.map_cons, List.count_cons, ih', beq_iff_eq, Prod.mk.injEq]
    by_cases ht : t' = t
    · subst ht
      by_cases hb : b = j
      · simp [hb]
      · have : ¬ j = b := fun e => hb e.symm
        simp [hb]
    · have : ¬ t = t' := fun e => ht e.symm
      simp [ht, this]

theorem pool_begin (k : Nat) (n : Option Nat) (p p' : Pool.State) (i : Nat)
    (h : Pool.step k n p (.begin i) = some p') :
    p.begun i = false ∧ p'.begun = upd p.begun i true ∧ p'.ended = p.ended := by
  simp only [Pool.step] at h
  split at h
  · rename_i hg
    cases h
    exact ⟨hg.2, rfl, rfl⟩
  · cases h

theorem pool_finish (k : Nat) (n : Option Nat) (p p' : Pool.State) (i : Nat) (r : Pool.Res)
    (h : Pool.step k n p (.finish i r) = some p') :
    p.ended i = none ∧ p'.ended = upd p.ended i (some r) ∧ p'.begun = p.begun := by
  simp only [Pool.step] at h
  split at h
  · rename_i hg
    cases h
    exact ⟨hg.2, rfl, rfl⟩
  · cases h

theorem pool_frame (k : Nat) (n : Option Nat) (p p' : Pool.State) (e : Pool.Event) (hb : ∀ i, e ≠ .begin i)
    (hf : ∀ i r, e ≠ .finish i r) (h : Pool.step k n p e = some p') : p'.begun = p.begun ∧ p'.ended = p.ended :=
  ⟨(Pool.step_frame k n p p' e h).1 hb, (Pool.step_frame k n p p' e h).2.1 hf⟩

theorem liftPool_some {P : Params} {s s' : State} {e : Pool.Event} (h : liftPool P s e = some s') :
    ∃ p, Pool.step P.k P.n s.pool e = some p ∧ s' = { s with pool := p } := by
  unfold liftPool at h
  cases hp : Pool.step P.k P.n s.pool e with
  | none => rw [hp] at h; cases h
  | some p => rw [hp] at h; cases h; exact ⟨p, rfl, rfl⟩

/-- every step of the refined system moves the pool component by `Pool.step`s: none (an interrupt, the exit of an
interrupted `_optimize`), one, or two (`stopCalled` then `finish`, when the job called `study.stop()`); the main
thread's `timeout` step only if a timeout was given -/
theorem step_pool (P : Params) (s s' : State) (ev : Event) (h : step P s ev = some s') :
    ∃ pes, Pool.run P.k P.n s.pool pes = some s'.pool ∧ (Pool.Event.timeout ∈ pes → P.timeout.isSome = true) := by
  have one : ∀ p0 e p, Pool.step P.k P.n p0 e = some p → Pool.run P.k P.n p0 [e] = some p := by
    intro p0 e p hp
    simp [Pool.run, hp]
  have lift : ∀ e, liftPool P s e = some s' → Pool.run P.k P.n s.pool [e] = some s'.pool := by
    intro e hl
    obtain ⟨p, hp, rfl⟩ := liftPool_some hl
    exact one _ e p hp
  have guarded : ∀ (c : Prop) [Decidable c] (e : Pool.Event), e ≠ .timeout →
      (if c then liftPool P s e else none) = some s' →
      ∃ pes, Pool.run P.k P.n s.pool pes = some s'.pool ∧ (Pool.Event.timeout ∈ pes → P.timeout.isSome = true) := by
    intro c _ e he hl
    split at hl
    · exact ⟨[e], lift e hl, fun hm => absurd (List.mem_singleton.1 hm).symm he⟩
    · cases hl
  unfold step at h
  split at h
  · cases h
  · cases ev with
    | submit => exact guarded _ _ (by simp) h
    | waitFirst c => exact guarded _ _ (by simp) h
    | waitAll => exact guarded _ _ (by simp) h
    | stopCalled i => exact guarded _ _ (by simp) h
    | timeout =>
      simp only [] at h
      split at h
      · rename_i hg
        exact ⟨[.timeout], lift _ h, fun _ => hg.2⟩
      · cases h
    | interrupt c =>
      simp only [] at h
      split at h
      · cases h; exact ⟨[], rfl, by simp⟩
      · cases h
    | exit r =>
      simp only [] at h
      split at h
      · cases hp : Pool.step P.k P.n s.pool (.exit r) with
        | none => rw [hp] at h; cases h
        | some p => rw [hp] at h; cases h; exact ⟨[.exit r], one _ _ p hp, by simp⟩
      · split at h
        · cases h; exact ⟨[], rfl, by simp⟩
        · cases h
    | begin i =>
      simp only [] at h
      cases hp : Pool.step P.k P.n s.pool (.begin i) with
      | none => rw [hp] at h; cases h
      | some p =>
        rw [hp] at h
        simp only [] at h
        split at h <;> (cases h; exact ⟨[.begin i], one _ _ p hp, by simp⟩)
    | finish i =>
      simp only [] at h
      split at h
      · cases h
      · rename_i p1 hp1
        split at h
        · cases h
        · rename_i p2 hp2
          cases h
          -- the job called `study.stop()`: the pool saw `stopCalled i` before `finish i`; else `finish i` alone
          split at hp1
          · exact ⟨[.stopCalled i, .finish i _], Pool.run_append _ _ _ _ _ [_] [_] (one _ _ p1 hp1)
              (one _ _ p2 hp2), by simp⟩
          · cases hp1
            exact ⟨[.finish i _], one _ _ p2 hp2, by simp⟩

/-! ## the worker-side invariant

Stated over the components it talks about, so that events which do not touch them preserve it by
rewriting. -/

structure WInv (P : Params) (b : Nat → Bool) (e : Nat → Option Pool.Res) (s0 : Nat → Bool)
    (tr : Nat → Option Nat) (st : Nat → Option Cell) (n : Nat) (cb : List (Nat × Nat)) : Prop where
  store_dom : ∀ t, t < n ↔ ∃ c, st t = some c
  owner_trial : ∀ t c, st t = some c → tr c.owner = some t
  /-- a future that started a trial has begun, its loop head did not break, and its row is the fresh RUNNING record
  until the future ends and `_run_trial`'s final record from then on -/
  trial_row : ∀ i t, tr i = some t → b i = true ∧ jobBreaks P (s0 i) i = false ∧
    st t = some ⟨i, if (e i).isSome then (runPlan P.cfg (P.jobs i).plan).final else {}⟩
  begun_skip : ∀ i, b i = true → tr i = none → jobBreaks P (s0 i) i = true
  ended_res : ∀ i r, e i = some r → r = resOf P.cls (jobOut P (s0 i) i).raised
  cb_count : ∀ t j, List.count (t, j) cb =
    match st t with
    | some c => if (e c.owner).isSome then List.count (0, j) (jobOut P (s0 c.owner) c.owner).cbLog else 0
    | none => 0

theorem winv_init (P : Params) :
    WInv P (fun _ => false) (fun _ => none) (fun _ => false) (fun _ => none) (fun _ => none) 0 [] := by
  constructor <;> simp

theorem WInv.not_owner {P : Params} {b e s0 tr st n cb} (hw : WInv P b e s0 tr st n cb) {i : Nat} (hbi : b i = false)
    (t : Nat) (c : Cell) (hc : st t = some c) : c.owner ≠ i := by
  intro ho
  have := (hw.trial_row c.owner t (hw.owner_trial t c hc)).1
  rw [ho, hbi] at this
  cases this

/-- `begin i`, the loop head lets the worker go on: `ask` appends a RUNNING row -/
theorem winv_begin_go (P : Params) (b e s0 tr st n cb) (hw : WInv P b e s0 tr st n cb) (i : Nat)
    (stp : Bool) (hbi : b i = false) (hei : e i = none) (hgo : jobBreaks P stp i = false) :
    WInv P (upd b i true) e (upd s0 i stp) (upd tr i (some n)) (upd st n (some ⟨i, {}⟩)) (n + 1) cb := by
  -- no row is `i`'s yet (`i` had not begun) and row `n` is free (`store_dom`): every clause splits into the new
  -- future / row, read off the update, and the old ones, where `upd` falls through
  have hown := hw.not_owner hbi
  have hstn : st n = none := by
    cases hs : st n with
    | none => rfl
    | some c => exact absurd ((hw.store_dom n).2 ⟨c, hs⟩) (Nat.lt_irrefl n)
  constructor
  · intro t
    simp only [upd]
    split
    · rename_i h; subst h; exact ⟨fun _ => ⟨_, rfl⟩, fun _ => Nat.lt_succ_self _⟩
    · rw [← hw.store_dom t]; omega
  · intro t c hc
    simp only [upd] at hc ⊢
    split at hc
    · rename_i htn
      cases hc
      simp [htn]
    · simp only [hown t c hc, if_false]
      exact hw.owner_trial t c hc
  · intro j t hj
    simp only [upd] at hj ⊢
    split at hj
    · rename_i hji
      cases hj
      subst hji
      simp [hgo, hei]
    · rename_i hji
      obtain ⟨h1, h2, h3⟩ := hw.trial_row j t hj
      have : t ≠ n := Nat.ne_of_lt ((hw.store_dom t).2 ⟨_, h3⟩)
      simp only [hji, this, if_false]
      exact ⟨h1, h2, h3⟩
  · intro j hb htr
    simp only [upd] at hb htr ⊢
    by_cases hji : j = i
    · simp [hji] at htr
    · simp only [hji, if_false] at hb htr ⊢
      exact hw.begun_skip j hb htr
  · intro j r he
    have hji : j ≠ i := by
      intro h; rw [h, hei] at he; cases he
    simp only [upd, hji, if_false]
    exact hw.ended_res j r he
  · intro t j
    rw [hw.cb_count t j]
    simp only [upd]
    by_cases htn : t = n
    · subst htn
      simp [hstn, hei]
    · simp only [htn, if_false]
      cases hs : st t with
      | none => rfl
      | some c => simp only [hown t c hs, if_false]

/-- `begin i`, the loop head breaks (stop flag / timeout): the future starts no trial -/
theorem winv_begin_skip (P : Params) (b e s0 tr st n cb) (hw : WInv P b e s0 tr st n cb) (i : Nat)
    (stp : Bool) (hbi : b i = false) (hei : e i = none) (hbrk : jobBreaks P stp i = true) :
    WInv P (upd b i true) e (upd s0 i stp) tr st n cb := by
  have hown := hw.not_owner hbi
  have hne : ∀ j t, tr j = some t → j ≠ i := by
    intro j t hj h
    have := (hw.trial_row j t hj).1
    rw [h, hbi] at this
    cases this
  exact { hw with
    trial_row := by
      intro j t hj
      simp only [upd, hne j t hj, if_false]
      exact hw.trial_row j t hj
    begun_skip := by
      intro j hb htr
      simp only [upd] at hb ⊢
      by_cases hji : j = i
      · subst hji
        simp [hbrk]
      · simp only [hji, if_false] at hb ⊢
        exact hw.begun_skip j hb htr
    ended_res := by
      intro j r he
      have hji : j ≠ i := by
        intro h; rw [h, hei] at he; cases he
      simp only [upd, hji, if_false]
      exact hw.ended_res j r he
    cb_count := by
      intro t j
      rw [hw.cb_count t j]
      cases hs : st t with
      | none => rfl
      | some c => simp only [upd, hown t c hs, if_false] }

/-- `finish i`: the row of the trial future `i` started (if any) gets `_run_trial`'s final record, the
callback invocations of the job are logged under the trial's number -/
theorem winv_finish (P : Params) (b e s0 tr st n cb) (hw : WInv P b e s0 tr st n cb) (i : Nat)
    (hei : e i = none) :
    WInv P b (upd e i (some (resOf P.cls (jobOut P (s0 i) i).raised))) s0 tr
      (match tr i, (jobOut P (s0 i) i).trials with
        | some t, ro :: _ => upd st t (some ⟨i, ro.final⟩)
        | _, _ => st) n
      (cb ++ (match tr i with
        | some t => (jobOut P (s0 i) i).cbLog.map (fun x => (t, x.2))
        | none => [])) := by
  have hres : ∀ j r, upd e i (some (resOf P.cls (jobOut P (s0 i) i).raised)) j = some r →
      r = resOf P.cls (jobOut P (s0 j) j).raised := by
    intro j r he
    simp only [upd] at he
    split at he
    · rename_i hji
      cases he
      rw [hji]
    · exact hw.ended_res j r he
  cases htr : tr i with
  | none =>
    -- `i` started no trial: it owns no row, so no row's clause reads `ended i`
    have hown : ∀ t c, st t = some c → c.owner ≠ i := by
      intro t c hc ho
      have := hw.owner_trial t c hc
      rw [ho, htr] at this
      cases this
    simp only [List.append_nil]
    exact { hw with
      trial_row := by
        intro j t hj
        have hji : j ≠ i := by
          intro h; rw [h, htr] at hj; cases hj
        simp only [upd, hji, if_false]
        exact hw.trial_row j t hj
      ended_res := hres
      cb_count := by
        intro t j
        rw [hw.cb_count t j]
        cases hs : st t with
        | none => rfl
        | some c => simp only [upd, hown t c hs, if_false] }
  | some t0 =>
    obtain ⟨_, hgo, hst0⟩ := hw.trial_row i t0 htr
    rw [jobOut_trials P (s0 i) i hgo]
    simp only []
    -- `i` owns `t0` and no other row (`owner_trial`), so only the clauses of row `t0` see `ended i` change
    have hown : ∀ t c, st t = some c → t ≠ t0 → c.owner ≠ i := by
      intro t c hc hne ho
      have := hw.owner_trial t c hc
      rw [ho, htr] at this
      cases this
      exact hne rfl
    constructor
    · intro t
      simp only [upd]
      split
      · rename_i h; rw [h]; exact ⟨fun _ => ⟨_, rfl⟩, fun _ => (hw.store_dom t0).2 ⟨_, hst0⟩⟩
      · exact hw.store_dom t
    · intro t c hc
      simp only [upd] at hc
      split at hc
      · rename_i h
        cases hc
        rw [h]; exact htr
      · exact hw.owner_trial t c hc
    · intro j t hj
      obtain ⟨h1, h2, h3⟩ := hw.trial_row j t hj
      refine ⟨h1, h2, ?_⟩
      simp only [upd]
      by_cases hji : j = i
      · subst hji
        rw [htr] at hj
        cases hj
        simp
      · have : t ≠ t0 := by
          intro h
          rw [h, hst0] at h3
          cases h3
          exact hji rfl
        simp only [hji, this, if_false]
        exact h3
    · exact hw.begun_skip
    · exact hres
    · intro t j
      -- the job logged under trial 0; retagged with `t0` the new entries count for row `t0` only, whose old count
      -- was 0 since `i` had not ended (`hei`)
      rw [List.count_append, hw.cb_count t j, count_retag _ (jobOut_cb_fst P (s0 i) i)]
      simp only [upd]
      by_cases htt : t = t0
      · subst htt
        simp [hst0, hei]
      · simp only [htt, if_false, Nat.add_zero]
        cases hs : st t with
        | none => rfl
        | some c => simp only [hown t c hs htt, if_false]

structure RInv (P : Params) (s : State) : Prop where
  /-- the pool component is a state of `Pool.run`: every `optimizePool_*` theorem of Props/C02.lean applies to it -/
  sim : ∃ pes, Pool.run P.k P.n Pool.init pes = some s.pool
  w : WInv P s.pool.begun s.pool.ended s.stop0 s.trialOf s.store s.nTrials s.cbLog
  /-- `_optimize` is left through the pool's `exit`, or, interrupted, with the interrupt after the executor's join -/
  left : ∀ r, s.done = some r →
    match s.interrupted with
    | none => s.pool.phase = .exited r
    | some c => r = .raised c ∧ (P.joins = true → ∀ i, i < s.pool.submitted → (s.pool.ended i).isSome = true)

theorem RInv.pinv {P : Params} {s : State} (h : RInv P s) : Pool.Inv P.k P.n s.pool := by
  obtain ⟨pes, hp⟩ := h.sim
  exact Pool.inv_run P.k P.n Pool.init s.pool pes (Pool.inv_init P.k P.n) hp

theorem RInv.of_running {P : Params} {s : State} (hd : s.done = none)
    (sim : ∃ pes, Pool.run P.k P.n Pool.init pes = some s.pool)
    (w : WInv P s.pool.begun s.pool.ended s.stop0 s.trialOf s.store s.nTrials s.cbLog) : RInv P s := by
  refine ⟨sim, w, ?_⟩
  intro r hr; rw [hd] at hr; cases hr

theorem rinv_init (P : Params) : RInv P init :=
  RInv.of_running rfl ⟨[], rfl⟩ (winv_init P)

theorem rinv_step (P : Params) (s s' : State) (ev : Event) (hi : RInv P s) (h : step P s ev = some s') :
    RInv P s' := by
  have hsim : ∃ pes, Pool.run P.k P.n Pool.init pes = some s'.pool := by
    obtain ⟨pes0, h0⟩ := hi.sim
    obtain ⟨pes1, h1, _⟩ := step_pool P s s' ev h
    exact ⟨_, Pool.run_append _ _ _ _ _ _ _ h0 h1⟩
  unfold step at h
  split at h
  · cases h
  · rename_i hdn
    have hd : s.done = none := Option.not_isSome_iff_eq_none.1 hdn
    have guarded : ∀ (c : Prop) [Decidable c] (e : Pool.Event), (∀ i, e ≠ .begin i) → (∀ i r, e ≠ .finish i r) →
        (if c then liftPool P s e else none) = some s' → RInv P s' := by
      intro c _ e hb hf hl
      split at hl
      · obtain ⟨p, hp, rfl⟩ := liftPool_some hl
        obtain ⟨hb', he'⟩ := pool_frame P.k P.n s.pool p e hb hf hp
        refine RInv.of_running hd hsim ?_
        show WInv P p.begun p.ended s.stop0 s.trialOf s.store s.nTrials s.cbLog
        rw [hb', he']
        exact hi.w
      · cases hl
    cases ev with
    | submit => exact guarded _ _ (by simp) (by simp) h
    | waitFirst c => exact guarded _ _ (by simp) (by simp) h
    | timeout => exact guarded _ _ (by simp) (by simp) h
    | waitAll => exact guarded _ _ (by simp) (by simp) h
    | stopCalled i => exact guarded _ _ (by simp) (by simp) h
    | exit r =>
      simp only [] at h
      cases hin : s.interrupted with
      | none =>
        rw [hin] at h
        simp only [] at h
        cases hp : Pool.step P.k P.n s.pool (.exit r) with
        | none => rw [hp] at h; cases h
        | some p =>
          rw [hp] at h
          cases h
          obtain ⟨hb, hen⟩ := pool_frame P.k P.n s.pool p (.exit r) (by simp) (by simp) hp
          have hph : p.phase = .exited r := by
            simp only [Pool.step] at hp
            split at hp
            · cases hp; rfl
            · cases hp
          refine ⟨hsim, ?_, ?_⟩
          · show WInv P p.begun p.ended s.stop0 s.trialOf s.store s.nTrials s.cbLog
            rw [hb, hen]; exact hi.w
          · intro r' hr'
            cases hr'
            exact hph
      | some c =>
        rw [hin] at h
        simp only [] at h
        split at h
        · rename_i hg
          cases h
          refine ⟨hi.sim, hi.w, ?_⟩
          intro r' hr'
          cases hr'
          refine ⟨hg.1, fun hj i hlt => ?_⟩
          rcases hg.2 with hg2 | hg2
          · rw [hj] at hg2; cases hg2
          · exact Pool.allEnded_mem _ _ hg2 i (List.mem_range.2 hlt)
        · cases h
    | interrupt c =>
      simp only [] at h
      split at h
      · cases h
        exact RInv.of_running hd hi.sim hi.w
      · cases h
    | begin i =>
      simp only [] at h
      cases hp : Pool.step P.k P.n s.pool (.begin i) with
      | none => rw [hp] at h; cases h
      | some p =>
        rw [hp] at h
        simp only [] at h
        obtain ⟨hbi, hb, hen⟩ := pool_begin P.k P.n s.pool p i hp
        have hei : s.pool.ended i = none := by
          cases he : s.pool.ended i with
          | none => rfl
          | some r =>
            have := hi.pinv.ended_begun i r he
            rw [hbi] at this
            cases this
        split at h
        · rename_i hbrk
          cases h
          refine RInv.of_running hd hsim ?_
          show WInv P p.begun p.ended (upd s.stop0 i s.pool.stop) s.trialOf s.store s.nTrials s.cbLog
          rw [hb, hen]
          exact winv_begin_skip P _ _ _ _ _ _ _ hi.w i s.pool.stop hbi hei hbrk
        · rename_i hgo
          cases h
          refine RInv.of_running hd hsim ?_
          show WInv P p.begun p.ended (upd s.stop0 i s.pool.stop) (upd s.trialOf i (some s.nTrials))
            (upd s.store s.nTrials (some ⟨i, {}⟩)) (s.nTrials + 1) s.cbLog
          rw [hb, hen]
          exact winv_begin_go P _ _ _ _ _ _ _ hi.w i s.pool.stop hbi hei (by simpa using hgo)
    | finish i =>
      simp only [] at h
      split at h
      · cases h
      · rename_i p1 hp1
        -- the (possible) `study.stop()` of the job leaves `begun` and `ended` alone
        have hfr : p1.begun = s.pool.begun ∧ p1.ended = s.pool.ended := by
          split at hp1
          · exact pool_frame P.k P.n s.pool p1 _ (by simp) (by simp) hp1
          · cases hp1; exact ⟨rfl, rfl⟩
        split at h
        · cases h
        · rename_i p2 hp2
          cases h
          obtain ⟨hei, hen2, hb2⟩ := pool_finish P.k P.n p1 p2 i _ hp2
          rw [hfr.1] at hb2
          rw [hfr.2] at hei hen2
          refine RInv.of_running hd hsim ?_
          show WInv P p2.begun p2.ended s.stop0 s.trialOf _ s.nTrials _
          rw [hb2, hen2]
          exact winv_finish P _ _ _ _ _ _ _ hi.w i hei

theorem run_invariant {P : Params} {Q : State → Prop} (hstep : ∀ s s' e, Q s → step P s e = some s' → Q s')
    {s s' : State} {es : List Event} (hq : Q s) (h : run P s es = some s') : Q s' := by
  induction es generalizing s with
  | nil => simp only [run, Option.some.injEq] at h; subst h; exact hq
  | cons e es ih =>
    simp only [run] at h
    cases hs : step P s e with
    | none => rw [hs] at h; cases h
    | some s1 =>
      rw [hs] at h
      exact ih (hstep s s1 e hq hs) h

theorem rinv_run (P : Params) (s s' : State) (es : List Event) (hi : RInv P s)
    (h : run P s es = some s') : RInv P s' :=
  run_invariant (rinv_step P) hi h

/-- The pool component of every reachable state of the refined system is a state of `Pool.run`: all
of `optimizePool_*` (Props/C02.lean) applies to it verbatim. -/
theorem pool_component_is_pool_run (P : Params) (es : List Event) (s : State)
    (h : run P init es = some s) : ∃ pes, Pool.run P.k P.n Pool.init pes = some s.pool :=
  (rinv_run P init s es (rinv_init P) h).sim

/-- **pool_all_submitted_trials_terminal** — for every `n_jobs = k`, `n_trials`, timeout, every
behaviour of every trial (objective outcome, sampler, callbacks, `study.stop()` calls, interference),
every clock reading and every schedule (event list accepted from `init`): when `_optimize` has returned
or raised (`s.done = some r`; normal return, an exception of a future re-raised by `f.result()`, or an
exception raised in the main thread itself and propagating through `ThreadPoolExecutor.__exit__`), and under the
join hypothesis `hj : P.joins = true` (see the head of the file; `pool_join_hypothesis_needed`),

1. every submitted future has begun and has ended, with the result of *its*
   `_optimize_sequential(n_trials=1)` job;
2. the storage rows are `0 .. nTrials-1`, and a submitted future created a row exactly when its loop
   head did not break (stop flag / timeout);
3. every row was created by a submitted future's worker, and holds exactly the record `_run_trial`
   (`runPlan`) leaves — which is COMPLETE, PRUNED or FAIL, never RUNNING;
4. every callback ran exactly once for every trial whose exception did not propagate (up to the first
   raising callback), never for another trial and never for a number that is not a trial;
5. at most `n_trials` futures were submitted; if `_optimize` was not interrupted: it returns only if
   every future returned, it raises class `c` only if a future raised `c`, and if it returns without
   `study.stop()` having been called and without the main thread having seen the `timeout` elapse
   (stop-free, timeout-free return) exactly `n_trials` futures were submitted; if it was interrupted
   by class `c`, it raises `c`.  (`≤ n_trials` always; `timedOut` is possible only if a timeout was
   given: `timedOut_only_with_timeout`, `pool_exactly_n_without_timeout`.) -/
theorem pool_all_submitted_trials_terminal (P : Params) (es : List Event) (s : State) (r : Pool.Res)
    (hj : P.joins = true) (h : run P init es = some s) (hx : s.done = some r) :
    (∀ i, i < s.pool.submitted → s.pool.begun i = true ∧
        s.pool.ended i = some (resOf P.cls (jobOut P (s.stop0 i) i).raised)) ∧
    ((∀ t, t < s.nTrials ↔ ∃ c, s.store t = some c) ∧
      ∀ i, i < s.pool.submitted →
        (jobBreaks P (s.stop0 i) i = false ↔ ∃ t, s.trialOf i = some t ∧ ∃ c, s.store t = some c ∧ c.owner = i)) ∧
    (∀ t c, s.store t = some c →
        c.owner < s.pool.submitted ∧ s.trialOf c.owner = some t ∧
        c.row = (runPlan P.cfg (P.jobs c.owner).plan).final ∧
        c.row.state.isFinished = true ∧ c.row.state ≠ .running) ∧
    ((∀ t c j, s.store t = some c →
        List.count (t, j) s.cbLog =
          if (runPlan P.cfg (P.jobs c.owner).plan).raised = none ∧
              (j < (P.jobs c.owner).plan.cbs.length ∧
                ∀ j', j' < j → ∀ a, (P.jobs c.owner).plan.cbs[j']? = some a → a.raises = none)
          then 1 else 0) ∧
      ∀ t j, s.store t = none → List.count (t, j) s.cbLog = 0) ∧
    ((∀ m, P.n = some m → s.pool.submitted ≤ m) ∧
      (s.interrupted = none →
        (r = .ok → ∀ i, i < s.pool.submitted → s.pool.ended i = some .ok) ∧
        (∀ c, r = .raised c → ∃ i, i < s.pool.submitted ∧ s.pool.ended i = some (.raised c)) ∧
        (r = .ok → s.pool.stop = false → s.pool.timedOut = false →
          ∀ m, P.n = some m → s.pool.submitted = m)) ∧
      ∀ c, s.interrupted = some c → r = .raised c) := by
  have hi := rinv_run P init s es (rinv_init P) h
  have hp := hi.pinv
  have hw := hi.w
  have hleft := hi.left r hx
  -- the join. Not interrupted: the guard of the pool's `exit`, kept by `Pool.Inv.exited`; interrupted: the guard of
  -- the refined `exit`, kept by `RInv.left`, and there only under `hj`. Nothing below uses `hj` again.
  have hall : ∀ i, i < s.pool.submitted → (s.pool.ended i).isSome = true := by
    cases hin : s.interrupted with
    | none => rw [hin] at hleft; exact (hp.exited r hleft).1
    | some c => rw [hin] at hleft; exact hleft.2 hj
  have hended : ∀ i, i < s.pool.submitted → s.pool.begun i = true ∧
      s.pool.ended i = some (resOf P.cls (jobOut P (s.stop0 i) i).raised) := by
    intro i hlt
    have := hall i hlt
    cases he : s.pool.ended i with
    | none => rw [he] at this; cases this
    | some r' =>
      refine ⟨hp.ended_begun i r' he, ?_⟩
      rw [hw.ended_res i r' he]
  have hrow : ∀ t c, s.store t = some c →
      c.owner < s.pool.submitted ∧ s.trialOf c.owner = some t ∧
      c.row = (runPlan P.cfg (P.jobs c.owner).plan).final := by
    intro t c hc
    have htr := hw.owner_trial t c hc
    obtain ⟨hb, _, hst⟩ := hw.trial_row c.owner t htr
    have hlt := hp.begun_lt c.owner hb
    -- `trial_row` holds the final record only once the owner has ended: `hended` decides its `if`
    rw [hc, (hended c.owner hlt).2] at hst
    exact ⟨hlt, htr, by simpa using congrArg Cell.row (Option.some.inj hst)⟩
  refine ⟨hended, ⟨?_, ?_⟩, ?_, ⟨?_, ?_⟩, ?_, ?_, ?_⟩
  · intro t
    exact hw.store_dom t
  · intro i hlt
    constructor
    · intro hgo
      cases htr : s.trialOf i with
      | none =>
        have := hw.begun_skip i (hended i hlt).1 htr
        rw [hgo] at this
        cases this
      | some t => exact ⟨t, rfl, _, (hw.trial_row i t htr).2.2, rfl⟩
    · rintro ⟨t, htr, _⟩
      exact (hw.trial_row i t htr).2.1
  · intro t c hc
    obtain ⟨h1, h2, h3⟩ := hrow t c hc
    have h4 : c.row.state.isFinished = true := by rw [h3]; exact C02.runPlan_terminal P.cfg _
    refine ⟨h1, h2, h3, h4, ?_⟩
    intro hrun
    rw [hrun] at h4
    cases h4
  · intro t c j hc
    obtain ⟨h1, h2, _⟩ := hrow t c hc
    have hgo := (hw.trial_row c.owner t h2).2.1
    have hcount := hw.cb_count t j
    rw [hc] at hcount
    simp only [(hended c.owner h1).2, Option.isSome_some, if_true] at hcount
    rw [hcount]
    have hlen : 0 < (jobOut P (s.stop0 c.owner) c.owner).trials.length := by
      rw [jobOut_trials P _ _ hgo]; simp
    obtain ⟨p, hp0, _, hcnt⟩ := C02.callbacks_exactly_once P.cfg (some 1) P.timeout
      [(P.jobs c.owner).plan] 0 (P.jobs c.owner).elapsed (s.stop0 c.owner) 0 j hlen
    simp only [List.getElem?_cons_zero, Option.some.injEq] at hp0
    subst hp0
    exact hcnt
  · intro t j hn
    have := hw.cb_count t j
    rw [hn] at this
    exact this
  · exact hp.quota
  · intro hin
    rw [hin] at hleft
    have hph : s.pool.phase = .exited r := hleft
    obtain ⟨_, hok, hraise⟩ := hp.exited r hph
    refine ⟨hok, hraise, ?_⟩
    intro hr hs ht m hm
    subst hr
    exact hp.exactly_n hph hs ht m hm
  · intro c hc
    rw [hc] at hleft
    exact hleft.1

theorem pool_timedOut_frame (k : Nat) (n : Option Nat) (p p' : Pool.State) (e : Pool.Event)
    (he : e ≠ .timeout) (h : Pool.step k n p e = some p') : p'.timedOut = p.timedOut :=
  (Pool.step_frame k n p p' e h).2.2.1 he

theorem pool_run_timedOut (k : Nat) (n : Option Nat) (p p' : Pool.State) (pes : List Pool.Event)
    (h : Pool.run k n p pes = some p') (hn : Pool.Event.timeout ∉ pes) : p'.timedOut = p.timedOut :=
  Pool.run_invariant (Q := fun q => q.timedOut = p.timedOut)
    (fun q q' e he hq hs => by rw [pool_timedOut_frame k n q q' e (fun hx => hn (hx ▸ he)) hs]; exact hq) rfl h

theorem timed_step (P : Params) (s s' : State) (ev : Event) (h : step P s ev = some s')
    (ht : s.pool.timedOut = true → P.timeout.isSome = true) :
    s'.pool.timedOut = true → P.timeout.isSome = true := by
  obtain ⟨pes, hrun, hto⟩ := step_pool P s s' ev h
  by_cases hm : Pool.Event.timeout ∈ pes
  · exact fun _ => hto hm
  · rw [pool_run_timedOut P.k P.n s.pool s'.pool pes hrun hm]
    exact ht

/-- **timedOut_only_with_timeout** — the main thread sees "timeout elapsed" only if a timeout was given. -/
theorem timedOut_only_with_timeout (P : Params) (es : List Event) (s : State)
    (h : run P init es = some s) : s.pool.timedOut = true → P.timeout.isSome = true := by
  exact run_invariant (Q := fun s => s.pool.timedOut = true → P.timeout.isSome = true)
    (fun s s' e hq hs => timed_step P s s' e hs hq) (by intro h0; cases h0) h

/-- **pool_exactly_n_without_timeout** — the accounting of `optimize(n_trials = m, n_jobs = k)` called
without a timeout: if it returns (not interrupted) and `study.stop()` was never called, exactly `m`
futures were submitted. -/
theorem pool_exactly_n_without_timeout (P : Params) (es : List Event) (s : State) (hj : P.joins = true)
    (hto : P.timeout = none) (h : run P init es = some s) (hx : s.done = some .ok)
    (hin : s.interrupted = none) (hs : s.pool.stop = false) (m : Nat) (hm : P.n = some m) :
    s.pool.submitted = m := by
  have ht : s.pool.timedOut = false := by
    cases hb : s.pool.timedOut with
    | false => rfl
    | true =>
      have := timedOut_only_with_timeout P es s h hb
      rw [hto] at this
      cases this
  exact ((pool_all_submitted_trials_terminal P es s .ok hj h hx).2.2.2.2.2.1 hin).2.2 rfl hs ht m hm

/-- **pool_no_trial_left_running** — the short form: when `optimize(n_jobs = k)` returns or raises
(for whatever reason), no trial is RUNNING in the storage. -/
theorem pool_no_trial_left_running (P : Params) (es : List Event) (s : State) (r : Pool.Res)
    (hj : P.joins = true) (h : run P init es = some s) (hx : s.done = some r) (t : Nat) (c : Cell) (hc : s.store t = some c) :
    c.row.state = .complete ∨ c.row.state = .pruned ∨ c.row.state = .fail := by
  have := ((pool_all_submitted_trials_terminal P es s r hj h hx).2.2.1 t c hc).2.2.2.1
  cases hs : c.row.state <;> rw [hs] at this <;> simp [TState.isFinished] at this ⊢

/-- **pool_complete_iff_feasible** — the well-formedness of `complete_iff_feasible`, for every trial of
a parallel `optimize`: a trial whose `ask` did not raise and that nobody else touched is COMPLETE
exactly when its objective returned feasible values, which are then the stored values. -/
theorem pool_complete_iff_feasible (P : Params) (es : List Event) (s : State) (r : Pool.Res)
    (hj : P.joins = true) (h : run P init es = some s) (hx : s.done = some r) (t : Nat) (c : Cell) (hc : s.store t = some c)
    (ha : (P.jobs c.owner).plan.askRaises = none) (hu : C02.Undisturbed (P.jobs c.owner).plan.script) :
    (c.row.state = .complete ↔
        ∃ v, (P.jobs c.owner).plan.script.out = .ret v ∧ C02.Feasible P.cfg.nObj v) ∧
    (∀ v es', (P.jobs c.owner).plan.script.out = .ret v → v.elems? = some es' → C02.Feasible P.cfg.nObj v →
        c.row.values = some (floats es') ∧ es' = (floats es').map Elem.ok ∧
        (floats es').length = P.cfg.nObj ∧ ∀ x ∈ floats es', x ≠ .nan) := by
  have h3 := ((pool_all_submitted_trials_terminal P es s r hj h hx).2.2.1 t c hc).2.2.1
  rw [h3, C02.runPlan_of_ask P.cfg _ ha]
  exact C02.complete_iff_feasible P.cfg _ hu

/-- **pool_ask_raise_fails_trial** — a sampler that raises inside `study.ask()` in a worker: the row the
worker has just created is FAIL (no values) and the future raises that exception (so, by conjunct 5,
`optimize` raises). -/
theorem pool_ask_raise_fails_trial (P : Params) (es : List Event) (s : State) (r : Pool.Res)
    (hj : P.joins = true) (h : run P init es = some s) (hx : s.done = some r) (t : Nat) (c : Cell) (hc : s.store t = some c)
    (e : Nat) (ha : (P.jobs c.owner).plan.askRaises = some e) :
    c.row = { state := .fail } ∧ s.pool.ended c.owner = some (.raised (P.cls (.user e))) := by
  obtain ⟨hend, _, hrow, _⟩ := pool_all_submitted_trials_terminal P es s r hj h hx
  obtain ⟨hlt, htr, h3, _⟩ := hrow t c hc
  have hi := rinv_run P init s es (rinv_init P) h
  have hgo := (hi.w.trial_row c.owner t htr).2.1
  have hro : runPlan P.cfg (P.jobs c.owner).plan = ⟨{ state := .fail }, some (.user e)⟩ := by
    unfold runPlan; rw [ha]
  refine ⟨by rw [h3, hro], ?_⟩
  rw [(hend c.owner hlt).2]
  rw [jobOut_go P _ _ hgo, hro]
  rfl

/-! ## non-vacuity: executions, rejected executions, a RUNNING row before the join -/

/-- two workers; future 0's objective returns 1.0 with two callbacks, future 1's raises an uncaught
exception; `cls` maps every exception to 7 -/
def demo : Params :=
  { cfg := ⟨1, fun _ => false⟩, k := 2, n := some 2, timeout := none, cls := fun _ => 7, joins := true,
    jobs := fun i =>
      if i = 0 then { plan := { script := { out := .ret (.scalar (.ok (.fin 1))) }, cbs := [{}, {}] } }
      else { plan := { script := { out := .exc (.user 3) }, cbs := [{}, {}] } } }

/-- a normal exceptional exit: the exception of future 1 is re-raised by the final drain -/
example : ∃ s, run demo init
    [.submit, .submit, .begin 1, .begin 0, .finish 1, .finish 0, .waitAll, .exit (.raised 7)] = some s ∧
    s.done = some (.raised 7) ∧ s.nTrials = 2 ∧
    (s.store 0).map (fun c => (c.owner, c.row.state)) = some (1, .fail) ∧
    (s.store 1).map (fun c => (c.owner, c.row.state, c.row.values)) = some (0, .complete, some [.fin 1]) ∧
    s.cbLog = [(1, 0), (1, 1)] := ⟨_, rfl, rfl, rfl, by decide, by decide, by decide⟩

/-- KeyboardInterrupt (class 9) in the main thread while both workers run: `__exit__` joins them -/
example : ∃ s, run demo init
    [.submit, .submit, .begin 0, .begin 1, .interrupt 9, .finish 0, .finish 1, .exit (.raised 9)] = some s ∧
    s.done = some (.raised 9) ∧
    (s.store 0).map (fun c => c.row.state) = some .complete ∧
    (s.store 1).map (fun c => c.row.state) = some .fail := ⟨_, rfl, rfl, by decide, by decide⟩

/-- `_optimize` cannot be left before the join (the modelled hypothesis): with future 1 still
running the interrupted exit is not an execution -/
example : run demo init
    [.submit, .submit, .begin 0, .begin 1, .interrupt 9, .finish 0, .exit (.raised 9)] = none := rfl

/-- **pool_join_hypothesis_needed** — the hypothesis `joins = true` cannot be dropped: if the executor
lets an interrupted `_optimize` go without joining (what CPython 3.12 does when the interrupt lands inside
`executor.submit`, see Model/PoolRun.lean), `optimize` raises with a trial RUNNING. -/
theorem pool_join_hypothesis_needed :
    ∃ s, run { demo with joins := false } init [.submit, .begin 0, .interrupt 9, .exit (.raised 9)] = some s ∧
      s.done = some (.raised 9) ∧ (s.store 0).map (fun c => c.row.state) = some .running :=
  ⟨_, rfl, rfl, by decide⟩

/-- a *queued* future (submitted, not begun) is waited for as well -/
example : run demo init [.submit, .submit, .begin 0, .interrupt 9, .finish 0, .exit (.raised 9)] = none := rfl

/-- no main-thread statement runs after the interrupt, and the exception that leaves is the interrupt's -/
example : run demo init [.submit, .interrupt 9, .submit] = none := rfl
example : run demo init [.submit, .begin 0, .interrupt 9, .finish 0, .exit .ok] = none := rfl

/-- before the join a row *is* RUNNING (the theorem is about `done` states only, and is not vacuous) -/
example : ∃ s, run demo init [.submit, .submit, .begin 0, .begin 1, .finish 1] = some s ∧ s.done = none ∧
    (s.store 0).map (fun c => c.row.state) = some .running ∧
    (s.store 1).map (fun c => c.row.state) = some .fail := ⟨_, rfl, rfl, by decide, by decide⟩

/-- the main thread's timeout break: two of four trials submitted, nothing stopped, `optimize` returns;
without a timeout given the clock event is not enabled -/
example : ∃ s, run { demo with n := some 4, timeout := some 5, jobs := fun _ => {} } init
    [.submit, .submit, .begin 0, .begin 1, .finish 1, .finish 0, .timeout, .waitAll, .exit .ok] = some s ∧
    s.done = some .ok ∧ s.pool.submitted = 2 ∧ s.pool.stop = false ∧ s.pool.timedOut = true := ⟨_, rfl, rfl, rfl, rfl, rfl⟩
example : run { demo with n := some 4, jobs := fun _ => {} } init [.submit, .timeout] = none := rfl

/-- a future whose worker sees the stop flag at its loop head starts no trial -/
def demoStop : Params :=
  { cfg := ⟨1, fun _ => false⟩, k := 2, n := none, timeout := none, cls := fun _ => 7, joins := true,
    jobs := fun _ => { plan := { script := { out := .ret (.scalar (.ok (.fin 1))) }, stopInObj := true } } }

example : ∃ s, run demoStop init
    [.submit, .submit, .begin 0, .stopCalled 0, .begin 1, .finish 1, .finish 0, .waitAll, .exit .ok] = some s ∧
    s.done = some .ok ∧ s.nTrials = 1 ∧ s.trialOf 1 = none ∧ s.pool.stop = true := ⟨_, rfl, rfl, rfl, rfl, rfl⟩

end OptunaVerif.C02PoolRun
