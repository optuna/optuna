import OptunaVerif.Model.Suggest
import OptunaVerif.Props.C11
/-!
# C10 — suggested values lie in the declared domain, are stable and are what gets stored

Two halves.  (1) The decision logic of `Trial._suggest` (`Model/Suggest.lean`): for ALL trial states,
contexts (fixed params, relative search space / params) and sampler answers — the sampler is an arbitrary
parameter.  (2) The projections at the end of the sampler paths: for EVERY raw number the clip-and-round
projections (TPE's; the transform's for stepped floats and ints; GP's for step-1 ints) return a member
of the declared domain (membership = `to_internal_repr` accepts and `_contains` holds, the test the code
itself applies), whenever the range is a whole number of steps — which the constructors guarantee (C11
`adjust_*_spec`, here through `WF`).  The projections that need a condition on the raw number (the
transform's step-less float has only the half-open clamp at `high`, GP clips a coordinate with a step without snapping it to the
grid) are composed with their producers in `Props/C10Compose.lean`.
-/
namespace OptunaVerif.C10
open OptunaVerif.Dist OptunaVerif.Suggest

theorem suggest_new (cx : Ctx) (st : St) (name : String) (d : Dist) (indep v : Tok) (br : Branch) (q : Rat)
    (hnew : st.dists.get? name = none) (hp : pick cx name d indep = .ok (v, br)) (hq : d.toInternal v = .ok q) :
    suggest cx st name d indep =
      .ok ({ params := st.params.set name v, dists := st.dists.set name d, stored := st.stored.set name (q, d) }, v, br) := by
  simp [suggest, suggestS, pick] at *
  simp [hnew, hp, hq]

theorem suggest_new_inv (cx : Ctx) (st st1 : St) (name : String) (d : Dist) (indep v : Tok) (br : Branch)
    (hnew : st.dists.get? name = none) (h : suggest cx st name d indep = .ok (st1, v, br)) :
    pick cx name d indep = .ok (v, br) ∧ ∃ q, d.toInternal v = .ok q ∧
      st1 = { params := st.params.set name v, dists := st.dists.set name d, stored := st.stored.set name (q, d) } := by
  simp only [suggest, suggestS, hnew] at h
  split at h
  · cases h
  · rename_i v' br' hp
    split at h
    · cases h
    · rename_i q hq
      cases h
      exact ⟨hp, q, hq, rfl⟩

theorem suggest_old_inv {cx : Ctx} {st st1 : St} {name : String} {d dOld : Dist} {indep v : Tok} {br : Branch}
    (hold : st.dists.get? name = some dOld) (h : suggest cx st name d indep = .ok (st1, v, br)) :
    st.params.get? name = some v ∧ st1 = st := by
  simp only [suggest, suggestS, hold] at h
  split at h
  · cases h
  · split at h
    · cases h; exact ⟨‹_›, rfl⟩
    · cases h

/-- a successful `suggest` never disturbs what is recorded for names that are already there -/
theorem suggest_frame (cx : Ctx) (st st1 : St) (n : String) (d : Dist) (i v : Tok) (br : Branch)
    (h : suggest cx st n d i = .ok (st1, v, br)) (name : String) (d0 : Dist) (hd : st.dists.get? name = some d0) :
    st1.params.get? name = st.params.get? name ∧ st1.dists.get? name = some d0 ∧
      st1.stored.get? name = st.stored.get? name := by
  cases hn : st.dists.get? n with
  | some dOld =>
    obtain ⟨-, rfl⟩ := suggest_old_inv hn h
    exact ⟨rfl, hd, rfl⟩
  | none =>
    obtain ⟨-, q, -, rfl⟩ := suggest_new_inv cx st st1 n d i v br hn h
    have hne : name ≠ n := by
      rintro rfl; rw [hn] at hd; cases hd
    exact ⟨AList.get?_set_other _ _ _ _ hne, by simp [AList.get?_set_other _ _ _ _ hne, hd],
      AList.get?_set_other _ _ _ _ hne⟩

theorem run_frame (cx : Ctx) (st : St) (calls : List (String × Dist × Tok)) (name : String) (d0 : Dist)
    (hd : st.dists.get? name = some d0) :
    (run cx st calls).params.get? name = st.params.get? name ∧ (run cx st calls).dists.get? name = some d0 ∧
      (run cx st calls).stored.get? name = st.stored.get? name := by
  induction calls generalizing st with
  | nil => exact ⟨rfl, hd, rfl⟩
  | cons c t ih =>
    obtain ⟨n, d, i⟩ := c
    simp only [run]
    split
    · rename_i st' v' br' hs
      obtain ⟨h1, h2, h3⟩ := suggest_frame cx st st' n d i v' br' hs name d0 hd
      obtain ⟨g1, g2, g3⟩ := ih st' h2
      exact ⟨g1.trans h1, g2, g3.trans h3⟩
    · exact ih st hd

/-- after a successful suggest the name is recorded with its value (and with the FIRST distribution) -/
theorem suggest_records (cx : Ctx) (st st1 : St) (name : String) (d : Dist) (i v : Tok) (br : Branch)
    (h : suggest cx st name d i = .ok (st1, v, br)) :
    st1.params.get? name = some v ∧ ∃ d0, st1.dists.get? name = some d0 ∧ (st.dists.get? name = none → d0 = d) := by
  cases hn : st.dists.get? name with
  | some dOld =>
    obtain ⟨hv, rfl⟩ := suggest_old_inv hn h
    exact ⟨hv, dOld, hn, nofun⟩
  | none =>
    obtain ⟨-, q, -, rfl⟩ := suggest_new_inv cx st st1 name d i v br hn h
    exact ⟨AList.get?_set_same _ _ _, d, AList.get?_set_same _ _ _, fun _ => rfl⟩

/-- **suggest_same_name_same_value** — once `suggest(name, ·)` has returned `v`, then after ANY further
sequence of suggest calls in the trial (any names, any distributions, any sampler answers, failed calls
included) asking for `name` again with a compatible distribution returns the same `v`, takes nothing
from the sampler and changes nothing; with an incompatible distribution it raises `ValueError`. -/
theorem suggest_same_name_same_value (cx : Ctx) (st st1 : St) (name : String) (d : Dist) (i v : Tok) (br : Branch)
    (h : suggest cx st name d i = .ok (st1, v, br)) (calls : List (String × Dist × Tok)) (d' : Dist) (i' : Tok) :
    ∃ d0, (run cx st1 calls).dists.get? name = some d0 ∧ (st.dists.get? name = none → d0 = d) ∧
      (compat d0 d' = true → suggest cx (run cx st1 calls) name d' i' = .ok (run cx st1 calls, v, .reused)) ∧
      (compat d0 d' = false → suggest cx (run cx st1 calls) name d' i' = .error .valueError) := by
  obtain ⟨hv, d0, hd0, hfirst⟩ := suggest_records cx st st1 name d i v br h
  obtain ⟨g1, g2, _⟩ := run_frame cx st1 calls name d0 hd0
  refine ⟨d0, g2, hfirst, ?_, ?_⟩
  · intro hc
    simp [suggest, suggestS, g2, hc, g1, hv]
  · intro hc
    simp [suggest, suggestS, g2, hc]

/-- **suggest_fixed_wins** — an enqueued / fixed value that `to_internal_repr` accepts is returned for a
not-yet-suggested name whatever the relative sampler proposed, whatever the independent sampler would
answer and even when the domain is a single point; its internal form is what is written to the storage. -/
theorem suggest_fixed_wins (cx : Ctx) (st : St) (name : String) (d : Dist) (fv indep : Tok) (q : Rat)
    (hnew : st.dists.get? name = none) (hf : cx.fixed.get? name = some fv) (hq : d.toInternal fv = .ok q) :
    suggest cx st name d indep =
      .ok ({ params := st.params.set name fv, dists := st.dists.set name d, stored := st.stored.set name (q, d) }, fv, .fixed) := by
  apply suggest_new cx st name d indep fv .fixed q hnew _ hq
  simp [pick, pickS, hf, hq]

/-- **relative_outside_falls_back** — a relative-sampler value that is NOT contained in the distribution asked
for (e.g. the range changed since the history was recorded) is discarded and the independent sampler's
value is used. -/
theorem relative_outside_falls_back (cx : Ctx) (st : St) (name : String) (d rd : Dist) (rv indep : Tok) (q qi : Rat)
    (hnew : st.dists.get? name = none) (hf : cx.fixed.get? name = none) (hs : d.single = false)
    (hr : cx.relParams.get? name = some rv) (hsp : cx.relSpace.get? name = some rd) (hc : compat rd d = true)
    (hq : d.toInternal rv = .ok q) (hout : d.contains q = false) (hqi : d.toInternal indep = .ok qi) :
    suggest cx st name d indep =
      .ok ({ params := st.params.set name indep, dists := st.dists.set name d, stored := st.stored.set name (qi, d) },
           indep, .independent) := by
  apply suggest_new cx st name d indep indep .independent qi hnew _ hqi
  simp [pick, pickS, hf, hs, hr, hsp, hc, hq, hout]

/-- A relative-sampler value that IS contained is used (the containment test is what separates the two). -/
theorem relative_inside_used (cx : Ctx) (st : St) (name : String) (d rd : Dist) (rv indep : Tok) (q : Rat)
    (hnew : st.dists.get? name = none) (hf : cx.fixed.get? name = none) (hs : d.single = false)
    (hr : cx.relParams.get? name = some rv) (hsp : cx.relSpace.get? name = some rd) (hc : compat rd d = true)
    (hq : d.toInternal rv = .ok q) (hin : d.contains q = true) :
    suggest cx st name d indep =
      .ok ({ params := st.params.set name rv, dists := st.dists.set name d, stored := st.stored.set name (q, d) },
           rv, .relative) := by
  apply suggest_new cx st name d indep rv .relative q hnew _ hq
  simp [pick, pickS, hf, hs, hr, hsp, hc, hq, hin]

/-- **suggest_stored_eq_returned** — for a newly suggested name: `trial.params[name]` (the cache) is the
returned value, the storage holds exactly its internal form with the distribution asked for, and when that
internal value is contained, what any reader gets back from the storage (`to_external_repr`) is equal
(`==`, or both NaN) to what the objective received — and stays so after any further suggest calls. -/
theorem suggest_stored_eq_returned (cx : Ctx) (st st1 : St) (name : String) (d : Dist) (i v : Tok) (br : Branch)
    (hnew : st.dists.get? name = none) (h : suggest cx st name d i = .ok (st1, v, br))
    (calls : List (String × Dist × Tok)) :
    (run cx st1 calls).params.get? name = some v ∧
    ∃ q, d.toInternal v = .ok q ∧ (run cx st1 calls).stored.get? name = some (q, d) ∧
      (WF d → d.contains q = true → ∃ t, readBack (run cx st1 calls) name = some t ∧ v.catEq t = true) := by
  obtain ⟨_, q, hq, hst⟩ := suggest_new_inv cx st st1 name d i v br hnew h
  have hd1 : st1.dists.get? name = some d := by subst hst; exact AList.get?_set_same _ _ _
  have hp1 : st1.params.get? name = some v := by subst hst; exact AList.get?_set_same _ _ _
  have hs1 : st1.stored.get? name = some (q, d) := by subst hst; exact AList.get?_set_same _ _ _
  obtain ⟨g1, _, g3⟩ := run_frame cx st1 calls name d hd1
  refine ⟨g1.trans hp1, q, hq, g3.trans hs1, ?_⟩
  intro hwf hc
  obtain ⟨t, ht, heq⟩ := C11.external_internal_roundtrip d v q hwf hq hc
  exact ⟨t, by simp [readBack, g3.trans hs1, ht], heq⟩

theorem single_member (d : Dist) (h : WF d) : Member d (singleValue d) := by
  cases d with
  | flt c low high log step =>
    cases step with
    | none => exact flt_member c low high log low (fun hh => (h.2.1 hh).1) le_rfl h.1
    | some s =>
      obtain ⟨rfl, hs, -⟩ := wf_stepped h
      simpa [singleValue] using stepped_member c low high s 0 hs le_rfl (by simpa using h.1)
  | int c low high log step =>
    obtain ⟨hl, hlog, hs, _, _⟩ := h
    exact int_member c low high log step low hs (fun hh => (hlog hh).1) (le_refl _) hl (by simp)
  | cat cs =>
    cases cs with
    | nil => exact absurd rfl h
    | cons a t => exact cat_member (a :: t) 0 a (by simp)

/-- **suggest_in_domain** — the returned value of a fresh `suggest` is a member of the declared domain as soon
as the two external sources are: the fixed value (if any; optuna only *warns* about an out-of-range enqueued
value) and the independent sampler's answer.  The single-point and the relative branch need no
assumption: the point is in the domain, and the relative value is checked by the code. -/
theorem suggest_in_domain (cx : Ctx) (st st1 : St) (name : String) (d : Dist) (indep v : Tok) (br : Branch)
    (hnew : st.dists.get? name = none) (h : suggest cx st name d indep = .ok (st1, v, br)) (hwf : WF d)
    (hfixed : ∀ fv, cx.fixed.get? name = some fv → Member d fv) (hindep : Member d indep) :
    Member d v := by
  obtain ⟨hp, _⟩ := suggest_new_inv cx st st1 name d indep v br hnew h
  unfold pick pickS at hp
  split at hp
  -- a fixed (enqueued) value is returned whatever `_contains` says of it: hence `hfixed`
  · rename_i fv hf
    split at hp
    · simp at hp
    · simp only [Except.ok.injEq, Prod.mk.injEq] at hp
      rw [← hp.1]; exact hfixed fv hf
  · split at hp
    -- `distribution.single()`: the one point of the domain
    · simp only [Except.ok.injEq, Prod.mk.injEq] at hp
      rw [← hp.1]; exact single_member d hwf
    · split at hp
      -- no relative value for this name: the independent sampler's
      · simp only [Except.ok.injEq, Prod.mk.injEq] at hp
        rw [← hp.1]; exact hindep
      -- a relative value `rv`: past the three errors (name not in the relative space, incompatible distribution,
      -- `to_internal_repr` raising) the code's own `_contains` test chooses between `rv` and the independent sampler's
      · rename_i rv _
        split at hp
        · simp at hp
        · split at hp
          · simp at hp
          · split at hp
            · simp at hp
            · rename_i q hq
              split at hp
              · rename_i hc
                simp only [Except.ok.injEq, Prod.mk.injEq] at hp
                rw [← hp.1]; exact ⟨q, hq, hc⟩
              · simp only [Except.ok.injEq, Prod.mk.injEq] at hp
                rw [← hp.1]; exact hindep

-- non-vacuity: the precedence on one concrete context (fixed beats relative beats independent)
example :
    let cx : Ctx := ⟨[("x", .flt 2)], [("x", .flt .float 0 4 false none), ("y", .flt .float 0 4 false none)],
                     [("x", .flt 1), ("y", .flt 3)]⟩
    (suggest cx St.empty "x" (.flt .float 0 4 false none) (.flt 1)).toOption.map (fun r => (r.2.1, r.2.2)) =
        some (.flt 2, .fixed) ∧
    (suggest cx St.empty "y" (.flt .float 0 4 false none) (.flt 1)).toOption.map (fun r => (r.2.1, r.2.2)) =
        some (.flt 3, .relative) ∧
    (suggest cx St.empty "y" (.flt .float 0 2 false none) (.flt 1)).toOption.map (fun r => (r.2.1, r.2.2)) =
        some (.flt 1, .independent) := by
  decide

theorem tpeDisc_eq (low high step s : Rat) :
    tpeDisc low high step s = clip ((roundHE ((s - low) / step) : Rat) * step + low) low high := by
  unfold tpeDisc; rw [add_comm]

/-- TPE's discretisation of a stepped float: for EVERY raw sample `s` the result is a grid point of the domain. -/
theorem tpe_disc_in_domain (c : FCls) (low high step : Rat) (h : WF (.flt c low high false (some step))) (s : Rat) :
    Member (.flt c low high false (some step)) (.flt (tpeDisc low high step s)) := by
  rw [tpeDisc_eq]; exact grid_clip_member h s

/-- TPE's continuous path (float without step, linear scale; `np.clip(_truncnorm.rvs(..), low, high)`): for EVERY
raw sample `s` — in particular one that the rescaling `ppf(q) * sigma + mu` has pushed an ulp outside — the result
is a member of the domain. (Finding F33 was this clip missing: the raw sample returned as is, which the second example
below shows not to be a member.) -/
theorem tpe_cont_in_domain (c : FCls) (low high : Rat) (h : WF (.flt c low high false none)) (s : Rat) :
    Member (.flt c low high false none) (.flt (tpeCont low high s)) := by
  obtain ⟨h1, h2⟩ := clip_mem (x := s) h.1
  exact flt_member c low high false _ nofun h1 h2

-- non-vacuity: a raw sample just below `low` is pulled back onto `low`; the unclipped sample is not a member
example : tpeCont (123456/1000) (1123456/1000) (123455/1000) = 123456/1000 := by
  norm_num [tpeCont, clip]
example : (Dist.flt .float (123456/1000) (1123456/1000) false none).contains (123455/1000) = false := by
  norm_num [Dist.contains]
example : WF (.flt .float (123456/1000) (1123456/1000) false none) := by
  refine ⟨by norm_num, by simp, by simp, ?_⟩
  simp [FClsOK]

/-- TPE's int rounding (`_untransform` + `to_external_repr`): for EVERY raw number (after `exp` for log ints) the
result is an int of the domain, on the step grid. -/
theorem tpe_int_in_domain (c : ICls) (low high : Int) (log : Bool) (step : Int) (h : WF (.int c low high log step))
    (res : Rat) : Member (.int c low high log step) (.int (tpeInt low high step res)) := by
  rw [tpeInt, tpeDisc_eq]; exact int_grid_clip_member h res

/-- the transform's projection (`_untransform_numerical_param`, used by Random / QMC / NSGA-II / NSGA-III) for the
clip-and-round paths — stepped floats, ints, log ints with `transform_log` — for EVERY raw column value, inside or
outside the bounds. -/
theorem untransform_projection_in_domain (E : Env) (c : TCfg) (d : Dist) (x : Rat) (h : WF d)
    (hkind : match d with
      | .flt _ _ _ _ (some _) => True
      | .int _ _ _ log _ => log = false ∨ c.tlog = true
      | _ => False) :
    ∃ v, decode E c d [x] = some v ∧ Member d v :=
  decode_round_in_domain E c d x h hkind

/-- GP's `get_unnormalized_param`: clip (then `round` for ints).  For EVERY raw number the result is inside
`[low, high]` and an integer for int distributions (hence a member when `step = 1`); it does not by itself
round to a coarser grid — a grid point that is fed in comes back unchanged (`gp_keeps_grid_points`), which is what the GP sampler
relies on (its candidates are rounded to the grid in normalised space beforehand). -/
theorem gp_in_domain (low high : Int) (hl : low ≤ high) (x : Rat) :
    low ≤ gpInt low high x ∧ gpInt low high x ≤ high ∧
    (∀ c log, WF (.int c low high log 1) → Member (.int c low high log 1) (.int (gpInt low high x))) := by
  have hlq : (low : Rat) ≤ (high : Rat) := by exact_mod_cast hl
  obtain ⟨h1, h2⟩ := clip_mem (x := x) hlq
  have g1 : low ≤ gpInt low high x := roundHE_mono_ge h1
  have g2 : gpInt low high x ≤ high := roundHE_mono_le h2
  exact ⟨g1, g2, fun c log hwf => int_member_unit hwf g1 g2⟩

theorem gp_num_in_range (low high : Rat) (hl : low ≤ high) (x : Rat) :
    low ≤ gpNum low high x ∧ gpNum low high x ≤ high := clip_mem hl

/-- a grid point fed to GP's projection comes back unchanged: on the int path (`gpInt`), and on the float path (`gpNum`)
for the same integer-valued grid (`low`, `high`, `step` are `Int` throughout) -/
theorem gp_keeps_grid_points (low high step : Int) (k : Int) (h1 : low ≤ k * step + low) (h2 : k * step + low ≤ high) :
    gpInt low high (((k * step + low : Int) : Rat)) = k * step + low ∧
    gpNum (low : Rat) (high : Rat) (((k * step + low : Int) : Rat)) = ((k * step + low : Int) : Rat) := by
  have a : (low : Rat) ≤ ((k * step + low : Int) : Rat) := by exact_mod_cast h1
  have b : ((k * step + low : Int) : Rat) ≤ (high : Rat) := by exact_mod_cast h2
  constructor
  · unfold gpInt; rw [clip_id a b, roundHE_intCast]
  · unfold gpNum; rw [clip_id a b]

theorem filter_length_lt_of_last {α : Type} (p : α → Bool) {l : List α} (hne : l ≠ []) (hlast : p (l.getLast hne) = false) :
    (l.filter p).length < l.length :=
  calc (l.filter p).length = ((l.dropLast ++ [l.getLast hne]).filter p).length := by rw [List.dropLast_append_getLast]
    _ = (l.dropLast.filter p).length := by rw [List.filter_append, List.filter_singleton, hlast]; simp
    _ ≤ l.dropLast.length := List.length_filter_le _ _
    _ < l.length := by rw [List.length_dropLast]; exact Nat.sub_lt (List.length_pos_of_ne_nil hne) Nat.one_pos

/-- TPE's categorical index `np.sum(cum_probs < q)` with the last cumulative weight forced to 1 is a valid index
for EVERY quantile `q ≤ 1`; GP's `floor(q · n)` is a valid index for every `0 ≤ q < 1`; the transform's
`argmax` is a valid index for every non-empty column block. -/
theorem categorical_index_in_domain :
    (∀ (cum : List Rat) (q : Rat) (hne : cum ≠ []), cum.getLast hne = 1 → q ≤ 1 → catCum cum q < cum.length) ∧
    (∀ (n : Nat) (q : Rat), 0 ≤ q → q < 1 → 0 ≤ catFloor n q ∧ (n = 0 ∨ catFloor n q < (n : Int))) ∧
    (∀ cols : List Rat, cols ≠ [] → argmax cols < cols.length) := by
  refine ⟨?_, ?_, argmax_lt⟩
  · intro cum q hne hlast hq
    exact filter_length_lt_of_last _ hne (by rw [hlast]; exact decide_eq_false (not_lt.mpr hq))
  · intro n q h0 h1
    unfold catFloor
    have hn : (0 : Rat) ≤ (n : Rat) := by exact_mod_cast Nat.zero_le n
    constructor
    · exact Rat.le_floor_iff.mpr (by simpa using mul_nonneg h0 hn)
    · rcases Nat.eq_zero_or_pos n with h | h
      · left; exact h
      · right
        have hnq : (0 : Rat) < (n : Rat) := by exact_mod_cast h
        have : q * (n : Rat) < ((n : Int) : Rat) := by
          have := mul_lt_mul_of_pos_right h1 hnq
          simpa using this
        exact Rat.floor_lt_iff.mpr this

/-- **projection_in_domain** — the summary for stepped floats and ints: whatever raw number a sampler's internals
produce, TPE's discretisation (`tpeDisc`, `tpeInt`), `_untransform_numerical_param` (`decode`, for a configuration
with `transform_log`: `htl`) and GP's rounding of a step-1 int (`gpInt`) return a member of the declared domain (in
range AND on the grid AND, for ints, an integer), provided the distribution is well-formed (range = whole number of
steps).  Continuous floats: `tpe_cont_in_domain`; categorical indices: `categorical_index_in_domain`. -/
theorem projection_in_domain (E : Env) (c : TCfg) (htl : c.tlog = true) :
    (∀ cl low high step (_ : WF (.flt cl low high false (some step))) (s : Rat),
        Member (.flt cl low high false (some step)) (.flt (tpeDisc low high step s)) ∧
        ∃ v, decode E c (.flt cl low high false (some step)) [s] = some v ∧ Member (.flt cl low high false (some step)) v) ∧
    (∀ cl low high log step (_ : WF (.int cl low high log step)) (s : Rat),
        Member (.int cl low high log step) (.int (tpeInt low high step s)) ∧
        ∃ v, decode E c (.int cl low high log step) [s] = some v ∧ Member (.int cl low high log step) v) ∧
    (∀ cl low high log (_ : WF (.int cl low high log 1)) (s : Rat),
        Member (.int cl low high log 1) (.int (gpInt low high s))) := by
  refine ⟨?_, ?_, ?_⟩
  · intro cl low high step h s
    exact ⟨tpe_disc_in_domain cl low high step h s, untransform_projection_in_domain E c _ s h trivial⟩
  · intro cl low high log step h s
    exact ⟨tpe_int_in_domain cl low high log step h s, untransform_projection_in_domain E c _ s h (Or.inr htl)⟩
  · intro cl low high log h s
    exact (gp_in_domain low high h.1 s).2.2 cl log h

-- non-vacuity: a raw sample far outside the range is pulled onto the last grid point; without the clip it is not
example : tpeDisc 0 1 (1/4) 7 = 1 := by
  norm_num [tpeDisc, clip, roundHE, floor_eq]
example : (0 : Rat) + (roundHE ((7 - 0) / (1/4)) : Rat) * (1/4) = 7 := by
  norm_num [roundHE, floor_eq]
example : WF (.flt .float 0 1 false (some (1/4))) :=
  ⟨by norm_num, by simp, fun s hs => by simp at hs; subst hs; exact ⟨by norm_num, 4, by norm_num, by norm_num⟩, trivial⟩

end OptunaVerif.C10
