import OptunaVerif.Lemmas.InMemorySteps4
import OptunaVerif.Props.C01
/-!
# C01 — `InMemoryStorage` refines the storage contract (property theorems)

`Model/InMemory.lean` mirrors `optuna/storages/_in_memory.py` (same dictionaries, counters, caches,
same order of checks and writes; tied to the code after every call by `verif/props/c01_inmem.py`).
Here: for **every** history of calls (no bound on length, ids, sizes) the answers of that model are
answers the contract model `Storage.step` allows, and the contract state is an abstraction of the
in-memory state that commutes with every call.

* `Inv`  — what the redundant fields promise (`_trial_id_to_study_id_and_number`, `_study_name_to_id`,
  `_prev_waiting_trial_number`, `best_trial_id`, `param_distribution`).
* `Rel m s` — the abstraction.  The observable part of `s` is a function of `m`
  (`abs_studies`, `abs_trial`, `abs_trials_of_study`); the records the contract model keeps of
  deleted studies' trials are not observable and not stored by the implementation.
* `specStep` is `Storage.step` except for ONE thing that is true of today's code: a
  `create_new_study` rejected with `DuplicatedStudyError` has already consumed a study id
  (`_max_study_id` is incremented before the name check).  `specStep` therefore appends a dead slot
  in that case; `burn_is_create_delete` shows this is the contract state after creating a study under
  a free name and deleting it, so every abstract state is a state of the plain contract model
  (`abs_reachable`).  With the plain step the commutation is false: `plain_step_witness`.
* `Legal` — client obligations (≥ 1 direction, each MINIMIZE/MAXIMIZE; a trial of a single-objective
  study becomes COMPLETE with exactly one non-NaN value).  Without them the in-memory storage
  departs from the contract model: `empty_directions_witness`, `complete_without_value_witness`,
  `nan_value_witness`, `not_set_direction_witness`.
* Looseness of the contract accepted exactly as the C01 harness does: U1 (`opFor`: the contract model
  is told whether the implementation answered `ValueError`), U3, U4 (`accepts`).
-/
namespace OptunaVerif.C01InMem
open OptunaVerif.Storage OptunaVerif.InMemory

def pairStep (ms : State × Spec) (op : Op) : State × Spec :=
  ((InMemory.step ms.1 op).1, (specStep ms.2 (opFor op (InMemory.step ms.1 op).2)).1)

def pairRun (ms : State × Spec) (ops : List Op) : State × Spec := ops.foldl pairStep ms

def legalFrom : State × Spec → List Op → Bool
  | _, [] => true
  | ms, op :: rest => Legal ms.2 op && legalFrom (pairStep ms op) rest

def acceptedFrom : State × Spec → List Op → Bool
  | _, [] => true
  | ms, op :: rest =>
    accepts op (specStep ms.2 (opFor op (InMemory.step ms.1 op).2)).2 (InMemory.step ms.1 op).2 &&
      acceptedFrom (pairStep ms op) rest

/-- the in-memory component of the paired run is the in-memory run -/
theorem pairRun_fst (ms : State × Spec) (ops : List Op) :
    (pairRun ms ops).1 = ops.foldl (fun m op => (InMemory.step m op).1) ms.1 := by
  induction ops generalizing ms with
  | nil => rfl
  | cons op rest ih => exact ih (pairStep ms op)

theorem init_ok : Inv InMemory.init ∧ Rel InMemory.init Storage.init := ⟨inv_init, rel_init⟩

/-- One call (`Inv s → Inv (step s op).1`, `abs` commutes with the step, the output is allowed):
for every legal call, whatever the state. -/
theorem step_refines (m : State) (s : Spec) (op : Op) (hI : Inv m) (hR : Rel m s) (hL : Legal s op = true) :
    Inv (InMemory.step m op).1 ∧
    Rel (InMemory.step m op).1 (specStep s (opFor op (InMemory.step m op).2)).1 ∧
    accepts op (specStep s (opFor op (InMemory.step m op).2)).2 (InMemory.step m op).2 = true :=
  sim_all m s hI hR op hL

/-- **inMemory_refines_spec**: for EVERY history of legal calls, from any related pair of states,
every answer of the in-memory model is allowed by the contract, and the states stay related. -/
theorem inMemory_refines_spec (ms : State × Spec) (ops : List Op) (hI : Inv ms.1) (hR : Rel ms.1 ms.2)
    (hL : legalFrom ms ops = true) :
    acceptedFrom ms ops = true ∧ Inv (pairRun ms ops).1 ∧ Rel (pairRun ms ops).1 (pairRun ms ops).2 := by
  induction ops generalizing ms with
  | nil => exact ⟨rfl, hI, hR⟩
  | cons op rest ih =>
    simp only [legalFrom, Bool.and_eq_true] at hL
    obtain ⟨h1, h2, h3⟩ := step_refines ms.1 ms.2 op hI hR hL.1
    obtain ⟨a, b, c⟩ := ih (pairStep ms op) h1 h2 hL.2
    refine ⟨?_, b, c⟩
    simp only [acceptedFrom, Bool.and_eq_true]
    exact ⟨h3, a⟩

theorem inMemory_refines_spec_init (ops : List Op) (hL : legalFrom (InMemory.init, Storage.init) ops = true) :
    acceptedFrom (InMemory.init, Storage.init) ops = true ∧
    Inv (pairRun (InMemory.init, Storage.init) ops).1 ∧
    Rel (pairRun (InMemory.init, Storage.init) ops).1 (pairRun (InMemory.init, Storage.init) ops).2 :=
  inMemory_refines_spec _ ops inv_init rel_init hL

/-! ## the abstraction is a function on everything observable -/

theorem abs_studies (m : State) (s : Spec) (hR : Rel m s) : s.studies = absStudies m := hR.studies

theorem abs_study (m : State) (s : Spec) (hI : Inv m) (hR : Rel m s) (sid : Nat) :
    s.study? sid = (m.studies.get? sid).map StudyInfo.pub := study?_eq_get? m s hI.1 hR sid

theorem abs_trial (m : State) (s : Spec) (hI : Inv m) (hR : Rel m s) (tid : Nat) :
    s.trial? tid = absTrial? m tid := by
  unfold absTrial?
  cases h : getTrial m tid with
  | ok f => exact (getTrial_ok m s hI.1 hR tid f h).2.2.2.2.2.2
  | error e => exact (getTrial_error m s hI.1 hR tid e h).2.2

theorem abs_trials_of_study (m : State) (s : Spec) (hR : Rel m s) (sid : Nat) (si : StudyInfo)
    (h : m.studies.get? sid = some si) : s.trialsOf sid = si.trials := hR.trialsOf sid si h

/-- two contract states that stand for the same in-memory state cannot be told apart -/
theorem abs_observably_unique (m : State) (s s' : Spec) (hI : Inv m) (hR : Rel m s) (hR' : Rel m s') :
    s.studies = s'.studies ∧ s.trials.length = s'.trials.length ∧ (∀ tid, s.trial? tid = s'.trial? tid) ∧
    (∀ sid, (s.study? sid).isSome → s.trialsOf sid = s'.trialsOf sid) := by
  refine ⟨hR.studies.trans hR'.studies.symm, hR.ntrials.trans hR'.ntrials.symm, ?_, ?_⟩
  · intro tid; rw [abs_trial m s hI hR, abs_trial m s' hI hR']
  · intro sid hlive
    rw [abs_study m s hI hR] at hlive
    cases h : m.studies.get? sid with
    | none => simp [h] at hlive
    | some si => rw [hR.trialsOf sid si h, hR'.trialsOf sid si h]

/-- A used-up study id = a study created under a free name and deleted at once. -/
theorem burn_is_create_delete (s : Spec) (name : String) (dirs : List Nat) (h : s.nameTaken name = false) :
    (Storage.step (Storage.step s (.createStudy name dirs)).1 (.deleteStudy s.studies.length)).1 = burn s :=
  burn_eq_create_delete s name dirs h

theorem specStep_is_contract_history (s : Spec) (op : Op) :
    ∃ cops : List Op, C01.after s cops = (specStep s op).1 := by
  cases op with
  | createStudy name dirs =>
    by_cases h : s.nameTaken name = true
    · refine ⟨[.createStudy (freshName s) [1], .deleteStudy s.studies.length], ?_⟩
      simp only [specStep, h, if_true]
      exact burn_eq_create_delete s (freshName s) [1] (freshName_free s)
    · refine ⟨[.createStudy name dirs], ?_⟩
      simp only [specStep, h]; rfl
  | _ => exact ⟨[_], rfl⟩

theorem after_append (s : Spec) (a b : List Op) : C01.after s (a ++ b) = C01.after (C01.after s a) b := by
  simp [C01.after, List.foldl_append]

/-- **abs_reachable**: the contract state an in-memory history stands for is reached by a history
of the plain contract model `Storage.step`. -/
theorem abs_reachable (ms : State × Spec) (ops : List Op) :
    ∃ cops : List Op, (pairRun ms ops).2 = C01.after ms.2 cops := by
  induction ops generalizing ms with
  | nil => exact ⟨[], rfl⟩
  | cons op rest ih =>
    obtain ⟨c1, h1⟩ := specStep_is_contract_history ms.2 (opFor op (InMemory.step ms.1 op).2)
    obtain ⟨c2, h2⟩ := ih (pairStep ms op)
    refine ⟨c1 ++ c2, ?_⟩
    rw [after_append, h1]
    exact h2

/-- `C01.numbers_dense` for the abstract state: trial numbers are 0,1,2,… per study in creation order. -/
theorem inMemory_abs_numbered (ops : List Op) :
    C01.Numbered (pairRun (InMemory.init, Storage.init) ops).2 := by
  obtain ⟨cops, h⟩ := abs_reachable (InMemory.init, Storage.init) ops
  rw [h]; exact C01.numbers_dense cops

/-- `C01.numbers_dense` on the implementation's own lists: in every reachable state the trial stored at
position `n` of a study's list has number `n`, belongs to that study, and the id table says so. -/
theorem inMemory_numbers_dense (ops : List Op) (hL : legalFrom (InMemory.init, Storage.init) ops = true)
    (sid : Nat) (si : StudyInfo) (n tid : Nat) (t : TrialS)
    (hs : (pairRun (InMemory.init, Storage.init) ops).1.studies.get? sid = some si)
    (ht : si.trials[n]? = some (tid, t)) :
    t.number = n ∧ t.study = sid ∧
    (pairRun (InMemory.init, Storage.init) ops).1.tidMap.get? tid = some (sid, n) := by
  obtain ⟨_, hI, _⟩ := inMemory_refines_spec_init ops hL
  obtain ⟨h1, h2, _⟩ := hI.1.tfields sid si n tid t hs ht
  exact ⟨h1, h2, (hI.1.tmap tid sid n).2 ⟨si, t, hs, ht⟩⟩

theorem frozen_run (ms : State × Spec) (ops : List Op) (tid : Nat) (t : TrialS)
    (h : ms.2.trials[tid]? = some t) (hf : t.state.isFinished = true) :
    (pairRun ms ops).2.trials[tid]? = some t := by
  obtain ⟨cops, e⟩ := abs_reachable ms ops
  rw [e]; exact C01.finished_frozen ms.2 cops tid t h hf

/-- `C01.finished_frozen` for the in-memory model: a finished trial read from the in-memory storage reads the same after any
further history (as long as it can be read at all, i.e. its study was not deleted). -/
theorem inMemory_finished_frozen (ms : State × Spec) (ops : List Op) (hI : Inv ms.1) (hR : Rel ms.1 ms.2)
    (hL : legalFrom ms ops = true) (tid : Nat) (f f' : Found)
    (h : getTrial ms.1 tid = .ok f) (hf : f.t.state.isFinished = true)
    (h' : getTrial (pairRun ms ops).1 tid = .ok f') : f'.t = f.t := by
  obtain ⟨_, hI', hR'⟩ := inMemory_refines_spec ms ops hI hR hL
  have h0 := (getTrial_ok ms.1 ms.2 hI.1 hR tid f h).2.2.2.2.2.1
  have h1 := (getTrial_ok _ _ hI'.1 hR' tid f' h').2.2.2.2.2.1
  rw [frozen_run ms ops tid f.t h0 hf] at h1
  exact (Option.some.inj h1).symm

theorem dead_run (ms : State × Spec) (ops : List Op) (sid : Nat) (h : C01.Dead ms.2 sid) :
    C01.Dead (pairRun ms ops).2 sid := by
  obtain ⟨cops, e⟩ := abs_reachable ms ops
  rw [e]; exact C01.dead_forever ms.2 cops sid h

/-- `C01.deleted_gone` for the in-memory model: once `delete_study(sid)` has succeeded, the study is absent from `_studies` in
every later state, whatever (legal) calls follow — so every call on it answers `KeyError`
(`C01.dead_study_calls_rejected` through the refinement) and the id is never handed out again. -/
theorem inMemory_deleted_gone (m : State) (s : Spec) (hI : Inv m) (hR : Rel m s) (sid : Nat)
    (hdel : (InMemory.step m (.deleteStudy sid)).2 = .unit) (ops : List Op)
    (hL : legalFrom (pairStep (m, s) (.deleteStudy sid)) ops = true) :
    (pairRun (pairStep (m, s) (.deleteStudy sid)) ops).1.studies.get? sid = none := by
  obtain ⟨hI1, hR1, hacc⟩ := step_refines m s (.deleteStudy sid) hI hR rfl
  -- the contract deleted it too
  have hdead : C01.Dead (pairStep (m, s) (.deleteStudy sid)).2 sid := by
    have hs : (Storage.step s (.deleteStudy sid)).2 = .unit := by
      have : (specStep s (opFor (.deleteStudy sid) (InMemory.step m (.deleteStudy sid)).2)).2 =
          (Storage.step s (.deleteStudy sid)).2 := rfl
      rw [this, hdel] at hacc
      cases hq : (Storage.step s (.deleteStudy sid)).2 <;> rw [hq] at hacc <;> simp [accepts] at hacc
    exact C01.delete_makes_dead s _ sid (Prod.ext rfl hs)
  obtain ⟨_, hI', hR'⟩ := inMemory_refines_spec (pairStep (m, s) (.deleteStudy sid)) ops hI1 hR1 hL
  have hd := C01.dead_study_none _ sid (dead_run _ ops sid hdead)
  rw [abs_study _ _ hI' hR'] at hd
  cases hg : (pairRun (pairStep (m, s) (.deleteStudy sid)) ops).1.studies.get? sid with
  | none => rfl
  | some si => rw [hg] at hd; cases hd

/-- The waiting filter is complete (the cursor shortcut of `get_all_trials(states=(WAITING,))`): in every
reachable state it returns exactly the WAITING trials of the study, in number order. -/
theorem inMemory_waiting_filter_complete (ms : State × Spec) (hI : Inv ms.1) (sid : Nat) (si : StudyInfo)
    (h : ms.1.studies.get? sid = some si) :
    (InMemory.step ms.1 (.getAllTrials sid (some [.waiting]))).2 =
      .trials (si.trials.filter (fun p => p.2.state == .waiting)) := by
  simp only [InMemory.step, h]
  rw [(allTrials_spec ms.1 hI sid si h (some [.waiting])).2.2]
  congr 1
  apply List.filter_congr
  intro p _
  exact stateIn_waiting p.2.state

/-- The best-trial cache is exact: in every reachable state `get_best_trial` of a single-objective study
answers a COMPLETE trial whose value no COMPLETE trial of the study beats (or `ValueError` when
there is none). -/
theorem inMemory_best_is_optimal (m : State) (hI : Inv m) (sid d : Nat) (si : StudyInfo)
    (h : m.studies.get? sid = some si) (hd : si.directions = [d]) :
    (∃ b t, (InMemory.step m (.getBestTrial sid)).2 = .trial b t ∧ (b, t) ∈ bestSet d si.trials) ∨
    ((InMemory.step m (.getBestTrial sid)).2 = .err .valueError ∧ bestSet d si.trials = []) := by
  rcases getBestTrial_single m hI sid d si h hd with ⟨b, t, hstep, hmem⟩ | ⟨hstep, hnil⟩
  · exact .inl ⟨b, t, by rw [hstep], hmem⟩
  · exact .inr ⟨by rw [hstep], hnil⟩

/-! ## what is false on today's code (concrete witnesses, replayed on the real storage by the harness) -/

def tmplComplete (vals : Option (List XVal)) : Template :=
  { state := .complete, values := vals, params := [], userAttrs := [], systemAttrs := [], inter := [],
    hasStart := true, hasComplete := true }

/-- With the *plain* contract step the abstraction does not commute: after a rejected
`create_new_study` the in-memory storage hands out study id 2 where the contract model says 1
(`_max_study_id` is incremented before the duplicate check).  Ids are opaque to clients, so this is
not a violation of the contract — it is why `specStep` has the `burn` case. -/
theorem plain_step_witness :
    InMemory.runOut InMemory.init [.createStudy "a" [1], .createStudy "a" [1], .createStudy "b" [1]] =
      [.newId 0, .err .duplicated, .newId 2] ∧
    Storage.runOut Storage.init [.createStudy "a" [1], .createStudy "a" [1], .createStudy "b" [1]] =
      [.newId 0, .err .duplicated, .newId 1] := by
  decide

/-- `directions = []` (not a legal call): the in-memory storage answers a best trial where the
contract model says `RuntimeError`. -/
theorem empty_directions_witness :
    let ops := [Op.createStudy "a" [], .createTrial 0 (some (tmplComplete (some [.fin 1]))) false, .getBestTrial 0]
    legalFrom (InMemory.init, Storage.init) ops = false ∧
    acceptedFrom (InMemory.init, Storage.init) ops = false := by
  decide

/-- COMPLETE without a value (not a legal call): `get_best_trial` answers the valueless trial where
the contract model says `ValueError`. -/
theorem complete_without_value_witness :
    let ops := [Op.createStudy "a" [1], .createTrial 0 none false, .setTrialStateValues 0 .complete none,
      .getBestTrial 0]
    legalFrom (InMemory.init, Storage.init) ops = false ∧
    acceptedFrom (InMemory.init, Storage.init) ops = false := by
  decide

/-- COMPLETE with NaN (not a legal call): the NaN trial stays "best" for ever. -/
theorem nan_value_witness :
    let ops := [Op.createStudy "a" [1], .createTrial 0 (some (tmplComplete (some [.nan]))) false,
      .createTrial 0 (some (tmplComplete (some [.fin 0]))) false, .getBestTrial 0]
    legalFrom (InMemory.init, Storage.init) ops = false ∧
    acceptedFrom (InMemory.init, Storage.init) ops = false := by
  decide

/-- `StudyDirection.NOT_SET` (code 0; not a legal call): the in-memory storage minimises, the contract
model's `betterEq` treats every code but 1 as maximise. -/
theorem not_set_direction_witness :
    let ops := [Op.createStudy "a" [0], .createTrial 0 (some (tmplComplete (some [.fin 1]))) false,
      .createTrial 0 (some (tmplComplete (some [.fin 2]))) false, .getBestTrial 0]
    legalFrom (InMemory.init, Storage.init) ops = false ∧
    acceptedFrom (InMemory.init, Storage.init) ops = false := by
  decide

/-! ## non-vacuity: a legal history that exercises every hypothesis above -/

def demoTmpl (st : TState) (vals : Option (List XVal)) : Template :=
  { state := st, values := vals, params := [("p", ⟨"1/2", ⟨0, false, "F"⟩⟩)], userAttrs := [("u", "1")],
    systemAttrs := [], inter := [(0, .nan)], hasStart := st != .waiting, hasComplete := st.isFinished }

/-- duplicate name (id 1 used up), two studies, templates in three states, a parameter conflict, a
claim, WAITING scans before and after a trial is set back to WAITING, best-trial changes with a tie,
a deletion, calls on deleted objects. -/
def demo : List Op :=
  [ .createStudy "a" [1], .createStudy "a" [2], .createStudy "b" [2],
    .createTrial 0 none false, .createTrial 0 (some (demoTmpl .waiting none)) false,
    .createTrial 2 (some (demoTmpl .complete (some [.fin 3]))) false,
    .getAllTrials 0 (some [.waiting]), .setTrialStateValues 1 .running none,
    .setTrialParam 0 "p" ⟨"1/4", ⟨0, false, "G"⟩⟩ false, .setTrialParam 0 "p" ⟨"1", ⟨1, false, "I"⟩⟩ false,
    .getNTrials 0 (some [.waiting]), .setTrialStateValues 1 .waiting none, .getAllTrials 0 (some [.waiting]),
    .setTrialStateValues 0 .complete (some [.fin 5]), .setTrialStateValues 1 .running none,
    .setTrialStateValues 1 .complete (some [.fin 5]), .getBestTrial 0,
    .createTrial 2 (some (demoTmpl .complete (some [.pinf]))) false, .getBestTrial 2,
    .setTrialUserAttr 0 "k" "v", .deleteStudy 0, .getTrial 0, .getAllStudies, .createStudy "a" [1, 2],
    .getBestTrial 3 ]

example : legalFrom (InMemory.init, Storage.init) demo = true := by decide
example : acceptedFrom (InMemory.init, Storage.init) demo = true := by decide
-- the rejected `create_new_study` used up id 1; the later study "a" gets id 3
example : (InMemory.runOut InMemory.init demo)[2]? = some (.newId 2) := by decide
example : (InMemory.runOut InMemory.init demo)[23]? = some (.newId 3) := by decide
-- the incompatible distribution is rejected, the compatible one accepted
example : (InMemory.runOut InMemory.init demo)[8]? = some .unit := by decide
example : (InMemory.runOut InMemory.init demo)[9]? = some (.err .valueError) := by decide
-- the WAITING scan finds trial 1, finds nothing while it is RUNNING, finds it again (cursor lowered)
example : (InMemory.runOut InMemory.init demo)[10]? = some (.nat 0) := by decide
example : ((InMemory.runOut InMemory.init demo)[12]?).map (fun o => match o with | .trials l => l.map (·.1) | _ => [])
    = some [1] := by decide
-- a tie: the first of the two equally good trials stays cached; the contract allows either (U4)
example : ((InMemory.runOut InMemory.init demo)[16]?).map (fun o => match o with | .trial id _ => id | _ => 99)
    = some 0 := by decide
example : ((Storage.step (pairRun (InMemory.init, Storage.init) (demo.take 16)).2 (.getBestTrial 0)).2) =
    .oneOf ((pairRun (InMemory.init, Storage.init) (demo.take 16)).2.trialsOf 0 |>.filter (fun p => p.1 ≤ 1)) := by
  decide
-- maximise: +inf replaces 3
example : ((InMemory.runOut InMemory.init demo)[18]?).map (fun o => match o with | .trial id _ => id | _ => 99)
    = some 3 := by decide
-- after the deletion: the trial is gone, a finished write was rejected before it
example : (InMemory.runOut InMemory.init demo)[19]? = some (.err .updateFinished) := by decide
example : (InMemory.runOut InMemory.init demo)[21]? = some (.err .keyError) := by decide
-- U3: multi-objective study without COMPLETE trial
example : (InMemory.runOut InMemory.init demo)[24]? = some (.err .valueError) := by decide
example : (Storage.step (pairRun (InMemory.init, Storage.init) (demo.take 24)).2 (.getBestTrial 3)).2 =
    .err .runtimeError := by decide
-- hypotheses of the corollaries are met on this history
example : C01.Dead (pairRun (InMemory.init, Storage.init) demo).2 0 := by unfold C01.Dead; decide
example : C01.Dead (pairRun (InMemory.init, Storage.init) demo).2 1 := by unfold C01.Dead; decide
example : (getTrial (pairRun (InMemory.init, Storage.init) (demo.take 20)).1 0).toOption.map
    (fun f => f.t.state.isFinished) = some true := by decide
example : (InMemory.step (pairRun (InMemory.init, Storage.init) (demo.take 20)).1 (.deleteStudy 0)).2 = .unit := by
  decide

end OptunaVerif.C01InMem
