import OptunaVerif.Lemmas.BestIR
/-!
# C12 (translator tie, part 1) — the "best trial" code *as written in the source today* is the reference semantics

`Generated/BestMethods.lean` is regenerated on every run by `verif/translators/tbest.py` from `optuna/study/study.py`
(`Study.best_trial / best_value / best_params / best_trials`), `optuna/study/_multi_objective.py` (`_normalize_value`, `_dominates`,
`_get_pareto_front_trials(_by_trials)`, `_is_pareto_front`, `…_for_unique_sorted`, `…_2d`, `…_nd`),
`optuna/study/_constrained_optimization.py`, `optuna/storages/_in_memory.py` (`_update_cache`, `get_best_trial`, the call sites),
`optuna/storages/_base.py`, `optuna/storages/_rdb/{storage,models}.py` — as DATA of the IR of `Model/BestIR.lean`.

Proved here, for **all** inputs (trial lists, histories, arrays, values incl. ±∞, directions; no bound, no sampling; the side conditions
the statements name: arrays rectangular, a non-empty list of directions for `_update_cache`, `_dominates` on COMPLETE trials with one value
per objective, with `gen_dominates_incomplete` for the others), one equality per
method between the interpreter of the generated data and a FLAG-FREE reference (`Lemmas/BestIR.lean`: today's semantics
written out; the hand model itself takes its operators from `Generated/Best.lean`, so it moves with the source — the bridge
reference = hand model is `Props/C12GenSpec.lean`).  This file does not import `Lemmas/Best.lean`, so its obligations are checked even
when an operator change stops that file from building.

A source change that turns `<` into `<=` in `_update_cache`, drops the sign flip or the `None → inf` rule of `_normalize_value`, weakens
feasibility to `< 0`, reads the fallback's trials from the per-thread cache, folds ±∞ onto ±DBL_MAX in the SQL key, replaces
`np.unique` by lexsort + `np.diff`, compares with `<=` only in `_dominates`, moves `_update_cache` out of the lock … changes the
generated data and the named equality below no longer type-checks.
-/
namespace OptunaVerif.C12Gen
open OptunaVerif.Best OptunaVerif.BestIR
open OptunaVerif.Generated.BestMethods (prog)

/-- the violation test of `Study.best_trial` as written today: constraints recorded and SOME value `> 0` (NaN is not a violation) -/
theorem gen_violation_eq (t : BTrial) :
    prog.violation.eval (consGet prog.consKey t) = some (violatedRef t) := by
  cases hc : t.cons.get <;>
    simp [prog, consGet, ConsPred.eval, ConsPred.evalList, violatedRef, hc, cmpX, zero]
example : prog.violation.eval (consGet prog.consKey ⟨.complete, some [.fin 0], .vals [.fin 0, .fin (1/2)]⟩) = some true ∧
    prog.violation.eval (consGet prog.consKey ⟨.complete, some [.fin 0], .vals [.fin 0, .nan]⟩) = some false ∧
    prog.violation.eval (consGet prog.consKey ⟨.complete, some [.fin 0], .null⟩) = some false := by decide +kernel

/-- `_get_feasible_trials` as written today keeps a trial iff constraints are recorded and ALL values are `<= 0` (0 is feasible) -/
theorem gen_feasible_eq (t : BTrial) : feasibleGen prog t = feasibleRef t := by
  cases hc : t.cons.get <;>
    simp [feasibleGen, prog, consGet, ConsPred.eval, ConsPred.evalList, feasibleRef, hc, cmpX, zero]

example : feasibleGen prog ⟨.complete, some [.fin 0], .vals [.fin 0, .ninf]⟩ = true ∧
    feasibleGen prog ⟨.complete, some [.fin 0], .vals [.fin 0, .fin (1/2)]⟩ = false ∧
    feasibleGen prog ⟨.complete, some [.fin 0], .absent⟩ = false := by decide +kernel

-- with a cached value and a new value the tree ends in the comparison: an equal value keeps the earlier completion
example : prog.updateCache.eval (UCond.eval ⟨.complete, some 0, [.minimize], some (.fin 3), some (.fin 3)⟩) = some .keep ∧
    prog.updateCache.eval (UCond.eval ⟨.complete, some 0, [.minimize], some (.fin 3), some .ninf⟩) = some .set ∧
    prog.updateCache.eval (UCond.eval ⟨.complete, some 0, [.maximize], some (.fin 3), some .pinf⟩) = some .set := by decide +kernel

/-- `_update_cache` as written today is the reference: only COMPLETE trials are considered, the first
one is cached, a multi-objective study keeps the first, a cached trial without value is replaced, else strictly better wins. -/
theorem gen_update_cache_eq (dirs : List Dir) (hd : dirs ≠ []) (m : Mem) (i : Nat) :
    interpUpdateCache prog.updateCache dirs m i = updateCacheRef dirs m i := by
  unfold interpUpdateCache updateCacheRef
  cases ht : m.trials[i]? with
  | none => rfl
  | some t =>
    simp only [prog, Generated.BestMethods.updateCache, DT.eval, UCond.eval, UCtx.val, code_ne_one]
    cases hne : (t.state != TState.complete)
    case true => simp
    cases hb : m.best with
    | none => simp
    | some b =>
      match dirs, hd with
      | [d], _ =>
        cases hbv : (m.trials[b]?).bind BTrial.value? with
        | none => simp [hbv]
        | some bv =>
          cases hnv : t.value? with
          | none => simp [hbv]
          | some nv =>
            have hmin : cmpE .gt bv nv = better .minimize nv bv := cmpE_gt bv nv
            have hmax : cmpE .lt bv nv = better .maximize nv bv := cmpE_lt bv nv
            cases d
            · cases hbt : better .minimize nv bv <;> simp [hbv, Dir.isMax, hmin, hbt]
            · cases hbt : better .maximize nv bv <;> simp [hbv, Dir.isMax, hmax, hbt]
      | _ :: _ :: _, _ => simp

example : (interpUpdateCache prog.updateCache [.maximize]
    ⟨[⟨.complete, some [.fin 1], .absent⟩, ⟨.pruned, some [.pinf], .absent⟩, ⟨.complete, some [.fin 2], .absent⟩], some 0⟩ 1).best = some 0 ∧
    (interpUpdateCache prog.updateCache [.maximize]
    ⟨[⟨.complete, some [.fin 1], .absent⟩, ⟨.pruned, some [.pinf], .absent⟩, ⟨.complete, some [.fin 2], .absent⟩], some 0⟩ 2).best = some 2 := by
  decide +kernel

/-- `InMemoryStorage.get_best_trial` as written today: ValueError without a cached id, RuntimeError for a multi-objective study,
else the cached trial. -/
theorem gen_mem_best_eq (dirs : List Dir) (cached : Option Nat) : interpMemBest prog dirs cached = memBestRef dirs cached := by
  cases cached with
  | none => simp [interpMemBest, runGetter, prog, Generated.BestMethods.memGet, DT.eval, GCond.eval, GLeaf.run, memBestRef]
  | some b =>
    by_cases h : 1 < dirs.length <;>
      simp [interpMemBest, runGetter, prog, Generated.BestMethods.memGet, DT.eval, GCond.eval, GLeaf.run, memBestRef, h]
example : interpMemBest prog [.minimize] none = .raise .valueError ∧ interpMemBest prog [.minimize] (some 4) = .ok 4 ∧
    interpMemBest prog [.minimize, .maximize] (some 4) = .raise .runtimeError := by decide +kernel

/-- the in-memory bookkeeping is atomic with the write: every call of `_update_cache` sits inside `with self._lock`, after the
trial was stored; `set_trial_state_values` calls it exactly for finished states -/
theorem gen_cache_update_under_lock :
    prog.cacheCalls = [⟨"create_new_trial", true, true, false⟩, ⟨"set_trial_state_values", true, true, true⟩] := by decide
example : prog.cacheCalls.all (fun c => c.underLock && c.afterSetTrial) = true := by decide

/-- Python `max([])` / `min([])` -/
theorem pick_nil_iff {α : Type} (um : Bool) (key : α → EVal) (l : List α) : l.isEmpty = true → pyPick um key l = none := by
  intro h; cases l <;> simp_all [pyPick, firstBest]

/-- the two getters that pick, as written today, on any pool: Python `max` (maximise) / `min` (minimise) by value; an empty pool
raises ValueError before the pick, as `max([])` / `min([])` would -/
theorem gen_pick_getters (pool : List (Nat × EVal)) (d : Dir) (c : Option Nat) (s1 s2 : GRes) :
    runGetter prog.baseGet ⟨pool, [d], c, s1, s2⟩ = GRes.ofOpt ((pyPick d.isMax (fun x => x.2) pool).map (fun x => x.1)) ∧
    runGetter prog.studyFallback ⟨pool, [d], c, s1, s2⟩ = GRes.ofOpt ((pyPick d.isMax (fun x => x.2) pool).map (fun x => x.1)) := by
  cases d <;> cases pool <;>
    simp [runGetter, prog, Generated.BestMethods.baseGet, Generated.BestMethods.studyFallback, DT.eval, GCond.eval, GLeaf.run,
      Dir.isMax, Sel.useMax, pick_nil_iff, GRes.ofOpt]

/-- The base-class getter as written today: Python `max` (maximise) / `min` (minimise) by value over the
COMPLETE trials, ValueError when there is none. -/
theorem gen_base_best_eq (d : Dir) (ts : List BTrial) :
    interpBaseBest prog [d] ts = GRes.ofOpt (pickRef d (fun _ => true) ts) := by
  have hpool : poolOf prog prog.basePool ts ts = valuedIn [1] (fun _ => true) ts := by
    simp [poolOf, prog]
  unfold interpBaseBest
  rw [hpool]
  exact (gen_pick_getters _ d _ _ _).1
example : interpBaseBest prog [.minimize] [⟨.complete, some [.fin 2], .absent⟩, ⟨.complete, some [.ninf], .absent⟩,
    ⟨.complete, some [.ninf], .absent⟩, ⟨.pruned, some [.ninf], .absent⟩] = .ok 1 := by decide +kernel     -- tie: the lowest number

/-- the `ORDER BY` terms of `find_max_value_trial_id` / `find_min_value_trial_id` as written today are the reference order -/
theorem gen_sql_before_eq (a b : Option Rat × VType) :
    sqlBeforeGen prog.findMax.order a b = sqlBeforeRef true a b ∧ sqlBeforeGen prog.findMin.order a b = sqlBeforeRef false a b :=
  ⟨(sqlBeforeGen_rank_value false _ rankRef rankKey_eval a b).trans (by simp [sqlBeforeRef]),
   (sqlBeforeGen_rank_value true _ rankRef rankKey_eval a b).trans (by simp [sqlBeforeRef])⟩
example : sqlBeforeGen prog.findMax.order (none, .infPos) (some 5, .finite) = true ∧
    sqlBeforeGen prog.findMin.order (none, .infNeg) (some (-5), .finite) = true := by decide +kernel

/-- On stored `(value, value_type)` pairs the generated `ORDER BY` is order-isomorphic to the order of the
values they encode, ±∞ included: "sorts strictly before" under `find_max…` is `>`, under `find_min…` is `<`. -/
theorem gen_sql_order_iso (a b : EVal) :
    sqlBeforeGen prog.findMax.order (encode a) (encode b) = b.lt a ∧
    sqlBeforeGen prog.findMin.order (encode a) (encode b) = a.lt b := by
  obtain ⟨h1, h2⟩ := gen_sql_before_eq (encode a) (encode b)
  rw [h1, h2]
  exact ⟨sqlBeforeRef_encode true a b, sqlBeforeRef_encode false a b⟩

-- +inf beats every finite value, however large (what the DBL_MAX fold of seeded C12-3 gets wrong)
example : sqlBeforeGen prog.findMax.order (encode .pinf) (encode (.fin 179769313486231570814527423731704356798070567525844996598917476803157260780028538760589558632766878171540458953514382464234321326889464182768467546703537516986049910576551282076245490090389328944075868508455133942304583236903222948165808559332123348274797826204144723168738177180919299881250404026184124858368)) = true := by
  decide +kernel

/-- each of the two queries as written today (COMPLETE filter, objective filter, `ORDER BY`, `LIMIT 1`) is the reference query -/
theorem gen_query_eq (rows : List Row) :
    prog.findMax.run prog.rdbObjective rows = GRes.ofOpt (rdbRowsRef true rows) ∧
    prog.findMin.run prog.rdbObjective rows = GRes.ofOpt (rdbRowsRef false rows) :=
  ⟨Query.run_eq_ref prog.findMax true rfl rfl rfl (fun a b => (gen_sql_before_eq a b).1) rows,
   Query.run_eq_ref prog.findMin false rfl rfl rfl (fun a b => (gen_sql_before_eq a b).2) rows⟩
example : prog.findMin.run prog.rdbObjective [⟨.complete, [(some 2, .finite)]⟩, ⟨.pruned, [(none, .infNeg)]⟩, ⟨.complete, [(none, .infNeg)]⟩] = .ok 2 := by
  decide +kernel

/-- `RDBStorage.get_best_trial` as written today: the `find_max…` query when maximising, `find_min…` when
minimising, objective 0, COMPLETE rows only, the reference `ORDER BY … LIMIT 1`; ValueError when no row qualifies. -/
theorem gen_rdb_best_eq (d : Dir) (rows : List Row) :
    interpRdbBest prog [d] rows = GRes.ofOpt (rdbRowsRef d.isMax rows) := by
  obtain ⟨h1, h2⟩ := gen_query_eq rows
  unfold interpRdbBest
  rw [h1, h2]
  cases d <;> simp [runGetter, prog, Generated.BestMethods.rdbGet, DT.eval, GCond.eval, GLeaf.run, Dir.isMax]
example : interpRdbBest prog [.maximize] [⟨.complete, [(some 2, .finite)]⟩, ⟨.complete, [(none, .infPos)]⟩, ⟨.complete, [(none, .infNeg)]⟩] = .ok 1 := by
  decide +kernel

/-- a multi-objective study: RuntimeError before any query -/
theorem gen_rdb_best_multi (d1 d2 : Dir) (ds : List Dir) (rows : List Row) :
    interpRdbBest prog (d1 :: d2 :: ds) rows = .raise .runtimeError := by
  simp [interpRdbBest, runGetter, prog, Generated.BestMethods.rdbGet, DT.eval, GCond.eval, GLeaf.run]
example : interpRdbBest prog [.minimize, .maximize] [] = .raise .runtimeError := by decide +kernel

/-- `Study.best_trial` of a single-objective study as written today: the storage's answer unless that trial
records a violated constraint (`some x > 0`), then Python `max` / `min` by value over the FEASIBLE COMPLETE trials of the CURRENT
history (not the per-thread cache), ValueError when there is none; storage errors propagate. -/
theorem gen_study_best_eq (sb : GRes) (d : Dir) (ts cache : List BTrial) :
    interpStudyBest prog sb [d] ts cache = studyBestRef sb d ts := by
  have hfeas : (fun t => feasibleGen prog t) = feasibleRef := by funext t; exact gen_feasible_eq t
  have hsp : prog.studyPool = ⟨.fresh, [1], true⟩ := by decide
  have hpool : poolOf prog prog.studyPool ts cache = valuedIn [1] feasibleRef ts := by
    simp only [poolOf, hsp, hfeas]; simp
  have hguard : prog.studyMultiGuard.eval { pool := [], dirs := [d], cached := none, sqlMax := .crash, sqlMin := .crash } = some false := by
    simp [prog, GCond.eval]
  unfold interpStudyBest studyBestRef
  rw [hguard]
  cases sb with
  | raise e => rfl
  | crash => rfl
  | ok b =>
    simp only
    cases ht : ts[b]? with
    | none => rfl
    | some t =>
      simp only [gen_violation_eq, hpool]
      cases hv : violatedRef t
      · simp
      · exact (gen_pick_getters _ d _ _ _).2
example : interpStudyBest prog (.ok 0) [.minimize]
    [⟨.complete, some [.fin 0], .vals [.fin 1]⟩, ⟨.complete, some [.fin 2], .vals [.fin 0]⟩, ⟨.complete, some [.fin 1], .vals [.fin 0]⟩] [] = .ok 2 ∧
    interpStudyBest prog (.raise .valueError) [.minimize] [] [] = .raise .valueError := by decide +kernel

/-- `best_trial` of a multi-objective study raises RuntimeError before anything is read -/
theorem gen_study_best_multi (sb : GRes) (d1 d2 : Dir) (ds : List Dir) (ts cache : List BTrial) :
    interpStudyBest prog sb (d1 :: d2 :: ds) ts cache = .raise .runtimeError := by
  simp [interpStudyBest, prog, GCond.eval]
example : interpStudyBest prog (.ok 0) [.minimize, .minimize] [⟨.complete, some [.fin 0, .fin 0], .absent⟩] [] = .raise .runtimeError := by
  decide +kernel

/-- `best_value` / `best_params` read the trial that `best_trial` returns -/
theorem gen_best_value_eq (sb : GRes) (d : Dir) (ts cache : List BTrial) :
    interpBestValue prog sb [d] ts cache =
      (match studyBestRef sb d ts with
       | .ok r => (ts[r]?).bind BTrial.value?
       | _ => none) ∧ prog.bestParamsOfBestTrial = true ∧ prog.bestValueAsserts = true := by
  refine ⟨?_, by decide, by decide⟩
  have hb : prog.bestValueOfBestTrial = true := by decide
  unfold interpBestValue
  rw [gen_study_best_eq, hb]
  cases studyBestRef sb d ts <;> rfl

example : interpBestValue prog (.ok 0) [.maximize] [⟨.complete, some [.pinf], .absent⟩] [] = some .pinf := by decide +kernel

/-- `_normalize_value` as written today: the value when minimising, its negation when maximising -/
theorem gen_normalize_eq (d : Dir) (v : EVal) : interpNormalize prog.normalize (some v) d = some (normalize d v) := by
  cases d <;> simp [interpNormalize, prog, Generated.BestMethods.normalize, DT.eval, NCond.eval, NX.eval, normalize, Dir.isMax]
example : interpNormalize prog.normalize (some (.fin 3)) .maximize = some (.fin (-3)) ∧
    interpNormalize prog.normalize (some .pinf) .maximize = some .ninf ∧
    interpNormalize prog.normalize (some (.fin 3)) .minimize = some (.fin 3) := by decide +kernel

/-- `_normalize_value` as written today: `None` (a missing value) counts as `+inf`, whatever the direction -/
theorem gen_normalize_none (d : Dir) : interpNormalize prog.normalize none d = some .pinf := by
  cases d <;> simp [interpNormalize, prog, Generated.BestMethods.normalize, DT.eval, NCond.eval, NX.eval]
example : interpNormalize prog.normalize none .maximize = some .pinf := by decide +kernel

/-- a whole row: `[_normalize_value(v, d) for v, d in zip(values, directions)]` -/
theorem gen_normRow_eq (dirs : List Dir) (vs : List EVal) : interpNormRow prog.normalize dirs vs = some (normRow dirs vs) := by
  induction dirs generalizing vs with
  | nil => cases vs <;> rfl
  | cons d ds ih =>
    cases vs with
    | nil => rfl
    | cons v t => simp [interpNormRow, gen_normalize_eq, ih t, normRow]
example : interpNormRow prog.normalize [.minimize, .maximize] [.fin 1, .fin 2] = some [.fin 1, .fin (-2)] := by decide +kernel

/-- `_dominates` as written today, on two COMPLETE trials with one value per objective, is the docstring's
dominance of the normalised rows: `all(v0 <= v1) and any(v0 < v1)`. -/
theorem gen_dominates_eq (dirs : List Dir) (t0 t1 : BTrial) (a b : List EVal)
    (h0 : t0.state = .complete) (h1 : t1.state = .complete) (ha : t0.values = some a) (hb : t1.values = some b)
    (hla : a.length = dirs.length) (hlb : b.length = dirs.length) :
    interpDominates prog.normalize prog.dominates dirs t0 t1 = .ok (dominates (normRow dirs a) (normRow dirs b)) := by
  have hlen : (normRow dirs a).length = (normRow dirs b).length := by
    rw [normRow_length dirs a hla, normRow_length dirs b hlb]
  rw [← ne_allLe_eq_dominates _ _ hlen]
  unfold interpDominates
  simp only [ha, hb, Option.bind_some, gen_normRow_eq]
  cases hne : (normRow dirs a == normRow dirs b) <;>
    simp [prog, Generated.BestMethods.dominates, DT.eval, DCond.eval, DCtx.tr, h0, h1, ha, hb, hla, hlb, TState.code, hne,
      DX.eval, zipAllC_le]
example : interpDominates prog.normalize prog.dominates [.minimize, .maximize]
      ⟨.complete, some [.fin 1, .fin 5], .absent⟩ ⟨.complete, some [.fin 1, .fin 4], .absent⟩ = .ok true ∧
    interpDominates prog.normalize prog.dominates [.minimize, .maximize]
      ⟨.complete, some [.fin 1, .fin 5], .absent⟩ ⟨.complete, some [.fin 1, .fin 5], .absent⟩ = .ok false ∧      -- equal rows: no dominance
    interpDominates prog.normalize prog.dominates [.minimize, .maximize]
      ⟨.complete, some [.fin 1, .fin 5], .absent⟩ ⟨.complete, some [.fin 0, .fin 9], .absent⟩ = .ok false := by decide +kernel

/-- a trial that is not COMPLETE dominates nothing and is dominated by every COMPLETE trial -/
theorem gen_dominates_incomplete (dirs : List Dir) (t0 t1 : BTrial) :
    (t0.state ≠ .complete → interpDominates prog.normalize prog.dominates dirs t0 t1 = .ok false) ∧
    (t0.state = .complete → t1.state ≠ .complete → interpDominates prog.normalize prog.dominates dirs t0 t1 = .ok true) := by
  constructor
  · intro h
    have hb : (t0.state != TState.complete) = true := by simpa using h
    apply interpDominates_const
    simp [prog, Generated.BestMethods.dominates, DT.eval, DCond.eval, DCtx.tr, code_ne_one, hb]
  · intro h0 h
    have hb : (t1.state != TState.complete) = true := by simpa using h
    apply interpDominates_const
    simp [prog, Generated.BestMethods.dominates, DT.eval, DCond.eval, DCtx.tr, code_ne_one, h0, hb]

example : interpDominates prog.normalize prog.dominates [.minimize] ⟨.running, none, .absent⟩ ⟨.complete, some [.fin 1], .absent⟩ = .ok false ∧
    interpDominates prog.normalize prog.dominates [.minimize] ⟨.complete, some [.fin 1], .absent⟩ ⟨.pruned, some [.ninf], .absent⟩ = .ok true := by
  decide +kernel

/-- `_is_pareto_front_2d` as written today (`np.minimum.accumulate` of the second column, first row True, then
"the running minimum got strictly smaller") is the hand model's `front2d` on every 2-column array. -/
theorem gen_front2d_eq (u : List Point) (h : Rect' 2 u) : prog.front2d.run callNone [.mat u] = .mask (front2d u) := by
  dsimp only [NFun.run, prog, Generated.BestMethods.front2d, NE.eval, envGet, lenOf]
  simp
  cases u with
  | nil => rfl
  | cons r rest =>
    obtain ⟨x, y, rfl⟩ := len2 r (h r List.mem_cons_self)
    simp [cumminL, List.replicate_succ, ltRow_cummin _ rest (fun q hq => h q (List.mem_cons_of_mem _ hq)), front2d, col1,
      front2dAux_length]

example : prog.front2d.run callNone [.mat [[.ninf, .pinf], [.fin 0, .pinf], [.fin 1, .fin 2], [.fin 1, .fin 3], [.fin 2, .fin 2]]] =
    .mask [true, false, true, false, false] := by decide +kernel

/-- one iteration of the generated `while len(loss_values):` loop: the top row's index is marked, the rows that are not strictly
below the top row in some coordinate are dropped (the top row itself included) -/
theorem gen_nd_step : PeelStep callNone prog.frontNd.body := by
  intro i is r rows M env hlen hi h1 h2 h3
  dsimp only [prog, Generated.BestMethods.frontNd, runAssigns, NE.eval]
  simp only [envGet_cons, h1, h2, h3]
  have hf : ((fun (r : List Bool) => r.any id) ∘ fun q => ltRow q r) = (fun q => anyLt q r) := by
    funext q; exact ltRow_any q r
  -- the source's mask runs over ALL rows, the top row included, whose own entry is False (`anyLt_self`: nothing is strictly below
  -- itself): the selection is one among the other rows, and the array gets shorter at every pass (the fuel of `gen_nd_loop`)
  simp [ltRow_any, anyLt_self, selMask, hi, hlen, hf]

example : envGet (runAssigns callNone prog.frontNd.body
    [("loss_values", .mat [[.fin 2, .fin 3], [.fin 3, .fin 2], [.fin 2, .fin 3]]), ("nondominated_indices", .idx [0, 1, 2]),
     ("on_front", .mask [false, false, false])]) "nondominated_indices" = .idx [1] := by decide +kernel

/-- the whole generated loop, from any state whose index list and row list have the same length -/
theorem gen_nd_loop (fuel : Nat) : ∀ (is : List Nat) (rows : List Point) (M : List Bool) (env : List (String × NV)),
    is.length = rows.length → rows.length < fuel → (∀ i ∈ is, i < M.length) →
    envGet env "loss_values" = .mat rows → envGet env "nondominated_indices" = .idx is → envGet env "on_front" = .mask M →
    ∃ env', loopFuel callNone prog.frontNd fuel env = some env' ∧
      envGet env' "on_front" = .mask (markAll M (peel (is.zip rows))) :=
  peelLoop callNone prog.frontNd rfl gen_nd_step fuel
example : (loopFuel callNone prog.frontNd 3 [("loss_values", .mat [[.fin 2], [.fin 1]]), ("nondominated_indices", .idx [0, 1]),
    ("on_front", .mask [false, false])]).map (fun env => envGet env "on_front") = some (.mask [true, true]) := by decide +kernel

/-- `_is_pareto_front_nd` as written today (drop the first column, mark the top row, keep the rows with a
strictly smaller coordinate, repeat) is the hand model's `frontNd`, for every array. -/
theorem gen_frontNd_eq (u : List Point) : prog.frontNd.run callNone [.mat u] = .mask (frontNd u) := by
  -- the loop is a peeling loop (`gen_nd_step`) started from the state the assignments in front of it leave
  refine NLoop.run_peel callNone prog.frontNd u rfl rfl rfl gen_nd_step ?_ ?_ ?_ <;>
    (dsimp only [prog, Generated.BestMethods.frontNd, runAssigns, NE.eval]; simp [envGet, lenOf])

example : prog.frontNd.run callNone [.mat [[.ninf, .pinf, .pinf], [.fin 1, .fin 2, .fin 3], [.fin 1, .fin 3, .fin 2], [.fin 2, .fin 2, .fin 3]]] =
    .mask [true, true, true, false] := by decide +kernel

/-- `_is_pareto_front_for_unique_sorted` as written today dispatches on the number of columns exactly as the
hand model: one column → only the first row; two → the cummin path; otherwise the loop. -/
theorem gen_frontSorted_eq (n : Nat) (u : List Point) (h : Rect' n u) :
    prog.frontSorted.run (callSorted prog) [.mat u] = .mask (frontSorted u) := by
  dsimp only [NFun.run, prog, Generated.BestMethods.frontSorted, NE.eval, NE.evalList]
  simp [envGet_cons, lenOf, callSorted]
  cases u with
  | nil => exact gen_frontNd_eq []
  | cons r rest =>
    by_cases h1 : r.length = 1
    · simp [h1, frontSorted, front1d, List.replicate_succ]
      exact List.map_const'.symm
    · have hb1 : (r.length == 1) = false := by simpa using h1
      by_cases h2 : r.length = 2
      · have hrect : Rect' 2 (r :: rest) := by
          intro q hq; rw [h q hq, ← h r List.mem_cons_self, h2]
        simp [h2, frontSorted]
        exact gen_front2d_eq (r :: rest) hrect
      · have hb2 : (r.length == 2) = false := by simpa using h2
        simp [hb1, hb2, frontSorted]
        exact gen_frontNd_eq (r :: rest)
example : prog.frontSorted.run (callSorted prog) [.mat [[.fin 0], [.fin 1], [.pinf]]] = .mask [true, false, false] := by decide +kernel

theorem callFront_sorted (n : Nat) (u : List Point) (h : Rect' n u) :
    callFront prog "_is_pareto_front_for_unique_sorted" [.mat u] = .mask (frontSorted u) := by
  simp only [callFront, if_true]; exact gen_frontSorted_eq n u h

/-- `_is_pareto_front(loss_values, assume_unique_lexsorted=False)` as written today (`np.unique(axis=0)` with its
inverse, the sorted-array routine, `on_front[order_inv]`) is the hand model's `isParetoFront`, for every rectangular array. -/
theorem gen_front_eq (n : Nat) (rows : List Point) (h : Rect' n rows) :
    interpFront prog rows false = .mask (isParetoFront rows) := by
  have hcall := callFront_sorted n (uniqueLexsort rows) (uniqueLexsort_rect n rows h)
  -- the inverse positions index into the mask
  have hidx : ∀ r ∈ rows, (uniqueLexsort rows).idxOf r < (frontSorted (uniqueLexsort rows)).length := by
    intro r hr
    rw [frontSorted_length]
    exact List.idxOf_lt_length_of_mem ((mem_uniqueLexsort rows r).mpr hr)
  unfold interpFront
  generalize callFront prog = cf at hcall
  dsimp only [NFun.run, prog, Generated.BestMethods.front, NE.eval, NE.evalList]
  simp [envGet, hcall, isParetoFront]
  rw [if_pos hidx]; rfl
example : interpFront prog [[.fin 1, .fin 2], [.fin 1, .fin 2], [.fin 1, .fin 3], [.fin 0, .pinf], [.ninf, .pinf], [.fin 2, .fin 2]] false =
    .mask [true, true, false, false, true, false] := by decide +kernel

/-- with `assume_unique_lexsorted=True` the array is handed to the sorted-array routine as is -/
theorem gen_front_assume_sorted (n : Nat) (u : List Point) (h : Rect' n u) :
    interpFront prog u true = .mask (frontSorted u) := by
  have hcall := callFront_sorted n u h
  unfold interpFront
  generalize callFront prog = cf at hcall
  dsimp only [NFun.run, prog, Generated.BestMethods.front, NE.eval, NE.evalList]
  simp [envGet, hcall]

example : interpFront prog [[.fin 0, .fin 5], [.fin 1, .fin 4], [.fin 2, .fin 4]] true = .mask [true, true, false] := by decide +kernel

/-- `Study.best_trials` as written today (constraint probe over all trials, COMPLETE filter, feasibility filter
when the study is constrained, the value-count check, normalisation, `_is_pareto_front`, selection by the mask) is the reference:
for every history and every list of directions. -/
theorem gen_best_trials_eq (dirs : List Dir) (ts : List BTrial) : interpBestTrials prog dirs ts = bestTrialsRef dirs ts :=
  interpBestTrials_eq_ref prog rfl rfl rfl gen_feasible_eq gen_normRow_eq gen_front_eq dirs ts
example : interpBestTrials prog [.minimize, .maximize]
    [⟨.complete, some [.fin 0, .fin 9], .vals [.fin 1]⟩, ⟨.complete, some [.fin 1, .fin 5], .vals [.fin 0]⟩,
     ⟨.complete, some [.fin 1, .fin 5], .vals []⟩, ⟨.complete, some [.fin 1, .fin 4], .vals [.fin 0]⟩,
     ⟨.running, none, .absent⟩] = some [1, 2] ∧
    interpBestTrials prog [.minimize, .maximize] [⟨.complete, some [.fin 0], .absent⟩] = none := by decide +kernel

end OptunaVerif.C12Gen
