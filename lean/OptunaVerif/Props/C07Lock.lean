import OptunaVerif.Lemmas.FileLockTimed
/-!
# C07 / C05 — the file lock: mutual exclusion, release, stale-lock takeover

About `Model/FileLock.lean`: any number of workers, both lock classes (`cfg.kind`), any grace period,
any interleaving of system calls, clock ticks and crashes (`evs : List Ev`), started from `init n`.

The hypothesis of the safety theorems is `safeSched cfg (init n) evs = true`: **no stale-lock takeover
(`rename` inside `acquire`) removes the lock file of a creator who is alive** — a decidable predicate
of the schedule, prefix closed (`safe_prefix`), evaluated by the driver for every schedule of the tie.
It holds for every schedule when `grace_period=None` (`no_grace_every_schedule_safe`).  It cannot be
dropped on today's code: `takeover_race_two_holders_witness` (F13; open lock and symlink lock),
`stalled_waiter_two_holders_witness` (both classes); each of these schedules is replayed on the real code by `verif/props/c07_lock.py` on every run.
-/
namespace OptunaVerif.C07Lock
open OptunaVerif.FileLock

/-- the invariant behind everything: in every reachable state a live worker between its successful
`symlink` / `open(O_EXCL)` and the `rename` of its own `release()` is the creator of the lock file that
exists at that moment -/
theorem holder_owns_lock (cfg : Cfg) (n : Nat) (evs : List Ev) (hsafe : safeSched cfg (init n) evs = true)
    (w : Nat) (wk : Worker) (hw : (run cfg (init n) evs).ws[w]? = some wk) (hlive : wk.dead = false)
    (hh : holding wk.pc = true) : ∃ s, (run cfg (init n) evs).sh.lock = some (w, s) :=
  inv_run cfg evs (init n) (inv_init n) hsafe w wk hw hlive hh

example : safeSched soloTakeoverOpen.cfg (init 2) soloTakeoverOpen.evs = true ∧
    liveAt soloTakeoverOpen.final holding 1 = true ∧ soloTakeoverOpen.final.sh.lock = some (1, 3) := by decide

/-- **mutual exclusion**: for every number of workers and every schedule without a takeover of a live
creator's lock, two live workers that both hold (created the lock file, have not yet renamed it away —
this contains the critical section) are the same worker -/
theorem mutual_exclusion (cfg : Cfg) (n : Nat) (evs : List Ev) (hsafe : safeSched cfg (init n) evs = true)
    (w v : Nat) (wk vk : Worker)
    (hw : (run cfg (init n) evs).ws[w]? = some wk) (hv : (run cfg (init n) evs).ws[v]? = some vk)
    (hwl : wk.dead = false) (hvl : vk.dead = false)
    (hwh : holding wk.pc = true) (hvh : holding vk.pc = true) : w = v := by
  obtain ⟨s, h1⟩ := holder_owns_lock cfg n evs hsafe w wk hw hwl hwh
  obtain ⟨s', h2⟩ := holder_owns_lock cfg n evs hsafe v vk hv hvl hvh
  rw [h1] at h2
  simp only [Option.some.injEq, Prod.mk.injEq] at h2
  exact h2.1

-- non-vacuity: a contended safe schedule (holder dies, one waiter takes over) that ends with a holder
example : soloTakeoverSymlink.safe = true ∧ liveHolders soloTakeoverSymlink.final = [1] := by decide

/-- the hypothesis speaks about the whole history: it holds for every prefix of a safe schedule -/
theorem safe_prefix (cfg : Cfg) (n : Nat) (evs : List Ev) (k : Nat) (hsafe : safeSched cfg (init n) evs = true) :
    safeSched cfg (init n) (evs.take k) = true :=
  safeSched_take cfg (init n) evs k hsafe

example : safeSched soloTakeoverOpen.cfg (init 2) (soloTakeoverOpen.evs.take 12) = true := by decide

/-- mutual exclusion holds in **every reachable state** of a safe schedule, not only the last -/
theorem mutual_exclusion_every_prefix (cfg : Cfg) (n : Nat) (evs : List Ev)
    (hsafe : safeSched cfg (init n) evs = true) (k : Nat) (w v : Nat) (wk vk : Worker)
    (hw : (run cfg (init n) (evs.take k)).ws[w]? = some wk) (hv : (run cfg (init n) (evs.take k)).ws[v]? = some vk)
    (hwl : wk.dead = false) (hvl : vk.dead = false)
    (hwh : holding wk.pc = true) (hvh : holding vk.pc = true) : w = v :=
  mutual_exclusion cfg n (evs.take k) (safe_prefix cfg n evs k hsafe) w v wk vk hw hv hwl hvl hwh hvh

example : liveHolders (run soloTakeoverOpen.cfg (init 2) (soloTakeoverOpen.evs.take 3)) = [0] := by decide

/-- the same as a count: at most one live worker is inside its critical section -/
theorem at_most_one_live_holder (cfg : Cfg) (n : Nat) (evs : List Ev) (hsafe : safeSched cfg (init n) evs = true) :
    (liveHolders (run cfg (init n) evs)).length ≤ 1 := by
  have hnd : (liveHolders (run cfg (init n) evs)).Nodup := List.Pairwise.filter _ List.nodup_range
  -- a member of `liveHolders` is a live holder in the sense of `mutual_exclusion`
  have key : ∀ x ∈ liveHolders (run cfg (init n) evs),
      ∃ wk : Worker, (run cfg (init n) evs).ws[x]? = some wk ∧ wk.dead = false ∧ holding wk.pc = true := by
    intro x hx
    obtain ⟨wk, hw, hd, hc⟩ := (liveAt_iff _ _ x).1 (List.mem_filter.1 hx).2
    exact ⟨wk, hw, hd, holding_of_inCrit hc⟩
  match hl : liveHolders (run cfg (init n) evs) with
  | [] => simp
  | [_] => simp
  | a :: b :: t =>
    obtain ⟨wk, h1, h2, h3⟩ := key a (by simp [hl])
    obtain ⟨vk, h4, h5, h6⟩ := key b (by simp [hl])
    cases mutual_exclusion cfg n evs hsafe a b wk vk h1 h4 h2 h5 h3 h6
    simp [hl] at hnd

example : (liveHolders soloTakeoverOpen.final).length = 1 := by decide

/-- **release only removes the caller's own lock file**: when a live holder performs the `rename` of
its `release()`, the lock file that exists is the one it created; the rename succeeds (no
`RuntimeError("did not possess lock")`) and what goes away is its own file -/
theorem release_only_own_lock (cfg : Cfg) (n : Nat) (evs : List Ev) (hsafe : safeSched cfg (init n) evs = true)
    (w : Nat) (wk : Worker) (hw : (run cfg (init n) evs).ws[w]? = some wk) (hlive : wk.dead = false)
    (hpc : wk.pc = .relRename) :
    (∃ s, (run cfg (init n) evs).sh.lock = some (w, s)) ∧
    (step cfg (run cfg (init n) evs) (.step w)).2 = .renameOk w ∧
    (step cfg (run cfg (init n) evs) (.step w)).1.sh.lock = none := by
  obtain ⟨s, h⟩ := holder_owns_lock cfg n evs hsafe w wk hw hlive (by simp [hpc, holding])
  refine ⟨⟨s, h⟩, ?_, ?_⟩
  · rw [step_live cfg _ w wk hw hlive]; simp [stepW, hpc, doRename, h]
  · rw [step_live cfg _ w wk hw hlive]; simp [stepW, hpc, doRename, h]

example : pcOf (run { kind := .openExcl, grace := some 2 } (init 2) (stepsOf 0 4)) 0 = some .relRename ∧
    safeSched { kind := .openExcl, grace := some 2 } (init 2) (stepsOf 0 4) = true := by decide

/-- with `grace_period=None` every schedule satisfies the hypothesis (nobody ever attempts a takeover) -/
theorem no_grace_every_schedule_safe (cfg : Cfg) (hg : cfg.grace = none) (n : Nat) (evs : List Ev) :
    safeSched cfg (init n) evs = true :=
  safeSched_of_no_grace cfg hg evs (init n) (tkFree_init n)

-- non-vacuity: a contended schedule with a crashed holder and many ticks; the waiter just keeps polling
example : safeSched { kind := .openExcl, grace := none } (init 2) (stepsOf 0 3 ++ [.crash 0] ++ stepsOf 1 2 ++ ticks 9 ++ stepsOf 1 4) = true ∧
    pcOf (run { kind := .openExcl, grace := none } (init 2) (stepsOf 0 3 ++ [.crash 0] ++ stepsOf 1 2 ++ ticks 9 ++ stepsOf 1 4)) 1 = some .sleep := by decide

/-- **mutual exclusion, unconditionally, when there is no grace period**: every schedule, crashes included -/
theorem mutual_exclusion_no_grace (cfg : Cfg) (hg : cfg.grace = none) (n : Nat) (evs : List Ev)
    (w v : Nat) (wk vk : Worker)
    (hw : (run cfg (init n) evs).ws[w]? = some wk) (hv : (run cfg (init n) evs).ws[v]? = some vk)
    (hwl : wk.dead = false) (hvl : vk.dead = false)
    (hwh : holding wk.pc = true) (hvh : holding vk.pc = true) : w = v :=
  mutual_exclusion cfg n evs (no_grace_every_schedule_safe cfg hg n evs) w v wk vk hw hv hwl hvl hwh hvh

-- non-vacuity: holder 0, waiter 1 polls (create fails, sleeps, create fails …)
example : liveHolders (run { kind := .symlink, grace := none } (init 2) (stepsOf 0 2 ++ stepsOf 1 4)) = [0] ∧
    pcOf (run { kind := .symlink, grace := none } (init 2) (stepsOf 0 2 ++ stepsOf 1 4)) 1 = some .sleep := by decide

/-! ### the hypothesis cannot be dropped on today's code: two-holder schedules; and the schedules that the repairs
fb3aa05 / d602c3c made safe (each schedule is replayed on the real classes) -/

/-- **F13** (open lock, grace 2, three workers, 37 events): holder 0 dies in its critical section; waiters
1 and 2 both pass the grace check; 1 renames the stale lock away, creates the lock, enters; 2's pending
`rename` removes the lock file 1 has just created and 2 enters too: two live holders.  The takeover is
not a compare-and-swap. -/
theorem takeover_race_two_holders_witness :
    liveHolders f13Open.final = [1, 2] ∧ f13Open.safe = false ∧
    (∃ k, liveTakeoverAt (run f13Open.cfg (init f13Open.n) (f13Open.evs.take k)) (.step 2) = true) := by
  refine ⟨by decide, by decide, 31, by decide⟩

/-- F13 on the symlink lock (34 events) -/
theorem takeover_race_two_holders_witness_symlink :
    liveHolders f13Symlink.final = [1, 2] ∧ f13Symlink.safe = false := by decide

/-- **the repair fb3aa05** (the symlink lock samples the link's own mtime with `os.lstat`), on the schedule
that gave two holders before it: both waiters have watched the dead holder's lock for longer than the
grace period; 1 takes over completely and enters; 2 polls afterwards, finds a lock file with a new stamp,
restarts its timer and keeps polling.  One holder, the schedule is safe (and punctual). -/
theorem symlink_sequential_takeovers_now_safe :
    liveHolders f13SymlinkSequential.final = [1] ∧ f13SymlinkSequential.safe = true ∧
    punctualSched f13SymlinkSequential.cfg 2 (init 3) f13SymlinkSequential.evs = true ∧
    pcOf f13SymlinkSequential.final 2 = some .sleep := by decide

/-- **the repair d602c3c**: after a successful takeover the taker restarts its timer with one more clock
read (`tkRestart`), then sleeps -/
theorem takeover_restarts_timer (cfg : Cfg) (st : St) (w : Nat) (wk : Worker) (hw : st.ws[w]? = some wk)
    (hlive : wk.dead = false) (hpc : wk.pc = .tkRestart) :
    (step cfg st (.step w)).2 = .monotonic st.sh.now ∧
    (step cfg st (.step w)).1.ws[w]? = some { wk with pc := .sleep, last := st.sh.now } ∧
    (step cfg st (.step w)).1.sh = st.sh := by
  rw [step_live cfg st w wk hw hlive]
  refine ⟨by simp [stepW, hpc], ?_, by simp [stepW, hpc]⟩
  simp only
  rw [updAt_self st.ws w wk _ hw]
  simp [stepW, hpc]

example : pcOf (run soloTakeoverSymlink.cfg (init 2) (soloTakeoverSymlink.evs.take 17)) 1 = some .tkRestart := by decide

/-- the schedule that ended with two live holders before d602c3c (symlink lock, ONE waiter past the grace
period, a newcomer wins the re-created lock while the taker sleeps): the taker now sees an unexpired timer
and keeps polling; one holder, safe, punctual -/
theorem symlink_single_waiter_no_longer_steals :
    liveHolders symlinkAfterTakeover.final = [2] ∧ symlinkAfterTakeover.safe = true ∧
    pcOf symlinkAfterTakeover.final 1 = some .sleep := by decide

/-- the stalled waiter of `stalled_waiter_two_holders_witness` (next theorem) on the symlink lock, same interleaving -/
theorem stalled_waiter_two_holders_witness_symlink :
    liveHolders stalledWaiterSymlink.final = [0, 1] ∧ stalledWaiterSymlink.safe = false ∧
    stalledWaiterSymlink.final.ws.all (fun wk => !wk.dead) = true := by decide

/-- no crash at all (open lock, two workers): a waiter suspended for longer than the grace period
between sampling the clock and comparing it removes the fresh lock of a live holder -/
theorem stalled_waiter_two_holders_witness :
    liveHolders stalledWaiter.final = [0, 1] ∧ stalledWaiter.safe = false ∧
    stalledWaiter.final.ws.all (fun wk => !wk.dead) = true := by decide

/-- `punctualSched cfg g st evs` (decidable, `Model/FileLock.lean`): (H0) the clock never passes
`stamp + grace` while the creator of the lock file is alive — *every live holder releases within the
grace period*; (W0) the clock does not move while a live waiter is between its `stat` and the `rename`
of a takeover; (U) a takeover `rename` finds no other live waiter in that window.  Crashes — also of
holders — are unrestricted.  Such a schedule never takes over a live creator's lock (both classes, since
repo fb3aa05 made the symlink lock sample the link's own mtime). -/
theorem punctual_schedule_safe (cfg : Cfg) (g : Nat) (hg : cfg.grace = some g) (n : Nat)
    (evs : List Ev) (hp : punctualSched cfg g (init n) evs = true) : safeSched cfg (init n) evs = true :=
  safeSched_of_punctual cfg g hg evs (init n) (tinv_init g n) hp

-- non-vacuity: the holder dies, the waiter takes over after the grace period — punctual;
-- the F13 schedule violates (U), the stalled waiter violates (W0)
example : punctualSched soloTakeoverOpen.cfg 2 (init 2) soloTakeoverOpen.evs = true ∧
    punctualSched soloTakeoverSymlink.cfg 2 (init 2) soloTakeoverSymlink.evs = true ∧
    punctualSched f13Symlink.cfg 2 (init 3) f13Symlink.evs = false ∧
    punctualSched f13Open.cfg 2 (init 3) f13Open.evs = false ∧
    punctualSched stalledWaiter.cfg 2 (init 2) stalledWaiter.evs = false := by decide

/-- **mutual exclusion (both classes) when holders are punctual**, waiters are not stalled and
takeovers are not concurrent — crashes of holders included -/
theorem mutual_exclusion_punctual (cfg : Cfg) (g : Nat) (hg : cfg.grace = some g) (n : Nat)
    (evs : List Ev) (hp : punctualSched cfg g (init n) evs = true) (w v : Nat) (wk vk : Worker)
    (hw : (run cfg (init n) evs).ws[w]? = some wk) (hv : (run cfg (init n) evs).ws[v]? = some vk)
    (hwl : wk.dead = false) (hvl : vk.dead = false)
    (hwh : holding wk.pc = true) (hvh : holding vk.pc = true) : w = v :=
  mutual_exclusion cfg n evs (punctual_schedule_safe cfg g hg n evs hp) w v wk vk hw hv hwl hvl hwh hvh

example : liveHolders soloTakeoverOpen.final = [1] := by decide

/-- the hand-over schedule that gave two holders on the symlink lock before fb3aa05 (no crash, punctual
holders, the lock changes hands between two polls of a waiter): the waiter now sees the new lock stamp
and restarts its timer — punctual, safe, one holder -/
theorem symlink_handover_now_safe :
    punctualSched symlinkHandover.cfg 2 (init 3) symlinkHandover.evs = true ∧
    symlinkHandover.safe = true ∧ liveHolders symlinkHandover.final = [2] ∧
    pcOf symlinkHandover.final 1 = some .sleep := by decide

/-! ### progress (C05) -/

/-- **a crashed holder is taken over**: the lock file exists (its creator `o` is dead, or merely slow:
the code cannot tell), waiter `w` is about to retry the exclusive create, has already sampled the
current mtime and its timer is past the grace period.  Then `w` running alone — create fails, `stat`,
clock check, `rename`, `unlink`, timer restart, `sleep`, create succeeds (, `close`) — ends inside its
critical section as the creator of the lock file; 8 calls with the symlink lock, 9 with the open lock. -/
theorem crashed_holder_taken_over (cfg : Cfg) (g : Nat) (hg : cfg.grace = some g) (st : St) (w : Nat) (wk : Worker)
    (o s : Nat) (hw : st.ws[w]? = some wk) (hlive : wk.dead = false) (hpc : wk.pc = .create)
    (hlock : st.sh.lock = some (o, s)) (hm : wk.mtime = some s)
    (hlast : wk.last + g < st.sh.now) :
    (run cfg st (stepsOf w (match cfg.kind with | .symlink => 8 | .openExcl => 9))).sh.lock = some (w, st.sh.now) ∧
    pcOf (run cfg st (stepsOf w (match cfg.kind with | .symlink => 8 | .openExcl => 9))) w = some .crit := by
  rw [run_solo cfg w _ st wk hw hlive]
  have h := solo_takeover cfg g hg st.sh w wk o s hpc hlock hm hlast
  refine ⟨h.1, ?_⟩
  simp only [pcOf]
  rw [updAt_self st.ws w wk _ hw]
  simp only [Option.map_some, Option.some.injEq]
  exact h.2

-- non-vacuity: the state of `soloTakeoverOpen` after the holder's crash, the waiter's first sampling and 3 ticks
example :
    let st := run soloTakeoverOpen.cfg (init 2) (soloTakeoverOpen.evs.take 13)
    st.ws[1]? = some { pc := .create, dead := false, mtime := some 0, last := 0, nren := 0, failed := 0 } ∧
    st.sh.lock = some (0, 0) ∧ st.sh.now = 3 ∧ isLive st 0 = false := by decide

theorem takeover_of_dead_creator_is_safe (st : St) (e : Ev) (o s : Nat) (hlock : st.sh.lock = some (o, s))
    (hdead : isLive st o = false) : liveTakeoverAt st e = false := by
  cases e <;> simp [liveTakeoverAt, hlock, hdead]

example : isLive (run soloTakeoverOpen.cfg (init 2) (soloTakeoverOpen.evs.take 16)) 0 = false ∧
    pcOf (run soloTakeoverOpen.cfg (init 2) (soloTakeoverOpen.evs.take 16)) 1 = some .tkRename := by decide

theorem free_lock_acquired (cfg : Cfg) (st : St) (w : Nat) (wk : Worker) (hw : st.ws[w]? = some wk) (hlive : wk.dead = false)
    (hpc : wk.pc = .create) (hfree : st.sh.lock = none) :
    (step cfg st (.step w)).1.sh.lock = some (w, st.sh.now) ∧ (step cfg st (.step w)).2 = .createOk := by
  rw [step_live cfg st w wk hw hlive]
  simp [stepW, hpc, hfree]

example : pcOf (run { kind := .symlink, grace := some 2 } (init 1) (stepsOf 0 1)) 0 = some .create := by decide

/-- **no dead-lock**: every live worker can always move — each of its calls returns and takes it to a
different program point (the lock is polled, never waited for) -/
theorem no_deadlock_step (cfg : Cfg) (st : St) (w : Nat) (wk : Worker) (hw : st.ws[w]? = some wk) (hlive : wk.dead = false) :
    pcOf (step cfg st (.step w)).1 w ≠ pcOf st w := by
  rw [step_live cfg st w wk hw hlive]
  simp only [pcOf]
  rw [updAt_self st.ws w wk _ hw, hw]
  simp only [Option.map_some, ne_eq, Option.some.injEq]
  exact stepW_pc_ne cfg st.sh w wk

example : pcOf (init 2) 1 = some .idle := by decide

end OptunaVerif.C07Lock
