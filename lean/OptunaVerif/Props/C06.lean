import OptunaVerif.Lemmas.Journal
import OptunaVerif.Lemmas.JournalRefine
import OptunaVerif.Props.C01
/-!
# C06 — journal replay is deterministic; all workers converge

Theorems about `Model/Journal.lean` (the model of `JournalStorageReplayResult.apply_logs` and of
`JournalStorage._sync_with_backend`), for **all** logs, workers, batch splits, sync points and
snapshot positions.  The public state of a replica `st` is `st.spec`: what `get_all_studies` /
`get_all_trials` expose; the remaining fields (`cursor`, `owned`, `lastCreated`) are local to a worker.
`replay_refines_spec` is shared with C01: the replay refines the storage contract.
-/
namespace OptunaVerif.C06
open OptunaVerif.Storage OptunaVerif.Journal

def pubReplay (s : Spec) (rs : List Rec) : Spec := rs.foldl applySpec s

theorem applyAll_pub (w : String) (st : JState) (rs : List Rec) :
    (applyAll w st rs).spec = pubReplay st.spec rs ∧ (applyAll w st rs).cursor = st.cursor + rs.length := by
  induction rs generalizing st with
  | nil => simp [applyAll, pubReplay]
  | cons r rs ih =>
    have h1 := (apply_spec w { st with cursor := st.cursor + 1 } r).1
    have h2 := apply_cursor w { st with cursor := st.cursor + 1 } r
    obtain ⟨ih1, ih2⟩ := ih (apply w { st with cursor := st.cursor + 1 } r).1
    have e : applyAll w st (r :: rs) =
        applyAll w (apply w { st with cursor := st.cursor + 1 } r).1 rs := rfl
    rw [e, ih1, ih2, h1, h2]
    refine ⟨rfl, ?_⟩
    simp only [List.length_cons]
    omega

/-- whichever worker replays a log (and whatever it owned before), it sees
the same studies and trials. -/
theorem issuer_independent (w w' : String) (st st' : JState) (rs : List Rec) (h : st.spec = st'.spec) :
    (applyAll w st rs).spec = (applyAll w' st' rs).spec := by
  rw [(applyAll_pub w st rs).1, (applyAll_pub w' st' rs).1, h]

/-- replaying `l₁ ++ l₂` is replaying `l₂` from the state after `l₁`; hence any
split of the same log into batches gives the same state. -/
theorem replay_is_fold (w : String) (st : JState) (l₁ l₂ : List Rec) :
    applyAll w st (l₁ ++ l₂) = applyAll w (applyAll w st l₁) l₂ := by
  simp [applyAll, List.foldl_append]

/-- One call of `apply_logs` consumes some number `n` of records (all of them, or up to and
including the first one rejected for this worker) and leaves exactly the public state of the
error-free replay of those `n` records, with the cursor just past them. -/
theorem applyLogs_prefix (w : String) (st : JState) (rs : List Rec) :
    ∃ n, n ≤ rs.length ∧
      (applyLogs w st rs).1.cursor = st.cursor + n ∧
      (applyLogs w st rs).1.spec = pubReplay st.spec (rs.take n) ∧
      ((applyLogs w st rs).2 = none → n = rs.length) ∧
      ((applyLogs w st rs).2 ≠ none → 0 < n) := by
  rcases applyLogs_cases w st rs with h | ⟨a, r, b, e, hrs, _, _, h⟩ <;> rw [h]
  · exact ⟨rs.length, Nat.le_refl _, (applyAll_pub w st rs).2, by rw [List.take_length]; exact (applyAll_pub w st rs).1,
      fun _ => rfl, fun h => absurd rfl h⟩
  · -- stopped just past `r`: the prefix `a ++ [r]` was consumed
    refine ⟨a.length + 1, by rw [hrs]; simp, ?_, ?_, fun h => (by cases h), fun _ => Nat.succ_pos _⟩
    · rw [(applyAll_pub w st _).2]; simp
    · rw [(applyAll_pub w st _).1, hrs, take_succ_append_cons]

def Synced (log : List Rec) (st : JState) : Prop :=
  st.cursor ≤ log.length ∧ st.spec = pubReplay Storage.init (log.take st.cursor)

theorem pubReplay_append (s : Spec) (l₁ l₂ : List Rec) :
    pubReplay s (l₁ ++ l₂) = pubReplay (pubReplay s l₁) l₂ := by
  simp [pubReplay, List.foldl_append]

/-- resume after error: a sync — whether it ends normally or is aborted by an error raised for
one of this worker's own records — keeps the invariant; so after *any* sequence of syncs at *any*
points of a growing log the replica holds exactly the replay of the prefix it has read. -/
theorem sync_keeps_synced (w : String) (log : List Rec) (upto : Nat) (st : JState)
    (h : Synced log st) : Synced log (sync w st log upto).1 := by
  obtain ⟨hc, hs⟩ := h
  unfold sync
  obtain ⟨n, hn, hcur, hspec, _, _⟩ := applyLogs_prefix w st ((log.take upto).drop st.cursor)
  have hlen : ((log.take upto).drop st.cursor).length ≤ log.length - st.cursor := by
    simp only [List.length_drop, List.length_take]; omega
  refine ⟨by rw [hcur]; omega, ?_⟩
  rw [hspec, hs, ← pubReplay_append]
  congr 1
  -- the records consumed are the next `n` records of the log
  have hn' : n ≤ (min upto log.length) - st.cursor := by
    simpa [List.length_drop, List.length_take] using hn
  rw [hcur]
  have : (List.drop st.cursor (List.take upto log)).take n = (log.drop st.cursor).take n := by
    rw [List.drop_take]
    rw [List.take_take]
    congr 1
    omega
  rw [this, ← List.take_add]

theorem init_synced (log : List Rec) : Synced log JState.init := by
  simp [Synced, JState.init, pubReplay]

theorem synced_mono (log ext : List Rec) (st : JState) (h : Synced log st) : Synced (log ++ ext) st := by
  obtain ⟨hc, hs⟩ := h
  refine ⟨by simp; omega, ?_⟩
  rw [hs, List.take_append_of_le_length hc]

/-- two replicas that have read the same number of records of the same log
expose the same studies and trials — regardless of who issued which record, how their syncs were
batched, and which errors they raised on the way. -/
theorem workers_converge (log : List Rec) (st st' : JState) (h : Synced log st) (h' : Synced log st')
    (hc : st.cursor = st'.cursor) : st.spec = st'.spec := by
  rw [h.2, h'.2, hc]

/-- an error is raised only when the replaying worker is the issuer
of the record, and a record that is rejected changes no worker's public state. -/
theorem rejected_changes_nothing (w : String) (st : JState) (r : Rec) (e : Err)
    (h : (apply w st r).2 = some e) :
    r.worker = w ∧ (apply w st r).1.spec = st.spec ∧
      ∀ w' (st' : JState), st'.spec = st.spec → (apply w' st' r).1.spec = st'.spec := by
  have h2 := (apply_spec w st r).2
  rw [h] at h2
  by_cases hw : (r.worker == w) = true
  · simp only [hw, if_true] at h2
    have hrej : applySpec st.spec r = st.spec := by
      unfold applySpec; rw [← h2]
    refine ⟨by simpa using hw, by rw [(apply_spec w st r).1, hrej], ?_⟩
    intro w' st' hs
    rw [(apply_spec w' st' r).1, hs, hrej]
  · simp [hw] at h2

/-- restoring a snapshot taken (by any worker) after `k` records and
replaying the tail equals replaying the whole log from scratch, for every `k`. -/
theorem snapshot_plus_tail (w by_ : String) (log : List Rec) (k : Nat) :
    (applyAll w (restore (applyAll by_ JState.init (log.take k))) (log.drop k)).spec =
      (applyAll w JState.init log).spec := by
  rw [(applyAll_pub w _ _).1, (applyAll_pub w _ _).1]
  show pubReplay (applyAll by_ JState.init (log.take k)).spec (log.drop k) = _
  rw [(applyAll_pub by_ _ _).1, ← pubReplay_append, List.take_append_drop]

/-- The snapshot also resumes at the right record. -/
theorem snapshot_cursor (by_ : String) (log : List Rec) (k : Nat) (hk : k ≤ log.length) :
    (restore (applyAll by_ JState.init (log.take k))).cursor = k := by
  show (applyAll by_ JState.init (log.take k)).cursor = k
  rw [(applyAll_pub by_ _ _).2]; simp [JState.init, hk]

/-- the contract calls a log stands for, record by record (the `raised` flag of a `set_trial_param`
is what its issuer observed) -/
def opsOf : Spec → List Rec → List Op
  | _, [] => []
  | s, r :: rs => opOf r (rejects s r == some .valueError) :: opsOf (applySpec s r) rs

theorem jinv_replay (s : Spec) (rs : List Rec) (h : JInv s) : JInv (pubReplay s rs) := by
  induction rs generalizing s with
  | nil => exact h
  | cons r rs ih => exact ih _ (jinv_step s r h)

/-- the public state after replaying any log is the state the contract model
reaches by the corresponding calls. -/
theorem replay_refines_spec (s : Spec) (rs : List Rec) (h : JInv s) :
    pubReplay s rs = C01.after s (opsOf s rs) := by
  induction rs generalizing s with
  | nil => rfl
  | cons r rs ih =>
    have h1 := (apply_refines_step s r h).1
    show pubReplay (applySpec s r) rs = C01.after (Storage.step s _).1 (opsOf (applySpec s r) rs)
    rw [← h1]
    exact ih _ (jinv_step s r h)

/-- every record is rejected at its issuer with exactly the error the contract gives that call -/
theorem issuer_error_is_contract_error (rs : List Rec) (r : Rec) :
    let s := pubReplay Storage.init rs
    rejects s r = errOf (Storage.step s (opOf r (rejects s r == some .valueError))).2 :=
  (apply_refines_step _ r (jinv_replay _ rs jinv_init)).2

/-- corollary: on a journal, trial numbers are 0,1,2,… in creation order per study — whatever was
logged by whichever workers (C01's `numbers_dense`, transferred through the refinement). -/
theorem journal_numbers_dense (rs : List Rec) : C01.Numbered (pubReplay Storage.init rs) := by
  rw [replay_refines_spec _ rs jinv_init]
  exact C01.numbers_dense _

/-- corollary: a finished trial's record is the same after any further log suffix. -/
theorem journal_finished_frozen (rs more : List Rec) (tid : Nat) (t : TrialS)
    (h : (pubReplay Storage.init rs).trials[tid]? = some t) (hf : t.state.isFinished = true) :
    (pubReplay Storage.init (rs ++ more)).trials[tid]? = some t := by
  rw [pubReplay_append, replay_refines_spec _ more (jinv_replay _ rs jinv_init)]
  exact C01.finished_frozen _ _ tid t h hf

/-! ## non-vacuity -/

def demoLog : List Rec :=
  [ .createStudy "A" "s" [1], .createStudy "B" "s" [1],            -- B's duplicate is rejected at B only
    .createTrial "A" 0 none, .setTrialStateValues "B" 0 .complete (some [.fin 1]),
    .setTrialUserAttr "A" 0 "k" "v",                                -- finished: rejected at A only
    .createTrial "B" 7 none ]                                       -- unknown study: rejected at B only

example : (applyLogs "B" JState.init demoLog).2 = some .duplicated := by decide +kernel
example : (applyLogs "A" JState.init demoLog).2 = some .updateFinished := by decide +kernel
example : (applyLogs "C" JState.init demoLog).2 = none := by decide +kernel
example : (applyAll "A" JState.init demoLog).spec = (applyAll "B" JState.init demoLog).spec := by decide +kernel
example : (sync "B" (sync "B" JState.init demoLog 6).1 demoLog 6).1.cursor = 6 := by decide +kernel

end OptunaVerif.C06
