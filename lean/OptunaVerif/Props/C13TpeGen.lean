import OptunaVerif.Props.C13Tpe
import OptunaVerif.Generated.TpeInt
/-!
# C13 / C09 — TPE's gamma / weights / quota arithmetic regenerated from the Python source is the hand model

`Generated/TpeInt.lean` is rewritten from `/repo/optuna/samplers/_tpe/sampler.py` on every run
(`verif/translators/tpe_int.py`).  Each theorem relates one generated definition to `Model/TpeSplit.lean`
for **all** arguments (`gen_quota`, `gen_clip`: to the truncated subtraction and the `min` of ℕ that the model's split is written
with, for all non-negative arguments); `gen_classify_chain` and `gen_pinned` pin the order of the classification
if-chain and the text of the statements whose meaning is hand-modelled (sort keys, `reverse=True`,
slices, concatenation order, the score tuples, the `_sample` glue).
-/
namespace OptunaVerif.C13TpeGen
open OptunaVerif.TpeSplit
open OptunaVerif.Generated

theorem ceil_tenth (x : Nat) : (Rat.ceil (((1 : Rat) / 10) * (x : Rat))).toNat = (x + 9) / 10 := by
  have key : ∀ k : Nat, (Rat.ceil (((1 : Rat) / 10) * (x : Rat))).toNat ≤ k ↔ (x + 9) / 10 ≤ k := by
    intro k
    rw [Int.toNat_le, show ((k : Nat) : Int) = ((k : Int)) from rfl, Rat.ceil_le_iff]
    have : ((1 : Rat) / 10) * (x : Rat) ≤ ((k : Int) : Rat) ↔ (x : Rat) ≤ 10 * (k : Rat) := by
      constructor <;> intro h <;> push_cast at * <;> linarith
    rw [this]
    have : (x : Rat) ≤ 10 * (k : Rat) ↔ x ≤ 10 * k := by exact_mod_cast Iff.rfl
    rw [this]; omega
  exact Nat.le_antisymm ((key _).mpr (Nat.le_refl _)) ((key _).mp (Nat.le_refl _))

/-- `default_gamma` as written in the source (`⌈0.1·x⌉` with the decimal literal) is the model's -/
theorem gen_default_gamma (x : Nat) : TpeInt.defaultGamma x = defaultGamma x := by
  unfold TpeInt.defaultGamma defaultGamma
  rw [ceil_tenth]

theorem gen_hyperopt_gamma (x : Nat) : TpeInt.hyperoptGamma x = hyperoptGamma x := by
  unfold TpeInt.hyperoptGamma hyperoptGamma
  simp

theorem gen_default_weights (x : Nat) : TpeInt.defaultWeights x = defaultWeights x := by
  unfold TpeInt.defaultWeights defaultWeights
  simp

/-- `n_below = max(0, n_below - len(below_x))` is the model's truncated subtraction -/
theorem gen_quota (n l : Nat) : TpeInt.quota (n : Int) (l : Int) = ((n - l : Nat) : Int) := by
  unfold TpeInt.quota; omega

/-- `n_below = min(n_below, len(trials))` -/
theorem gen_clip (n l : Nat) : TpeInt.clip (n : Int) (l : Int) = ((min n l : Nat) : Int) := by
  unfold TpeInt.clip; omega

/-- the order of the classification tests is the order of the model's `classify`:
RUNNING first, then infeasibility (only with constraints enabled), then COMPLETE, then PRUNED, else `assert False` -/
theorem gen_classify_chain : TpeInt.classifyChain = [
    ("trial.state == TrialState.RUNNING", "running_trials"),
    ("constraints_enabled and _get_infeasible_trial_score(trial) > 0", "infeasible_trials"),
    ("trial.state == TrialState.COMPLETE", "complete_trials"),
    ("trial.state == TrialState.PRUNED", "pruned_trials")] := rfl

/-- the hand-modelled statements, verbatim -/
theorem gen_pinned : TpeInt.pinned = [
  "below_complete, above_complete = _split_complete_trials(complete_trials, study, n_below)",
  "n_below = max(0, n_below - len(below_complete))",
  "below_pruned, above_pruned = _split_pruned_trials(pruned_trials, study, n_below)",
  "n_below = max(0, n_below - len(below_pruned))",
  "below_infeasible, above_infeasible = _split_infeasible_trials(infeasible_trials, n_below)",
  "below_trials = below_complete + below_pruned + below_infeasible",
  "above_trials = above_complete + above_pruned + above_infeasible + running_trials",
  "below_trials.sort(key=lambda trial: trial.number)",
  "above_trials.sort(key=lambda trial: trial.number)",
  "return (below_trials, above_trials)",
  "_split_complete_trials: if len(study.directions) <= 1: return _split_complete_trials_single_objective(trials, study, n_below) else: return _split_complete_trials_multi_objective(trials, study, n_below)",
  "_split_pruned_trials: sorted_trials = sorted(trials, key=lambda trial: _get_pruned_trial_score(trial, study))",
  "_split_pruned_trials: return (sorted_trials[:n_below], sorted_trials[n_below:])",
  "_split_infeasible_trials: sorted_trials = sorted(trials, key=_get_infeasible_trial_score)",
  "_split_infeasible_trials: return (sorted_trials[:n_below], sorted_trials[n_below:])",
  "_split_complete_trials_single_objective: if study.direction == StudyDirection.MINIMIZE: sorted_trials = sorted(trials, key=lambda trial: cast(float, trial.value)) else: sorted_trials = sorted(trials, key=lambda trial: cast(float, trial.value), reverse=True)",
  "_split_complete_trials_single_objective: return (sorted_trials[:n_below], sorted_trials[n_below:])",
  "_get_pruned_trial_score: if len(trial.intermediate_values) > 0: step, intermediate_value = max(trial.intermediate_values.items()) if math.isnan(intermediate_value): return (-step, float('inf')) elif study.direction == StudyDirection.MINIMIZE: return (-step, intermediate_value) else: return (-step, -intermediate_value) else: return (1, 0.0)",
  "_get_infeasible_trial_score: return float('inf')",
  "_get_infeasible_trial_score: return sum((v for v in constraint if v > 0))",
  "_split_complete_trials_multi_objective: if n_below == 0",
  "_split_complete_trials_multi_objective: lvals *= np.array([-1.0 if d == StudyDirection.MAXIMIZE else 1.0 for d in study.directions])",
  "_split_complete_trials_multi_objective: nondomination_ranks = _fast_non_domination_rank(lvals, n_below=n_below)",
  "_split_complete_trials_multi_objective: last_rank_before_tiebreak = int(np.max(ranks[np.cumsum(rank_counts) <= n_below], initial=-1))",
  "_split_complete_trials_multi_objective: indices_below = indices[nondomination_ranks <= last_rank_before_tiebreak]",
  "_split_complete_trials_multi_objective: if indices_below.size < n_below",
  "_split_complete_trials_multi_objective: below_trials = [trials[i] for i in range(len(trials)) if i in below_indices_set]",
  "_split_complete_trials_multi_objective: above_trials = [trials[i] for i in range(len(trials)) if i not in below_indices_set]",
  "_split_complete_trials_multi_objective: if n_below == len(trials)",
  "_split_complete_trials_multi_objective: need_tiebreak = nondomination_ranks == last_rank_before_tiebreak + 1",
  "_split_complete_trials_multi_objective: subset_size = n_below - indices_below.size",
  "_split_complete_trials_multi_objective: selected_indices = _solve_hssp(rank_i_lvals, indices[need_tiebreak], subset_size, _get_reference_point(rank_i_lvals))",
  "_split_complete_trials_multi_objective: indices_below = np.append(indices_below, selected_indices)",
  "_sample: if self._constant_liar: states = [TrialState.COMPLETE, TrialState.PRUNED, TrialState.RUNNING] else: states = [TrialState.COMPLETE, TrialState.PRUNED]",
  "_sample: trials = study._get_trials(deepcopy=False, states=states, use_cache=use_cache)",
  "_sample: n = sum((trial.state != TrialState.RUNNING for trial in trials))",
  "_sample: below_trials, above_trials = _split_trials(study, trials, self._gamma(n), self._constraints_func is not None)"
] := rfl

example : TpeInt.defaultGamma 31 = 4 ∧ TpeInt.hyperoptGamma 17 = 2 ∧ TpeInt.quota 3 5 = 0 ∧ TpeInt.clip 3 5 = 3 ∧
    TpeInt.defaultWeights 26 = (1 / 26 : Rat) :: List.replicate 25 1 := by decide +kernel

end OptunaVerif.C13TpeGen
