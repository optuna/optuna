import OptunaVerif.Lemmas.Pruners
/-!
# C16 — pruners never prune what their contract protects (property theorems)

All theorems are about the executable model `Model/Pruners.lean` (`prune`, `step`, `after`) and hold
for **every** study state / history, both directions, arbitrary intermediate values (NaN, ±inf, gaps, out-of-order
steps) and every parameter setting that the constructors accept, except where a statement restricts it
(`bootstrap_count = 0` in the strictly-best theorems, a fixed `min_resource` in `sh_no_prune_before_*`, the bounds on
`reduction_factor` / `min_resource` / `n_brackets` in the termination and bracket theorems).  Per-call theorems
quantify over arbitrary (not only reachable) states, which is stronger; `strictly_best_never_pruned`
needs two facts about reachable states (rungs are written in order `0,1,2,…`, a rung value is one of
the trial's own non-NaN reports) and is therefore stated over histories (`after`).
The model is tied to `/repo` by `verif/props/c16.py`.
-/
namespace OptunaVerif.C16
open OptunaVerif.Pruners

/-! ## which protections a pruner carries (a `PatientPruner` inherits those of the wrapped pruner) -/

def nWarmup? : Pruner → Option Nat
  | .percentile c => some c.nWarmup
  | .threshold c => some c.nWarmup
  | .patient w _ _ => nWarmup? w
  | _ => none

def nStartup? : Pruner → Option Nat
  | .percentile c => some c.nStartup
  | .patient w _ _ => nStartup? w
  | _ => none

/-- `(n_warmup_steps, interval_steps)` -/
def interval? : Pruner → Option (Nat × Nat)
  | .percentile c => some (c.nWarmup, c.interval)
  | .threshold c => some (c.nWarmup, c.interval)
  | .patient w _ _ => interval? w
  | _ => none

theorem nop_never (crc : Nat → Nat) (s : Study) (n : Nat) (t : PTrial) :
    (prune crc s n t .nop).prune = false := rfl

example : (step (fun _ => 0) ⟨.minimize, [⟨.running, [(0, .nan)], []⟩]⟩ (.shouldPrune 0 .nop)).2 = some false := by
  decide

theorem no_prune_without_report (crc : Nat → Nat) (s : Study) (n : Nat) (t : PTrial) (p : Pruner)
    (h : t.inter = []) : (prune crc s n t p).prune = false := by
  induction p with
  | nop => rfl
  | percentile c =>
    simp only [prune, noWrite, percentilePrune, h, lastStep]
    split
    · rfl
    · split <;> rfl
  | threshold c => simp [prune, noWrite, thresholdPrune, thresholdChecked, h, lastStep]
  | sh c => simp [prune, shPrune, h, lastStep, noWrite]
  | hyperband c => exact hbPrune_not_pruned fun _ _ _ _ => by simp [shPrune, h, lastStep, noWrite]
  | patient w k dl ih => simp [prune, patientMaybe, h, noWrite]
  | patientNone k dl => simp [prune, patientMaybe, h, noWrite]

/-- A patient pruner only ever prunes what the wrapped pruner prunes: every protection of the wrapped
pruner carries over. -/
theorem patient_implies_wrapped (crc : Nat → Nat) (s : Study) (n : Nat) (t : PTrial)
    (w : Pruner) (patience : Nat) (delta : Rat)
    (h : (prune crc s n t (.patient w patience delta)).prune = true) :
    (prune crc s n t w).prune = true := by
  simp only [prune] at h
  split at h
  · exact h
  · simp [noWrite] at h

theorem patient_not_pruned_of_wrapped (crc : Nat → Nat) (s : Study) (n : Nat) (t : PTrial) (w : Pruner) (k : Nat) (dl : Rat)
    (h : (prune crc s n t w).prune = false) : (prune crc s n t (.patient w k dl)).prune = false := by
  cases hp : (prune crc s n t (.patient w k dl)).prune with
  | false => rfl
  | true => rw [patient_implies_wrapped crc s n t w k dl hp] at h; cases h

/-- An answer True has passed every guard the pruner carries (a patient pruner those of the pruner it wraps): enough
COMPLETE trials, and a last step at or after the warm-up that is the first reported step of its interval. -/
theorem prune_guards (crc : Nat → Nat) (s : Study) (n : Nat) (t : PTrial) (p : Pruner)
    (h : (prune crc s n t p).prune = true) :
    (∀ k, nStartup? p = some k → k ≤ (completedTrials s.trials).length) ∧
    (∀ w, nWarmup? p = some w → ∀ stp, lastStep t.inter = some stp → (w : Int) ≤ stp) ∧
    (∀ w i, interval? p = some (w, i) → ∀ stp, lastStep t.inter = some stp →
      (w : Int) ≤ stp ∧ isFirstInIntervalStep stp (interSteps t) w i = true) := by
  induction p with
  | nop => cases h
  | percentile c =>
    obtain ⟨_, hk, stp, hs, hw, hf, _⟩ := percentilePrune_guards h
    refine ⟨?_, ?_, ?_⟩
    · intro k hk'; cases hk'; exact hk
    · intro w hw' stp' hs'; cases hw'; rw [hs] at hs'; cases hs'; exact hw
    · intro w i hi' stp' hs'; cases hi'; rw [hs] at hs'; cases hs'; exact ⟨hw, hf⟩
  | threshold c =>
    obtain ⟨v, hv⟩ := thresholdPrune_checked h
    obtain ⟨stp, hs, hw, hf, _⟩ := thresholdChecked_guards hv
    refine ⟨?_, ?_, ?_⟩
    · intro k hk'; cases hk'
    · intro w hw' stp' hs'; cases hw'; rw [hs] at hs'; cases hs'; exact hw
    · intro w i hi' stp' hs'; cases hi'; rw [hs] at hs'; cases hs'; exact ⟨hw, hf⟩
  | patient w' k dl ih => exact ih (patient_implies_wrapped crc s n t w' k dl h)
  | _ => exact ⟨fun _ h => (by cases h), fun _ h => (by cases h), fun _ _ h => (by cases h)⟩

/-- No pruner with an `n_warmup_steps` parameter (percentile, median, threshold, or a patient pruner
around one of them) prunes while the trial's last step is below it. -/
theorem no_prune_before_warmup (crc : Nat → Nat) (s : Study) (n : Nat) (t : PTrial) (p : Pruner)
    (w : Nat) (stp : Int) (hw : nWarmup? p = some w) (hs : lastStep t.inter = some stp)
    (hlt : stp < (w : Int)) : (prune crc s n t p).prune = false := by
  rw [← Bool.not_eq_true]
  intro h
  exact absurd ((prune_guards crc s n t p h).2.1 w hw stp hs) (Int.not_le.mpr hlt)

/-- not vacuous: without the warm-up the same trial *is* pruned (median, one completed trial at 1,
the running trial reports 5 at step 0) -/
example :
    percentilePrune ⟨50, 0, 0, 1, 1⟩ .minimize
      [⟨.complete, [(0, .fin 1)], []⟩] ⟨.running, [(0, .fin 5)], []⟩ = true ∧
    percentilePrune ⟨50, 0, 1, 1, 1⟩ .minimize
      [⟨.complete, [(0, .fin 1)], []⟩] ⟨.running, [(0, .fin 5)], []⟩ = false := by
  decide +kernel

/-- While fewer than `n_startup_trials` trials are COMPLETE, the percentile / median pruner (also
inside a patient pruner) does not prune. -/
theorem no_prune_before_startup (crc : Nat → Nat) (s : Study) (n : Nat) (t : PTrial) (p : Pruner)
    (k : Nat) (hk : nStartup? p = some k) (hlt : (completedTrials s.trials).length < k) :
    (prune crc s n t p).prune = false := by
  rw [← Bool.not_eq_true]
  intro h
  exact absurd ((prune_guards crc s n t p h).1 k hk) (Nat.not_le.mpr hlt)

/-- The property as worded (“finished” = COMPLETE, PRUNED or FAIL): fewer finished trials than
`n_startup_trials` ⇒ no pruning.  (The code counts COMPLETE trials only, which is even safer.) -/
theorem no_prune_before_startup_finished (crc : Nat → Nat) (s : Study) (n : Nat) (t : PTrial)
    (p : Pruner) (k : Nat) (hk : nStartup? p = some k)
    (hlt : (s.trials.filter (fun t => t.state.isFinished)).length < k) :
    (prune crc s n t p).prune = false := by
  apply no_prune_before_startup crc s n t p k hk
  -- a COMPLETE trial is finished
  have : (completedTrials s.trials).length ≤ (s.trials.filter (fun t => t.state.isFinished)).length := by
    rw [completedTrials, ← List.countP_eq_length_filter, ← List.countP_eq_length_filter]
    exact List.countP_mono_left fun a _ h => by rw [eq_of_beq h]; rfl
  omega

/-- Even with `n_startup_trials = 0` nothing is pruned before one trial is COMPLETE. -/
theorem percentile_no_prune_without_completed (c : PercentileCfg) (d : Dir) (trials : List PTrial)
    (t : PTrial) (h : completedTrials trials = []) : percentilePrune c d trials t = false := by
  simp [percentilePrune, h]

example :
    percentilePrune ⟨50, 1, 0, 1, 1⟩ .minimize
      [⟨.complete, [(0, .fin 1)], []⟩] ⟨.running, [(0, .fin 5)], []⟩ = true ∧
    percentilePrune ⟨50, 2, 0, 1, 1⟩ .minimize
      [⟨.complete, [(0, .fin 1)], []⟩, ⟨.pruned, [(0, .fin 1)], []⟩] ⟨.running, [(0, .fin 5)], []⟩ = false := by
  decide +kernel

/-- `s'` was reported earlier in the same pruning interval as `stp`: some check point
`w + k·i ≤ s' < stp < w + (k+1)·i`.  (The check for that interval was due at or before `s'`.) -/
def SameIntervalEarlier (w i : Nat) (stp s' : Int) : Prop :=
  ∃ k : Nat, (w : Int) + k * i ≤ s' ∧ s' < stp ∧ stp < (w : Int) + (k + 1) * i

/-- `_is_first_in_interval_step` decides exactly “no other reported step lies in the same interval
`[w + k·i, w + (k+1)·i)` before the last step” (for `w ≤ last step`, `interval ≥ 1`). -/
theorem isFirstInIntervalStep_spec (t : PTrial) (w i : Nat) (stp : Int) (hi : 1 ≤ i)
    (hs : lastStep t.inter = some stp) (hw : (w : Int) ≤ stp) :
    isFirstInIntervalStep stp (interSteps t) w i = true ↔
      ¬ ∃ s' ∈ interSteps t, SameIntervalEarlier w i stp s' := by
  obtain ⟨k, hN, h1, h2, huniq⟩ := nearestLower_spec hi hw
  have hmax := (lastStep_spec hs).2
  have h0 : (0 : Int) ≤ k * i := Int.mul_nonneg (by omega) (by omega)
  rw [isFirstInIntervalStep_iff, hN]
  constructor
  · rintro ⟨_, h⟩ ⟨s', hs', k', h3, h4, h5⟩
    cases huniq k' (by omega) h5
    have := h s' hs' (by omega)
    omega
  · -- an earlier step at or above the check point would be a witness, with this `k`
    intro h
    refine ⟨by omega, fun s' hs' hne => Classical.byContradiction fun hge => h ⟨s', hs', k, by omega, ?_, h2⟩⟩
    have := hmax s' hs'
    omega

/-- A pruner with `interval_steps` does not prune at a step when an earlier report already fell
into the same interval (percentile, median, threshold, patient around them). -/
theorem no_prune_off_interval (crc : Nat → Nat) (s : Study) (n : Nat) (t : PTrial) (p : Pruner)
    (w i : Nat) (stp : Int) (hp : interval? p = some (w, i)) (hi : 1 ≤ i)
    (hs : lastStep t.inter = some stp)
    (hoff : ∃ s' ∈ interSteps t, SameIntervalEarlier w i stp s') :
    (prune crc s n t p).prune = false := by
  rw [← Bool.not_eq_true]
  intro h
  obtain ⟨hw, hf⟩ := (prune_guards crc s n t p h).2.2 w i hp stp hs
  exact absurd hoff ((isFirstInIntervalStep_spec t w i stp hi hs hw).1 hf)

/-- not vacuous: warm-up 0, interval 3; steps 0 and 1 are in one interval, 0 and 3 are not -/
example :
    percentilePrune ⟨50, 0, 0, 3, 1⟩ .minimize
      [⟨.complete, [(0, .fin 1), (1, .fin 1), (3, .fin 1)], []⟩] ⟨.running, [(0, .fin 0), (1, .fin 5)], []⟩ = false ∧
    percentilePrune ⟨50, 0, 0, 3, 1⟩ .minimize
      [⟨.complete, [(0, .fin 1), (1, .fin 1), (3, .fin 1)], []⟩] ⟨.running, [(0, .fin 6), (3, .fin 5)], []⟩ = true := by
  decide +kernel

/-- The latest value is *checked* exactly at a last step at or after the warm-up that is the first
reported step of its interval; then the value looked at is the one reported at that step. -/
theorem thresholdChecked_iff (c : ThresholdCfg) (t : PTrial) (v : XVal) (hi : 1 ≤ c.interval) :
    thresholdChecked c t = some v ↔
      ∃ stp, lastStep t.inter = some stp ∧ (c.nWarmup : Int) ≤ stp ∧
        (¬ ∃ s' ∈ interSteps t, SameIntervalEarlier c.nWarmup c.interval stp s') ∧
        interGet t.inter stp = some v := by
  constructor
  · intro h
    obtain ⟨stp, hs, hw, hf, hg⟩ := thresholdChecked_guards h
    exact ⟨stp, hs, hw, (isFirstInIntervalStep_spec t _ _ stp hi hs hw).1 hf, hg⟩
  · rintro ⟨stp, hs, hw, hn, hg⟩
    simp only [thresholdChecked, hs, Int.not_lt.mpr hw, (isFirstInIntervalStep_spec t _ _ stp hi hs hw).2 hn, hg,
      if_false, Bool.not_true, Bool.false_eq_true]

/-- `ThresholdPruner.prune` is true **iff** a value is checked at this point and it is NaN, below
`lower` or above `upper`. -/
theorem threshold_prunes_iff (crc : Nat → Nat) (s : Study) (n : Nat) (t : PTrial) (c : ThresholdCfg) :
    (prune crc s n t (.threshold c)).prune = true ↔
      ∃ v, thresholdChecked c t = some v ∧
        (xisNan v = true ∨ xlt v c.lower = true ∨ xlt c.upper v = true) := by
  simp only [prune, noWrite, thresholdPrune]
  cases thresholdChecked c t with
  | none => simp
  | some v => simp [Bool.or_eq_true, or_assoc]

example : thresholdPrune ⟨.fin 0, .fin 1, 0, 1⟩ ⟨.running, [(0, .fin (1/2))], []⟩ = false ∧
    thresholdPrune ⟨.fin 0, .fin 1, 0, 1⟩ ⟨.running, [(0, .fin 2)], []⟩ = true ∧
    thresholdPrune ⟨.fin 0, .fin 1, 0, 1⟩ ⟨.running, [(0, .fin (-1))], []⟩ = true ∧
    thresholdPrune ⟨.fin 0, .fin 1, 0, 1⟩ ⟨.running, [(0, .nan)], []⟩ = true ∧
    thresholdPrune ⟨.fin 0, .fin 1, 1, 1⟩ ⟨.running, [(0, .nan)], []⟩ = false := by
  decide +kernel


/-- the scores of the last `patience + 1` reported steps (in step order) -/
def recentScores (t : PTrial) (patience : Nat) : List XVal :=
  (scoresByStep t).drop (t.inter.length - (patience + 1))

/-- the scores of the steps before the last `patience + 1` -/
def earlierScores (t : PTrial) (patience : Nat) : List XVal :=
  (scoresByStep t).take (t.inter.length - (patience + 1))

/-- `u` is at least as good as `b` up to `min_delta` -/
def WithinDelta (d : Dir) (delta : Rat) (u b : XVal) : Prop :=
  match d with
  | .minimize => XVal.le u (xadd b (.fin delta)) = true
  | .maximize => XVal.le (xsub b (.fin delta)) u = true

theorem patientMaybe_short (patience : Nat) (delta : Rat) (d : Dir) (t : PTrial)
    (h : t.inter.length ≤ patience + 1) : patientMaybe patience delta d t = false := by
  simp [patientMaybe, h]

theorem patientMaybe_improving (patience : Nat) (delta : Rat) (d : Dir) (t : PTrial) (u : XVal)
    (hu : u ∈ recentScores t patience) (hn : xisNan u = false)
    (himp : ∀ b ∈ earlierScores t patience, xisNan b = false → WithinDelta d delta u b) :
    patientMaybe patience delta d t = false := by
  -- the best earlier score is NaN (no earlier score counts), or `u` is within `min_delta` of it while the best recent
  -- score is at least as good as `u`
  fun_cases patientMaybe patience delta d t with
  | case1 => rfl
  | case2 n _ scores before after =>
    rcases nanMin_spec before with ⟨h1, _⟩ | ⟨h1, h2, _⟩
    · rw [h1]; exact xlt_nan_left _
    · exact xle_not_xlt (xle_trans (nanMin_le hu hn) (himp _ h2 h1))
  | case3 n _ scores before after =>
    rcases nanMax_spec before with ⟨h1, _⟩ | ⟨h1, h2, _⟩
    · rw [h1]; exact xlt_nan_right _
    · exact xle_not_xlt (xle_trans (himp _ h2 h1) (le_nanMax hu hn))

/-- **Within the patience window nothing is pruned**: a patient pruner (around any pruner, or around
`None`) does not prune while at most `patience + 1` steps have been reported, nor while one of the
last `patience + 1` scores still improves on everything before it. -/
theorem no_prune_within_patience (crc : Nat → Nat) (s : Study) (n : Nat) (t : PTrial)
    (patience : Nat) (delta : Rat) (w : Option Pruner)
    (h : t.inter.length ≤ patience + 1 ∨
      ∃ u ∈ recentScores t patience, xisNan u = false ∧
        ∀ b ∈ earlierScores t patience, xisNan b = false → WithinDelta s.dir delta u b) :
    (match w with
     | some w => prune crc s n t (.patient w patience delta)
     | none => prune crc s n t (.patientNone patience delta)).prune = false := by
  have hm : patientMaybe patience delta s.dir t = false := by
    rcases h with h | ⟨u, hu, hn, himp⟩
    · exact patientMaybe_short _ _ _ _ h
    · exact patientMaybe_improving _ _ _ _ u hu hn himp
  cases w with
  | some w => simp [prune, hm, noWrite]
  | none => simp [prune, hm, noWrite]

/-- not vacuous (patience 1, min_delta 0, minimize): 3,2,3,3 → no improvement in the last two
steps → prune; 3,2,3,1 → improving → keep; two reports only → keep. -/
example :
    patientMaybe 1 0 .minimize ⟨.running, [(0, .fin 3), (1, .fin 2), (2, .fin 3), (3, .fin 3)], []⟩ = true ∧
    patientMaybe 1 0 .minimize ⟨.running, [(0, .fin 3), (1, .fin 2), (2, .fin 3), (3, .fin 1)], []⟩ = false ∧
    patientMaybe 1 0 .minimize ⟨.running, [(0, .fin 3), (1, .fin 4)], []⟩ = false := by
  decide +kernel


/-- `numpy.nanpercentile(values, q)` (linear method, modelled over ℚ ∪ {±inf, NaN}) is NaN or lies
between any lower bound `lo` and any upper bound `hi` of the non-NaN values, for every `0 ≤ q`. -/
theorem percentile_between_min_max (vals : List XVal) (q : Rat) (lo hi : XVal) (hq : 0 ≤ q)
    (hlo : ∀ u ∈ vals, xisNan u = false → XVal.le lo u = true)
    (hhi : ∀ u ∈ vals, xisNan u = false → XVal.le u hi = true) :
    xisNan (npPercentile vals q) = true ∨
      (XVal.le lo (npPercentile vals q) = true ∧ XVal.le (npPercentile vals q) hi = true) := by
  rcases npPercentile_lower hq hlo with h | h
  · exact Or.inl h
  · rcases npPercentile_upper hq hhi with h' | h'
    · exact Or.inl h'
    · exact Or.inr ⟨h, h'⟩

example : npPercentile [.fin 1, .fin 2, .fin 4, .nan] 50 = .fin 2 ∧
    npPercentile [.fin 1, .fin 2, .fin 4, .fin 5] 25 = .fin (7/4) ∧
    npPercentile [.fin 1, .fin 2, .pinf] 50 = .nan ∧
    npPercentile [.ninf, .fin 1, .fin 2] 25 = .ninf := by
  decide +kernel

/-- Core statement for the percentile (hence median) pruner: if the trial has a non-NaN report and
its best report is at least as good as every non-NaN value the COMPLETE trials reported at the
trial's last step, it is not pruned — for every percentile in [0, 100] and all other parameters. -/
theorem percentile_no_prune_of_best (c : PercentileCfg) (d : Dir) (trials : List PTrial) (t : PTrial)
    (hq0 : 0 ≤ c.q)
    (hown : ∃ v ∈ interValues t, xisNan v = false)
    (hbest : ∀ stp, lastStep t.inter = some stp →
      ∀ u ∈ valuesAtStep (completedTrials trials) stp, xisNan u = false →
        AsGood d (bestOverSteps t d) u) :
    percentilePrune c d trials t = false := by
  obtain ⟨v, hv, hvn⟩ := hown
  rw [← Bool.not_eq_true]
  intro hp
  obtain ⟨_, _, stp, hs, _, _, hb | ⟨rfl, hlt⟩ | ⟨rfl, hlt⟩⟩ := percentilePrune_guards hp
  · rw [(bestOverSteps_spec d hv hvn).1] at hb; cases hb
  · -- the percentile of the negated values is at least `-best`; negate back
    simp only [percentileOverTrials] at hlt
    split at hlt
    · rw [xlt_nan_right] at hlt; cases hlt
    rcases npPercentile_lower (m := xneg (bestOverSteps t .maximize))
        (vals := (valuesAtStep (completedTrials trials) stp).map xneg) hq0
        (fun u hu hn => by
          obtain ⟨w, hw, rfl⟩ := List.mem_map.mp hu
          rw [xle_xneg]
          exact hbest stp hs w hw (by rw [← xisNan_xneg]; exact hn)) with h | h
    · rw [xisNan_eq_true.mp h, xneg, xlt_nan_right] at hlt; cases hlt
    · rw [← xneg_xneg (npPercentile _ _), xle_xneg] at h
      rw [xle_not_xlt h] at hlt; cases hlt
  · simp only [percentileOverTrials] at hlt
    split at hlt
    · cases hlt
    rcases npPercentile_lower (m := bestOverSteps t .minimize) hq0 (fun u hu hn => hbest stp hs u hu hn) with h | h
    · rw [xisNan_eq_true.mp h, xlt_nan_left] at hlt; cases hlt
    · rw [xle_not_xlt h] at hlt; cases hlt

/-- The successive-halving loop always terminates within the fuel `shPrune` passes (valid
configuration: `reduction_factor ≥ 2`, `min_resource ≥ 1`): the model's out-of-fuel answer is never
used. -/
theorem sh_loop_terminates (c : SHCfg) (m : Nat) (d : Dir) (trials : List PTrial) (stp : Int)
    (value : XVal) (rung : Nat) (hm : 1 ≤ m) (he : 2 ≤ c.eta) :
    (shLoop c m d trials stp value (stp.toNat + 1) rung).isSome = true :=
  shLoop_isSome c m d trials stp value hm he _ _ (by omega) (by omega)

section
-- the competing values include the trial's own, so the index is in range for every `η` and `he` below is not used
set_option linter.unusedVariables false
/-- The index `_is_trial_promotable_to_next_rung` reads is always in range (no `IndexError`). -/
theorem promotable_index_in_range (value : XVal) (trials : List PTrial) (rung eta : Nat) (d : Dir)
    (he : 1 ≤ eta) :
    (isPromotable? value (competingValues trials rung value) eta d).isSome = true :=
  isPromotable?_isSome _ _ _ _ (competingValues_length_pos _ _ _)
end

/-- With a fixed `min_resource` a trial is not pruned before the promotion step of its current rung.  (The completion
point `min_resource · η^min_early_stopping_rate` of the first rung is the next theorem, which needs `η ≥ 1`.) -/
theorem sh_no_prune_before_rung (c : SHCfg) (d : Dir) (trials : List PTrial) (t : PTrial) (m : Nat)
    (stp : Int) (hm : c.minResource = some m) (hs : lastStep t.inter = some stp)
    (hlt : stp < (promotionStep m c.eta c.rate (currentRung t.rungs) : Int)) :
    (shPrune c d trials t).prune = false := by
  unfold shPrune
  simp only [hs, resolveMinResource, hm]
  split
  · rfl
  · simp only [shLoop, hlt, if_true]

theorem promotionStep_mono (m eta rate : Nat) {r r' : Nat} (he : 1 ≤ eta) (h : r ≤ r') :
    promotionStep m eta rate r ≤ promotionStep m eta rate r' := by
  unfold promotionStep
  exact Nat.mul_le_mul_left _ (Nat.pow_le_pow_right he (by omega))

/-- With a fixed `min_resource` and `η ≥ 1` a trial is never pruned before it has executed `min_resource · η^min_early_stopping_rate`
steps (the completion point of the first rung), whatever rungs it has completed. -/
theorem sh_no_prune_before_first_rung (c : SHCfg) (d : Dir) (trials : List PTrial) (t : PTrial) (m : Nat)
    (stp : Int) (hm : c.minResource = some m) (he : 1 ≤ c.eta) (hs : lastStep t.inter = some stp)
    (hlt : stp < ((m * c.eta ^ c.rate : Nat) : Int)) :
    (shPrune c d trials t).prune = false := by
  apply sh_no_prune_before_rung c d trials t m stp hm hs
  have := promotionStep_mono m c.eta c.rate he (Nat.zero_le (currentRung t.rungs))
  simp only [promotionStep, Nat.add_zero] at this
  simp only [promotionStep]
  omega

/-- Core statement for successive halving with `bootstrap_count = 0`: a trial whose latest value is
not NaN and at least as good as every `completed_rung_r` value (from its current rung on) stored in
the study is not pruned. -/
theorem sh_no_prune_of_best (c : SHCfg) (d : Dir) (trials : List PTrial) (t : PTrial)
    (hboot : c.bootstrap = 0)
    (hbest : ∀ stp value, lastStep t.inter = some stp → interGet t.inter stp = some value →
      xisNan value = false ∧
      ∀ r, currentRung t.rungs ≤ r → ∀ t' ∈ trials, ∀ u, rungGet t'.rungs r = some u → AsGood d value u) :
    (shPrune c d trials t).prune = false := by
  rcases shPrune_cases c d trials t with h | ⟨stp, value, m, b, hi, hs, hv, _, hl, h⟩
  · rw [h]; rfl
  · obtain ⟨hvn, hb⟩ := hbest stp value hs hv
    rw [h]
    exact shLoop_best c m d trials stp value hboot hvn _ _ hb b hi hl

example :
    (shPrune ⟨some 1, 2, 0, 0⟩ .minimize [⟨.complete, [(1, .fin 1)], [(0, .fin 1)]⟩, ⟨.complete, [(1, .fin 2)], [(0, .fin 2)]⟩]
      ⟨.running, [(1, .fin 3)], []⟩).prune = true ∧
    (shPrune ⟨some 1, 2, 0, 0⟩ .minimize [⟨.complete, [(1, .fin 1)], [(0, .fin 1)]⟩, ⟨.complete, [(1, .fin 2)], [(0, .fin 2)]⟩]
      ⟨.running, [(1, .fin 0)], []⟩).prune = false ∧
    (shPrune ⟨some 1, 2, 0, 0⟩ .minimize [⟨.complete, [(1, .fin 1)], [(0, .fin 1)]⟩, ⟨.complete, [(1, .fin 2)], [(0, .fin 2)]⟩]
      ⟨.running, [(0, .fin 3)], []⟩).prune = false := by
  decide +kernel

/-- The budget walk always ends inside the brackets: `assert False, "This line should be
unreachable."` is unreachable, and the bracket index is `< n_brackets`. -/
theorem bracket_in_range (nb eta h : Nat) (hnb : 1 ≤ nb) (he : 1 ≤ eta) :
    ∃ b, bracketId nb eta h = some b ∧ b < nb :=
  bracketId_lt h hnb he

/-- Every bracket has a positive trial allocation budget (so the modulus is positive). -/
theorem budgets_positive (nb eta b : Nat) (hnb : 1 ≤ nb) (he : 1 ≤ eta) : 1 ≤ budget nb eta b :=
  budget_pos b hnb he

/-- **The bracket is a function of the study name and the trial number only**: for an initialised
Hyperband pruner there is one bracket `b < n_brackets`, determined by the configuration and by
`crc32("{study_name}_{number}")` alone, such that for *every* study state and *every* content of
the trial the decision is the one of the successive-halving pruner with
`min_early_stopping_rate = b` on the trials of bracket `b`. -/
theorem bracket_function_of_name_and_number (c : HBCfg) (crc : Nat → Nat) (n nb : Nat)
    (hnb : c.nBrackets = some nb) (h1 : 1 ≤ nb) (he : 1 ≤ c.eta) :
    ∃ b, b < nb ∧ bracketId nb c.eta (crc n) = some b ∧
      ∀ (d : Dir) (trials : List PTrial) (t : PTrial),
        hbPrune c crc d trials n t =
          shPrune { minResource := some c.minResource, eta := c.eta, rate := b, bootstrap := c.bootstrap }
            d (bracketTrials nb c.eta crc b trials) t := by
  obtain ⟨b, hb, hlt⟩ := bracketId_lt (nb := nb) (eta := c.eta) (crc n) h1 he
  refine ⟨b, hlt, hb, ?_⟩
  intro d trials t
  have : nb ≠ 0 := by omega
  simp [hbPrune, hnb, this, hb]

/-- Until `max_resource` is determined (no bracket structure yet) Hyperband prunes nothing. -/
theorem hyperband_uninitialised_never (c : HBCfg) (crc : Nat → Nat) (d : Dir) (trials : List PTrial)
    (n : Nat) (t : PTrial) (h : c.nBrackets = none) : (hbPrune c crc d trials n t).prune = false := by
  simp [hbPrune, h, noWrite]

example : budgets 4 3 = [27, 12, 6, 4] ∧ bracketId 4 3 0 = some 0 ∧ bracketId 4 3 27 = some 1 ∧
    bracketId 4 3 48 = some 3 ∧ bracketId 4 3 49 = some 0 := by
  decide +kernel


/-- Rungs are written in the order `0, 1, 2, …` (so the current rung is their number), and every
`completed_rung_r` value is a non-NaN value the trial itself reported. -/
def WFTrial (t : PTrial) : Prop :=
  t.rungs.map (·.1) = List.range t.rungs.length ∧
  ∀ p ∈ t.rungs, xisNan p.2 = false ∧ p.2 ∈ interValues t

def WFStudy (s : Study) : Prop := ∀ t ∈ s.trials, WFTrial t

/-- what a `prune` call may write -/
def GoodWrites (t : PTrial) (r : SHResult) : Prop :=
  r.first < r.hi → r.first = currentRung t.rungs ∧ xisNan r.value = false ∧ r.value ∈ interValues t

theorem noWrite_good (t : PTrial) (b : Bool) : GoodWrites t (noWrite b) := by
  intro h; simp [noWrite] at h

theorem shPrune_writes (c : SHCfg) (d : Dir) (trials : List PTrial) (t : PTrial) :
    GoodWrites t (shPrune c d trials t) := by
  rcases shPrune_cases c d trials t with h | ⟨stp, value, m, b, hi, _, hv, _, hl, h⟩
  · rw [h]; exact noWrite_good _ _
  · rw [h]
    exact fun hlt => ⟨rfl, (shLoop_hi c m d trials stp value _ _ b hi hl).2 hlt, interGet_mem_values hv⟩

theorem prune_writes (crc : Nat → Nat) (s : Study) (n : Nat) (t : PTrial) (p : Pruner) :
    GoodWrites t (prune crc s n t p) := by
  induction p with
  | sh c => exact shPrune_writes _ _ _ _
  | hyperband c =>
    show GoodWrites t (hbPrune c crc s.dir s.trials n t)
    rcases hbPrune_cases c crc s.dir s.trials n t with h | ⟨_, _, _, _, _, h⟩
    · rw [h]; exact noWrite_good _ _
    · rw [h]; exact shPrune_writes _ _ _ _
  | patient w k dl ih =>
    simp only [prune]
    split
    · exact ih
    · exact noWrite_good _ _
  | _ => exact noWrite_good _ _

/-- Whatever a `prune` call writes (any pruner; only successive halving and Hyperband, also inside a patient pruner,
write at all) is not NaN and is one of the values the trial reported. -/
theorem sh_never_stores_nan (crc : Nat → Nat) (s : Study) (n : Nat) (t : PTrial) (p : Pruner)
    (h : (prune crc s n t p).first < (prune crc s n t p).hi) :
    xisNan (prune crc s n t p).value = false ∧ (prune crc s n t p).value ∈ interValues t :=
  (prune_writes crc s n t p h).2

theorem applyWrites_wf (t : PTrial) (r : SHResult) (hwf : WFTrial t) (hr : GoodWrites t r) :
    WFTrial (applyWrites t r) := by
  by_cases hlt : r.first < r.hi
  · obtain ⟨h1, h2, h3⟩ := hr hlt
    have hcr := currentRung_of_range hwf.1
    rw [hcr] at h1
    constructor
    · simp only [applyWrites, List.map_append, List.map_map, List.length_append, List.length_map,
        List.length_range']
      have : ((fun x : Nat × XVal => x.1) ∘ fun k => (k, r.value)) = id := by funext k; rfl
      rw [this, List.map_id, hwf.1, List.range_eq_range', List.range_eq_range', h1]
      have := @List.range'_append_1 0 t.rungs.length (r.hi - t.rungs.length)
      simpa using this
    · intro p hp
      simp only [applyWrites, List.mem_append, List.mem_map] at hp
      rcases hp with hp | ⟨k, _, rfl⟩
      · exact hwf.2 p hp
      · exact ⟨h2, h3⟩
  · have : r.hi - r.first = 0 := by omega
    have e : applyWrites t r = t := by
      simp [applyWrites, this]
    rw [e]; exact hwf

theorem updAt_wf {s : Study} (h : WFStudy s) (n : Nat) (f : PTrial → PTrial)
    (hf : ∀ y, s.trials[n]? = some y → WFTrial y → WFTrial (f y)) :
    WFStudy { s with trials := updAt s.trials n f } := by
  intro t ht
  rcases mem_updAt ht with ht | ⟨y, hy, rfl⟩
  · exact h t ht
  · exact hf y hy (h y (List.mem_of_getElem? hy))

theorem act_wf (crc : Nat → Nat) (s : Study) (t : PTrial) (op : Op) {r : PTrial × Option Bool}
    (h : act crc s t op = some r) (hwf : WFTrial t) : WFTrial r.1 := by
  revert h
  -- a refused call has no result; left are an accepted report, `should_prune` and `tell`, in this order
  fun_cases act crc s t op <;> intro h <;> cases h
  · refine ⟨hwf.1, fun p hp => ⟨(hwf.2 p hp).1, ?_⟩⟩
    simp only [interValues, List.map_append, List.mem_append]
    exact Or.inl (hwf.2 p hp).2
  · exact applyWrites_wf t _ hwf (prune_writes crc s _ t _)
  · exact hwf

theorem step_wf (crc : Nat → Nat) (s : Study) (op : Op) (h : WFStudy s) : WFStudy (step crc s op).1 := by
  rw [step_eq]
  split
  · intro t ht
    rcases List.mem_append.1 ht with ht | ht
    · exact h t ht
    · cases List.mem_singleton.1 ht; exact ⟨rfl, by simp⟩
  · split
    · exact h
    · rename_i n _ _ t' o hb
      obtain ⟨t, ht, ha⟩ := Option.bind_eq_some_iff.1 hb
      exact updAt_wf h n _ fun y hy hy' => by cases ht.symm.trans hy; exact act_wf crc s t op ha hy'

theorem after_wf (crc : Nat → Nat) (s : Study) (ops : List Op) (h : WFStudy s) :
    WFStudy (after crc s ops) := by
  induction ops generalizing s with
  | nil => exact h
  | cons op ops ih => exact ih _ (step_wf crc s op h)

/-- Every state reached from the empty study by any finite history of ask / report / should_prune
(with any pruner at each call) / tell is well formed. -/
theorem reachable_wf (crc : Nat → Nat) (d : Dir) (ops : List Op) :
    WFStudy (after crc (Study.init d) ops) :=
  after_wf crc _ ops (by intro t ht; simp [Study.init] at ht)

def Better (d : Dir) (v u : XVal) : Prop :=
  match d with
  | .minimize => xlt v u = true
  | .maximize => xlt u v = true

theorem Better.asGood {d : Dir} {v u : XVal} (h : Better d v u) : AsGood d v u := by
  cases d <;> exact xlt_xle h

/-- Trial `n` (with content `t`) is **strictly best**: none of its reported values is NaN, and each
of them is strictly better than every (non-NaN) value reported so far by any other trial. -/
def StrictlyBest (s : Study) (n : Nat) (t : PTrial) : Prop :=
  s.trials[n]? = some t ∧ (∀ v ∈ interValues t, xisNan v = false) ∧
  ∀ (m : Nat) (t' : PTrial), m ≠ n → s.trials[m]? = some t' →
    ∀ u ∈ interValues t', xisNan u = false → ∀ v ∈ interValues t, Better s.dir v u

/-- The pruners the property protects the strictly best trial from: percentile / median (any
percentile in [0,100], any start-up / warm-up / interval / n_min_trials), successive halving and
Hyperband with `bootstrap_count = 0` (valid configurations), the no-op pruner, and a patient pruner
around any of these. -/
inductive Protective : Pruner → Prop
  | nop : Protective .nop
  | percentile (c : PercentileCfg) : 0 ≤ c.q → c.q ≤ 100 → Protective (.percentile c)
  | sh (c : SHCfg) : c.Valid → c.bootstrap = 0 → Protective (.sh c)
  | hyperband (c : HBCfg) : c.Valid → c.bootstrap = 0 → Protective (.hyperband c)
  | patient (w : Pruner) (k : Nat) (dl : Rat) : Protective w → Protective (.patient w k dl)

theorem median_protective (a b c d : Nat) : Protective (Pruner.median a b c d) :=
  Protective.percentile _ (show (0 : Rat) ≤ 50 by decide +kernel) (show (50 : Rat) ≤ 100 by decide +kernel)

/-- successive halving on any sub-list of the study's trials whose numbers satisfy `P` (the whole study, or one Hyperband
bracket): only the other trials with `P` need be worse -/
theorem sh_strictly_best_among (P : Nat → Prop) (c : SHCfg) (s : Study) (n : Nat) (t : PTrial) (sub : List PTrial)
    (hsub : ∀ t' ∈ sub, ∃ m : Nat, s.trials[m]? = some t' ∧ P m)
    (hwf : WFStudy s)
    (hn : s.trials[n]? = some t) (hown : ∀ v ∈ interValues t, xisNan v = false)
    (hothers : ∀ (m : Nat) (t' : PTrial), m ≠ n → s.trials[m]? = some t' → P m →
      ∀ u ∈ interValues t', xisNan u = false → ∀ v ∈ interValues t, Better s.dir v u)
    (hboot : c.bootstrap = 0) :
    (shPrune c s.dir sub t).prune = false := by
  apply sh_no_prune_of_best c s.dir sub t hboot
  intro stp value hs hv
  have hvm := interGet_mem_values hv
  refine ⟨hown value hvm, ?_⟩
  intro r hr t' ht' u hu
  obtain ⟨m, hm, hP⟩ := hsub t' ht'
  by_cases hmn : m = n
  · subst hmn
    have : t' = t := by rw [hn] at hm; exact (Option.some.inj hm).symm
    subst this
    have hwt := hwf t' (List.mem_of_getElem? hn)
    rw [currentRung_of_range hwt.1] at hr
    rw [rungGet_none_of_range hwt.1 hr] at hu
    cases hu
  · have hwt := hwf t' (List.mem_of_getElem? hm)
    have := hwt.2 (r, u) (rungGet_mem hu)
    exact (hothers m t' hmn hm hP u this.2 this.1 value hvm).asGood

theorem sh_strictly_best (c : SHCfg) (s : Study) (n : Nat) (t : PTrial) (sub : List PTrial)
    (hsub : ∀ t' ∈ sub, ∃ m : Nat, s.trials[m]? = some t')
    (hwf : WFStudy s) (hb : StrictlyBest s n t) (hboot : c.bootstrap = 0) :
    (shPrune c s.dir sub t).prune = false :=
  sh_strictly_best_among (fun _ => True) c s n t sub (fun t' ht' => (hsub t' ht').imp fun _ h => ⟨h, trivial⟩) hwf
    hb.1 hb.2.1 (fun m t' hmn hm _ => hb.2.2 m t' hmn hm) hboot

theorem strictly_best_not_pruned_of_wf (crc : Nat → Nat) (s : Study) (n : Nat) (t : PTrial) (p : Pruner)
    (hwf : WFStudy s) (hb : StrictlyBest s n t) (hp : Protective p) :
    (prune crc s n t p).prune = false := by
  induction hp with
  | nop => rfl
  | percentile c hq0 hq1 =>
    by_cases hemp : t.inter = []
    · exact no_prune_without_report crc s n t _ hemp
    · obtain ⟨hn, hown, hothers⟩ := hb
      have hown' : ∃ v ∈ interValues t, xisNan v = false := by
        cases hi : t.inter with
        | nil => exact absurd hi hemp
        | cons p rest =>
          have : p.2 ∈ interValues t := by simp [interValues, hi]
          exact ⟨p.2, this, hown _ this⟩
      simp only [prune, noWrite]
      apply percentile_no_prune_of_best c s.dir s.trials t hq0 hown'
      intro stp hs u hu hun
      obtain ⟨v0, hv0, hv0n⟩ := hown'
      obtain ⟨t', ht', hget⟩ := mem_valuesAtStep hu
      have ht'' := (mem_completedTrials ht').1
      obtain ⟨m, hm⟩ := List.mem_iff_getElem?.1 ht''
      have hum := interGet_mem_values hget
      -- the value compared with may be the trial's own (it can be COMPLETE already): its best report is as good as any of its reports;
      -- another trial's value is strictly worse than every report of `t`, its best one among them
      by_cases hmn : m = n
      · subst hmn
        have : t' = t := by rw [hn] at hm; exact (Option.some.inj hm).symm
        subst this
        exact (bestOverSteps_spec s.dir hv0 hv0n).2.2 u hum hun
      · exact (hothers m t' hmn hm u hum hun _ (bestOverSteps_spec s.dir hv0 hv0n).2.1).asGood
  | sh c hv hboot =>
    simp only [prune]
    exact sh_strictly_best c s n t s.trials (fun t' ht' => List.mem_iff_getElem?.1 ht') hwf hb hboot
  | hyperband c hv hboot =>
    exact hbPrune_not_pruned fun _ _ _ _ =>
      sh_strictly_best _ s n t _ (fun t' ht' => (mem_bracketTrials ht').imp fun _ h => h.1) hwf hb hboot
  | patient w k dl _ ih => exact patient_not_pruned_of_wrapped crc s n t w k dl ih

/-- After *any* finite history of `ask` / `report` /
`should_prune` (each with any pruner) / `tell` calls on a fresh study — any direction, any values
including NaN and ±inf, any steps — a trial none of whose reported values is NaN and each of whose
reported values is strictly better than every non-NaN value reported so far by any other trial
(`StrictlyBest`) is not pruned by the median, percentile,
successive-halving (no bootstrap), Hyperband (no bootstrap) or no-op pruner, nor by a patient pruner
around one of them, whatever their other parameters (`Protective`: a percentile in [0, 100], valid successive-halving /
Hyperband configurations). -/
theorem strictly_best_never_pruned (crc : Nat → Nat) (d : Dir) (ops : List Op) (n : Nat) (t : PTrial)
    (p : Pruner) (hp : Protective p)
    (hb : StrictlyBest (after crc (Study.init d) ops) n t) :
    (prune crc (after crc (Study.init d) ops) n t p).prune = false :=
  strictly_best_not_pruned_of_wf crc _ n t p (reachable_wf crc d ops) hb hp

theorem should_prune_ne_true {crc : Nat → Nat} {s : Study} {n : Nat} {t : PTrial} {p : Pruner}
    (hn : s.trials[n]? = some t) (h : (prune crc s n t p).prune = false) :
    (step crc s (.shouldPrune n p)).2 ≠ some true := by
  simp only [step, hn]
  split
  · simp
  · simp [h]

/-- The same, as seen through `should_prune()`: the call never answers `True`. -/
theorem strictly_best_should_prune_false (crc : Nat → Nat) (d : Dir) (ops : List Op) (n : Nat) (t : PTrial)
    (p : Pruner) (hp : Protective p)
    (hb : StrictlyBest (after crc (Study.init d) ops) n t) :
    (step crc (after crc (Study.init d) ops) (.shouldPrune n p)).2 ≠ some true :=
  should_prune_ne_true hb.1 (strictly_best_never_pruned crc d ops n t p hp hb)

/-- not vacuous: a history in which trial 2 is strictly best (so `should_prune` says False under the
median pruner and under successive halving) while trial 1, which is not, *is* pruned by both. -/
def demo : List Op :=
  [.ask, .report 0 0 (.fin 2), .report 0 1 (.fin 2), .shouldPrune 0 (.sh ⟨some 1, 2, 0, 0⟩), .tell 0 .complete,
   .ask, .report 1 0 (.fin 3), .report 1 1 (.fin 3),
   .ask, .report 2 0 (.fin 1), .report 2 1 (.fin 1)]

example :
    (step (fun _ => 0) (after (fun _ => 0) (Study.init .minimize) demo) (.shouldPrune 1 (Pruner.median 0 0 1 1))).2 = some true ∧
    (step (fun _ => 0) (after (fun _ => 0) (Study.init .minimize) demo) (.shouldPrune 2 (Pruner.median 0 0 1 1))).2 = some false ∧
    (step (fun _ => 0) (after (fun _ => 0) (Study.init .minimize) demo) (.shouldPrune 1 (.sh ⟨some 1, 2, 0, 0⟩))).2 = some true ∧
    (step (fun _ => 0) (after (fun _ => 0) (Study.init .minimize) demo) (.shouldPrune 2 (.sh ⟨some 1, 2, 0, 0⟩))).2 = some false := by
  decide +kernel

/-- Without the bootstrap restriction the statement is false (`bootstrap_count = 1`: the first trial
to reach a rung is pruned there, however good it is) — the hypothesis `bootstrap = 0` is needed. -/
example :
    (shPrune ⟨some 1, 2, 0, 1⟩ .minimize [⟨.running, [(1, .fin 0)], []⟩] ⟨.running, [(1, .fin 0)], []⟩).prune = true := by
  decide +kernel


end OptunaVerif.C16
