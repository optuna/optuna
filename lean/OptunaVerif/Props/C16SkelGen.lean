import OptunaVerif.Props.C16
import OptunaVerif.Generated.PrunersSkel
import OptunaVerif.Lemmas.Skel
import Mathlib.Algebra.Order.Field.Rat
/-!
# C16 — the control skeletons of the pruners regenerated from the Python source are the hand model

`Generated/PrunersSkel.lean` is rewritten from `/repo/optuna/pruners/*.py` on every run
(`verif/translators/pruners_skel.py`): for every `prune` method but Wilcoxon's (which has its own skeleton,
Props/C16WilcoxonGen.lean) and for their helpers, the control flow as a term of the IR of `Model/Skel.lean` —
every `if`, every `return` numbered in source order, `raise` / `assert False`, assignments to re-assigned names,
expression statements, `while True`, `while c`, `for … in range(…)` — over numbered ATOMS (sub-expressions the
translator does not look into, kept as the text `ast.unparse` prints for them: its quotes, spacing and line joins, not the
source's), plus the DATA statements in the same form.

For each function an environment gives every atom its meaning in terms of `Model/Pruners.lean`, and a theorem proves
`interp environment generated_skeleton = the model's function`:

  gen_percentile_prune, gen_best_over_steps, gen_percentile_over_trials, gen_threshold_prune, gen_patient_prune,
  gen_nop_prune, gen_sh_prune (decision and the `completed_rung_<r>` writes, by induction over the `while True`),
  gen_current_rung, gen_estimate_min_resource, gen_is_promotable, gen_bracket_id (the `for` walk), gen_hb_prune,
  gen_completed_rung_key, gen_competing_values, gen_bracket_get_trials, gen_median_init;
  gen_<fn>_tables pin the text of atoms / locals / data statements (an operand swap inside a call, a changed slice, a
  changed helper call changes a table).

These hold for all inputs, except: `gen_current_rung` assumes that the loop stops where the model says (`current_rung_wf`:
every reachable trial), `gen_sh_prune` a valid configuration, `gen_bracket_id` at least one pruner.  `gen_nop_prune`,
`gen_completed_rung_key`, `gen_competing_values`, `gen_bracket_get_trials` and `gen_median_init` take an arbitrary
environment and pin only the shape of a skeleton without control flow.

`skelPrune` runs every pruner through the interpreter (Hyperband delegating to the interpreted successive-halving
skeleton on the bracket the MODEL's `bracketId` / `bracketTrials` give, Patient to the interpreted wrapped pruner);
`skel_prune_eq` proves it equal to the model's `prune` for valid successive-halving configurations (`PrunerValid`), and the
headline theorems of Props/C16.lean are restated for it (`skel_no_prune_before_warmup`, `skel_no_prune_before_startup`,
`skel_no_prune_off_interval`, `skel_no_prune_within_patience`, `skel_threshold_prunes_iff`,
`skel_strictly_best_never_pruned`, `skel_nop_never`).

A change of the order of the early returns, of a guard, of a returned constant, of a comparison operator or its operands,
of the NaN handling, of the rung loop or its writes, of the patience comparison or the delegation breaks the `gen_*`
theorem of that function (or the translation).
-/
namespace OptunaVerif.C16SkelGen
open OptunaVerif.Pruners OptunaVerif.Skel
open OptunaVerif.Generated

/-- `trial.last_step` as a Python value -/
def stepVal (t : PTrial) : Val :=
  match lastStep t.inter with
  | none => .none
  | some s => .i s

def stepD (t : PTrial) : Int := (lastStep t.inter).getD 0

def dirVal : Dir → Val
  | .maximize => .dir true
  | .minimize => .dir false

def envPercentile (c : PercentileCfg) (d : Dir) (trials : List PTrial) (t : PTrial) : Env := fun k _ =>
  match k with
  | 0 => .i (completedTrials trials).length
  | 1 => .i c.nStartup
  | 2 => stepVal t
  | 3 => .i c.nWarmup
  | 4 => .b (isFirstInIntervalStep (stepD t) (interSteps t) c.nWarmup c.interval)
  | 5 => .x (bestOverSteps t d)
  | 6 => .x (percentileOverTrials (completedTrials trials) d (stepD t) c.q c.nMin)
  | 7 => dirVal d
  | _ => .err

theorem gen_percentile_prune (c : PercentileCfg) (d : Dir) (trials : List PTrial) (t : PTrial) :
    (interp (envPercentile c d trials t) 0 PrunersSkel.percentilePrune).val =
      some (.b (percentilePrune c d trials t)) := by
  cases d <;> cases hs : lastStep t.inter <;>
    simp only [skel_ir, PrunersSkel.percentilePrune, envPercentile, percentilePrune, stepVal, stepD, dirVal, hs,
      Option.getD_some]

def envBest (d : Dir) (t : PTrial) : Env := fun k _ =>
  match k with
  | 0 => dirVal d
  | 1 => .x (nanMax (interValues t))
  | 2 => .x (nanMin (interValues t))
  | _ => .err

theorem gen_best_over_steps (d : Dir) (t : PTrial) :
    (interp (envBest d t) 0 PrunersSkel.bestOverSteps).val = some (.x (bestOverSteps t d)) := by
  cases d <;> simp only [skel_ir, PrunersSkel.bestOverSteps, envBest, bestOverSteps, dirVal]

def envPercOver (completed : List PTrial) (d : Dir) (step : Int) (q : Rat) (nMin : Nat) : Env := fun k _ =>
  match k with
  | 0 => .i completed.length
  | 1 => .i (valuesAtStep completed step).length
  | 2 => .i nMin
  | 3 => dirVal d
  | 4 => .x (xneg (npPercentile ((valuesAtStep completed step).map xneg) q))
  | 5 => .x (npPercentile (valuesAtStep completed step) q)
  | _ => .err

/-- the `ValueError` for an empty list is the first statement; otherwise the value is the model's: `nan` below
`n_min_trials`, `-nanpercentile(-values, percentile)` under MAXIMIZE (atom 4), `nanpercentile(values, percentile)` otherwise -/
theorem gen_percentile_over_trials (completed : List PTrial) (d : Dir) (step : Int) (q : Rat) (nMin : Nat) :
    (completed = [] → ∃ st, interp (envPercOver completed d step q nMin) 0 PrunersSkel.percentileOverTrials = .raise 0 st) ∧
    (completed ≠ [] → (interp (envPercOver completed d step q nMin) 0 PrunersSkel.percentileOverTrials).val =
      some (.x (percentileOverTrials completed d step q nMin))) := by
  constructor
  · rintro rfl
    exact ⟨_, rfl⟩
  · intro h
    have h0 : completed.length ≠ 0 := fun h' => h (List.eq_nil_of_length_eq_zero h')
    cases d <;>
      simp only [skel_ir, PrunersSkel.percentileOverTrials, envPercOver, percentileOverTrials, dirVal, h0]

def envThreshold (c : ThresholdCfg) (t : PTrial) : Env := fun k _ =>
  match k with
  | 0 => stepVal t
  | 1 => .i c.nWarmup
  | 2 => .b (isFirstInIntervalStep (stepD t) (interSteps t) c.nWarmup c.interval)
  | 3 => .x ((interGet t.inter (stepD t)).getD .nan)
  | 4 => .x c.lower
  | 5 => .x c.upper
  | _ => .err

theorem gen_threshold_prune (c : ThresholdCfg) (t : PTrial) :
    (interp (envThreshold c t) 0 PrunersSkel.thresholdPrune).val = some (.b (thresholdPrune c t)) := by
  unfold thresholdPrune
  -- the three paths on which the model does not look at the value, and the one on which it does
  fun_cases thresholdChecked c t
  case case4 stp hs h2 h3 =>
    obtain ⟨v, hv⟩ := interGet_isSome_of_mem (lastStep_spec hs).1
    simp only [skel_ir, PrunersSkel.thresholdPrune, envThreshold, stepVal, stepD, hs, hv, Option.getD_some, h2, h3]
    cases xisNan v <;> cases xlt v c.lower <;> cases xlt c.upper v <;> rfl
  all_goals simp only [skel_ir, PrunersSkel.thresholdPrune, envThreshold, stepVal, stepD, Option.getD_some, *]

def envPatient (patience : Nat) (delta : Rat) (d : Dir) (t : PTrial) (wrapped : Option Bool) : Env := fun k _ =>
  let n := t.inter.length
  let scores := scoresByStep t
  let before := scores.take (n - (patience + 1))
  let after := scores.drop (n - (patience + 1))
  match k with
  | 0 => stepVal t
  | 1 => .i n
  | 2 => .i patience
  | 3 => .none
  | 4 => dirVal d
  | 5 => .x (nanMin before)
  | 6 => .x (.fin delta)
  | 7 => .x (nanMin after)
  | 8 => .x (nanMax before)
  | 9 => .x (nanMax after)
  | 10 => match wrapped with | some _ => .opq 10 | none => .none
  | 11 => match wrapped with | some b => .b b | none => .err
  | _ => .err

/-- the skeleton of `PatientPruner.prune` computes `maybe_prune` as the model's `patientMaybe` and then
delegates (`wrapped = some b`: the wrapped pruner answers `b`) or answers itself (`wrapped = none`) -/
theorem gen_patient_prune (patience : Nat) (delta : Rat) (d : Dir) (t : PTrial) (wrapped : Option Bool) :
    (interp (envPatient patience delta d t wrapped) 0 PrunersSkel.patientPrune).val =
      some (.b (if patientMaybe patience delta d t then wrapped.getD true else false)) := by
  cases hs : lastStep t.inter with
  | none =>
    have hm : patientMaybe patience delta d t = false :=
      C16.patientMaybe_short patience delta d t (by simp only [lastStep_none hs, List.length_nil, Nat.zero_le])
    simp only [skel_ir, PrunersSkel.patientPrune, envPatient, stepVal, hs, hm]
  | some stp =>
    have e1 : ((t.inter.length : Int) ≤ (patience : Int) + 1) ↔ t.inter.length ≤ patience + 1 := by omega
    by_cases h1 : t.inter.length ≤ patience + 1
    · simp only [skel_ir, PrunersSkel.patientPrune, envPatient, stepVal, hs, e1, h1,
        C16.patientMaybe_short patience delta d t h1]
    · cases d <;> cases wrapped <;>
        simp only [skel_ir, PrunersSkel.patientPrune, envPatient, patientMaybe, stepVal, hs, dirVal, e1, h1,
          Option.getD_some, Option.getD_none]

theorem gen_nop_prune (env : Env) : (interp env 0 PrunersSkel.nopPrune).val = some (.b false) := by
  rfl

def envCurrentRung (rungs : List (Nat × XVal)) : Env := fun k st =>
  match k with
  | 0 => match st.locals with
    | [.i r] => .b (hasRung rungs r.toNat)
    | _ => .err
  | _ => .err

theorem iterWhile_currentRung (rungs : List (Nat × XVal)) (f k : Nat) (eff : List (Nat × List Val))
    (h : hasRung rungs (currentRungFrom rungs f k) = false) :
    iterWhile (envCurrentRung rungs) (.atom 0) (.set 0 (.add (.lvar 0) (.int 1)) .skip) (f + 1) ⟨[.i k], eff⟩ =
      .inr ⟨[.i (currentRungFrom rungs f k)], eff⟩ := by
  -- along the model's own search: rung `k` is there and the search goes on (2), or it stops at `k` (1: out of fuel, 3)
  fun_induction currentRungFrom rungs f k generalizing eff
  case case2 hk ih =>
    rw [iterWhile]
    simp only [skel_ir, execFlat_eq, envCurrentRung, hk]
    exact ih eff h
  all_goals simp only [iterWhile, skel_ir, envCurrentRung, h]

/-- `_get_current_rung` (fuel: one more than the number of attributes) returns the model's `currentRung`,
provided the loop stops where the model says (true for every reachable trial: `current_rung_wf`) -/
theorem gen_current_rung (rungs : List (Nat × XVal)) (h : hasRung rungs (currentRung rungs) = false) :
    (interp (envCurrentRung rungs) (rungs.length + 1) PrunersSkel.currentRung).val = some (.i (currentRung rungs)) := by
  have := iterWhile_currentRung rungs rungs.length 0 [] h
  simp only [Nat.cast_zero] at this
  simp only [skel_ir, PrunersSkel.currentRung, this, currentRung]

/-- for a trial whose `completed_rung_k` keys are `0 … n-1` (every reachable trial, `reachable_wf`) -/
theorem current_rung_wf (rungs : List (Nat × XVal)) (h : rungs.map (·.1) = List.range rungs.length) :
    hasRung rungs (currentRung rungs) = false := by
  rw [currentRung_of_range h]
  unfold hasRung
  rw [rungGet_none_of_range h (Nat.le_refl _)]
  rfl

def envBracket (nPruners : Nat) (bs : List Nat) (h : Nat) : Env := fun k st =>
  match k with
  | 0 => .i nPruners
  | 1 => .i h
  | 2 => .i (bs.sum : Nat)
  | 3 => .i bs.length
  | 4 => match st.locals with
    | [_, .i b] => .i ((bs.getD b.toNat 0 : Nat) : Int)
    | _ => .err
  | _ => .err

def bracketBody : Prog :=
  .set 0 (.sub (.lvar 0) (.atom 4)) (.ite (.lt (.lvar 0) (.int 0)) (.ret 1 (.lvar 1)) .skip)

theorem iterFor_bracket (nP : Nat) (bs : List Nat) (h : Nat) (rest : List Nat) (n : Int) (i : Nat) (x : Val)
    (eff : List (Nat × List Val)) (hd : bs.drop i = rest) :
    match iterFor (envBracket nP bs h) 1 bracketBody rest.length i ⟨[.i n, x], eff⟩ with
    | .inl r => ∃ b, bracketWalk rest n i = some b ∧ r.val = some (.i b)
    | .inr _ => bracketWalk rest n i = none := by
  induction rest generalizing n i x eff with
  | nil => rfl
  | cons b rest ih =>
    have hg : bs.getD i 0 = b := by rw [List.getD_eq_getElem?_getD, ← List.head?_drop, hd]; rfl
    simp only [List.length_cons, iterFor, bracketBody, skel_ir, execFlat_eq, envBracket, hg, bracketWalk]
    by_cases hn : n - (b : Int) < 0
    · simp only [hn, if_true, Res.val_ret, Option.some.injEq, exists_eq_left']
    · simp only [hn, if_false]
      exact ih (n - (b : Int)) (i + 1) (.i (i : Int)) eff (by rw [← List.drop_drop, hd]; rfl)

theorem gen_bracket_id (nP nb eta h : Nat) (hP : nP ≠ 0) :
    match bracketId nb eta h with
    | some b => (interp (envBracket nP (budgets nb eta) h) 0 PrunersSkel.bracketId).val = some (.i b)
    | none => ∃ st, interp (envBracket nP (budgets nb eta) h) 0 PrunersSkel.bracketId = .raise 2 st := by
  have hP' : ¬ ((nP : Int) = 0) := by omega
  have key := iterFor_bracket nP (budgets nb eta) h (budgets nb eta) ((h % (budgets nb eta).sum : Nat) : Int) 0 .none [] rfl
  simp only [bracketBody] at key
  simp only [skel_ir, PrunersSkel.bracketId, bracketId, envBracket, hP', fmod_natCast]
  generalize iterFor _ _ _ _ _ _ = r at key ⊢
  cases r with
  | inl r =>
    obtain ⟨b, hb, hv⟩ := key
    simp only [hb]
    exact hv
  | inr st =>
    simp only [key]
    exact ⟨st, rfl⟩

theorem gen_bracket_id_uninitialised (bs : List Nat) (h : Nat) :
    (interp (envBracket 0 bs h) 0 PrunersSkel.bracketId).val = some (.i 0) := by
  simp only [skel_ir, PrunersSkel.bracketId, envBracket, Nat.cast_zero]

/-- `pre` / `post`: `len(self._pruners)` before and after `self._try_initialization(study)`;
`deleg`: what `self._pruners[bracket_id].prune(bracket_study, trial)` answers -/
def envHB (pre post : Nat) (deleg : Bool) : Env := fun k st =>
  match k with
  | 0 => .i (if st.effects.isEmpty then pre else post)
  | 1 => .none
  | 2 => .b deleg
  | _ => .err

/-- the delegated answer of the model: the successive-halving pruner of the trial's bracket on the trials of that bracket -/
def hbDelegate (c : HBCfg) (crc : Nat → Nat) (d : Dir) (trials : List PTrial) (n : Nat) (t : PTrial) : Bool :=
  match c.nBrackets with
  | none => false
  | some nb =>
    match bracketId nb c.eta (crc n) with
    | none => false
    | some b =>
      (shPrune { minResource := some c.minResource, eta := c.eta, rate := b, bootstrap := c.bootstrap }
        d (bracketTrials nb c.eta crc b trials) t).prune

/-- `HyperbandPruner.prune`: with `post = n_brackets` pruners after the initialisation attempt (0 when it did not
succeed) and `pre ∈ {0, post}` before it, the skeleton answers what the model's `hbPrune` answers -/
theorem gen_hb_prune (c : HBCfg) (crc : Nat → Nat) (d : Dir) (trials : List PTrial) (n : Nat) (t : PTrial)
    (pre : Nat) (hpre : pre = 0 ∨ pre = c.nBrackets.getD 0) :
    (interp (envHB pre (c.nBrackets.getD 0) (hbDelegate c crc d trials n t)) 0 PrunersSkel.hbPrune).val =
      some (.b (hbPrune c crc d trials n t).prune) := by
  unfold hbDelegate
  -- the four paths of the model (not initialised, no bracket, the unreachable `assert False`, delegation), each with
  -- the initialisation done before the call or during it
  fun_cases hbPrune c crc d trials n t <;> rcases hpre with rfl | rfl <;>
    simp only [skel_ir, PrunersSkel.hbPrune, envHB, noWrite, Option.getD_none, Option.getD_some, Nat.cast_zero, ite_self, *,
      List.isEmpty_nil, List.nil_append, List.isEmpty_cons]

def shValue (t : PTrial) : XVal := (interGet t.inter (stepD t)).getD .nan

/-- the rung the loop is at: local 0 -/
def rungOf (st : St) : Nat :=
  match st.locals.getD 0 .err with
  | .i r => r.toNat
  | _ => 0

def envSH (c : SHCfg) (d : Dir) (trials : List PTrial) (t : PTrial) : Env := fun k st =>
  match k with
  | 0 => stepVal t
  | 1 => .i (currentRung t.rungs)
  | 2 => .opq 2
  | 3 => match estimateMinResource trials with | some m => .i m | none => .none
  | 4 => .i c.eta
  | 5 => .i c.rate
  | 6 => .x (shValue t)
  | 7 => .i (rungOf st)
  | 8 => .none
  | 9 => .opq 9
  | 10 => .i (competingValues trials (rungOf st) (shValue t)).length
  | 11 => .i c.bootstrap
  | 12 => .b ((isPromotable? (shValue t) (competingValues trials (rungOf st) (shValue t)) c.eta d).getD false)
  | 13 => match c.minResource with | some m => .i m | none => .none
  | _ => .err

def shBody : Prog :=
  match PrunersSkel.shPrune.body with
  | .ite _ _ (.set _ _ (.set _ _ (.whileTrue b))) => b
  | _ => .skip

/-- the rungs for which `set_trial_system_attr(..., completed_rung_<rung>, value)` was executed -/
def writtenRungs (eff : List (Nat × List Val)) : List Val := eff.map (fun e => e.2.getD 0 .err)

def TrialsVal (tv : Val) : Prop := tv = .none ∨ tv = .opq 2

theorem writtenRungs_snoc (eff : List (Nat × List Val)) (k : Nat) (v : Val) (x : List Val) :
    writtenRungs (eff ++ [(k, v :: x)]) = writtenRungs eff ++ [v] := by
  simp [writtenRungs]

/-- one pass through the body of the `while True:` once `self._min_resource` is an integer `m`: the tests of the
model's `shLoop` in the same order; from the third on `completed_rung_<rung>` has been written -/
theorem shBody_step (c : SHCfg) (d : Dir) (trials : List PTrial) (t : PTrial) (m : Nat) (stp : Int)
    (hs : lastStep t.inter = some stp) (rung : Nat) (tv ps rk cp : Val) (eff : List (Nat × List Val))
    (htv : TrialsVal tv) :
    execFlat (envSH c d trials t) shBody ⟨[.i rung, tv, .i m, ps, rk, cp], eff⟩ =
      let promo : Val := .i (promotionStep m c.eta c.rate rung : Nat)
      let st1 : St := ⟨[.i rung, tv, .i m, promo, rk, cp], eff⟩
      let st2 : St := ⟨[.i rung, .opq 2, .i m, promo, .i rung, .opq 9],
        eff ++ [(8, [.i rung, .opq 2, .i m, promo, .i rung, cp])]⟩
      if stp < (promotionStep m c.eta c.rate rung : Int) then .ret 2 (.b false) st1
      else if xisNan (shValue t) then .ret 3 (.b true) st1
      else if (competingValues trials rung (shValue t)).length ≤ c.bootstrap then .ret 4 (.b true) st2
      else match isPromotable? (shValue t) (competingValues trials rung (shValue t)) c.eta d with
        | some true => .fall (setLocal st2 0 (.i ((rung : Int) + 1)))
        | _ => .ret 5 (.b true) st2 := by
  have hstep : stepVal t = .i stp := by simp only [stepVal, hs]
  rcases htv with rfl | rfl <;>
    simp only [shBody, PrunersSkel.shPrune, skel_ir, execFlat_eq, envSH, hstep, promotionStep_cast, rungOf] <;>
    rcases isPromotable? (shValue t) (competingValues trials rung (shValue t)) c.eta d with _ | _ | _ <;> rfl

theorem sh_iter (c : SHCfg) (d : Dir) (trials : List PTrial) (t : PTrial) (m : Nat) (stp : Int)
    (hs : lastStep t.inter = some stp) (fuel rung : Nat) (b : Bool) (hi : Nat)
    (h : shLoop c m d trials stp (shValue t) fuel rung = some (b, hi))
    (tv ps rk cp : Val) (eff : List (Nat × List Val)) (htv : TrialsVal tv) :
    (iterTrue (envSH c d trials t) shBody fuel ⟨[.i rung, tv, .i m, ps, rk, cp], eff⟩).val = some (.b b) ∧
    writtenRungs (iterTrue (envSH c d trials t) shBody fuel ⟨[.i rung, tv, .i m, ps, rk, cp], eff⟩).effects =
      writtenRungs eff ++ (List.range' rung (hi - rung)).map (fun (k : Nat) => Val.i (k : Int)) := by
  have hone (k : Nat) : List.range' k (k + 1 - k) = [k] := by rw [Nat.add_sub_cancel_left]; rfl
  -- the paths of one pass of `shLoop`: out of fuel (1), the four returns (2, 3, 4, 6), promoted and on to the next rung (5)
  fun_induction shLoop c m d trials stp (shValue t) fuel rung generalizing tv ps rk cp eff
  case case1 => cases h
  case case5 fuel rung h1 h2 _ h3 h4 ih =>
    rw [iterTrue, shBody_step c d trials t m stp hs _ tv ps rk cp eff htv]
    simp +zetaDelta only [h1, h2, h3, h4, if_false, Bool.false_eq_true, setLocal, List.set_cons_zero, ← Nat.cast_succ] at ih ⊢
    obtain ⟨hv, hw⟩ := ih h (.opq 2) (.i (promotionStep m c.eta c.rate rung : Nat)) (.i rung) (.opq 9)
      (eff ++ [(8, [.i rung, .opq 2, .i m, .i (promotionStep m c.eta c.rate rung : Nat), .i rung, cp])]) (Or.inr rfl)
    have hhi := (shLoop_hi c m d trials stp (shValue t) fuel (rung + 1) b hi h).1
    refine ⟨hv, ?_⟩
    rw [hw, writtenRungs_snoc, List.append_assoc, show hi - rung = (hi - (rung + 1)) + 1 by omega, List.range'_succ]
    rfl
  all_goals
    cases h
    rw [iterTrue, shBody_step c d trials t m stp hs _ tv ps rk cp eff htv]
    simp +zetaDelta only [*, if_true, if_false, Bool.false_eq_true, Res.val_ret, Res.effects, writtenRungs_snoc,
      Nat.sub_self, List.range'_zero, List.map_cons, List.map_nil, List.append_nil, and_self]

theorem estimateMinResource_pos (trials : List PTrial) (m : Nat) (h : estimateMinResource trials = some m) : 1 ≤ m := by
  unfold estimateMinResource at h
  simp only at h
  split at h
  · simp at h
  · simp only [Option.some.injEq] at h; omega

/-- "auto" `min_resource`: the first pass through the loop body estimates it (or returns False), then behaves as
the resolved loop -/
theorem sh_resolve (c : SHCfg) (d : Dir) (trials : List PTrial) (t : PTrial)
    (r : Nat) (ps rk cp : Val) (eff : List (Nat × List Val)) :
    (estimateMinResource trials = none →
      execFlat (envSH c d trials t) shBody ⟨[.i r, .none, .none, ps, rk, cp], eff⟩ =
        .ret 1 (.b false) ⟨[.i r, .opq 2, .none, ps, rk, cp], eff⟩) ∧
    (∀ m, estimateMinResource trials = some m →
      execFlat (envSH c d trials t) shBody ⟨[.i r, .none, .none, ps, rk, cp], eff⟩ =
      execFlat (envSH c d trials t) shBody ⟨[.i r, .opq 2, .i m, ps, rk, cp], eff⟩) := by
  constructor
  · intro he
    simp only [shBody, PrunersSkel.shPrune, skel_ir, execFlat_eq, envSH, he]
  · intro m he
    simp only [shBody, PrunersSkel.shPrune, skel_ir, execFlat_eq, envSH, he]

theorem sh_run (c : SHCfg) (d : Dir) (trials : List PTrial) (t : PTrial) (he : 2 ≤ c.eta) (m : Nat) (hm : 1 ≤ m)
    (stp : Int) (hs : lastStep t.inter = some stp) (tv : Val) (htv : TrialsVal tv) :
    ∃ b hi, shLoop c m d trials stp (shValue t) (stp.toNat + 1) (currentRung t.rungs) = some (b, hi) ∧
      (iterTrue (envSH c d trials t) shBody (stp.toNat + 1)
        ⟨[.i (currentRung t.rungs), tv, .i m, .none, .none, .none], []⟩).val = some (.b b) ∧
      writtenRungs (iterTrue (envSH c d trials t) shBody (stp.toNat + 1)
        ⟨[.i (currentRung t.rungs), tv, .i m, .none, .none, .none], []⟩).effects =
        (List.range' (currentRung t.rungs) (hi - currentRung t.rungs)).map (fun (k : Nat) => Val.i (k : Int)) := by
  obtain ⟨⟨b, hi⟩, hl⟩ := Option.isSome_iff_exists.1
    (C16.sh_loop_terminates c m d trials stp (shValue t) (currentRung t.rungs) hm he)
  exact ⟨b, hi, hl, sh_iter c d trials t m stp hs _ _ b hi hl tv .none .none .none [] htv⟩

/-- `SuccessiveHalvingPruner.prune`, valid configuration: the generated skeleton (fuel = the model's: `step + 1` passes of the
`while True`) returns the model's decision and executes `set_trial_system_attr(…, completed_rung_<r>, value)` for
exactly the rungs `first ≤ r < hi` of the model, in order. -/
theorem gen_sh_prune (c : SHCfg) (d : Dir) (trials : List PTrial) (t : PTrial) (hv : c.Valid) :
    (interp (envSH c d trials t) ((stepD t).toNat + 1) PrunersSkel.shPrune).val = some (.b (shPrune c d trials t).prune) ∧
    writtenRungs (interp (envSH c d trials t) ((stepD t).toNat + 1) PrunersSkel.shPrune).effects =
      (List.range' (shPrune c d trials t).first ((shPrune c d trials t).hi - (shPrune c d trials t).first)).map
        (fun (k : Nat) => Val.i (k : Int)) := by
  have hbody : PrunersSkel.shPrune.body =
      .ite (.isNone (.atom 0)) (.ret 0 (.bool false)) (.set 0 (.atom 1) (.set 1 .none (.whileTrue shBody))) := rfl
  have hinit : PrunersSkel.shPrune.init = [.none, .none, (.atom 13), .none, .none, .none] := rfl
  unfold shPrune
  cases hs : lastStep t.inter with
  | none => simp only [skel_ir, hbody, hinit, envSH, stepVal, hs, noWrite, Res.effects, writtenRungs, Nat.sub_self,
      List.range'_zero, List.map_nil, and_self]
  | some stp =>
    obtain ⟨v, hvv⟩ := interGet_isSome_of_mem (lastStep_spec hs).1
    have hval : shValue t = v := by simp only [shValue, stepD, hs, hvv, Option.getD_some]
    -- the model resolves `min_resource` before the loop, the source inside its first pass: configured, the loop as it stands
    -- (`sh_run`); "auto" without estimate, the first pass returns False; "auto" with estimate `m`, the first pass is that of the
    -- resolved loop with `trials` fetched (`sh_resolve`).  `c.Valid` serves only the fuel (`C16.sh_loop_terminates` in `sh_run`)
    unfold resolveMinResource
    cases hc : c.minResource with
    | some m =>
      obtain ⟨b, hi, hl, hr⟩ := sh_run c d trials t hv.1 m (hv.2 m hc) stp hs .none (Or.inl rfl)
      rw [hval] at hl
      simp only [skel_ir, hbody, hinit, envSH, stepVal, stepD, hs, hvv, hc, hl]
      exact hr
    | none =>
      cases he : estimateMinResource trials with
      | none =>
        have := (sh_resolve c d trials t (currentRung t.rungs) .none .none .none []).1 he
        simp only [skel_ir, hbody, hinit, envSH, stepVal, stepD, hs, hvv, hc, iterTrue, this, noWrite, Res.effects,
          writtenRungs, Nat.sub_self, List.range'_zero, List.map_nil, and_self]
      | some m =>
        obtain ⟨b, hi, hl, hr⟩ :=
          sh_run c d trials t hv.1 m (estimateMinResource_pos trials m he) stp hs (.opq 2) (Or.inr rfl)
        rw [hval] at hl
        have hres := (sh_resolve c d trials t (currentRung t.rungs) .none .none .none []).2 m he
        simp only [skel_ir, hbody, hinit, envSH, stepVal, stepD, hs, hvv, hc, hl, iterTrue, hres]
        simp only [iterTrue] at hr
        exact hr

def envEstimate (trials : List PTrial) : Env := fun k _ =>
  let steps := (completedTrials trials).filterMap (fun t => lastStep t.inter)
  match k with
  | 0 => .i steps.length
  | 1 => match estimateMinResource trials with | some m => .i m | none => .err
  | _ => .err

/-- `_estimate_min_resource`: `None` exactly when no COMPLETE trial has a report (atom 0 = `n_steps`, whose
truthiness is "non-empty"; atom 1 = `max(last_step // 100, 1)`, the model's value) -/
theorem gen_estimate_min_resource (trials : List PTrial) :
    (interp (envEstimate trials) 0 PrunersSkel.estimateMinResource).val =
      some (match estimateMinResource trials with | some m => .i m | none => .none) := by
  unfold envEstimate estimateMinResource
  cases (completedTrials trials).filterMap (fun t => lastStep t.inter) with
  | nil => rfl
  | cons x rest =>
    have : ¬ ((rest.length : Int) + 1 = 0) := by omega
    simp only [skel_ir, PrunersSkel.estimateMinResource, List.length_cons, Nat.cast_succ, ne_eq, this, not_false_eq_true]

def envPromotable (value : XVal) (competing : List XVal) (eta : Nat) (d : Dir) : Env := fun k st =>
  let sorted := sortX competing
  match k with
  | 0 => .i ((competing.length / eta : Nat) : Int)
  | 1 => .none
  | 2 => dirVal d
  | 3 => .x value
  | 4 => match st.locals with
    | [.i idx] => if idx.toNat + 1 ≤ sorted.length then
        (match sorted[sorted.length - (idx.toNat + 1)]? with | some c => .x c | none => .err) else .err
    | _ => .err
  | 5 => match st.locals with
    | [.i idx] => (match sorted[idx.toNat]? with | some c => .x c | none => .err)
    | _ => .err
  | _ => .err

/-- `_is_trial_promotable_to_next_rung`: the promotable index (`len // rf - 1`, `-1` replaced by `0`), the sort, and the
comparison by direction are the model's `isPromotable?` (an index out of range — Python's IndexError, shown unreachable
in C16 — is `none` in the model and an error value here) -/
theorem gen_is_promotable (value : XVal) (competing : List XVal) (eta : Nat) (d : Dir) :
    (interp (envPromotable value competing eta d) 0 PrunersSkel.isPromotable).val =
      some (match isPromotable? value competing eta d with | some b => .b b | none => .err) := by
  unfold isPromotable? promotableIdx envPromotable
  generalize competing.length / eta = k
  -- `promotable_idx` after its two statements is the model's index; then one comparison for each direction
  have et : (if (k : Int) - 1 = -1 then 0 else (k : Int) - 1).toNat = if k = 0 then 0 else k - 1 := by
    split <;> split <;> omega
  cases d <;> simp only [skel_ir, PrunersSkel.isPromotable, dirVal, et, xle] <;> generalize (if k = 0 then 0 else k - 1) = i
  · cases (sortX competing)[i]? <;> rfl
  · by_cases hl : i + 1 ≤ (sortX competing).length <;> simp only [hl, if_true, if_false]
    cases (sortX competing)[(sortX competing).length - (i + 1)]? <;> rfl

/-- `_get_competing_values`: the list comprehension (data statement), `append(value)`, return — stated whole -/
theorem gen_competing_values (env : Env) :
    interp env 0 PrunersSkel.competingValues = .ret 0 (env 1 ⟨[], [(0, [])]⟩) ⟨[], [(0, [])]⟩ := rfl

/-! ## the tables: what every atom index, local and data statement IS (source text as `ast.unparse` prints it)

The environments above are indexed by atom number; these theorems pin the text each number stands for, the
re-assigned locals, and every data statement (array construction, slices, the calls whose value an atom names),
so that neither an operand swap inside a call nor a changed slice / helper call goes unnoticed. -/

theorem gen_percentilePrune_tables :
    PrunersSkel.percentilePrune.atoms = ["n_trials",
    "self._n_startup_trials",
    "step",
    "n_warmup_steps",
    "_is_first_in_interval_step(step, trial.intermediate_values.keys(), n_warmup_steps, self._interval_steps)",
    "best_intermediate_result",
    "p",
    "direction"] ∧
    PrunersSkel.percentilePrune.locals = [] ∧
    PrunersSkel.percentilePrune.data = ["completed_trials = study.get_trials(deepcopy=False, states=(TrialState.COMPLETE,))",
    "n_trials = len(completed_trials)",
    "step = trial.last_step",
    "n_warmup_steps = self._n_warmup_steps",
    "direction = study.direction",
    "best_intermediate_result = _get_best_intermediate_result_over_steps(trial, direction)",
    "p = _get_percentile_intermediate_result_over_trials(completed_trials, direction, step, self._percentile, self._n_min_trials)"] := ⟨rfl, rfl, rfl⟩

theorem gen_bestOverSteps_tables :
    PrunersSkel.bestOverSteps.atoms = ["direction",
    "np.nanmax(values)",
    "np.nanmin(values)"] ∧
    PrunersSkel.bestOverSteps.locals = [] ∧
    PrunersSkel.bestOverSteps.data = ["values = np.asarray(list(trial.intermediate_values.values()), dtype=float)"] := ⟨rfl, rfl, rfl⟩

theorem gen_percentileOverTrials_tables :
    PrunersSkel.percentileOverTrials.atoms = ["len(completed_trials)",
    "len(intermediate_values)",
    "n_min_trials",
    "direction",
    "float(-np.nanpercentile(-values, percentile))",
    "float(np.nanpercentile(values, percentile))"] ∧
    PrunersSkel.percentileOverTrials.locals = [] ∧
    PrunersSkel.percentileOverTrials.data = ["intermediate_values = [t.intermediate_values[step] for t in completed_trials if step in t.intermediate_values]",
    "values = np.array(intermediate_values, dtype=float)"] := ⟨rfl, rfl, rfl⟩

theorem gen_medianInit_tables :
    PrunersSkel.medianInit.atoms = ["super().__init__(50.0, n_startup_trials, n_warmup_steps, interval_steps, n_min_trials=n_min_trials)"] ∧
    PrunersSkel.medianInit.locals = [] ∧
    PrunersSkel.medianInit.data = [] := ⟨rfl, rfl, rfl⟩

theorem gen_thresholdPrune_tables :
    PrunersSkel.thresholdPrune.atoms = ["step",
    "n_warmup_steps",
    "_is_first_in_interval_step(step, trial.intermediate_values.keys(), n_warmup_steps, self._interval_steps)",
    "latest_value",
    "self._lower",
    "self._upper"] ∧
    PrunersSkel.thresholdPrune.locals = [] ∧
    PrunersSkel.thresholdPrune.data = ["step = trial.last_step",
    "n_warmup_steps = self._n_warmup_steps",
    "latest_value = trial.intermediate_values[step]"] := ⟨rfl, rfl, rfl⟩

theorem gen_patientPrune_tables :
    PrunersSkel.patientPrune.atoms = ["step",
    "steps.size",
    "self._patience",
    "steps.sort()",
    "direction",
    "np.nanmin(scores_before_patience)",
    "self._min_delta",
    "np.nanmin(scores_after_patience)",
    "np.nanmax(scores_before_patience)",
    "np.nanmax(scores_after_patience)",
    "self._wrapped_pruner",
    "self._wrapped_pruner.prune(study, trial)"] ∧
    PrunersSkel.patientPrune.locals = ["maybe_prune"] ∧
    PrunersSkel.patientPrune.data = ["step = trial.last_step",
    "intermediate_values = trial.intermediate_values",
    "steps = np.asarray(list(intermediate_values.keys()))",
    "steps_before_patience = steps[:-self._patience - 1]",
    "scores_before_patience = np.asarray(list((intermediate_values[step] for step in steps_before_patience)))",
    "steps_after_patience = steps[-self._patience - 1:]",
    "scores_after_patience = np.asarray(list((intermediate_values[step] for step in steps_after_patience)))",
    "direction = study.direction"] := ⟨rfl, rfl, rfl⟩

theorem gen_nopPrune_tables :
    PrunersSkel.nopPrune.atoms = [] ∧
    PrunersSkel.nopPrune.locals = [] ∧
    PrunersSkel.nopPrune.data = [] := ⟨rfl, rfl, rfl⟩

theorem gen_shPrune_tables :
    PrunersSkel.shPrune.atoms = ["step",
    "_get_current_rung(trial)",
    "study.get_trials(deepcopy=False)",
    "_estimate_min_resource(trials)",
    "self._reduction_factor",
    "self._min_early_stopping_rate",
    "value",
    "_completed_rung_key(rung)",
    "study._storage.set_trial_system_attr(trial._trial_id, rung_key, value)",
    "_get_competing_values(trials, value, rung_key)",
    "len(competing)",
    "self._bootstrap_count",
    "_is_trial_promotable_to_next_rung(value, competing, self._reduction_factor, study.direction)",
    "self._min_resource"] ∧
    PrunersSkel.shPrune.locals = ["rung", "trials", "self._min_resource", "rung_promotion_step", "rung_key", "competing"] ∧
    PrunersSkel.shPrune.data = ["step = trial.last_step",
    "value = trial.intermediate_values[step]",
    "assert self._min_resource is not None"] := ⟨rfl, rfl, rfl⟩

theorem gen_currentRung_tables :
    PrunersSkel.currentRung.atoms = ["_completed_rung_key(rung) in trial.system_attrs"] ∧
    PrunersSkel.currentRung.locals = ["rung"] ∧
    PrunersSkel.currentRung.data = [] := ⟨rfl, rfl, rfl⟩

theorem gen_completedRungKey_tables :
    PrunersSkel.completedRungKey.atoms = ["'completed_rung_{}'.format(rung)"] ∧
    PrunersSkel.completedRungKey.locals = [] ∧
    PrunersSkel.completedRungKey.data = [] := ⟨rfl, rfl, rfl⟩

theorem gen_estimateMinResource_tables :
    PrunersSkel.estimateMinResource.atoms = ["n_steps",
    "max(last_step // 100, 1)"] ∧
    PrunersSkel.estimateMinResource.locals = [] ∧
    PrunersSkel.estimateMinResource.data = ["n_steps = [t.last_step for t in trials if t.state == TrialState.COMPLETE and t.last_step is not None]",
    "last_step = max(n_steps)"] := ⟨rfl, rfl, rfl⟩

theorem gen_competingValues_tables :
    PrunersSkel.competingValues.atoms = ["competing_values.append(value)",
    "competing_values"] ∧
    PrunersSkel.competingValues.locals = [] ∧
    PrunersSkel.competingValues.data = ["competing_values = [t.system_attrs[rung_key] for t in trials if rung_key in t.system_attrs]"] := ⟨rfl, rfl, rfl⟩

theorem gen_isPromotable_tables :
    PrunersSkel.isPromotable.atoms = ["len(competing_values) // reduction_factor",
    "competing_values.sort()",
    "study_direction",
    "value",
    "competing_values[-(promotable_idx + 1)]",
    "competing_values[promotable_idx]"] ∧
    PrunersSkel.isPromotable.locals = ["promotable_idx"] ∧
    PrunersSkel.isPromotable.data = [] := ⟨rfl, rfl, rfl⟩

theorem gen_hbPrune_tables :
    PrunersSkel.hbPrune.atoms = ["len(self._pruners)",
    "self._try_initialization(study)",
    "self._pruners[bracket_id].prune(bracket_study, trial)"] ∧
    PrunersSkel.hbPrune.locals = [] ∧
    PrunersSkel.hbPrune.data = ["bracket_id = self._get_bracket_id(study, trial)",
    "_logger.debug('{}th bracket is selected'.format(bracket_id))",
    "bracket_study = self._create_bracket_study(study, bracket_id)"] := ⟨rfl, rfl, rfl⟩

theorem gen_bracketId_tables :
    PrunersSkel.bracketId.atoms = ["len(self._pruners)",
    "binascii.crc32('{}_{}'.format(study.study_name, trial.number).encode())",
    "self._total_trial_allocation_budget",
    "self._n_brackets",
    "self._trial_allocation_budgets[bracket_id]"] ∧
    PrunersSkel.bracketId.locals = ["n", "bracket_id"] ∧
    PrunersSkel.bracketId.data = ["assert self._n_brackets is not None"] := ⟨rfl, rfl, rfl⟩

theorem gen_bracketGetTrials_tables :
    PrunersSkel.bracketGetTrials.atoms = ["[t for t in trials if pruner._get_bracket_id(self, t) == self._bracket_id]"] ∧
    PrunersSkel.bracketGetTrials.locals = [] ∧
    PrunersSkel.bracketGetTrials.data = ["trials = super()._get_trials(deepcopy=deepcopy, states=states)",
    "pruner = self.pruner",
    "assert isinstance(pruner, HyperbandPruner)"] := ⟨rfl, rfl, rfl⟩

theorem gen_completed_rung_key (env : Env) :
    interp env 0 PrunersSkel.completedRungKey = .ret 0 (env 0 ⟨[], []⟩) ⟨[], []⟩ := rfl

theorem gen_bracket_get_trials (env : Env) :
    interp env 0 PrunersSkel.bracketGetTrials = .ret 0 (env 0 ⟨[], []⟩) ⟨[], []⟩ := rfl

/-- `MedianPruner.__init__` does nothing but call `PercentilePruner.__init__(50.0, …)` (atom 0, see the table) -/
theorem gen_median_init (env : Env) :
    interp env 0 PrunersSkel.medianInit = .ret 0 .none ⟨[], [(0, [])]⟩ := rfl

def asBool : Option Val → Bool
  | some (.b v) => v
  | _ => false

/-- the successive-halving skeleton as Hyperband delegates to it -/
def hbDelegateSkel (c : HBCfg) (crc : Nat → Nat) (d : Dir) (trials : List PTrial) (n : Nat) (t : PTrial) : Bool :=
  match c.nBrackets with
  | none => false
  | some nb =>
    match bracketId nb c.eta (crc n) with
    | none => false
    | some b =>
      asBool (interp (envSH { minResource := some c.minResource, eta := c.eta, rate := b, bootstrap := c.bootstrap }
        d (bracketTrials nb c.eta crc b trials) t) ((stepD t).toNat + 1) PrunersSkel.shPrune).val

/-- `pruner.prune(study, trial)` computed by INTERPRETING THE GENERATED SKELETONS (the environments supply the
data: lengths, steps, nan-reductions, percentiles, competing values).  For Hyperband the bracket and its trials are chosen by the
MODEL's `bracketId` / `bracketTrials` from `crc` (`hbDelegateSkel`), not by the interpreted `_get_bracket_id` (`gen_bracket_id`). -/
def skelPrune (crc : Nat → Nat) (s : Study) (n : Nat) (t : PTrial) : Pruner → Option Val
  | .nop => (interp (fun _ _ => .err) 0 PrunersSkel.nopPrune).val
  | .percentile c => (interp (envPercentile c s.dir s.trials t) 0 PrunersSkel.percentilePrune).val
  | .threshold c => (interp (envThreshold c t) 0 PrunersSkel.thresholdPrune).val
  | .sh c => (interp (envSH c s.dir s.trials t) ((stepD t).toNat + 1) PrunersSkel.shPrune).val
  | .hyperband c =>
    (interp (envHB (c.nBrackets.getD 0) (c.nBrackets.getD 0) (hbDelegateSkel c crc s.dir s.trials n t)) 0 PrunersSkel.hbPrune).val
  | .patient w k dl =>
    (interp (envPatient k dl s.dir t (some (asBool (skelPrune crc s n t w)))) 0 PrunersSkel.patientPrune).val
  | .patientNone k dl => (interp (envPatient k dl s.dir t none) 0 PrunersSkel.patientPrune).val

/-- the configurations for which the `while True:` of successive halving is known to end -/
def PrunerValid : Pruner → Prop
  | .sh c => c.Valid
  | .hyperband c => c.Valid
  | .patient w _ _ => PrunerValid w
  | _ => True

/-- **Interpreting the regenerated skeletons gives the model's decision, for every pruner** whose successive-halving /
Hyperband configurations are valid (`PrunerValid`: the loop is known to end); all studies, trials, other parameter settings, both
directions. -/
theorem skel_prune_eq (crc : Nat → Nat) (s : Study) (n : Nat) (t : PTrial) (p : Pruner) (hp : PrunerValid p) :
    skelPrune crc s n t p = some (.b (prune crc s n t p).prune) := by
  induction p with
  | nop => exact gen_nop_prune _
  | percentile c => exact gen_percentile_prune c s.dir s.trials t
  | threshold c => exact gen_threshold_prune c t
  | sh c => exact (gen_sh_prune c s.dir s.trials t hp).1
  | hyperband c =>
    have hd : hbDelegateSkel c crc s.dir s.trials n t = hbDelegate c crc s.dir s.trials n t := by
      unfold hbDelegateSkel
      fun_cases hbDelegate c crc s.dir s.trials n t with
      | case3 nb hnb b hb =>
        simp only [hnb, hb]
        rw [(gen_sh_prune _ s.dir (bracketTrials nb c.eta crc b s.trials) t ⟨hp.1, fun m hm => by cases hm; exact hp.2⟩).1]
        rfl
      | _ => simp only [*]
    simp only [skelPrune, hd]
    exact gen_hb_prune c crc s.dir s.trials n t _ (Or.inr rfl)
  | patient w k dl ih =>
    simp only [skelPrune, prune]
    rw [ih hp, gen_patient_prune]
    simp only [asBool, Option.getD_some]
    split <;> simp [noWrite]
  | patientNone k dl =>
    simp only [skelPrune, prune, gen_patient_prune, noWrite, Option.getD_none]
    split <;> simp_all

theorem protective_valid {p : Pruner} (h : C16.Protective p) : PrunerValid p := by
  induction h with
  | nop => trivial
  | percentile c _ _ => trivial
  | sh c hv _ => exact hv
  | hyperband c hv _ => exact hv
  | patient w k dl _ ih => exact ih

theorem skel_no_prune_before_warmup (crc : Nat → Nat) (s : Study) (n : Nat) (t : PTrial) (p : Pruner) (hp : PrunerValid p)
    (w : Nat) (stp : Int) (hw : C16.nWarmup? p = some w) (hs : lastStep t.inter = some stp) (hlt : stp < (w : Int)) :
    skelPrune crc s n t p = some (.b false) := by
  rw [skel_prune_eq crc s n t p hp, C16.no_prune_before_warmup crc s n t p w stp hw hs hlt]

theorem skel_no_prune_before_startup (crc : Nat → Nat) (s : Study) (n : Nat) (t : PTrial) (p : Pruner) (hp : PrunerValid p)
    (k : Nat) (hk : C16.nStartup? p = some k) (hlt : (completedTrials s.trials).length < k) :
    skelPrune crc s n t p = some (.b false) := by
  rw [skel_prune_eq crc s n t p hp, C16.no_prune_before_startup crc s n t p k hk hlt]

theorem skel_no_prune_off_interval (crc : Nat → Nat) (s : Study) (n : Nat) (t : PTrial) (p : Pruner) (hp : PrunerValid p)
    (w i : Nat) (stp : Int) (hpi : C16.interval? p = some (w, i)) (hi : 1 ≤ i) (hs : lastStep t.inter = some stp)
    (hoff : ∃ s' ∈ interSteps t, C16.SameIntervalEarlier w i stp s') :
    skelPrune crc s n t p = some (.b false) := by
  rw [skel_prune_eq crc s n t p hp, C16.no_prune_off_interval crc s n t p w i stp hpi hi hs hoff]

theorem skel_no_prune_within_patience (crc : Nat → Nat) (s : Study) (n : Nat) (t : PTrial)
    (patience : Nat) (delta : Rat) (w : Option Pruner) (hw : ∀ w', w = some w' → PrunerValid w')
    (h : t.inter.length ≤ patience + 1 ∨
      ∃ u ∈ C16.recentScores t patience, xisNan u = false ∧
        ∀ b ∈ C16.earlierScores t patience, xisNan b = false → C16.WithinDelta s.dir delta u b) :
    (match w with
     | some w => skelPrune crc s n t (.patient w patience delta)
     | none => skelPrune crc s n t (.patientNone patience delta)) = some (.b false) := by
  have := C16.no_prune_within_patience crc s n t patience delta w h
  cases w with
  | some w' =>
    simp only at this ⊢
    rw [skel_prune_eq crc s n t (.patient w' patience delta) (hw w' rfl), this]
  | none =>
    simp only at this ⊢
    rw [skel_prune_eq crc s n t (.patientNone patience delta) trivial, this]

theorem skel_threshold_prunes_iff (crc : Nat → Nat) (s : Study) (n : Nat) (t : PTrial) (c : ThresholdCfg) :
    skelPrune crc s n t (.threshold c) = some (.b true) ↔
      ∃ v, thresholdChecked c t = some v ∧ (xisNan v = true ∨ xlt v c.lower = true ∨ xlt c.upper v = true) := by
  rw [skel_prune_eq crc s n t (.threshold c) trivial, ← C16.threshold_prunes_iff crc s n t c]
  simp

/-- over all histories, a trial that is strictly best in the state reached (`C16.StrictlyBest`) is not pruned by the interpreted
skeleton of any protective pruner -/
theorem skel_strictly_best_never_pruned (crc : Nat → Nat) (d : Dir) (ops : List Op) (n : Nat) (t : PTrial)
    (p : Pruner) (hp : C16.Protective p) (hb : C16.StrictlyBest (after crc (Study.init d) ops) n t) :
    skelPrune crc (after crc (Study.init d) ops) n t p = some (.b false) := by
  rw [skel_prune_eq crc _ n t p (protective_valid hp), C16.strictly_best_never_pruned crc d ops n t p hp hb]

theorem skel_nop_never (crc : Nat → Nat) (s : Study) (n : Nat) (t : PTrial) : skelPrune crc s n t .nop = some (.b false) :=
  gen_nop_prune _

/-- non-vacuity: the interpreted skeletons on concrete studies — median prunes the worse trial and keeps it
before the warm-up; threshold prunes a NaN only at a checked step; patient prunes a stalled trial; successive halving prunes the
first trial at a rung with `bootstrap_count = 1` and not with `0` -/
example :
    skelPrune (fun _ => 0) ⟨.minimize, [⟨.complete, [(0, .fin 1)], []⟩]⟩ 1 ⟨.running, [(0, .fin 5)], []⟩ (Pruner.median 0 0 1 1) = some (.b true) ∧
    skelPrune (fun _ => 0) ⟨.minimize, [⟨.complete, [(0, .fin 1)], []⟩]⟩ 1 ⟨.running, [(0, .fin 5)], []⟩ (Pruner.median 0 1 1 1) = some (.b false) ∧
    skelPrune (fun _ => 0) ⟨.minimize, []⟩ 0 ⟨.running, [(0, .nan)], []⟩ (.threshold ⟨.fin 0, .fin 1, 0, 1⟩) = some (.b true) ∧
    skelPrune (fun _ => 0) ⟨.minimize, []⟩ 0 ⟨.running, [(0, .nan)], []⟩ (.threshold ⟨.fin 0, .fin 1, 1, 1⟩) = some (.b false) ∧
    skelPrune (fun _ => 0) ⟨.minimize, []⟩ 0 ⟨.running, [(0, .fin 3), (1, .fin 2), (2, .fin 3), (3, .fin 3)], []⟩ (.patientNone 1 0) = some (.b true) ∧
    skelPrune (fun _ => 0) ⟨.minimize, [⟨.running, [(1, .fin 0)], []⟩]⟩ 0 ⟨.running, [(1, .fin 0)], []⟩ (.sh ⟨some 1, 2, 0, 1⟩) = some (.b true) ∧
    skelPrune (fun _ => 0) ⟨.minimize, [⟨.running, [(1, .fin 0)], []⟩]⟩ 0 ⟨.running, [(1, .fin 0)], []⟩ (.sh ⟨some 1, 2, 0, 0⟩) = some (.b false) := by
  decide +kernel

end OptunaVerif.C16SkelGen
