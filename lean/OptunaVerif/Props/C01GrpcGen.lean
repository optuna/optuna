import OptunaVerif.Generated.GrpcMethods
import OptunaVerif.Lemmas.GrpcIR
import OptunaVerif.Lemmas.StepAnswer
/-!
# C01, gRPC layer — the method bodies as written today, interpreted, are the wire model (T-grpc2)

`Generated/GrpcMethods.lean` is rewritten from optuna/storages/_grpc/servicer.py and client.py on every run
(verif/translators/tgrpc2.py); `Model/GrpcIR.lean` interprets it.  This file proves, for ALL backend states and ALL
arguments:

* `interp_toProtoState` … `interp_fromProtoTrial`: the generated converter functions are `Proto.stateToProto` /
  `stateFromProto` / `toProtoTrial` / `fromProtoTrial`;
* `gen_servicer_hand`: each of the 19 generated rpc methods is `Proto.servicer` on its request (an instance of
  `finishServicer_backend`; a method with more than the common shape has its own `interp_servicer_<Rpc>`); `gen_servicer_eq`;
* `primary_eq`: each of the 19 generated client methods (+ `interp_client_readTrials`, the wire half of
  `_read_trials_from_remote_storage`) over the servicer is `Proto.proxyStep` on that operation (an instance of
  `finishClient_stub`, or its own `interp_client_<method>`); `gen_proxy_eq`;
* `gen_error_mapping_roundtrip`, `gen_every_contract_method_has_rpc`, `gen_rpc_call_sites`, `gen_state_roundtrip`: the table
  theorems of Props/C01Grpc.lean restated on the generated bodies.

Nothing of Props/ is imported: the theorems that need Props/C01Grpc.lean (`gen_proxy_refines_contract`, `rpcOfGen_eq`,
`gen_error_mapping_roundtrip_complete`) are in Props/C01GrpcGenSpec.lean, same namespace.
-/

namespace OptunaVerif.C01GrpcGen
open OptunaVerif.Storage OptunaVerif.Proto OptunaVerif.GrpcIR OptunaVerif.Generated
open OptunaVerif.Generated.GrpcTables (Exc Status Rpc)
open OptunaVerif.Generated.GrpcMethods (program)

theorem step_shape (s : Spec) (op : Op) : shapeOK op (step s op).2 = true := (step_answer s op).shape

example : shapeOK (.deleteStudy 0) (.newId 0) = false ∧ shapeOK (.deleteStudy 0) (step Storage.init (.deleteStudy 0)).2 = true := by
  decide

structure Conv (c : Ctx) : Prop where
  toTrial : c.toProtoTrial = toProtoTrial
  fromTrial : c.fromProtoTrial = fromProtoTrial
  toState : c.toProtoState = stateToProto
  fromState : c.fromProtoState = stateFromProto

theorem conv_hand (ir : Bool) (u : String) : Conv (Ctx.hand ir u) := ⟨rfl, rfl, rfl, rfl⟩

theorem opOf_1 (ir) (dirs : List Nat) (name : String) : opOf ir .create_new_study [.nats dirs, .str name] = some (.createStudy name dirs) := rfl
theorem opOf_2 (ir) (sid : Nat) : opOf ir .delete_study [.nat sid] = some (.deleteStudy sid) := rfl
theorem opOf_3 (ir) (sid : Nat) (k v : String) : opOf ir .set_study_user_attr [.nat sid, .str k, .str v] = some (.setStudyUserAttr sid k v) := rfl
theorem opOf_4 (ir) (sid : Nat) (k v : String) : opOf ir .set_study_system_attr [.nat sid, .str k, .str v] = some (.setStudySystemAttr sid k v) := rfl
theorem opOf_5 (ir) (n : String) : opOf ir .get_study_id_from_name [.str n] = some (.getStudyIdFromName n) := rfl
theorem opOf_6 (ir) (sid : Nat) : opOf ir .get_study_name_from_id [.nat sid] = some (.getStudyNameFromId sid) := rfl
theorem opOf_7 (ir) (sid : Nat) : opOf ir .get_study_directions [.nat sid] = some (.getStudyDirections sid) := rfl
theorem opOf_8 (ir) (sid : Nat) : opOf ir .get_study_user_attrs [.nat sid] = some (.getStudyUserAttrs sid) := rfl
theorem opOf_9 (ir) (sid : Nat) : opOf ir .get_study_system_attrs [.nat sid] = some (.getStudySystemAttrs sid) := rfl
theorem opOf_10 (ir) : opOf ir .get_all_studies [] = some .getAllStudies := rfl
theorem opOf_11 (ir) (sid : Nat) : opOf ir .create_new_trial [.nat sid, .none] = some (.createTrial sid none ir) := rfl
theorem opOf_12 (ir) (sid : Nat) (f : Frozen) : opOf ir .create_new_trial [.nat sid, .frozen f] = some (.createTrial sid (some f.body) ir) := rfl
theorem opOf_13 (ir) (tid : Nat) (n i : String) (d : Dist) :
    opOf ir .set_trial_param [.nat tid, .str n, .str i, .dist d] = some (.setTrialParam tid n { internal := i, dist := d } ir) := rfl
theorem opOf_14 (ir) (sid n : Nat) : opOf ir .get_trial_id_from_study_id_trial_number [.nat sid, .nat n] = some (.getTrialIdFromNumber sid n) := rfl
theorem opOf_15 (ir) (tid : Nat) (st : TState) : opOf ir .set_trial_state_values [.nat tid, .state st, .none] = some (.setTrialStateValues tid st none) := rfl
theorem opOf_16 (ir) (tid : Nat) (st : TState) (l : List XVal) :
    opOf ir .set_trial_state_values [.nat tid, .state st, .xvals l] = some (.setTrialStateValues tid st (some l)) := rfl
theorem opOf_17 (ir) (tid : Nat) (stp : Int) (v : XVal) : opOf ir .set_trial_intermediate_value [.nat tid, .int stp, .xval v] = some (.setTrialInter tid stp v) := rfl
theorem opOf_18 (ir) (tid : Nat) (k v : String) : opOf ir .set_trial_user_attr [.nat tid, .str k, .str v] = some (.setTrialUserAttr tid k v) := rfl
theorem opOf_19 (ir) (tid : Nat) (k v : String) : opOf ir .set_trial_system_attr [.nat tid, .str k, .str v] = some (.setTrialSystemAttr tid k v) := rfl
theorem opOf_20 (ir) (tid : Nat) : opOf ir .get_trial [.nat tid] = some (.getTrial tid) := rfl
theorem opOf_21 (ir) (sid : Nat) : opOf ir .get_all_trials [.nat sid] = some (.getAllTrials sid none) := rfl

theorem thenExec_next (k : St → St × Flow) (st : St) : thenExec k (st, .next) = k st := rfl
theorem thenExec_ret (k : St → St × Flow) (st : St) (v : Val) : thenExec k (st, .ret v) = (st, .ret v) := rfl
theorem thenExec_raised (k : St → St × Flow) (st : St) (e : Exn) : thenExec k (st, .raised e) = (st, .raised e) := rfl
theorem handleTry_next (k : St → St × Flow) (st : St) : handleTry k (st, .next) = (st, .next) := rfl
theorem handleTry_raised (k : St → St × Flow) (st : St) (e : Exn) : handleTry k (st, .raised e) = k { st with cur := some e } := rfl

attribute [grpc_ir] opOf_1 opOf_2 opOf_3 opOf_4 opOf_5 opOf_6 opOf_7 opOf_8 opOf_9 opOf_10 opOf_11 opOf_12 opOf_13 opOf_14 opOf_15
  opOf_16 opOf_17 opOf_18 opOf_19 opOf_20 opOf_21 thenExec_next thenExec_ret thenExec_raised handleTry_next handleTry_raised

theorem mapAllE_map_ok {α β γ : Type} (g : α → β) (f : β → Except Exn γ) (h : α → γ) (l : List α)
    (hf : ∀ a, f (g a) = .ok (h a)) : mapAllE f (l.map g) = .ok (l.map h) := by
  induction l with
  | nil => rfl
  | cons a t ih => simp only [List.map_cons, mapAllE, hf, ih]

theorem mapAll_map_some {α β γ : Type} (g : α → β) (f : β → Option γ) (h : α → γ) (l : List α)
    (hf : ∀ a, f (g a) = some (h a)) : mapAll f (l.map g) = some (l.map h) := by
  induction l with
  | nil => rfl
  | cons a t ih => simp only [List.map_cons, mapAll, hf, ih]

theorem filterE_map_ok {α β : Type} (g : α → β) (f : β → Except Exn Bool) (p : α → Bool) (l : List α)
    (hf : ∀ a, f (g a) = .ok (p a)) : filterE f (l.map g) = .ok ((l.filter p).map g) := by
  induction l with
  | nil => rfl
  | cons a t ih =>
    simp only [List.map_cons, filterE, hf, ih, List.filter_cons]
    cases p a <;> rfl

/-- `[_to_proto_trial(t) for t in fs]` is `Proto.toProtoTrials` (the first failure is a `ValueError` in both) -/
theorem mapAllE_toProtoTrials (F : Val → Except Exn Val)
    (hF : ∀ f, F (.frozen f) = match toProtoTrial f with | some p => .ok (.ptrial p) | none => .error (.exc .valueError))
    (fs : List Frozen) :
    mapAllE F (fs.map .frozen) = match toProtoTrials fs with
      | some ps => .ok (ps.map .ptrial)
      | none => .error (.exc .valueError) := by
  induction fs with
  | nil => rfl
  | cons f t ih =>
    simp only [List.map_cons, mapAllE, hF, ih, toProtoTrials]
    cases toProtoTrial f <;> cases toProtoTrials t <;> rfl

/-! ## the servicer

Every rpc method has the shape *decode the request; one backend call inside a `try` whose `except` clauses each abort with a
status code; encode the reply*.  `finishServicer_backend` is the statement about that shape, for any clause table, any
statements after the `try`, any backend answer; the methods are its instances (`GetAllStudies` has no `try`). -/

/-- the `except` clauses of a servicer method, from its table -/
def ladder : List (Exc × Status) → Stmt
  | [] => .reraise
  | (k, code) :: t => .onExc k (.abort code) (ladder t)

theorem exec_ladder (c : Ctx) (tbl : List (Exc × Status)) (s : Spec) (env : Env) (e : Err) :
    exec c (ladder tbl) { s := s, env := env, cur := some (excOf e) } = ({ s := s, env := env, cur := some (excOf e) },
      match tbl.find? (fun p => isSubclass (excOfErr e) p.1) with
      | some p => .aborted p.2
      | none => .raised (excOf e)) := by
  induction tbl with
  | nil => simp only [ladder, exec_reraise, List.find?_nil]
  | cons p t ih =>
    obtain ⟨k, code⟩ := p
    have hc : catches k (excOf e) = isSubclass (excOfErr e) k := rfl
    simp only [ladder, exec_onExc, hc, List.find?_cons, exec_abort, ih]
    cases isSubclass (excOfErr e) k <;> rfl

theorem finish_ok (rpc : Rpc) (s' : Spec) (o : Out) (f : Out → Option Reply) (v : Val) (h : outVal o = .ok v) :
    finish rpc (s', o) f = (s', match f o with | some rep => .ok rep | none => .abort .unknown) := by
  cases o with
  | err e => cases h
  | _ => simp only [finish]; split <;> simp only [*]

/-- **the shape of a servicer method.**  After the backend answered `r` to `op`: an error goes through the ladder of `rpc` and
aborts with `abortStatus rpc e` (or leaves the handler uncaught: `UNKNOWN`); a value is bound and the rest of the body runs.  `htail`
is what is left to show of a method: that the rest of its body encodes a value of the shape `op` answers with as `f` does. -/
theorem finishServicer_backend (c : Ctx) (rpc : Rpc) (op : Op) {tail : Stmt} {st : St} {into : Option String} {r : Spec × Out}
    {f : Out → Option Reply} (hs : shapeOK op r.2 = true)
    (htail : ∀ o v, shapeOK op o = true → outVal o = .ok v →
      finishServicer (exec c tail (bindInto { st with s := r.1 } into v)) =
        some (r.1, match f o with | some rep => .ok rep | none => .abort .unknown)) :
    finishServicer (thenExec (exec c tail) (handleTry (exec c (ladder (GrpcTables.servicerCatches rpc))) (afterBackend st into r))) =
      some (finish rpc r f) := by
  obtain ⟨s', o⟩ := r
  cases ho : outVal o with
  | error e =>
    have : o = .err e := by cases o <;> first | (cases ho; rfl) | cases ho
    subst this
    simp only [afterBackend, outVal, handleTry_raised, exec_ladder, finish, abortStatus]
    cases (GrpcTables.servicerCatches rpc).find? (fun p => isSubclass (excOfErr e) p.1) <;> rfl
  | ok v => simp only [afterBackend, ho, handleTry_next, thenExec_next, htail o v hs ho, finish_ok rpc s' o f v ho]

/-- run a servicer body up to its backend call -/
syntax "srv_expose" "[" ident,* "]" : tactic
macro_rules
  | `(tactic| srv_expose [$bs,*]) => `(tactic|
    simp only [$[$bs:ident],*, GrpcMethods.program, GrpcMethods.servicer, interpServicer, grpc_ir, String.reduceBEq, cond_true, cond_false])

/-- the `htail` of a method whose reply is a constructor applied to the backend's value: by the shape of the answer -/
syntax "srv_close" : tactic
macro_rules
  | `(tactic| srv_close) => `(tactic|
    (intro o v hs hv
     cases o <;> first | exact Bool.noConfusion hs | (cases hv <;> rfl)))


theorem interp_servicer_createNewTrial (c : Ctx) (hc : Conv c) (s : Spec) (sid : Nat) (pt : PTrial) (b : Bool) :
    interpServicer GrpcMethods.servicerCreateNewTrial c s (.createNewTrial sid pt b) = some (servicer s c.ir (.createNewTrial sid pt b)) := by
  cases b
  · srv_expose [GrpcMethods.servicerCreateNewTrial]
    simp only [hc.fromTrial, servicer, Bool.false_eq_true, if_false]
    -- the template is decoded before the `try`: a failure leaves the handler uncaught
    cases fromProtoTrial pt with
    | error e => rfl
    | ok f =>
      simp only [grpc_ir]
      exact finishServicer_backend c .createNewTrial (.createTrial sid (some f.body) c.ir) (step_shape _ _) (by srv_close)
  · srv_expose [GrpcMethods.servicerCreateNewTrial]
    exact finishServicer_backend c .createNewTrial (.createTrial sid none c.ir) (step_shape _ _) (by srv_close)

theorem interp_servicer_setTrialStateValues (c : Ctx) (hc : Conv c) (s : Spec) (tid st : Nat) (vs : List XVal) :
    interpServicer GrpcMethods.servicerSetTrialStateValues c s (.setTrialStateValues tid st vs) = some (servicer s c.ir (.setTrialStateValues tid st vs)) := by
  -- `list(request.values) if request.values else None` is `decodeValues setStateValuesDecode`
  cases vs <;>
  · srv_expose [GrpcMethods.servicerSetTrialStateValues]
    simp only [List.isEmpty, Bool.false_eq_true, if_true, if_false, grpc_ir, String.reduceBEq, cond_true,
      cond_false, hc.fromState, servicer]
    -- an unknown state number is a `ValueError` inside the `try`, which no clause catches
    cases stateFromProto st with
    | none => rfl
    | some st' =>
      simp only [grpc_ir]
      exact finishServicer_backend c .setTrialStateValues (.setTrialStateValues tid st' _) (step_shape _ _) (by srv_close)

theorem interp_servicer_getTrial (c : Ctx) (hc : Conv c) (s : Spec) (tid : Nat) :
    interpServicer GrpcMethods.servicerGetTrial c s (.getTrial tid) = some (servicer s c.ir (.getTrial tid)) := by
  srv_expose [GrpcMethods.servicerGetTrial]
  refine finishServicer_backend c .getTrial (.getTrial tid) (step_shape _ _) ?_
  intro o v hs hv
  cases o with
  | trial id t =>
    cases hv
    simp only [grpc_ir, String.reduceBEq, cond_true, cond_false, hc.toTrial]
    cases toProtoTrial (frozenOf (id, t)) <;> rfl
  | err e => cases hv
  | _ => cases hs

theorem interp_servicer_getAllStudies (c : Ctx) (s : Spec) :
    interpServicer GrpcMethods.servicerGetAllStudies c s .getAllStudies = some (servicer s c.ir .getAllStudies) := by
  srv_expose [GrpcMethods.servicerGetAllStudies]
  simp only [servicer]
  have hs := step_shape s .getAllStudies
  generalize step s .getAllStudies = r at hs ⊢
  obtain ⟨s', o⟩ := r
  cases o with
  | studies l =>
    simp only [afterBackend, outVal, thenExec_next, grpc_ir, String.reduceBEq, cond_true, cond_false, elems]
    rw [mapAllE_map_ok Val.study _ (fun p => Val.pstudy (toProtoStudy p)) l (fun a => rfl)]
    simp only [collect]
    rw [mapAll_map_some (fun p => Val.pstudy (toProtoStudy p)) asPStudy toProtoStudy l (fun a => rfl)]
    rfl
  -- no `try`: the exception leaves the handler, which is what the empty table of the rpc says
  | err e => rfl
  | _ => cases hs

theorem interp_servicer_getTrials (c : Ctx) (hc : Conv c) (s : Spec) (sid : Nat) (inc : List Nat) (w : Int) :
    interpServicer GrpcMethods.servicerGetTrials c s (.getTrials sid inc w) = some (servicer s c.ir (.getTrials sid inc w)) := by
  srv_expose [GrpcMethods.servicerGetTrials]
  refine finishServicer_backend c .getTrials (.getAllTrials sid none) (step_shape _ _) ?_
  intro o v hs hv
  cases o with
  | trials l =>
    cases hv
    simp only [grpc_ir, String.reduceBEq, cond_true, cond_false, elems, List.map_map]
    rw [filterE_map_ok (Val.frozen ∘ frozenOf) _ (fun p => decide ((p.1 : Int) > w) || inc.contains p.1) l (by
      intro a
      simp only [evalElem, grpc_ir, String.reduceBEq, cond_true, cond_false, Function.comp, frozenOf, Int.natCast_nonneg, decide_true,
        Bool.true_and, Int.toNat_natCast]
      cases decide ((a.1 : Int) > w) <;> rfl)]
    simp only [← List.map_map]
    rw [mapAllE_toProtoTrials _ (fun f => by simp only [evalElem, grpc_ir, String.reduceBEq, cond_true, hc.toTrial]; rfl)]
    unfold Cache.servicerFilter
    cases toProtoTrials ((l.filter (fun p => decide ((p.1 : Int) > w) || inc.contains p.1)).map frozenOf) with
    | none => rfl
    | some ps =>
      simp only [collect, grpc_ir]
      rw [mapAll_map_some Val.ptrial asPTrial id ps (fun a => rfl)]
      simp only [List.map_id, Option.map_some]
      rfl
  | err e => cases hv
  | _ => cases hs


/-- **every rpc method of `OptunaStorageProxyService`, as written today, is `Proto.servicer`** — for every request, every backend
state, whatever denotations of the four converter functions agree with the hand model -/
theorem gen_servicer_hand (c : Ctx) (hc : Conv c) (s : Spec) (rq : Req) :
    interpServicer (program.servicer rq.rpc) c s rq = some (servicer s c.ir rq) := by
  cases rq with
  | getAllStudies => exact interp_servicer_getAllStudies c s
  | createNewTrial sid pt b => exact interp_servicer_createNewTrial c hc s sid pt b
  | setTrialStateValues tid st vs => exact interp_servicer_setTrialStateValues c hc s tid st vs
  | getTrial tid => exact interp_servicer_getTrial c hc s tid
  | getTrials sid inc w => exact interp_servicer_getTrials c hc s sid inc w
  | _ =>
    srv_expose [GrpcMethods.servicerCreateNewStudy, GrpcMethods.servicerDeleteStudy, GrpcMethods.servicerSetStudyUserAttribute,
      GrpcMethods.servicerSetStudySystemAttribute, GrpcMethods.servicerGetStudyIdFromName,
      GrpcMethods.servicerGetStudyNameFromId, GrpcMethods.servicerGetStudyDirections,
      GrpcMethods.servicerGetStudyUserAttributes, GrpcMethods.servicerGetStudySystemAttributes,
      GrpcMethods.servicerSetTrialParameter, GrpcMethods.servicerGetTrialIdFromStudyIdTrialNumber,
      GrpcMethods.servicerSetTrialIntermediateValue, GrpcMethods.servicerSetTrialUserAttribute,
      GrpcMethods.servicerSetTrialSystemAttribute]
    -- the rpc and the operation are read off `Proto.servicer`'s side of the equation, so that side is unified first
    symm
    refine (finishServicer_backend c _ _ (step_shape _ _) ?_).symm
    srv_close

/-- `_to_proto_trial_state` as written today is the table function of the hand model -/
theorem interp_toProtoState (t : TState) : program.toProtoStateG t = stateToProto t := by
  cases t <;> rfl

/-- `_from_proto_trial_state` as written today, on every number -/
theorem interp_fromProtoState (n : Nat) : program.fromProtoStateG n = stateFromProto n := by
  match n with
  | 0 => rfl
  | 1 => rfl
  | 2 => rfl
  | 3 => rfl
  | 4 => rfl
  | n + 5 => rfl

example : program.fromProtoStateG 3 = some .fail ∧ program.fromProtoStateG 9 = none ∧ program.toProtoStateG .pruned = some 2 := by decide

theorem lookup_map_isSome (ps : AList Param) (p : String × Param) (hp : p ∈ ps) :
    (Proto.lookup (ps.map fun q => (q.1, q.2.dist)) p.1).isSome = true := by
  induction ps with
  | nil => cases hp
  | cons q t ih =>
    simp only [List.map_cons, Proto.lookup]
    by_cases h : q.1 = p.1
    · simp [h]
    · simp only [h, if_false]
      rcases List.mem_cons.1 hp with rfl | hm
      · exact absurd rfl h
      · exact ih hm

theorem all_lookup_self (ps : AList Param) :
    (ps.all fun p => (lookupD (ps.map fun q => (q.1, q.2.dist)) p.1).isSome) = true := by
  rw [List.all_eq_true]
  intro p hp
  exact lookup_map_isSome ps p hp

/-- `_to_proto_trial` as written today is `Proto.toProtoTrial` (over the generated `_to_proto_trial_state`) -/
theorem interp_toProtoTrial (f : Frozen) : program.toProtoTrialG f = toProtoTrial f := by
  have hall := all_lookup_self f.body.params
  have hp : program.toProtoTrial = GrpcMethods.conv_to_proto_trial := rfl
  obtain ⟨id, number, ⟨state, values, params, ua, sa, inter, hasStart, hasComplete⟩⟩ := f
  simp only [Program.toProtoTrialG, interpFn, interpClient, hp, GrpcMethods.conv_to_proto_trial, bindParams, Option.map, grpc_ir,
    String.reduceBEq, cond_true, cond_false, hall, if_true, Program.ctx1, interp_toProtoState, toProtoTrial]
  cases stateToProto state with
  | none => rfl
  | some st => cases hasStart <;> cases hasComplete <;> cases values <;> rfl

/-- `strptime(x) if x else None` on a datetime text: present iff the text is not empty (`strptime` is never reached with
the empty text) -/
theorem eval_optStrptime (c : Ctx) (env : Env) (e : Expr) (s : String) (h : eval c env e = .ok (.str s)) :
    eval c env (.ifElse e (.call1 .strptime e) .none) = .ok (if decodeDt s then .dt else .none) := by
  simp only [eval, h, truthy_str, applyFn, decodeDt, bne]
  by_cases hs : (s == "") = true <;> simp only [hs, Bool.not_true, Bool.not_false, if_true, if_false, Bool.false_eq_true]

/-- `x if x else None` on a `repeated double` is `decodeValues trialValuesDecode` -/
theorem eval_optValues (c : Ctx) (env : Env) (e : Expr) (l : List XVal) (h : eval c env e = .ok (.xvals l)) :
    eval c env (.ifElse e e .none) = .ok (optXvals (decodeValues GrpcTables.trialValuesDecode l)) := by
  simp only [eval, h, truthy_xvals]
  cases l <;> rfl

theorem optDt_ite (b : Bool) : optDt (if b then .dt else .none) = some b := by cases b <;> rfl
theorem optValues_optXvals (v : Option (List XVal)) : optValues (optXvals v) = some v := by cases v <;> rfl

/-- `_from_proto_trial` as written today is `Proto.fromProtoTrial` (over the generated `_from_proto_trial_state`): the same
decoded trial, the same error class, in the same order of precedence (parameter without distribution before unknown state) -/
theorem interp_fromProtoTrial (p : PTrial) : program.fromProtoTrialG p = fromProtoTrial p := by
  have hp : program.fromProtoTrial = GrpcMethods.conv_from_proto_trial := rfl
  have hfld : ∀ env, Env.get env "trial" = some (.ptrial p) → ∀ f v, ptrialField p f = some v →
      eval program.ctx1 env (.attr (.var "trial") f) = .ok v := by
    intro env h f v hv
    simp only [eval, h, getField, hv]
  -- the two datetime assignments
  simp only [Program.fromProtoTrialG, interpFn, interpClient, hp, GrpcMethods.conv_from_proto_trial, bindParams, Option.map,
    block_cons, block_one, exec_seq, exec_assign, Env.set_eq]
  rw [eval_optStrptime _ _ _ p.datetimeStart (hfld _ rfl _ _ rfl)]
  simp only [thenExec_next, exec_seq, exec_assign, Env.set_eq]
  rw [eval_optStrptime _ _ _ p.datetimeComplete (hfld _ rfl _ _ rfl)]
  -- `distributions`, then `params`: the first thing that can fail
  simp only [grpc_ir, String.reduceBEq, cond_true, cond_false, fromProtoTrial]
  cases joinParams p.distributions p.params with
  | none => rfl
  | some ps =>
    -- the fields of the `FrozenTrial(...)` call; the state is the second thing that can fail
    simp only [thenExec_next, exec_ret, eval_msg, evalFields]
    rw [eval_optValues _ _ _ p.values (hfld _ rfl _ _ rfl)]
    simp only [grpc_ir, String.reduceBEq, cond_true, cond_false, Program.ctx1, interp_fromProtoState]
    cases stateFromProto p.state with
    | none => rfl
    | some st =>
      simp only [mkFrozen, KV.get, reduceCtorEq, if_true, if_false, Option.bind, optDt_ite, optValues_optXvals, Option.map]
      rfl

example : program.fromProtoTrialG { PTrial.empty with params := [("a", "1")] } = .error .keyError ∧
    program.fromProtoTrialG { PTrial.empty with state := 9 } = .error .valueError ∧
    (program.toProtoTrialG { id := 3, number := 1, body := { state := .complete, values := some [], params := [("z", ⟨"1/2", ⟨0, false, "F"⟩⟩), ("a", ⟨"2/1", ⟨1, false, "I"⟩⟩)], userAttrs := [], systemAttrs := [], inter := [], hasStart := true, hasComplete := false } }).map (·.params) = some [("a", "2/1"), ("z", "1/2")] :=
  ⟨rfl, rfl, rfl⟩

/-- the converter functions of a program, interpreted, are the hand model's; stated about `P.…G`, not about a context built
from `P`, so that instantiating it at `program` unfolds no context -/
structure ConvG (P : Program) : Prop where
  toTrial : P.toProtoTrialG = toProtoTrial
  fromTrial : P.fromProtoTrialG = fromProtoTrial
  toState : P.toProtoStateG = stateToProto
  fromState : P.fromProtoStateG = stateFromProto

theorem convG : ConvG program :=
  ⟨funext interp_toProtoTrial, funext interp_fromProtoTrial, funext interp_toProtoState, funext interp_fromProtoState⟩

theorem ConvG.ctx2 {P : Program} (h : ConvG P) (ir : Bool) : Conv (P.ctx2 ir) := ⟨h.toTrial, h.fromTrial, h.toState, h.fromState⟩

/-- **the generated servicer (generated rpc methods over the generated converter functions) is `Proto.servicer`** -/
theorem gen_servicer_eq (s : Spec) (ir : Bool) (rq : Req) : program.serveG s ir rq = servicer s ir rq := by
  unfold Program.serveG
  rw [gen_servicer_hand _ (convG.ctx2 ir)]
  rfl

example : program.serveG Storage.init false (.getTrial 0) = (Storage.init, .abort .notFound) := by decide

/-! ## the client

Every method of `GrpcStorageProxy` has the shape *encode the request; one stub call inside a `try` whose
`except grpc.RpcError` clause turns status codes back into exceptions; decode the reply*.  `finishClient_stub` is the statement
about that shape; the methods are its instances. -/

structure Wired (c : Ctx) : Prop extends Conv c where
  serve : c.serve = servicer
  read : c.readTrials = readTrialsHand

theorem ConvG.ctx3 {P : Program} (h : ConvG P) (hs : P.serveG = servicer) (ir : Bool) (u : String) : Wired (P.ctx3 ir u) :=
  { toConv := ⟨h.toTrial, h.fromTrial, h.toState, h.fromState⟩, serve := hs, read := rfl }

theorem ConvG.ctx {P : Program} (h : ConvG P) (hs : P.serveG = servicer) (hr : P.readTrialsG = readTrialsHand) (ir : Bool) (u : String) :
    Wired (P.ctx ir u) :=
  { toConv := ⟨h.toTrial, h.fromTrial, h.toState, h.fromState⟩, serve := hs, read := hr }

theorem poutOfExn_excOf (e : Err) : poutOfExn (excOf e) = .ok (.err e) := by cases e <;> rfl

theorem poutOfExn_rpcExn (rpc : Rpc) (code : Status) : poutOfExn (rpcExn rpc code) = clientError rpc code := by
  unfold rpcExn clientError
  cases Proto.lookup (GrpcTables.clientRaises rpc) code <;> rfl

theorem finish_ok_inv (rpc : Rpc) (r : Spec × Out) (f : Out → Option Reply) (rep : Reply) (h : (finish rpc r f).2 = .ok rep) :
    ∃ o, f o = some rep := by
  obtain ⟨s', o⟩ := r
  refine ⟨o, ?_⟩
  cases o with
  | err e => cases h
  | _ => simp only [finish] at h; split at h <;> first | (cases h; assumption) | cases h

/-- the `if e.code() == …: raise …` tests of a client method, from its table; `last` runs when none matches -/
def elifs : List (Status × Exc) → Stmt → Stmt
  | [], last => last
  | (code, k) :: t, last => .ifCode code (.raise k) (elifs t last)

theorem exec_elifs (c : Ctx) (tbl : List (Status × Exc)) (last : Stmt) (s : Spec) (env : Env) (code : Status) :
    exec c (elifs tbl last) { s := s, env := env, cur := some (.rpc code) } =
      match Proto.lookup tbl code with
      | some k => ({ s := s, env := env, cur := some (.rpc code) }, .raised (.exc k))
      | none => exec c last { s := s, env := env, cur := some (.rpc code) } := by
  induction tbl with
  | nil => rfl
  | cons p t ih =>
    obtain ⟨k', x⟩ := p
    simp only [elifs, exec_ifCode, exec_raise, Proto.lookup, ih]
    by_cases h : k' = code
    · subst h; simp only [if_true]
    · rw [if_neg h, if_neg fun e => h e.symm]

/-- `H` is the `except grpc.RpcError` clause as client.py writes it for `rpc`: the tests of `clientRaises rpc` and a bare `raise`,
after them or as their `else` -/
def IsClause (rpc : Rpc) (H : Stmt) : Prop :=
  H = block [elifs (GrpcTables.clientRaises rpc) .skip, .reraise] ∨ H = elifs (GrpcTables.clientRaises rpc) .reraise

theorem exec_clause (c : Ctx) {rpc : Rpc} {H : Stmt} (h : IsClause rpc H) (s : Spec) (env : Env) (code : Status) :
    exec c H { s := s, env := env, cur := some (.rpc code) } =
      ({ s := s, env := env, cur := some (.rpc code) }, .raised (rpcExn rpc code)) := by
  rcases h with rfl | rfl <;> simp only [block_cons, block_one, exec_seq, exec_elifs, rpcExn] <;>
    cases Proto.lookup (GrpcTables.clientRaises rpc) code <;> rfl

/-- **the shape of a client method.**  After the stub call came back with `a`: a status code goes through the
`except grpc.RpcError` clause, which raises what `clientRaises` says for `rpc` (`hH`: the clause of the method is the one written
from that table); a reply is bound and the rest `K` of the body runs (`htail`: it decodes the reply as `g` does). -/
theorem finishClient_stub (c : Ctx) (rpc : Rpc) {H : Stmt} (K : St × Flow → St × Flow) {st : St} {into : Option String}
    {a : Spec × Resp} (op : Op) {g : Reply → Option POut}
    (hK : ∀ st e, K (st, .raised e) = (st, .raised e))
    (hH : IsClause rpc H)
    (htail : ∀ rep, a.2 = .ok rep →
      (finishClient (K (bindInto { st with s := a.1 } into (.reply rep), .next))).map (fun r => (r.1, poutOf op r.2)) =
        some (a.1, match g rep with | some o => o | none => .raised .exception)) :
    (finishClient (K (handleTry (exec c (.onRpcError H .reraise)) (afterStub st into a)))).map (fun r => (r.1, poutOf op r.2)) =
      some (recv rpc a g) := by
  obtain ⟨s', resp⟩ := a
  cases resp with
  | abort code =>
    simp only [afterStub, handleTry_raised, exec_onRpcError, exec_clause c hH, hK, finishClient, Option.map, poutOf, poutOfExn_rpcExn, recv]
  | ok rep =>
    simp only [afterStub, handleTry_next, recv]
    rw [htail rep rfl]
    cases g rep <;> rfl

/-- run a client method up to its stub call -/
syntax "cli_expose" "[" ident,* "]" : tactic
macro_rules
  | `(tactic| cli_expose [$bs,*]) => `(tactic|
    simp only [$[$bs:ident],*, callPrimary, GrpcMethods.program, interpClient, Option.map_some, grpc_ir, String.reduceBEq, cond_true, cond_false, if_true,
      if_false, reduceCtorEq, Option.bind, bind, optXvals])

/-- the `htail` of a method whose stub call reaches a `finish` of `Proto.servicer`: the reply is the encoding of an answer of the
backend (`finish_ok_inv`), so the rest of the body runs on the one reply shape of that rpc -/
syntax "cli_close" : tactic
macro_rules
  | `(tactic| cli_close) => `(tactic|
    (intro rep h
     obtain ⟨o, ho⟩ := finish_ok_inv _ _ _ _ h
     cases o <;> cases ho
     rfl))

/-- `study_name or DEFAULT_STUDY_NAME_PREFIX + str(uuid.uuid4())` -/
theorem orElse_studyName (u name : String) :
    (if truthy (.str name) = true then (Except.ok (Val.str name) : Except Exn Val) else .ok (.str ("no-name-" ++ u))) =
      .ok (.str (clientStudyName u name)) := by
  rw [truthy_str]
  unfold clientStudyName
  by_cases h : name = ""
  · subst h; rfl
  · have h' : (name != "") = true := by simpa using h
    simp only [h', h, if_true, if_false]

theorem interp_client_createStudy (c : Ctx) (hw : Wired c) (s : Spec) (name : String) (dirs : List Nat)
    (hir : c.ir = implRaisedOf (.createStudy name dirs)) :
    callPrimary program c s (.createStudy name dirs) = some (proxyStep s c.uuid (.createStudy name dirs)) := by
  simp only [implRaisedOf] at hir
  simp only [callPrimary, GrpcMethods.program, GrpcMethods.client_create_new_study, interpClient, Option.map, grpc_ir, String.reduceBEq,
    cond_true, cond_false, orElse_studyName]
  cli_expose [GrpcMethods.client_create_new_study]
  simp only [hw.serve, hir]
  exact finishClient_stub c .createNewStudy (thenExec (exec c _)) (.createStudy name dirs) (fun _ _ => rfl)
    (by exact .inl rfl) (by cli_close)

theorem interp_client_createTrial (c : Ctx) (hw : Wired c) (s : Spec) (sid : Nat) (tmpl : Option Template) (ir : Bool)
    (hir : c.ir = implRaisedOf (.createTrial sid tmpl ir)) :
    callPrimary program c s (.createTrial sid tmpl ir) = some (proxyStep s c.uuid (.createTrial sid tmpl ir)) := by
  simp only [implRaisedOf] at hir
  cases tmpl with
  | none =>
    cli_expose [GrpcMethods.client_create_new_trial]
    simp only [hw.serve, hir]
    exact finishClient_stub c .createNewTrial (thenExec (exec c _)) (.createTrial sid none ir) (fun _ _ => rfl)
      (by exact .inl rfl) (fun rep _ => by cases rep <;> rfl)
  | some tm =>
    cli_expose [GrpcMethods.client_create_new_trial]
    simp only [hw.toTrial, proxyStep]
    -- the template is encoded before the `try`: a `ValueError` of `_to_proto_trial_state` reaches the caller as it is
    cases toProtoTrial { id := -1, number := -1, body := tm } with
    | none => rfl
    | some pt =>
      cli_expose [GrpcMethods.client_create_new_trial]
      simp only [hw.serve, hir]
      exact finishClient_stub c .createNewTrial (thenExec (exec c _)) (.createTrial sid (some tm) ir) (fun _ _ => rfl)
        (by exact .inl rfl) (fun rep _ => by cases rep <;> rfl)

theorem interp_client_setTrialStateValues (c : Ctx) (hw : Wired c) (s : Spec) (tid : Nat) (st : TState) (vs : Option (List XVal))
    (hir : c.ir = implRaisedOf (.setTrialStateValues tid st vs)) :
    callPrimary program c s (.setTrialStateValues tid st vs) = some (proxyStep s c.uuid (.setTrialStateValues tid st vs)) := by
  simp only [implRaisedOf] at hir
  cli_expose [GrpcMethods.client_set_trial_state_values]
  simp only [hw.toState, proxyStep]
  cases stateToProto st with
  | none => cases vs <;> rfl
  | some n =>
    -- `values=values`: `None` and a list are both the `repeated double` field (`encodeValues`)
    cases vs <;>
    · cli_expose [GrpcMethods.client_set_trial_state_values]
      simp only [hw.serve, hir, encodeValues]
      exact finishClient_stub c .setTrialStateValues (thenExec (exec c _)) (.setTrialStateValues tid st _) (fun _ _ => rfl)
        (by exact .inr rfl) (fun rep _ => by cases rep <;> rfl)

theorem interp_client_getTrial (c : Ctx) (hw : Wired c) (s : Spec) (tid : Nat) (hir : c.ir = implRaisedOf (.getTrial tid)) :
    callPrimary program c s (.getTrial tid) = some (proxyStep s c.uuid (.getTrial tid)) := by
  simp only [implRaisedOf] at hir
  cli_expose [GrpcMethods.client_get_trial]
  simp only [hw.serve, hir, proxyStep, fetchTrial]
  generalize servicer s false (.getTrial tid) = r
  obtain ⟨s', resp⟩ := r
  cases resp with
  | abort code => cases code <;> rfl
  | ok rep =>
    cases rep with
    | trial p =>
      simp only [afterStub, grpc_ir, String.reduceBEq, cond_true, cond_false, hw.fromTrial, finishClient,
        poutOf]
      cases fromProtoTrial p with
      | error e => cases e <;> rfl
      | ok f => rfl
    | _ => rfl

theorem interp_client_getAllStudies (c : Ctx) (hw : Wired c) (s : Spec) (hir : c.ir = implRaisedOf .getAllStudies) :
    callPrimary program c s .getAllStudies = some (proxyStep s c.uuid .getAllStudies) := by
  simp only [implRaisedOf] at hir
  cli_expose [GrpcMethods.client_get_all_studies]
  simp only [hw.serve, hir, proxyStep]
  generalize servicer s false .getAllStudies = r
  obtain ⟨s', resp⟩ := r
  cases resp with
  -- no `try`: the `RpcError` reaches the caller, which is what the empty table of the rpc says
  | abort code => rfl
  | ok rep =>
    cases rep with
    | studies ps =>
      simp only [afterStub, grpc_ir, String.reduceBEq, cond_true, cond_false, elems]
      rw [mapAllE_map_ok Val.pstudy _ (fun p => Val.study (fromProtoStudy p)) ps (fun a => rfl)]
      simp only [collect]
      rw [mapAll_map_some (fun p => Val.study (fromProtoStudy p)) asStudy fromProtoStudy ps (fun a => rfl)]
      rfl
    | _ => rfl

/-- `[_from_proto_trial(p) for p in ps]` is `Proto.fromProtoTrials` (the first failure decides the class in both) -/
theorem mapAllE_fromProtoTrials (F : Val → Except Exn Val)
    (hF : ∀ p, F (.ptrial p) = match fromProtoTrial p with | .ok f => .ok (.frozen f) | .error e => .error (excOf e))
    (ps : List PTrial) :
    mapAllE F (ps.map .ptrial) = match fromProtoTrials ps with
      | .ok fs => .ok (fs.map .frozen)
      | .error e => .error (excOf e) := by
  induction ps with
  | nil => rfl
  | cons p t ih =>
    simp only [List.map_cons, mapAllE, hF, ih, fromProtoTrials]
    cases fromProtoTrial p <;> cases fromProtoTrials t <;> rfl

/-- the wire half of `GrpcClientCache._read_trials_from_remote_storage` as written today, on a fresh entry, over the generated
servicer, is the hand model's cold read -/
theorem interp_client_readTrials (s : Spec) (sid : Nat) : program.readTrialsG s sid = readTrialsHand s sid := by
  have hw : Wired (program.ctx3 false "") := convG.ctx3 (funext fun s => funext fun ir => funext (gen_servicer_eq s ir)) false ""
  have hir : (program.ctx3 false "").ir = false := rfl
  -- the context only matters through `hw` and `hir`
  unfold Program.readTrialsG
  generalize program.ctx3 false "" = c at hw hir
  simp only [readTrialsHand]
  cli_expose [GrpcMethods.client_read_trials]
  simp only [hw.serve, hir]
  generalize servicer s false (.getTrials sid [] (-1)) = r
  obtain ⟨s', resp⟩ := r
  cases resp with
  | abort code => cases code <;> rfl
  | ok rep =>
    cases rep with
    | trials ps =>
      cases ps with
      | nil => rfl
      | cons p t =>
        simp only [afterStub, grpc_ir, String.reduceBEq, cond_true, cond_false, elems, List.isEmpty]
        rw [mapAllE_fromProtoTrials _ (fun p => by simp only [evalElem, grpc_ir, String.reduceBEq, cond_true, hw.fromTrial]; rfl)]
        cases fromProtoTrials (p :: t) with
        | error e => rfl
        | ok fs =>
          simp only [collect]
          rw [mapAll_map_some Val.frozen asFrozen id fs (fun a => rfl)]
          simp only [List.map_id, Option.map_some]
          rfl
    | _ => rfl

theorem filter_trialOfFrozen (sts : Option (List TState)) (fs : List Frozen) :
    (fs.map trialOfFrozen).filter (fun p => stateIn sts p.2.state) = (fs.filter (fun f => stateIn sts f.body.state)).map trialOfFrozen := by
  induction fs with
  | nil => rfl
  | cons f t ih =>
    simp only [List.map_cons, List.filter_cons, ih]
    have : (trialOfFrozen f).2.state = f.body.state := rfl
    rw [this]
    cases stateIn sts f.body.state <;> rfl

theorem interp_client_getAllTrials_aux (c : Ctx) (hw : Wired c) (s : Spec) (sid : Nat) (sts : Option (List TState)) (sv : Val)
    (hso : statesOf sv = some sts) :
    (interpClient GrpcMethods.client_get_all_trials c s [.nat sid, .bool true, sv]).map
        (fun r => (r.1, poutOf (.getAllTrials sid sts) r.2)) = some (proxyStep s c.uuid (.getAllTrials sid sts)) := by
  cli_expose [GrpcMethods.client_get_all_trials]
  simp only [hso, hw.read, readTrialsHand, proxyStep, fetchAll]
  generalize servicer s false (.getTrials sid [] (-1)) = r
  obtain ⟨s', resp⟩ := r
  cases resp with
  | abort code =>
    simp only [afterRead, thenExec_raised, finishClient, Option.map_some, poutOf, poutOfExn_rpcExn]
  | ok rep =>
    cases rep with
    | trials ps =>
      cases hf : fromProtoTrials ps with
      | error e =>
        simp only [hf, afterRead, thenExec_raised, finishClient, Option.map_some, poutOf, poutOfExn_excOf]
      | ok fs =>
        simp only [hf, afterRead, grpc_ir, String.reduceBEq, cond_true, cond_false, if_true, finishClient, Option.map_some, poutOf,
          retOut, filter_trialOfFrozen]
    | _ => rfl

theorem interp_client_getAllTrials (c : Ctx) (hw : Wired c) (s : Spec) (sid : Nat) (sts : Option (List TState)) :
    callPrimary program c s (.getAllTrials sid sts) = some (proxyStep s c.uuid (.getAllTrials sid sts)) := by
  have hp : program.getAllTrials = GrpcMethods.client_get_all_trials := rfl
  have h := interp_client_getAllTrials_aux c hw s sid sts (optStates sts) (by cases sts <;> rfl)
  simp only [callPrimary, clientCall, hp]
  exact h

theorem wired_ctx (ir : Bool) (u : String) : Wired (program.ctx ir u) :=
  convG.ctx (funext fun s => funext fun ir => funext (gen_servicer_eq s ir)) (funext fun s => funext (interp_client_readTrials s)) ir u

/-- every method of `GrpcStorageProxy` that has a body of its own, as written today, over callees that denote the wire model -/
theorem primary_eq (c : Ctx) (hw : Wired c) (s : Spec) (op : Op) (hir : c.ir = implRaisedOf op) (h : (clientCall program op).isSome) :
    callPrimary program c s op = some (proxyStep s c.uuid op) := by
  cases op with
  | createStudy name dirs => exact interp_client_createStudy c hw s name dirs hir
  | createTrial sid tmpl ir => exact interp_client_createTrial c hw s sid tmpl ir hir
  | setTrialStateValues tid st vs => exact interp_client_setTrialStateValues c hw s tid st vs hir
  | getAllStudies => exact interp_client_getAllStudies c hw s hir
  | getTrial tid => exact interp_client_getTrial c hw s tid hir
  | getAllTrials sid sts => exact interp_client_getAllTrials c hw s sid sts
  | getTrialNumberFromId _ | getTrialParam _ _ | getNTrials _ _ | getBestTrial _ => cases h
  -- in the three groups below the rpc and the operation are read off `Proto.proxyStep`'s side of the equation, so that side is
  -- unified first
  | setStudyUserAttr _ _ _ | setStudySystemAttr _ _ _ =>
    -- the `try` is the last statement
    cli_expose [GrpcMethods.client_set_study_user_attr, GrpcMethods.client_set_study_system_attr, hw.serve, hir]
    symm
    exact (finishClient_stub c _ id _ (fun _ _ => rfl) (by exact .inl rfl) (by cli_close)).symm
  | setTrialParam _ _ _ _ | setTrialInter _ _ _ | setTrialUserAttr _ _ _ | setTrialSystemAttr _ _ _ =>
    -- the same, the bare `raise` being the `else` of the tests
    cli_expose [GrpcMethods.client_set_trial_param, GrpcMethods.client_set_trial_intermediate_value, GrpcMethods.client_set_trial_user_attr,
      GrpcMethods.client_set_trial_system_attr, hw.serve, hir]
    symm
    exact (finishClient_stub c _ id _ (fun _ _ => rfl) (by exact .inr rfl) (by cli_close)).symm
  | _ =>
    -- a statement follows the `try`: a field of the reply is returned (`delete_study`: the cache entry is dropped)
    cli_expose [GrpcMethods.client_delete_study, GrpcMethods.client_get_study_id_from_name, GrpcMethods.client_get_study_name_from_id,
      GrpcMethods.client_get_study_directions, GrpcMethods.client_get_study_user_attrs, GrpcMethods.client_get_study_system_attrs,
      GrpcMethods.client_get_trial_id_from_study_id_trial_number, hw.serve, hir]
    symm
    exact (finishClient_stub c _ (thenExec (exec c _)) _ (fun _ _ => rfl) (by exact .inl rfl)
      (by cli_close)).symm

/-- what the caller of the proxy gets when a call fails: an exception of any kind, never a return value -/
inductive Failure : POut → Prop
  | err (e : Err) : Failure (.ok (.err e))
  | rpcError (c : Status) : Failure (.rpcError c)
  | raised (k : Exc) : Failure (.raised k)

theorem clientError_failure (rpc : Rpc) (c : Status) : Failure (clientError rpc c) := by
  unfold clientError
  split
  · split
    · exact .err _
    · exact .raised _
  · exact .rpcError _

theorem fetchTrial_failure {s s' : Spec} {tid : Nat} {o : POut} (h : fetchTrial s tid = (s', .error o)) : Failure o := by
  simp only [fetchTrial] at h
  split at h
  · cases h; exact clientError_failure _ _
  · split at h <;> cases h; exact .err _
  · cases h; exact .raised _

theorem fetchAll_failure {s s' : Spec} {sid : Nat} {o : POut} (h : fetchAll s sid = (s', .error o)) : Failure o := by
  simp only [fetchAll] at h
  split at h
  · cases h; exact clientError_failure _ _
  · split at h <;> cases h; exact .err _
  · cases h; exact .raised _

theorem gen_primary_eq (s : Spec) (u : String) (op : Op) (ir : Bool) (hir : ir = implRaisedOf op) (h : (clientCall program op).isSome) :
    callPrimary program (program.ctx ir u) s op = some (proxyStep s u op) :=
  primary_eq _ (wired_ctx ir u) s op hir h

theorem proxyStepGen_primary (s : Spec) (u : String) (op : Op) (h : (clientCall program op).isSome = true) :
    proxyStepGen program s u op = callPrimary program (program.ctx (implRaisedOf op) u) s op := by
  unfold proxyStepGen
  cases hc : clientCall program op with
  | none => rw [hc] at h; cases h
  | some x => rfl

/-- **gen_proxy_eq**: one call through the generated proxy — the client method as written today, its stub call reaching the
servicer method as written today, both over the converter functions as written today — is `Proto.proxyStep`, for every operation
of the contract, every backend state, every argument (the four `BaseStorage` defaults run on the generated `get_trial` /
`get_all_trials` / `get_study_directions`) -/
theorem gen_proxy_eq (s : Spec) (u : String) (op : Op) : proxyStepGen program s u op = some (proxyStep s u op) := by
  cases op with
  -- a default of `BaseStorage` passes on what its read raised (`Failure`: never a value) and works on what it returned
  | getTrialNumberFromId tid | getTrialParam tid _ =>
    simp only [proxyStepGen, clientCall, callDerived, implRaisedOf]
    rw [gen_primary_eq s u (.getTrial tid) false rfl rfl]
    simp only [proxyStep, Option.map]
    generalize hr : fetchTrial s tid = r
    obtain ⟨s', o | p⟩ := r
    · cases fetchTrial_failure hr <;> rfl
    · rfl
  | getNTrials sid sts =>
    simp only [proxyStepGen, clientCall, callDerived, implRaisedOf]
    rw [gen_primary_eq s u (.getAllTrials sid sts) false rfl rfl]
    simp only [proxyStep, Option.map]
    generalize hr : fetchAll s sid = r
    obtain ⟨s', o | l⟩ := r
    · cases fetchAll_failure hr <;> rfl
    · rfl
  | getBestTrial sid =>
    have hf : ∀ l : List (Nat × TrialS), l.filter (fun p => stateIn none p.2.state) = l := fun l =>
      List.filter_eq_self.2 (fun _ _ => rfl)
    simp only [proxyStepGen, clientCall, callDerived, implRaisedOf]
    rw [gen_primary_eq s u (.getAllTrials sid none) false rfl rfl]
    simp only [proxyStep]
    generalize hr : fetchAll s sid = r
    obtain ⟨s', o | l⟩ := r
    · cases fetchAll_failure hr <;> rfl
    · simp only [hf]
      rw [gen_primary_eq s' u (.getStudyDirections sid) false rfl rfl]
      simp only [proxyStep, Option.map, recv]
      generalize servicer s' false (.getStudyDirections sid) = r2
      obtain ⟨s2, rep | code⟩ := r2
      · cases rep <;> rfl
      · have h := clientError_failure .getStudyDirections code
        dsimp only
        generalize clientError .getStudyDirections code = o at h ⊢
        cases h <;> rfl
  | createTrial sid tmpl ir => cases tmpl <;> (rw [proxyStepGen_primary _ _ _ rfl]; exact gen_primary_eq s u _ _ rfl rfl)
  | _ => rw [proxyStepGen_primary _ _ _ rfl]; exact gen_primary_eq s u _ _ rfl rfl

def proxyRunGen : Spec → List (String × Op) → Option (Spec × List POut)
  | s, [] => some (s, [])
  | s, (u, op) :: rest =>
    match proxyStepGen program s u op with
    | none => none
    | some r => (proxyRunGen r.1 rest).map (fun q => (q.1, r.2 :: q.2))

theorem gen_proxy_run_eq (s : Spec) (h : List (String × Op)) : proxyRunGen s h = some (proxyRun s h) := by
  induction h generalizing s with
  | nil => rfl
  | cons hd t ih =>
    obtain ⟨u, op⟩ := hd
    simp only [proxyRunGen, gen_proxy_eq, ih, Option.map, proxyRun]

example : (proxyRunGen Storage.init [("u1", .createStudy "" [0]), ("", .createTrial 0 none false), ("", .getStudyDirections 0),
    ("", .getTrial 5)]).map (·.2) = some [.ok (.newId 0), .ok (.newId 0), .ok (.nats [2]), .ok (.err .keyError)] := by
  rw [gen_proxy_run_eq]; decide

def handlersOf : Stmt → Option Stmt
  | .tryExcept _ h => some h
  | .seq a b => match handlersOf a with | some h => some h | none => handlersOf b
  | .ite _ a b => match handlersOf a with | some h => some h | none => handlersOf b
  | _ => none

def emptySt (e : Exn) : St := { s := Storage.init, env := [], cur := some e }

/-- the status code the GENERATED servicer method answers with when its backend call raises `e` -/
def genAbortStatus (rpc : Rpc) (e : Err) : Status :=
  match handlersOf (program.servicer rpc) with
  | none => .unknown
  | some h => match exec (Ctx.hand false "") h (emptySt (excOf e)) with
    | (_, .aborted code) => code
    | _ => .unknown

/-- the client function whose body calls the stub of `rpc` (`GrpcTables.clientMethod`) -/
def clientMethodOf : Rpc → Method
  | .createNewStudy => program.createNewStudy | .deleteStudy => program.deleteStudy
  | .setStudyUserAttribute => program.setStudyUserAttr | .setStudySystemAttribute => program.setStudySystemAttr
  | .getStudyIdFromName => program.getStudyIdFromName | .getStudyNameFromId => program.getStudyNameFromId
  | .getStudyDirections => program.getStudyDirections | .getStudyUserAttributes => program.getStudyUserAttrs
  | .getStudySystemAttributes => program.getStudySystemAttrs | .getAllStudies => program.getAllStudies
  | .createNewTrial => program.createNewTrial | .setTrialParameter => program.setTrialParam
  | .getTrialIdFromStudyIdTrialNumber => program.getTrialIdFromNumber | .setTrialStateValues => program.setTrialStateValues
  | .setTrialIntermediateValue => program.setTrialIntermediateValue | .setTrialUserAttribute => program.setTrialUserAttr
  | .setTrialSystemAttribute => program.setTrialSystemAttr | .getTrial => program.getTrial | .getTrials => program.readTrials

/-- what the caller of the GENERATED client method sees when the stub call fails with `code` -/
def genClientError (rpc : Rpc) (code : Status) : POut :=
  match handlersOf (clientMethodOf rpc).body with
  | none => .rpcError code
  | some h => match exec (Ctx.hand false "") h (emptySt (.rpc code)) with
    | (_, .raised e) => poutOfExn e
    | _ => .raised .exception

def statusAll : List Status := [.ok, .cancelled, .unknown, .invalidArgument, .deadlineExceeded, .notFound, .alreadyExists, .permissionDenied,
  .resourceExhausted, .failedPrecondition, .aborted, .outOfRange, .unimplemented, .internal, .unavailable, .dataLoss, .unauthenticated]
def errAll : List Err := [.keyError, .duplicated, .updateFinished, .valueError, .runtimeError]

/-- the servicer ladders as written today are the table `GrpcTables.servicerCatches` read by T-grpc (every rpc, every class) -/
theorem gen_servicer_ladders : ∀ rpc ∈ Rpc.all, ∀ e ∈ errAll, genAbortStatus rpc e = abortStatus rpc e := by decide

/-- the client chains as written today are the table `GrpcTables.clientRaises` (every rpc, every status code) -/
theorem gen_client_ladders : ∀ rpc ∈ Rpc.all, ∀ code ∈ statusAll, genClientError rpc code = clientError rpc code := by decide

/-- which contract error classes a backend can raise inside which rpc (the list `C01Grpc.raisable`) -/
def genRaisable : List (Rpc × Err) := [
  (.createNewStudy, .duplicated),
  (.deleteStudy, .keyError), (.setStudyUserAttribute, .keyError), (.setStudySystemAttribute, .keyError),
  (.getStudyIdFromName, .keyError), (.getStudyNameFromId, .keyError), (.getStudyDirections, .keyError),
  (.getStudyUserAttributes, .keyError), (.getStudySystemAttributes, .keyError),
  (.createNewTrial, .keyError), (.createNewTrial, .valueError),
  (.setTrialParameter, .keyError), (.setTrialParameter, .updateFinished), (.setTrialParameter, .valueError),
  (.getTrialIdFromStudyIdTrialNumber, .keyError),
  (.setTrialStateValues, .keyError), (.setTrialStateValues, .updateFinished),
  (.setTrialIntermediateValue, .keyError), (.setTrialIntermediateValue, .updateFinished),
  (.setTrialUserAttribute, .keyError), (.setTrialUserAttribute, .updateFinished),
  (.setTrialSystemAttribute, .keyError), (.setTrialSystemAttribute, .updateFinished),
  (.getTrial, .keyError), (.getTrials, .keyError)]

/-- **gen_error_mapping_roundtrip** (`C01Grpc.error_class_preserved` restated on the generated bodies): every error class the
contract can raise inside an rpc (`genRaisable` = `C01Grpc.raisable`, complete by `C01Grpc.step_err_raisable`: Props/C01GrpcGenSpec.lean) goes through the `except` ladder of the
servicer method as written today, and the status code goes through the `if e.code() == …` chain of the client method as written
today, and comes out as the same class -/
theorem gen_error_mapping_roundtrip :
    ∀ p ∈ genRaisable, genClientError p.1 (genAbortStatus p.1 p.2) = .ok (.err p.2) := by decide

example : genAbortStatus .createNewTrial .valueError = .invalidArgument ∧ genClientError .createNewTrial .invalidArgument = .ok (.err .valueError) ∧
    genAbortStatus .setTrialParameter .updateFinished = .failedPrecondition ∧ genClientError .deleteStudy .unavailable = .rpcError .unavailable := by
  decide

def stubsOf : Stmt → List Rpc
  | .stub rpc _ _ => [rpc]
  | .seq a b => stubsOf a ++ stubsOf b
  | .ite _ a b => stubsOf a ++ stubsOf b
  | .tryExcept a h => stubsOf a ++ stubsOf h
  | .onExc _ h r => stubsOf h ++ stubsOf r
  | .onRpcError h r => stubsOf h ++ stubsOf r
  | .ifCode _ a b => stubsOf a ++ stubsOf b
  | _ => []

def backendsOf : Stmt → List BM
  | .backend m _ _ => [m]
  | .seq a b => backendsOf a ++ backendsOf b
  | .ite _ a b => backendsOf a ++ backendsOf b
  | .tryExcept a h => backendsOf a ++ backendsOf h
  | .onExc _ h r => backendsOf h ++ backendsOf r
  | .onRpcError h r => backendsOf h ++ backendsOf r
  | .ifCode _ a b => backendsOf a ++ backendsOf b
  | _ => []

def usesCacheRead : Stmt → Bool
  | .cacheGetAll .. => true
  | .seq a b => usesCacheRead a || usesCacheRead b
  | _ => false

/-- the `BaseStorage` method of the contract each rpc stands for -/
def bmOf : Rpc → BM
  | .createNewStudy => .create_new_study | .deleteStudy => .delete_study | .setStudyUserAttribute => .set_study_user_attr
  | .setStudySystemAttribute => .set_study_system_attr | .getStudyIdFromName => .get_study_id_from_name
  | .getStudyNameFromId => .get_study_name_from_id | .getStudyDirections => .get_study_directions
  | .getStudyUserAttributes => .get_study_user_attrs | .getStudySystemAttributes => .get_study_system_attrs
  | .getAllStudies => .get_all_studies | .createNewTrial => .create_new_trial | .setTrialParameter => .set_trial_param
  | .getTrialIdFromStudyIdTrialNumber => .get_trial_id_from_study_id_trial_number | .setTrialStateValues => .set_trial_state_values
  | .setTrialIntermediateValue => .set_trial_intermediate_value | .setTrialUserAttribute => .set_trial_user_attr
  | .setTrialSystemAttribute => .set_trial_system_attr | .getTrial => .get_trial | .getTrials => .get_all_trials

/-- each rpc method as written today makes exactly ONE backend call, to the `BaseStorage` method it stands for; each client
function as written today makes exactly one stub call, to its rpc (`C01Grpc.rpc_call_sites` restated on the bodies) -/
theorem gen_rpc_call_sites :
    (∀ rpc ∈ Rpc.all, backendsOf (program.servicer rpc) = [bmOf rpc]) ∧
    (∀ rpc ∈ Rpc.all, stubsOf (clientMethodOf rpc).body = [rpc]) := by decide

/-- the rpc an operation of the contract goes through (`C01Grpc.rpcOf`; equal to it: `rpcOfGen_eq` in Props/C01GrpcGenSpec.lean) -/
def rpcOfGen : Op → Option Rpc
  | .createStudy .. => some .createNewStudy
  | .deleteStudy .. => some .deleteStudy
  | .setStudyUserAttr .. => some .setStudyUserAttribute
  | .setStudySystemAttr .. => some .setStudySystemAttribute
  | .createTrial .. => some .createNewTrial
  | .setTrialParam .. => some .setTrialParameter
  | .setTrialStateValues .. => some .setTrialStateValues
  | .setTrialInter .. => some .setTrialIntermediateValue
  | .setTrialUserAttr .. => some .setTrialUserAttribute
  | .setTrialSystemAttr .. => some .setTrialSystemAttribute
  | .getStudyIdFromName .. => some .getStudyIdFromName
  | .getStudyNameFromId .. => some .getStudyNameFromId
  | .getStudyDirections .. => some .getStudyDirections
  | .getStudyUserAttrs .. => some .getStudyUserAttributes
  | .getStudySystemAttrs .. => some .getStudySystemAttributes
  | .getAllStudies => some .getAllStudies
  | .getTrialIdFromNumber .. => some .getTrialIdFromStudyIdTrialNumber
  | .getTrial .. => some .getTrial
  | .getAllTrials .. => some .getTrials
  | .getTrialNumberFromId .. | .getTrialParam .. | .getNTrials .. | .getBestTrial .. => none

/-- **gen_every_contract_method_has_rpc**: every operation of the contract that `rpcOf` sends over the wire has a client method
as written today whose one stub call is that rpc (for `get_all_trials`: through the cache's `_read_trials_from_remote_storage`),
and that rpc's servicer method as written today calls the one `BaseStorage` method; the four operations without an rpc are the
`BaseStorage` defaults (`C01Grpc.proxy_derived`) -/
theorem gen_every_contract_method_has_rpc (op : Op) (rpc : Rpc) (h : rpcOfGen op = some rpc) :
    ∃ m args, clientCall program op = some (m, args) ∧
      (stubsOf m.body = [rpc] ∨ (usesCacheRead m.body = true ∧ stubsOf m.body = [] ∧ stubsOf program.readTrials.body = [rpc])) ∧
      backendsOf (program.servicer rpc) = [bmOf rpc] := by
  cases op <;> simp only [rpcOfGen, Option.some.injEq, reduceCtorEq] at h <;> subst h
  case createTrial sid tmpl ir => cases tmpl <;> exact ⟨_, _, rfl, Or.inl rfl, rfl⟩
  case getAllTrials sid sts => exact ⟨_, _, rfl, Or.inr ⟨rfl, rfl, rfl⟩, rfl⟩
  all_goals exact ⟨_, _, rfl, Or.inl rfl, rfl⟩

example : rpcOfGen (.getBestTrial 0) = none ∧ (clientCall program (.getBestTrial 0)).isNone = true := by decide

/-- pickling: `__getstate__` drops exactly the channel stub and the cache, `__setstate__` rebuilds both (the cache EMPTY:
`GrpcClientCache(self._stub)`), so an unpickled client starts from the cold state `Proto.proxyStep` models -/
theorem gen_pickle_rebuilds_what_it_drops :
    GrpcMethods.pickleDropped = ["_stub", "_cache"] ∧ ∀ a ∈ GrpcMethods.pickleDropped, a ∈ GrpcMethods.pickleRebuilt := by decide

/-- the generated state converters invert each other: every `TrialState` goes over the wire and comes back as itself
(`C01Grpc.proto_state_roundtrip` restated on the bodies as written today) -/
theorem gen_state_roundtrip (t : TState) : (program.toProtoStateG t).bind program.fromProtoStateG = some t := by
  cases t <;> rfl

example : (program.toProtoStateG .fail).bind program.fromProtoStateG = some .fail := by decide

/-- `BaseStorage.get_best_trial` as written today (it runs in the client, on `get_all_trials` and `get_study_directions` through the
proxy): reads the COMPLETE trials, raises `ValueError` when there are none, reads the directions, raises `RuntimeError` when there is
more than one, then picks — the order and the classes `Proto.bestOut` / `callDerived` assume (pinned shape; the pick is C12's) -/
theorem gen_best_trial_skeleton : GrpcMethods.baseGetBestTrialSkeleton =
    ["call self.get_all_trials(study_id, deepcopy=False, states=[TrialState.COMPLETE])",
     "if len(all_trials) == 0: raise ValueError",
     "call self.get_study_directions(study_id)",
     "if len(directions) > 1: raise RuntimeError",
     "direction = …",
     "if direction == StudyDirection.MAXIMIZE: … else: …",
     "return best_trial"] := rfl

/-- nothing had to be stubbed -/
theorem gen_translation_complete : GrpcMethods.stubbed = [] ∧ GrpcMethods.translated = 43 := by decide

end OptunaVerif.C01GrpcGen
