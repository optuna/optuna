import OptunaVerif.Lemmas.TruncNormBisect
import OptunaVerif.Lemmas.TruncNormMixture
import OptunaVerif.Lemmas.TruncNormGaussian
import Mathlib.Analysis.SpecialFunctions.Sigmoid
/-!
# C18 — TPE's numerical kernels agree with the reference distributions (property theorems)

**Partial by nature.**  Lean's `Float` is opaque, so nothing here is about floating point.  What is proved, for
*all* real (resp. rational) arguments:

* the formulas of `_truncnorm.py` — *as re-translated from the source on every run* into
  `Generated/TruncNormGen.lean` — mean what the real-analysis model says (`gen_*` theorems), are free of the
  cancellation-prone forms `log(1 ± e)` / `exp(e) - 1`, and the hand-modelled pieces keep their shape;
* every case of `_log_gauss_mass` equals `log(Φ b − Φ a)`, the case split is total and exclusive;
* both `ppf` branches solve `Φ x = Φ a + q (Φ b − Φ a)`, the solution exists, is unique and lies in `[a, b]`,
  including the `q = 0`, `q = 1` overrides;
* `_bisect` keeps the root in its bracket, halves it every round, and ends within `|b − a| / 2¹⁰¹` of the
  root — and walks to the *wrong* end when the root is left of the bracket (the reported finding);
* `exp(logpdf)` is the truncated density and integrates to one over the truncation interval;
* the discrete truncated normal's cell masses sum to one; log-sum-exp is shift invariant; the mixture
  `log_pdf` never manufactures a NaN thanks to its `-inf` guard (and would without it);
* every argument of `log`/`log1p` is positive in its branch.

Where the objects live: the formula IR `E` in `Model/TruncNormIR.lean`; the executable ℚ model of the control flow
(`massCase`, `ppfCase`, `findCase`, `ndtrSingleCase`, `bracket`, `bisect`) in `Model/TruncNormQ.lean`; the real-number
model (`StdNormalLike`, `logGaussMass`, `Interp`, `eval`, `ErfLike`, …) in `Lemmas/TruncNorm.lean`, because it needs Mathlib.

`Φ`, `φ` are parameters constrained by `StdNormalLike` (hypotheses, not axioms); `gauss_stdNormalLike` shows the
standard normal itself satisfies them.  **Not covered here** (rests on the numeric tie with SciPy in
`verif/props/c18.py`): rounding, cancellation, the asymptotic series of `_log_ndtr_single` for `a ≤ -20`, the
accuracy of the `erf` rational approximations, and that `_bisect`'s float run follows the rational one.
-/
namespace OptunaVerif.C18
open OptunaVerif.TruncNorm OptunaVerif.TruncNormIR OptunaVerif.TruncNormQ
open OptunaVerif.Generated.TruncNorm

section meaning
variable (I : Interp) (env : String → ℝ)

theorem gen_log_sum_meaning : eval I env logSumBody = logaddexp (env "log_p") (env "log_q") := by
  simp only [logSumBody, eval, fn2]

theorem gen_log_diff_meaning : eval I env logDiffBody = logDiff (env "log_p") (env "log_q") := by
  simp only [logDiffBody, eval, fn1, logDiff]

theorem gen_norm_logpdf_meaning : eval I env normLogpdfBody = normLogpdf (env "x") := by
  simp only [normLogpdfBody, eval, fn1, normLogpdf]
  norm_num

theorem gen_mass_left_meaning : eval I env massLeftBody = massLeft I.Φ (env "a") (env "b") := by
  simp only [massLeftBody, eval, fn1, fn2, massLeft]

theorem gen_mass_right_meaning : eval I env massRightBody = massRight I.Φ (env "a") (env "b") := by
  simp only [massRightBody, eval, fn2, massRight]

theorem gen_mass_central_meaning : eval I env massCentralBody = massCentral I.Φ (env "a") (env "b") := by
  simp only [massCentralBody, eval, fn1, massCentral]

theorem gen_ppf_left_meaning :
    eval I env ppfLeftBody = I.inv (ppfLeftTarget I.Φ (env "q") (env "a") (env "b")) := by
  simp only [ppfLeftBody, eval, fn1, fn2, ppfLeftTarget]

theorem gen_ppf_right_meaning :
    eval I env ppfRightBody = -I.inv (ppfRightTarget I.Φ (env "q") (env "a") (env "b")) := by
  simp only [ppfRightBody, eval, fn1, fn2, ppfRightTarget]

/-- `logpdf`: `x = (x - loc) / scale` followed by `_norm_logpdf(x) - _log_gauss_mass(a, b) - np.log(scale)`. -/
theorem gen_logpdf_meaning :
    eval I (fun n => if n = "x" then eval I env logpdfStdBody else env n) logpdfBody
      = logpdfIn I.Φ (env "x") (env "a") (env "b") (env "loc") (env "scale") := by
  simp [logpdfBody, logpdfStdBody, eval, fn1, fn2, logpdfIn]

/-- `_ndtr(a) = 0.5 + 0.5 * erf(a / 2**0.5)` is `Φ`. -/
theorem gen_ndtr_meaning (hE : ErfLike I) : eval I env ndtrBody = I.Φ (env "a") := by
  simp only [ndtrBody, eval, fn1]
  rw [hE.ndtr_eq]
  norm_num

/-- All three arms of `_ndtr_single` compute `Φ(a)` (`x = a / 2**0.5`): the thresholds `±1/√2` only choose
the numerically best form. -/
theorem gen_ndtr_single_arms_agree (hE : ErfLike I) (a : ℝ) :
    ∀ arm ∈ ndtrSingleArms,
      eval I (fun n => if n = "x" then eval I (fun _ => a) ndtrSingleArg else a) arm = I.Φ a := by
  intro arm harm
  simp only [ndtrSingleArms, List.mem_cons, List.not_mem_nil, or_false] at harm
  have hx : eval I (fun _ => a) ndtrSingleArg = a / Real.sqrt 2 := by
    simp only [ndtrSingleArg, eval, fn1]; norm_num
  -- each arm is `Φ(a)` once `erfc = 1 − erf`, the oddness of `erf` and `Φ = 1/2 + 1/2 erf(·/√2)` are put in
  rcases harm with rfl | rfl | rfl <;>
    simp only [eval, fn1, if_true, hx, hE.erfc_eq, hE.erf_neg, hE.ndtr_eq] <;> norm_num <;> ring

/-- `_log_ndtr_single`, arm `a > -20` (and `≤ 6`): exactly `log Φ(a)`; arm `a > 6`: `-Φ(-a)`, which is within
`2 Φ(-a)²` of `log Φ(a)` as soon as `Φ(-a) ≤ 1/2`.  (The series arm for `a ≤ -20` is not modelled.) -/
theorem gen_log_ndtr_arms {Φ φ : ℝ → ℝ} (h : StdNormalLike Φ φ) (I : Interp) (hI : I.Φ = Φ) (a : ℝ) :
    logNdtrArms.length = 2 ∧
    (∀ arm, logNdtrArms[1]? = some arm → eval I (fun _ => a) arm = Real.log (Φ a)) ∧
    (∀ arm, logNdtrArms[0]? = some arm → Φ (-a) ≤ 1 / 2 →
      |eval I (fun _ => a) arm - Real.log (Φ a)| ≤ 2 * Φ (-a) ^ 2) := by
  refine ⟨rfl, ?_, ?_⟩
  · rintro _ ⟨⟩
    simp only [eval, fn1, hI]
  · rintro _ ⟨⟩ hsmall
    simp only [eval, fn1, hI]
    have hΦ : Φ a = 1 - Φ (-a) := by rw [h.symm]; ring
    rw [hΦ]
    have := log_one_sub_approx hsmall
    rw [abs_le]
    constructor <;> linarith [this.1, this.2, sq_nonneg (Φ (-a))]

end meaning

/-- The translated masks, read at the arguments `(a, b)`: `b <= 0` and `a > 0` of `_log_gauss_mass`, `a < 0` of `ppf`. -/
theorem gen_mass_case_left_meaning (a b : XVal) : condX massCaseLeft (env2 a b) = XVal.le b (.fin 0) := rfl

theorem gen_mass_case_right_meaning (a b : XVal) : condX massCaseRight (env2 a b) = XVal.lt (.fin 0) a := rfl

theorem gen_ppf_case_left_meaning (a b : XVal) : condX ppfCaseLeft (env2 a b) = XVal.lt a (.fin 0) := rfl

/-- No translated formula contains `log(1 - e)`, `log(1 + e)` or `exp(e) - 1` (they must be `log1p`/`expm1`):
the real-number theorems below cannot see the difference, floating point can. -/
theorem generated_formulas_stable :
    ([logSumBody, logDiffBody, ndtrBody, normLogpdfBody, ndtrSingleArg, massLeftBody, massRightBody,
      massCentralBody, ppfLeftBody, ppfRightBody, logpdfStdBody, logpdfBody] ++ ndtrSingleArms ++ logNdtrArms).all
      E.stable = true := by
  decide

/-- The parts of the source that are not translated into formulas (`_bisect`'s loop, the asymptotic series, the `erf`
arms, the masks-and-writes glue of `_log_gauss_mass`/`ppf`/`logpdf`, the mixture's `log_pdf`/`sample`) still
have the text the hand models were written against: `shapeHashes` is a hash of the `ast.dump` of each
(`verif/translators/truncnorm.py`; the series and the `erf` arms `med1`, `med2`, `big` have no model, their text is pinned
all the same).  Write order of the mass cases, `ppf`/`logpdf` overrides, the iteration count, the bracket and the
conditions of `_log_ndtr_single` are the modelled ones.  (`mixture_sample` is the shape after the repair of F33:
the continuous branch of `sample` clips `_truncnorm.rvs(..)` to `[low, high]` like the stepped branch; the
projection itself is C10's `tpe_cont_in_domain`.) -/
theorem generated_shapes_are_the_modelled_ones :
    shapeHashes = [("bisect", "bd62530edcb3cb80"), ("erf_big", "a5f00070375737c4"), ("erf_glue", "124e949a44124265"),
      ("erf_med1", "f59f7942102ae0f5"), ("erf_med2", "5bd60963e2666503"), ("erf_small1", "928f58957e479182"),
      ("erf_small2", "ba4f78e4e05d78b8"), ("erf_tiny", "2ccff60f15fc8d56"), ("log_ndtr_series", "edca02462e2d8619"),
      ("logpdf_glue", "8b03b6c9c5bf5ba4"), ("mass_glue", "80a0e62238c29a14"), ("mixture_head", "261dc16b8b0b5351"),
      ("mixture_sample", "1557041d534e0161"), ("mixture_tail", "704fb8a0970e4317"), ("ppf_glue", "0a98ea399d3786b4"),
      ("rvs_glue", "c0736685d1203f10")]
    ∧ massAssignOrder = ["left:left", "right:right", "central:central"]
    ∧ ppfOverrides = ["q==0:a", "q==1:b", "a==b:math.nan"]
    ∧ logpdfOverrides = ["(x < a) | (b < x):-np.inf", "a == b:math.nan"]
    ∧ bisectIters = 100 ∧ bracketLo = -100 ∧ bracketHi = 100
    ∧ logNdtrConds = [⟨"a", .gt, 6⟩, ⟨"a", .gt, -20⟩] :=
  ⟨rfl, rfl, rfl, rfl, rfl, rfl, rfl, rfl⟩

/-- The `|x|`-ranges of `erf`'s six arms tile `[0, ∞)`: each arm starts where the previous one ends, the first
has no lower and the last no upper bound, and the cut points increase. -/
theorem erf_cases_partition :
    erfCaseNames = ["tiny", "small1", "small2", "med1", "med2", "big"] ∧
    erfCaseBounds.length = 6 ∧
    (erfCaseBounds.head?.map Prod.fst = some none) ∧ (erfCaseBounds.getLast?.map Prod.snd = some none) ∧
    (erfCaseBounds.zip erfCaseBounds.tail).all (fun p => p.1.2 == p.2.1 && p.1.2.isSome) = true ∧
    (erfCaseBounds.all fun p => match p with | (some l, some u) => decide (l < u) | _ => true) = true := by
  decide +kernel

/-- The ranges start at `lo`, each starts where the previous one ends, and one of them has no upper end. -/
def tilesFrom : Option Rat → List (Option Rat × Option Rat) → Bool
  | _, [] => false
  | lo, (lo', hi) :: t => lo' == lo && (hi.isNone || tilesFrom hi t)

theorem findCase_lt_of_tilesFrom (x : Rat) : ∀ (l : List (Option Rat × Option Rat)) (lo : Option Rat),
    (∀ c, lo = some c → c ≤ x) → tilesFrom lo l = true → findCase x l < l.length
  | [], _, _, h => by simp [tilesFrom] at h
  | (lo', hi) :: t, lo, hlo, h => by
    simp only [tilesFrom, Bool.and_eq_true, beq_iff_eq, Bool.or_eq_true, Option.isNone_iff_eq_none] at h
    obtain ⟨rfl, h⟩ := h
    simp only [findCase, List.length_cons]
    split
    · exact Nat.succ_pos _
    · -- `x` is above `lo'` but not in the first range: that range ends at some `c ≤ x`, where the next one starts
      cases hi with
      | none => cases lo' <;> simp_all [inBounds]
      | some c =>
        have hc : c ≤ x := by cases lo' <;> simp_all [inBounds]
        exact Nat.succ_lt_succ
          (findCase_lt_of_tilesFrom x t (some c) (fun _ h' => Option.some.inj h' ▸ hc) (h.resolve_left nofun))

/-- Consequently every `|x|` falls in one of the six arms (`findCase` returns an index `< 6`). -/
theorem erf_case_total (x : Rat) : findCase x erfCaseBounds < 6 :=
  findCase_lt_of_tilesFrom x erfCaseBounds none nofun (by decide +kernel)

/-- The cut points of `|x|` are the ones of fdlibm's `s_erf.c` as the source writes them:
`2**-28`, `0.84375`, `1.25`, `1/0.35` (as rounded by float division) and `6`. -/
theorem erf_cut_points :
    erfCaseBounds.map Prod.snd =
      [some (1 / 2 ^ 28), some (27 / 32), some (5 / 4), some (6433713753386423 / 2251799813685248), some 6, none] := by
  decide +kernel

theorem evalOrd_lt_cmpRat (x y : Rat) : evalOrd .lt (cmpRat x y) = decide (x < y) := by
  unfold cmpRat evalOrd
  split_ifs with h1 h2 <;> simp [h1]

/-- `a/√2 < t` for a negative rational `t`, decided without `√2`. -/
theorem evalOrd_lt_cmpDivSqrt2_neg (a : Rat) {t : Rat} (ht : t < 0) :
    evalOrd .lt (cmpDivSqrt2 a t) = decide (a < 0 ∧ 2 * t * t < a * a) := by
  unfold cmpDivSqrt2
  rw [if_neg (not_le.mpr ht)]
  by_cases ha : a ≥ 0
  · simp [ha, evalOrd, not_lt.mpr ha]
  · simp [ha, evalOrd_lt_cmpRat, not_le.mp ha]

/-- `a/√2 < t` for a non-negative rational `t`. -/
theorem evalOrd_lt_cmpDivSqrt2_nonneg (a : Rat) {t : Rat} (ht : 0 ≤ t) :
    evalOrd .lt (cmpDivSqrt2 a t) = decide (a < 0 ∨ a * a < 2 * t * t) := by
  unfold cmpDivSqrt2
  rw [if_pos ht]
  by_cases ha : a < 0
  · simp [ha, evalOrd]
  · simp [ha, evalOrd_lt_cmpRat]

/-- The chain `x < t₁`, `x < t₂` of `_ndtr_single`, in exact arithmetic on `x = a/√2`, for thresholds `t₁ < 0 ≤ t₂` with
`(1 − ε)² < 2tᵢ² < (1 + ε)²`: outside the bands `|a| ∈ (1 − ε, 1 + ε)` the arm is decided by comparing `a²` with `2tᵢ²`. -/
theorem ndtrSingle_go_bands (a t₁ t₂ ε : Rat) (n₁ n₂ : String) (h₁ : t₁ < 0) (h₂ : 0 ≤ t₂) (hε : 0 ≤ 1 + ε)
    (hlo₁ : (1 - ε) * (1 - ε) < 2 * t₁ * t₁) (hhi₁ : 2 * t₁ * t₁ < (1 + ε) * (1 + ε))
    (hlo₂ : (1 - ε) * (1 - ε) < 2 * t₂ * t₂) (hhi₂ : 2 * t₂ * t₂ < (1 + ε) * (1 + ε)) :
    (a ≤ -1 - ε → ndtrSingleCase.go a [⟨n₁, .lt, t₁⟩, ⟨n₂, .lt, t₂⟩] = 0) ∧
    (-1 + ε ≤ a → a ≤ 1 - ε → ndtrSingleCase.go a [⟨n₁, .lt, t₁⟩, ⟨n₂, .lt, t₂⟩] = 1) ∧
    (1 + ε ≤ a → ndtrSingleCase.go a [⟨n₁, .lt, t₁⟩, ⟨n₂, .lt, t₂⟩] = 2) := by
  simp only [ndtrSingleCase.go, evalOrd_lt_cmpDivSqrt2_neg a h₁, evalOrd_lt_cmpDivSqrt2_nonneg a h₂,
    decide_eq_true_eq]
  refine ⟨fun h => ?_, fun h1 h2 => ?_, fun h => ?_⟩
  · have hsq : (1 + ε) * (1 + ε) ≤ a * a := by
      rw [← neg_mul_neg a a]; exact mul_self_le_mul_self hε (by linarith)
    rw [if_pos ⟨by linarith, hhi₁.trans_le hsq⟩]
  · have hsq : a * a ≤ (1 - ε) * (1 - ε) := mul_self_le_mul_self_of_le_of_neg_le h2 (by linarith)
    rw [if_neg fun hc => absurd hc.2 (not_lt.mpr (hsq.trans hlo₁.le)), if_pos (Or.inr (hsq.trans_lt hlo₂))]
  · have hsq : (1 + ε) * (1 + ε) ≤ a * a := mul_self_le_mul_self hε h
    have ha : ¬ a < 0 := not_lt.mpr (hε.trans h)
    rw [if_neg fun hc => ha hc.1, if_neg fun hc => hc.elim ha fun hlt => absurd (hhi₂.trans_le hsq) (not_lt.mpr hlt.le)]

/-- `_ndtr_single`: which arm runs, in exact arithmetic on `x = a/√2` against the *float* thresholds
`∓1/2**0.5` of the source: `0.5*erfc(-x)` for `a ≤ -1 - 2⁻⁵⁰`, `0.5 + 0.5*erf(x)` for
`-1 + 2⁻⁵⁰ ≤ a ≤ 1 - 2⁻⁵⁰`, `1 - 0.5*erfc(x)` for `a ≥ 1 + 2⁻⁵⁰` (inside the two `2⁻⁵⁰` bands rounding decides). -/
theorem ndtr_single_case_split (a : Rat) :
    (a ≤ -1 - 1 / 2 ^ 50 → ndtrSingleCase a = 0) ∧
    (-1 + 1 / 2 ^ 50 ≤ a → a ≤ 1 - 1 / 2 ^ 50 → ndtrSingleCase a = 1) ∧
    (1 + 1 / 2 ^ 50 ≤ a → ndtrSingleCase a = 2) :=
  ndtrSingle_go_bands a _ _ (1 / 2 ^ 50) _ _ (by norm_num) (by norm_num) (by norm_num) (by norm_num) (by norm_num)
    (by norm_num) (by norm_num)

section mass
variable {Φ φ : ℝ → ℝ}

def envOf (l : List (String × ℝ)) : String → ℝ := fun n => ((l.find? fun p => p.1 == n).map Prod.snd).getD 0

/-- **Every case formula equals `log(Φ b − Φ a)`** (for every `a < b`, not only in its own case): the case
split only chooses the numerically best of three equal expressions. -/
theorem log_gauss_mass_cases_equal (h : StdNormalLike Φ φ) (I : Interp) (hI : I.Φ = Φ) {a b : ℝ} (hab : a < b) :
    let env := envOf [("a", a), ("b", b)]
    eval I env massLeftBody = Real.log (Φ b - Φ a) ∧
    eval I env massRightBody = Real.log (Φ b - Φ a) ∧
    eval I env massCentralBody = Real.log (Φ b - Φ a) := by
  intro env
  rw [gen_mass_left_meaning, gen_mass_right_meaning, gen_mass_central_meaning, hI]
  exact ⟨massLeft_eq h hab, massRight_eq h hab, massCentral_eq h a b⟩

theorem massCase_fin (a b : Rat) :
    massCase (.fin a) (.fin b) = if 0 < a then .right else if b ≤ 0 then .left else .central := by
  simp only [massCase, gen_mass_case_left_meaning, gen_mass_case_right_meaning, XVal.le, XVal.lt, decide_eq_true_eq]

/-- **The case split is total and exclusive** (executable model with the generated conditions `b <= 0`,
`a > 0`): for `a < b` exactly one of left (`b ≤ 0`), right (`0 < a`), central (`a ≤ 0 < b`). -/
theorem log_gauss_mass_cases_total (a b : Rat) (hab : a < b) :
    (massCase (.fin a) (.fin b) = .left ↔ b ≤ 0) ∧
    (massCase (.fin a) (.fin b) = .right ↔ 0 < a) ∧
    (massCase (.fin a) (.fin b) = .central ↔ a ≤ 0 ∧ 0 < b) := by
  rw [massCase_fin]
  by_cases h1 : 0 < a
  · simp [h1, not_le.mpr (h1.trans hab)]
  · by_cases h2 : b ≤ 0 <;> simp [h1, h2, not_lt.mp h1, lt_of_not_ge]

/-- One-sided intervals: `a = -∞` is left or central, `b = +∞` is right or central, `(-∞, ∞)` is central. -/
theorem log_gauss_mass_cases_one_sided (x : Rat) :
    (massCase .ninf (.fin x) = if x ≤ 0 then .left else .central) ∧
    (massCase (.fin x) .pinf = if 0 < x then .right else .central) ∧
    massCase .ninf .pinf = .central := by
  simp only [massCase, gen_mass_case_left_meaning, gen_mass_case_right_meaning, XVal.le, XVal.lt, decide_eq_true_eq,
    Bool.false_eq_true, if_false, and_self]

/-- The hand-written real-number `logGaussMass` takes, at rational (= float) arguments, exactly the branch the
executable model takes with the generated conditions, and evaluates the generated formula of that branch. -/
theorem log_gauss_mass_follows_model (I : Interp) (a b : Rat) :
    logGaussMass I.Φ a b =
      match massCase (.fin a) (.fin b) with
      | .left => eval I (envOf [("a", a), ("b", b)]) massLeftBody
      | .right => eval I (envOf [("a", a), ("b", b)]) massRightBody
      | .central => eval I (envOf [("a", a), ("b", b)]) massCentralBody := by
  rw [massCase_fin, gen_mass_left_meaning, gen_mass_right_meaning, gen_mass_central_meaning, logGaussMass]
  simp only [Rat.cast_pos, Rat.cast_nonpos]
  split_ifs <;> rfl

/-- Hence `_log_gauss_mass(a, b) = log(Φ b − Φ a)` for all `a < b`. -/
theorem log_gauss_mass_cases_total_and_equal (h : StdNormalLike Φ φ) {a b : ℝ} (hab : a < b) :
    logGaussMass Φ a b = Real.log (Φ b - Φ a) ∧ 0 < Φ b - Φ a :=
  ⟨logGaussMass_eq h hab, mass_pos h hab⟩

/-- One-sided intervals, with the IEEE conventions `Φ(-∞) = 0`, `exp(-∞) = 0` written out: the left-case
formula with `a = -∞` is `log Φ(b) + log1p(-0)`, the right-case formula with `b = +∞` is
`log Φ(-a) + log1p(-0)`, the central formula is `log1p(-Φ(a) - 0)`, `log1p(-0 - Φ(-b))` or `log1p(-0 - 0)`;
each equals the log of the one-sided mass.  (The five expressions are written out by hand: the statement mentions
neither `logGaussMass` nor a translated formula.) -/
theorem log_gauss_mass_one_sided (h : StdNormalLike Φ φ) (a b : ℝ) :
    Real.log (Φ b) + log1p (-(0 : ℝ)) = Real.log (Φ b - 0) ∧
    Real.log (Φ (-a)) + log1p (-(0 : ℝ)) = Real.log (1 - Φ a) ∧
    log1p (-Φ a - 0) = Real.log (1 - Φ a) ∧
    log1p (-0 - Φ (-b)) = Real.log (Φ b - 0) ∧
    log1p (-(0 : ℝ) - 0) = Real.log (1 - 0) ∧
    0 < Φ b - 0 ∧ 0 < 1 - Φ a := by
  refine ⟨by simp [log1p], ?_, ?_, ?_, by simp [log1p], by linarith [h.pos b], by linarith [h.lt_one a]⟩
  · rw [h.symm a]; simp [log1p]
  · unfold log1p; congr 1; ring
  · unfold log1p; rw [h.symm b]; congr 1; ring

end mass

section ppf
variable {Φ φ : ℝ → ℝ}

/-- What `_ndtri_exp` is assumed to do in the real-number model: invert `log ∘ Φ` wherever an inverse exists
(`_bisect`'s own theorems are the `bisect_*` below). -/
def InvertsLogCdf (I : Interp) : Prop := ∀ y, (∃ x, Real.log (I.Φ x) = y) → Real.log (I.Φ (I.inv y)) = y

/-- `InvertsLogCdf` with an error term: `_ndtri_exp` finds every root of `log Φ(x) = y` that lies in `S` to within `ε`
(`ε = 0`, `S` everything: the exact inverse; `ε = 100 / 2^k`, `S = [-100, 100]`: `k` rounds of `_bisect`). -/
def InvertsLogCdfWithin (I : Interp) (ε : ℝ) (S : Set ℝ) : Prop := ∀ x ∈ S, |I.inv (Real.log (I.Φ x)) - x| ≤ ε

/-- Such an `_ndtri_exp` makes either branch formula miss the quantile `xq` of `[a, b]` by at most `ε`: the translated
`ppf_left` asks for the root of `log Φ(x) = log Φ(xq)`, the translated `ppf_right` for that of `log Φ(x) = log Φ(-xq)`,
which it negates. -/
theorem ppf_formula_within (I : Interp) (h : StdNormalLike I.Φ φ) {ε : ℝ} {S : Set ℝ}
    (hinv : InvertsLogCdfWithin I ε S) {q a b xq : ℝ} (hab : a < b)
    (hx : I.Φ xq = I.Φ a + q * (I.Φ b - I.Φ a)) :
    let env := envOf [("q", q), ("a", a), ("b", b)]
    (0 < q → xq ∈ S → |eval I env ppfLeftBody - xq| ≤ ε) ∧
    (q < 1 → -xq ∈ S → |eval I env ppfRightBody - xq| ≤ ε) := by
  intro env
  refine ⟨fun hq hS => ?_, fun hq hS => ?_⟩
  · rw [gen_ppf_left_meaning]
    show |I.inv (ppfLeftTarget I.Φ q a b) - xq| ≤ ε
    rw [ppfLeftTarget_eq h hab hq, ← hx]
    exact hinv _ hS
  · rw [gen_ppf_right_meaning]
    show |-I.inv (ppfRightTarget I.Φ q a b) - xq| ≤ ε
    rw [ppfRightTarget_eq h hab hq, ← quantile_neg h hx, ← abs_neg, neg_sub', neg_neg]
    exact hinv _ hS

theorem InvertsLogCdf.within {I : Interp} (hinv : InvertsLogCdf I) (h : StdNormalLike I.Φ φ) :
    InvertsLogCdfWithin I 0 Set.univ := fun x _ => by
  rw [h.strictMono.injective (Real.log_injOn_pos (h.pos _) (h.pos _) (hinv _ ⟨x, rfl⟩)), sub_self, abs_zero]

/-- **Both branch formulas solve `Φ x = Φ a + q (Φ b − Φ a)`** (the translated `ppf_left` for `0 < q`, the
translated `ppf_right` for `q < 1`; for *every* `a < b`, whichever side of 0). -/
theorem ppf_formula_inverts_cdf (h : StdNormalLike Φ φ) (I : Interp) (hI : I.Φ = Φ) (hinv : InvertsLogCdf I)
    {q a b : ℝ} (hab : a < b) (hq0 : 0 ≤ q) (hq1 : q ≤ 1) :
    let env := envOf [("q", q), ("a", a), ("b", b)]
    (0 < q → Φ (eval I env ppfLeftBody) = Φ a + q * (Φ b - Φ a)) ∧
    (q < 1 → Φ (eval I env ppfRightBody) = Φ a + q * (Φ b - Φ a)) := by
  intro env
  subst hI
  obtain ⟨xq, hxq, _⟩ := quantile_existsUnique h hab hq0 hq1
  have key := ppf_formula_within I h (hinv.within h) hab hxq
  exact ⟨fun hq => by rw [eq_of_abs_sub_nonpos (key.1 hq trivial), hxq],
    fun hq => by rw [eq_of_abs_sub_nonpos (key.2 hq trivial), hxq]⟩

/-- The quantile exists, is unique, and lies in `[a, b]` (strictly inside for `0 < q < 1`). -/
theorem quantile_exists_unique_in_interval (h : StdNormalLike Φ φ) {q a b : ℝ} (hab : a < b)
    (hq0 : 0 ≤ q) (hq1 : q ≤ 1) :
    ∃! x, Φ x = Φ a + q * (Φ b - Φ a) ∧ a ≤ x ∧ x ≤ b ∧ (0 < q → q < 1 → a < x ∧ x < b) := by
  obtain ⟨x, hx, huniq⟩ := quantile_existsUnique h hab hq0 hq1
  refine ⟨x, ⟨hx, (quantile_mem h hab hq0 hq1 hx).1, (quantile_mem h hab hq0 hq1 hx).2,
    fun h0 h1 => quantile_mem_strict h hab h0 h1 hx⟩, fun y hy => huniq y hy.1⟩

/-- The value of `ppf` for float (= rational) arguments: the branch chosen by the executable model
(`a == b → nan`, `q == 1 → b`, `q == 0 → a`, `a < 0 → ppf_left`, else `ppf_right`), with the translated
formulas. -/
noncomputable def ppfValue (I : Interp) (q a b : Rat) : Option ℝ :=
  let env := envOf [("q", (q : ℝ)), ("a", (a : ℝ)), ("b", (b : ℝ))]
  match ppfCase q (.fin a) (.fin b) with
  | .nan => none
  | .hi => some b
  | .lo => some a
  | .left => some (eval I env ppfLeftBody)
  | .right => some (eval I env ppfRightBody)

theorem ppfValue_eq (I : Interp) (q a b : Rat) (hab : a < b) :
    ppfValue I q a b = some (if q = 1 then (b : ℝ) else if q = 0 then (a : ℝ) else
      if a < 0 then eval I (envOf [("q", (q : ℝ)), ("a", (a : ℝ)), ("b", (b : ℝ))]) ppfLeftBody
      else eval I (envOf [("q", (q : ℝ)), ("a", (a : ℝ)), ("b", (b : ℝ))]) ppfRightBody) := by
  simp only [ppfValue, ppfCase, XVal.eqB, gen_ppf_case_left_meaning, XVal.lt, beq_iff_eq, decide_eq_true_eq,
    XVal.fin.injEq, hab.ne, if_false]
  split_ifs <;> rfl

theorem ppfValue_within (I : Interp) (h : StdNormalLike I.Φ φ) {ε : ℝ} (hε : 0 ≤ ε) {S : Set ℝ}
    (hinv : InvertsLogCdfWithin I ε S) (q a b : Rat) (hab : a < b) (hq0 : 0 ≤ q) (hq1 : q ≤ 1)
    (hroot : ∀ x : ℝ, I.Φ x = I.Φ a + q * (I.Φ b - I.Φ a) → x ∈ S ∧ -x ∈ S) :
    ∃ x xq : ℝ, ppfValue I q a b = some x ∧ I.Φ xq = I.Φ a + q * (I.Φ b - I.Φ a) ∧ (a : ℝ) ≤ xq ∧ xq ≤ b ∧
      |x - xq| ≤ ε := by
  have habR : (a : ℝ) < b := by exact_mod_cast hab
  have hq0R : (0 : ℝ) ≤ q := by exact_mod_cast hq0
  have hq1R : (q : ℝ) ≤ 1 := by exact_mod_cast hq1
  obtain ⟨xq, hxq, huniq⟩ := quantile_existsUnique h habR hq0R hq1R
  obtain ⟨m1, m2⟩ := quantile_mem h habR hq0R hq1R hxq
  -- the overrides return the quantile itself
  have self : ∀ x, I.Φ x = I.Φ a + q * (I.Φ b - I.Φ a) → |x - xq| ≤ ε := fun x hx => by
    rwa [huniq x hx, sub_self, abs_zero]
  have key := ppf_formula_within I h hinv habR hxq
  refine ⟨_, xq, ppfValue_eq I q a b hab, hxq, m1, m2, ?_⟩
  split_ifs with h1 h0
  · subst h1; exact self _ (by push_cast; ring)
  · subst h0; exact self _ (by push_cast; ring)
  · exact key.1 (by exact_mod_cast lt_of_le_of_ne hq0 (Ne.symm h0)) (hroot xq hxq).1
  · exact key.2 (by exact_mod_cast lt_of_le_of_ne hq1 h1) (hroot xq hxq).2

/-- **`a ≤ ppf(q) ≤ b` and `Φ(ppf q) = Φ a + q (Φ b − Φ a)` for every `q ∈ [0, 1]`**, overrides included. -/
theorem ppf_in_interval (h : StdNormalLike Φ φ) (I : Interp) (hI : I.Φ = Φ) (hinv : InvertsLogCdf I)
    (q a b : Rat) (hab : a < b) (hq0 : 0 ≤ q) (hq1 : q ≤ 1) :
    ∃ x, ppfValue I q a b = some x ∧ (a : ℝ) ≤ x ∧ x ≤ b ∧ Φ x = Φ a + q * (Φ b - Φ a) := by
  subst hI
  obtain ⟨x, xq, hv, hxq, m1, m2, he⟩ :=
    ppfValue_within I h le_rfl (hinv.within h) q a b hab hq0 hq1 fun _ _ => ⟨trivial, trivial⟩
  obtain rfl := eq_of_abs_sub_nonpos he
  exact ⟨x, hv, m1, m2, hxq⟩

/-- **Which `ppf` branch**: for `a < b` and `q ∉ {0, 1}`, `ppf_left` exactly when `a < 0`, else `ppf_right`;
a left-open interval always goes left. -/
theorem ppf_case_split (q a b : Rat) (hab : a < b) (hq0 : q ≠ 0) (hq1 : q ≠ 1) :
    (ppfCase q (.fin a) (.fin b) = .left ↔ a < 0) ∧ (ppfCase q (.fin a) (.fin b) = .right ↔ 0 ≤ a) ∧
    ppfCase q .ninf (.fin b) = .left ∧ (ppfCase q (.fin a) .pinf = if a < 0 then .left else .right) := by
  simp only [ppfCase, XVal.eqB, gen_ppf_case_left_meaning, XVal.lt, beq_iff_eq, hq0, hq1,
    if_false, if_true, decide_eq_true_eq, reduceCtorEq]
  by_cases h : a < 0
  · simp [h, ne_of_lt hab, not_le.mpr h]
  · simp [h, ne_of_lt hab, not_lt.mp h]

/-- The targets handed to `_ndtri_exp` lie between `log Φ(a)` and `log Φ(b)` (left) resp. `log Φ(-b)` and
`log Φ(-a)` (right), i.e. inside the range of `log ∘ Φ` on the interval: bisection has a root to find. -/
theorem ppf_targets_in_range (h : StdNormalLike Φ φ) {q a b : ℝ} (hab : a < b) (hq0 : 0 < q) (hq1 : q < 1) :
    Real.log (Φ a) < ppfLeftTarget Φ q a b ∧ ppfLeftTarget Φ q a b < Real.log (Φ b) ∧
    Real.log (Φ (-b)) < ppfRightTarget Φ q a b ∧ ppfRightTarget Φ q a b < Real.log (Φ (-a)) := by
  -- the targets are `log Φ` of the quantile and of its mirror image, which lie strictly inside
  obtain ⟨x, hx, _⟩ := quantile_existsUnique h hab hq0.le hq1.le
  obtain ⟨m1, m2⟩ := quantile_mem_strict h hab hq0 hq1 hx
  have hl := log_cdf_strictMono h
  rw [ppfLeftTarget_eq h hab hq0, ppfRightTarget_eq h hab hq1, ← hx, ← quantile_neg h hx]
  exact ⟨hl m1, hl m2, hl (neg_lt_neg m2), hl (neg_lt_neg m1)⟩

end ppf

/-- **Bracket invariant**: for a strictly increasing `f` with a root of `f x = c` in `[a, b]`, after any
number `n` of rounds the bracket still contains the root and has width `(b − a) / 2ⁿ`. -/
theorem bisect_bracket_invariant (f : ℝ → ℝ) (hf : StrictMono f) (c xs : ℝ) (hx : f xs = c)
    (below : Rat → Bool) (hb : ∀ m : ℚ, below m = true ↔ f m < c)
    (n : Nat) (a b : Rat) (ha : (a : ℝ) ≤ xs) (hbx : xs ≤ (b : ℝ)) :
    ((bracket below n a b).1 : ℝ) ≤ xs ∧ xs ≤ ((bracket below n a b).2 : ℝ) ∧
      (bracket below n a b).2 - (bracket below n a b).1 = (b - a) / 2 ^ n :=
  ⟨(bracket_contains_root_mono f hf c xs hx below hb n a b ha hbx).1,
   (bracket_contains_root_mono f hf c xs hx below hb n a b ha hbx).2, bracket_width below n a b⟩

/-- The containment half when the code had to swap the ends (`f(a) > c`, decreasing `f`): the root stays between the
swapped ends (the width is `bracket_width`, which needs no monotonicity). -/
theorem bisect_bracket_invariant_swapped (f : ℝ → ℝ) (hf : StrictAnti f) (c xs : ℝ) (hx : f xs = c)
    (below : Rat → Bool) (hb : ∀ m : ℚ, below m = true ↔ f m < c)
    (n : Nat) (a b : Rat) (ha : xs ≤ (a : ℝ)) (hbx : (b : ℝ) ≤ xs) :
    ((bracket below n a b).2 : ℝ) ≤ xs ∧ xs ≤ ((bracket below n a b).1 : ℝ) := by
  have h := bracket_sandwich (fun q => f q) c below hb n a b
    (by rw [← hx]; exact hf.antitone ha) (by rw [← hx]; exact hf.antitone hbx)
  rw [← hx] at h
  exact ⟨hf.le_iff_ge.mp h.2, hf.le_iff_ge.mp h.1⟩

theorem bracketLo_cast : ((bracketLo : ℚ) : ℝ) = -100 := by simp [bracketLo]
theorem bracketHi_cast : ((bracketHi : ℚ) : ℝ) = 100 := by simp [bracketHi]

theorem bisect_bracket_error (f : ℝ → ℝ) (hf : StrictMono f) (c xs : ℝ) (hx : f xs = c)
    (above below : Rat → Bool) (ha : ∀ m : ℚ, above m = true ↔ c < f m) (hb : ∀ m : ℚ, below m = true ↔ f m < c)
    (hlo : (-100 : ℝ) ≤ xs) (hhi : xs ≤ 100) (k : ℕ) :
    |((bisect above below k bracketLo bracketHi : ℚ) : ℝ) - xs| ≤ 100 / 2 ^ k :=
  (bisect_error_mono f hf c xs hx above below ha hb k bracketLo bracketHi (bracketLo_cast.trans_le hlo)
    (hhi.trans_eq bracketHi_cast.symm)).trans_eq (by rw [bracketLo_cast, bracketHi_cast, pow_succ]; field_simp; norm_num)

/-- **`_ndtri_exp_single`** with the *generated* iteration count (100) and bracket (−100, 100): if the root
lies in the bracket, the returned value is within `200 / 2¹⁰¹` of it. -/
theorem ndtri_exp_error (f : ℝ → ℝ) (hf : StrictMono f) (c xs : ℝ) (hx : f xs = c)
    (above below : Rat → Bool) (ha : ∀ m : ℚ, above m = true ↔ c < f m) (hb : ∀ m : ℚ, below m = true ↔ f m < c)
    (hlo : (-100 : ℝ) ≤ xs) (hhi : xs ≤ 100) :
    |((ndtriExp above below : ℚ) : ℝ) - xs| ≤ 200 / 2 ^ 101 :=
  (bisect_bracket_error f hf c xs hx above below ha hb hlo hhi bisectIters).trans_eq (by norm_num [bisectIters])

/-- **The reported finding, in the model**: when the target is *below* `f(a)` for an increasing `f` (the root
lies left of the bracket), `_bisect` swaps its ends and returns a point within `(b−a)/2ⁿ⁺¹` of the
*far* end `b` — `ppf(0.9, 99.99, ∞)`, whose `ppf_right` bisects for the mirror image of the quantile, gives `-100`. -/
theorem bisect_root_outside_bracket_wrong_end (f : ℝ → ℝ) (hf : Monotone f) (c : ℝ)
    (above below : Rat → Bool) (ha : ∀ m : ℚ, above m = true ↔ c < f m) (hb : ∀ m : ℚ, below m = true ↔ f m < c)
    (n : Nat) (a b : Rat) (hab : a ≤ b) (hc : c < f a) :
    bisect above below n a b = b - (b - a) / 2 ^ (n + 1) := by
  -- every midpoint lies right of `a`, where `f ≥ f a > c`: the test `f(m) < c` always fails and the end `b` never moves
  have hfst : (bracket below n b a).1 = b := bracket_fst_of_not_below below n b a hab fun m h1 _ =>
    Bool.eq_false_iff.mpr fun hm => absurd ((hb m).mp hm) (not_lt.mpr (hc.le.trans (hf (Rat.cast_le.mpr h1))))
  have hw := bracket_width below n b a
  rw [bisect, if_pos ((ha a).mpr hc), bisectLoop_eq_mid, pow_succ, ← div_div, ← neg_sub a b, neg_div, ← hw, hfst]
  ring

section logpdf
variable {Φ φ : ℝ → ℝ}

/-- `exp` of the translated `logpdf` formula is `φ(z) / (scale (Φ b − Φ a))`, `z = (x − loc)/scale`, at every `x`: inside
the support that is the truncated normal density (outside it the source overrides the formula by `-inf`,
`logpdfOverrides`). -/
theorem logpdf_is_truncated_density (h : StdNormalLike Φ φ) (hφ : ∀ z, φ z = Real.exp (normLogpdf z))
    (I : Interp) (hI : I.Φ = Φ) {a b : ℝ} (hab : a < b) (x loc : ℝ) {scale : ℝ} (hs : 0 < scale) :
    let env := envOf [("x", x), ("a", a), ("b", b), ("loc", loc), ("scale", scale)]
    Real.exp (eval I (fun n => if n = "x" then eval I env logpdfStdBody else env n) logpdfBody)
      = φ ((x - loc) / scale) / (scale * (Φ b - Φ a)) := by
  intro env
  rw [gen_logpdf_meaning, hI]
  show Real.exp (logpdfIn Φ x a b loc scale) = _
  rw [exp_logpdfIn h hab hs, hφ]

/-- **`∫ exp(logpdf) = 1`** over the truncation interval (fundamental theorem of calculus on the truncated
cdf `(Φ(z) − Φ(a))/(Φ(b) − Φ(a))`). -/
theorem logpdf_integrates_to_one (h : StdNormalLike Φ φ) (hφ : ∀ z, φ z = Real.exp (normLogpdf z))
    {a b : ℝ} (hab : a < b) (loc : ℝ) {scale : ℝ} (hs : 0 < scale) :
    ∫ x in (loc + a * scale)..(loc + b * scale), Real.exp (logpdfIn Φ x a b loc scale) = 1 := by
  have hM := mass_pos h hab
  have hd : ∀ x ∈ Set.uIcc (loc + a * scale) (loc + b * scale),
      HasDerivAt (fun x => (Φ ((x - loc) / scale) - Φ a) / (Φ b - Φ a))
        (Real.exp (logpdfIn Φ x a b loc scale)) x := by
    intro x _
    have := truncCdf_hasDerivAt h a b loc scale x
    convert this using 1
    rw [exp_logpdfIn h hab hs, hφ]
    field_simp
  have hcont : Continuous fun x => Real.exp (logpdfIn Φ x a b loc scale) := by
    unfold logpdfIn
    have := continuous_normLogpdf
    fun_prop
  rw [intervalIntegral.integral_eq_sub_of_hasDerivAt hd (hcont.intervalIntegrable _ _)]
  have e1 : (loc + b * scale - loc) / scale = b := by field_simp; ring
  have e2 : (loc + a * scale - loc) / scale = a := by field_simp; ring
  rw [e1, e2, sub_self, zero_div, sub_zero, div_self hM.ne']

end logpdf

/-- **Cell masses sum to one.**  Grid `low, low+step, …, low + n·step = high`; the code's cell of the grid
point `x` is `[max(x − step/2, low − step/2), min(x + step/2, high + step/2)]`, standardised by `(· − mu)/sigma`,
and its log-mass is `_log_gauss_mass(cell) − _log_gauss_mass(whole)`. -/
theorem discrete_masses_sum_to_one {Φ φ : ℝ → ℝ} (h : StdNormalLike Φ φ) (low step mu sigma : ℝ) (n : ℕ)
    (hstep : 0 < step) (hsigma : 0 < sigma) :
    let high := low + n * step
    ∑ k ∈ Finset.range (n + 1),
      Real.exp
        (logGaussMass Φ ((max (low + k * step - step / 2) (low - step / 2) - mu) / sigma)
            ((min (low + k * step + step / 2) (high + step / 2) - mu) / sigma)
          - logGaussMass Φ ((low - step / 2 - mu) / sigma) ((high + step / 2 - mu) / sigma)) = 1 := by
  intro high
  let u : ℕ → ℝ := fun k => (low - step / 2 + k * step - mu) / sigma
  have hu : StrictMono u := by
    intro i j hij
    have : (i : ℝ) * step < j * step := mul_lt_mul_of_pos_right (by exact_mod_cast hij) hstep
    exact div_lt_div_of_pos_right (by linarith) hsigma
  rw [← cell_masses_sum_to_one h u hu n]
  refine Finset.sum_congr rfl fun k hk => ?_
  -- inside the grid neither `max` nor `min` clips
  have hk0 : (0 : ℝ) ≤ k * step := mul_nonneg (Nat.cast_nonneg k) hstep.le
  have hkn : (k : ℝ) * step ≤ n * step :=
    mul_le_mul_of_nonneg_right (by exact_mod_cast Nat.lt_succ_iff.mp (Finset.mem_range.mp hk)) hstep.le
  rw [max_eq_left (by linarith), min_eq_left (by simp only [high]; linarith)]
  simp only [u, high]
  congr 3 <;> (push_cast; ring)

/-- **Shift invariance** of log-sum-exp (the code shifts by the row maximum). -/
theorem logsumexp_shift_invariant {ι : Type*} (s : Finset ι) (hs : s.Nonempty) (x : ι → ℝ) (c : ℝ) :
    Real.log (∑ i ∈ s, Real.exp (x i - c)) + c = Real.log (∑ i ∈ s, Real.exp (x i)) := by
  have hpos : 0 < ∑ i ∈ s, Real.exp (x i) := Finset.sum_pos (fun i _ => Real.exp_pos _) hs
  have e : ∑ i ∈ s, Real.exp (x i - c) = (∑ i ∈ s, Real.exp (x i)) * Real.exp (-c) := by
    rw [Finset.sum_mul]
    refine Finset.sum_congr rfl fun i _ => ?_
    rw [← Real.exp_add]; congr 1
  rw [e, log_mul_exp_neg_add hpos]

/-- **Mixture `log_pdf` guard.**  With the guard *as found in the source* (`mixtureGuard`, regenerated), a row
of component log-densities that are finite or `-inf` gives `-inf` when all are `-inf` and the exact
`log Σ exp` otherwise; never NaN. -/
theorem mixture_log_pdf_guard (w : List (Option ℝ)) :
    mixLogPdf mixtureGuard (w.map ofOpt) =
      if (∀ x ∈ w, x = none) then FVal.ninf else FVal.fin (Real.log (w.map expO).sum) := by
  obtain ⟨o, ho⟩ := maxL_ofOpt w
  -- the guard makes the shift finite (`0` for a row of `-inf`, the row maximum otherwise), and any finite shift will do
  unfold mixLogPdf mixtureGuard
  cases o with
  | none => simpa only [ho, ofOpt, FVal.isNinf, Bool.true_and, if_true] using logSumExp_shift w 0
  | some M => simpa only [ho, ofOpt, FVal.isNinf, Bool.and_false, Bool.false_eq_true, if_false] using logSumExp_shift w M

theorem mixture_log_pdf_never_nan (w : List (Option ℝ)) :
    (mixLogPdf mixtureGuard (w.map ofOpt)).isNan = false := by
  rw [mixture_log_pdf_guard]
  split <;> rfl

/-- Without the guard, a row of `-inf` gives NaN (`(-inf) - (-inf)`): the guard is necessary. -/
theorem mixture_unguarded_nan : (mixLogPdf false [FVal.ninf]).isNan = true := by
  simp [mixLogPdf, maxL, FVal.max, FVal.isNinf, FVal.sub, FVal.exp, sumL, FVal.add, FVal.log, FVal.isNan]

/-- **No NaN from valid arguments, at the level of ℝ-definedness**: for `a < b`, `0 < scale`, and `q` strictly
inside `(0,1)` where a branch formula (not an override) is used, every argument of `log`/`log1p` occurring in
`_log_diff` (left/right case), `mass_case_central`, `_log_sum`, `ppf_left`, `ppf_right` and `logpdf` is
positive. -/
theorem no_nan_from_valid_args {Φ φ : ℝ → ℝ} (h : StdNormalLike Φ φ) {a b q scale : ℝ} (hab : a < b)
    (hq0 : 0 < q) (hq1 : q < 1) (hs : 0 < scale) :
    -- `_log_ndtr`: log Φ
    0 < Φ a ∧ 0 < Φ b ∧ 0 < Φ (-a) ∧ 0 < Φ (-b) ∧
    -- `_log_diff` in mass_case_left(a, b) and mass_case_left(-b, -a): log1p(-exp(lq - lp))
    0 < 1 + -Real.exp (Real.log (Φ a) - Real.log (Φ b)) ∧
    0 < 1 + -Real.exp (Real.log (Φ (-b)) - Real.log (Φ (-a))) ∧
    -- mass_case_central: log1p(-Φ(a) - Φ(-b))
    0 < 1 + (-Φ a - Φ (-b)) ∧
    -- ppf_left: log q ; ppf_right: log1p(-q)
    0 < q ∧ 0 < 1 + -q ∧
    -- np.logaddexp
    0 < Real.exp (Real.log (Φ a)) + Real.exp (Real.log q + logGaussMass Φ a b) ∧
    -- logpdf: log(scale)
    0 < scale := by
  exact ⟨h.pos a, h.pos b, h.pos _, h.pos _, logDiff_arg_pos (log_cdf_strictMono h hab),
    logDiff_arg_pos (log_cdf_strictMono h (neg_lt_neg hab)), massCentral_arg_pos h hab, hq0, by linarith,
    logaddexp_arg_pos _ _, hs⟩

/-! ## non-vacuity: the hypotheses are satisfiable -/

/-- The standard normal cdf `1/2 + ∫₀ˣ exp(-t²/2)/√(2π)` and its density satisfy the bundle, and the density
is `exp ∘ _norm_logpdf` as the `logpdf` theorems require. -/
theorem hypotheses_satisfied_by_standard_normal :
    StdNormalLike gaussCdf gaussPdf ∧ ∀ z, gaussPdf z = Real.exp (normLogpdf z) :=
  ⟨gauss_stdNormalLike, fun _ => rfl⟩

/-- A second model of the bundle, the logistic cdf (the theorems that do not mention `_norm_logpdf` hold for every
symmetric, strictly increasing, differentiable cdf). -/
theorem hypotheses_satisfied_by_logistic :
    StdNormalLike Real.sigmoid (fun x => Real.sigmoid x * (1 - Real.sigmoid x)) where
  strictMono := Real.sigmoid_strictMono
  pos := Real.sigmoid_pos
  lt_one := Real.sigmoid_lt_one
  symm := Real.sigmoid_neg
  hasDeriv := Real.hasDerivAt_sigmoid

/-- An `_ndtri_exp` that meets `InvertsLogCdf` exists for every cdf (choice). -/
noncomputable def invOf (Φ : ℝ → ℝ) (y : ℝ) : ℝ :=
  open Classical in if hy : ∃ x, Real.log (Φ x) = y then Classical.choose hy else 0

theorem invOf_inverts (Φ : ℝ → ℝ) (erf erfc : ℝ → ℝ) : InvertsLogCdf ⟨Φ, erf, erfc, invOf Φ⟩ := by
  intro y hy
  simp only [invOf, hy, dif_pos]
  exact Classical.choose_spec hy

/-! ### non-vacuity examples -/

-- the hypotheses of the mass / ppf / logpdf theorems are jointly satisfiable, here at concrete arguments
example : logGaussMass gaussCdf (-1) 2 = Real.log (gaussCdf 2 - gaussCdf (-1)) :=
  (log_gauss_mass_cases_total_and_equal gauss_stdNormalLike (by norm_num)).1

example : ∃ x, ppfValue ⟨gaussCdf, id, id, invOf gaussCdf⟩ (1 / 3) (-1) 2 = some x ∧ ((-1 : ℚ) : ℝ) ≤ x ∧ x ≤ (2 : ℚ) ∧
    gaussCdf x = gaussCdf ((-1 : ℚ) : ℝ) + ((1 / 3 : ℚ) : ℝ) * (gaussCdf ((2 : ℚ) : ℝ) - gaussCdf ((-1 : ℚ) : ℝ)) :=
  ppf_in_interval gauss_stdNormalLike _ rfl (invOf_inverts _ _ _) (1 / 3) (-1) 2 (by norm_num) (by norm_num) (by norm_num)

example : ∫ x in ((3 : ℝ) + (-1) * 2)..(3 + 5 * 2), Real.exp (logpdfIn gaussCdf x (-1) 5 3 2) = 1 :=
  logpdf_integrates_to_one gauss_stdNormalLike (fun _ => rfl) (by norm_num) 3 (by norm_num)

-- the case split really has three inhabited cases
example : massCase (.fin (-3)) (.fin (-1)) = .left ∧ massCase (.fin 1) (.fin 3) = .right ∧
    massCase (.fin (-1)) (.fin 1) = .central ∧ massCase (.fin 0) (.fin 1) = .central ∧
    massCase (.fin (-1)) (.fin 0) = .left := by decide

-- every `ppf` case is inhabited
example : ppfCase (1 / 2) (.fin (-1)) (.fin 1) = .left ∧ ppfCase (1 / 2) (.fin 0) (.fin 1) = .right ∧
    ppfCase 0 (.fin 0) (.fin 1) = .lo ∧ ppfCase 1 (.fin 0) (.fin 1) = .hi ∧ ppfCase (1 / 2) (.fin 1) (.fin 1) = .nan := by
  decide +kernel

-- bisection on f(x) = x, c = 1/3: after 3 rounds the bracket [0, 1] has become [1/4, 3/8]
example : bracket (fun m => decide (m < 1 / 3)) 3 0 1 = (1 / 4, 3 / 8) := by decide +kernel

-- a mixture row with one finite and one `-inf` component
example : mixLogPdf true [FVal.fin 0, FVal.ninf] = FVal.fin (Real.log (Real.exp 0 + 0)) := by
  have := mixture_log_pdf_guard [some 0, none]
  simpa [ofOpt, expO, mixtureGuard] using this

end OptunaVerif.C18
