import OptunaVerif.Props.C05
import OptunaVerif.Lemmas.C05C07Bridge
/-!
# C05 ⇄ C07 — an acknowledged append is read back, AT ITS POSITION, by every later `read_logs` of every worker

`Props/C05.lean` is about the BYTES the appender protocol leaves (`Model/JournalAppend.lean`: acquire / takeover / repair / byte-wise write /
release / death at any point); `Props/C07.lean` is about the reader (`Model/JournalFile.lean`: `readLoop` / `readLogs` with the offset cache) on an
abstract list of `Line`s, under the hypotheses `WF` and `Consistent`.  Here both hypotheses are derived for the files the protocol can reach:

* (a) `linesOf` — the reader's view of a byte file; `linesOf_eq_splitLens` (it is Python's line iteration), `linesOf_seek` (seeking to a
  record's offset shows the lines from that record on), `readBytes` — `read_logs` on bytes (Lemmas/C05C07Bridge.lean);
* (b) `records_are_submitted`, `reachable_file_wf` — reachability ⇒ `WF`;
* (c) `consistent_of_prefix`, `consistent_extends`, `read_keeps_consistent` — `Consistent` survives every continuation, and the reader re-establishes
  it for the file it has just read (the offset of an unterminated last line is not kept: the F20b repair);
* (d) `read_covers_snapshot` (on byte strings alone: a read covers every complete record the file had when the size snapshot was taken),
  `acked_has_position`, `ack_read_durable`, `interrupted_append_all_or_nothing_for_readers` — positions, not membership.

`valid : List Nat → Bool` is "`json.loads` of the line succeeds" (the `valid` flag of `JournalFile.Line`); the hypothesis on a history is that
every record handed to `append_logs` is valid (`submitted`).  Known limits kept: the lock takeover is one atomic step (finding F13 is outside
`Model/JournalAppend.lean`), one size snapshot per read.
-/
namespace OptunaVerif.Bridge
open OptunaVerif.JournalFile OptunaVerif.JournalAppend

def submitted : List Act → List (List Nat)
  | [] => []
  | .acquire _ r :: rest => r :: submitted rest
  | .takeover _ r :: rest => r :: submitted rest
  | _ :: rest => submitted rest

def actRecord : Act → Option (List Nat)
  | .acquire _ r => some r
  | .takeover _ r => some r
  | _ => none

def RecInv (P : List Nat → Prop) (st : St) : Prop :=
  (∀ r ∈ records st.file, P r) ∧ (∀ (w : Nat) (wk : Worker), st.ws[w]? = some wk → wk.stage ≠ none → P wk.record)

theorem step_workers (P : List Nat → Prop) (st : St) (a : Act)
    (h2 : ∀ (w : Nat) (wk : Worker), st.ws[w]? = some wk → wk.stage ≠ none → P wk.record) (ha : ∀ r, actRecord a = some r → P r) :
    ∀ (w : Nat) (wk : Worker), (step st a).ws[w]? = some wk → wk.stage ≠ none → P wk.record := by
  intro w' wk' hget hst
  have hc := step_case st a
  generalize step st a = st' at hc hget
  have set : ∀ (ws : List Worker) (w : Nat) (x : Worker), (ws[w']? = some wk' → P wk'.record) →
      (setW ws w x)[w']? = some wk' → (x.stage ≠ none → P x.record) → P wk'.record := by
    intro ws w x hold h hx
    rcases setW_get_some h with ⟨_, e⟩ | ⟨_, e⟩
    · subst e; exact hx hst
    · exact hold e
  have old : st.ws[w']? = some wk' → P wk'.record := fun e => h2 _ _ e hst
  cases hc with
  | skip => exact old hget
  | acquire w r wk => exact set _ w _ old hget (fun _ => ha r rfl)
  | takeover w r h wk =>
    refine set _ w _ (fun e => ?_) hget (fun _ => ha r rfl)
    -- the dead holder is outside `append_logs` now; everybody else is as before
    rw [updAt_getElem?] at e
    split at e
    · cases hh : st.ws[w']? with
      | none => rw [hh] at e; cases e
      | some y => rw [hh] at e; cases e; exact absurd rfl hst
    · exact old e
  | repair w wk hw _ _ hs => exact set _ w _ old hget (fun _ => h2 w wk hw (by rw [hs]; simp))
  | writeByte w wk b rest hw _ _ hs => exact set _ w _ old hget (fun _ => h2 w wk hw (by rw [hs]; simp))
  | release w wk => exact set _ w _ old hget (fun h => absurd rfl h)
  | die w wk hw => exact set _ w _ old hget (fun h => h2 w wk hw h)

theorem recInv_step (P : List Nat → Prop) (st : St) (a : Act) (hinv : C05.Inv st) (h : RecInv P st)
    (ha : ∀ r, actRecord a = some r → P r) : RecInv P (step st a) := by
  refine ⟨?_, step_workers P st a h.2 ha⟩
  rcases C05.records_step st a hinv with he | ⟨w, wk, _, hw, hs, he⟩ <;> rw [he]
  · exact h.1
  · -- the new complete line is the record of a worker inside `append_logs`
    intro r hr
    rcases List.mem_append.mp hr with hr | hr
    · exact h.1 r hr
    · rw [List.mem_singleton.1 hr]
      exact h.2 w wk hw (by rw [hs]; simp)

theorem submitted_eq (acts : List Act) : submitted acts = acts.filterMap actRecord := by
  induction acts with
  | nil => rfl
  | cons a t ih => cases a <;> simp [submitted, actRecord, List.filterMap_cons, ih]

theorem submitted_append (a b : List Act) : submitted (a ++ b) = submitted a ++ submitted b := by
  simp [submitted_eq]

theorem actRecord_mem (a : Act) (acts : List Act) (r : List Nat) (h : actRecord a = some r) (ha : a ∈ acts) : r ∈ submitted acts := by
  rw [submitted_eq]; exact List.mem_filterMap.2 ⟨a, ha, h⟩

theorem recInv_run (P : List Nat → Prop) (st : St) (acts : List Act) (hinv : C05.Inv st) (h : RecInv P st)
    (ha : ∀ a ∈ acts, ∀ r, actRecord a = some r → P r) : RecInv P (run st acts) := by
  induction acts generalizing st with
  | nil => exact h
  | cons a rest ih =>
    exact ih (step st a) (C05.inv_step st a hinv) (recInv_step P st a hinv h (ha a (by simp)))
      fun b hb => ha b (List.mem_cons_of_mem _ hb)

theorem recInv_init (P : List Nat → Prop) (n : Nat) : RecInv P (JournalAppend.init n) :=
  ⟨by simp [JournalAppend.init, records, splitRec], fun _ _ h hs => absurd (init_stage h) hs⟩

/-- every complete line of a reachable file is, byte for byte, a WHOLE record that some worker handed to
`append_logs` (never a fragment, never two records glued together). -/
theorem records_are_submitted (n : Nat) (acts : List Act) :
    ∀ r ∈ records (run (JournalAppend.init n) acts).file, r ∈ submitted acts :=
  (recInv_run (· ∈ submitted acts) _ acts (C05.inv_init n) (recInv_init _ n) fun a ha r hr => actRecord_mem a acts r hr ha).1

/-- (b) for every number of workers and EVERY history of acquires / takeovers / repairs / byte writes / releases /
deaths whose submitted records are valid JSON lines, the reader's view of the file satisfies the hypothesis `WF` of C07's reader theorems:
every terminated line is valid, only the last line may be unterminated.  (The first clause uses reachability: `records_are_submitted`.) -/
theorem reachable_file_wf (valid : List Nat → Bool) (n : Nat) (acts : List Act) (hv : ∀ r ∈ submitted acts, valid r = true) :
    C07.WF (linesOf valid (run (JournalAppend.init n) acts).file) :=
  linesOf_wf valid _ fun r hr => hv r (records_are_submitted n acts r hr)

/-- a cache entry never points at or past an unterminated tail: all records before it are complete, so it lies within the complete records -/
theorem consistent_within_records (valid : List Nat → Bool) (f : List Nat) (c : Cache) (h : C07.Consistent (linesOf valid f) c)
    (k o : Nat) (hget : c.get? k = some o) : k ≤ (records f).length := by
  obtain ⟨hk, _, hpre⟩ := h k o hget
  apply Nat.le_of_not_lt
  intro hlt
  have hR : (records f).length < (linesOf valid f).length := by omega
  obtain ⟨ln, hln⟩ : ∃ ln, (linesOf valid f)[(records f).length]? = some ln := ⟨_, List.getElem?_eq_getElem hR⟩
  have ht := linesOf_get_tail valid f _ ln (Nat.le_refl _) hln
  have := hpre _ ln hlt hln
  simp [Complete, ht] at this

/-- if the complete records of `f` are a prefix of those of `f'` (all a reachable continuation can do: C05's
`records_prefix_run`), every cache that is consistent with `f` is consistent with `f'`: same offsets, same completeness, for every entry.
An entry can never point into a torn tail (`consistent_within_records`), which is why a later repair cannot invalidate it. -/
theorem consistent_of_prefix (valid : List Nat → Bool) (f f' : List Nat) (hp : records f <+: records f') (c : Cache)
    (h : C07.Consistent (linesOf valid f) c) : C07.Consistent (linesOf valid f') c := by
  intro k o hget
  have hkR := consistent_within_records valid f c h k o hget
  obtain ⟨_, ho, hpre⟩ := h k o hget
  have hRR := hp.length_le
  have htake : (records f').take k = (records f).take k := by
    obtain ⟨t, ht⟩ := hp
    rw [← ht, List.take_append_of_le_length hkR]
  refine ⟨Nat.le_trans (Nat.le_trans hkR hRR) (linesOf_length_ge valid f'), ?_, ?_⟩
  · rw [ho, offsetOf_linesOf valid f k hkR, offsetOf_linesOf valid f' k (Nat.le_trans hkR hRR), htake]
  · intro j ln hj hln
    have hj1 : j < (records f).length := by omega
    have hj2 : j < (records f').length := by omega
    rw [linesOf_get_record valid f' j hj2] at hln
    rw [← hp.getElem hj1] at hln
    exact hpre j ln hj (by rw [linesOf_get_record valid f j hj1]; exact hln)

theorem records_prefix_later (n : Nat) (acts more : List Act) :
    records (run (JournalAppend.init n) acts).file <+: records (run (JournalAppend.init n) (acts ++ more)).file := by
  rw [run_append]; exact C05.records_prefix_run _ more (C05.inv_run _ acts (C05.inv_init n))

/-- (c) a cache consistent with a reachable file stays consistent with the file of EVERY later state (other
workers appending, dying at any byte, taking over, repairing). -/
theorem consistent_extends (valid : List Nat → Bool) (n : Nat) (acts more : List Act) (c : Cache)
    (h : C07.Consistent (linesOf valid (run (JournalAppend.init n) acts).file) c) :
    C07.Consistent (linesOf valid (run (run (JournalAppend.init n) acts) more).file) c := by
  rw [← run_append]; exact consistent_of_prefix valid _ _ (records_prefix_later n acts more) c h

/-- `read_logs(from_)` on the BYTES of a file whose line view is well-formed, with a consistent cache that still has its
initial entry `0 ↦ 0` (cold or hot: whether or not the offset of `from_` is cached): it returns — never raises — exactly the log numbers
`from_ … m-1`, all complete records inside the size snapshot, `m` being the first line that is incomplete or crosses the snapshot; the cache it
leaves is consistent and still has `0 ↦ 0`. -/
theorem read_bytes_spec (valid : List Nat → Bool) (f : List Nat) (hwf : C07.WF (linesOf valid f)) (size : Nat) (cache : Cache) (from_ : Nat)
    (hcons : C07.Consistent (linesOf valid f) cache) (h0 : cache.get? 0 = some 0) :
    ∃ m cache', readBytes valid f size cache from_ = .ok (List.range' from_ (m - from_)) cache' ∧ m ≤ (linesOf valid f).length ∧
      C07.Consistent (linesOf valid f) cache' ∧ cache'.get? 0 = some 0 ∧
      (∀ j ln, from_ ≤ j → j < m → (linesOf valid f)[j]? = some ln → Complete ln = true ∧ offsetOf (linesOf valid f) (j + 1) ≤ size) ∧
      (∀ ln, (linesOf valid f)[m]? = some ln → Complete ln = false ∨ size < offsetOf (linesOf valid f) (m + 1)) := by
  cases hk : cache.get? from_ with
  | some off =>
    obtain ⟨m, cache', hres, h1, h2, h3, h4, h5⟩ := C07.read_returns_contiguous_complete (linesOf valid f) hwf from_ size off cache hcons hk
    have hkR := consistent_within_records valid f cache hcons from_ off hk
    have hoff : off = offsetOf (linesOf valid f) from_ := (hcons from_ off hk).2.1
    have heq : readBytes valid f size cache from_ =
        readLogs size cache from_ (fun o => if o = offsetOf (linesOf valid f) from_ then (linesOf valid f).drop from_ else []) := by
      unfold readBytes readLogs
      simp only [hk]
      rw [hoff, linesOf_seek valid f from_ hkR]
      simp
    exact ⟨m, cache', by rw [heq, hres], h2, h3, (readLogs_keeps_zero hres).trans h0, h4, h5⟩
  | none =>
    obtain ⟨m, cache', hres, h2, h3, h4, h5⟩ := C07.read_cold_returns_contiguous_complete (linesOf valid f) hwf from_ size cache hcons hk h0
    have heq : readBytes valid f size cache from_ = readLogs size cache from_ (fun o => if o = 0 then linesOf valid f else []) := by
      unfold readBytes readLogs
      simp only [hk]
      simp
    rw [Nat.zero_max] at hres
    exact ⟨m, cache', by rw [heq, hres], h2, h3, (readLogs_keeps_zero hres).trans h0, fun j ln _ hj => h4 j ln hj, h5⟩

def ReaderOk (valid : List Nat → Bool) (n : Nat) (acts : List Act) (cache : Cache) : Prop :=
  C07.Consistent (linesOf valid (run (JournalAppend.init n) acts).file) cache ∧ cache.get? 0 = some 0

/-- a fresh backend object (`_log_number_offset = {0: 0}`) -/
theorem readerOk_init (valid : List Nat → Bool) (n : Nat) (acts : List Act) : ReaderOk valid n acts [(0, 0)] :=
  -- `{0: 0}` is the empty cache with the offset of line 0 entered
  ⟨C07.consistent_set _ [] 0 (fun _ _ h => by cases h) (Nat.zero_le _) (fun _ _ hj => absurd hj (Nat.not_lt_zero _)), rfl⟩

theorem readerOk_later (valid : List Nat → Bool) (n : Nat) (acts more : List Act) (cache : Cache) (h : ReaderOk valid n acts cache) :
    ReaderOk valid n (acts ++ more) cache :=
  ⟨consistent_of_prefix valid _ _ (records_prefix_later n acts more) cache h.1, h.2⟩

/-- (c) a worker whose cache was left by its earlier reads (or is fresh) reads again after ANY continuation of the
history (appends, crashes at any byte, takeovers, repairs): the read returns normally, and the cache it leaves is again `ReaderOk` — for the file
it has just read, hence (`readerOk_later`) for every later one.  An unterminated last line's offset is NOT kept (the F20b repair): `Consistent`
has no entry beyond the complete records (`consistent_within_records`). -/
theorem read_keeps_consistent (valid : List Nat → Bool) (n : Nat) (acts more : List Act) (cache : Cache) (size from_ : Nat)
    (hv : ∀ r ∈ submitted (acts ++ more), valid r = true) (h : ReaderOk valid n acts cache) :
    ∃ idxs cache', readBytes valid (run (JournalAppend.init n) (acts ++ more)).file size cache from_ = .ok idxs cache' ∧
      ReaderOk valid n (acts ++ more) cache' := by
  have h' := readerOk_later valid n acts more cache h
  obtain ⟨m, cache', hres, _, hc, hz, _, _⟩ :=
    read_bytes_spec valid _ (reachable_file_wf valid n (acts ++ more) hv) size cache from_ h'.1 h'.2
  exact ⟨_, cache', hres, hc, hz⟩

theorem enc_take_le (rs : List (List Nat)) (a b : Nat) (hab : a ≤ b) : (enc (rs.take a)).length ≤ (enc (rs.take b)).length := by
  have : rs.take a = (rs.take b).take a := by rw [List.take_take, Nat.min_eq_left hab]
  rw [this, enc_take_drop (rs.take b) a]; simp

theorem enc_take_le_all (rs : List (List Nat)) (b : Nat) : (enc (rs.take b)).length ≤ (enc rs).length := by
  rw [enc_take_drop rs b]; simp

theorem record_inside_snapshot (valid : List Nat → Bool) (f₀ f : List Nat) (hp : records f₀ <+: records f) (m : Nat)
    (hm : m < (records f₀).length) : offsetOf (linesOf valid f) (m + 1) ≤ f₀.length := by
  obtain ⟨t, ht⟩ := hp
  have hm' : m + 1 ≤ (records f).length := by rw [← ht, List.length_append]; omega
  have hm₀ : m + 1 ≤ (records f₀).length := hm
  rw [offsetOf_linesOf valid f (m + 1) hm', ← ht, List.take_append_of_le_length hm₀]
  have h1 := enc_take_le_all (records f₀) (m + 1)
  have h2 := congrArg List.length (file_eq f₀)
  simp only [List.length_append] at h2
  omega

/-- **where reader and appender meet**: `f₀` is the file when the reader takes its size snapshot, `f` the file it then iterates
over; all the appender can have done in between is add complete records behind those of `f₀` (and repair or extend a tail).  If
the complete lines of `f` are valid, the read returns normally, covers every complete record of `f₀` from `from_` on, and leaves a
consistent cache. -/
theorem read_covers_snapshot (valid : List Nat → Bool) (f₀ f : List Nat) (hp : records f₀ <+: records f)
    (hv : ∀ r ∈ records f, valid r = true) (cache : Cache) (from_ : Nat)
    (hcons : C07.Consistent (linesOf valid f) cache) (h0 : cache.get? 0 = some 0) :
    ∃ m cache', readBytes valid f f₀.length cache from_ = .ok (List.range' from_ (m - from_)) cache' ∧
      (records f₀).length ≤ m ∧ C07.Consistent (linesOf valid f) cache' ∧ cache'.get? 0 = some 0 := by
  obtain ⟨m, cache', hres, _, hc, hz, _, h5⟩ := read_bytes_spec valid f (linesOf_wf valid f hv) f₀.length cache from_ hcons h0
  refine ⟨m, cache', hres, Nat.le_of_not_lt fun hm => ?_, hc, hz⟩
  -- line m is a complete record of the snapshot, valid, and ends inside it: the loop cannot have stopped there
  have hm' := Nat.lt_of_lt_of_le hm hp.length_le
  rcases h5 _ (linesOf_get_record valid f m hm') with hbad | hbad
  · simp [Complete, recLine, hv _ (List.getElem_mem hm')] at hbad
  · exact absurd (record_inside_snapshot valid f₀ f hp m hm) (Nat.not_le.2 hbad)

theorem record_position_fixed (n : Nat) (acts more : List Act) (k : Nat) (r : List Nat)
    (h : (records (run (JournalAppend.init n) acts).file)[k]? = some r) :
    (records (run (JournalAppend.init n) (acts ++ more)).file)[k]? = some r := by
  obtain ⟨hk, he⟩ := List.getElem?_eq_some_iff.1 h
  rw [List.prefix_iff_getElem?.1 (records_prefix_later n acts more) k hk, he]

/-- (d) positions, not membership.  Let `r` be the `k`-th complete record of the file after the history `acts₁` (which is
where an acknowledged append has put it: `acked_has_position`).  Then after ANY continuation — `acts₂` up to the moment a reader takes its size
snapshot, `acts₃` up to the moment it iterates over the lines: other workers appending, dying at any byte, taking over, repairing — EVERY worker
`v` whose cache is `ReaderOk` for some earlier moment `pre` of the history (its own earlier reads, or a fresh object) and every `from_ ≤ k`:
`read_logs(from_)` returns normally the log numbers `from_ … m-1` with `k < m`, its `(k - from_)`-th element is `k`, line `k` of the file it read is
still `r`, and its new cache is again `ReaderOk`. -/
theorem ack_read_durable (valid : List Nat → Bool) (n : Nat) (acts₁ acts₂ acts₃ : List Act) (k : Nat) (r : List Nat)
    (hv : ∀ x ∈ submitted (acts₁ ++ acts₂ ++ acts₃), valid x = true)
    (hk : (records (run (JournalAppend.init n) acts₁).file)[k]? = some r)
    (pre post : List Act) (hsplit : acts₁ ++ acts₂ ++ acts₃ = pre ++ post) (cache : Cache) (hcache : ReaderOk valid n pre cache)
    (from_ : Nat) (hfrom : from_ ≤ k) :
    ∃ m cache', readBytes valid (run (JournalAppend.init n) (acts₁ ++ acts₂ ++ acts₃)).file
        (run (JournalAppend.init n) (acts₁ ++ acts₂)).file.length cache from_ = .ok (List.range' from_ (m - from_)) cache' ∧
      k < m ∧ (List.range' from_ (m - from_))[k - from_]? = some k ∧
      (records (run (JournalAppend.init n) (acts₁ ++ acts₂ ++ acts₃)).file)[k]? = some r ∧
      ReaderOk valid n (acts₁ ++ acts₂ ++ acts₃) cache' := by
  have hok := readerOk_later valid n pre post cache hcache
  rw [← hsplit] at hok
  have hk2 := record_position_fixed n acts₁ acts₂ k r hk
  obtain ⟨m, cache', hres, hm, hc, hz⟩ := read_covers_snapshot valid _ _ (records_prefix_later n (acts₁ ++ acts₂) acts₃)
    (fun x hx => hv x (records_are_submitted n _ x hx)) cache from_ hok.1 hok.2
  have hkm : k < m := Nat.lt_of_lt_of_le (List.getElem?_eq_some_iff.1 hk2).1 hm
  refine ⟨m, cache', hres, hkm, ?_, record_position_fixed n (acts₁ ++ acts₂) acts₃ k r hk2, hc, hz⟩
  rw [List.getElem?_range' (by omega)]
  congr 1; omega

/-- an acknowledged record HAS a position: the acknowledged records are, in order, a subsequence of the complete records of the file
(C05's `acked_in_file_order`), so each of them is the `k`-th record for some `k` -/
theorem acked_has_position (n : Nat) (acts : List Act) (r : List Nat) (hr : r ∈ (run (JournalAppend.init n) acts).acked) :
    ∃ k : Nat, (records (run (JournalAppend.init n) acts).file)[k]? = some r := by
  have := (C05.acked_in_file_order n acts).subset hr
  obtain ⟨k, hk, he⟩ := List.getElem_of_mem this
  exact ⟨k, by rw [List.getElem?_eq_getElem hk, he]⟩

/-- the companion for an UNacknowledged (crashed) append: whatever complete line a later
file has at position `k` is a WHOLE submitted record (never a fragment of a torn write), and once a record is at position `k` it is at
position `k` in every later file; so every later read (`read_bytes_spec`: only complete lines, by position) either never returns the
interrupted record or returns it whole at one fixed position. -/
theorem interrupted_append_all_or_nothing_for_readers (n : Nat) (acts more : List Act) (k : Nat) (r : List Nat)
    (h : (records (run (JournalAppend.init n) acts).file)[k]? = some r) :
    r ∈ submitted acts ∧ (records (run (JournalAppend.init n) (acts ++ more)).file)[k]? = some r :=
  ⟨by obtain ⟨hk, he⟩ := List.getElem?_eq_some_iff.mp h
      exact records_are_submitted n acts r (he ▸ List.getElem_mem hk),
    record_position_fixed n acts more k r h⟩


/-! ## non-vacuity: three workers — 0 appends `[1,2]`, 1 dies after two bytes of `[7,8,9]`, 2 takes the lock over, repairs, appends `[5]` -/

def allValid : List Nat → Bool := fun _ => true

-- the history meets the hypothesis of the theorems
example : ∀ r ∈ submitted C05.demoActs, allValid r = true := fun _ _ => rfl
example : submitted C05.demoActs = [[1, 2], [7, 8, 9], [5]] := by decide
-- while worker 1 lies dead in the middle of its write, the reader sees one record and a torn line …
example : linesOf allValid (run (JournalAppend.init 3) (C05.demoActs.take 11)).file = [⟨3, true, true⟩, ⟨2, false, true⟩] := by decide
-- … a reader (fresh cache) gets record 0 only and does NOT keep the offset of the torn line (F20b)
example : readBytes allValid (run (JournalAppend.init 3) (C05.demoActs.take 11)).file 5 [(0, 0)] 0 = .ok [0] [(1, 3), (0, 0)] := by decide
-- after the takeover + repair + append the torn bytes are gone; record 0 is still at position 0, `[5]` (acknowledged) at position 1
example : records (run (JournalAppend.init 3) C05.demoActs).file = [[1, 2], [5]] := by decide
example : (records (run (JournalAppend.init 3) C05.demoActs).file)[1]? = some [5] ∧ [5] ∈ (run (JournalAppend.init 3) C05.demoActs).acked := by decide
-- the CACHED reader (cache left by the read above, taken while the file was torn) reads from 1 on the grown file: position 1 is `[5]`
example : readBytes allValid (run (JournalAppend.init 3) C05.demoActs).file 5 [(1, 3), (0, 0)] 1 = .ok [1] [(2, 5), (1, 3), (0, 0)] := by decide
-- a cold reader gets both, in order
example : readBytes allValid (run (JournalAppend.init 3) C05.demoActs).file 5 [(0, 0)] 0 = .ok [0, 1] [(2, 5), (1, 3), (0, 0)] := by decide
-- the interrupted record `[7,8,9]` is in no later file (all-or-nothing: here nothing)
example : [7, 8, 9] ∉ records (run (JournalAppend.init 3) C05.demoActs).file := by decide
-- `ack_read_durable` instantiated: acts₁ = the whole demo (record `[5]` at k = 1), two more appends by worker 0 afterwards, reader cached at take 11
example : ∃ m cache', readBytes allValid (run (JournalAppend.init 3) (C05.demoActs ++ [] ++ [.acquire 0 [4], .repair 0, .writeByte 0])).file
      (run (JournalAppend.init 3) (C05.demoActs ++ [])).file.length [(1, 3), (0, 0)] 1 = .ok (List.range' 1 (m - 1)) cache' ∧ 1 < m ∧
      (List.range' 1 (m - 1))[1 - 1]? = some 1 ∧
      (records (run (JournalAppend.init 3) (C05.demoActs ++ [] ++ [.acquire 0 [4], .repair 0, .writeByte 0])).file)[1]? = some [5] ∧
      ReaderOk allValid 3 (C05.demoActs ++ [] ++ [.acquire 0 [4], .repair 0, .writeByte 0]) cache' :=
  ack_read_durable allValid 3 C05.demoActs [] [.acquire 0 [4], .repair 0, .writeByte 0] 1 [5] (fun _ _ => rfl) (by decide)
    (C05.demoActs.take 11) (C05.demoActs.drop 11 ++ [.acquire 0 [4], .repair 0, .writeByte 0]) (by simp [← List.append_assoc]) [(1, 3), (0, 0)]
    (by
      obtain ⟨idxs, c', h1, h2⟩ := read_keeps_consistent allValid 3 (C05.demoActs.take 11) [] [(0, 0)] 5 0 (fun _ _ => rfl)
        (readerOk_init allValid 3 _)
      have : readBytes allValid (run (JournalAppend.init 3) (C05.demoActs.take 11 ++ [])).file 5 [(0, 0)] 0 = .ok [0] [(1, 3), (0, 0)] := by decide
      rw [this] at h1
      cases h1
      simpa using h2) 1 (Nat.le_refl _)

end OptunaVerif.Bridge
