import OptunaVerif.Props.C13Bridge
import OptunaVerif.Props.C16ReportGen
/-!
# C13 — the direction mirror over whole HISTORIES of `ask` / `report` / `should_prune` / `tell`

`Props/C13Bridge.lean` proves the mirror for one `prune` call on a study whose stored `completed_rung_k` values are not
NaN (`NoNanRungs`).  Here the hypothesis is discharged: the negated history (`negOp`: every reported value negated, every
pruner replaced by its mirror `mirrorP` — ThresholdPruner bounds mirrored, everything else identical) builds, from the
empty minimising study, exactly the negated study (`after_neg` — including the rung values `should_prune` writes), every
reachable study has no NaN rung (`reachable_noNanRungs`, from `C16.reachable_wf`), hence `should_prune()` answers the
same in the maximising history and in the mirrored minimising history at EVERY call (`prune_mirror_history`,
`history_outputs_mirror`) — no hypothesis on the history at all.  `after_neg_min` / `after_neg_flip` state `after_neg`
from the minimising side; `gen_prune_mirror_history` / `gen_glue_after_neg` carry the result to the interpreter of the
generated pruner skeletons and to the generated `Trial.report` / `Trial.should_prune` glue.
-/
namespace OptunaVerif.C13History
open OptunaVerif.Pruners

def negOp : Op → Op
  | .report n st v => .report n st (xneg v)
  | .shouldPrune n p => .shouldPrune n (mirrorP p)
  | op => op

/-- the mirrored study of a maximising study -/
def negStudy (s : Study) : Study := ⟨.minimize, s.trials.map negT⟩

theorem noNanRungs_of_wf (s : Study) (h : C16.WFStudy s) : NoNanRungs s.trials :=
  fun t ht p hp => ((h t ht).2 p hp).1

/-- **every reachable study has no NaN `completed_rung_k`** (the pruner returns before storing a NaN: `C16.sh_never_stores_nan`,
carried along every history by `C16.reachable_wf`) -/
theorem reachable_noNanRungs (crc : Nat → Nat) (d : Dir) (ops : List Op) :
    NoNanRungs (after crc (Study.init d) ops).trials :=
  noNanRungs_of_wf _ (C16.reachable_wf crc d ops)

theorem applyWrites_neg (t : PTrial) (r : SHResult) : applyWrites (negT t) (negR r) = negT (applyWrites t r) := by
  simp [applyWrites, negT, negR, List.map_append, List.map_map, Function.comp_def]

theorem step_dir (crc : Nat → Nat) (s : Study) (op : Op) : (step crc s op).1.dir = s.dir := by
  rw [step_eq]
  split
  · rfl
  · split <;> rfl

theorem target_negOp (op : Op) : (negOp op).target = op.target := by cases op <;> rfl

/-- the mirrored call does to the mirrored trial what the call does to the trial, mirrored: the guards do not look at
values, a report appends the negated value, `should_prune` writes what the mirrored pruner writes (`prune_mirror`) -/
theorem act_neg (crc : Nat → Nat) (trials : List PTrial) (t : PTrial) (op : Op) (hr : NoNanRungs trials) :
    act crc ⟨.minimize, trials.map negT⟩ (negT t) (negOp op) =
      (act crc ⟨.maximize, trials⟩ t op).map fun r => (negT r.1, r.2) := by
  have hig : ∀ st, (interGet (negT t).inter st).isSome = (interGet t.inter st).isSome := fun st => by
    simp only [negT, interGet_neg, Option.isSome_map]
  cases op <;>
    simp only [act, negOp, negT_state, hig, prune_mirror crc trials _ t _ hr, applyWrites_neg, apply_ite (Option.map _),
      Option.map_none, Option.map_some]
  -- `ask` is closed; left are `report` (the appended pair), `should_prune` and `tell`
  · simp [negT]
  · rfl
  · rfl

theorem step_neg (crc : Nat → Nat) (s : Study) (op : Op) (hd : s.dir = .maximize) (hr : NoNanRungs s.trials) :
    step crc (negStudy s) (negOp op) = (negStudy (step crc s op).1, (step crc s op).2) := by
  obtain ⟨d, trials⟩ := s
  subst hd
  rw [step_eq, step_eq, target_negOp]
  cases op.target with
  | none => simp [negStudy, negT]
  | some n =>
    simp only [negStudy, List.getElem?_map]
    cases trials[n]? with
    | none => rfl
    | some t =>
      simp only [Option.map_some, Option.bind_some, act_neg crc trials t op hr]
      cases act crc ⟨.maximize, trials⟩ t op with
      | none => rfl
      | some r => simp only [Option.map_some, map_updAt_const]

/-- the answers of all calls of a history, in order (`none` for ask / report / tell and for calls that do nothing) -/
def outputs (crc : Nat → Nat) : Study → List Op → List (Option Bool)
  | _, [] => []
  | s, op :: ops => (step crc s op).2 :: outputs crc (step crc s op).1 ops

/-- `step_neg` along a run; well-formedness is what keeps `NoNanRungs` available at every call -/
theorem run_neg (crc : Nat → Nat) : ∀ (ops : List Op) (s : Study), s.dir = .maximize → C16.WFStudy s →
    after crc (negStudy s) (ops.map negOp) = negStudy (after crc s ops) ∧
    outputs crc (negStudy s) (ops.map negOp) = outputs crc s ops := by
  intro ops
  induction ops with
  | nil => intro s _ _; exact ⟨rfl, rfl⟩
  | cons op ops ih =>
    intro s hd hwf
    have ih := ih (step crc s op).1 (by rw [step_dir]; exact hd) (C16.step_wf crc s op hwf)
    simp only [after] at ih
    simp only [List.map_cons, after, List.foldl_cons, outputs, step_neg crc s op hd (noNanRungs_of_wf s hwf)]
    exact ⟨ih.1, congrArg _ ih.2⟩

/-- **the negated history builds the negated study** — every trial, every reported value, every `completed_rung_k` value
written by `should_prune` along the way -/
theorem after_neg (crc : Nat → Nat) (ops : List Op) :
    after crc (Study.init .minimize) (ops.map negOp) = negStudy (after crc (Study.init .maximize) ops) :=
  (run_neg crc ops (Study.init .maximize) rfl (C16.reachable_wf crc .maximize [])).1

theorem after_dir (crc : Nat → Nat) : ∀ (ops : List Op) (s : Study), (after crc s ops).dir = s.dir := by
  intro ops
  induction ops with
  | nil => intro s; rfl
  | cons op ops ih => intro s; simp only [after, List.foldl_cons]; rw [← step_dir crc s op]; exact ih _

/-- **`should_prune()` after any history**: the answer in the maximising history equals the answer in the mirrored minimising
history — for every pruner of `Model/Pruners.lean` (mirrored by `mirrorP`; no WilcoxonPruner there), every op list, every trial
number; no hypothesis. -/
theorem prune_mirror_history (crc : Nat → Nat) (ops : List Op) (n : Nat) (p : Pruner) :
    (step crc (after crc (Study.init .minimize) (ops.map negOp)) (.shouldPrune n (mirrorP p))).2 =
      (step crc (after crc (Study.init .maximize) ops) (.shouldPrune n p)).2 := by
  rw [after_neg]
  rw [show Op.shouldPrune n (mirrorP p) = negOp (.shouldPrune n p) from rfl,
    step_neg crc _ _ (after_dir crc ops _) (reachable_noNanRungs crc .maximize ops)]

/-- **at every step**: the whole sequence of `should_prune()` answers of a history and of its mirror are equal -/
theorem history_outputs_mirror (crc : Nat → Nat) (ops : List Op) :
    outputs crc (Study.init .minimize) (ops.map negOp) = outputs crc (Study.init .maximize) ops :=
  (run_neg crc ops (Study.init .maximize) rfl (C16.reachable_wf crc .maximize [])).2

theorem negT_negT (t : PTrial) : negT (negT t) = t := by
  cases t
  simp [negT, Function.comp_def]

theorem mirrorP_mirrorP (p : Pruner) : mirrorP (mirrorP p) = p := by
  induction p with
  | patient w k d ih => simp only [mirrorP, ih]
  | threshold c => simp [mirrorP, mirrorThreshold]
  | nop => rfl
  | percentile c => rfl
  | sh c => rfl
  | hyperband c => rfl
  | patientNone k d => rfl

theorem negOp_negOp (op : Op) : negOp (negOp op) = op := by
  cases op <;> simp [negOp, mirrorP_mirrorP]

/-- the mirrored study of a minimising study -/
def negStudyMax (s : Study) : Study := ⟨.maximize, s.trials.map negT⟩

theorem after_neg_min (crc : Nat → Nat) (ops : List Op) :
    after crc (Study.init .maximize) (ops.map negOp) = negStudyMax (after crc (Study.init .minimize) ops) := by
  have h := after_neg crc (ops.map negOp)
  rw [List.map_map] at h
  have hid : (negOp ∘ negOp) = id := by funext op; exact negOp_negOp op
  rw [hid, List.map_id] at h
  rw [h]
  have hd := after_dir crc (ops.map negOp) (Study.init .maximize)
  generalize after crc (Study.init .maximize) (ops.map negOp) = s at hd ⊢
  obtain ⟨d, trials⟩ := s
  simp only [Study.init] at hd
  subst hd
  simp [negStudyMax, negStudy, Function.comp_def, negT_negT]

/-- `after_neg` for either direction -/
theorem after_neg_flip (crc : Nat → Nat) (d : Dir) (ops : List Op) :
    after crc (Study.init (match d with | .maximize => .minimize | .minimize => .maximize)) (ops.map negOp) =
      ⟨(match d with | .maximize => .minimize | .minimize => .maximize), (after crc (Study.init d) ops).trials.map negT⟩ := by
  cases d with
  | maximize => exact after_neg crc ops
  | minimize => exact after_neg_min crc ops

/-- **the skeletons regenerated from the source, over histories**: after any history, interpreting the generated control
skeleton of any pruner on the maximising study and on the study of the mirrored minimising history (trial negated, pruner
mirrored) gives the same decision.  Only `PrunerValid` (valid SH / Hyperband configurations) is assumed. -/
theorem gen_prune_mirror_history (crc : Nat → Nat) (ops : List Op) (n : Nat) (t : PTrial) (p : Pruner)
    (hv : C16SkelGen.PrunerValid p) :
    C16SkelGen.skelPrune crc (after crc (Study.init .maximize) ops) n t p =
      C16SkelGen.skelPrune crc (after crc (Study.init .minimize) (ops.map negOp)) n (negT t) (mirrorP p) := by
  rw [after_neg]
  have hd := after_dir crc ops (Study.init .maximize)
  have hr := reachable_noNanRungs crc .maximize ops
  generalize after crc (Study.init .maximize) ops = s at hd hr ⊢
  obtain ⟨d, trials⟩ := s
  simp only [Study.init] at hd
  subst hd
  exact C13Bridge.gen_prune_mirror crc trials n t p hv hr

/-- `after_neg` with the history itself run through the glue GENERATED from `optuna/trial/_trial.py`
(`C16ReportGen.afterG_eq`: `Trial.report` / `Trial.should_prune` as translated from the source) -/
theorem gen_glue_after_neg (crc : Nat → Nat) (ops : List Op) :
    ReportIR.afterG Generated.ReportMethods.reportProg crc (Study.init .minimize) (ops.map negOp) =
      negStudy (ReportIR.afterG Generated.ReportMethods.reportProg crc (Study.init .maximize) ops) := by
  rw [C16ReportGen.afterG_eq, C16ReportGen.afterG_eq, after_neg]

/-- the F41 witness as a history, in its maximising form: two trials report {+inf, 0} and complete, a third reports -5 and asks the
median pruner — pruned, and so is the mirrored minimising history ({-inf, 0}, 5: `f41History.map negOp`) -/
def f41History : List Op :=
  [.ask, .report 0 0 .pinf, .tell 0 .complete, .ask, .report 1 0 (.fin 0), .tell 1 .complete,
   .ask, .report 2 0 (.fin (-5)), .shouldPrune 2 (Pruner.median 0 0 1 1)]

example : outputs (fun _ => 0) (Study.init .maximize) f41History =
      [none, none, none, none, none, none, none, none, some true] ∧
    outputs (fun _ => 0) (Study.init .minimize) (f41History.map negOp) =
      [none, none, none, none, none, none, none, none, some true] := by decide +kernel

/-- a Hyperband history with a NaN report: trial 0 reaches rung 0 (its value is stored), trial 1 reports NaN and is pruned
without a write; the mirrored history stores the negated rung value and answers the same -/
def hbHistory : List Op :=
  [.ask, .report 0 1 (.fin 3), .shouldPrune 0 (.hyperband ⟨1, 2, 0, some 2⟩),
   .ask, .report 1 1 .nan, .shouldPrune 1 (.hyperband ⟨1, 2, 0, some 2⟩),
   .ask, .report 2 1 (.fin 1), .shouldPrune 2 (.hyperband ⟨1, 2, 0, some 2⟩)]

example : outputs (fun n => n) (Study.init .maximize) hbHistory = outputs (fun n => n) (Study.init .minimize) (hbHistory.map negOp) ∧
    (outputs (fun n => n) (Study.init .maximize) hbHistory).getD 5 none = some true ∧
    ((after (fun n => n) (Study.init .maximize) hbHistory).trials.map (·.rungs)) ≠ [[], [], []] ∧
    (after (fun n => n) (Study.init .minimize) (hbHistory.map negOp)).trials =
      (after (fun n => n) (Study.init .maximize) hbHistory).trials.map negT := by decide +kernel

end OptunaVerif.C13History
