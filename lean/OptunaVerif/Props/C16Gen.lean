import OptunaVerif.Lemmas.Pruners
import OptunaVerif.Generated.PrunersInt
/-!
# C16 — the integer kernels regenerated from the Python source agree with the hand model

`Generated/PrunersInt.lean` is rewritten from `/repo/optuna/pruners/*.py` on every run of the check
(`verif/translators/pruners_int.py`).  A theorem here either proves a generated definition equal to the
function of `Model/Pruners.lean` that the C16 theorems are about (`gen_isFirstInIntervalStep`, `gen_promotableIdx`,
`gen_rungPromotionStep`, `gen_budget` for a bracket id in range, `gen_bracket_loop`, `gen_bracketId`), or pins a generated list
of comparisons / an index expression to the literal the model was written from, by `rfl` (`gen_*_guards`,
`gen_promotable_index`, `gen_patient_window`): of these only the percentile guards are connected with the model, in one
direction (`gen_percentile_guards_sound`).  An edit of
the source that changes the warm-up / start-up / bootstrap comparisons, the interval alignment, the
promotable index, the promotion step, the budgets, the bracket walk or the patience window changes
the generated text and breaks the corresponding proof.
-/
namespace OptunaVerif.C16Gen
open OptunaVerif.Pruners
open OptunaVerif.Generated

/-- `_is_first_in_interval_step`, as written in the source, is the model's function. -/
theorem gen_isFirstInIntervalStep (step : Int) (steps : List Int) (w i : Int) :
    PrunersInt.isFirstInIntervalStep step steps w i = isFirstInIntervalStep step steps w i := rfl

/-- `PercentilePruner.prune`: `n_trials == 0`, `n_trials < n_startup_trials`, `step < n_warmup_steps`
return False; the final answers are `best < p` (maximize) and `best > p` (minimize). -/
theorem gen_percentile_guards (nt ns st nw b p : Int) :
    PrunersInt.percentilePruneGuards nt ns st nw b p =
      [(decide (nt = 0), false), (decide (nt < ns), false), (decide (st < nw), false),
       (decide (b < p), true), (decide (b > p), true)] := rfl

/-- The first three generated guards are early exits of the model's `percentilePrune`: whenever one
of them fires, the model answers False.  (This direction only; the two final comparisons are not related to the model.) -/
theorem gen_percentile_guards_sound (c : PercentileCfg) (d : Dir) (trials : List PTrial) (t : PTrial)
    (stp b p : Int) (hs : lastStep t.inter = some stp) (g : Bool × Bool)
    (hg : g ∈ (PrunersInt.percentilePruneGuards (completedTrials trials).length c.nStartup stp c.nWarmup b p).take 3)
    (hfire : g.1 = true) : percentilePrune c d trials t = g.2 := by
  simp only [PrunersInt.percentilePruneGuards, List.take, List.mem_cons, List.not_mem_nil, or_false] at hg
  -- each of the three returns False, and an answer True has passed all three
  rw [show g.2 = false by rcases hg with rfl | rfl | rfl <;> rfl, ← Bool.not_eq_true]
  intro hp
  obtain ⟨h0, hk, stp', hs', hw, _⟩ := percentilePrune_guards hp
  rw [hs] at hs'; cases hs'
  rcases hg with rfl | rfl | rfl <;> simp only [decide_eq_true_eq] at hfire <;> omega

/-- `ThresholdPruner.prune`: `step < n_warmup_steps` returns False; `latest_value < lower` and
`latest_value > upper` return True. -/
theorem gen_threshold_guards (st nw v lo hi : Int) :
    PrunersInt.thresholdPruneGuards st nw v lo hi =
      [(decide (st < nw), false), (decide (v < lo), true), (decide (v > hi), true)] := rfl

/-- The promotable index of the source is the model's `promotableIdx`. -/
theorem gen_promotableIdx (n eta : Nat) (he : 1 ≤ eta) :
    PrunersInt.promotableIdx (n : Int) (eta : Int) = ((promotableIdx n eta : Nat) : Int) := by
  unfold PrunersInt.promotableIdx promotableIdx
  have h1 : Int.fdiv (n : Int) (eta : Int) = ((n / eta : Nat) : Int) := by
    rw [Int.fdiv_eq_ediv_of_nonneg _ (by omega)]; rfl
  simp only [h1]
  generalize n / eta = k
  cases k with
  | zero => simp
  | succ k =>
    have : ¬ (((k + 1 : Nat) : Int) - 1 = -1) := by omega
    simp only [this, if_false, Nat.add_one_ne_zero]
    omega

/-- maximize reads `competing_values[-(idx+1)]`, i.e. position `len - (idx+1)`, with `>=`;
minimize reads `competing_values[idx]` with `<=` — as in the model's `isPromotable?`. -/
theorem gen_promotable_index (len idx : Int) :
    len + PrunersInt.promotableIndexMax idx = len - (idx + 1) ∧ PrunersInt.promotableIndexMin idx = idx ∧
    PrunersInt.promotableCmpMax = ">=" ∧ PrunersInt.promotableCmpMin = "<=" := by
  refine ⟨?_, rfl, rfl, rfl⟩
  unfold PrunersInt.promotableIndexMax; omega

/-- `rung_promotion_step` of the source is the model's `promotionStep`. -/
theorem gen_rungPromotionStep (m eta rate rung : Nat) :
    PrunersInt.rungPromotionStep (m : Int) (eta : Int) (rate : Int) (rung : Int) =
      ((promotionStep m eta rate rung : Nat) : Int) :=
  promotionStep_cast m eta rate rung

/-- `SuccessiveHalvingPruner.prune`: `step < rung_promotion_step` returns False,
`len(competing) <= bootstrap_count` returns True — the comparisons of the model's `shLoop`. -/
theorem gen_sh_guards (st rps lc bc : Int) :
    PrunersInt.shPruneGuards st rps lc bc = [(decide (st < rps), false), (decide (lc ≤ bc), true)] := rfl

/-- `_calculate_trial_allocation_budget` of the source is the model's `budget` (for a bracket id
below the number of brackets). -/
theorem gen_budget (nb eta b : Nat) (hb : b < nb) :
    PrunersInt.calculateTrialAllocationBudget (nb : Int) (b : Int) (eta : Int) = ((budget nb eta b : Nat) : Int) := by
  unfold PrunersInt.calculateTrialAllocationBudget budget
  have hs : ((nb : Int) - 1 - (b : Int)) = ((nb - 1 - b : Nat) : Int) := by omega
  simp only [hs, Int.toNat_natCast]
  rw [Int.fdiv_eq_ediv_of_nonneg _ (by omega)]
  have : (nb : Int) * (eta : Int) ^ (nb - 1 - b) + (((nb - 1 - b : Nat) : Int) + 1) - 1 =
      ((nb * eta ^ (nb - 1 - b) + (nb - 1 - b) : Nat) : Int) := by
    rw [Int.natCast_add, Int.natCast_mul, Int.natCast_pow]; omega
  rw [this]
  rfl

theorem gen_bracket_loop (bs : List Nat) (n : Int) (i : Nat) :
    PrunersInt.getBracketIdLoop (bs.map Int.ofNat) n (i : Int) = (bracketWalk bs n i).map Int.ofNat := by
  induction bs generalizing n i with
  | nil => rfl
  | cons b t ih =>
    simp only [List.map_cons, PrunersInt.getBracketIdLoop, bracketWalk]
    have : Int.ofNat b = (b : Int) := rfl
    rw [this]
    split
    · rfl
    · have := ih (n - (b : Int)) (i + 1)
      simpa using this

/-- `_get_bracket_id` of the source (`crc32 % total`, then the loop) is the model's `bracketId`. -/
theorem gen_bracketId (nb eta h : Nat) :
    PrunersInt.getBracketId (h : Int) (((budgets nb eta).sum : Nat) : Int) ((budgets nb eta).map Int.ofNat) =
      (bracketId nb eta h).map Int.ofNat := by
  unfold PrunersInt.getBracketId bracketId
  rw [fmod_natCast]
  exact gen_bracket_loop _ _ 0

/-- `PatientPruner.prune`: `steps.size <= patience + 1` returns False, and both slices cut the sorted
steps at position `size - (patience + 1)` — the model's `take` / `drop` count. -/
theorem gen_patient_window (size patience : Nat) (h : patience + 1 < size) :
    PrunersInt.patientPruneGuards (size : Int) (patience : Int) = [(decide ((size : Int) ≤ (patience : Int) + 1), false)] ∧
    (size : Int) + PrunersInt.patientBeforeUpper (patience : Int) = ((size - (patience + 1) : Nat) : Int) ∧
    (size : Int) + PrunersInt.patientAfterLower (patience : Int) = ((size - (patience + 1) : Nat) : Int) := by
  refine ⟨rfl, ?_, ?_⟩
  · unfold PrunersInt.patientBeforeUpper; omega
  · unfold PrunersInt.patientAfterLower; omega

end OptunaVerif.C16Gen
