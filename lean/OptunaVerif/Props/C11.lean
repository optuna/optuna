import OptunaVerif.Lemmas.TransformIR
/-!
# C11 — distributions and parameter values round-trip through every encoding

All statements are over unbounded `Int` / exact rationals `Rat`.  The integer high adjustment,
`IntDistribution.single` and `IntDistribution._contains` are the definitions *generated* from
`optuna/distributions.py` (`Generated/DistInt.lean`, translator `verif/translators/tint.py`).
What ℚ cannot say (IEEE rounding, `Decimal(str(float))`) enters as explicit hypotheses.
-/
namespace OptunaVerif.C11
open OptunaVerif.Dist OptunaVerif.Generated

/-- For `step > 0` and `low ≤ high` the adjusted `high'` of
`_adjust_discrete_uniform_high` on exact decimals (`Decimal` arithmetic is exact rational arithmetic as long as
28 digits suffice) satisfies `low ≤ high' ≤ high`, is on the grid (`∃ k : ℤ, high' - low = k·step`), loses less than
one step, is the *largest* such grid point, and adjusting again changes nothing: it is the grid point of index
`⌊(high - low) / step⌋`. -/
theorem adjust_discrete_spec (low high step : Rat) (hs : 0 < step) (hl : low ≤ high) :
    low ≤ adjustDiscreteHigh low high step ∧ adjustDiscreteHigh low high step ≤ high ∧
    (∃ k : Int, 0 ≤ k ∧ adjustDiscreteHigh low high step - low = (k : Rat) * step) ∧
    high - adjustDiscreteHigh low high step < step ∧
    (∀ m (k : Int), m ≤ high → m - low = (k : Rat) * step → m ≤ adjustDiscreteHigh low high step) ∧
    adjustDiscreteHigh low (adjustDiscreteHigh low high step) step = adjustDiscreteHigh low high step := by
  simp only [adjustDiscreteHigh_eq]
  have h0 : 0 ≤ ((high - low) / step).floor := (le_floor_grid hs low high 0).2 (by simpa using hl)
  have hmod := sub_floor_grid low step high
  refine ⟨(grid_nonneg hs low _).2 h0, by linarith [ratMod_nonneg (a := high - low) hs], ⟨_, h0, add_sub_cancel_right _ _⟩,
    by linarith [ratMod_lt (a := high - low) hs], fun m k hm hk => ?_, by rw [floor_grid (ne_of_gt hs)]⟩
  have := (grid_le_grid hs low k _).2 ((le_floor_grid hs low high k).2 (by linarith))
  linarith

example : adjustDiscreteHigh (1/10) 1 (3/10) = 1 := by
  norm_num [adjustDiscreteHigh, ratMod, floor_eq]
example : adjustDiscreteHigh (1/10) 1 (4/10) = 9/10 := by
  norm_num [adjustDiscreteHigh, ratMod, floor_eq]

/-- The facts of `adjust_discrete_spec` for `_adjust_int_uniform_high` (generated definition), "on the grid" being
`(high' - low) % step = 0`: its result is the decimal adjustment of the same range (`adjustInt_cast`). -/
theorem adjust_int_spec (low high step : Int) (hs : 0 < step) (hl : low ≤ high) :
    low ≤ DistInt.adjustIntUniformHigh low high step ∧
    DistInt.adjustIntUniformHigh low high step ≤ high ∧
    (DistInt.adjustIntUniformHigh low high step - low) % step = 0 ∧
    high - DistInt.adjustIntUniformHigh low high step < step ∧
    (∀ m, low ≤ m → m ≤ high → (m - low) % step = 0 → m ≤ DistInt.adjustIntUniformHigh low high step) ∧
    DistInt.adjustIntUniformHigh low (DistInt.adjustIntUniformHigh low high step) step
      = DistInt.adjustIntUniformHigh low high step := by
  have hsq : (0 : Rat) < (step : Rat) := by exact_mod_cast hs
  obtain ⟨h1, h2, ⟨k, _, h3⟩, h4, h5, h6⟩ :=
    adjust_discrete_spec (low : Rat) (high : Rat) (step : Rat) hsq (by exact_mod_cast hl)
  rw [← adjustInt_cast low high step hs] at h1 h2 h3 h4 h5 h6
  rw [← adjustInt_cast low _ step hs] at h6
  refine ⟨by exact_mod_cast h1, by exact_mod_cast h2, (int_grid_iff _ _).2 ⟨k, h3⟩, by exact_mod_cast h4,
    fun m _ hm hg => ?_, by exact_mod_cast h6⟩
  obtain ⟨j, hj⟩ := (int_grid_iff _ _).1 hg
  exact_mod_cast h5 m j (by exact_mod_cast hm) hj

example : DistInt.adjustIntUniformHigh (-3) 10 4 = 9 := by decide
example : DistInt.adjustIntUniformHigh 1 10 3 = 10 := by decide

/-- The float bridge made explicit: `dec` is `Decimal(str(·))`, `fl` is `float(·)`.  If the adjusted
decimal survives the trip through a float (`repr_roundtrip`: true for decimals of ≤ 15 significant
digits), re-adjusting the stored float high is the identity — this is what makes the JSON round trip
of a stepped float exact; beyond 15 digits the hypothesis fails and so can the round trip. -/
theorem adjust_discrete_float_idempotent (dec fl : Rat → Rat) (low high step : Rat)
    (hs : 0 < step) (hl : low ≤ high)
    (repr_roundtrip : dec (fl (adjustDiscreteHigh low high step)) = adjustDiscreteHigh low high step) :
    adjustDiscreteHigh low (dec (fl (adjustDiscreteHigh low high step))) step
      = dec (fl (adjustDiscreteHigh low high step)) := by
  rw [repr_roundtrip]
  exact (adjust_discrete_spec low high step hs hl).2.2.2.2.2

def ClsOK : Dist → Prop
  | .flt c _ _ log step => FClsOK c log step
  | .int c _ _ log _ => IClsOK c log
  | .cat _ => True

def remk : Dist → R Dist
  | .flt c low high log step => mkFlt c low high log step
  | .int c low high log step => mkInt c low high log step
  | .cat cs => mkCat cs

theorem remk_of_wf (d : Dist) (h : WF d) : remk d = .ok d := by
  cases d with
  | flt c low high log step => exact mkFlt_of_wf c low high log step h
  | int c low high log step => exact mkInt_of_wf c low high log step h
  | cat cs => exact mkCat_of_wf cs h

theorem ClsOK_of_wf (d : Dist) (h : WF d) : ClsOK d := by
  cases d with
  | flt c low high log step => exact h.2.2.2
  | int c low high log step => exact h.2.2.2.2
  | cat cs => trivial

theorem parse_print (d : Dist) (h : ClsOK d) : parse (print d) = remk d := by
  cases d with
  | flt c low high log step =>
    cases c with
    | float =>
      cases step <;>
        simp [parse, print, jget, Dist.clsName, FCls.name, fromAttrs, Dist.asdict, keysWithin, asNum, asBoolD,
          asOptNum, optStep, Tok.num?, bind, Except.bind, remk]
    | uniform | logUniform =>
      obtain ⟨rfl, rfl⟩ := h
      simp [parse, print, jget, Dist.clsName, FCls.name, fromAttrs, Dist.asdict, keysWithin, asNum,
        Tok.num?, bind, Except.bind, mkUniform, mkLogUniform, remk]
    | discreteUniform =>
      obtain ⟨h1, h2⟩ := h; subst h1
      cases step with
      | none => exact absurd rfl h2
      | some s =>
        simp [parse, print, jget, Dist.clsName, FCls.name, fromAttrs, Dist.asdict, keysWithin, asNum, optStep,
          Tok.num?, bind, Except.bind, mkDiscreteUniform, remk]
  | int c low high log step =>
    cases c with
    | int =>
      simp [parse, print, jget, Dist.clsName, ICls.name, fromAttrs, Dist.asdict, keysWithin, asInt, asIntD, asBoolD,
        Tok.num?, bind, Except.bind, truncI_intCast, remk]
    | intUniform | intLogUniform =>
      obtain rfl := h
      simp [parse, print, jget, Dist.clsName, ICls.name, fromAttrs, Dist.asdict, keysWithin, asInt, asIntD,
        Tok.num?, bind, Except.bind, truncI_intCast, mkIntUniform, mkIntLogUniform, remk]
  | cat cs =>
    simp [parse, print, jget, Dist.clsName, fromAttrs, Dist.asdict, keysWithin, remk]

/-- For every distribution a constructor can produce (all eight classes, the
deprecated ones included) `json_to_distribution(distribution_to_json(d)) = d`; the parse re-runs
`__init__`, so this rests on the high adjustment being idempotent on grid-aligned ranges. -/
theorem json_roundtrip (d : Dist) (h : WF d) : parse (print d) = .ok d := by
  rw [parse_print d (ClsOK_of_wf d h), remk_of_wf d h]

/-! A result assembled from guards, attribute readers and a constructor is well-formed when it is a value, because the constructor's is. -/

theorem wf_error {e : Err} (d : Dist) (h : (.error e : R Dist) = .ok d) : WF d := nomatch h

theorem wf_ite {c : Prop} [Decidable c] {a b : R Dist} (ha : ∀ d, a = .ok d → WF d) (hb : ∀ d, b = .ok d → WF d) (d : Dist)
    (h : (if c then a else b) = .ok d) : WF d := by
  split at h
  · exact ha d h
  · exact hb d h

theorem wf_bind {α : Type} {x : R α} {f : α → R Dist} (hf : ∀ a d, f a = .ok d → WF d) (d : Dist)
    (h : (x >>= f) = .ok d) : WF d := by
  obtain ⟨a, _, h⟩ := Except.bind_eq_ok.1 h
  exact hf a d h

theorem fromAttrs_wf (name : String) (o : JObj) (d : Dist) (h : fromAttrs name o = .ok d) : WF d := by
  revert d
  unfold fromAttrs
  -- per class: the test of the name, the guard on the keys, the readers, the constructor with its class invariant
  refine wf_ite (wf_ite wf_error (wf_bind fun _ => wf_bind fun _ => wf_bind fun _ => wf_bind fun _ d => mkFlt_wf _ _ _ _ _ d trivial)) ?_
  refine wf_ite (wf_ite wf_error (wf_bind fun _ => wf_bind fun _ d => mkFlt_wf _ _ _ _ _ d ⟨rfl, rfl⟩)) ?_
  refine wf_ite (wf_ite wf_error (wf_bind fun _ => wf_bind fun _ d => mkFlt_wf _ _ _ _ _ d ⟨rfl, rfl⟩)) ?_
  refine wf_ite (wf_ite wf_error (wf_bind fun _ => wf_bind fun _ => wf_bind fun _ d => mkFlt_wf _ _ _ _ _ d ⟨rfl, nofun⟩)) ?_
  refine wf_ite (wf_ite wf_error (wf_bind fun _ => wf_bind fun _ => wf_bind fun _ => wf_bind fun _ d => mkInt_wf _ _ _ _ _ d trivial)) ?_
  refine wf_ite (wf_ite wf_error (wf_bind fun _ => wf_bind fun _ => wf_bind fun _ d => mkInt_wf _ _ _ _ _ d rfl)) ?_
  refine wf_ite (wf_ite wf_error (wf_bind fun _ => wf_bind fun _ => wf_bind fun _ d => mkInt_wf _ _ _ _ _ d rfl)) ?_
  refine wf_ite (wf_ite wf_error ?_) wf_error
  intro d h
  split at h
  · exact mkCat_wf _ _ h
  · cases h

theorem fromAbbrev_wf (ty : String) (doc : JDoc) (d : Dist) (h : fromAbbrev ty doc = .ok d) : WF d := by
  revert d
  unfold fromAbbrev
  refine wf_ite ?_ (wf_ite ?_ (wf_ite ?_ wf_error))
  · intro d h
    split at h
    · exact mkCat_wf _ _ h
    · cases h
    · cases h
  · exact wf_ite wf_error (wf_bind fun _ => wf_bind fun _ => wf_bind fun _ => wf_bind fun _ d => mkFlt_wf _ _ _ _ _ d trivial)
  · -- the step is read first (default 1), then the other attributes
    refine wf_ite wf_error fun d h => ?_
    split at h <;>
      exact wf_bind (fun _ => wf_bind fun _ => wf_bind fun _ => wf_bind fun _ d => mkInt_wf .int _ _ _ _ d trivial) d h

theorem parse_wf (doc : JDoc) (d : Dist) (h : parse doc = .ok d) : WF d := by
  unfold parse at h
  repeat' split at h
  all_goals try (simp at h; done)
  · exact fromAttrs_wf _ _ _ h
  · exact fromAbbrev_wf _ _ _ h

/-- Parsing is idempotent: after one parse, printing and parsing again
returns the same distribution (for *every* accepted document, also hand-written abbreviated ones
whose `high` is not on the grid). -/
theorem print_parse_idempotent (doc : JDoc) (d : Dist) (h : parse doc = .ok d) :
    parse (print d) = .ok d :=
  json_roundtrip d (parse_wf doc d h)

theorem parse_abbrevDoc (d : Dist) : parse (abbrevDoc d) = remk (convertOld d) := by
  cases d with
  | flt c low high log step =>
    cases step <;>
      simp [parse, abbrevDoc, jget, fromAbbrev, asNum, asBoolD, asOptNum, optStep, Tok.num?, bind, Except.bind, remk,
        convertOld]
  | int c low high log step =>
    simp [parse, abbrevDoc, jget, fromAbbrev, asInt, asBoolD, Tok.num?, bind, Except.bind, truncI_intCast, remk,
      convertOld]
  | cat cs => simp [parse, abbrevDoc, jget, fromAbbrev, remk, convertOld]

theorem abbrev_parse (d : Dist) (h : WF d) (hbase : convertOld d = d) : parse (abbrevDoc d) = .ok d := by
  rw [parse_abbrevDoc, hbase, remk_of_wf d h]

-- non-vacuity: a stepped int whose `high` is off the grid is adjusted by the parse, then stable
example : parse [("type", .v (.atom (.str "int"))), ("low", .v (.atom (.int 1))), ("high", .v (.atom (.int 10))),
    ("step", .v (.atom (.int 4)))] = .ok (.int .int 1 9 false 4) := by decide
example : parse (print (.int .intUniform 1 9 false 4)) = .ok (.int .intUniform 1 9 false 4) := by decide
example : WF (.int .intUniform 1 9 false 4) := by simp [WF, IClsOK]
-- a document that loses `step` does NOT give the distribution back (what a faulty parser would do)
example : parse [("name", .v (.atom (.str "IntDistribution"))),
    ("attributes", .obj [("log", .atom (.bool false)), ("low", .atom (.int 1)), ("high", .atom (.int 9))])]
    ≠ .ok (.int .int 1 9 false 4) := by decide

/-- Numeric distributions: a contained internal value survives
`to_external_repr` then `to_internal_repr` unchanged. -/
theorem internal_external_roundtrip (d : Dist) (q : Rat) (h : WF d) (hnc : ∀ cs, d ≠ .cat cs)
    (hc : d.contains q = true) :
    ∃ t, d.toExternal q = some t ∧ d.toInternal t = .ok q := by
  cases d with
  | flt c low high log step =>
    exact ⟨.flt q, rfl, (toInternal_num_iff rfl _ _).2 ⟨rfl, fun hl => lt_of_lt_of_le (h.2.1 hl).1 (flt_contains_range hc).1⟩⟩
  | int c low high log step =>
    obtain ⟨i, rfl, h1, _, _⟩ := (int_contains_iff c low high log step q h.2.2.1).1 hc
    exact ⟨.int i, by simp [Dist.toExternal, truncI_intCast],
      (toInternal_num_iff rfl _ _).2 ⟨rfl, fun hl => by exact_mod_cast lt_of_lt_of_le (h.2.1 hl).1 h1⟩⟩
  | cat cs => exact absurd rfl (hnc cs)

/-- Categorical: a contained index maps to a choice; converting that
choice back gives the index of the *first* choice equal to it (Python `tuple.index`), whose choice is
equal (`==`/both-NaN) to the original; when no two choices are equal the index itself comes back. -/
theorem internal_external_roundtrip_cat (cs : List Tok) (q : Rat) (hc : (Dist.cat cs).contains q = true) :
    ∃ t, (Dist.cat cs).toExternal q = some t ∧
      ∃ j : Nat, (Dist.cat cs).toInternal t = .ok (j : Rat) ∧ (j : Int) ≤ truncI q ∧
        (∃ t', cs[j]? = some t' ∧ t.catEq t' = true) ∧
        ((∀ (i j : Nat) (a b : Tok), cs[i]? = some a → cs[j]? = some b → a.catEq b = true → i = j) → (j : Int) = truncI q) := by
  simp only [Dist.contains, Bool.and_eq_true, decide_eq_true_eq] at hc
  obtain ⟨h0, h1⟩ := hc
  have hlt : (truncI q).toNat < cs.length := by omega
  have hget : cs[(truncI q).toNat]? = some cs[(truncI q).toNat] := List.getElem?_eq_getElem hlt
  refine ⟨cs[(truncI q).toNat], by simp [Dist.toExternal, h0, hget], ?_⟩
  obtain ⟨j, hj, hle⟩ := firstIdx_of_mem (fun c => (cs[(truncI q).toNat]).catEq c) cs _ _ hget (catEq_refl _)
  obtain ⟨t', ht', hp, _⟩ := firstIdx_some _ cs j hj
  refine ⟨j, by simp [Dist.toInternal, catIndex, hj, Except.map], by omega, ⟨t', ht', hp⟩, ?_⟩
  intro hinj
  have := hinj _ _ _ _ hget ht' hp
  omega

/-- An external value that `to_internal_repr` accepts and whose
internal form is contained comes back from `to_external_repr` equal (Python `==`, or both NaN) to
what went in — for every class, duplicates-by-equality among categorical choices included. -/
theorem external_internal_roundtrip (d : Dist) (v : Tok) (q : Rat) (h : WF d)
    (hi : d.toInternal v = .ok q) (hc : d.contains q = true) :
    ∃ t, d.toExternal q = some t ∧ v.catEq t = true := by
  cases d with
  | flt c low high log step =>
    exact ⟨.flt q, rfl, by simp [Tok.catEq, pyEq_of_num (b := .flt q) ((toInternal_num_iff rfl v q).1 hi).1 rfl]⟩
  | int c low high log step =>
    obtain ⟨i, rfl, _⟩ := (int_contains_iff c low high log step q h.2.2.1).1 hc
    exact ⟨.int i, by simp [Dist.toExternal, truncI_intCast],
      by simp [Tok.catEq, pyEq_of_num (b := .int i) ((toInternal_num_iff rfl v _).1 hi).1 rfl]⟩
  | cat cs =>
    simp only [Dist.toInternal, catIndex] at hi
    split at hi
    · rename_i i hidx
      simp only [Except.map, Except.ok.injEq] at hi
      subst hi
      obtain ⟨t, ht, hp, _⟩ := firstIdx_some _ cs i hidx
      refine ⟨t, ?_, hp⟩
      simp [Dist.toExternal, truncI_natCast, ht]
    · simp [Except.map] at hi

-- `True` and `1` are equal choices: the internal form of `1` is index 0, which reads back as `True == 1`
example : (Dist.cat [.bool true, .int 1]).toInternal (.int 1) = .ok 0 := by decide
example : (Dist.cat [.bool true, .int 1]).toExternal 0 = some (.bool true) := by
  have : truncI 0 = 0 := truncI_intCast 0
  simp [Dist.toExternal, this]
example : (Tok.int 1).catEq (.bool true) = true := by simp [Tok.catEq, Tok.pyEq, Tok.num?]

/-- The rational `_contains` of the model agrees, on integral values, with the definition GENERATED
from `IntDistribution._contains` (so a `%`/comparison slip there breaks this proof). -/
theorem int_contains_generated (c : ICls) (low high : Int) (log : Bool) (step i : Int) (hs : 0 < step) :
    (Dist.int c low high log step).contains (i : Rat) = DistInt.intContains low high step i := by
  rw [Bool.eq_iff_iff, int_contains_iff c low high log step _ hs]
  simp only [DistInt.intContains, Int.fmod_eq_emod_of_nonneg _ (le_of_lt hs), Bool.and_eq_true, decide_eq_true_eq, and_assoc]
  constructor
  · rintro ⟨j, hj, h⟩
    obtain rfl : i = j := by exact_mod_cast hj
    exact h
  · exact fun h => ⟨i, rfl, h⟩

/-- `single()` (for ints: the GENERATED definition) is true only when the domain is one
point: every contained internal value is then `low` (index 0 for a categorical), which is the value
`_get_single_value` hands out. -/
theorem single_spec (d : Dist) (q : Rat) (h : WF d) (hsg : d.single = true) (hc : d.contains q = true) :
    match d with
    | .flt _ low _ _ _ => q = low
    | .int _ low _ _ _ => q = (low : Rat)
    | .cat _ => truncI q = 0 := by
  cases d with
  | flt c low high log step =>
    have hhl : high = low := by
      cases step with
      | none => exact (beq_iff_eq.mp hsg).symm
      | some s =>
        obtain ⟨_, hs, K, hK0, hK⟩ := wf_stepped h
        simp only [Dist.single, Bool.or_eq_true, beq_iff_eq, decide_eq_true_eq] at hsg
        exact hsg.elim Eq.symm (grid_single hs hK0 hK)
    obtain ⟨h1, h2⟩ := flt_contains_range hc
    exact le_antisymm (hhl ▸ h2) h1
  | int c low high log step =>
    obtain ⟨hl, _, hs, hg, _⟩ := h
    obtain ⟨i, rfl, h1, h2, _⟩ := (int_contains_iff c low high log step q hs).1 hc
    have hhl : high = low := by
      have hcase : low = high ∨ high - low < step := by
        cases log <;> simp [Dist.single, DistInt.intSingle] at hsg
        · exact hsg
        · exact .inl hsg
      obtain ⟨K, hK0, hK⟩ := int_range_grid hs hl hg
      exact hcase.elim Eq.symm fun h' => by
        exact_mod_cast grid_single (by exact_mod_cast hs) hK0 hK (by exact_mod_cast h')
    have : i = low := by omega
    simp [this]
  | cat cs =>
    simp only [Dist.single, beq_iff_eq] at hsg
    simp only [Dist.contains, hsg, Bool.and_eq_true, decide_eq_true_eq] at hc
    show truncI q = 0
    omega

theorem reloaded_eq {d d' : Dist} (h : WF d) (hp : parse (print d) = .ok d') : d' = d :=
  (Except.ok.inj ((json_roundtrip d h).symm.trans hp)).symm

/-- `_contains` (also `single`, `to_internal_repr`, `to_external_repr`) answers the same on the stored-and-reloaded
distribution as on the original. -/
theorem contains_invariant_under_roundtrip (d d' : Dist) (h : WF d) (hp : parse (print d) = .ok d') :
    (∀ q, d'.contains q = d.contains q) ∧ d'.single = d.single ∧
    (∀ v, d'.toInternal v = d.toInternal v) ∧ (∀ q, d'.toExternal q = d.toExternal q) := by
  obtain rfl := reloaded_eq h hp
  exact ⟨fun _ => rfl, rfl, fun _ => rfl, fun _ => rfl⟩

/-- `check_distribution_compatibility` answers the same on the
stored-and-reloaded distributions as on the originals. -/
theorem compat_invariant_under_roundtrip (o n o' n' : Dist) (ho : WF o) (hn : WF n)
    (hpo : parse (print o) = .ok o') (hpn : parse (print n) = .ok n') :
    compat o' n' = compat o n ∧ o'.pyEq n' = o.pyEq n := by
  obtain rfl := reloaded_eq ho hpo
  obtain rfl := reloaded_eq hn hpn
  exact ⟨rfl, rfl⟩

/-- a distribution is compatible with (and `==` to) its own reloaded copy -/
theorem compat_with_reloaded (d d' : Dist) (h : WF d) (hp : parse (print d) = .ok d') :
    compat d d' = true ∧ d.pyEq d' = true := by
  obtain rfl := reloaded_eq h hp
  cases d' with
  | flt c low high log step => simp [compat, Dist.sameClass, Dist.log?, Dist.pyEq]
  | int c low high log step => simp [compat, Dist.sameClass, Dist.log?, Dist.pyEq]
  | cat cs => simp [compat, Dist.sameClass, Dist.log?, Dist.pyEq, listCatEq_refl]

theorem convertOld_preserves (d : Dist) (h : WF d) :
    WF (convertOld d) ∧ (∀ q, (convertOld d).contains q = d.contains q) ∧ (convertOld d).single = d.single ∧
    (∀ v, (convertOld d).toInternal v = d.toInternal v) ∧ (∀ q, (convertOld d).toExternal q = d.toExternal q) ∧
    parse (print (convertOld d)) = .ok (convertOld d) := by
  have hw : WF (convertOld d) := by
    cases d with
    | flt c low high log step => obtain ⟨a, b, c', _⟩ := h; exact ⟨a, b, c', trivial⟩
    | int c low high log step => obtain ⟨a, b, c', e, _⟩ := h; exact ⟨a, b, c', e, trivial⟩
    | cat cs => exact h
  refine ⟨hw, ?_, ?_, ?_, ?_, json_roundtrip _ hw⟩
  · intro q; cases d with
    | flt c low high log step => cases step <;> rfl
    | int c low high log step => rfl
    | cat cs => rfl
  · cases d with
    | flt c low high log step => cases step <;> rfl
    | int c low high log step => rfl
    | cat cs => rfl
  · intro v; cases d <;> rfl
  · intro q; cases d <;> rfl

/-- `EnvOK` is satisfiable: the identity pair (this is also what `transform_log=False` amounts to). -/
example : EnvOK ⟨id, id, fun h => h - 1⟩ := ⟨fun _ _ h => h, fun _ _ => rfl, fun _ _ _ h => h⟩

/-- For every search space (any mix of the eight classes, any length),
every configuration of canonical contained values (plain floats not above the half-open clamp) and
every transform configuration (log / half-step widening / 0-1 scaling on or off): `transform` succeeds,
its columns lie within the declared `bounds`, and `untransform` returns exactly the configuration. -/
theorem untransform_transform_id (E : Env) (c : TCfg) (hE : EnvOK E) (space : List Dist) (params : List Tok)
    (hwf : ∀ d ∈ space, WF d) (hv : List.Forall₂ (Canon E) space params) :
    ∃ xs, transform E c space params = .ok xs ∧ List.Forall₂ InB (bounds E c space) xs ∧
      untransform E c space xs = some params := by
  -- the raw columns round-trip; the one 0-1 pass over all of them is undone column by column
  obtain ⟨raw, he, hb, hd⟩ := TransformIR.encodeAll_ok E c hE space params hwf hv
  have hlen : raw.length = TransformIR.totalWidth space := by rw [← hb.length_eq, TransformIR.flatMap_boundsOf_length]
  rw [TransformIR.transform_eq_encodeAll, he]
  cases ht : c.t01 with
  | false =>
    refine ⟨raw, rfl, by simpa [bounds, ht] using hb, ?_⟩
    rw [TransformIR.untransform_eq_decodeAll E c space raw hlen, ht]; exact hd
  | true =>
    have hl2 : (List.zipWith scale01 (space.flatMap (boundsOf E c)) raw).length = TransformIR.totalWidth space := by
      rw [← forall2_length_zipWith_scale _ _ hb, TransformIR.flatMap_boundsOf_length]
    refine ⟨List.zipWith scale01 (space.flatMap (boundsOf E c)) raw, rfl, ?_, ?_⟩
    · simp only [bounds, ht, if_true]
      exact (forall2_01_iff _ _).2 ⟨forall2_length_zipWith_scale _ _ hb, zip_scale_in01 _ _ hb⟩
    · rw [TransformIR.untransform_eq_decodeAll E c space _ hl2, ht, if_pos rfl, zip_unscale_scale _ _ hb]; exact hd

/-- Every point of the transformed box (`bounds`, i.e. the unit cube under
0-1 scaling) maps back to a configuration whose every value is a member of its declared domain:
inside `[low, high]`, on the step grid, an integer for int distributions, one of the choices.  Needs
the clamp to stay in the domain (`HC`) and excludes `transform_log=False ∧ transform_step=True`. -/
theorem untransform_in_domain (E : Env) (c : TCfg) (hE : EnvOK E) (space : List Dist) (xs : List Rat)
    (hwf : ∀ d ∈ space, WF d) (hhc : ∀ d ∈ space, HC E d) (hcfg : c.tlog = true ∨ c.tstep = false)
    (hb : List.Forall₂ InB (bounds E c space) xs) :
    ∃ params, untransform E c space xs = some params ∧ List.Forall₂ Member space params := by
  have hlen : xs.length = TransformIR.totalWidth space := by
    rw [← hb.length_eq, ← TransformIR.flatMap_boundsOf_length E c space]; unfold bounds; split <;> simp
  -- un-scaling takes the unit cube into the raw bounds, and raw columns within their bounds decode to members
  rw [TransformIR.untransform_eq_decodeAll E c space xs hlen]
  refine TransformIR.decodeAll_in_domain E c hE space _ hwf hhc hcfg ?_
  unfold bounds at hb
  cases ht : c.t01 with
  | false => simpa [ht] using hb
  | true =>
    rw [ht, if_pos rfl] at hb
    obtain ⟨hl, hx⟩ := (forall2_01_iff _ _).1 hb
    simpa using zip_unscale_inB _ _ hl (TransformIR.flatMap_boundsOf_le E c hE space hwf) hx

/-- The excluded configuration really is out of contract: with `transform_log=False` and
`transform_step=True` the log-int `IntDistribution(1, 4, log=True)` has the raw bounds `[1/2, 9/2]`,
and the box point `3/5` untransforms to `int(0.6) = 0`, which is not in the domain.  (No caller in
optuna uses this configuration; the harness replays the witness on the real code as evidence.) -/
theorem untransform_out_of_domain_witness :
    let E : Env := ⟨id, id, fun h => h - 1⟩
    let c : TCfg := ⟨false, true, false⟩
    let d : Dist := .int .int 1 4 true 1
    WF d ∧ bounds E c [d] = [(1/2, 9/2)] ∧ untransform E c [d] [3/5] = some [.int 0] ∧
      d.contains 0 = false := by
  refine ⟨by simp [WF, IClsOK], ?_, ?_, ?_⟩
  · simp [bounds, boundsOf, tnum, Dist.isLog]; norm_num
  · have : truncI (3/5 : Rat) = 0 := by
      simp only [truncI]; norm_num [floor_eq]
    simp [untransform, Dist.width, ucols, decode, this, bind, Option.bind, pure]
  · simp [Dist.contains]

/-- The SECOND excluded configuration (`transform_log=False ∧ transform_step=True`, this time with `transform_0_1=True`) is out of contract
as well: the box is the unit interval, the raw bounds of the log-int `IntDistribution(1, 4, log=True)` are `[1/2, 9/2]`, and the box
point `1/40` un-scales to `1/2 + 1/40 · 4 = 3/5`, which untransforms to `int(0.6) = 0`, not in the domain.  So the hypothesis
`c.tlog = true ∨ c.tstep = false` of `untransform_in_domain` excludes exactly the two configurations on which the statement is false. -/
theorem untransform_out_of_domain_witness_01 :
    let E : Env := ⟨id, id, fun h => h - 1⟩
    let c : TCfg := ⟨false, true, true⟩
    let d : Dist := .int .int 1 4 true 1
    WF d ∧ bounds E c [d] = [(0, 1)] ∧ untransform E c [d] [1/40] = some [.int 0] ∧
      d.contains 0 = false := by
  refine ⟨by simp [WF, IClsOK], ?_, ?_, ?_⟩
  · simp [bounds, boundsOf, tnum, Dist.isLog]
  · have : truncI (3/5 : Rat) = 0 := by
      simp only [truncI]; norm_num [floor_eq]
    simp [untransform, Dist.width, ucols, decode, boundsOf, tnum, Dist.isLog, unscale01, List.zipWith, bind, Option.bind, pure]
    norm_num
    exact this
  · simp [Dist.contains]

/-- a canonical contained external value — `Canon` without its clamp clause -/
def Contained : Dist → Tok → Prop
  | .flt _ low high _ Option.none, v => ∃ q, v = .flt q ∧ low ≤ q ∧ q ≤ high
  | .flt _ low high _ (some s), v => ∃ k : Int, v = .flt ((k : Rat) * s + low) ∧ 0 ≤ k ∧ (k : Rat) * s + low ≤ high
  | .int _ low high _ step, v => ∃ i : Int, v = .int i ∧ low ≤ i ∧ i ≤ high ∧ (i - low) % step = 0
  | .cat cs, v => ∃ i, cs[i]? = some v ∧ firstIdx (fun c => v.catEq c) cs = some i

/-- The one exclusion of `untransform_transform_id`: for a float distribution WITHOUT step whose range is not a
single point, the value is not above the half-open clamp `below high` (= `nextafter(high, high - 1)`); in particular it is not `high`
itself.  Every other class is unrestricted.  (Known finding F10a: at `high` the round trip returns `below high`.) -/
def NotAtOpenHigh (E : Env) : Dist → Tok → Prop
  | .flt _ low high _ Option.none, v => low < high → ∀ q, v = .flt q → q ≤ E.below high
  | _, _ => True

theorem canon_iff (E : Env) (d : Dist) (v : Tok) : Canon E d v ↔ Contained d v ∧ NotAtOpenHigh E d v := by
  cases d with
  | flt c low high log step =>
    cases step with
    | none =>
      simp only [Canon, Contained, NotAtOpenHigh]
      constructor
      · rintro ⟨q, rfl, h1, h2, h3⟩
        exact ⟨⟨q, rfl, h1, h2⟩, fun hl q' hq => by cases hq; exact h3 hl⟩
      · rintro ⟨⟨q, rfl, h1, h2⟩, hn⟩
        exact ⟨q, rfl, h1, h2, fun hl => hn hl q rfl⟩
    | some s => simp [Canon, Contained, NotAtOpenHigh]
  | int c low high log step => simp [Canon, Contained, NotAtOpenHigh]
  | cat cs => simp [Canon, Contained, NotAtOpenHigh]

theorem forall2_canon (E : Env) {space : List Dist} {params : List Tok}
    (h1 : List.Forall₂ Contained space params) (h2 : List.Forall₂ (NotAtOpenHigh E) space params) :
    List.Forall₂ (Canon E) space params := by
  induction h1 with
  | nil => exact List.Forall₂.nil
  | cons h t ih =>
    cases h2 with
    | cons h' t' => exact List.Forall₂.cons ((canon_iff E _ _).2 ⟨h, h'⟩) (ih t')

/-- `untransform_transform_id` with its exclusion spelled out: for canonical CONTAINED values that
are `NotAtOpenHigh`, transform-then-untransform is the identity (every search space, every configuration) -/
theorem untransform_transform_id_named (E : Env) (c : TCfg) (hE : EnvOK E) (space : List Dist) (params : List Tok)
    (hwf : ∀ d ∈ space, WF d) (hv : List.Forall₂ Contained space params) (hopen : List.Forall₂ (NotAtOpenHigh E) space params) :
    ∃ xs, transform E c space params = .ok xs ∧ List.Forall₂ InB (bounds E c space) xs ∧
      untransform E c space xs = some params :=
  untransform_transform_id E c hE space params hwf (forall2_canon E hv hopen)

/-- The exclusion is needed (F10a): `FloatDistribution(0, 1)` at the value `high = 1`, with
the clamp `below 1 = 7/8`: the value is contained, it is NOT `NotAtOpenHigh`, `transform` gives the column `1`, and `untransform`
returns `7/8 ≠ 1`. -/
theorem untransform_transform_id_fails_at_high :
    let E : Env := ⟨id, id, fun h => h - 1/8⟩
    let c : TCfg := ⟨true, true, false⟩
    let d : Dist := .flt .float 0 1 false Option.none
    WF d ∧ Contained d (.flt 1) ∧ ¬ NotAtOpenHigh E d (.flt 1) ∧
      transform E c [d] [.flt 1] = .ok [1] ∧ untransform E c [d] [1] = some [.flt (7/8)] := by
  refine ⟨?_, ⟨1, rfl, by norm_num, by norm_num⟩, ?_, ?_, ?_⟩
  · refine ⟨by norm_num, by simp, by simp, trivial⟩
  · intro h
    have := h (by norm_num) 1 rfl
    norm_num at this
  · simp [transform, tcols, encode, Tok.num?, tnum, Dist.isLog, bind, Except.bind, pure, Except.pure, Except.map]
  · simp [untransform, Dist.width, ucols, decode, Dist.single, bind, Option.bind, pure]
    norm_num

-- non-vacuity of `Canon`, the hypothesis of `untransform_transform_id`: a stepped float, a plain float, a categorical choice
example : Canon ⟨id, id, fun h => h - 1⟩ (.flt .float 0 1 false (some (1/4))) (.flt ((3 : Int) * (1/4) + 0)) :=
  ⟨3, rfl, by norm_num, by norm_num⟩
example : Canon ⟨id, id, fun h => h - 1/1000⟩ (.flt .float 0 1 false Option.none) (.flt (1/2)) :=
  ⟨1/2, rfl, by norm_num, by norm_num, fun _ => by norm_num⟩
example : Canon ⟨id, id, fun h => h - 1⟩ (.cat [.bool true, .int 1, .nan]) .nan :=
  ⟨2, by simp, by simp [firstIdx, Tok.catEq, Tok.pyEq]⟩

end OptunaVerif.C11
