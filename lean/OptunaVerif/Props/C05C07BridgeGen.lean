import OptunaVerif.Props.C05C07Bridge
import OptunaVerif.Props.C07FileGen
/-!
# C05 ⇄ C07 bridge, for the interpreter of the GENERATED `read_logs` (T-file)

`Props/C07FileGen.lean` proves `interpRead readLogsProg = JournalFile.readLogs` for the `read_logs` regenerated from
`optuna/storages/journal/_file.py`.  Composed with `Props/C05C07Bridge.lean`: the reader side of `ack_read_durable` holds of the generated
method.  `_partial`: the HISTORY is still the hand model's acts (`Model/JournalAppend.lean`); relating a whole multi-worker history to runs of
the generated `append_logs` (`append_prefix_generated_eq_model` does it for ONE call from a quiescent state) is not done here.
-/
namespace OptunaVerif.Bridge
open OptunaVerif.JournalFile OptunaVerif.JournalAppend

def genReadBytes (valid : List Nat → Bool) (f : List Nat) (size : Nat) (cache : Cache) (from_ : Nat) : Res :=
  FileIR.interpRead Generated.JournalFileMethods.readLogsProg size cache from_ (fun off => linesOf valid (f.drop off))

theorem genReadBytes_eq (valid : List Nat → Bool) (f : List Nat) (size : Nat) (cache : Cache) (from_ : Nat) :
    genReadBytes valid f size cache from_ = readBytes valid f size cache from_ :=
  C07FileGen.read_logs_generated_eq_model size cache from_ _

/-- `ack_read_durable` with the reader being the interpreter of the `read_logs` generated from the source. -/
theorem gen_ack_read_durable_partial (valid : List Nat → Bool) (n : Nat) (acts₁ acts₂ acts₃ : List Act) (k : Nat) (r : List Nat)
    (hv : ∀ x ∈ submitted (acts₁ ++ acts₂ ++ acts₃), valid x = true)
    (hk : (records (run (JournalAppend.init n) acts₁).file)[k]? = some r)
    (pre post : List Act) (hsplit : acts₁ ++ acts₂ ++ acts₃ = pre ++ post) (cache : Cache) (hcache : ReaderOk valid n pre cache)
    (from_ : Nat) (hfrom : from_ ≤ k) :
    ∃ m cache', genReadBytes valid (run (JournalAppend.init n) (acts₁ ++ acts₂ ++ acts₃)).file
        (run (JournalAppend.init n) (acts₁ ++ acts₂)).file.length cache from_ = .ok (List.range' from_ (m - from_)) cache' ∧
      k < m ∧ (List.range' from_ (m - from_))[k - from_]? = some k ∧
      (records (run (JournalAppend.init n) (acts₁ ++ acts₂ ++ acts₃)).file)[k]? = some r ∧
      ReaderOk valid n (acts₁ ++ acts₂ ++ acts₃) cache' := by
  rw [genReadBytes_eq]
  exact ack_read_durable valid n acts₁ acts₂ acts₃ k r hv hk pre post hsplit cache hcache from_ hfrom

example : genReadBytes allValid (run (JournalAppend.init 3) C05.demoActs).file 5 [(1, 3), (0, 0)] 1 = .ok [1] [(2, 5), (1, 3), (0, 0)] := by
  rw [genReadBytes_eq]; decide

end OptunaVerif.Bridge
