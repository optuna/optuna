import OptunaVerif.Props.C01Grpc
import OptunaVerif.Props.C01GrpcGen
/-!
# C01, gRPC layer — the property theorems of Props/C01Grpc.lean, restated for the interpreter of the generated bodies

`Props/C01GrpcGen.lean` (which does not depend on Props/C01Grpc.lean, so that a change of the source breaks a NAMED theorem of
either file on its own) proves `gen_proxy_eq`: generated client over generated servicer over generated converters = `Proto.proxyStep`.
Here that is composed with the theorems about `Proto.proxyStep`.
-/
namespace OptunaVerif.C01GrpcGen
open OptunaVerif.Storage OptunaVerif.Proto OptunaVerif.GrpcIR
open OptunaVerif.Generated.GrpcTables (Rpc)
open OptunaVerif.Generated.GrpcMethods (program)

/-- **gen_proxy_refines_contract** (`C01Grpc.proxy_refines_backend` restated for the interpreter of the generated bodies): a call
through the generated client + generated servicer over a backend that meets the contract (`Storage.step`) leaves the backend in the
state the contract gives for the operation in normal form, and returns the contract's answer / raises the contract's error class -/
theorem gen_proxy_refines_contract (s : Spec) (u : String) (op : Op) :
    proxyStepGen program s u op = some ((step s (normOp u op)).1, .ok (normOut (step s (normOp u op)).2)) := by
  rw [gen_proxy_eq, C01Grpc.proxy_refines_backend]

/-- the U1 case through the generated bodies: the backend's `ValueError` for a conflicting template reaches the caller as `ValueError`
(before the repair of `CreateNewTrial` / `create_new_trial`, F32: `grpc.RpcError(UNKNOWN)`) -/
example : proxyStepGen program C01Grpc.u1State "u" (.createTrial 0 (some C01Grpc.u1Template) true)
    = some (C01Grpc.u1State, .ok (.err .valueError)) := by
  rw [gen_proxy_eq]; decide

/-- `gen_proxy_refines_contract` for the state alone: the backend's state is the contract's -/
theorem gen_proxy_state_refines (s : Spec) (u : String) (op : Op) :
    (proxyStepGen program s u op).map (·.1) = some (step s (normOp u op)).1 := by
  rw [gen_proxy_refines_contract]; rfl

/-- every history through the generated proxy drives the backend through a history of the contract model, and every invariant of
C01 holds of the proxied storage (`C01Grpc.proxy_numbers_dense` restated) -/
theorem gen_proxy_numbers_dense (h : List (String × Op)) :
    ∃ r, proxyRunGen Storage.init h = some r ∧ C01.Numbered r.1 :=
  ⟨_, gen_proxy_run_eq _ h, C01Grpc.proxy_numbers_dense h⟩

theorem rpcOfGen_eq : rpcOfGen = C01Grpc.rpcOf := by
  funext op; cases op <;> rfl

theorem genRaisable_eq : genRaisable = C01Grpc.raisable := rfl

/-- whatever error the contract answers inside an rpc survives the servicer ladder and the client chain as written today -/
theorem gen_error_mapping_roundtrip_complete (s : Spec) (op : Op) (rpc : Rpc) (e : Err)
    (hr : C01Grpc.rpcOf op = some rpc) (he : (step s op).2 = .err e) :
    genClientError rpc (genAbortStatus rpc e) = .ok (.err e) :=
  gen_error_mapping_roundtrip (rpc, e) (genRaisable_eq ▸ C01Grpc.step_err_raisable s op rpc e hr he)

example : (step Storage.init (.deleteStudy 0)).2 = .err .keyError ∧
    genClientError .deleteStudy (genAbortStatus .deleteStudy .keyError) = .ok (.err .keyError) := by decide

end OptunaVerif.C01GrpcGen
