import OptunaVerif.Lemmas.FileIR
import OptunaVerif.Props.C07
import OptunaVerif.Props.C05
import OptunaVerif.Props.C07Lock
/-!
# C07 / C05 (translator tie) — `optuna/storages/journal/_file.py` *as written in the source today* is the hand models

`Generated/JournalFileMethods.lean` is regenerated on every run by `verif/translators/tfile.py`:
`JournalFileBackend.read_logs` (statements before the loop + loop body), `append_logs` (+ `get_lock_file`;
flattened step sequence), `JournalFileSymlinkLock` / `JournalFileOpenLock` (`acquire`, `release` as statement
trees) — data of the languages of `Model/FileIR.lean`.

Proved here for **all** inputs (no bound, no sampling):
* reader: the interpreter of the generated loop body is `JournalFile.readLoop`, the interpreter of the whole
  method is `JournalFile.readLogs` (`read_*_generated_eq_model`); the reader theorems of `Props/C07.lean` restated
  for the interpreter (`gen_read_*`);
* appender: the interpreter of the generated step sequence leaves the file `repair f ++ record ++ [nl]`, its
  effects on file and lock are exactly the hand model's (truncate to the repaired length only when there is
  a torn tail, ONE append of the joined buffer through an `O_APPEND` handle, `fsync` after everything was
  flushed, inside the lock), the acts it stands for are `acquire; repair; writeByte…; release`, and after every
  prefix of the steps (death of the writer) file and lock are those of the hand model (`append_*_eq_model`);
  `ack_durable`, `interrupted_all_or_nothing`, `repair_clears_torn_tail` of `Props/C05.lean` restated (`gen_*`);
* lock classes: one call of the interpreter of the generated class is one call of `FileLock.stepW` at every
  program point, hence the generated classes run exactly like the hand model under every schedule
  (`lock_*_generated_eq_model`); `mutual_exclusion`, `release_only_own_lock`, `punctual_schedule_safe` of
  `Props/C07Lock.lean` restated for the interpreter's own run (`gen_*`).

A source edit that changes an order, a guard, which handle is written through, which call samples the mtime,
where a timer is (re)started … changes the generated data and a NAMED theorem below no longer checks; the
driver `filegen` runs interpreter and hand model side by side and supplies the concrete input.
-/
namespace OptunaVerif.C07FileGen
open OptunaVerif.JournalFile OptunaVerif.FileIR OptunaVerif.Generated.JournalFileMethods

/-- the loop body of `read_logs` as written today is the hand model's `readLoop` (remaining-size snapshot
first, pending error raised next, offset cached, **newline check before the skip of records below
`log_number_from`** (F20b), decode error only tolerated on the last line) -/
theorem read_loop_generated_eq_model (from_ : Nat) (lines : List Line) (n : Nat) (s : RIter) :
    interpLoop readLogsProg.body from_ lines n s = readLoop from_ lines n s.remaining s.pending s.cache s.acc :=
  read_loop_eq from_ lines n s

example : interpLoop readLogsProg.body 1 C07.demoFile 0
    { remaining := 61, pending := false, cache := [(0, 0)], acc := [], byteLen := none } =
    .ok [1] [(2, 54), (1, 24), (0, 0)] := by rw [read_loop_generated_eq_model]; decide

/-- `read_logs` as written today (size snapshot, cache lookup, seek, loop, `return logs`) is `JournalFile.readLogs` -/
theorem read_logs_generated_eq_model (size : Nat) (cache : Cache) (from_ : Nat) (linesFrom : Nat → List Line) :
    interpRead readLogsProg size cache from_ linesFrom = JournalFile.readLogs size cache from_ linesFrom :=
  read_eq size cache from_ linesFrom

example : interpRead readLogsProg 61 [(1, 24), (0, 0)] 1 (fun o => if o = 24 then C07.demoFile.drop 1 else []) =
    .ok [1] [(2, 54), (1, 24), (0, 0)] := by rw [read_logs_generated_eq_model]; decide

/-- `C07.read_returns_contiguous_complete` for the interpreter of the generated method -/
theorem gen_read_returns_contiguous_complete (all : List Line) (hwf : C07.WF all) (k size off : Nat) (cache : Cache)
    (hcons : C07.Consistent all cache) (hk : cache.get? k = some off) :
    ∃ m cache', interpRead readLogsProg size cache k (fun o => if o = offsetOf all k then all.drop k else []) =
        .ok (List.range' k (m - k)) cache' ∧ k ≤ m ∧ m ≤ all.length ∧ C07.Consistent all cache' ∧
      (∀ j ln, k ≤ j → j < m → all[j]? = some ln → Complete ln = true ∧ offsetOf all (j + 1) ≤ size) ∧
      (∀ ln, all[m]? = some ln → Complete ln = false ∨ size < offsetOf all (m + 1)) := by
  rw [read_logs_generated_eq_model]
  exact C07.read_returns_contiguous_complete all hwf k size off cache hcons hk

/-- `C07.read_cold_returns_contiguous_complete` for the interpreter of the generated method -/
theorem gen_read_cold_returns_contiguous_complete (all : List Line) (hwf : C07.WF all) (k size : Nat) (cache : Cache)
    (hcons : C07.Consistent all cache) (hk : cache.get? k = none) (h0 : cache.get? 0 = some 0) :
    ∃ m cache', interpRead readLogsProg size cache k (fun o => if o = 0 then all else []) =
        .ok (List.range' (max 0 k) (m - max 0 k)) cache' ∧ m ≤ all.length ∧ C07.Consistent all cache' ∧
      (∀ j ln, j < m → all[j]? = some ln → Complete ln = true ∧ offsetOf all (j + 1) ≤ size) ∧
      (∀ ln, all[m]? = some ln → Complete ln = false ∨ size < offsetOf all (m + 1)) := by
  rw [read_logs_generated_eq_model]
  exact C07.read_cold_returns_contiguous_complete all hwf k size cache hcons hk h0

section Appender
open OptunaVerif.JournalAppend

/-- the `rb+` block of `append_logs` as written today (seek to the end, scan back to the last newline,
truncate if something follows it) is the hand model's `repair` (F9) -/
theorem append_repair_generated_eq_model (f r : List Nat) :
    (aRun r (upToCloseRW appendLogsSteps) (aInit f)).file = repair f ∧
    (aRun r (upToCloseRW appendLogsSteps) (aInit f)).ok = true ∧
    (aRun r (upToCloseRW appendLogsSteps) (aInit f)).h = none :=
  repair_block_eq f r

example : (aRun [1] (upToCloseRW appendLogsSteps) (aInit [5, 10, 7, 8])).file = [5, 10] := by decide

/-- `C05.repair_clears_torn_tail` for the interpreter: after the generated repair block nothing of an
interrupted write is left and no complete record is touched -/
theorem gen_repair_clears_torn_tail (f r : List Nat) :
    JournalAppend.tail (aRun r (upToCloseRW appendLogsSteps) (aInit f)).file = [] ∧
    records (aRun r (upToCloseRW appendLogsSteps) (aInit f)).file = records f := by
  rw [(append_repair_generated_eq_model f r).1]
  exact C05.repair_clears_torn_tail f

/-- the file after `append_logs` as written today: the repaired file followed by the whole record and its
newline; every step had what it needed; the lock is released, no handle is left open -/
theorem append_file_generated_eq_model (f r : List Nat) :
    (aRun r appendLogsSteps (aInit f)).file = repair f ++ (r ++ [nl]) ∧
    (aRun r appendLogsSteps (aInit f)).ok = true ∧ (aRun r appendLogsSteps (aInit f)).locked = false ∧
    (aRun r appendLogsSteps (aInit f)).h = none :=
  append_file_eq f r

example : (aRun [1, 2] appendLogsSteps (aInit [5, 10, 7, 8])).file = [5, 10, 1, 2, 10] := by decide

/-- what reaches the file and the lock, in order, is the hand model's appender: lock; truncate to the
repaired length (only if there is a torn tail); ONE `O_APPEND` write of `record ++ [nl]` (not a positional
write through the `rb+` handle); `fsync` with nothing left in a user-space buffer; unlock -/
theorem append_effects_generated_eq_model (f r : List Nat) :
    (aRun r appendLogsSteps (aInit f)).effs.reverse = modelEffects f r :=
  append_effects_eq f r

example : (aRun [1, 2] appendLogsSteps (aInit [5, 10, 7, 8])).effs.reverse =
    [.lock, .truncateTo 2, .append [1, 2, 10], .sync true, .unlock] := by decide

/-- the acts of `Model/JournalAppend.lean` the generated steps stand for -/
theorem append_acts_generated_eq_model (w : Nat) (f r : List Nat) :
    actsOfRun w r appendLogsSteps (aInit f) =
      [.acquire w r, .repair w] ++ List.replicate (r.length + 1) (.writeByte w) ++ [.release w] :=
  append_acts_eq w f r

example : actsOfRun 0 [1] appendLogsSteps (aInit [5]) = [.acquire 0 [1], .repair 0, .writeByte 0, .writeByte 0, .release 0] := by rfl

/-- **death of the writer after any step**: after the first `k` generated steps the file and the lock are
those of the hand model after the acts these steps stand for -/
theorem append_prefix_generated_eq_model (k : Nat) (f : List Nat) (a : List (List Nat)) (ws : List Worker) (w : Nat)
    (wk : Worker) (r : List Nat) (hw : ws[w]? = some wk) (hd : wk.dead = false) (hs : wk.stage = none)
    (hr : r.contains nl = false) :
    (JournalAppend.run { file := f, lock := none, ws := ws, acked := a }
        (actsOfRun w r (appendLogsSteps.take k) (aInit f))).file = (aRun r (appendLogsSteps.take k) (aInit f)).file ∧
    ((JournalAppend.run { file := f, lock := none, ws := ws, acked := a }
        (actsOfRun w r (appendLogsSteps.take k) (aInit f))).lock = some w ↔
      (aRun r (appendLogsSteps.take k) (aInit f)).locked = true) :=
  append_prefix_sim f a ws w wk r hw hd hs hr k

example : (aRun [1, 2] (appendLogsSteps.take 8) (aInit [5, 10, 7, 8])).file = [5, 10] ∧
    (aRun [1, 2] (appendLogsSteps.take 10) (aInit [5, 10, 7, 8])).locked = true := by decide

/-- `C05.interrupted_all_or_nothing` for the interpreter: whatever step the writer dies after, the complete
records of the file are the old ones, or the old ones plus the whole new record -/
theorem gen_interrupted_all_or_nothing (k : Nat) (f r : List Nat) (hr : nl ∉ r) :
    records (aRun r (appendLogsSteps.take k) (aInit f)).file = records f ∨
    records (aRun r (appendLogsSteps.take k) (aInit f)).file = records f ++ [r] := by
  rcases append_prefix_file k f r with h | h | h
  · left; rw [h]
  · left; rw [h]; exact (records_repair f).1
  · right; rw [h]; exact (records_after_append f r hr).1

example : records (aRun [1, 2] (appendLogsSteps.take 9) (aInit [5, 10, 7, 8])).file = [[5]] := by decide

/-- `C05.ack_durable` for the interpreter: after any history `pre` of the hand model that leaves the lock free
and worker `w` idle and alive, the record appended by the generated `append_logs` is a complete line of the
file in every later state — whatever the other workers do, whoever dies wherever, however often the lock is
taken over -/
theorem gen_ack_durable (n : Nat) (pre more : List Act) (w : Nat) (wk : Worker) (r : List Nat)
    (hlock : (JournalAppend.run (JournalAppend.init n) pre).lock = none)
    (hw : (JournalAppend.run (JournalAppend.init n) pre).ws[w]? = some wk) (hd : wk.dead = false)
    (hs : wk.stage = none) (hr : r.contains nl = false) :
    r ∈ records (JournalAppend.run (JournalAppend.run (JournalAppend.init n)
        (pre ++ actsOfRun w r appendLogsSteps (aInit (JournalAppend.run (JournalAppend.init n) pre).file))) more).file := by
  apply C05.ack_durable
  rw [append_acts_generated_eq_model, JournalAppend.run_append]
  generalize JournalAppend.run (JournalAppend.init n) pre = st at hlock hw
  obtain ⟨file, lock, ws, acked⟩ := st
  subst hlock
  rw [hand_append file acked ws w wk r hw hd hs hr]
  simp

example : (JournalAppend.run (JournalAppend.init 2) (actsOfRun 0 [1, 2] appendLogsSteps (aInit []))).acked = [[1, 2]] := by decide

end Appender

section Lock
open OptunaVerif.FileLock

/-- **one call of a generated lock class is one call of the hand model**: at every program point that
exists for the configuration, the interpreter performs the same call with the same outcome, the same effect
on the lock path and on the worker's `mtime` / timer / rename counter, and ends at the control state of the
hand model's next program point.  (`symlink` vs `open(O_CREAT|O_EXCL)` + `close`; `lstat` / `stat` of the lock
file itself — F31; "mtime changed ⇒ restart the timer"; the grace comparison; rename-to-unique + unlink; the
timer restart after a takeover — F29.) -/
theorem lock_step_generated_eq_model (cfg : Cfg) (sh : Shared) (w : Nat) (wk : Worker) (hok : pcOk cfg wk.pc = true) :
    gstepW (lockOf cfg.kind) cfg sh w (embed (lockOf cfg.kind) cfg wk) =
      ((stepW cfg sh w wk).1, embed (lockOf cfg.kind) cfg (stepW cfg sh w wk).2.1, (stepW cfg sh w wk).2.2) :=
  gstepW_eq cfg sh w wk hok

/-- `lock_step_generated_eq_model` instantiated at each class by name: the symlink class here, the open class in
`open_lock_steps_eq_model` -/
theorem symlink_lock_steps_eq_model (g : Option Nat) (sh : Shared) (w : Nat) (wk : Worker) (hok : pcOk ⟨.symlink, g⟩ wk.pc = true) :
    gstepW symlinkLock ⟨.symlink, g⟩ sh w (embed symlinkLock ⟨.symlink, g⟩ wk) =
      ((stepW ⟨.symlink, g⟩ sh w wk).1, embed symlinkLock ⟨.symlink, g⟩ (stepW ⟨.symlink, g⟩ sh w wk).2.1,
       (stepW ⟨.symlink, g⟩ sh w wk).2.2) :=
  gstepW_eq ⟨.symlink, g⟩ sh w wk hok

theorem open_lock_steps_eq_model (g : Option Nat) (sh : Shared) (w : Nat) (wk : Worker) (hok : pcOk ⟨.openExcl, g⟩ wk.pc = true) :
    gstepW openLock ⟨.openExcl, g⟩ sh w (embed openLock ⟨.openExcl, g⟩ wk) =
      ((stepW ⟨.openExcl, g⟩ sh w wk).1, embed openLock ⟨.openExcl, g⟩ (stepW ⟨.openExcl, g⟩ sh w wk).2.1,
       (stepW ⟨.openExcl, g⟩ sh w wk).2.2) :=
  gstepW_eq ⟨.openExcl, g⟩ sh w wk hok

example : pcOk ⟨.symlink, some 2⟩ .tkRestart = true ∧ pcOk ⟨.openExcl, none⟩ .closing = true := by decide

/-- the generated classes run exactly like the hand model under every schedule: read back through
`pcOfCtl` (which call comes next), the interpreter's state is the hand model's -/
theorem lock_run_generated_eq_model (cfg : Cfg) (n : Nat) (evs : List Ev) :
    (grun (lockOf cfg.kind) cfg (gInit (lockOf cfg.kind) cfg n) evs).toSt = run cfg (init n) evs :=
  toSt_grun cfg n evs

example : (grun openLock f13Open.cfg (gInit openLock f13Open.cfg 3) f13Open.evs).toSt.sh.lock = some (2, 3) := by decide

/-- every call of every worker has the same outcome -/
theorem lock_trace_generated_eq_model (cfg : Cfg) (n : Nat) (evs : List Ev) :
    gtrace (lockOf cfg.kind) cfg (gInit (lockOf cfg.kind) cfg n) evs = htrace cfg (init n) evs :=
  gtrace_init cfg n evs

example : (gtrace symlinkLock soloTakeoverSymlink.cfg (gInit symlinkLock soloTakeoverSymlink.cfg 2) soloTakeoverSymlink.evs).getLast? =
    some .createOk := by decide

/-- the hypothesis of mutual exclusion evaluated on the interpreter's own run is the hand model's -/
theorem gen_safeSched_eq (cfg : Cfg) (n : Nat) (evs : List Ev) :
    gsafeSched (lockOf cfg.kind) cfg (gInit (lockOf cfg.kind) cfg n) evs = safeSched cfg (init n) evs := by
  rw [gInit_eq]; exact gsafeSched_eq cfg evs (init n) (pcOkSt_init cfg n)

example : gsafeSched openLock f13Open.cfg (gInit openLock f13Open.cfg 3) f13Open.evs = false := by decide

/-- `C07Lock.mutual_exclusion` for the interpreter of the generated lock classes: under every schedule in which
no takeover removes the lock file of a live creator, two live workers that hold (the next call of each is
`close`, the critical section, or the rename of its own release) are the same worker -/
theorem gen_mutual_exclusion (cfg : Cfg) (n : Nat) (evs : List Ev)
    (hsafe : gsafeSched (lockOf cfg.kind) cfg (gInit (lockOf cfg.kind) cfg n) evs = true)
    (w v : Nat) (wk vk : Worker)
    (hw : (grun (lockOf cfg.kind) cfg (gInit (lockOf cfg.kind) cfg n) evs).toSt.ws[w]? = some wk)
    (hv : (grun (lockOf cfg.kind) cfg (gInit (lockOf cfg.kind) cfg n) evs).toSt.ws[v]? = some vk)
    (hwl : wk.dead = false) (hvl : vk.dead = false) (hwh : holding wk.pc = true) (hvh : holding vk.pc = true) : w = v := by
  rw [gen_safeSched_eq] at hsafe
  rw [lock_run_generated_eq_model] at hw hv
  exact C07Lock.mutual_exclusion cfg n evs hsafe w v wk vk hw hv hwl hvl hwh hvh

example : gsafeSched openLock soloTakeoverOpen.cfg (gInit openLock soloTakeoverOpen.cfg 2) soloTakeoverOpen.evs = true ∧
    liveHolders (grun openLock soloTakeoverOpen.cfg (gInit openLock soloTakeoverOpen.cfg 2) soloTakeoverOpen.evs).toSt = [1] := by decide

/-- `C07Lock.release_only_own_lock` for the interpreter: the rename of a live holder's own `release()` finds
the lock file it created and succeeds (`renameOk`) -/
theorem gen_release_only_own_lock (cfg : Cfg) (n : Nat) (evs : List Ev)
    (hsafe : gsafeSched (lockOf cfg.kind) cfg (gInit (lockOf cfg.kind) cfg n) evs = true)
    (w : Nat) (wk : Worker)
    (hw : (grun (lockOf cfg.kind) cfg (gInit (lockOf cfg.kind) cfg n) evs).toSt.ws[w]? = some wk)
    (hlive : wk.dead = false) (hpc : wk.pc = .relRename) :
    (∃ s, (grun (lockOf cfg.kind) cfg (gInit (lockOf cfg.kind) cfg n) evs).sh.lock = some (w, s)) ∧
    (gtrace (lockOf cfg.kind) cfg (gInit (lockOf cfg.kind) cfg n) (evs ++ [.step w])).getLast? = some (.renameOk w) := by
  rw [gen_safeSched_eq] at hsafe
  rw [lock_run_generated_eq_model] at hw
  obtain ⟨⟨s, hs⟩, hlab, _⟩ := C07Lock.release_only_own_lock cfg n evs hsafe w wk hw hlive hpc
  refine ⟨⟨s, ?_⟩, ?_⟩
  · have := congrArg (fun st => st.sh.lock) (lock_run_generated_eq_model cfg n evs)
    simp only [GSt.toSt] at this
    rw [this]; exact hs
  · rw [lock_trace_generated_eq_model]
    rw [htrace_snoc, List.getLast?_concat, hlab]

example : pcOfCtl ((grun openLock ⟨.openExcl, some 2⟩ (gInit openLock ⟨.openExcl, some 2⟩ 2) (stepsOf 0 4)).ws[0]?.map (·.ctl)).get! =
    some .relRename := by decide

/-- `C07Lock.punctual_schedule_safe` for the interpreter (both classes): punctual holders, no tick inside a
waiter's sample→rename window, no concurrent takeovers ⇒ no takeover of a live creator's lock -/
theorem gen_punctual_schedule_safe (cfg : Cfg) (g : Nat) (hg : cfg.grace = some g) (n : Nat) (evs : List Ev)
    (hp : gpunctualSched (lockOf cfg.kind) cfg g (gInit (lockOf cfg.kind) cfg n) evs = true) :
    gsafeSched (lockOf cfg.kind) cfg (gInit (lockOf cfg.kind) cfg n) evs = true := by
  rw [gen_safeSched_eq]
  rw [gInit_eq, gpunctualSched_eq cfg g evs (init n) (pcOkSt_init cfg n)] at hp
  exact C07Lock.punctual_schedule_safe cfg g hg n evs hp

example : gpunctualSched symlinkLock symlinkHandover.cfg 2 (gInit symlinkLock symlinkHandover.cfg 3) symlinkHandover.evs = true ∧
    gpunctualSched openLock f13Open.cfg 2 (gInit openLock f13Open.cfg 3) f13Open.evs = false := by decide

end Lock

end OptunaVerif.C07FileGen
