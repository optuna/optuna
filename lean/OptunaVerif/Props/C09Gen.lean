import OptunaVerif.Generated.GaMethods
/-!
# C09 (translator tie) — the generation / parent-cache methods of the GA samplers *as written in the source today*

`Generated/GaMethods.lean` is regenerated on every run by `verif/translators/tga.py` from `optuna/samplers/_ga/_base.py`
(`BaseGASampler.get_trial_generation`, `get_population`, `get_parent_population`), `optuna/samplers/nsgaii/_sampler.py`
(`select_parent`, `sample_relative`) and `optuna/samplers/_nsgaiii/_sampler.py` (the cache sites).  Proved here for ALL
inputs: `<method>_shape` (the generated body is literally the expected term), `interp_<method>` (the interpreter of
`Model/GaIR.lean` on it equals the hand model of `Model/GACache.lean`; `select_parent` is run inside
`interp_nsga2Parents`), and the cache theorems of `Props/C09.lean` restated
for the interpreter: the round trip of the cache succeeds IFF the written ids are list indices (F7), generation numbers do
not depend on `_trial_id`, populations are functions of the id-erased history.

This file deliberately does not import `Props/C09.lean` (whose site inventory `sites_allowed` changes with every edit of a
`_trial_id` use): an edit of the GA methods must show up HERE by name.
-/
namespace OptunaVerif.C09Gen
open OptunaVerif.GACache OptunaVerif.GaIR
open OptunaVerif.Generated

instance {α : Type} [DecidableEq α] : DecidableEq (Except Err α) := fun a b =>
  match a, b with
  | .ok x, .ok y => if h : x = y then isTrue (by rw [h]) else isFalse (by intro e; cases e; exact h rfl)
  | .error x, .error y => if h : x = y then isTrue (by rw [h]) else isFalse (by intro e; cases e; exact h rfl)
  | .ok _, .error _ => isFalse (by intro e; cases e)
  | .error _, .ok _ => isFalse (by intro e; cases e)

@[simp] theorem gaSem_cond (c) : (gaSem c).cond = evalGCond := rfl
@[simp] theorem gaSem_act (c) : (gaSem c).act = doGAct c := rfl
@[simp] theorem gaSem_iter (c) : (gaSem c).iter = iterG := rfl
@[simp] theorem gaSem_retv (c) : (gaSem c).retv = retG := rfl

theorem loopAux_cons_step {E V : Type} (f : E → E × Flow V) (b : E → E) (rest : List (E → E)) (env env' : E) (fl : Flow V)
    (h : f (b env) = (env', fl)) (hfl : fl = .next ∨ fl = .cont) : loopAux f (b :: rest) env = loopAux f rest env' := by
  rcases hfl with rfl | rfl <;> simp [loopAux, h]

/-- the body of the scan loop, as generated -/
def scanBody : GStmt :=
  block [
    (.act (.genFromLoopAttr (-1))),
    (.ite (.cmp .lt .generation .maxGen) .cont (.ite (.cmp .gt .generation .maxGen)
      (block [(.act (.setMaxGen .generation)), (.act (.setMaxCount (.lit 1)))])
      (.act (.setMaxCount (.add .maxCount (.lit 1))))))]

/-- what follows the scan loop -/
def genTail : GStmt := block [
    (.assert (.not .popSizeIsNone)),
    (.ite (.cmp .lt .maxCount .popSize) (.act (.setGen .maxGen)) (.act (.setGen (.add .maxGen (.lit 1))))),
    (.act (.writeTrialAttr .trialId)),
    (.ret .generation)]

/-- **getTrialGeneration_shape**: attr lookup with early return; COMPLETE trials; `(0, 0)`; the reversed scan (`scanBody`); then
`genTail`: the assert; `count < population_size ? max : max + 1`; the attr write to `trial._trial_id`; return -/
theorem getTrialGeneration_shape : GaMethods.getTrialGeneration = block [
    (.act .genFromTrialAttr),
    (.ite (.not .genIsNone) (.ret .generation) .skip),
    (.act (.getTrials (.some [.complete]))),
    (.act (.initMax 0 0)),
    (.loop .trialsReversed scanBody),
    genTail] := rfl

theorem scanGen_cons (t : GT) (rest : List GT) (acc : Int × Nat) :
    scanGen (t :: rest) acc = scanGen rest (scanGen [t] acc) := by
  simp only [scanGen]
  split
  · rfl
  · split <;> rfl

theorem scanBody_step (env : GEnv) (t : GT) (mx : Int) (cnt : Nat) (h1 : env.maxGen = some mx)
    (h2 : env.maxCount = some (cnt : Int)) :
    ∃ env' fl, exec (gaSem noCalls) scanBody { env with t := some t } = (env', fl) ∧ (fl = .next ∨ fl = .cont) ∧
      env'.maxGen = some (scanGen [t] (mx, cnt)).1 ∧ env'.maxCount = some ((scanGen [t] (mx, cnt)).2 : Int) ∧
      env'.inp = env.inp ∧ env'.writes = env.writes := by
  have hg : genOrD (-1) t = t.genOr := by
    unfold GT.genOr genOrD; cases t.gen <;> rfl
  refine ⟨_, _, rfl, ?_⟩
  by_cases hlt : t.genOr < mx <;> by_cases hgt : t.genOr > mx <;>
    simp [block, exec, andThen, doGAct, evalGCond, evalIExp, Cmp.eval, scanGen, h1, h2, hg, hlt, hgt]

theorem scan_loop (l : List GT) :
    ∀ (env : GEnv) (mx : Int) (cnt : Nat), env.maxGen = some mx → env.maxCount = some (cnt : Int) →
      ∃ env', loopAux (fun e => exec (gaSem noCalls) scanBody e)
          (l.map (fun t => fun (e : GEnv) => { e with t := some t })) env = (env', .next) ∧
        env'.maxGen = some (scanGen l (mx, cnt)).1 ∧ env'.maxCount = some ((scanGen l (mx, cnt)).2 : Int) ∧
        env'.inp = env.inp ∧ env'.writes = env.writes := by
  induction l with
  | nil => intro env mx cnt h1 h2; exact ⟨env, rfl, h1, h2, rfl, rfl⟩
  | cons t rest ih =>
    intro env mx cnt h1 h2
    obtain ⟨env1, fl, hs, hfl, e2, e3, e4, e5⟩ := scanBody_step env t mx cnt h1 h2
    obtain ⟨env', f1, f2, f3, f4, f5⟩ := ih env1 _ _ e2 e3
    refine ⟨env', ?_, scanGen_cons .. ▸ f2, scanGen_cons .. ▸ f3, f4.trans e4, f5.trans e5⟩
    rw [List.map_cons, loopAux_cons_step _ _ _ _ _ _ hs hfl]
    exact f1

theorem filterStates_complete (trials : List GT) : filterStates (some [.complete]) trials = completeOf trials := by
  simp only [filterStates, completeOf]
  apply List.filter_congr
  intro t _
  cases t.state <;> rfl

theorem getTrialGeneration_scan (ps : Option Nat) (trials : List GT) (cur : GT) (h : cur.gen = none) :
    ∃ env', exec (gaSem noCalls) GaMethods.getTrialGeneration (GEnv.ofIn ⟨trials, cur, 0, ps⟩ []) =
        exec (gaSem noCalls) genTail env' ∧
      env'.maxGen = some (scanGen (completeOf trials).reverse (0, 0)).1 ∧
      env'.maxCount = some ((scanGen (completeOf trials).reverse (0, 0)).2 : Int) ∧
      env'.inp = ⟨trials, cur, 0, ps⟩ ∧ env'.writes = [] := by
  obtain ⟨env', e1, e2, e3, e4, e5⟩ := scan_loop (completeOf trials).reverse
    { GEnv.ofIn ⟨trials, cur, 0, ps⟩ [] with
      gen := some none, trialsL := some (completeOf trials), maxGen := some 0, maxCount := some 0 } 0 0 rfl rfl
  refine ⟨env', ?_, e2, e3, e4, e5⟩
  -- `genTail` stays folded
  rw [getTrialGeneration_shape]
  simp only [block, exec, andThen, gaSem_cond, gaSem_act, gaSem_iter, doGAct, evalGCond, iterG, GEnv.ofIn, genAttr, h,
    Option.isNone, Bool.not_true, filterStates_complete] at e1 ⊢
  rw [e1]

theorem finish_genTail (env : GEnv) (mx : Int) (cnt : Nat) (h1 : env.maxGen = some mx) (h2 : env.maxCount = some (cnt : Int)) :
    finishGen (exec (gaSem noCalls) genTail env) =
      match env.inp.popSize with
      | none => .error .assertion
      | some n => .ok (if cnt < n then mx else mx + 1, env.writes ++ [(env.inp.cur.id, if cnt < n then mx else mx + 1)]) := by
  cases hp : env.inp.popSize with
  | none => simp [genTail, block, exec, andThen, evalGCond, hp, finishGen]
  | some n =>
    by_cases hlt : cnt < n <;>
      simp [genTail, block, exec, andThen, evalIExp, evalGCond, Cmp.eval, doGAct, retG, h1, h2, hp, hlt, Int.ofNat_lt, finishGen]

/-- **interp_getTrialGeneration**: `get_trial_generation` as generated is `trialGeneration`: the attribute if set (no
write); else the scan over the COMPLETE trials (newest first) and ONE write `(trial._trial_id, generation)` — for every
trial list, every trial, every population size -/
theorem interp_getTrialGeneration (n : Nat) (trials : List GT) (cur : GT) :
    interpTrialGeneration GaMethods.getTrialGeneration (some n) trials cur =
      .ok ((trialGeneration n trials cur).1, (trialGeneration n trials cur).2.toList) := by
  rw [interpTrialGeneration]
  cases hg : cur.gen with
  | some g =>
    rw [getTrialGeneration_shape]
    simp [block, exec, andThen, doGAct, evalGCond, retG, GEnv.ofIn, genAttr, hg, finishGen, trialGeneration]
  | none =>
    obtain ⟨env', e1, e2, e3, e4, e5⟩ := getTrialGeneration_scan (some n) trials cur hg
    rw [e1, finish_genTail env' _ _ e2 e3, e4, e5]
    simp [trialGeneration, hg]

/-- without a population size the generated method asserts (only when the attribute is not set yet) -/
theorem interp_getTrialGeneration_noPopSize (trials : List GT) (cur : GT) (h : cur.gen = none) :
    interpTrialGeneration GaMethods.getTrialGeneration none trials cur = .error .assertion := by
  obtain ⟨env', e1, e2, e3, e4, _⟩ := getTrialGeneration_scan none trials cur h
  rw [interpTrialGeneration, e1, finish_genTail env' _ _ e2 e3, e4]

/-- **getPopulation_shape**: COMPLETE trials whose generation attribute equals the argument -/
theorem getPopulation_shape : GaMethods.getPopulation = .ret (.populationOf (.some [.complete])) := rfl

theorem interp_getPopulation (trials : List GT) (g : Nat) :
    interpPopulation GaMethods.getPopulation trials g = .ok (population trials g) := by
  simp only [interpPopulation, getPopulation_shape, exec, gaSem_retv, retG, GEnv.ofIn, finishTrials, filterStates_complete,
    completeOf, population, List.filter_filter]
  congr 1
  apply List.filter_congr
  intro t _
  simp [Bool.and_comm]

/-- **getParentPopulation_shape**: `[]` for generation 0; key `prefix + str(generation)`; hit: READ the cached values as
INDICES into `study._get_trials(deepcopy=False)`; miss: `select_parent`, WRITE the `_trial_id`s, return the selection -/
theorem getParentPopulation_shape : GaMethods.getParentPopulation = block [
    (.ite (.cmp .eq .genArg (.lit 0)) (.ret .emptyList) .skip),
    (.act .loadStudyAttrs),
    (.act (.lookupCache .prefixPlusGen)),
    (.ite (.not .cachedIsNone)
      (block [(.act (.getTrials .none)), (.ret (.readCache .byIndex))])
      (block [(.act .callSelectParent), (.act (.writeCache .prefixPlusGen .ids)), (.ret .parentPopulation)]))] := rfl

/-- the hand model's answer as an `Except` (`none` = `IndexError`) -/
def liftPP : Option (List GT) × Store → Except Err (List GT × Store)
  | (some l, st) => .ok (l, st)
  | (none, _) => .error .indexError

/-- `get_parent_population` with a `select_parent` that may itself raise -/
theorem interp_getParentPopulation_partial (select : Nat → Store → Except Err (List GT × Store)) (trials : List GT)
    (st : Store) (g : Nat) :
    interpParentPopulation GaMethods.getParentPopulation select trials st g =
      if g = 0 then .ok ([], st)
      else match st.get? g with
        | some ids => liftPP (readG trials ids, st)
        | none => match select g st with
          | .ok (ps, st1) => .ok (ps, st1.set g (ps.map (·.id)))
          | .error e => .error e := by
  rw [interpParentPopulation, getParentPopulation_shape]
  by_cases h0 : g = 0
  · subst h0
    simp [block, exec, andThen, evalGCond, evalIExp, Cmp.eval, retG, GEnv.ofIn, finishTrials]
  · have h0' : ¬ ((g : Int) = 0) := by exact_mod_cast h0
    simp only [block, exec, andThen, gaSem_cond, gaSem_act, gaSem_retv, evalGCond, evalIExp, Cmp.eval, doGAct, GEnv.ofIn, h0, h0',
      decide_false, if_false, keyOf]
    cases hc : st.get? g with
    | some ids =>
      simp only [Option.isNone, Bool.not_false, retG, filterStates]
      cases hr : readG trials ids <;> simp [finishTrials, liftPP]
    | none =>
      simp only [Option.isNone, Bool.not_true]
      rcases select g st with e | ⟨ps, st1⟩ <;> simp [retG, finishTrials]

/-- **interp_getParentPopulation**: `get_parent_population` as generated is `parentPopulation` (for every selection
function, trial list, attribute store and generation) -/
theorem interp_getParentPopulation (select : Nat → Store → List GT × Store) (trials : List GT) (st : Store) (g : Nat) :
    interpParentPopulation GaMethods.getParentPopulation (fun g s => .ok (select g s)) trials st g =
      liftPP (parentPopulation select trials st g) := by
  rw [interp_getParentPopulation_partial]
  unfold parentPopulation
  by_cases h0 : g = 0
  · simp [h0, liftPP]
  · simp only [h0, if_false]
    cases st.get? g <;> simp [liftPP]

/-- **selectParent_shape**: `elite(study, get_population(study, generation - 1) + get_parent_population(study, generation - 1))` -/
theorem selectParent_shape : GaMethods.selectParent = ⟨.sub .genArg (.lit 1), .sub .genArg (.lit 1), true⟩ := rfl

/-- **interp_nsga2Parents**: NSGA-II's parent population, the generated `get_parent_population` calling the generated
`select_parent` recursively down to generation 0, is the hand model's recursion — every elite strategy, trial list, store,
generation -/
theorem interp_nsga2Parents (elite : List GT → List GT) (trials : List GT) (g : Nat) :
    ∀ (st : Store), interpNsga2Parents GaMethods.gaProg elite trials g st = liftPP (nsga2Parents elite trials g st) := by
  have hP : GaMethods.gaProg.getParentPopulation = GaMethods.getParentPopulation := rfl
  have hQ : GaMethods.gaProg.getPopulation = GaMethods.getPopulation := rfl
  induction g with
  | zero =>
    intro st
    simp [interpNsga2Parents, hP, interp_getParentPopulation_partial, nsga2Parents, liftPP]
  | succ g ih =>
    intro st
    have hexp : evalGenExp (g + 1) (.sub .genArg (.lit 1)) = .ok (g : Int) := by
      simp [evalGenExp, evalIExp, GEnv.ofIn]
    simp only [interpNsga2Parents, hP, hQ, interp_getParentPopulation_partial, nsga2Parents, Nat.succ_ne_zero, if_false]
    cases hc : st.get? (g + 1) with
    | some ids => rfl
    | none =>
      simp only [GaMethods.gaProg, selectParent_shape, hexp, and_self, if_true, interp_getPopulation]
      have ih' := ih st
      simp only [GaMethods.gaProg, selectParent_shape] at ih'
      rw [ih']
      rcases nsga2Parents elite trials g st with ⟨_ | pp, st'⟩ <;> simp [liftPP]

/-- **sampleRelative_shape**: the generation of the trial, its parent population, `{}` when that is empty, else the
child-generation strategy on it -/
theorem sampleRelative_shape : GaMethods.sampleRelative = block [
    (.act .callTrialGeneration), (.act .callParentPopulation),
    (.ite .parentsEmpty (.ret .emptyDict) .skip), (.ret .childGeneration)] := rfl

theorem interp_sampleRelative (elite : List GT → List GT) (n : Nat) (trials : List GT) (st : Store) (cur : GT) :
    interpSampleRelative GaMethods.gaProg elite (some n) trials st cur =
      match nsga2Parents elite trials (trialGeneration n trials cur).1.toNat st with
      | (some ps, st') => .ok ((trialGeneration n trials cur).2.toList, some ps, st')
      | (none, _) => .error .indexError := by
  have hP : GaMethods.gaProg.sampleRelative = GaMethods.sampleRelative := rfl
  have hT : GaMethods.gaProg.getTrialGeneration = GaMethods.getTrialGeneration := rfl
  simp only [interpSampleRelative, hP, hT, sampleRelative_shape, block, exec, andThen, gaSem_cond, gaSem_act, gaSem_retv, doGAct,
    interp_getTrialGeneration, interp_nsga2Parents, GEnv.ofIn, List.nil_append]
  rcases nsga2Parents elite trials (trialGeneration n trials cur).1.toNat st with ⟨_ | _ | ⟨p, rest⟩, st'⟩ <;>
    simp [liftPP, evalGCond, retG, finishSample]

/-- **nsga3_cache_discipline**: NSGA-III's population cache stores trial NUMBERS (`[t.number for t in population]`), reads
them back as indices into `study.get_trials(deepcopy=False)`, looks the key up with the default `(-1, [])`, writes only when
no trial of the generation is RUNNING; `sample_relative` writes `parent_generation + 1` to `trial._trial_id` -/
theorem nsga3_cache_discipline : GaMethods.nsga3 = ⟨true, .byIndex, .numbers, true, true, true⟩ := rfl

theorem store_get_set (st : Store) (g : Nat) (v : List Nat) : (st.set g v).get? g = some v := by
  induction st with
  | nil => simp [Store.set, Store.get?]
  | cons kv rest ih =>
    obtain ⟨k, w⟩ := kv
    by_cases hk : k = g <;> simp [Store.set, Store.get?, hk, ih]

theorem readG_map_iff (trials ps : List GT) (f : GT → Nat) :
    readG trials (ps.map f) = some ps ↔ ∀ p ∈ ps, trials[f p]? = some p := by
  induction ps with
  | nil => simp [readG]
  | cons p rest ih =>
    simp only [List.map_cons, readG, List.mem_cons, forall_eq_or_imp, ← ih]
    cases trials[f p]? <;> cases readG trials (rest.map f) <;> simp

theorem cacheHit_iff (select' : Nat → Store → Except Err (List GT × Store)) (trials ps : List GT) (f : GT → Nat) (st : Store)
    (g : Nat) (hg : g ≠ 0) :
    interpParentPopulation GaMethods.getParentPopulation select' trials (st.set g (ps.map f)) g = .ok (ps, st.set g (ps.map f)) ↔
      ∀ p ∈ ps, trials[f p]? = some p := by
  rw [interp_getParentPopulation_partial, ← readG_map_iff trials ps f]
  simp only [hg, if_false, store_get_set]
  cases readG trials (ps.map f) <;> simp [liftPP]

/-- **gen_cache_roundtrip_iff_ids_are_indices** (F7, exact).  `get_parent_population` as generated, for a generation
`g ≥ 1` whose cache entry is missing: the first call returns the selection `ps` and stores `[p._trial_id for p in ps]`;
a second call (cache hit, whatever `select_parent` would now do) returns exactly `ps` **iff** every written id is the
index of its trial in the number-ordered trial list (`trials[p._trial_id] is p`).  So the cache is right on storages
whose trial ids are 0-based and dense per study (`gen_cache_right_on_index_ids`), and wrong for every non-empty selection
where the ids are the numbers shifted by a constant `off ≥ 1` (`gen_cache_wrong_on_shifted_ids`). -/
theorem gen_cache_roundtrip_iff_ids_are_indices (select : Nat → Store → List GT × Store)
    (select' : Nat → Store → Except Err (List GT × Store)) (trials : List GT) (st : Store) (g : Nat)
    (hg : g ≠ 0) (hmiss : st.get? g = none) :
    let ps := (select g st).1
    let st1 := (select g st).2.set g (ps.map (·.id))
    interpParentPopulation GaMethods.getParentPopulation (fun g s => .ok (select g s)) trials st g = .ok (ps, st1) ∧
    (interpParentPopulation GaMethods.getParentPopulation select' trials st1 g = .ok (ps, st1) ↔
      ∀ p ∈ ps, trials[p.id]? = some p) := by
  intro ps st1
  refine ⟨?_, cacheHit_iff select' trials ps (·.id) _ g hg⟩
  rw [interp_getParentPopulation_partial]
  simp [hg, hmiss, ps, st1]

def IdsAreIndices (trials : List GT) : Prop := ∀ (i : Nat) (t : GT), trials[i]? = some t → t.id = i

theorem sits_at_key (key : GT → Nat) (trials ps : List GT) (hd : ∀ (i : Nat) (t : GT), trials[i]? = some t → key t = i)
    (hp : ∀ p ∈ ps, p ∈ trials) : ∀ p ∈ ps, trials[key p]? = some p := by
  intro p hpm
  obtain ⟨i, hi⟩ := List.getElem?_of_mem (hp p hpm)
  rw [hd i p hi]; exact hi

/-- On a storage that numbers the trials of each study from 0 (a fresh in-memory / journal storage holding one study)
the right-hand side of `gen_cache_roundtrip_iff_ids_are_indices` holds for every selection from the trial list, so by
that theorem the cache hit returns the parents that were selected -/
theorem gen_cache_right_on_index_ids (trials ps : List GT) (hd : IdsAreIndices trials) (hp : ∀ p ∈ ps, p ∈ trials) :
    ∀ p ∈ ps, trials[p.id]? = some p :=
  sits_at_key (·.id) trials ps hd hp

/-- **gen_cache_wrong_on_shifted_ids** (F7 for every offset): when the study's ids are its numbers shifted by any
`off ≥ 1` (SQLite: 1; a storage that already holds `off` trials), the hit NEVER returns a non-empty selection `ps` -/
theorem gen_cache_wrong_on_shifted_ids (select' : Nat → Store → Except Err (List GT × Store)) (trials ps : List GT)
    (off : Nat) (hoff : 1 ≤ off) (hshift : ∀ (i : Nat) (t : GT), trials[i]? = some t → t.id = i + off ∧ t.number = i)
    (hne : ps ≠ []) (hp : ∀ p ∈ ps, p ∈ trials) (st : Store) (g : Nat) (hg : g ≠ 0) :
    interpParentPopulation GaMethods.getParentPopulation select' trials (st.set g (ps.map (·.id))) g ≠
      .ok (ps, st.set g (ps.map (·.id))) := by
  intro hcontra
  obtain ⟨p, rest, rfl⟩ := List.exists_cons_of_ne_nil hne
  -- the hit finds `p` at index `p.id`, where the trial with id `p.id + off` sits
  have := (hshift p.id p ((cacheHit_iff select' trials _ (·.id) st g hg).mp hcontra p List.mem_cons_self)).1
  omega

/-- a study of `gen_f7_witness`: SQLite-like ids 1..4 for trials 0..3 -/
def w1 : List GT := [⟨1, 0, some 0, .complete⟩, ⟨2, 1, some 0, .complete⟩, ⟨3, 2, some 0, .complete⟩, ⟨4, 3, some 0, .complete⟩]
/-- a study of `gen_f7_witness`: the ids 5..8 of a storage that already holds 5 trials -/
def w5 : List GT := [⟨5, 0, some 0, .complete⟩, ⟨6, 1, some 0, .complete⟩, ⟨7, 2, some 0, .complete⟩, ⟨8, 3, some 0, .complete⟩]
/-- a `select_parent` that answers trials 0 and 2 of `l` -/
def pick02 (l : List GT) : Nat → Store → Except Err (List GT × Store) := fun _ s => .ok ([l.getD 0 default, l.getD 2 default], s)

/-- **gen_f7_witness** (the negation of the round trip, on today's code; the replayed F7 witnesses through the
interpreter): on `w1` the first call selects trials 0 and 2, the second call (cache hit) returns trials 1 and 3; on `w5`
the second call raises `IndexError` -/
theorem gen_f7_witness :
    (match interpParentPopulation GaMethods.getParentPopulation (pick02 w1) w1 [] 1 with
      | .ok (_, st1) => (match interpParentPopulation GaMethods.getParentPopulation (pick02 w1) w1 st1 1 with
        | .ok (l, _) => l.map (·.number)
        | .error _ => [])
      | .error _ => []) = [1, 3] ∧
    (match interpParentPopulation GaMethods.getParentPopulation (pick02 w5) w5 [] 1 with
      | .ok (_, st1) => (match interpParentPopulation GaMethods.getParentPopulation (pick02 w5) w5 st1 1 with
        | .ok _ => false
        | .error e => e == .indexError)
      | .error _ => false) = true := by decide

/-- NSGA-III's discipline (numbers written, read as indices — `nsga3_cache_discipline`) round-trips on every number-dense
trial list, whatever the ids -/
theorem gen_nsga3_roundtrip (trials ps : List GT) (hd : ∀ (i : Nat) (t : GT), trials[i]? = some t → t.number = i)
    (hp : ∀ p ∈ ps, p ∈ trials) : roundTripBy GaMethods.nsga3.write GaMethods.nsga3.read trials ps = .ok ps := by
  have hrd : readG trials (ps.map (·.number)) = some ps :=
    (readG_map_iff trials ps (·.number)).mpr (sits_at_key (·.number) trials ps hd hp)
  simp [roundTripBy, nsga3_cache_discipline, hrd]
example : roundTripBy GaMethods.nsga3.write GaMethods.nsga3.read w5 [w5.getD 0 default, w5.getD 2 default] =
    .ok [w5.getD 0 default, w5.getD 2 default] := by decide

theorem lookupBy_id_self (trials : List GT) (hnd : (trials.map (·.id)).Nodup) :
    ∀ (ps : List GT), (∀ p ∈ ps, p ∈ trials) → lookupBy (·.id) trials (ps.map (·.id)) = .ok ps := by
  have hfind : ∀ p ∈ trials, trials.find? (fun t => t.id == p.id) = some p := by
    intro p hp
    induction trials with
    | nil => cases hp
    | cons a rest ih =>
      simp only [List.map_cons, List.nodup_cons] at hnd
      rcases List.mem_cons.mp hp with rfl | hpr
      · simp [List.find?]
      · have hne : (a.id == p.id) = false :=
          beq_false_of_ne (fun e => hnd.1 (e ▸ List.mem_map.mpr ⟨p, hpr, rfl⟩))
        simp only [List.find?, hne]
        exact ih hnd.2 hpr
  intro ps
  induction ps with
  | nil => intro _; rfl
  | cons p rest ih =>
    intro hp
    simp only [List.map_cons, lookupBy, hfind p (hp p (List.mem_cons_self ..)),
      ih (fun q hq => hp q (List.mem_cons_of_mem _ hq))]

/-- What a REPAIR of F7 looks like in the IR: READ by looking the cached `_trial_id` up (`ReadKind.byIdLookup`) instead of
indexing.  With that read the round trip holds on every storage (ids only have to be distinct) — this is the positive
statement that becomes provable, while `gen_f7_witness` / `getParentPopulation_shape` stop holding for such a source -/
theorem repaired_read_roundtrip (trials ps : List GT) (hnd : (trials.map (·.id)).Nodup) (hp : ∀ p ∈ ps, p ∈ trials) :
    roundTripBy .ids .byIdLookup trials ps = .ok ps := by
  simp [roundTripBy, lookupBy_id_self trials hnd ps hp]
example : roundTripBy .ids .byIdLookup w5 [w5.getD 0 default, w5.getD 2 default] = .ok [w5.getD 0 default, w5.getD 2 default] ∧
    roundTripBy .ids .byIndex w5 [w5.getD 0 default, w5.getD 2 default] = .error .indexError := by decide

theorem genOr_erase (t : GT) : ({ t with id := 0 } : GT).genOr = t.genOr := rfl

theorem scanGen_erase (l : List GT) : ∀ acc, scanGen (eraseIds l) acc = scanGen l acc := by
  induction l with
  | nil => intro acc; rfl
  | cons t rest ih =>
    intro acc
    rw [scanGen_cons t rest acc, ← ih]
    exact scanGen_cons _ _ _

theorem completeOf_erase (l : List GT) : completeOf (eraseIds l) = eraseIds (completeOf l) := by
  simp only [completeOf, eraseIds, List.filter_map]
  rfl

/-- **gen_generation_independent_of_ids**: the generation the generated `get_trial_generation` answers is a function of the
id-erased history and of the trial's own attribute — `_trial_id` appears only as the TARGET of the attribute write -/
theorem gen_generation_independent_of_ids (n : Nat) (trials : List GT) (cur : GT) :
    (∃ g, interpTrialGeneration GaMethods.getTrialGeneration (some n) trials cur =
        .ok (g, if cur.gen.isSome then [] else [(cur.id, g)]) ∧
      ∃ ws, interpTrialGeneration GaMethods.getTrialGeneration (some n) (eraseIds trials) { cur with id := 0 } = .ok (g, ws)) := by
  refine ⟨(trialGeneration n trials cur).1, ?_, ?_⟩
  · rw [interp_getTrialGeneration]
    cases hg : cur.gen <;> simp [trialGeneration, hg]
  · refine ⟨(trialGeneration n (eraseIds trials) { cur with id := 0 }).2.toList, ?_⟩
    rw [interp_getTrialGeneration]
    congr 2
    cases hg : cur.gen with
    | some g => simp [trialGeneration, hg]
    | none =>
      simp only [trialGeneration, hg, completeOf_erase]
      have : (eraseIds (completeOf trials)).reverse = eraseIds (completeOf trials).reverse := by
        simp [eraseIds, List.map_reverse]
      rw [this, scanGen_erase]

/-- **gen_population_id_erased**: `get_population(study, g)` as generated commutes with erasing the ids: it is a function
of the id-erased history -/
theorem gen_population_id_erased (trials : List GT) (g : Nat) :
    interpPopulation GaMethods.getPopulation (eraseIds trials) g = .ok (eraseIds (population trials g)) := by
  rw [interp_getPopulation]
  simp only [population, eraseIds, List.filter_map]
  rfl

/-! ### non-vacuity: the interpreter on a concrete study (ids shifted by 5) -/

def demoTrials : List GT :=
  [⟨5, 0, some 0, .complete⟩, ⟨6, 1, some 0, .complete⟩, ⟨7, 2, some 0, .fail⟩, ⟨8, 3, some 0, .complete⟩,
   ⟨9, 4, some 1, .complete⟩, ⟨10, 5, none, .running⟩]

/-- population size 3: generation 0 is full (three COMPLETE trials), generation 1 has one member → a new trial joins
generation 1 and the attribute is written to ITS id; with population size 1 it opens generation 2; a trial that already
carries the attribute is answered without a write -/
example : interpTrialGeneration GaMethods.getTrialGeneration (some 3) demoTrials ⟨10, 5, none, .running⟩ = .ok (1, [(10, 1)]) ∧
    interpTrialGeneration GaMethods.getTrialGeneration (some 1) demoTrials ⟨10, 5, none, .running⟩ = .ok (2, [(10, 2)]) ∧
    interpTrialGeneration GaMethods.getTrialGeneration (some 3) demoTrials ⟨9, 4, some 1, .complete⟩ = .ok (1, []) ∧
    interpTrialGeneration GaMethods.getTrialGeneration none demoTrials ⟨10, 5, none, .running⟩ = .error .assertion := by decide
example : (match interpPopulation GaMethods.getPopulation demoTrials 0 with | .ok l => l.map (·.number) | .error _ => []) = [0, 1, 3] := by
  decide
/-- NSGA-II on the shifted study, elite = first two: generation 1 selects trials 0, 1 and stores their ids `[5, 6]`; the next
call reads index 5 and 6 of a six-trial list: `IndexError` (F7 inside `sample_relative`) -/
example : (match interpNsga2Parents GaMethods.gaProg (fun l => l.take 2) demoTrials 1 [] with
      | .ok (l, st) => (l.map (·.number), st)
      | .error _ => ([], [])) = ([0, 1], [(1, [5, 6])]) ∧
    (match interpSampleRelative GaMethods.gaProg (fun l => l.take 2) (some 3) demoTrials [(1, [5, 6])] ⟨10, 5, none, .running⟩ with
      | .ok _ => false
      | .error e => e == .indexError) = true := by decide

end OptunaVerif.C09Gen
