import OptunaVerif.Generated.EnqueueMethods
import OptunaVerif.Props.C04Gen
import OptunaVerif.Props.C10SuggestGen
/-!
# C04 (translator tie T-enqueue) — how a trial gets INTO the queue and how its fixed parameters reach the worker,
*as written in the source today*

`Generated/EnqueueMethods.lean` is regenerated on every run by `verif/translators/tenqueue.py` from
`optuna/study/study.py` (`enqueue_trial`, `_should_skip_enqueue`, `add_trial`, `add_trials`, the queue part of `ask`) and
`optuna/trial/_trial.py` (`Trial.__init__`), as DATA of `Model/EnqueueIR.lean`.  Proved here:

* per method, for ALL inputs: `gen_skip_eq`, `gen_add_eq`, `gen_enqueue_eq`, `gen_ask_eq`, `gen_ask_order`, `gen_init_eq`
  — the interpreter of the generated data is the hand model of `Model/Queue.lean`;
* end to end, with the generated pop loop of `Props/C04Gen.lean` and (by citation) T-suggest's
  `C10SuggestGen.gen_fixed_value_handed_over`: `gen_enqueue_creates`, `gen_enqueued_trial_claimed_at_most_once`,
  `gen_claim_keeps_number_and_attrs`, `gen_enqueued_params_reach_the_worker`, `gen_skip_if_exists_spec`
  (+ the witnesses `skip_nan_matches_any_float_witness`, `skip_bool_int_asymmetry_witness`).
-/
namespace OptunaVerif.C04EnqueueGen
open OptunaVerif.Storage OptunaVerif.Queue OptunaVerif.EnqueueIR
open OptunaVerif.Dist (Tok)
open OptunaVerif.Generated

/-- `_should_skip_enqueue` as written today: an existing trial matches when its `fixed_params` (else its `params`) have
the same key set and EVERY new value is "repeated": same type (`bool` under `int`), and for numbers NaN-or-close
(`rtol = 1e-5`, `atol = 0`), otherwise `==`. -/
theorem gen_skip_eq (views : List TrialView) (params : AList Tok) :
    EnqueueMethods.skip.eval views params = shouldSkip views params := by
  unfold SkipIR.eval shouldSkip
  congr 1
  funext v
  simp only [EnqueueMethods.skip, ParamsOf.eval, fixedKey, Bool.not_true, Bool.false_or, List.all_map]
  congr 2

-- non-vacuity: same keys, a close float repeats; a different key set or a different value does not
example : EnqueueMethods.skip.eval [⟨[("fixed_params", [("x", .flt 1)])], []⟩] [("x", .flt (100001/100000))] = true ∧
    EnqueueMethods.skip.eval [⟨[("fixed_params", [("x", .flt 1)])], []⟩] [("x", .flt 2)] = false ∧
    EnqueueMethods.skip.eval [⟨[], [("x", .flt 1), ("y", .int 2)]⟩] [("x", .flt 1)] = false ∧
    EnqueueMethods.skip.eval [⟨[], [("x", .flt 1), ("y", .str "a")]⟩] [("y", .str "a"), ("x", .flt 1)] = true := by decide +kernel

theorem gen_add_eq (s : Spec) (sid : Nat) (tmpl : Template) (valid implRaised : Bool) :
    EnqueueMethods.add.eval s sid tmpl valid implRaised = addTrial s sid tmpl valid implRaised := by
  unfold AddIR.eval addTrial
  simp only [EnqueueMethods.add, TmplX.eval, Bool.true_and, if_true]
  cases valid <;> simp
  cases tmpl.values <;> simp
  cases s.study? sid <;> simp

/-- the template `enqueue_trial` builds: WAITING, no values / params / start time, the parameters under
`system_attrs["fixed_params"]`, the user attributes as given -/
theorem gen_enqueue_template_eq (payload : String) (ua : AList String) :
    EnqueueMethods.enqueue.template payload ua = enqueueTemplate payload ua := by
  simp [EnqIR.template, EnqueueMethods.enqueue, enqueueTemplate, fixedKey, TState.isFinished]

/-- `enqueue_trial` as written today (TypeError for a non-dict, the skip guard, `add_trial(create_trial(...))`) -/
theorem gen_enqueue_eq (enc : AList Tok → String) (s : Spec) (sid : Nat) (isDict : Bool) (params : AList Tok)
    (ua : AList String) (skipIfExists : Bool) (views : List TrialView) (valid implRaised : Bool) :
    EnqueueMethods.enqueue.eval EnqueueMethods.skip EnqueueMethods.add enc s sid isDict params ua skipIfExists views valid implRaised =
      Queue.enqueue enc s sid isDict params ua skipIfExists views valid implRaised := by
  unfold EnqIR.eval Queue.enqueue
  rw [gen_enqueue_template_eq, gen_skip_eq]
  simp [EnqueueMethods.enqueue, gen_add_eq]

/-- `Trial.__init__` as written today: `_fixed_params` is `system_attrs.get("fixed_params", {})` of the trial read from
the storage -/
theorem gen_init_eq (dec : String → Option (AList Tok)) (t : TrialS) :
    EnqueueMethods.init.eval dec t = initFixed dec t := by
  unfold InitIR.eval initFixed
  cases h : t.systemAttrs.get? fixedKey <;> simp_all [EnqueueMethods.init, fixedKey]

/-- the queue part of `ask` as written today: a popped id is used as it is and nothing is created; only when the pop
answers `None` a fresh trial is created -/
theorem gen_ask_eq (s : Spec) (sid : Nat) (popped : Option Nat) :
    (runAsk EnqueueMethods.ask.body sid popped s).spec = (askQueue s sid popped).1 ∧
    (∀ n, (askQueue s sid popped).2 = .newId n → (runAsk EnqueueMethods.ask.body sid popped s).tid = some n) := by
  cases popped with
  | some t => simp [runAsk, EnqueueMethods.ask, AskStmt.step, askQueue]
  | none =>
    simp only [runAsk, EnqueueMethods.ask, List.foldl, AskStmt.step, askQueue]
    cases h : Storage.step s (Op.createTrial sid none false) with
    | mk s' o => cases o <;> simp_all

/-- the order in `ask`: the queue is consulted FIRST, then (only for an empty queue) a trial is created, then the
`Trial` object is constructed, then the `fixed_distributions` are suggested (no relative sampling before), then `return` -/
theorem gen_ask_order (s : Spec) (sid t : Nat) :
    (runAsk EnqueueMethods.ask.body sid (some t) s).evs = [.popped (some t), .constructed t, .suggestedFixed, .returned t] ∧
    (∀ s' n, Storage.step s (.createTrial sid none false) = (s', .newId n) →
      (runAsk EnqueueMethods.ask.body sid none s).evs = [.popped none, .created n, .constructed n, .suggestedFixed, .returned n]) ∧
    EnqueueMethods.ask.failsTrialOnException = true := by
  refine ⟨by simp [runAsk, EnqueueMethods.ask, AskStmt.step], ?_, rfl⟩
  intro s' n h
  simp [runAsk, EnqueueMethods.ask, AskStmt.step, h]

theorem gen_add_trials : EnqueueMethods.addMany.eachViaAddTrial = true := rfl

def enqueuedRecord (enc : AList Tok → String) (s : Spec) (sid : Nat) (params : AList Tok) (ua : AList String) : TrialS :=
  { study := sid, number := (s.trialsOf sid).length, state := .waiting, values := none, params := [], userAttrs := ua,
    systemAttrs := [(fixedKey, enc params)], inter := [], hasStart := false, hasComplete := false }

def enqAct (enc : AList Tok → String) (sid : Nat) (params : AList Tok) (ua : AList String) (implRaised : Bool) : Queue.Act :=
  .ext (.createTrial sid (some (enqueueTemplate (enc params) ua)) implRaised)

theorem enqAct_not_requeue (enc : AList Tok → String) (sid : Nat) (params : AList Tok) (ua : AList String) (ir : Bool) :
    (enqAct enc sid params ua ir).isRequeue = false := rfl

/-- whatever the generated `enqueue_trial` does to the storage is nothing at all (TypeError,
skipped, validation error, deleted study) or exactly ONE `create_new_trial` with the WAITING template above. -/
theorem gen_enqueue_effect (enc : AList Tok → String) (s : Spec) (sid : Nat) (isDict : Bool) (params : AList Tok)
    (ua : AList String) (skipIfExists : Bool) (views : List TrialView) (valid implRaised : Bool) (r : Spec × Out)
    (h : EnqueueMethods.enqueue.eval EnqueueMethods.skip EnqueueMethods.add enc s sid isDict params ua skipIfExists views valid implRaised = some r) :
    r.1 = s ∨ r = Storage.step s (.createTrial sid (some (enqueueTemplate (enc params) ua)) implRaised) := by
  rw [gen_enqueue_eq] at h
  unfold Queue.enqueue at h
  split at h
  · cases h
  · split at h
    · cases h; exact .inl rfl
    · cases h
      unfold addTrial
      cases valid
      · exact .inl rfl
      · exact .inr rfl

theorem createTrial_newId (s s1 : Spec) (sid tid : Nat) (tmpl : Option Template) (ir : Bool)
    (h : Storage.step s (.createTrial sid tmpl ir) = (s1, .newId tid)) :
    tid = s.trials.length ∧ s1.trials = s.trials ++ [mkTrial sid (s.trialsOf sid).length tmpl] ∧ s1.studies = s.studies := by
  cases Storage.wrote_of_eq h rfl (fun _ he => Out.noConfusion he)
  exact ⟨rfl, rfl, rfl⟩

/-- an `enqueue_trial` that answers with a new id appended exactly the WAITING record with the
parameters under `system_attrs["fixed_params"]`, the user attributes, the next number of the study — nothing else changed. -/
theorem gen_enqueue_creates (enc : AList Tok → String) (s s1 : Spec) (sid tid : Nat) (isDict : Bool) (params : AList Tok)
    (ua : AList String) (skipIfExists : Bool) (views : List TrialView) (valid implRaised : Bool)
    (h : EnqueueMethods.enqueue.eval EnqueueMethods.skip EnqueueMethods.add enc s sid isDict params ua skipIfExists views valid implRaised = some (s1, .newId tid)) :
    tid = s.trials.length ∧ s1.trials = s.trials ++ [enqueuedRecord enc s sid params ua] ∧ s1.studies = s.studies := by
  rw [gen_enqueue_eq] at h
  unfold Queue.enqueue at h
  split at h
  · cases h
  · split at h
    · cases h
    · simp only [Option.some.injEq] at h
      unfold addTrial at h
      cases valid
      · cases h
      · exact createTrial_newId s s1 sid tid _ implRaised h
example : (EnqueueMethods.enqueue.eval EnqueueMethods.skip EnqueueMethods.add (fun _ => "P") C04.demo0.spec 0 true
    [("x", .flt 1)] [("k", "v")] false [] true false).map (fun r => (r.2, r.1.trials[2]?.map (fun t => (t.state, t.number, t.systemAttrs, t.userAttrs)))) =
    some (.newId 2, some (.waiting, 2, [("fixed_params", "P")], [("k", "v")])) := by rfl

/-- one atomic action of the whole system: a worker action of the GENERATED pop loop, or a call of the GENERATED
`enqueue_trial` (with whatever `get_trials` returned as `views`) -/
inductive GAct where
  | q (a : Queue.Act)
  | enq (sid : Nat) (isDict : Bool) (params : AList Tok) (ua : AList String) (skipIfExists : Bool)
      (views : List TrialView) (valid implRaised : Bool)

def gstep (enc : AList Tok → String) (sys : Sys) : GAct → Sys
  | .q a => QueueIR.step C04Gen.pop sys a
  | .enq sid isDict params ua sk views valid ir =>
    match EnqueueMethods.enqueue.eval EnqueueMethods.skip EnqueueMethods.add enc sys.spec sid isDict params ua sk views valid ir with
    | none => sys
    | some r => { sys with spec := r.1 }

def grun (enc : AList Tok → String) (sys : Sys) (acts : List GAct) : Sys := acts.foldl (gstep enc) sys

def GAct.isRequeue : GAct → Bool
  | .q a => a.isRequeue
  | .enq .. => false

theorem gstep_is_queue_step (enc : AList Tok → String) (sys : Sys) (a : GAct) (ha : a.isRequeue = false) :
    gstep enc sys a = sys ∨ ∃ b : Queue.Act, b.isRequeue = false ∧ gstep enc sys a = Queue.step sys b := by
  cases a with
  | q a => exact .inr ⟨a, ha, C04Gen.step_eq sys a⟩
  | enq sid isDict params ua sk views valid ir =>
    simp only [gstep]
    cases h : EnqueueMethods.enqueue.eval EnqueueMethods.skip EnqueueMethods.add enc sys.spec sid isDict params ua sk views valid ir with
    | none => exact .inl rfl
    | some r =>
      rcases gen_enqueue_effect enc sys.spec sid isDict params ua sk views valid ir r h with h1 | h1
      · left; simp [h1]
      · right
        exact ⟨enqAct enc sid params ua ir, rfl, by simp [Queue.step, enqAct, h1]⟩

/-- any number of workers running the pop loop as generated from the source,
any number of `enqueue_trial` calls as generated from the source, any interleaving with any other storage calls that do
not put an existing trial back to WAITING: no trial — in particular no enqueued trial — is ever handed out twice. -/
theorem gen_enqueued_trial_claimed_at_most_once (enc : AList Tok → String) (spec : Spec) (workers : List WState)
    (acts : List GAct) (hno : ∀ a ∈ acts, a.isRequeue = false) :
    ((grun enc { spec := spec, workers := workers, claims := [] } acts).claims.map (·.2)).Nodup := by
  refine (List.foldlRecOn (motive := C04.Good) acts _ ⟨by simp, by intro p hp; simp at hp⟩ fun sys h a ha => ?_).1
  rcases gstep_is_queue_step enc sys a (hno a ha) with h1 | ⟨b, hb, h1⟩
  · rw [h1]; exact h
  · rw [h1]; exact C04.good_step sys b h hb
-- two enqueues, two workers racing: both trials handed out, each once
example : ((grun (fun _ => "P") { spec := (Storage.step Storage.init (.createStudy "s" [1])).1, workers := [.idle, .idle], claims := [] }
    [.enq 0 true [("x", .flt 1)] [] false [] true false, .enq 0 true [("x", .flt 2)] [] false [] true false,
     .q (.beginPop 0 0), .q (.beginPop 1 0), .q (.tryNext 1), .q (.tryNext 0), .q (.tryNext 0)]).claims) = [(1, 0), (0, 1)] := by
  decide

theorem got_means_claimed (sys : Sys) (w t : Nat) (rest : List Nat)
    (hw : sys.workers[w]? = some (.scanning (t :: rest)))
    (hgot : (QueueIR.step C04Gen.pop sys (.tryNext w)).workers[w]? = some (.got t)) :
    (Storage.step sys.spec (claimOp t)).2 = .bool true ∧
      (QueueIR.step C04Gen.pop sys (.tryNext w)).spec = (Storage.step sys.spec (claimOp t)).1 := by
  rw [C04Gen.step_eq] at hgot ⊢
  obtain ⟨s', ws', cl, hm, e⟩ := step_tryNext_cons sys w t rest hw
  rw [e, updAt_self _ _ _ _ hw] at hgot
  rw [e]
  -- a `pass` does not end in `got t`
  cases hm with
  | claim _ _ hb => exact ⟨hb, rfl⟩
  | pass _ _ _ _ h => rcases h with rfl | ⟨_, rfl⟩ <;> cases hgot

/-- the worker that gets `t` from the generated loop gets the SAME trial — same
number, study, user attributes, system attributes (hence the enqueued parameters), parameters, values, intermediate
values — now RUNNING. -/
theorem gen_claim_keeps_number_and_attrs (sys : Sys) (w t : Nat) (rest : List Nat)
    (hw : sys.workers[w]? = some (.scanning (t :: rest)))
    (hgot : (QueueIR.step C04Gen.pop sys (.tryNext w)).workers[w]? = some (.got t)) :
    ∃ tr tr', sys.spec.trials[t]? = some tr ∧ (QueueIR.step C04Gen.pop sys (.tryNext w)).spec.trials[t]? = some tr' ∧
      tr'.number = tr.number ∧ tr'.study = tr.study ∧ tr'.userAttrs = tr.userAttrs ∧
      tr'.systemAttrs = tr.systemAttrs ∧ tr'.params = tr.params ∧ tr'.values = tr.values ∧
      tr'.inter = tr.inter ∧ tr'.state = .running := by
  obtain ⟨hc, hs⟩ := got_means_claimed sys w t rest hw hgot
  rw [hs]
  exact C04.claimed_keeps_number_and_attrs sys.spec t hc

/-- a trial that carries `enc params` under `system_attrs["fixed_params"]`
(what the generated `enqueue_trial` stores: `gen_enqueue_creates`) and is handed to a worker by the generated pop loop:
the generated `Trial.__init__` reads exactly `params` into `_fixed_params` (the stored form decodes: `dec (enc p) = p`),
and the generated `Trial._suggest` (T-suggest, `C10SuggestGen.gen_fixed_value_handed_over`) hands the enqueued value of
every new name to the objective and stores it, without asking a sampler. -/
theorem gen_enqueued_params_reach_the_worker (enc : AList Tok → String) (dec : String → Option (AList Tok))
    (hcodec : ∀ p, dec (enc p) = some p) (sys : Sys) (w t : Nat) (rest : List Nat) (tr : TrialS) (params : AList Tok)
    (ht : sys.spec.trials[t]? = some tr) (hattr : tr.systemAttrs.get? fixedKey = some (enc params))
    (hw : sys.workers[w]? = some (.scanning (t :: rest)))
    (hgot : (QueueIR.step C04Gen.pop sys (.tryNext w)).workers[w]? = some (.got t)) :
    ∃ tr', (QueueIR.step C04Gen.pop sys (.tryNext w)).spec.trials[t]? = some tr' ∧ tr'.state = .running ∧
      tr'.number = tr.number ∧ tr'.userAttrs = tr.userAttrs ∧
      EnqueueMethods.init.eval dec tr' = some params ∧
      ∀ (E : SuggestIR.SEnv) (st : Suggest.St) (name : String) (d : Dist.Dist) (fv : Tok) (q : Rat),
        some E.cx.fixed = EnqueueMethods.init.eval dec tr' → params.get? name = some fv →
        st.dists.get? name = none → d.toInternal fv = .ok q → E.writeFails = false →
        SuggestIR.interpSuggest SuggestMethods.program E st name d =
          some ⟨{ params := st.params.set name fv, dists := st.dists.set name d, stored := st.stored.set name (q, d) },
                if d.contains q then [] else [.fixedOutOfRange], 0, .ok (fv, .fixed)⟩ := by
  obtain ⟨tr0, tr', h0, h1, hn, _, hu, hsys, _, _, _, hst⟩ := gen_claim_keeps_number_and_attrs sys w t rest hw hgot
  rw [ht] at h0
  cases h0
  have hinit : EnqueueMethods.init.eval dec tr' = some params := by
    rw [gen_init_eq]
    simp [initFixed, hsys, hattr, hcodec]
  refine ⟨tr', h1, hst, hn, hu, hinit, ?_⟩
  intro E st name d fv q hE hp hnew hq hwf
  rw [hinit] at hE
  have hf : E.cx.fixed.get? name = some fv := by
    cases hE; exact hp
  exact C10SuggestGen.gen_fixed_value_handed_over E st name d fv q hnew hf hq hwf

/-- the same, from the `enqueue_trial` call on: enqueue (generated), then the claim (generated) -/
theorem gen_enqueue_then_claim (enc : AList Tok → String) (dec : String → Option (AList Tok))
    (hcodec : ∀ p, dec (enc p) = some p) (s s1 : Spec) (sid tid : Nat) (params : AList Tok) (ua : AList String)
    (skipIfExists : Bool) (views : List TrialView) (valid implRaised : Bool)
    (henq : EnqueueMethods.enqueue.eval EnqueueMethods.skip EnqueueMethods.add enc s sid true params ua skipIfExists views valid implRaised = some (s1, .newId tid))
    (workers : List WState) (claims : List (Nat × Nat)) (w : Nat) (rest : List Nat)
    (hw : workers[w]? = some (.scanning (tid :: rest)))
    (hgot : (QueueIR.step C04Gen.pop ⟨s1, workers, claims⟩ (.tryNext w)).workers[w]? = some (.got tid)) :
    ∃ tr', (QueueIR.step C04Gen.pop ⟨s1, workers, claims⟩ (.tryNext w)).spec.trials[tid]? = some tr' ∧ tr'.state = .running ∧
      tr'.number = (s.trialsOf sid).length ∧ tr'.userAttrs = ua ∧ EnqueueMethods.init.eval dec tr' = some params := by
  obtain ⟨htid, htr, _⟩ := gen_enqueue_creates enc s s1 sid tid true params ua skipIfExists views valid implRaised henq
  have ht : (⟨s1, workers, claims⟩ : Sys).spec.trials[tid]? = some (enqueuedRecord enc s sid params ua) := by
    simp [htr, htid]
  obtain ⟨tr', h1, h2, h3, h4, h5, _⟩ := gen_enqueued_params_reach_the_worker enc dec hcodec ⟨s1, workers, claims⟩ w tid rest _
    params ht (by simp [enqueuedRecord, AList.get?]) hw hgot
  exact ⟨tr', h1, h2, h3, h4, h5⟩

/-- the exact characterisation, for the code as written today, of when
`enqueue_trial(params, skip_if_exists=…)` (a dict) adds nothing because of the skip guard: the flag is set AND some
existing trial `v` — its `system_attrs["fixed_params"]` when it has that attribute, its `params` otherwise — has the same
KEY SET and, for every key, an "equal" value: the new value is an instance of the existing value's type (so `True` repeats
an existing `1`, but `1` does not repeat an existing `True`), and then, for numbers: the NEW value is NaN (WHATEVER the
existing number is — see `skip_nan_matches_any_float_witness`) or `|new - old| <= 1e-5 * |old|`; for all other values `==`. -/
theorem gen_skip_if_exists_spec (enc : AList Tok → String) (s : Spec) (sid : Nat) (params : AList Tok)
    (ua : AList String) (skipIfExists : Bool) (views : List TrialView) (valid implRaised : Bool) :
    let skipped := skipIfExists = true ∧ ∃ v ∈ views,
      let tp := (v.sys.get? fixedKey).getD v.params
      keysEq tp params = true ∧ ∀ p ∈ params, ∃ e, tp.get? p.1 = some e ∧ isInstOfTypeOf p.2 e = true ∧
        (if isReal p.2 then isNaNTok p.2 = true ∨ iscloseTok (1 / 100000) 0 p.2 e = true else p.2.pyEq e = true)
    (skipped → EnqueueMethods.enqueue.eval EnqueueMethods.skip EnqueueMethods.add enc s sid true params ua skipIfExists views valid implRaised = some (s, .unit)) ∧
    (¬ skipped → EnqueueMethods.enqueue.eval EnqueueMethods.skip EnqueueMethods.add enc s sid true params ua skipIfExists views valid implRaised =
      some (EnqueueMethods.add.eval s sid (enqueueTemplate (enc params) ua) valid implRaised)) := by
  intro skipped
  have hiff : skipped ↔ (skipIfExists && shouldSkip views params) = true := by
    simp only [skipped, shouldSkip, Bool.and_eq_true, List.any_eq_true, List.all_eq_true]
    refine and_congr_right' (exists_congr fun v => and_congr_right' (and_congr_right'
      (forall_congr' fun p => forall_congr' fun _ => ?_)))
    cases ((v.sys.get? fixedKey).getD v.params).get? p.1 <;> simp [repeatedOne_iff]
  rw [gen_enqueue_eq, gen_add_eq]
  unfold Queue.enqueue
  constructor
  · intro h; simp [hiff.1 h]
  · intro h
    have : (skipIfExists && shouldSkip views params) = false := by
      cases hb : (skipIfExists && shouldSkip views params)
      · rfl
      · exact absurd (hiff.2 hb) h
    simp [this]

/-- SURPRISING, as written: a NEW value NaN is "repeated" against ANY existing number of that name — with an existing
enqueued `{"x": 1.0}`, `enqueue_trial({"x": nan}, skip_if_exists=True)` adds nothing (`np.isnan(float(param_value)) or …`
looks at the new value only). -/
theorem skip_nan_matches_any_float_witness :
    EnqueueMethods.skip.eval [⟨[("fixed_params", [("x", .flt 1)])], []⟩] [("x", .nan)] = true ∧
    -- … but not the other way round: a new 1.0 does not repeat an existing NaN
    EnqueueMethods.skip.eval [⟨[("fixed_params", [("x", .nan)])], []⟩] [("x", .flt 1)] = false ∧
    -- … and NaN repeats NaN (the case the clause was written for)
    EnqueueMethods.skip.eval [⟨[("fixed_params", [("x", .nan)])], []⟩] [("x", .nan)] = true := by decide +kernel

/-- as written: `isinstance(new, type(old))` is asymmetric under `bool <: int` -/
theorem skip_bool_int_asymmetry_witness :
    EnqueueMethods.skip.eval [⟨[("fixed_params", [("x", .int 1)])], []⟩] [("x", .bool true)] = true ∧
    EnqueueMethods.skip.eval [⟨[("fixed_params", [("x", .bool true)])], []⟩] [("x", .int 1)] = false ∧
    -- an int never repeats a float of the same value (`isinstance(1, float)` is False), a float never an int
    EnqueueMethods.skip.eval [⟨[("fixed_params", [("x", .flt 1)])], []⟩] [("x", .int 1)] = false := by decide +kernel

end OptunaVerif.C04EnqueueGen
