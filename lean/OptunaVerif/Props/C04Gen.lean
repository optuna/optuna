import OptunaVerif.Generated.TellMethods
import OptunaVerif.Model.QueueIR
import OptunaVerif.Props.C04
/-!
# C04 (translator tie) — `Study._pop_waiting_trial_id` *as written in the source today* is the hand model

`Generated/TellMethods.lean` (regenerated on every run by `verif/translators/ttell.py`) holds the body of
`Study._pop_waiting_trial_id` as data of the statement language of `Model/TellIR.lean`; `Model/QueueIR.lean` runs it
in the small-step setting of `Model/Queue.lean` (one atomic `get_all_trials` for the iterable, one execution of the
generated loop body — with its one atomic compare-and-set — per `tryNext`).

Proved here, for **all** systems, workers, schedules: `QueueIR.step generated = Queue.step` (`step_eq`), hence
`run_eq`, hence the theorems of `Props/C04.lean` hold of the generated pop loop (`gen_*`).  A source change that
ignores the answer of the compare-and-set, drops the `UpdateFinishedTrialError` handler (repaired defect F17), returns
before the claim, lists other states than WAITING … breaks `step_eq`.
-/
namespace OptunaVerif.C04Gen
open OptunaVerif.Storage OptunaVerif.Queue OptunaVerif.TellIR OptunaVerif.QueueIR
open OptunaVerif.Generated

abbrev pop : Stmt := TellMethods.popWaitingTrialId

theorem claim_out (s : Spec) (t : Nat) :
    (∃ b, (Storage.step s (claimOp t)).2 = .bool b) ∨ ∃ e, (Storage.step s (claimOp t)).2 = .err e :=
  Queue.claim_out s t
example : (Storage.step Storage.init (claimOp 0)).2 = .err .keyError := by decide

theorem catches_updateFinished (e : Err) :
    catches QExn.mro [.updateFinishedTrialError] (.err e) = decide (e = .updateFinished) := by
  cases e <;> rfl

/-- the function is `for trial in <WAITING trials>: <body>` followed by `return None` -/
theorem pop_shape : ∃ body, loopOf pop = some (.waitingTrials, body, .ret .none) := ⟨_, rfl⟩

/-- one atomic action of the system with the pop loop as written in the source today is the action of
the hand model — for every system state, worker and action. -/
theorem step_eq (sys : Sys) (a : Queue.Act) : QueueIR.step pop sys a = Queue.step sys a := by
  cases a with
  | reset w => rfl
  | ext op => rfl
  | beginPop w sid =>
    simp only [QueueIR.step, Queue.step]
    cases hw : sys.workers[w]? with
    | none => rfl
    | some ws =>
      cases ws with
      | idle =>
        dsimp only [pop, TellMethods.popWaitingTrialId, block, loopOf, popM, setWorker]
        cases (sys.spec.study? sid).isSome <;> rfl
      | _ => rfl
  | tryNext w =>
    simp only [QueueIR.step, Queue.step]
    cases hw : sys.workers[w]? with
    | none => rfl
    | some ws =>
      cases ws with
      | scanning l =>
        cases l with
        | nil => rfl
        | cons t rest =>
          -- the generated body is opened once, by definitional unfolding; each case then only follows the answer of the
          -- compare-and-set through it
          dsimp only [pop, TellMethods.popWaitingTrialId, block, loopOf, exec, evalCond, popM]
          rcases claim_out sys.spec t with ⟨b, hb⟩ | ⟨e, he⟩
          · cases b <;> simp [hb]
          · cases e <;> simp [he, catches_updateFinished]
      | _ => rfl

theorem run_eq (sys : Sys) (acts : List Queue.Act) : QueueIR.run pop sys acts = Queue.run sys acts := by
  unfold QueueIR.run Queue.run
  congr 1
  funext s a
  exact step_eq s a
example : (QueueIR.run pop C04.demo0 [.beginPop 0 0, .beginPop 1 0, .tryNext 1, .tryNext 0, .tryNext 0]).claims =
    [(1, 0), (0, 1)] := by decide

/-- any number of workers running the pop loop *as generated from the source*, any
interleaving with any other storage calls that do not put an existing trial back to WAITING: no trial is ever handed
out twice. -/
theorem gen_claimed_at_most_once (spec : Spec) (workers : List WState) (acts : List Queue.Act)
    (hno : ∀ a ∈ acts, a.isRequeue = false) :
    ((QueueIR.run pop { spec := spec, workers := workers, claims := [] } acts).claims.map (·.2)).Nodup := by
  rw [run_eq]
  exact C04.claimed_at_most_once spec workers acts hno
example : ((QueueIR.run pop C04.demo0 [.beginPop 0 0, .beginPop 1 0, .tryNext 1, .tryNext 0, .tryNext 0]).claims.map
    (·.2)).Nodup := by decide

/-- when the generated loop moves past a candidate, that candidate was not a live WAITING trial
at that instant. -/
theorem gen_no_skip_step (sys : Sys) (w t : Nat) (rest : List Nat)
    (hw : sys.workers[w]? = some (.scanning (t :: rest)))
    (hnext : (QueueIR.step pop sys (.tryNext w)).workers[w]? = some (.scanning rest)) :
    ¬ ∃ tr, sys.spec.trial? t = some tr ∧ tr.state = .waiting := by
  rw [step_eq] at hnext
  exact C04.no_skip_step sys w t rest hw hnext

/-- the candidates the generated loop starts from are all live WAITING trials of the study -/
theorem gen_list_complete (sys : Sys) (w sid tid : Nat) (t : TrialS) (hw : sys.workers[w]? = some .idle)
    (hs : (sys.spec.study? sid).isSome = true)
    (ht : sys.spec.trials[tid]? = some t) (hst : t.study = sid) (hwt : t.state = .waiting) :
    ∃ l, (QueueIR.step pop sys (.beginPop w sid)).workers[w]? = some (.scanning l) ∧ tid ∈ l := by
  rw [step_eq, step_beginPop_idle sys w sid hw]
  exact ⟨waitingIds sys.spec sid, by simp [updAt_self _ _ _ _ hw, hs], C04.list_complete sys.spec sid tid t ht hst hwt⟩

/-- a worker that found the queue empty: the second worker of `demo0` after the first took both trials -/
example : (QueueIR.run pop C04.demo0 [.beginPop 0 0, .tryNext 0, .reset 0, .beginPop 0 0, .tryNext 0, .beginPop 1 0,
    .tryNext 1]).workers[1]? = some .empty := by decide

end OptunaVerif.C04Gen
