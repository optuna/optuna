import OptunaVerif.Generated.ProjGen
import OptunaVerif.Props.C10
/-!
# C10 (translator tie T-proj) — the sampler projections *as written in the source today* are the hand models

`Generated/ProjGen.lean` is regenerated on every run by `verif/translators/tproj.py` from
`optuna/samplers/_tpe/parzen_estimator.py`, `probability_distributions.py`, `sampler.py`, `optuna/_gp/search_space.py`,
`optuna/samplers/_qmc.py`, `_random.py`, as DATA of the IR of `Model/ProjIR.lean`.  Proved here for ALL inputs (every
distribution, every raw number, every kernel, every monotone pair `lg/ex`): one equality per generated formula
(`gen_*_eq`; `gen_shapes` for the hand-off call shapes of TPE `_sample`, GP, QMC, Random), then the projection theorems
of `Props/C10.lean` restated for the evaluator of the generated formulas and, with no counterpart there,
`gen_gp_snap_on_grid` (about the hand model `gpSnap`) / `gen_gp_round_on_grid` for `round_one_normalized_param`.

A source change that drops the clip, rounds `x / step` instead of `(x - low) / step`, rounds half away from zero, clips
before rounding, compares the cumulative weights with `<=`, drops the half-step widening … changes the generated data and
the named equality no longer type-checks (or, outside the whitelist, the translator stops).
-/
namespace OptunaVerif.C10ProjGen
open OptunaVerif.Dist OptunaVerif.Suggest OptunaVerif.ProjIR
open OptunaVerif.Generated.ProjGen

def E0 : Env := ⟨id, id, fun h => h - 1⟩

/-- the value `res[param]` of `_ParzenEstimator._untransform`: `np.exp` of a log parameter -/
def tpeRes (E : Env) (d : Dist) (x : Rat) : Rat := if d.isLog then E.ex x else x

theorem gen_tpe_transform_eq (E : Env) (d : Dist) (x : Rat) :
    tpeTransform.eval E noCall (ctxD d x) = Dist.tnum E ⟨true, true, false⟩ d x := by
  cases d with
  | flt c l h lg st => cases lg <;> simp [tpeTransform, X.eval, G.eval, ctxD, Ctx.get, Dist.tnum, Dist.isLog]
  | int c l h lg st => cases lg <;> simp [tpeTransform, X.eval, G.eval, ctxD, Ctx.get, Dist.tnum, Dist.isLog]
  | cat cs => simp [tpeTransform, X.eval, G.eval, ctxD, Ctx.get, Dist.tnum, Dist.isLog]

theorem gen_tpe_untransform_eq (E : Env) (d : Dist) (x : Rat) :
    tpeUntransform.eval E noCall (ctxD d x) =
      match d with
      | .int _ low high _ step => tpeDisc (low : Rat) (high : Rat) (step : Rat) (tpeRes E d x)
      | _ => tpeRes E d x := by
  cases d with
  | flt c l h lg st => cases lg <;> simp [tpeUntransform, X.eval, G.eval, ctxD, Ctx.get, tpeRes, Dist.isLog]
  | int c l h lg st => cases lg <;> simp [tpeUntransform, X.eval, G.eval, ctxD, Ctx.get, tpeRes, Dist.isLog, tpeDisc]
  | cat cs => simp [tpeUntransform, X.eval, G.eval, ctxD, Ctx.get, tpeRes, Dist.isLog]

/-- `to_external_repr` of an int parameter applied to what `_untransform` returns is the hand model `tpeInt` -/
theorem gen_tpe_int_eq (E : Env) (c : ICls) (low high : Int) (log : Bool) (step : Int) (x : Rat) :
    truncI (tpeUntransform.eval E noCall (ctxD (.int c low high log step) x)) =
      tpeInt low high step (tpeRes E (.int c low high log step) x) := by
  rw [gen_tpe_untransform_eq]; rfl

/-- the continuous arm of `_MixtureOfProductDistribution.sample`: `np.clip(samples, d.low, d.high)` (fix 56cb744, F33) -/
theorem gen_mix_cont_eq (E : Env) (low high step mu sigma x : Rat) :
    mixCont.eval E noCall (ctxM low high step mu sigma x) = tpeCont low high x := by
  simp [mixCont, X.eval, ctxM, Ctx.get, tpeCont]

/-- the discrete arm: `np.clip(d.low + np.round((samples - d.low) / d.step) * d.step, d.low, d.high)` -/
theorem gen_mix_disc_eq (E : Env) (low high step mu sigma x : Rat) :
    mixDisc.eval E noCall (ctxM low high step mu sigma x) = tpeDisc low high step x := by
  simp [mixDisc, X.eval, ctxM, Ctx.get, tpeDisc]

/-- the truncation bounds handed to `_truncnorm.rvs`: `[low, high]` resp. `[low - step/2, high + step/2]`, standardised -/
theorem gen_mix_bounds_eq (E : Env) (low high step mu sigma x : Rat) :
    mixContA.eval E noCall (ctxM low high step mu sigma x) = (low - mu) / sigma ∧
    mixContB.eval E noCall (ctxM low high step mu sigma x) = (high - mu) / sigma ∧
    mixDiscA.eval E noCall (ctxM low high step mu sigma x) = (low - step / 2 - mu) / sigma ∧
    mixDiscB.eval E noCall (ctxM low high step mu sigma x) = (high + step / 2 - mu) / sigma := by
  simp [mixContA, mixContB, mixDiscA, mixDiscB, X.eval, ctxM, Ctx.get]

/-- the categorical arm: the last cumulative weight is forced to 1, the index is the number of cumulative weights
strictly below the quantile -/
theorem gen_mix_cat_eq (cum : List Rat) (q : Rat) : mixCat.eval cum q = catCum (setLast cum 1) q := by
  simp [mixCat, CatIR.eval, catCum]

/-- `_calculate_distributions` (numerical arm): `np.log` of the bounds of a log parameter, widened by half a step first
for a log int; `step = None` afterwards exactly for log parameters and step-less floats -/
theorem gen_calc_eq (E : Env) (d : Dist) (x : Rat) :
    calcLow.eval E noCall (ctxD d x) =
      (match d with
       | .int _ low _ true step => E.lg ((low : Rat) - (step : Rat) / 2)
       | .flt _ low _ true _ => E.lg (low - (match d with | .flt _ _ _ _ (some s) => s / 2 | _ => 0))
       | .int _ low _ false _ => (low : Rat)
       | .flt _ low _ false _ => low
       | .cat _ => 0) ∧
    calcHigh.eval E noCall (ctxD d x) =
      (match d with
       | .int _ _ high true step => E.lg ((high : Rat) + (step : Rat) / 2)
       | .flt _ _ high true _ => E.lg (high + (match d with | .flt _ _ _ _ (some s) => s / 2 | _ => 0))
       | .int _ _ high false _ => (high : Rat)
       | .flt _ _ high false _ => high
       | .cat _ => 0) ∧
    calcStepNone.eval E noCall (ctxD d x) =
      (match d with
       | .int _ _ _ log _ => log
       | .flt _ _ _ log st => log || st.isNone
       | .cat _ => true) := by
  cases d with
  | flt c l h lg st =>
    cases lg <;> cases st <;> simp [calcLow, calcHigh, calcStepNone, X.eval, G.eval, ctxD, Ctx.get]
  | int c l h lg st => cases lg <;> simp [calcLow, calcHigh, calcStepNone, X.eval, G.eval, ctxD, Ctx.get]
  | cat cs => simp [calcLow, calcHigh, calcStepNone, X.eval, G.eval, ctxD, Ctx.get]

/-- `_calculate_numerical_distributions`: the outermost kernel endpoints are `low - step_or_0/2`, `high + step_or_0/2`
and the discrete distribution is built exactly when a step is left -/
theorem gen_num_eq (E : Env) (low high step mu sigma x : Rat) (sn : Bool) :
    numEndLo.eval E noCall { ctxM low high step mu sigma x with stepNone := sn } = low - (if sn then 0 else step) / 2 ∧
    numEndHi.eval E noCall { ctxM low high step mu sigma x with stepNone := sn } = high + (if sn then 0 else step) / 2 ∧
    numContG = G.stepNone := by
  cases sn <;> simp [numEndLo, numEndHi, numContG, X.eval, G.eval, ctxM, Ctx.get]

theorem callf_un (E : Env) (ρ : ProjIR.Ctx) : gp.callf E .un ρ = gpUnnorm E ρ.st ρ.b0 ρ.b1 ρ.step ρ.x := by
  show gpUnnormalize.eval E noCall ρ = _
  cases hst : ρ.st <;> simp [gpUnnormalize, X.eval, G.eval, Ctx.get, gpUnnorm, gpLo, gpHi, hst]

theorem callf_no (E : Env) (ρ : ProjIR.Ctx) : gp.callf E .no ρ = gpNorm E ρ.st ρ.b0 ρ.b1 ρ.step ρ.x := by
  show gpNormalize.eval E noCall ρ = _
  cases hst : ρ.st <;> simp [gpNormalize, X.eval, G.eval, Ctx.get, gpNorm, gpLo, gpHi, hst]

theorem gen_gp_unnormalize_eq (E : Env) (st : ST) (b0 b1 step x : Rat) :
    gpUnnormalize.eval E noCall (ctxG st b0 b1 step x) = gpUnnorm E st b0 b1 step x :=
  callf_un E (ctxG st b0 b1 step x)

theorem gen_gp_normalize_eq (E : Env) (st : ST) (b0 b1 step v : Rat) :
    gpNormalize.eval E noCall (ctxG st b0 b1 step v) = gpNorm E st b0 b1 step v :=
  callf_no E (ctxG st b0 b1 step v)

/-- `round_one_normalized_param` as written today: identity for `step == 0`, else unnormalise, snap to the grid
`(u - b0 + step/2) // step * step + b0`, CLIP to the bounds, normalise again -/
theorem gen_gp_round_eq (E : Env) (st : ST) (b0 b1 step x : Rat) :
    gpRound.eval E (gp.callf E) (ctxG st b0 b1 step x) = gpRoundNorm E st b0 b1 step x := by
  by_cases hs : step = 0
  · simp [gpRound, X.eval, G.eval, ctxG, Ctx.get, gpRoundNorm, hs]
  · simp [gpRound, X.eval, G.eval, STX.eval, ctxG, Ctx.get, gpRoundNorm, hs, callf_un, callf_no, gpSnap]

/-- `get_unnormalized_param`, numerical arm: `float(np.clip(unnormalize_one_param(x, LOG if d.log else LINEAR,
(d.low, d.high), 0.0 if d.step is None else d.step), d.low, d.high))`, then `round(·)` for an int parameter -/
theorem gen_gp_get_eq (E : Env) (d : Dist) (x : Rat) :
    gpGet.eval E (gp.callf E) (ctxD d x) =
      match d with
      | .int _ low high _ step => (gpInt low high (gpUnnorm E (stOf d) (low : Rat) (high : Rat) (step : Rat) x) : Rat)
      | .flt _ low high _ step => gpNum low high (gpUnnorm E (stOf d) low high (step.getD 0) x)
      | .cat _ => gpNum 0 0 (gpUnnorm E .linear 0 0 0 x) := by
  cases d with
  | flt c l h lg st =>
    cases lg <;> cases st <;>
      simp [gpGet, X.eval, G.eval, STX.eval, ctxD, Ctx.get, callf_un, gpNum, stOf, Dist.isLog]
  | int c l h lg st =>
    cases lg <;> simp [gpGet, X.eval, G.eval, STX.eval, ctxD, Ctx.get, callf_un, gpInt, stOf, Dist.isLog]
  | cat cs => simp [gpGet, X.eval, G.eval, STX.eval, ctxD, Ctx.get, callf_un, gpNum]

/-- `sample_normalized_params`, categorical arm: `np.floor(x * bounds[i, 1])` with `bounds[i, 1] = len(choices)` -/
theorem gen_gp_sample_cat_eq (E : Env) (n : Nat) (q : Rat) :
    gpSampleCat.eval E noCall (ctxG .cat 0 (n : Rat) 1 q) = (catFloor n q : Rat) := by
  simp [gpSampleCat, X.eval, ctxG, Ctx.get, catFloor]

theorem gen_gp_sample_round_guard : gpSampleRoundG = G.not (G.eq (.var .step) (.num 0)) := rfl

/-- the call shapes of the hand-offs that are pinned as text -/
theorem gen_shapes :
    shapes = [
      ("gp_get_cat_arm", "ret[param] = distribution.to_external_repr(normalized_param[i])"),
      ("gp_sample_round_call", "param_values[:, i] = round_one_normalized_param(param_values[:, i], scale_types[i], (bounds[i, 0], bounds[i, 1]), steps[i])"),
      ("qmc_handoff", "trans = _SearchSpaceTransform(search_space) ; sample = trans.bounds[:, 0] + sample * (trans.bounds[:, 1] - trans.bounds[:, 0]) ; return trans.untransform(sample[0, :])"),
      ("random_handoff", "trans = _SearchSpaceTransform(search_space) ; trans_params = self._rng.rng.uniform(trans.bounds[:, 0], trans.bounds[:, 1]) ; return trans.untransform(trans_params)[param_name]"),
      ("tpe_sample_handoff", "for param_name, dist in search_space.items(): ;     ret[param_name] = dist.to_external_repr(ret[param_name])"),
      ("tpe_sample_source", "samples_below = mpe_below.sample(self._rng.rng, self._n_ei_candidates)")] := by
  rfl

/-- **gen_tpe_disc_in_domain** — TPE, stepped float: whatever `_truncnorm.rvs` returns (any `s`, any kernel), the
discretisation as written today yields a grid point of the domain. -/
theorem gen_tpe_disc_in_domain (E : Env) (c : FCls) (low high step : Rat) (h : WF (.flt c low high false (some step)))
    (mu sigma s : Rat) :
    Member (.flt c low high false (some step)) (.flt (mixDisc.eval E noCall (ctxM low high step mu sigma s))) := by
  rw [gen_mix_disc_eq]; exact C10.tpe_disc_in_domain c low high step h s

-- non-vacuity: a raw draw far above `high` is pulled onto the last grid point
example : mixDisc.eval E0 noCall (ctxM 0 1 (1/4) 0 1 7) = 1 ∧ mixDisc.eval E0 noCall (ctxM 0 1 (1/4) 0 1 (3/8)) = 1/2 := by
  decide +kernel

/-- **gen_tpe_cont_in_domain** — TPE, continuous float (the clip added by fix 56cb744 / finding F33): EVERY raw draw,
also one that the rescaling pushed above `high` or below `low`, comes out inside `[low, high]`. -/
theorem gen_tpe_cont_in_domain (E : Env) (c : FCls) (low high : Rat) (h : WF (.flt c low high false none))
    (step mu sigma s : Rat) :
    Member (.flt c low high false none) (.flt (mixCont.eval E noCall (ctxM low high step mu sigma s))) := by
  rw [gen_mix_cont_eq]; exact C10.tpe_cont_in_domain c low high h s

-- non-vacuity (the F33 boundary): a draw one ulp-like step below `low` / above `high` is clipped
example : mixCont.eval E0 noCall (ctxM (123456/1000) (1123456/1000) 0 0 1 (123455/1000)) = 123456/1000 ∧
    mixCont.eval E0 noCall (ctxM (-1) 999 0 0 1 (-10000000000002274/10000000000000000)) = -1 ∧
    mixCont.eval E0 noCall (ctxM (-1) 999 0 0 1 1000) = 999 := by decide +kernel

/-- **gen_tpe_int_in_domain** — TPE, int parameter (log or not, any step): `_untransform` followed by
`to_external_repr` maps EVERY raw number to an `int` of the domain, on the step grid counted from `low`. -/
theorem gen_tpe_int_in_domain (E : Env) (c : ICls) (low high : Int) (log : Bool) (step : Int)
    (h : WF (.int c low high log step)) (x : Rat) :
    Member (.int c low high log step)
      (.int (truncI (tpeUntransform.eval E noCall (ctxD (.int c low high log step) x)))) := by
  rw [gen_tpe_int_eq]; exact C10.tpe_int_in_domain c low high log step h _

-- non-vacuity (seeded change C10-4): step 5, `low = -1220944962` is not a multiple of the step; the grid is counted from `low`
example : truncI (tpeUntransform.eval E0 noCall (ctxD (.int .int (-1220944962) (-1220944887) false 5) (-1220944962))) = -1220944962 ∧
    truncI (tpeUntransform.eval E0 noCall (ctxD (.int .int (-1220944962) (-1220944887) false 5) (-1220944959))) = -1220944957 ∧
    truncI (tpeUntransform.eval E0 noCall (ctxD (.int .int 1 9 false 4) 1000)) = 9 := by decide +kernel
example : WF (.int .int (-1220944962) (-1220944887) false 5) := by simp [WF, IClsOK]

/-- **gen_gp_in_domain** — GP, `get_unnormalized_param`, int parameter: for EVERY normalised number the value is an
integer in `[low, high]`, hence a member of the step-1 distribution on those bounds (the premise `step = 1` of the last
conjunct is not used).  For a float parameter the value is inside `[low, high]`: `gen_gp_num_in_range`. -/
theorem gen_gp_in_domain (E : Env) (c : ICls) (low high : Int) (log : Bool) (step : Int) (hl : low ≤ high) (x : Rat) :
    ∃ i : Int, gpGet.eval E (gp.callf E) (ctxD (.int c low high log step) x) = (i : Rat) ∧ low ≤ i ∧ i ≤ high ∧
      (WF (.int c low high log 1) → step = 1 → Member (.int c low high log 1) (.int i)) := by
  rw [gen_gp_get_eq]
  obtain ⟨h1, h2, h3⟩ := C10.gp_in_domain low high hl (gpUnnorm E (stOf (.int c low high log step)) low high step x)
  exact ⟨_, rfl, h1, h2, fun hwf _ => h3 c log hwf⟩

theorem gen_gp_num_in_range (E : Env) (c : FCls) (low high : Rat) (log : Bool) (step : Option Rat) (hl : low ≤ high) (x : Rat) :
    low ≤ gpGet.eval E (gp.callf E) (ctxD (.flt c low high log step) x) ∧
      gpGet.eval E (gp.callf E) (ctxD (.flt c low high log step) x) ≤ high := by
  rw [gen_gp_get_eq]; exact C10.gp_num_in_range low high hl _

example : gpGet.eval E0 (gp.callf E0) (ctxD (.int .int 0 10 false 1) 2) = 10 ∧
    gpGet.eval E0 (gp.callf E0) (ctxD (.int .int 0 10 false 1) (1/2)) = 5 ∧
    gpGet.eval E0 (gp.callf E0) (ctxD (.flt .float 0 1 false none) (-3)) = 0 := by decide +kernel

/-- **gen_gp_keeps_grid_points** — a normalised number that unnormalises to a grid point comes back as that grid point. -/
theorem gen_gp_keeps_grid_points (E : Env) (c : ICls) (low high step k : Int) (log : Bool) (x : Rat)
    (h1 : low ≤ k * step + low) (h2 : k * step + low ≤ high)
    (hx : gpUnnorm E (stOf (.int c low high log step)) low high step x = ((k * step + low : Int) : Rat)) :
    gpGet.eval E (gp.callf E) (ctxD (.int c low high log step) x) = ((k * step + low : Int) : Rat) := by
  rw [gen_gp_get_eq]
  simp only [hx]
  exact_mod_cast (C10.gp_keeps_grid_points low high step k h1 h2).1

theorem setLast_spec (cum : List Rat) (hne : cum ≠ []) (v : Rat) :
    ∃ hne' : setLast cum v ≠ [], (setLast cum v).getLast hne' = v ∧ (setLast cum v).length = cum.length := by
  cases cum with
  | nil => exact absurd rfl hne
  | cons a t =>
    refine ⟨by simp [setLast], by simp [setLast], ?_⟩
    simp [setLast]

theorem catCum_setLast_lt (cum : List Rat) (q : Rat) (hne : cum ≠ []) (hq : q ≤ 1) :
    catCum (setLast cum 1) q < cum.length := by
  obtain ⟨hne', hlast, hlen⟩ := setLast_spec cum hne 1
  rw [← hlen]
  exact C10.categorical_index_in_domain.1 _ q hne' hlast hq

/-- **gen_categorical_index_in_domain** — TPE: because the last cumulative weight is forced to 1, the index is valid for
EVERY weight matrix row and every quantile `q ≤ 1`; GP: `floor(q · n)` is valid for every `0 ≤ q < 1`. -/
theorem gen_categorical_index_in_domain :
    (∀ (cum : List Rat) (q : Rat), cum ≠ [] → q ≤ 1 → mixCat.eval cum q < cum.length) ∧
    (∀ (E : Env) (n : Nat) (q : Rat), 0 ≤ q → q < 1 →
      ∃ i : Int, gpSampleCat.eval E noCall (ctxG .cat 0 (n : Rat) 1 q) = (i : Rat) ∧ 0 ≤ i ∧ (n = 0 ∨ i < (n : Int))) := by
  constructor
  · intro cum q hne hq
    rw [gen_mix_cat_eq]
    exact catCum_setLast_lt cum q hne hq
  · intro E n q h0 h1
    rw [gen_gp_sample_cat_eq]
    obtain ⟨h2, h3⟩ := C10.categorical_index_in_domain.2.1 n q h0 h1
    exact ⟨_, rfl, h2, h3⟩

-- non-vacuity: rounding noise in the cumulative weights (last one 0.99…) and q = 1 - ε: the last index, not one past it
example : mixCat.eval [1/4, 1/2, 9999/10000] (99999/100000) = 2 ∧ mixCat.eval [1/4, 1/2, 1] (1/4) = 0 := by decide +kernel

/-- the grid point `round_one_normalized_param` snaps to lies inside the bounds, on the grid counted from `bounds[0]` — a
fact of the hand model `gpSnap`; the generated formula comes in with `gen_gp_round_on_grid` -/
theorem gen_gp_snap_on_grid (b0 b1 step : Rat) (K : Int) (hs : 0 < step) (hK0 : 0 ≤ K) (hK : b1 - b0 = (K : Rat) * step) (u : Rat) :
    ∃ k : Int, 0 ≤ k ∧ k ≤ K ∧ gpSnap b0 b1 step u = (k : Rat) * step + b0 :=
  clip_grid b0 b1 step K hs hK0 hK _

/-- **gen_gp_round_on_grid** — `round_one_normalized_param` as written today returns the normalisation of a grid point
inside the bounds (for EVERY normalised input) -/
theorem gen_gp_round_on_grid (E : Env) (st : ST) (b0 b1 step : Rat) (K : Int) (hs : 0 < step) (hK0 : 0 ≤ K)
    (hK : b1 - b0 = (K : Rat) * step) (x : Rat) :
    ∃ k : Int, 0 ≤ k ∧ k ≤ K ∧
      gpRound.eval E (gp.callf E) (ctxG st b0 b1 step x) = gpNorm E st b0 b1 step ((k : Rat) * step + b0) := by
  rw [gen_gp_round_eq]
  obtain ⟨k, h0, h1, hk⟩ := gen_gp_snap_on_grid b0 b1 step K hs hK0 hK (gpUnnorm E st b0 b1 step x)
  exact ⟨k, h0, h1, by simp [gpRoundNorm, ne_of_gt hs, hk]⟩

example : gpRound.eval E0 (gp.callf E0) (ctxG .linear 0 10 2 (9/10)) = gpNorm E0 .linear 0 10 2 10 ∧
    gpRound.eval E0 (gp.callf E0) (ctxG .linear 0 10 2 2) = gpNorm E0 .linear 0 10 2 10 := by decide +kernel

/-- **gen_projection_in_domain** — membership for the evaluator of the generated formulas: TPE's stepped float, TPE's
continuous float, TPE's int and GP's step-1 int, each for every raw number (cf. `C10.projection_in_domain`, which has
no conjunct for the continuous float) -/
theorem gen_projection_in_domain (E : Env) :
    (∀ cl low high step (_ : WF (.flt cl low high false (some step))) (mu sigma s : Rat),
        Member (.flt cl low high false (some step)) (.flt (mixDisc.eval E noCall (ctxM low high step mu sigma s)))) ∧
    (∀ cl low high (_ : WF (.flt cl low high false none)) (step mu sigma s : Rat),
        Member (.flt cl low high false none) (.flt (mixCont.eval E noCall (ctxM low high step mu sigma s)))) ∧
    (∀ cl low high log step (_ : WF (.int cl low high log step)) (x : Rat),
        Member (.int cl low high log step) (.int (truncI (tpeUntransform.eval E noCall (ctxD (.int cl low high log step) x))))) ∧
    (∀ cl low high log (_ : WF (.int cl low high log 1)) (x : Rat),
        ∃ i : Int, gpGet.eval E (gp.callf E) (ctxD (.int cl low high log 1) x) = (i : Rat) ∧ Member (.int cl low high log 1) (.int i)) := by
  refine ⟨fun cl low high step h mu sigma s => gen_tpe_disc_in_domain E cl low high step h mu sigma s,
    fun cl low high h step mu sigma s => gen_tpe_cont_in_domain E cl low high h step mu sigma s,
    fun cl low high log step h x => gen_tpe_int_in_domain E cl low high log step h x, ?_⟩
  intro cl low high log h x
  obtain ⟨i, hi, _, _, hm⟩ := gen_gp_in_domain E cl low high log 1 h.1 x
  exact ⟨i, hi, hm h rfl⟩

end OptunaVerif.C10ProjGen
