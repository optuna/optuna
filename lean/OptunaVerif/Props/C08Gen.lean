import OptunaVerif.Generated.CacheMethods
import OptunaVerif.Lemmas.CacheIR
import OptunaVerif.Props.C08
/-!
# C08 (translator tie) — the two client-side trial caches *as written in the source today* are the hand model

`Generated/CacheMethods.lean` is regenerated on every run by `verif/translators/tcache.py` from
`optuna/storages/_cached_storage.py` (every method of `_CachedStorage`), `optuna/storages/_rdb/storage.py`
(`RDBStorage._get_trials`), `optuna/storages/_grpc/client.py` (`GrpcClientCache`, three methods of `GrpcStorageProxy`) and
`optuna/storages/_grpc/servicer.py` (`GetTrials`), as data of the statement language of `Model/CacheIR.lean`.

Proved here, for **all** backend states, cache states and arguments (no bound, no sampling):
* per method that the storage contract has (an `Op`; the bodies of `record_heartbeat`, `_get_stale_trial_ids`,
  `get_heartbeat_interval` and `get_failed_trial_callback` are generated too and occur in no theorem), the interpreter of
  the generated body equals the hand model (`interp_*`): the branches of
  `Cache.callCached` (memo of name / directions / number→id, `create_new_trial` with the unfinished-set bookkeeping and
  the untouched watermark — finding F6 —, `_get_cached_trial`, `delete_study`'s memo cleanup, `get_all_trials` =
  `Client.sync` + `Entry.readAll`, every pass-through), `Cache.rdbFilter` / `fetchRdb` (whichever of the three queries,
  also through the `OperationalError` fallback), `Cache.servicerFilter`, `Cache.Proxy.getAll`, `Cache.callProxy`;
* hence the composition in which every callee is the interpreter of its own generated body (`CacheIR.Program.callCached`,
  `callProxy`, `sysCall` of `CacheMethods.program`) equals the hand model (`gen_*_eq`);
* therefore the theorems of `Props/C08.lean` hold of the interpreter of the generated code (`gen_*`).
-/
namespace OptunaVerif.C08Gen
open OptunaVerif.Storage OptunaVerif.Cache OptunaVerif.CacheIR OptunaVerif.C08
open OptunaVerif.Generated

abbrev G : Program := CacheMethods.program

/-- (for the examples) the backend's fetch as generated -/
abbrev handFetch' : Fetch := rdbFetch CacheMethods.rdbGetTrials false

theorem interp_createNewStudy (fetch : Fetch) (s : Spec) (c : Client) (name : String) (dirs : List Nat) :
    interpCached CacheMethods.createNewStudy fetch s c (.createStudy name dirs) =
      some (callCached s c (.createStudy name dirs)) := by
  have hm : backendMatches .createNewStudy (.createStudy name dirs) = true := rfl
  have hstep : step s (.createStudy name dirs) = if s.nameTaken name then (s, .err .duplicated) else
      ({ s with studies := s.studies ++ [some (StudyS.mk name dirs [] [] [])] }, .newId s.studies.length) := rfl
  unfold callCached
  -- the body is opened definitionally, the machine's table with it (`simp [cachedM]` would rewrite inside every arm of the
  -- table, and building the run by rewriting costs a congruence proof under every `match` that is still stuck)
  dsimp only [CacheMethods.createNewStudy, interpCached, block, exec, cachedM]
  cases h : s.nameTaken name <;> simp [cache_ir, hm, hstep, h, initLocals]
example : (interpCached CacheMethods.createNewStudy handFetch' Storage.init Client.init (.createStudy "s" [1])).map (fun r => (r.2.1.studies.length, r.2.2)) =
    some (1, .newId 0) := by decide

theorem interp_getStudyNameFromId (fetch : Fetch) (s : Spec) (c : Client) (sid : Nat) :
    interpCached CacheMethods.getStudyNameFromId fetch s c (.getStudyNameFromId sid) =
      some (callCached s c (.getStudyNameFromId sid)) := by
  have hm : backendMatches .getStudyNameFromId (.getStudyNameFromId sid) = true := rfl
  have hl : initLocals (.getStudyNameFromId sid) = { sid := some sid } := rfl
  have hstep : step s (.getStudyNameFromId sid) = match s.study? sid with
    | none => (s, .err .keyError)
    | some st => (s, .str st.name) := rfl
  unfold callCached
  dsimp only [CacheMethods.getStudyNameFromId, interpCached, block, exec, evalCond, cachedM]
  cases hs : s.study? sid <;> cases hf : find c.studies sid with
  | none => simp [cache_ir, hm, hl, hstep, hs, hf, upsert, entryD, find_insert_same, insert_insert]
  | some e => cases hn : e.name <;> simp [cache_ir, hm, hl, hstep, hs, hf, hn, upsert, entryD]

theorem interp_getStudyDirections (fetch : Fetch) (s : Spec) (c : Client) (sid : Nat) :
    interpCached CacheMethods.getStudyDirections fetch s c (.getStudyDirections sid) =
      some (callCached s c (.getStudyDirections sid)) := by
  have hm : backendMatches .getStudyDirections (.getStudyDirections sid) = true := rfl
  have hl : initLocals (.getStudyDirections sid) = { sid := some sid } := rfl
  have hstep : step s (.getStudyDirections sid) = match s.study? sid with
    | none => (s, .err .keyError)
    | some st => (s, .nats st.directions) := rfl
  unfold callCached
  dsimp only [CacheMethods.getStudyDirections, interpCached, block, exec, evalCond, cachedM]
  cases hs : s.study? sid <;> cases hf : find c.studies sid with
  | none => simp [cache_ir, hm, hl, hstep, hs, hf, upsert, entryD, find_insert_same, insert_insert]
  | some e => cases hn : e.directions <;> simp [cache_ir, hm, hl, hstep, hs, hf, hn, upsert, entryD]

/-- `if study_id not in self._studies: self._studies[study_id] = _StudyInfo()` (in both caches) -/
def ensureS : Stmt := .ite (.not (.prim .studyIdInStudies)) (.act .initStudyInfo) .skip

theorem exec_ensure (op : Op) (fetch : Fetch) (sid : Nat) (x : CSt) (hsid : x.l.sid = some sid) :
    exec (cachedM op fetch) ensureS none x = ({ x with c := { x.c with studies := upsert x.c.studies sid id } }, .next) := by
  cases hf : find x.c.studies sid with
  | none => simp [ensureS, cache_ir, hsid, hf, upsert, entryD]
  | some e => simp [ensureS, cache_ir, hsid, hf, upsert, entryD, insert_self _ _ _ hf]

/-- the loop body of `_add_trials_to_cache` -/
def addBody : Stmt := block [.act .setId2sn, .act .setSn2id, .act .setEntryTrial]

theorem add_loop (op : Op) (fetch : Fetch) (sid : Nat) (l : List (Nat × TrialS)) (x : CSt)
    (hsid : x.l.sid = some sid) (hst : x.l.study = .stored sid) (hex : ∃ e0, find x.c.studies sid = some e0) :
    ∃ l', forLoop (exec (cachedM op fetch) addBody none) ((cachedM op fetch).bind .trials) (l.map Sum.inr) x =
        ({ x with c := l.foldl (Client.addOne sid) x.c, l := l' }, .next) := by
  induction l generalizing x with
  | nil => exact ⟨x.l, rfl⟩
  | cons p t ih =>
    obtain ⟨e0, he0⟩ := hex
    have hstep : exec (cachedM op fetch) addBody none ((cachedM op fetch).bind .trials (Sum.inr p) x) =
        ({ x with c := Client.addOne sid x.c p, l := { x.l with trial := some (some p) } }, .next) := by
      dsimp only [addBody, block, exec, cachedM]
      simp only [cache_ir, hsid, hst, he0, Client.addOne]
    obtain ⟨l', h⟩ := ih { x with c := Client.addOne sid x.c p, l := { x.l with trial := some (some p) } } hsid hst
      ⟨_, find_upsert_same x.c.studies sid (fun e => e.addTrial p)⟩
    exact ⟨l', by simp only [List.map_cons, forLoop_cons, hstep, List.foldl_cons, h]⟩

theorem exec_call_add (op : Op) (fetch : Fetch) (b : Bind) (sid : Nat) (l : List (Nat × TrialS)) (x : CSt)
    (henter : (cachedM op fetch).enter b x = ({ x with l := { sid := some sid, trials := some l }, retv := none }, none))
    (hex : ∃ e0, find x.c.studies sid = some e0) :
    exec (cachedM op fetch) (.call b .drop CacheMethods.addTrialsToCache) none x =
      ({ x with c := l.foldl (Client.addOne sid) x.c }, .next) := by
  have hdef : CacheMethods.addTrialsToCache = .seq (.act .aliasStudy) (.forIn .trials addBody) := rfl
  obtain ⟨e0, he0⟩ := hex
  obtain ⟨l', h⟩ := add_loop op fetch sid l
    { x with l := { sid := some sid, study := .stored sid, trials := some l }, retv := none } rfl rfl ⟨e0, he0⟩
  simp only [cache_ir, henter, hdef, he0, h]

/-- the locked part of `create_new_trial` -/
def createLocked : Stmt := block [ensureS, .act .aliasStudy,
  .call .studyIdFrozen .drop CacheMethods.addTrialsToCache, .ite (.not (.prim .frozenFinished)) (.act .unfinishedAddTid) .skip]

theorem exec_createLocked (op : Op) (fetch : Fetch) (sid : Nat) (p : Nat × TrialS) (x : CSt) (hsid : x.l.sid = some sid)
    (hfr : x.l.frozen = some p) (htid : x.l.tid = some p.1) :
    exec (cachedM op fetch) createLocked none x =
      ({ x with c := x.c.noteCreated sid p, l := { x.l with study := .stored sid } }, .next) := by
  obtain ⟨e0, he0⟩ : ∃ e0, find (upsert x.c.studies sid id) sid = some e0 := ⟨_, find_upsert_same _ _ _⟩
  rw [createLocked, block_cons, exec_seq, exec_ensure op fetch sid x hsid]
  simp only [block_cons, block_one, exec_seq, exec_act, cachedM_act_aliasStudy, hsid, he0, ok, setL]
  rw [exec_call_add op fetch .studyIdFrozen sid [p] _ (by simp only [cache_ir, hfr]) ⟨e0, he0⟩]
  dsimp only [exec, evalCond, cachedM]
  cases hfin : p.2.state.isFinished <;>
    simp [cache_ir, hfr, htid, hfin, Client.noteCreated, Client.addOne, find_upsert_same]

theorem interp_createNewTrial (fetch : Fetch) (s : Spec) (c : Client) (sid : Nat) (tm : Option Template) (ir : Bool) :
    interpCached CacheMethods.createNewTrial fetch s c (.createTrial sid tm ir) =
      some (callCached s c (.createTrial sid tm ir)) := by
  have hm : backendMatches .createNewTrial (.createTrial sid tm ir) = true := rfl
  have hstep : step s (.createTrial sid tm ir) = match s.study? sid with
    | none => (s, .err .keyError)
    | some st =>
      if ir && s.tmplConflict sid st tm then (s, .err .valueError) else
      ({ s with trials := s.trials ++ [mkTrial sid (s.trialsOf sid).length tm] }, .newId s.trials.length) := rfl
  have hdef : CacheMethods.createNewTrial = block [.act (.backend .createNewTrial), .act .frozenFromResult, .act .tidFromFrozen,
    .locked createLocked, .ret .trialId] := rfl
  unfold callCached
  rw [hdef]
  cases hs : s.study? sid with
  | none => simp [cache_ir, cachedM_act_backend, hm, hstep, hs]
  | some st =>
    cases hc : (ir && s.tmplConflict sid st tm)
    · simp [interpCached, block_cons, block_one, exec_seq, exec_act, cachedM_act_backend, cachedM_act_frozenFromResult,
        cachedM_act_tidFromFrozen, ok, setL, hm, hstep, hs, hc]
      rw [exec_locked, exec_createLocked _ fetch sid _ _ (by rfl) (by rfl) (by rfl)]
      simp [cache_ir]
    · simp [cache_ir, cachedM_act_backend, hm, hstep, hs, hc]
example : (interpCached CacheMethods.createNewTrial handFetch' wS1 wA0 (.createTrial 0 (some wTmpl) false)).map
    (fun r => ((entryD r.2.1.studies 0).watermark, (entryD r.2.1.studies 0).unfinished, r.2.2)) = some (-1, [], .newId 1) := by decide

theorem interp_getTrialIdFromNumber (fetch : Fetch) (s : Spec) (c : Client) (sid n : Nat) :
    interpCached CacheMethods.getTrialIdFromStudyIdTrialNumber fetch s c (.getTrialIdFromNumber sid n) =
      some (callCached s c (.getTrialIdFromNumber sid n)) := by
  have hdef : CacheMethods.getTrialIdFromStudyIdTrialNumber = block [.act .makeKey,
    .locked (.ite (.prim .keyInSn2id) (.ret .sn2idAtKey) .skip), forwardRet .getTrialIdFromStudyIdTrialNumber] := rfl
  have hl : initLocals (.getTrialIdFromNumber sid n) = { sid := some sid, num := some n } := rfl
  -- the forwarding tail is kept whole (as `F`) while the machine's table is unfolded
  have hfw := exec_forward_ret .getTrialIdFromStudyIdTrialNumber fetch (.getTrialIdFromNumber sid n) rfl
  unfold callCached
  rw [hdef]
  dsimp only [interpCached, block, exec, evalCond]
  generalize exec (cachedM (.getTrialIdFromNumber sid n) fetch) (forwardRet .getTrialIdFromStudyIdTrialNumber) none = F at hfw ⊢
  dsimp only [cachedM]
  cases hf : find c.sn2id (sid, n) <;> simp [cache_ir, hl, hf, hfw]
example : (interpCached CacheMethods.getTrialIdFromStudyIdTrialNumber handFetch' wS2 (wA0.noteCreated 0 wNew) (.getTrialIdFromNumber 0 1)).map (·.2.2) =
    some (.nat 1) := by decide

/-- `get_trial` (also behind `get_trial_number_from_id` / `get_trial_param` of BaseStorage) -/
theorem interp_getTrial_body (fetch : Fetch) (s : Spec) (c : Client) (op : Op) (tid : Nat) (hop : opTid op = some tid)
    (hm : backendMatches .getTrial op = true) :
    interpCached CacheMethods.getTrial fetch s c op =
      some (match c.serveTrial tid with
        | .hit id t => (s, c, .trial id t)
        | .crash => (s, c, .err .keyError)
        | .miss => ((step s op).1, c, (step s op).2)) := by
  have hdef : CacheMethods.getTrial = block [.locked (block [.call .trialId .trial CacheMethods.getCachedTrial,
    .ite (.not (.prim .trialIsNone)) (.ret .trial) .skip]), forwardRet .getTrial] := rfl
  have hl : (initLocals op).tid = some tid := hop
  have hfw := exec_forward_ret .getTrial fetch op hm
  unfold Client.serveTrial
  rw [hdef]
  dsimp only [interpCached, CacheMethods.getCachedTrial, block, exec, evalCond]
  generalize exec (cachedM op fetch) (forwardRet .getTrial) none = F at hfw ⊢
  dsimp only [cachedM]
  cases hf : find c.id2sn tid with
  | none => simp [cache_ir, hl, hf, hfw]
  | some sn =>
    cases hs : find c.studies sn.1 with
    | none => simp [cache_ir, hl, hf, hs]
    | some e =>
      by_cases hu : tid ∈ e.unfinished
      · simp [cache_ir, hl, hf, hs, hu, hfw]
      · cases ht : find e.trials sn.2 <;> simp [cache_ir, hl, hf, hs, hu, ht]
example : (interpCached CacheMethods.getTrial handFetch' wS3 (wA0.noteCreated 0 wNew) (.getTrial 1)).map (·.2.2) =
    some (.trial 1 (mkTrial 0 1 (some wTmpl))) := by decide

/-- the body of the loop of `delete_study` -/
def dropBody : Stmt := block [.act .lookupIdOpt, .ite (.prim .tidInId2sn) (.act .delId2sn) .skip,
  .ite (.prim .keyInSn2id) (.act .delSn2id) .skip]

theorem drop_loop (op : Op) (fetch : Fetch) (sid : Nat) (ks : List (Nat × (Nat × TrialS))) (x : CSt)
    (hsid : x.l.sid = some sid) (hkey : x.l.key = none) :
    ∃ l', forLoop (exec (cachedM op fetch) dropBody none) ((cachedM op fetch).bind .cachedNumbers)
        (ks.map (fun kv => Sum.inl kv.1)) x = ({ x with c := ks.foldl (dropStep sid) x.c, l := l' }, .next) ∧
      l'.sid = some sid := by
  induction ks generalizing x with
  | nil => exact ⟨x.l, rfl, hsid⟩
  | cons kv t ih =>
    have hstep : exec (cachedM op fetch) dropBody none ((cachedM op fetch).bind .cachedNumbers (Sum.inl kv.1) x) =
        ({ x with c := dropStep sid x.c kv, l := { x.l with num := some kv.1, tid := find x.c.sn2id (sid, kv.1) } }, .next) := by
      dsimp only [dropBody, block, exec, evalCond, cachedM]
      cases h1 : find x.c.sn2id (sid, kv.1) with
      | none => simp [cache_ir, hsid, hkey, h1, dropStep, erase_of_find_none _ _ h1]
      | some tid =>
        cases h2 : find x.c.id2sn tid with
        | none => simp [cache_ir, hsid, hkey, h1, h2, dropStep, erase_of_find_none _ _ h2]
        | some sn => simp [cache_ir, hsid, hkey, h1, h2, dropStep]
    obtain ⟨l', h, hs'⟩ := ih { x with c := dropStep sid x.c kv, l := { x.l with num := some kv.1, tid := find x.c.sn2id (sid, kv.1) } } hsid hkey
    exact ⟨l', by simp only [List.map_cons, forLoop_cons, hstep, List.foldl_cons, h], hs'⟩

theorem interp_deleteStudy (fetch : Fetch) (s : Spec) (c : Client) (sid : Nat) :
    interpCached CacheMethods.deleteStudy fetch s c (.deleteStudy sid) = some (callCached s c (.deleteStudy sid)) := by
  have hdef : CacheMethods.deleteStudy =
      .seq (.locked (.ite (.prim .studyIdInStudies) (.seq (.forIn .cachedNumbers dropBody) (.act .delStudy)) .skip))
        (.act (.backend .deleteStudy)) := rfl
  have hl : initLocals (.deleteStudy sid) = { sid := some sid } := rfl
  have hu := fun s' => step_unit_or_err s' (.deleteStudy sid) rfl
  unfold interpCached
  show _ = some ((step s (.deleteStudy sid)).1, c.dropStudy sid, (step s (.deleteStudy sid)).2)
  rw [hdef, dropStudy_eq, exec_seq, hl]
  cases hf : find c.studies sid with
  | none =>
    simp only [cache_ir, hf, Option.isSome_none]
    exact exec_forward_unit .deleteStudy _ _ rfl _ (hu _)
  | some e =>
    obtain ⟨l', hloop, hs'⟩ := drop_loop (.deleteStudy sid) fetch sid e.trials { s := s, c := c, l := { sid := some sid } } rfl rfl
    simp only [cache_ir, hf, Option.isSome_some, hloop, hs', foldl_dropStep_studies]
    exact exec_forward_unit .deleteStudy _ _ rfl _ (hu _)
example : (interpCached CacheMethods.deleteStudy handFetch' wS2 (wA0.noteCreated 0 wNew) (.deleteStudy 0)).map
    (fun r => (r.2.1.studies.length, r.2.1.id2sn.length, r.2.1.sn2id.length, r.2.2)) = some (0, 0, 0, .unit) := by decide

/-- the body of the bookkeeping loop of `_read_trials_from_remote_storage` -/
def noteBody : Stmt := block [
  .ite (.not (.prim .trialFinished)) (block [.act .unfinishedAddTrial, .cont]) .skip,
  .act .watermarkMaxTrial,
  .ite (.prim .trialInUnfinished) (.act .unfinishedRemoveTrial) .skip]

theorem note_step (op : Op) (fetch : Fetch) (sid : Nat) (p : Nat × TrialS) (x : CSt)
    (hst : x.l.study = .stored sid) (e0 : Entry) (he0 : find x.c.studies sid = some e0) :
    ∃ fl, (fl = .next ∨ fl = .cont) ∧
      exec (cachedM op fetch) noteBody none ((cachedM op fetch).bind .trials (Sum.inr p) x) =
        ({ x with c := { x.c with studies := insert x.c.studies sid (e0.noteState p) }, l := { x.l with trial := some (some p) } }, fl) := by
  dsimp only [noteBody, block, exec, evalCond, cachedM]
  cases hfin : p.2.state.isFinished with
  | false =>
    exact ⟨.cont, .inr rfl, by simp [cache_ir, hst, he0, hfin, upsert, entryD, Entry.noteState]⟩
  | true =>
    refine ⟨.next, .inl rfl, ?_⟩
    by_cases hc : p.1 ∈ e0.unfinished
    · simp [cache_ir, hst, he0, hfin, hc, upsert, entryD, Entry.noteState, find_insert_same, insert_insert]
    · simp [cache_ir, hst, he0, hfin, hc, upsert, entryD, Entry.noteState, find_insert_same,
        uremove_of_not_contains _ _ (by simpa using hc)]

theorem note_loop (op : Op) (fetch : Fetch) (sid : Nat) (l : List (Nat × TrialS)) (x : CSt)
    (hst : x.l.study = .stored sid) (e0 : Entry) (he0 : find x.c.studies sid = some e0) :
    ∃ l', forLoop (exec (cachedM op fetch) noteBody none) ((cachedM op fetch).bind .trials) (l.map Sum.inr) x =
        ({ x with c := { x.c with studies := insert x.c.studies sid (l.foldl Entry.noteState e0) }, l := l' }, .next) := by
  induction l generalizing x e0 with
  | nil => exact ⟨x.l, by simp [forLoop_nil, insert_self _ _ _ he0]⟩
  | cons p t ih =>
    obtain ⟨fl, hfl, hstep⟩ := note_step op fetch sid p x hst e0 he0
    obtain ⟨l', h⟩ := ih ({ x with c := { x.c with studies := insert x.c.studies sid (e0.noteState p) }, l := { x.l with trial := some (some p) } } : CSt) hst (e0.noteState p) (by simp [find_insert_same])
    refine ⟨l', ?_⟩
    rcases hfl with rfl | rfl <;> simp [forLoop_cons, hstep, h, insert_insert]

/-- the backend's `_get_trials` by the hand model (`fetchRdb`; a `states` argument filters on the database side) -/
def handFetch : Fetch := fun s sid st inc w =>
  some (match fetchRdb s sid inc w with
    | .ok l => .ok (l.filter (fun p => stateIn st p.2.state))
    | .error e => .error e)

theorem addOne_fold_find (sid : Nat) (l : List (Nat × TrialS)) (c : Client) (h : ∃ e, find c.studies sid = some e) :
    ∃ e, find (l.foldl (Client.addOne sid) c).studies sid = some e :=
  Option.isSome_iff_exists.1 (foldl_addOne_isSome sid l c (Option.isSome_iff_exists.2 h))

abbrev readS : Stmt := CacheMethods.readTrialsFromRemoteStorage

theorem exec_call_read (op : Op) (b : Bind) (sid : Nat) (x : CSt)
    (henter : (cachedM op handFetch).enter b x = ({ x with l := { sid := some sid }, retv := none }, none)) :
    exec (cachedM op handFetch) (.call b .drop readS) none x =
      ({ x with c := (x.c.sync x.s sid).1 },
        match (x.c.sync x.s sid).2 with
        | some err => .raised (.err err)
        | none => .next) := by
  -- the body follows `Client.sync`: `ensureS` is its `c0`, the backend call its `fetchRdb` with the entry's unfinished ids and
  -- watermark, `_add_trials_to_cache` its fold of `addOne` (`exec_call_add`), the last loop its fold of `noteState` (`note_loop`)
  have hdef : readS = .locked (block [ensureS,
      .act .aliasStudy, .act (.backendGetTrials true), .ite (.not (.prim .trialsTruthy)) (.ret .none) .skip,
      .call .studyIdTrials .drop CacheMethods.addTrialsToCache, .forIn .trials noteBody]) := rfl
  obtain ⟨e0, he0⟩ : ∃ e0, find (upsert x.c.studies sid id) sid = some e0 := ⟨_, find_upsert_same _ _ _⟩
  have hentry : entryD (upsert x.c.studies sid id) sid = e0 := by simp only [entryD, he0, Option.getD_some]
  rw [exec_call, henter]
  simp only []
  rw [hdef, exec_locked, block_cons, exec_seq, exec_ensure op handFetch sid _ rfl]
  unfold Client.sync
  simp only [hentry]
  cases hfetch : fetchRdb x.s sid e0.unfinished e0.watermark with
  | error err => simp [cache_ir, he0, handFetch, hfetch]
  | ok l =>
    have hfilt : l.filter (fun p => stateIn none p.2.state) = l := List.filter_eq_self.2 (fun _ _ => rfl)
    simp [block_cons, block_one, exec_seq, exec_act, cachedM_act_aliasStudy, cachedM_act_backendGetTrials, aliasEntry, ok,
      setL, he0, handFetch, hfetch, hfilt]
    cases l with
    -- the code returns early on an empty answer, `Client.sync` folds the empty list
    | nil =>
      simp [cache_ir, upsert_upsert]
      simp [upsert, entryD]
    | cons p t =>
      simp only [exec_ite, evalCond_not, evalCond_prim, cachedM_prim_trialsTruthy, List.isEmpty_cons, Bool.not_false,
        Bool.not_true, exec_skip]
      rw [exec_call_add op handFetch .studyIdTrials sid (p :: t) _ (by simp only [cache_ir]) ⟨e0, he0⟩]
      obtain ⟨e1, he1⟩ := addOne_fold_find sid (p :: t) { x.c with studies := upsert x.c.studies sid id } ⟨e0, he0⟩
      obtain ⟨l2, h2⟩ := note_loop op handFetch sid (p :: t)
        { s := x.s, c := (p :: t).foldl (Client.addOne sid) { x.c with studies := upsert x.c.studies sid id },
          l := { sid := some sid, study := .stored sid, trials := some (p :: t) }, retv := none } rfl e1 he1
      dsimp only at h2 he1
      simp only [exec_forIn, cachedM_items_trials, h2, cachedM_leave_drop, upsert_of_find _ _ _ _ he1]

theorem readAll_eq (e : Entry) (states : Option (List TState)) :
    Cache.sortByNumber ((match states with
      | some sts => e.trials.filter (fun (kv : Nat × (Nat × TrialS)) => sts.contains kv.2.2.state)
      | none => e.trials).map (fun (kv : Nat × (Nat × TrialS)) => kv.2)) = e.readAll states := by
  cases states with
  | none =>
    simp only [Entry.readAll, stateIn]
    rw [List.filter_eq_self.2 (fun _ _ => rfl)]
  | some sts => simp [Entry.readAll, stateIn, List.filter_map, Function.comp_def]

/-- `get_all_trials` (also behind `get_n_trials` of BaseStorage) -/
theorem interp_getAllTrials_body (s : Spec) (c : Client) (op : Op) (sid : Nat) (states : Option (List TState))
    (hsid : opSid op = some sid) (hstates : opStates op = states) :
    interpCached CacheMethods.getAllTrials handFetch s c op =
      some (match c.sync s sid with
        | (c', some e) => (s, c', .err e)
        | (c', none) => (s, c', .trials ((entryD c'.studies sid).readAll states))) := by
  have hdef : CacheMethods.getAllTrials = .seq (.call .studyId .drop readS)
      (.locked (block [.act .aliasStudy, .ite (.not (.prim .statesIsNone)) (.act .selectByStates) (.act .selectAll),
        .act .sortByNumber, .ite (.prim .deepcopy) (.ret .trials) (.ret .trials)])) := rfl
  have hsid' : (initLocals op).sid = some sid := hsid
  have hst' : (initLocals op).states = states := hstates
  unfold interpCached
  rw [hdef, exec_seq, exec_call_read op .studyId sid _ (by simp only [cache_ir, hsid'])]
  have hent := sync_ok_entry s c sid
  cases hs : c.sync s sid with
  | mk c' r =>
    rw [hs] at hent
    cases r with
    | some e => simp only [cache_ir]
    | none =>
      obtain ⟨e', he'⟩ := hent rfl
      dsimp only at he' ⊢
      rw [← readAll_eq]
      dsimp only [block, exec, evalCond, cachedM]
      cases states <;> simp [cache_ir, hsid', hst', he', entryD]

/-- the query of `_get_trials` and its fallback -/
def rdbQuery : Stmt := .tryExcept (block [
    .ite (.and (.prim .includedNonEmpty) (.prim .greaterThanSet)) (.act .queryInOrGreater)
      (.ite (.prim .greaterThanSet) (.act .queryGreater) (.act .queryAll)),
    .act .runQuery]) (.onExc [.operationalError] (block [.act .logWarning, .act .runBaseQuery, .act .pyFilter]) .reraise) .skip

/-- what `rdbFilter` selects once the included ids are cut down to those at or below the watermark -/
def pick (inc : List Nat) (w : Int) (l : List (Nat × TrialS)) : List (Nat × TrialS) :=
  if inc.length > 0 ∧ w > -1 then l.filter (fun p => inc.contains p.1 || decide ((p.1 : Int) > w))
  else if w > -1 then l.filter (fun p => decide ((p.1 : Int) > w))
  else l

/-- Whichever of the three queries is built, and whether or not the database refuses the one with the `IN (…)` list (only
that one can be refused; the fallback then filters the unrestricted rows in Python), `trial_models` is what `pick` selects. -/
theorem exec_rdbQuery (ex tooMany : Bool) (x : RdbSt) (q : List (Nat × TrialS) → List (Nat × TrialS)) (hq : x.query = some q) :
    exec (rdbM ex tooMany) rdbQuery none x =
      ({ x with query2 := some (fun l => pick x.inc x.w (q l)), usesIn := decide (x.inc.length > 0 ∧ x.w > -1),
                models := some (pick x.inc x.w (q x.rows)) }, .next) := by
  dsimp only [rdbQuery, block, exec, evalCond, rdbM]
  by_cases h2 : x.w > -1
  · by_cases h1 : x.inc.length > 0
    · cases tooMany <;> simp [cache_ir, pick, hq, h1, h2]
    · simp [cache_ir, pick, hq, h1, h2]
  · by_cases h1 : x.inc.length > 0 <;> simp [cache_ir, pick, hq, h1, h2]

theorem interp_rdbGetTrials (ex tooMany : Bool) (rows : List (Nat × TrialS)) (states : Option (List TState))
    (inc : List Nat) (w : Int) :
    interpRdb CacheMethods.rdbGetTrials ex tooMany rows states inc w =
      some (if ex then .ok (rdbFilter inc w (rows.filter (fun p => stateIn states p.2.state))) else .error .keyError) := by
  have hdef : CacheMethods.rdbGetTrials = block [.act .cutIncluded, .scoped (block [.act .ensureStudyExists, .act .baseQuery,
    .ite (.not (.prim .statesIsNone)) (.act .filterStates) .skip, rdbQuery, .act .buildTrials]), .ret .trials] := rfl
  have hpick : ∀ l, rdbFilter inc w l = pick (inc.filter (fun (i : Nat) => decide ((i : Int) ≤ w))) w l := fun _ => rfl
  have hQ := exec_rdbQuery ex tooMany
  unfold interpRdb
  rw [hdef, hpick]
  dsimp only [block, exec, evalCond]
  -- the query segment is kept whole (as `F`) while the machine's table is unfolded
  generalize exec (rdbM ex tooMany) rdbQuery none = F at hQ ⊢
  dsimp only [rdbM]
  cases ex with
  | false => simp
  | true =>
    cases states with
    | none =>
      rw [show rows.filter (fun p => stateIn none p.2.state) = rows from List.filter_eq_self.2 fun _ _ => rfl]
      simp [hQ]
    | some sts => simp [hQ, stateIn]

theorem rdbFetch_eq (tooMany : Bool) (s : Spec) (sid : Nat) (states : Option (List TState)) (inc : List Nat) (w : Int) :
    rdbFetch CacheMethods.rdbGetTrials tooMany s sid states inc w =
      some (match fetchRdb s sid inc w with
        | .ok l => .ok (l.filter (fun p => stateIn states p.2.state))
        | .error e => .error e) := by
  unfold rdbFetch
  rw [interp_rdbGetTrials]
  unfold fetchRdb
  cases hs : s.study? sid with
  | none => simp
  | some st =>
    simp only [Option.isSome_some, if_true]
    congr 2
    unfold rdbFilter
    simp only []
    split
    · simp [List.filter_filter, Bool.and_comm]
    · split
      · simp [List.filter_filter, Bool.and_comm]
      · rfl

/-- the servicer's `GetTrials`: the backend's list filtered by `servicerFilter`, NOT_FOUND for its KeyError -/
theorem interp_servicerGetTrials_ok (l : List (Nat × TrialS)) (inc : List Nat) (w : Int) :
    interpGetTrials CacheMethods.servicerGetTrials (.trials l) inc w = some (.ok (servicerFilter inc w l)) := by
  rfl

theorem interp_servicerGetTrials_err' (inc : List Nat) (w : Int) :
    interpGetTrials G.servicerGetTrials (.err .keyError) inc w = some (.error .keyError) := by
  rfl



/-- loop body of `GrpcClientCache._read_trials_from_remote_storage` -/
def absorbBody : Stmt := block [.act .decodeTrial, .call .studyIdTrial .drop CacheMethods.cacheAddTrialToCache]

theorem absorb_step (P : PParams) (x : PSt) (p : Nat × TrialS) (e0 : Entry) (he0 : find x.p.studies x.sid = some e0) :
    exec (proxyM P) absorbBody none ((proxyM P).bind .resTrials p x) =
      ({ x with p := { studies := insert x.p.studies x.sid (e0.absorb1 p) }, trial := some p }, .next) := by
  obtain ⟨px, sid, states, study, req, res, trial, dict, trials, result, retv⟩ := x
  simp only [] at he0
  dsimp only [absorbBody, CacheMethods.cacheAddTrialToCache, block, exec, evalCond, proxyM]
  cases hfin : p.2.state.isFinished <;>
    simp [he0, pUpd, hfin, find_insert_same, insert_insert, Entry.absorb1, Entry.noteState, Entry.addTrial]

theorem absorb_loop (P : PParams) (l : List (Nat × TrialS)) (x : PSt) (e0 : Entry) (he0 : find x.p.studies x.sid = some e0) :
    ∃ tr, forLoop (exec (proxyM P) absorbBody none) ((proxyM P).bind .resTrials) l x =
      ({ x with p := { studies := insert x.p.studies x.sid (l.foldl Entry.absorb1 e0) }, trial := tr }, .next) := by
  induction l generalizing x e0 with
  | nil => exact ⟨x.trial, by simp [forLoop, insert_self _ _ _ he0]⟩
  | cons p t ih =>
    simp only [forLoop_cons, List.foldl_cons]
    rw [absorb_step P x p e0 he0]
    simp only []
    obtain ⟨tr, h⟩ := ih ({ x with p := { studies := insert x.p.studies x.sid (e0.absorb1 p) }, trial := some p } : PSt)
      (e0.absorb1 p) (by simp [find_insert_same])
    exact ⟨tr, by rw [h]; simp [insert_insert]⟩

abbrev cread : Stmt := CacheMethods.cacheReadTrialsFromRemoteStorage

/-- what `GrpcClientCache.get_all_trials` makes of the servicer's backend's answer, by the hand model (`Proxy.getAll`) -/
def getAllSpec (answer : Out) (p : Proxy) (sid : Nat) (states : Option (List TState)) :
    Proxy × Except Err (List (Nat × TrialS)) :=
  let e := entryD p.studies sid
  match answer with
  | .trials l =>
    let e' := e.absorb (servicerFilter e.unfinished e.watermark l)
    ({ studies := insert p.studies sid e' }, .ok (e'.readAll states))
  | .err err => ({ studies := erase p.studies sid }, .error err)
  | _ => ({ studies := insert p.studies sid e }, .error .runtimeError)


/-- `_read_trials_from_remote_storage` from the RPC on -/
def creadRest : Stmt := .seq (.tryExcept (.act .rpcGetTrials) (.onExc [.rpcError] (block [
    .ite (.prim .rpcNotFound) (block [.act .popStudy, .raise .keyError]) .skip, .reraise]) .reraise) .skip)
  (.seq (.ite (.not (.prim .resTrialsTruthy)) (.ret .none) .skip) (.forIn .resTrials absorbBody))

theorem cread_split : cread = .seq ensureS
    (.seq (.act .aliasStudy) (.seq (.act .makeGetTrialsRequest) creadRest)) := rfl

theorem cread_prefix (P : PParams) (x : PSt) (rest : Stmt) :
    exec (proxyM P) (.seq ensureS (.seq (.act .aliasStudy) (.seq (.act .makeGetTrialsRequest) rest))) none x =
    exec (proxyM P) rest none
      { x with p := { studies := insert x.p.studies x.sid (entryD x.p.studies x.sid) }, study := some x.sid,
               req := some ((entryD x.p.studies x.sid).unfinished, (entryD x.p.studies x.sid).watermark) } := by
  obtain ⟨px, sid, states, study, req, res, trial, dict, trials, result, retv⟩ := x
  dsimp only [ensureS, exec, evalCond]
  generalize exec (proxyM P) rest none = F
  dsimp only [proxyM]
  cases hf : find px.studies sid with
  | none => simp [hf, entryD, find_insert_same, pEntry]
  | some e => simp [hf, entryD, pEntry, insert_self _ _ _ hf]

/-- `_read_trials_from_remote_storage` from the RPC on, when the servicer answers: the handlers are not entered, an empty
answer returns early, otherwise the loop absorbs the answer -/
theorem cread_rest (P : PParams) (l : List (Nat × TrialS))
    (hrpc : ∀ inc w, P.rpcD inc w = some (.ok (servicerFilter inc w l))) (y : PSt) (inc : List Nat) (w : Int)
    (hreq : y.req = some (inc, w)) (e0 : Entry) (he0 : find y.p.studies y.sid = some e0) :
    ∃ tr rv flow, (flow = .ret ∨ flow = .next) ∧
      exec (proxyM P) creadRest none y =
        ({ y with p := { studies := insert y.p.studies y.sid (e0.absorb (servicerFilter inc w l)) },
                  res := some (servicerFilter inc w l), trial := tr, retv := rv }, flow) := by
  have hrun : (proxyM P).act .rpcGetTrials none y = ({ y with res := some (servicerFilter inc w l) }, none) := by
    show (match y.req with | some (inc, w) => _ | none => _) = _
    simp only [hreq, hrpc]
  have hp : ∀ z : PSt, (proxyM P).prim .resTrialsTruthy none { z with res := some (servicerFilter inc w l) } =
      ({ z with res := some (servicerFilter inc w l) }, .ok (!(servicerFilter inc w l).isEmpty)) := fun _ => rfl
  have hit : ∀ z : PSt, (proxyM P).items .resTrials { z with res := some (servicerFilter inc w l) } =
      ({ z with res := some (servicerFilter inc w l) }, .ok (servicerFilter inc w l)) := fun _ => rfl
  generalize servicerFilter inc w l = fl at hrun hp hit ⊢
  cases fl with
  | nil =>
    have hr : ∀ z : PSt, (proxyM P).onRet .none z = ({ z with retv := some .unit }, none) := fun _ => rfl
    exact ⟨y.trial, some .unit, .ret, .inl rfl, by simp [creadRest, cache_ir, hrun, hp, hr, Entry.absorb, insert_self _ _ _ he0]⟩
  | cons q t =>
    obtain ⟨tr, h⟩ := absorb_loop P (q :: t) { y with res := some (q :: t) } e0 he0
    exact ⟨tr, y.retv, .next, .inr rfl, by simp [creadRest, cache_ir, hrun, hp, hit, h, Entry.absorb]⟩

/-- the locked tail of `GrpcClientCache.get_all_trials` -/
def readTail : Stmt := block [.act .aliasStudy, .ite (.not (.prim .statesIsNone)) (.act .selectByStates) (.act .selectAll),
  .act .sortByNumber, .ret .trials]

theorem cacheGetAll_split : G.cacheGetAllTrials = .locked (.seq (.call .studyId .drop cread) readTail) := rfl

theorem cache_tail (P : PParams) (y : PSt) (e' : Entry) (he' : find y.p.studies y.sid = some e') :
    exec (proxyM P) readTail none y =
      ({ y with study := some y.sid, dict := none, trials := some (e'.readAll y.states),
                retv := some (.trials (e'.readAll y.states)) }, .ret) := by
  obtain ⟨px, sid, states, study, req, res, trial, dict, trials, result, retv⟩ := y
  simp only [] at he'
  rw [← readAll_eq]
  dsimp only [readTail, block, exec, evalCond, proxyM]
  cases states <;> simp [he', pEntry]

theorem gen_cacheGetAll_eq (answer : Out) (h : (∃ l, answer = .trials l) ∨ answer = .err .keyError) (p : Proxy) (sid : Nat)
    (states : Option (List TState)) : G.cacheGetAll answer p sid states = some (getAllSpec answer p sid states) := by
  unfold Program.cacheGetAll interpProxy
  rw [cacheGetAll_split, exec_locked, exec_seq, exec_call]
  generalize hP : ({ noCache with rpcD := interpGetTrials G.servicerGetTrials answer } : PParams) = P
  have henter : (proxyM P).enter .studyId ({ p := p, sid := sid, states := states } : PSt) =
      (({ p := p, sid := sid, states := states } : PSt), none) := rfl
  have hleave : ∀ (a b : PSt), (proxyM P).leave .drop a b =
      { b with study := a.study, trial := a.trial, dict := a.dict, trials := a.trials, retv := a.retv } := fun _ _ => rfl
  rw [henter]
  simp only []
  rw [cread_split, cread_prefix]
  rcases h with ⟨l, rfl⟩ | rfl
  · obtain ⟨tr, rv, fl, hfl, hc⟩ := cread_rest P l (by subst hP; exact interp_servicerGetTrials_ok l)
      { p := { studies := insert p.studies sid (entryD p.studies sid) }, sid := sid, states := states, study := some sid,
        req := some ((entryD p.studies sid).unfinished, (entryD p.studies sid).watermark) }
      _ _ rfl (entryD p.studies sid) (find_insert_same _ _ _)
    rw [hc]
    rcases hfl with rfl | rfl <;>
    · simp only [hleave]
      rw [cache_tail P _ _ (find_insert_same _ _ _)]
      simp [asList, getAllSpec, insert_insert]
  · -- the servicer's KeyError comes back as NOT_FOUND and the entry just ensured is popped again: with the answer a
    -- constructor the rest of the body runs by evaluation
    subst hP
    refine Eq.trans (b := some (⟨erase (insert p.studies sid (entryD p.studies sid)) sid⟩, .error .keyError)) rfl ?_
    rw [erase_insert]; rfl

theorem interp_cacheDelete (p : Proxy) (sid : Nat) : G.cacheDelete p sid = some { studies := erase p.studies sid } := by
  rfl

theorem rdbFetch_hand (tooMany : Bool) : rdbFetch G.rdbGetTrials tooMany = handFetch := by
  funext s sid states inc w
  exact rdbFetch_eq tooMany s sid states inc w

def bodyOf : Op → Stmt
  | .createStudy .. => CacheMethods.createNewStudy
  | .deleteStudy .. => CacheMethods.deleteStudy
  | .setStudyUserAttr .. => CacheMethods.setStudyUserAttr
  | .setStudySystemAttr .. => CacheMethods.setStudySystemAttr
  | .createTrial .. => CacheMethods.createNewTrial
  | .setTrialParam .. => CacheMethods.setTrialParam
  | .setTrialStateValues .. => CacheMethods.setTrialStateValues
  | .setTrialInter .. => CacheMethods.setTrialIntermediateValue
  | .setTrialUserAttr .. => CacheMethods.setTrialUserAttr
  | .setTrialSystemAttr .. => CacheMethods.setTrialSystemAttr
  | .getStudyIdFromName .. => CacheMethods.getStudyIdFromName
  | .getStudyNameFromId .. => CacheMethods.getStudyNameFromId
  | .getStudyDirections .. => CacheMethods.getStudyDirections
  | .getStudyUserAttrs .. => CacheMethods.getStudyUserAttrs
  | .getStudySystemAttrs .. => CacheMethods.getStudySystemAttrs
  | .getAllStudies => CacheMethods.getAllStudies
  | .getTrialIdFromNumber .. => CacheMethods.getTrialIdFromStudyIdTrialNumber
  | .getTrialNumberFromId .. | .getTrialParam .. | .getTrial .. => CacheMethods.getTrial
  | .getAllTrials .. | .getNTrials .. => CacheMethods.getAllTrials
  | .getBestTrial .. => CacheMethods.getBestTrial

/-- one call of each operation, in the order of the constructors -/
def eachOp : List Op :=
  [.createStudy "" [], .deleteStudy 0, .setStudyUserAttr 0 "" "", .setStudySystemAttr 0 "" "", .createTrial 0 none false,
   .setTrialParam 0 "" default false, .setTrialStateValues 0 .running none, .setTrialInter 0 0 default, .setTrialUserAttr 0 "" "",
   .setTrialSystemAttr 0 "" "", .getStudyIdFromName "", .getStudyNameFromId 0, .getStudyDirections 0, .getStudyUserAttrs 0,
   .getStudySystemAttrs 0, .getAllStudies, .getTrialIdFromNumber 0 0, .getTrialNumberFromId 0, .getTrialParam 0 "", .getTrial 0,
   .getAllTrials 0 none, .getNTrials 0 none, .getBestTrial 0]

/-- The table of generated methods is keyed by strings, and comparing two string literals is dear both for the elaborator and
for the kernel; all the look-ups are therefore made in one evaluation by the kernel, which converts each key once. -/
theorem lookup_eachOp : ∀ op ∈ eachOp, lookup (methodOf op) G.cached = some (bodyOf op) := by decide +kernel

/-- the method name and the body depend on the constructor of the operation only -/
theorem lookup_bodyOf (op : Op) : lookup (methodOf op) G.cached = some (bodyOf op) := by
  obtain ⟨r, hr, hm, hb⟩ : ∃ r, eachOp[op.ctorIdx]? = some r ∧ methodOf r = methodOf op ∧ bodyOf r = bodyOf op := by
    cases op <;> exact ⟨_, rfl, rfl, rfl⟩
  rw [← hm, ← hb]
  exact lookup_eachOp r (List.mem_of_getElem? hr)

theorem callCached_of_interp (tooMany : Bool) (s : Spec) (c : Client) (op : Op) (r : Spec × Client × Out)
    (hi : interpCached (bodyOf op) handFetch s c op = some r) (hr : (r.1, r.2.1, derive op r.2.2) = callCached s c op) :
    G.callCached tooMany s c op = some (callCached s c op) := by
  unfold Program.callCached
  rw [rdbFetch_hand, lookup_bodyOf, ← hr]
  simp only [hi]

/-- the two getters `BaseStorage` derives from `get_trial`: on a miss the backend's own answer is already the derived one -/
theorem derive_step_number (s : Spec) (tid : Nat) :
    derive (.getTrialNumberFromId tid) (step s (.getTrialNumberFromId tid)).2 = (step s (.getTrialNumberFromId tid)).2 := by
  have h : step s (.getTrialNumberFromId tid) = match s.trial? tid with
    | none => (s, .err .keyError)
    | some t => (s, .nat t.number) := rfl
  rw [h]
  cases s.trial? tid <;> rfl

theorem derive_step_param (s : Spec) (tid : Nat) (name : String) :
    derive (.getTrialParam tid name) (step s (.getTrialParam tid name)).2 = (step s (.getTrialParam tid name)).2 := by
  have h : step s (.getTrialParam tid name) = match s.trial? tid with
    | none => (s, .err .keyError)
    | some t =>
      match t.params.get? name with
      | some p => (s, .str p.internal)
      | none => (s, .err .keyError) := rfl
  rw [h]
  cases s.trial? tid with
  | none => rfl
  | some t => simp only []; cases t.params.get? name <;> rfl

/-- **gen_callCached_eq**: every method of `_CachedStorage` that is an `Op`, as generated from the source (over the generated
`RDBStorage._get_trials`, with or without the SQL variable limit) is `Cache.callCached`. -/
theorem gen_callCached_eq (tooMany : Bool) (s : Spec) (c : Client) (op : Op) :
    G.callCached tooMany s c op = some (callCached s c op) := by
  cases op with
  | createStudy name dirs => exact callCached_of_interp _ _ _ _ _ (interp_createNewStudy _ s c name dirs) rfl
  | deleteStudy sid => exact callCached_of_interp _ _ _ _ _ (interp_deleteStudy _ s c sid) rfl
  | getStudyNameFromId sid => exact callCached_of_interp _ _ _ _ _ (interp_getStudyNameFromId _ s c sid) rfl
  | getStudyDirections sid => exact callCached_of_interp _ _ _ _ _ (interp_getStudyDirections _ s c sid) rfl
  | createTrial sid tm ir => exact callCached_of_interp _ _ _ _ _ (interp_createNewTrial _ s c sid tm ir) rfl
  | getTrialIdFromNumber sid n => exact callCached_of_interp _ _ _ _ _ (interp_getTrialIdFromNumber _ s c sid n) rfl
  | getTrial tid | getTrialNumberFromId tid | getTrialParam tid name =>
    refine callCached_of_interp _ _ _ _ _ (interp_getTrial_body _ s c _ tid rfl rfl) ?_
    simp only [callCached]
    -- a hit or a crash is answered from the cache and `derive` computes; on a miss the backend was asked the derived question
    cases c.serveTrial tid <;> first | rfl | simp only [derive_step_number, derive_step_param]
  | getAllTrials sid states | getNTrials sid states =>
    refine callCached_of_interp _ _ _ _ _ (interp_getAllTrials_body s c _ sid states rfl rfl) ?_
    simp only [callCached]
    cases hs : c.sync s sid with
    | mk c' r => cases r <;> rfl
  -- every other method has a forwarding body (`forwards` recognises the two shapes), `derive` leaves its answer alone
  | _ => exact callCached_of_interp _ _ _ _ _ (interp_forward _ _ _ _ _ rfl) rfl

/-- **gen_callServer_eq**: the servicer's backend (the storage, or a generated `_CachedStorage` on it) -/
theorem gen_callServer_eq (tooMany : Bool) (s : Spec) (sc : Option Client) (op : Op) :
    G.callServer tooMany s sc op = some (callServer s sc op) := by
  cases sc with
  | none => rfl
  | some c => simp only [Program.callServer, gen_callCached_eq, callServer]

/-- what the servicer's backend answers to `get_all_trials(study_id, deepcopy=False)`: a list, or KeyError -/
theorem server_getAll_out (s : Spec) (sc : Option Client) (sid : Nat) :
    (∃ l, (callServer s sc (.getAllTrials sid none)).2.2 = .trials l) ∨
      (callServer s sc (.getAllTrials sid none)).2.2 = .err .keyError := by
  cases sc with
  | none =>
    simp only [callServer, step]
    split
    · exact .inr rfl
    · exact .inl ⟨_, rfl⟩
  | some c =>
    simp only [callServer, callCached]
    cases hs : c.sync s sid with
    | mk c' r =>
      cases r with
      | none => exact .inl ⟨_, rfl⟩
      | some e =>
        have := sync_err_key s c sid e (by rw [hs])
        subst this
        exact .inr rfl

theorem server_delete_out (s : Spec) (sc : Option Client) (sid : Nat) :
    (callServer s sc (.deleteStudy sid)).2.2 = .unit ∨ ∃ e, (callServer s sc (.deleteStudy sid)).2.2 = .err e := by
  cases sc <;> exact step_unit_or_err s (.deleteStudy sid) rfl

theorem getAll_eq_spec (s : Spec) (sc : Option Client) (p : Proxy) (sid : Nat) (states : Option (List TState)) :
    p.getAll s sc sid states =
      ((callServer s sc (.getAllTrials sid none)).1, (callServer s sc (.getAllTrials sid none)).2.1,
        (getAllSpec (callServer s sc (.getAllTrials sid none)).2.2 p sid states).1,
        (getAllSpec (callServer s sc (.getAllTrials sid none)).2.2 p sid states).2) := by
  unfold Proxy.getAll getAllSpec
  simp only []
  cases hc : callServer s sc (.getAllTrials sid none) with
  | mk s' r =>
    obtain ⟨sc', out⟩ := r
    cases out <;> rfl

theorem interp_proxyGetAllTrials (cg : Proxy → Option (Proxy × Except Err (List (Nat × TrialS)))) (p : Proxy) (sid : Nat)
    (states : Option (List TState)) (q : Proxy × Except Err (List (Nat × TrialS))) (h : cg p = some q) :
    interpProxy G.proxyGetAllTrials { noCache with cacheGetAll := cg } p sid states =
      some (q.1, match q.2 with | .ok l => .trials l | .error e => .err e) := by
  obtain ⟨p', r⟩ := q
  dsimp only [G, CacheMethods.program, CacheMethods.proxyGetAllTrials, interpProxy, block, exec, evalCond, proxyM]
  cases r <;> simp [h]

theorem interp_proxyDeleteStudy (P : PParams) (p p' : Proxy) (sid : Nat) (h : P.cacheDelete p = some p')
    (hout : P.callD = .unit ∨ ∃ e, P.callD = .err e) :
    interpProxy G.proxyDeleteStudy P p sid none = some (match P.callD with | .unit => (p', .unit) | out => (p, out)) := by
  obtain ⟨_, out, _, cd⟩ := P
  dsimp only at h hout ⊢
  rcases hout with rfl | ⟨e, rfl⟩
  · dsimp only [G, CacheMethods.program, CacheMethods.proxyDeleteStudy, interpProxy, block, exec, proxyM]
    simp [h]
  · cases e <;> rfl

/-- the servicer's answer, NOT_FOUND turned back into KeyError -/
theorem interp_proxyGetTrial (P : PParams) (p : Proxy) (sid : Nat) (states : Option (List TState)) :
    interpProxy G.proxyGetTrial P p sid states = some (p, P.callD) := by
  obtain ⟨_, out, _, _⟩ := P
  cases out with
  | err e => cases e <;> rfl
  | _ => rfl

/-- **gen_callProxy_eq**: every public method of `GrpcStorageProxy` with the generated client cache, servicer `GetTrials`
and server-side `_CachedStorage` is `Cache.callProxy`. -/
theorem gen_callProxy_eq (tooMany : Bool) (s : Spec) (sc : Option Client) (p : Proxy) (op : Op) :
    G.callProxy tooMany s sc p op = some (callProxy s sc p op) := by
  unfold Program.callProxy callProxy
  simp only [gen_callServer_eq]
  cases op with
  | getAllTrials sid states | getNTrials sid states =>
    simp only [getAll_eq_spec]
    have h := server_getAll_out s sc sid
    generalize callServer s sc (.getAllTrials sid none) = r at h ⊢
    obtain ⟨s', sc', answer⟩ := r
    simp only [] at h ⊢
    rw [interp_proxyGetAllTrials (fun p => G.cacheGetAll answer p sid states) p sid states _
      (gen_cacheGetAll_eq answer h p sid states)]
    rcases h with ⟨l, rfl⟩ | rfl <;> rfl
  | deleteStudy sid =>
    simp only []
    rw [interp_proxyDeleteStudy _ p _ sid (interp_cacheDelete p sid) (server_delete_out s sc sid)]
    cases hc : callServer s sc (.deleteStudy sid) with
    | mk s' r =>
      obtain ⟨sc', out⟩ := r
      cases out <;> rfl
  | getTrial tid => simp only [interp_proxyGetTrial]
  | _ => rfl

/-- **gen_sysCall_eq**: one storage call of any client of a system — raw, cached, proxied onto the storage or onto one of
the cached clients — with every cache running the generated methods is `Cache.Sys.call`. -/
theorem gen_sysCall_eq (tooMany : Bool) (y : Sys) (i : Nat) (op : Op) : G.sysCall tooMany y i op = some (y.call i op) := by
  unfold Program.sysCall Sys.call
  cases hn : y.nodes[i]? with
  | none => rfl
  | some node =>
    cases node with
    | raw => rfl
    | cached c => simp only [gen_callCached_eq]
    | proxy srv p =>
      simp only []
      cases hsrv : srv.bind (fun j => match y.nodes[j]? with | some (.cached c) => some (j, c) | _ => none) with
      | none => simp only [gen_callProxy_eq]
      | some jc =>
        obtain ⟨j, c⟩ := jc
        simp only [gen_callProxy_eq]
        cases hc : callProxy y.backend (some c) p op with
        | mk s' r =>
          obtain ⟨sc', p', out⟩ := r
          cases sc' <;> rfl

theorem gen_sysRun_eq (tooMany : Bool) (y : Sys) (calls : List (Nat × Op)) : G.sysRun tooMany y calls = some (y.run calls) := by
  induction calls generalizing y with
  | nil => rfl
  | cons c rest ih =>
    simp only [Program.sysRun, gen_sysCall_eq, Sys.run, List.foldl_cons]
    exact ih _

/-- **gen_cached_answers_equal_backend**: every public method of `_CachedStorage` *as generated from the source* returns
exactly what the backend would return at that moment (reads about a deleted study excepted), never changes what is
written, and keeps the invariant `Inv` (property cache_covers) — for every well-formed backend state and every cache state satisfying
the invariant, with or without the SQL variable limit. -/
theorem gen_cached_answers_equal_backend (tooMany : Bool) (s : Spec) (hW : Wf s) (c : Client) (h : Inv s c) (op : Op) :
    ∃ r, G.callCached tooMany s c op = some r ∧ r.1 = (step s op).1 ∧ Inv r.1 r.2.1 ∧
      (Targets s op → r.2.2 = (step s op).2) :=
  ⟨_, gen_callCached_eq tooMany s c op, cached_call_backend s c op, cache_covers_call s hW c h op,
    cached_answers_equal_backend s hW c h op⟩
example : G.callCached false wS3 (wA0.noteCreated 0 wNew) (.getAllTrials 0 none) =
    some (wS3, ((wA0.noteCreated 0 wNew).sync wS3 0).1, .trials (wS3.trialsOf 0)) := by
  rw [gen_callCached_eq]; decide +kernel

/-- **gen_sync_then_equal**: right after the generated `get_all_trials` has synced, it returns exactly the backend's trials of
the study, in the backend's order, for every state filter; it raises KeyError exactly when the backend would. -/
theorem gen_sync_then_equal (tooMany : Bool) (s : Spec) (hW : Wf s) (c : Client) (sid : Nat) (h : Inv s c)
    (states : Option (List TState)) :
    ∃ r, G.callCached tooMany s c (.getAllTrials sid states) = some r ∧ r.2.2 = (step s (.getAllTrials sid states)).2 :=
  ⟨_, gen_callCached_eq tooMany s c _, sync_then_equal s hW c sid h states⟩

/-- **gen_finished_never_stale**: when the generated `get_trial` answers from the cache (no backend call), the answer
carries the requested id, is finished, and equals the backend's record. -/
theorem gen_finished_never_stale (tooMany : Bool) (s : Spec) (c : Client) (h : Inv s c) (tid id : Nat) (t : TrialS)
    (hs : c.serveTrial tid = .hit id t) :
    G.callCached tooMany s c (.getTrial tid) = some (s, c, .trial id t) ∧
      id = tid ∧ s.trials[tid]? = some t ∧ t.state.isFinished = true := by
  refine ⟨?_, (finished_never_stale s c h tid).2 id t hs⟩
  rw [gen_callCached_eq]
  simp only [callCached, hs]

/-- **gen_create_finished_template_repaired** (finding F6 on the generated code): the history that hides a foreign trial on
`Client.noteCreatedF6` (`C08.create_finished_template_hides_foreign_trial`) — A syncs, B creates a trial, A creates a finished
template, B's trial finishes — shows both trials. -/
theorem gen_create_finished_template_repaired :
    ∃ r1, G.callCached false wS1 wA0 (.createTrial 0 (some wTmpl) false) = some r1 ∧ r1.1 = wS2 ∧
      ∃ r2, G.callCached false wS3 r1.2.1 (.getAllTrials 0 none) = some r2 ∧ r2.2.2 = .trials (wS3.trialsOf 0) := by
  refine ⟨_, gen_callCached_eq _ _ _ _, by decide, _, gen_callCached_eq _ _ _ _, ?_⟩
  decide

/-- **gen_fetch_filters_agree**: the generated `RDBStorage._get_trials` and the generated servicer `GetTrials` select the
same trials of a study (`id in included or id > watermark`), whatever query / fallback the former takes. -/
theorem gen_fetch_filters_agree (tooMany : Bool) (rows : List (Nat × TrialS)) (inc : List Nat) (w : Int) :
    interpRdb G.rdbGetTrials true tooMany rows none inc w = interpGetTrials G.servicerGetTrials (.trials rows) inc w := by
  rw [show G.rdbGetTrials = CacheMethods.rdbGetTrials from rfl, interp_rdbGetTrials,
    show G.servicerGetTrials = CacheMethods.servicerGetTrials from rfl, interp_servicerGetTrials_ok]
  simp only [if_true, stateIn]
  rw [List.filter_eq_self.2 (fun _ _ => rfl), servicer_filter_eq_rdb_filter]
example : interpGetTrials G.servicerGetTrials (.trials [(1, mkTrial 0 0 none), (2, mkTrial 0 1 none), (5, mkTrial 0 2 none)]) [1, 7] 3 =
    some (.ok [(1, mkTrial 0 0 none), (5, mkTrial 0 2 none)]) := by rfl
example : interpRdb G.rdbGetTrials true true [(1, mkTrial 0 0 none), (2, mkTrial 0 1 none), (5, mkTrial 0 2 none)] none [1, 7] 3 =
    some (.ok [(1, mkTrial 0 0 none), (5, mkTrial 0 2 none)]) := by rfl

/-- **gen_proxy_call_spec**: each public method of `GrpcStorageProxy` with the generated client cache / servicer / server-side
cache leaves the backend exactly as the direct call would, keeps the invariants of both caches, and returns what the
backend would return at that moment (a read about a deleted study excepted: `Targets`). -/
theorem gen_proxy_call_spec (tooMany : Bool) (s : Spec) (hW : Wf s) (sc : Option Client) (hS : SInv s sc) (p : Proxy)
    (hP : PInv s p) (op : Op) :
    ∃ r, G.callProxy tooMany s sc p op = some r ∧ r.1 = (step s op).1 ∧ SInv (step s op).1 r.2.1 ∧
      PInv (step s op).1 r.2.2.1 ∧ (Targets s op → r.2.2.2 = (step s op).2) :=
  ⟨_, gen_callProxy_eq tooMany s sc p op, proxy_call_spec s hW sc hS p hP op⟩

/-- **gen_all_clients_see_backend_partial**: start from an empty database with any number of clients of any kind running
the generated methods, let them execute any interleaved history of storage calls, then let any client make any call: it
receives exactly what the underlying storage — which holds exactly what the same calls made directly would have stored —
answers at that moment (a cached read about a deleted study excepted: F27). -/
theorem gen_all_clients_see_backend_partial (tooMany : Bool) (nodes : List Node) (hfresh : ∀ n, n ∈ nodes → isFreshNode n)
    (calls : List (Nat × Op)) (i : Nat) (op : Op) :
    ∃ y r, G.sysRun tooMany { backend := Storage.init, nodes := nodes } calls = some y ∧
      G.sysCall tooMany y i op = some r ∧
      y.backend = C01.after Storage.init (calls.map (·.2)) ∧ (Targets y.backend op → r.2 = (step y.backend op).2) := by
  refine ⟨_, _, gen_sysRun_eq _ _ _, gen_sysCall_eq _ _ _ _, ?_⟩
  exact all_clients_see_backend_partial nodes hfresh calls i op
example : (G.sysRun false { backend := Storage.init, nodes := demoNodes } demoCalls).map (fun y => (y.backend.trialsOf 0).length) = some 3 := by
  rw [gen_sysRun_eq]; decide +kernel
example : ((G.sysRun true { backend := Storage.init, nodes := demoNodes } demoCalls).bind
    (fun y => G.sysCall true y 1 (.getAllTrials 0 none))).map (·.2) = some (step demoSys.backend (.getAllTrials 0 none)).2 := by
  simp only [gen_sysRun_eq, Option.bind_some, gen_sysCall_eq]; decide +kernel

end OptunaVerif.C08Gen
