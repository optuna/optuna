import OptunaVerif.Lemmas.PrunersMirror
import OptunaVerif.Props.C16SkelGen
import OptunaVerif.Props.C13Tpe
import OptunaVerif.Props.C13
import OptunaVerif.Props.C15
/-!
# C13 bridge — the direction mirror on the models that ARE tied to the source

`Props/C13.lean` proves mirror laws for the small helpers of `Model/Direction.lean`.  This file proves the
mirror on `Model/Pruners.lean` — the model whose control flow is regenerated from the source
(`Props/C16SkelGen.skel_prune_eq`) and whose integer kernels are T-int generated (`Props/C16Gen`) — as WHOLE
`prune` calls, for every study state and configuration, and transports it to the interpreter of the generated
skeletons (`gen_prune_mirror*`).

`negT` negates every reported intermediate value and every stored `completed_rung_k` value of a trial (NaN stays
NaN; the model's trial has no final value: no pruner reads it); `mirrorP` mirrors the bounds of a
ThresholdPruner (`lower' = -upper`, `upper' = -lower`) and keeps everything else.

What makes each mirror go through (and where it does not):
* Threshold: `v < lower` / `v > upper` are strict on both sides, so they swap exactly under negation; NaN first.
* Patient: `nanmin(before) + δ < nanmin(after)` ↔ `nanmax(after') < nanmax(before') - δ` — strict on both sides,
  `-(a + δ) = -a - δ` also at ±inf; the window split is by step and does not look at values.
* SuccessiveHalving / Hyperband: the promotable index counts from the front under minimize and from the end
  under maximize of the SAME ascending sort, `<=` / `>=` are both non-strict, so the sorted list of the negated
  values (the reversed, negated sort — unique because `≤` is antisymmetric on non-NaN floats, ties are equal
  values) gives the same comparison.  Hypothesis: no stored `completed_rung_k` is NaN (`NoNanRungs`; invariant of
  every reachable study, `C16.sh_never_stores_nan`) — Python's `sort` with NaN has no mirror law.
* Percentile / Median: since the repair of F41 the source computes the MAXIMIZE case as the mirror of the MINIMIZE case
  itself (`-np.nanpercentile(-values, percentile)`), `best < p` / `best > p` are both strict: the mirror holds for EVERY
  state, ±inf reports included, with no hypothesis.  The formulation before the repair (`percentile = 100 - percentile` on
  the raw values) is kept as `percentileOverTrialsOld` / `percentilePruneOld`: it mirrors only without ±inf reports
  (`percentileOverTrialsOld_mirror`), and `percentile_mirror_fails_with_inf` is the witness (numpy's two `_lerp` branches
  `a + d·t` / `b - d·(1 - t)` agree for finite neighbours only) — a revert of the source is recognised by the skeleton
  translator, `C16SkelGen.gen_percentile_over_trials` and the C13 site table, and replayed by `inf_percentile_witness`
  (a Python check of `verif/props/c13.py`).

The rest of the file serves TPE's split (`Props/C13Tpe.lean`): `default_gamma_*` characterise `TpeSplit.defaultGamma`
itself; `kernels_ok_c15` shows that the C15 hand models of the rank and HSSP kernels (`rankC15`, `hsspC15`) meet
`C13Tpe.KernelsOk`, so `split_sizes_c15` carries no kernel hypothesis (the kernels are the C15 models on lattice rows only:
elsewhere `rankC15` / `hsspC15` answer a default); `split_direction_mirror_multi_c15` is `C13Tpe.split_direction_mirror_multi`,
which holds for every pair of kernels, at these;
`fast_rank_symmetric_c15` / `solve_hssp_symmetric_c15` are `C13.normalised_component_symmetric` at those kernels.
-/
namespace OptunaVerif.C13Bridge
open OptunaVerif.Pruners

/-- **PercentilePruner, whole `prune`** (start-up, `last_step`, warm-up, interval, NaN best, `n_min_trials`, the
percentile as the source computes it under each direction, the strict comparison): EVERY state, ±inf reports included. -/
theorem prune_mirror_percentile (crc : Nat → Nat) (trials : List PTrial) (n : Nat) (t : PTrial) (c : PercentileCfg) :
    prune crc ⟨.maximize, trials⟩ n t (.percentile c) =
      prune crc ⟨.minimize, trials.map negT⟩ n (negT t) (.percentile c) := by
  simp only [prune, percentilePrune_mirror c trials t]

/-- MedianPruner = PercentilePruner(50) -/
theorem prune_mirror_median (crc : Nat → Nat) (trials : List PTrial) (n : Nat) (t : PTrial) (a b c d : Nat) :
    prune crc ⟨.maximize, trials⟩ n t (Pruner.median a b c d) =
      prune crc ⟨.minimize, trials.map negT⟩ n (negT t) (Pruner.median a b c d) :=
  prune_mirror_percentile crc trials n t _

/-- the formulation BEFORE the repair of F41 is not symmetric with a ±inf report: numpy's `_lerp` at `t = 1/2` between
`-inf` and `0` is `-inf`, between `0` and `+inf` it is `inf - inf = nan`; the old median pruner then prunes under minimize
and not under maximize (this is what the real code did up to the repair; a revert brings it back). -/
theorem percentile_mirror_fails_with_inf :
    percentilePruneOld ⟨50, 0, 0, 1, 1⟩ .minimize
      [⟨.complete, [(0, .ninf)], []⟩, ⟨.complete, [(0, .fin 0)], []⟩] ⟨.running, [(0, .fin 5)], []⟩ = true ∧
    percentilePruneOld ⟨50, 0, 0, 1, 1⟩ .maximize
      ([⟨.complete, [(0, .ninf)], []⟩, ⟨.complete, [(0, .fin 0)], []⟩].map negT) (negT ⟨.running, [(0, .fin 5)], []⟩) = false := by
  decide +kernel

/-- the witness of `percentile_mirror_fails_with_inf` under today's formulation is symmetric: pruned in both runs -/
example :
    percentilePrune ⟨50, 0, 0, 1, 1⟩ .minimize
      [⟨.complete, [(0, .ninf)], []⟩, ⟨.complete, [(0, .fin 0)], []⟩] ⟨.running, [(0, .fin 5)], []⟩ = true ∧
    percentilePrune ⟨50, 0, 0, 1, 1⟩ .maximize
      ([⟨.complete, [(0, .ninf)], []⟩, ⟨.complete, [(0, .fin 0)], []⟩].map negT) (negT ⟨.running, [(0, .fin 5)], []⟩) = true := by
  decide +kernel

/-- on values without ±inf the two formulations agree in exact arithmetic (they differ by float rounding only) -/
theorem percentile_old_eq_new_without_inf (completed : List PTrial) (d : Dir) (step : Int) (q : Rat) (nMin : Nat)
    (h : NoInf (valuesAtStep completed step)) (hq0 : 0 ≤ q) (hq1 : q ≤ 100) :
    percentileOverTrials completed d step q nMin = percentileOverTrialsOld completed d step q nMin := by
  unfold percentileOverTrials percentileOverTrialsOld
  simp only
  split
  · rfl
  · cases d with
    | minimize => rfl
    | maximize =>
      simp only
      rw [npPercentile_neg _ q h hq0 hq1, xneg_xneg]

example : prune (fun _ => 0) ⟨.maximize, [⟨.complete, [(0, .fin 1)], []⟩, ⟨.complete, [(0, .fin 3)], []⟩]⟩ 2
      ⟨.running, [(0, .fin 0)], []⟩ (Pruner.median 0 0 1 1) = noWrite true ∧
    prune (fun _ => 0) ⟨.minimize, [⟨.complete, [(0, .fin (-1))], []⟩, ⟨.complete, [(0, .fin (-3))], []⟩]⟩ 2
      ⟨.running, [(0, .fin 0)], []⟩ (Pruner.median 0 0 1 1) = noWrite true := by decide +kernel

/-- **ThresholdPruner, whole `prune`**, bounds mirrored -/
theorem prune_mirror_threshold (crc : Nat → Nat) (trials : List PTrial) (n : Nat) (t : PTrial) (c : ThresholdCfg) :
    prune crc ⟨.maximize, trials⟩ n t (.threshold c) =
      prune crc ⟨.minimize, trials.map negT⟩ n (negT t) (.threshold (mirrorThreshold c)) := by
  simp only [prune, thresholdPrune_mirror]

example : thresholdPrune ⟨.fin 0, .fin 1, 0, 1⟩ ⟨.running, [(0, .fin 2)], []⟩ = true ∧
    thresholdPrune (mirrorThreshold ⟨.fin 0, .fin 1, 0, 1⟩) (negT ⟨.running, [(0, .fin 2)], []⟩) = true ∧
    mirrorThreshold ⟨.fin 0, .fin 1, 0, 1⟩ = ⟨.fin (-1), .fin 0, 0, 1⟩ := by decide +kernel

/-- **SuccessiveHalvingPruner, whole `prune`** (auto `min_resource`, current rung, the rung loop with bootstrap and
promotion, the `completed_rung_k` writes — the written value is the negated one) -/
theorem prune_mirror_sh (crc : Nat → Nat) (trials : List PTrial) (n : Nat) (t : PTrial) (c : SHCfg) (hr : NoNanRungs trials) :
    prune crc ⟨.minimize, trials.map negT⟩ n (negT t) (.sh c) = negR (prune crc ⟨.maximize, trials⟩ n t (.sh c)) :=
  shPrune_mirror c trials t hr

/-- **HyperbandPruner, whole `prune`**: same bracket (it depends on name and number only), the bracket's trials negated,
then the bracket's successive-halving pruner -/
theorem prune_mirror_hyperband (crc : Nat → Nat) (trials : List PTrial) (n : Nat) (t : PTrial) (c : HBCfg) (hr : NoNanRungs trials) :
    prune crc ⟨.minimize, trials.map negT⟩ n (negT t) (.hyperband c) = negR (prune crc ⟨.maximize, trials⟩ n t (.hyperband c)) :=
  hbPrune_mirror c crc trials n t hr

example : (prune (fun _ => 0) ⟨.maximize, [⟨.running, [(1, .fin 0)], [(0, .fin 3)]⟩]⟩ 1 ⟨.running, [(1, .fin 1)], []⟩ (.sh ⟨some 1, 2, 0, 0⟩)).prune = true ∧
    (prune (fun _ => 0) ⟨.minimize, [⟨.running, [(1, .fin 0)], [(0, .fin (-3))]⟩]⟩ 1 ⟨.running, [(1, .fin (-1))], []⟩ (.sh ⟨some 1, 2, 0, 0⟩)).prune = true := by
  decide +kernel

/-- **every pruner of `Model/Pruners.lean`, whole `prune`** (no WilcoxonPruner there: `C16Wilcoxon.wilcoxon_direction_mirror`) — in particular **PatientPruner around any pruner that itself mirrors** (the
induction step: the window comparison mirrors, then the wrapped pruner's mirror applies). -/
theorem prune_mirror_all (crc : Nat → Nat) (trials : List PTrial) (n : Nat) (t : PTrial) (p : Pruner)
    (hr : NoNanRungs trials) :
    prune crc ⟨.minimize, trials.map negT⟩ n (negT t) (mirrorP p) = negR (prune crc ⟨.maximize, trials⟩ n t p) :=
  prune_mirror crc trials n t p hr

/-- PatientPruner (wrapped or not): decisions equal -/
theorem prune_mirror_patient (crc : Nat → Nat) (trials : List PTrial) (n : Nat) (t : PTrial) (w : Pruner) (k : Nat) (dl : Rat)
    (hr : NoNanRungs trials) :
    (prune crc ⟨.maximize, trials⟩ n t (.patient w k dl)).prune =
      (prune crc ⟨.minimize, trials.map negT⟩ n (negT t) (.patient (mirrorP w) k dl)).prune := by
  have := prune_mirror_all crc trials n t (.patient w k dl) hr
  simp only [mirrorP] at this
  rw [this]; rfl

example : patientMaybe 1 0 .maximize ⟨.running, [(0, .fin 3), (1, .fin 4), (2, .fin 3), (3, .fin 3)], []⟩ = true ∧
    patientMaybe 1 0 .minimize (negT ⟨.running, [(0, .fin 3), (1, .fin 4), (2, .fin 3), (3, .fin 3)], []⟩) = true := by
  decide +kernel

theorem prunerValid_mirror (p : Pruner) (h : C16SkelGen.PrunerValid p) : C16SkelGen.PrunerValid (mirrorP p) := by
  induction p with
  | patient w k dl ih => exact ih h
  | threshold c => trivial
  | _ => exact h

/-- **The mirror for the skeletons regenerated from the source**: interpreting the generated control skeleton of any
pruner under maximize on the study and under minimize on the negated study (thresholds mirrored) gives the same
decision. -/
theorem gen_prune_mirror (crc : Nat → Nat) (trials : List PTrial) (n : Nat) (t : PTrial) (p : Pruner)
    (hv : C16SkelGen.PrunerValid p) (hr : NoNanRungs trials) :
    C16SkelGen.skelPrune crc ⟨.maximize, trials⟩ n t p =
      C16SkelGen.skelPrune crc ⟨.minimize, trials.map negT⟩ n (negT t) (mirrorP p) := by
  rw [C16SkelGen.skel_prune_eq crc _ n t p hv, C16SkelGen.skel_prune_eq crc _ n (negT t) (mirrorP p) (prunerValid_mirror p hv),
    prune_mirror_all crc trials n t p hr]
  rfl

theorem gen_prune_mirror_percentile (crc : Nat → Nat) (trials : List PTrial) (n : Nat) (t : PTrial) (c : PercentileCfg)
    :
    C16SkelGen.skelPrune crc ⟨.maximize, trials⟩ n t (.percentile c) =
      C16SkelGen.skelPrune crc ⟨.minimize, trials.map negT⟩ n (negT t) (.percentile c) := by
  rw [C16SkelGen.skel_prune_eq crc _ n t (.percentile c) trivial, C16SkelGen.skel_prune_eq crc _ n (negT t) (.percentile c) trivial,
    prune_mirror_percentile crc trials n t c]

theorem gen_prune_mirror_median (crc : Nat → Nat) (trials : List PTrial) (n : Nat) (t : PTrial) (a b c d : Nat)
    :
    C16SkelGen.skelPrune crc ⟨.maximize, trials⟩ n t (Pruner.median a b c d) =
      C16SkelGen.skelPrune crc ⟨.minimize, trials.map negT⟩ n (negT t) (Pruner.median a b c d) :=
  gen_prune_mirror_percentile crc trials n t _

theorem gen_prune_mirror_threshold (crc : Nat → Nat) (trials : List PTrial) (n : Nat) (t : PTrial) (c : ThresholdCfg) :
    C16SkelGen.skelPrune crc ⟨.maximize, trials⟩ n t (.threshold c) =
      C16SkelGen.skelPrune crc ⟨.minimize, trials.map negT⟩ n (negT t) (.threshold (mirrorThreshold c)) := by
  rw [C16SkelGen.skel_prune_eq crc _ n t (.threshold c) trivial,
    C16SkelGen.skel_prune_eq crc _ n (negT t) (.threshold (mirrorThreshold c)) trivial, prune_mirror_threshold crc trials n t c]

theorem gen_prune_mirror_sh (crc : Nat → Nat) (trials : List PTrial) (n : Nat) (t : PTrial) (c : SHCfg) (hv : c.Valid)
    (hr : NoNanRungs trials) :
    C16SkelGen.skelPrune crc ⟨.maximize, trials⟩ n t (.sh c) =
      C16SkelGen.skelPrune crc ⟨.minimize, trials.map negT⟩ n (negT t) (.sh c) :=
  gen_prune_mirror crc trials n t (.sh c) hv hr

theorem gen_prune_mirror_hyperband (crc : Nat → Nat) (trials : List PTrial) (n : Nat) (t : PTrial) (c : HBCfg) (hv : c.Valid)
    (hr : NoNanRungs trials) :
    C16SkelGen.skelPrune crc ⟨.maximize, trials⟩ n t (.hyperband c) =
      C16SkelGen.skelPrune crc ⟨.minimize, trials.map negT⟩ n (negT t) (.hyperband c) :=
  gen_prune_mirror crc trials n t (.hyperband c) hv hr

theorem gen_prune_mirror_patient (crc : Nat → Nat) (trials : List PTrial) (n : Nat) (t : PTrial) (w : Pruner) (k : Nat) (dl : Rat)
    (hv : C16SkelGen.PrunerValid w) (hr : NoNanRungs trials) :
    C16SkelGen.skelPrune crc ⟨.maximize, trials⟩ n t (.patient w k dl) =
      C16SkelGen.skelPrune crc ⟨.minimize, trials.map negT⟩ n (negT t) (.patient (mirrorP w) k dl) :=
  gen_prune_mirror crc trials n t (.patient w k dl) hv hr

/-- non-vacuity: the interpreted skeletons on a mirrored pair (median prunes in both runs) -/
example :
    C16SkelGen.skelPrune (fun _ => 0) ⟨.maximize, [⟨.complete, [(0, .fin 1)], []⟩, ⟨.complete, [(0, .fin 3)], []⟩]⟩ 2
      ⟨.running, [(0, .fin 0)], []⟩ (Pruner.median 0 0 1 1) = some (.b true) ∧
    C16SkelGen.skelPrune (fun _ => 0) ⟨.minimize, [⟨.complete, [(0, .fin 1)], []⟩, ⟨.complete, [(0, .fin 3)], []⟩].map negT⟩ 2
      (negT ⟨.running, [(0, .fin 0)], []⟩) (Pruner.median 0 0 1 1) = some (.b true) := by decide +kernel

/-- **`default_gamma(x) = min(⌈x/10⌉, 25)`, about `defaultGamma` itself**: `defaultGamma x` is at most `k` exactly when
`k ≥ 25` or `x ≤ 10·k`; in particular below the cap it is the least `k` with `x/10 ≤ k`. -/
theorem default_gamma_is_ceil (x k : Nat) : TpeSplit.defaultGamma x ≤ k ↔ (25 ≤ k ∨ x ≤ 10 * k) := by
  unfold TpeSplit.defaultGamma; omega

theorem default_gamma_eq_ceil_below_cap (x : Nat) (h : x ≤ 250) :
    10 * TpeSplit.defaultGamma x < x + 10 ∧ x ≤ 10 * TpeSplit.defaultGamma x := by
  unfold TpeSplit.defaultGamma; omega

theorem default_gamma_capped (x : Nat) (h : 240 < x) : TpeSplit.defaultGamma x = 25 := by
  unfold TpeSplit.defaultGamma; omega

example : TpeSplit.defaultGamma 31 = 4 ∧ (TpeSplit.defaultGamma 31 ≤ 3 ↔ False) ∧ TpeSplit.defaultGamma 241 = 25 ∧ TpeSplit.defaultGamma 240 = 24 := by
  decide

section kernels
open OptunaVerif.Hypervolume OptunaVerif.Rank OptunaVerif.Hssp

/-- a lattice coordinate (the C15 models are over integer points; a non-integral or infinite value has none) -/
def toInt? : XVal → Option Int
  | .fin q => if q.den = 1 then some q.num else none
  | _ => none

def toPt? : List XVal → Option Pt
  | [] => some []
  | v :: t => match toInt? v, toPt? t with
    | some a, some r => some (a :: r)
    | _, _ => none

def toPts? : List (List XVal) → Option (List Pt)
  | [] => some []
  | r :: t => match toPt? r, toPts? t with
    | some a, some rest => some (a :: rest)
    | _, _ => none

theorem toPts?_length (rows : List (List XVal)) (S : List Pt) (h : toPts? rows = some S) : S.length = rows.length := by
  fun_induction toPts? rows generalizing S with
  | case1 => cases h; rfl
  | case2 r t a rest h1 h2 ih => cases h; simp [ih rest h1]
  | case3 => cases h

/-- **the ranks `_calculate_nondomination_rank(S, n_below)` hands out are contiguous from 0** (from
`C15.rank_n_below_spec` for several objectives, `C15.rank_eq_peeling` for one) -/
theorem calcRank_contiguous (d : Nat) (S : List Pt) (hS : ∀ q ∈ S, q.length = d) (nb : Option Int) :
    ∀ r ∈ calcRank d S nb, ∀ r' < r, r' ∈ calcRank d S nb := by
  intro r hr r' hlt
  unfold calcRank at hr ⊢
  obtain ⟨p, hp, rfl⟩ := List.mem_map.mp hr
  by_cases ht : trivialCase S nb = true
  · simp [rankFn, ht] at hlt
  have ht' : trivialCase S nb = false := by simpa using ht
  by_cases h1 : d = 1
  · -- one objective: the rank is the index among the unique sorted values, a full peeling
    subst h1
    have hne : S.isEmpty = false := by
      cases hS' : S.isEmpty with
      | false => rfl
      | true => simp [trivialCase, hS'] at ht'
    have heq : ∀ q, rankFn 1 S nb q = rankFn 1 S none q := by
      intro q
      cases nb with
      | none => rfl
      | some n =>
        have hn : ¬ n ≤ 0 := by simpa [trivialCase, hne] using ht'
        simp [rankFn, trivialCase, hne, hn]
    have hpeel := C15.rank_eq_peeling 1 S hS
    obtain ⟨p', hp', hr'⟩ := peeling_levels_nonempty 1 S hS (isPeelingOn_iff_at.1 (isPeeling_iff.1 hpeel))
      p hp r' (Nat.zero_le _) trivial (by rw [← heq]; exact hlt)
    exact List.mem_map.mpr ⟨p', hp', by rw [heq]; exact hr'⟩
  · obtain ⟨K, hup, _, _⟩ := C15.rank_n_below_spec d S hS nb h1 ht'
    have hK := hup.1 p hp
    obtain ⟨p', hp', hr'⟩ := peeling_levels_nonempty d S hS (isPeelingUpTo_iff.1 hup).2 p hp r' (Nat.zero_le _) (by omega) hlt
    exact List.mem_map.mpr ⟨p', hp', hr'⟩

/-- the rank kernel of C15 on a loss matrix: `_fast_non_domination_rank(lvals, n_below=n)` (no penalty) on lattice
rows of equal length; anything else (not the C15 model's domain) gets rank 0 -/
def rankC15 (rows : List (List XVal)) (n : Nat) : List Nat :=
  match toPts? rows with
  | some S =>
    if ∀ q ∈ S, q.length = (rows.headD []).length then (fastRank (rows.headD []).length S none (some n)).getD []
    else rows.map (fun _ => 0)
  | none => rows.map (fun _ => 0)

/-- the HSSP kernel of C15: `_solve_hssp(rank_i_lvals, rank_i_indices, subset_size, ref)` = the selected POSITIONS of
`Hssp.solveHssp`, relabelled by `rank_i_indices`; `ref` is any reference point the rows weakly dominate (the real
`_get_reference_point` is one) -/
def hsspC15 (ref : List Pt → Pt) (rows : List (List XVal)) (idx : List Nat) (k : Nat) : List Nat :=
  match toPts? rows with
  | some V =>
    if V.all (fun p => allLe p (ref V)) ∧ V.length = idx.length then (solveHssp V k (ref V) true).map (fun i => idx.getD i 0)
    else idx.take k
  | none => idx.take k

def kernelsC15 (ref : List Pt → Pt) : TpeSplit.Kernels := ⟨rankC15, hsspC15 ref⟩

theorem zeros_contiguous (rows : List (List XVal)) : ∀ r ∈ rows.map (fun _ => (0 : Nat)), ∀ r' < r, r' ∈ rows.map (fun _ => (0 : Nat)) := by
  intro r hr r' hlt
  obtain ⟨_, _, rfl⟩ := List.mem_map.mp hr
  omega

/-- **`KernelsOk` holds of the C15 hand models of the two kernels** — `Rank.fastRank` (one rank per row, contiguous
from 0: `C15.rank_n_below_spec`, `C15.rank_eq_peeling`) and `Hssp.solveHssp` (`k` distinct positions:
`C15.hssp_returns_k_distinct_members`). -/
theorem kernels_ok_c15 (ref : List Pt → Pt) : C13Tpe.KernelsOk (kernelsC15 ref) where
  rank_length := by
    intro rows n
    show (rankC15 rows n).length = rows.length
    fun_cases rankC15 rows n with
    | case1 S h hS =>
      have hl := toPts?_length rows S h
      unfold fastRank
      by_cases he : S.isEmpty = true
      · have : S = [] := List.isEmpty_iff.mp he
        subst this; simp at hl ⊢; omega
      · simp [he, calcRank, hl]
    | case2 | case3 => simp
  rank_contiguous := by
    intro rows n
    show ∀ r ∈ rankC15 rows n, ∀ r' < r, r' ∈ rankC15 rows n
    fun_cases rankC15 rows n with
    | case1 S h hS =>
      unfold fastRank
      by_cases he : S.isEmpty = true
      · simp [he]
      · simp only [he, Bool.false_eq_true, if_false, Option.getD_some]
        exact calcRank_contiguous _ S hS _
    | case2 | case3 => exact zeros_contiguous rows
  hssp_ok := by
    intro rows idx k hnd hk
    show (hsspC15 ref rows idx k).Nodup ∧ (∀ i ∈ hsspC15 ref rows idx k, i ∈ idx) ∧ (hsspC15 ref rows idx k).length = k
    fun_cases hsspC15 ref rows idx k with
    | case1 V h hc =>
      obtain ⟨hle0, hlen⟩ := hc
      have hle : ∀ p ∈ V, Le p (ref V) := fun p hp => (allLe_iff p (ref V)).mp (List.all_eq_true.mp hle0 p hp)
      obtain ⟨h1, h2, h3⟩ := C15.hssp_returns_k_distinct_members V (ref V) hle k (by omega) true
      refine ⟨?_, ?_, by simp [h1]⟩
      · apply List.Nodup.map_on _ h2
        intro a ha b hb hab
        have ha' : a < idx.length := by have := h3 a ha; omega
        have hb' : b < idx.length := by have := h3 b hb; omega
        simp only [List.getD_eq_getElem?_getD, List.getElem?_eq_getElem ha', List.getElem?_eq_getElem hb', Option.getD_some] at hab
        exact (List.Nodup.getElem_inj_iff hnd).mp hab
      · intro i hi
        obtain ⟨a, ha, rfl⟩ := List.mem_map.mp hi
        have ha' : a < idx.length := by have := h3 a ha; omega
        simp [List.getD_eq_getElem?_getD, List.getElem?_eq_getElem ha']
    | case2 | case3 =>
      -- outside the C15 model's domain the kernel answers the first `k` indices
      exact ⟨(List.take_sublist k idx).nodup hnd, fun i hi => List.mem_of_mem_take hi, by simp; omega⟩

/-- **TPE's split with the C15 kernels: sizes exact** (the direction mirror is `split_direction_mirror_multi_c15` below), no kernel
hypothesis left; the kernels are the C15 models on lattice rows only (`rankC15`, `hsspC15`). -/
theorem split_sizes_c15 (ref : List Pt → Pt) (dirs : List Direction.Dir) (ce : Bool) (ts : List TpeSplit.Trial) (nBelow : Nat)
    (h : C13Tpe.NoBad ce ts) :
    (TpeSplit.splitTrials (kernelsC15 ref) dirs ce ts nBelow).1.length = min nBelow (TpeSplit.nFinished ts) :=
  C13Tpe.split_sizes_of_kernels _ (kernels_ok_c15 ref) dirs ce ts nBelow h

theorem split_direction_mirror_multi_c15 (ref : List Pt → Pt) (mask : List Bool) (dirs : List Direction.Dir) (ce : Bool)
    (ts : List TpeSplit.Trial) (nBelow : Nat) (hd : 1 < dirs.length) (hm : mask.length = dirs.length)
    (hnd : ∀ t ∈ TpeSplit.ofClass ce .pruned ts, TpeSplit.needsDirection t = false) :
    TpeSplit.splitTrials (kernelsC15 ref) (Direction.flipDirs mask dirs) ce (ts.map (TpeSplit.flipT mask)) nBelow =
      ((TpeSplit.splitTrials (kernelsC15 ref) dirs ce ts nBelow).1.map (TpeSplit.flipT mask),
       (TpeSplit.splitTrials (kernelsC15 ref) dirs ce ts nBelow).2.map (TpeSplit.flipT mask)) :=
  C13Tpe.split_direction_mirror_multi (kernelsC15 ref) mask dirs ce ts nBelow hd hm hnd

/-- non-vacuity: the C15 kernels at work on a two-objective study (ranks 0,1,1,2 with `n_below = 2`: trial 0 below by rank,
one of the two rank-1 trials by HSSP) -/
example :
    (TpeSplit.splitTrials (kernelsC15 (fun _ => [10, 10])) [.minimize, .minimize] false
      [⟨0, .complete, [.fin 0, .fin 0], [], none⟩, ⟨1, .complete, [.fin 1, .fin 3], [], none⟩, ⟨2, .complete, [.fin 3, .fin 1], [], none⟩,
       ⟨3, .complete, [.fin 4, .fin 4], [], none⟩] 2).1.map (·.number) = [0, 1] ∧
    rankC15 [[.fin 0, .fin 0], [.fin 1, .fin 3], [.fin 3, .fin 1], [.fin 4, .fin 4]] 2 = [0, 1, 1, 2] ∧
    hsspC15 (fun _ => [10, 10]) [[.fin 1, .fin 3], [.fin 3, .fin 1], [.fin 4, .fin 4]] [1, 2, 3] 1 = [1] := by
  decide +kernel

def ratPt? (r : List Rat) : Option Pt := toPt? (r.map XVal.fin)
def ratPts? (m : List (List Rat)) : Option (List Pt) := toPts? (m.map (fun r => r.map XVal.fin))

/-- **non-domination ranks (`Rank.fastRank` on the loss matrix) are the same in the two runs**, any subset of objectives flipped -/
theorem fast_rank_symmetric_c15 (d : Nat) (nBelow : Option Nat) (mask : List Bool) (dirs : List Direction.Dir)
    (rows : List (List Rat)) (h1 : mask.length = dirs.length) :
    (ratPts? (Direction.lossMatrix (Direction.flipDirs mask dirs) (rows.map (Direction.flipVals mask)))).bind
        (fun S => fastRank d S none nBelow) =
      (ratPts? (Direction.lossMatrix dirs rows)).bind (fun S => fastRank d S none nBelow) :=
  C13.normalised_component_symmetric (fun M => (ratPts? M).bind (fun S => fastRank d S none nBelow)) mask dirs rows h1

/-- **the HSSP tie-break (`Hssp.solveHssp` on the loss rows) is the same in the two runs** -/
theorem solve_hssp_symmetric_c15 (k : Nat) (ref : List Pt → Pt) (fin : Bool) (mask : List Bool) (dirs : List Direction.Dir)
    (rows : List (List Rat)) (h1 : mask.length = dirs.length) :
    (ratPts? (Direction.lossMatrix (Direction.flipDirs mask dirs) (rows.map (Direction.flipVals mask)))).map
        (fun V => solveHssp V k (ref V) fin) =
      (ratPts? (Direction.lossMatrix dirs rows)).map (fun V => solveHssp V k (ref V) fin) :=
  C13.normalised_component_symmetric (fun M => (ratPts? M).map (fun V => solveHssp V k (ref V) fin)) mask dirs rows h1

example : (ratPts? (Direction.lossMatrix [.maximize, .minimize] [[1, 2], [3, 0]])).bind (fun S => fastRank 2 S none none) = some [1, 0] ∧
    (ratPts? (Direction.lossMatrix [.minimize, .minimize] [[-1, 2], [-3, 0]])).bind (fun S => fastRank 2 S none none) = some [1, 0] := by
  decide +kernel

end kernels

end OptunaVerif.C13Bridge
